import LP.Proofs.PauseFrame
/-
  C19 — Pause freezes confirmations and selection steps without side effects.
-/
namespace LP.Props.C19
open LP

/-- while paused, confirmations, filtering and base selection are rejected in every variant -/
theorem paused_rejects (hash : List Nat → List Nat) (s : State) (e : Env) (c : Call)
    (hp : s.paused = true) (hc : (∃ n, c = .confirm n) ∨ c = .filter ∨ c = .select) :
    ∃ err, step hash s e c = .error err :=
  gated_paused_rejected (by rcases hc with ⟨n, rfl⟩ | rfl | rfl <;> rfl) hp

/-- in v2 also the distribution step and claims are rejected while paused -/
theorem paused_rejects_v2 (hash : List Nat → List Nat) (s : State) (e : Env) (c : Call)
    (hv : s.variant = .guarV2) (hp : s.paused = true) (hc : c = .distribute ∨ c = .claim) :
    ∃ err, step hash s e c = .error err :=
  gated_paused_rejected (by rw [hv]; rcases hc with rfl | rfl <;> rfl) hp

/-- `pause` / `unpause` change nothing but the flag (they are not payable, so no value moves) -/
theorem pause_effect (hash : List Nat → List Nat) (s : State) (e : Env) (s' : State) (o : Out)
    (h : step hash s e .pause = .ok (s', o)) : s' = { s with paused := true } ∧ o.xfers = [] := by
  obtain ⟨rfl, rfl⟩ := step_pause_eq h
  exact ⟨rfl, rfl⟩

theorem unpause_effect (hash : List Nat → List Nat) (s : State) (e : Env) (s' : State) (o : Out)
    (h : step hash s e .unpause = .ok (s', o)) : s' = { s with paused := false } ∧ o.xfers = [] := by
  obtain ⟨rfl, rfl⟩ := step_unpause_eq h
  exact ⟨rfl, rfl⟩

/-- **after unpause the state is exactly the state before the pause**: a pause, any number of
    rejected calls, then an unpause, from a non-paused state `s`, end in `s` itself — every field,
    including a saved interrupted operation (`s.op`), ticket maps and balances.  Hence every later
    call behaves exactly as if the pause had never happened. -/
theorem pause_roundtrip (hash : List Nat → List Nat) (s : State) (e1 e2 : Env)
    (mid : List (Env × Call)) (s1 s2 : State) (o1 o2 : Out)
    (hnp : s.paused = false)
    (h1 : step hash s e1 .pause = .ok (s1, o1))
    (hmid : ∀ ec ∈ mid, ∃ err, step hash s1 ec.1 ec.2 = .error err)
    (h2 : step hash s1 e2 .unpause = .ok (s2, o2)) :
    run hash s ((e1, Call.pause) :: mid ++ [(e2, Call.unpause)]) = s := by
  rw [List.cons_append, run_cons_ok h1, C17.run_append, run_all_rejected hash s1 mid hmid,
    run_cons_ok h2, (step_unpause_eq h2).1, (step_pause_eq h1).1]
  exact (congrArg s.setP hnp).symm.trans s.setP_self

/-- non-vacuity: pausing a deployed contract and confirming is rejected -/
example : ∃ s : State, s.paused = true ∧ ∃ err, step id s { caller := 7, round := 6, egld := 20 } (.confirm 2) = .error err := by
  refine ⟨{ variant := .base, owner := 1, lpTok := 1, perTicket := 1, payTok := .egld, price := 10,
            nrWinning := 1, cfg := ⟨5, 10, 15⟩, flags := {}, support := 1, deposited := true, paused := true }, rfl, _, rfl⟩

end LP.Props.C19

#print axioms LP.Props.C19.paused_rejects
#print axioms LP.Props.C19.paused_rejects_v2
#print axioms LP.Props.C19.pause_effect
#print axioms LP.Props.C19.unpause_effect
#print axioms LP.Props.C19.pause_roundtrip
