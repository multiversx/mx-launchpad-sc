import LP.Proofs.ZeroAllocV1
import LP.Props.C18reach
/-
  C01 and the C02/C03/C11/C12 headline theorems for `Variant.migration` / `Variant.lockedGuar`
  (`v1_Fam v`) with zero-size allocation entries allowed: `v1_ReachZ` / `v1_ReachZA`
  (LP/Proofs/ZeroAllocV1.lean) are `v1_Reach` / `v1_ReachA` without the premise `v1_CallOK c`, so
  an `addTicketsV1` entry may be `(a, 0, 0, m)`.  `EnvOK` is kept.

  What the model does with `(a, 0, 0, m)` (`minConfirmed > 0` is enforced at deployment, so
  `staking = 0` never qualifies for the staking guarantee):
    * `a` gets the empty range `[last+1, last]`, a zero-size batch at `last+1` (overwritten by the
      next allocation or dangling above `lastTicketId`) and the record
      `uts a = {a := 0, b := 0, c := 0, d := if m then 1 else 0}`;
    * with `m = true`, `a` also enters the whitelist and one reserve ticket moves (`nrWinning - 1`,
      `totalGuaranteed + 1`): a GHOST GUARANTEE.  Under `v1_CallOK` a live record belongs to the
      holder of a non-empty range, so erasure (`ZSim`) alone cannot work before the filter;
    * `a` can never confirm (`LP.Props.C01zero.empty_range_cannot_confirm`); `blacklist [a]` parks
      the record in `blUts` and returns the reserve ticket, `unblacklist [a]` (migration) restores
      both; the filter never visits `a`, its stale empty range survives;
    * `distribute` pops `a`; `calcV1` qualifies the ghost (`0 ≥ staking + energy = 0`), the top-up
      over the empty range marks nothing and the whole guarantee becomes leftover
      (`z_processGuaranteed`), re-drawn among the real tickets;
    * in the claim phase `a` may `claim` once; nothing is paid (`z_claim_stutter`).

  Method: `zv_Inv T0 s r` holds in every `v1_ReachZA` state (`simulation`).
    * Before the first `filter` call (`zv_PA`): the shadow `zv_sh s U BU N TG` — `s` with empty
      ranges / zero-size batches erased and an EMPTY guarantee bookkeeping — satisfies `v1_WF` and
      takes `v1_CallOK` steps (`addTicketsV1 (zv_lst l)`: zero-size entries dropped, guarantees
      stripped; `blacklist` / `unblacklist` restricted to holders of non-empty ranges); the reserve
      part is `GuarInvX s` (C12) on the real state plus `nrWinning + totalGuaranteed = T0`.
    * Afterwards: `s` is `ZSim`-related (empty ranges / zero-size batches erased, every other field
      equal) to some `z` with `v1_WF` that takes the same step as `s`, except that a claim by an
      empty-range address is matched by no step.
  With ghosts `z` is in general not a `v1_Reach` state (whitelisted without allocation history), but
  `v1_WF` is all that the theorems of LP/Props/C01reachV1.lean rest on.
-/
namespace LP.Props.C01zeroV1
open LP LP.FY LP.Props.C01reachV1

theorem simulation (hash : List Nat → List Nat) (v : Variant) (hv : v1_Fam v) (a0 : InitArgs)
    (s : State) (r : Nat) (h : v1_ReachZA hash v a0 s r) : zv_Inv a0.nrWinning s r :=
  zv_sim hv h

theorem simulation_before_filter (hash : List Nat → List Nat) (v : Variant) (hv : v1_Fam v)
    (a0 : InitArgs) (s : State) (r : Nat) (h : v1_ReachZA hash v a0 s r)
    (hns : s.flags.started = false) :
    (∃ U BU N TG, v1_WF a0.nrWinning (zv_sh s U BU N TG) r) ∧ GuarInvX s ∧
    s.nrWinning + s.totalGuaranteed = a0.nrWinning := by
  rcases zv_sim hv h with h1 | ⟨h1, _⟩
  · obtain ⟨U, BU, N, TG, hwf, _⟩ := h1.sh
    exact ⟨⟨U, BU, N, TG, hwf⟩, h1.gx, h1.sum⟩
  · rw [hns] at h1; cases h1

theorem simulation_after_filter (hash : List Nat → List Nat) (v : Variant) (hv : v1_Fam v)
    (a0 : InitArgs) (s : State) (r : Nat) (h : v1_ReachZA hash v a0 s r)
    (hst : s.flags.started = true) : ∃ z, v1_WF a0.nrWinning z r ∧ ZSim s z := by
  rcases zv_sim hv h with h1 | ⟨_, z, hz, hsim⟩
  · rw [h1.ns] at hst; cases hst
  · exact ⟨z, hz, hsim⟩

theorem reach_is_reachZ (hash : List Nat → List Nat) (v : Variant) (s : State) (r : Nat)
    (h : v1_Reach hash v s r) : v1_ReachZ hash v s r := h.toZ

/-- **C01 for migration / lockedGuar, zero-size entries allowed** (statement of `C01_solvent_v1`) -/
theorem C01_solvent_ZV1 (hash : List Nat → List Nat) (v : Variant) (hv : v1_Fam v) (s : State)
    (r : Nat) (h : v1_ReachZ hash v s r) :
    ∃ L : List Nat, Covers s L ∧ (¬ AllDone s → PayEqPre s L) ∧ (AllDone s → PayEqPost s L) := by
  obtain ⟨a0, h⟩ := v1_ReachZ_iff.mp h
  obtain ⟨L, h1, h2, h3⟩ := zv_Inv_ledger (zv_sim hv h)
  exact ⟨L, h1, h2, fun hd => (h3 hd).1⟩

theorem C01_solvent_migration_Z (hash : List Nat → List Nat) (s : State) (r : Nat)
    (h : v1_ReachZ hash .migration s r) :
    ∃ L : List Nat, Covers s L ∧ (¬ AllDone s → PayEqPre s L) ∧ (AllDone s → PayEqPost s L) :=
  C01_solvent_ZV1 hash .migration (Or.inl rfl) s r h

theorem C01_solvent_lockedGuar_Z (hash : List Nat → List Nat) (s : State) (r : Nat)
    (h : v1_ReachZ hash .lockedGuar s r) :
    ∃ L : List Nat, Covers s L ∧ (¬ AllDone s → PayEqPre s L) ∧ (AllDone s → PayEqPost s L) :=
  C01_solvent_ZV1 hash .lockedGuar (Or.inr rfl) s r h

/-- after completion; an empty range has `confirmed = 0`, and only the holders of NON-EMPTY ranges
    are in the covering list -/
theorem three_counts_ZV1 (hash : List Nat → List Nat) (v : Variant) (hv : v1_Fam v) (s : State)
    (r : Nat) (h : v1_ReachZ hash v s r) (hd : AllDone s) :
    ∃ L : List Nat, Covers s L ∧ PayEqPost s L ∧ sumOver (winCountOf s) L = s.nrWinning ∧
      (∀ a, winCountOf s a ≤ s.confirmed a) ∧
      (∀ a rg, s.range a = some rg → rangeLen rg = s.confirmed a ∧ (rg.first ≤ rg.last → a ∈ L)) := by
  obtain ⟨a0, h⟩ := v1_ReachZ_iff.mp h
  obtain ⟨L, h1, _, h3⟩ := zv_Inv_ledger (zv_sim hv h)
  obtain ⟨k1, k2, k3, k4⟩ := h3 hd
  exact ⟨L, h1, k1, k2, k3, k4⟩

/-- **final winner count and guarantees honoured (v1), zero-size entries allowed**; conditional on
    the `distribute` call having completed (`ret = [0]`), as `final_winners_v1_partial`.  The ghost
    guarantees are re-drawn as leftovers, so `nrWinning = min (configured winners) (confirmed
    tickets)` still holds; the guaranteed minimum of a ghost is `min 1 0 = 0`. -/
theorem final_winners_ZV1_partial (hash : List Nat → List Nat) (v : Variant) (hv : v1_Fam v)
    (a0 : InitArgs) (s : State) (r : Nat) (h : v1_ReachZA hash v a0 s r) (e : Env) (s' : State)
    (o : Out) (hr : r ≤ e.round) (hok : EnvOK e)
    (hs : step hash s e .distribute = .ok (s', o)) (hret : o.ret = [0]) :
    AllDone s' ∧
    countTrue s'.status s'.lastTicketId = s'.nrWinning ∧
    s'.nrWinning = min a0.nrWinning s'.lastTicketId ∧
    s'.claimablePayment = s'.price * s'.nrWinning ∧
    (∀ t, s'.status t = true → 1 ≤ t ∧ t ≤ s'.lastTicketId) ∧
    (∀ t, s.status t = true → s'.status t = true) ∧
    (∀ u st, s'.uts u = some st →
      min (calcV1 st (s'.confirmed u) s'.minConfirmed).1 (s'.confirmed u) ≤ winCountOf s' u) := by
  obtain ⟨z, z', hz, hsim, hsim', hstep⟩ := zv_Inv_distribute (zv_sim hv h) hr hok hs
  obtain ⟨h1, h2, _, _, h5, h6, h7, h8, h9, h10⟩ := v1_distribute_completion hz.toInv hstep hret
  have hwc : ∀ a, winCountOf s' a = winCountOf z' a := fun a => hsim'.esim.winCountOf_eq a
  obtain ⟨R, B, K, C, rfl⟩ := hsim.shape'
  obtain ⟨R', B', K', C', rfl⟩ := hsim'.shape'
  refine ⟨⟨h1, h2⟩, h5, h6, h7, h8, h9, fun u st hu => ?_⟩
  rw [hwc u]
  exact h10 u st hu

theorem winners_bound_ZV1 (hash : List Nat → List Nat) (v : Variant) (hv : v1_Fam v) (a0 : InitArgs)
    (s : State) (r : Nat) (h : v1_ReachZA hash v a0 s r) (hsel : s.flags.selected = true)
    (hna : s.flags.additional = false) :
    s.nrWinning ≤ countTrue s.status s.lastTicketId ∧
    countTrue s.status s.lastTicketId ≤ min a0.nrWinning s.lastTicketId ∧
    (∀ t, s.status t = true → 1 ≤ t ∧ t ≤ s.lastTicketId) := by
  obtain ⟨z, hz, hsim⟩ := zv_Inv_selected (zv_sim hv h) hsel
  have hfl : z.flags = s.flags := hsim.fields.2.1
  have := v1_phase_winners_bound hz.phase (by rw [hfl]; exact hsel) (by rw [hfl]; exact hna)
  obtain ⟨R, B, K, C, rfl⟩ := hsim.shape'
  exact this

/-- **reserve conservation**, ghost guarantees included -/
theorem reserve_ZV1 (hash : List Nat → List Nat) (v : Variant) (hv : v1_Fam v) (a0 : InitArgs)
    (s : State) (r : Nat) (h : v1_ReachZA hash v a0 s r) :
    (s.flags.filtered = false → s.nrWinning + s.totalGuaranteed = a0.nrWinning) ∧
    (s.flags.additional = false → s.nrWinning + s.totalGuaranteed ≤ a0.nrWinning) :=
  zv_Inv_reserve (zv_sim hv h)

/-- **`LpCover` from the deposit on**; until the distribution completes the reserve is covered too -/
theorem lp_cover_ZV1 (hash : List Nat → List Nat) (v : Variant) (hv : v1_Fam v) (s : State)
    (r : Nat) (h : v1_ReachZ hash v s r) (hd : s.deposited = true) :
    LP.Props.C02.LpCover s ∧
    (s.flags.additional = false →
      s.perTicket * (s.nrWinning + s.totalGuaranteed) ≤ s.bal (.esdt s.lpTok) 0) := by
  obtain ⟨a0, h⟩ := v1_ReachZ_iff.mp h
  have hlp := zv_Inv_lp (zv_sim hv h) hd
  unfold v1_owed at hlp
  constructor
  · unfold LP.Props.C02.LpCover
    exact Nat.le_trans (Nat.mul_le_mul_left _ (Nat.le_add_right _ _)) hlp
  · intro hna
    rw [hna] at hlp
    simpa using hlp

/-! ### claims never starve -/

theorem owner_withdrawal_covered_ZV1 (hash : List Nat → List Nat) (v : Variant) (hv : v1_Fam v)
    (s : State) (r : Nat) (h : v1_ReachZ hash v s r) (hd : AllDone s) :
    s.claimablePayment ≤ s.bal s.payTok 0 := by
  obtain ⟨L, _, hpost, _⟩ := three_counts_ZV1 hash v hv s r h hd
  unfold PayEqPost at hpost
  omega

theorem claim_refund_covered_ZV1 (hash : List Nat → List Nat) (v : Variant) (hv : v1_Fam v)
    (s : State) (r : Nat) (h : v1_ReachZ hash v s r) (hd : AllDone s) (a : Nat) (rg : Range)
    (hr : s.range a = some rg) :
    s.claimablePayment + s.price * (s.confirmed a - winCountOf s a) ≤ s.bal s.payTok 0 := by
  obtain ⟨L, _, hpost, _, _, hrg⟩ := three_counts_ZV1 hash v hv s r h hd
  obtain ⟨hlen, hin⟩ := hrg a rg hr
  unfold PayEqPost at hpost
  by_cases hne : rg.first ≤ rg.last
  · have hle := rb_le_sumOver (refundDue s) L a (hin hne)
    have hdue : refundDue s a = s.price * (s.confirmed a - winCountOf s a) := by
      simp only [refundDue, hr]
    omega
  · have hc : s.confirmed a = 0 := by rw [← hlen]; unfold rangeLen; omega
    rw [hc]
    simp only [Nat.zero_sub, Nat.mul_zero, Nat.add_zero]
    omega

theorem winner_covered_ZV1 (hash : List Nat → List Nat) (v : Variant) (hv : v1_Fam v) (s : State)
    (r : Nat) (h : v1_ReachZ hash v s r) (hd : AllDone s) (hdep : s.deposited = true) (a : Nat) :
    s.perTicket * winCountOf s a ≤ s.bal (.esdt s.lpTok) 0 ∧ winCountOf s a ≤ s.nrWinning := by
  obtain ⟨L, hcov, _, hwin, hle, hrg⟩ := three_counts_ZV1 hash v hv s r h hd
  have hwn : winCountOf s a ≤ s.nrWinning := by
    by_cases hc : s.confirmed a = 0
    · have := hle a; omega
    · rw [← hwin]
      exact rb_le_sumOver (winCountOf s) L a (hcov.supp a hc)
  refine ⟨?_, hwn⟩
  have hc := (lp_cover_ZV1 hash v hv s r h hdep).1
  unfold LP.Props.C02.LpCover at hc
  exact Nat.le_trans (Nat.mul_le_mul_left _ hwn) hc

/-- **claims never starve** (after the deposit): in the claim stage a claim without call value by
    any address that holds a range — empty or not — and has not claimed yet is ACCEPTED.  `hdep`
    is needed because `v1_WF` does not record "no deposit ⇒ nothing confirmed";
    `LP.Props.C01zeroV1more.claim_never_starves_ZV1` proves that fact separately and drops `hdep`. -/
theorem claim_never_starves_ZV1_partial (hash : List Nat → List Nat) (v : Variant) (hv : v1_Fam v)
    (s : State) (r : Nat) (h : v1_ReachZ hash v s r) (hdep : s.deposited = true) (e : Env) (rg : Range)
    (he1 : e.egld = 0) (he2 : e.esdts = []) (hst : s.stage e = .claim)
    (hcl : s.claimed e.caller = false) (hrg : s.range e.caller = some rg) :
    ∃ x, step hash s e .claim = .ok x := by
  obtain ⟨⟨hsel, hadd⟩, _⟩ := stage_claim_iff.mp hst
  have hd : AllDone s := ⟨hsel, hadd⟩
  obtain ⟨a0, h0⟩ := v1_ReachZ_iff.mp h
  obtain ⟨z, hz, hsim⟩ := zv_Inv_selected (zv_sim hv h0) hsel
  have hfam : v1_Fam s.variant := zv_fam_of_sim hz hsim
  have htok : s.payTok ≠ .esdt s.lpTok := by have := hz.tokNe; rw [hsim.rest] at this; exact this
  have hpct : s.lockPct ≤ 10000 := by have := hz.static.2; rw [hsim.rest] at this; exact this
  obtain ⟨L, _, _, _, hle, _⟩ := three_counts_ZV1 hash v hv s r h hd
  have hcov := claim_refund_covered_ZV1 hash v hv s r h hd e.caller rg hrg
  obtain ⟨hw1, hw2⟩ := winner_covered_ZV1 hash v hv s r h hd hdep e.caller
  have hpay : s.price * (s.confirmed e.caller - winCountOf s e.caller) ≤ s.bal s.payTok 0 := by omega
  obtain ⟨f1, f2, _⟩ := v1_fam_flags hfam
  exact claim_accepts hash s e rg f1 hpct
    (claimAccepts_of_cover he1 he2 hst hcl hrg htok hw2 (hle e.caller) hpay hw1)
    (fun hn => by rw [f2] at hn; cases hn)

/-! ### non-vacuity: a migration launch with a ghost guarantee, from allocation to the ghost's claim -/

theorem ReachZA.callOk {hash : List Nat → List Nat} {v : Variant} {a0 : InitArgs} {s : State} {r : Nat}
    (e : Env) (c : Call) (h : v1_ReachZA hash v a0 s r) (hr : r ≤ e.round) (hok : EnvOK e)
    (hs : isOk (step hash s e c) = true) :
    v1_ReachZA hash v a0 (stOf (step hash s e c) s) e.round :=
  let ⟨o, ho⟩ := stOf_spec hs s
  .call s r e c _ o h hr hok ho

def outOf (x : Res (State × Out)) : Out :=
  match x with
  | .ok (_, o) => o
  | .error _ => {}

theorem step_ok_of_isOk {x : Res (State × Out)} (d : State) (h : isOk x = true) :
    x = .ok (stOf x d, outOf x) := by
  cases x with
  | error err => cases h
  | ok q => rfl

/-- 7: zero-size entry WITH migration guarantee (ghost); 8: three tickets, staking guarantee;
    9: zero-size entry without guarantee -/
def gAlloc : List (Nat × Nat × Nat × Bool) := [(7, 0, 0, true), (8, 2, 1, false), (9, 0, 0, false)]

def g1 : State := stOf (step id ex0 { caller := 1, round := 1 } (.addTicketsV1 gAlloc)) ex0
def g2 : State := stOf (step id g1 { caller := 1, round := 2, esdts := [⟨.esdt 1, 0, 20⟩] } .deposit) g1
def g3 : State := stOf (step id g2 { caller := 8, round := 5, egld := 30 } (.confirm 3)) g2
def g3b : State := stOf (step id g3 { caller := 1, round := 6 } (.blacklist [9])) g3
def g4 : State := stOf (step id g3b { caller := 9, round := 10 } .filter) g3b
def g5 : State := stOf (step id g4 { caller := 9, round := 11 } .select) g4
def g6 : State := stOf (step id g5 { caller := 9, round := 12 } .distribute) g5
def g7 : State := stOf (step id g6 { caller := 7, round := 15 } .claim) g6

theorem g2_ok : isOk (step id g1 { caller := 1, round := 2, esdts := [⟨.esdt 1, 0, 20⟩] } .deposit) = true := by
  decide +kernel
theorem g6_ok : isOk (step id g5 { caller := 9, round := 12 } .distribute) = true := by decide +kernel
theorem g7_ok : isOk (step id g6 { caller := 7, round := 15 } .claim) = true := by decide +kernel

theorem g1_reachZ : v1_ReachZA id .migration exArgs g1 1 :=
  ReachZA.callOk { caller := 1, round := 1 } (.addTicketsV1 gAlloc) ex0_reach.toZ
    (by decide) (Or.inl rfl) (by decide +kernel)

/-- the ghost: empty range, whitelisted, one reserve ticket moved -/
example : g1.range 7 = some ⟨1, 0⟩ ∧ g1.range 8 = some ⟨1, 3⟩ ∧ g1.range 9 = some ⟨4, 3⟩ ∧
    g1.lastTicketId = 3 ∧ g1.whitelist = [7, 8] ∧ g1.nrWinning = 2 ∧ g1.totalGuaranteed = 2 ∧
    g1.uts 7 = some { a := 0, b := 0, c := 0, d := 1 } ∧ g1.uts 9 = some {} := by
  decide +kernel

/-- `g1` is a `v1_ReachZ` state but not a `v1_Reach` state: those have no empty range -/
theorem g1_not_reach (hash : List Nat → List Nat) (r : Nat) : ¬ v1_Reach hash .migration g1 r := by
  intro h
  have := LP.Props.C18reach.ranges_bounded hash g1 r (.v1 (Or.inl rfl) h) 7 ⟨1, 0⟩
    (by decide +kernel)
  exact absurd this.2.1 (by decide)

theorem g5_reachZ : v1_ReachZA id .migration exArgs g5 11 :=
  ReachZA.callOk { caller := 9, round := 11 } .select
    (ReachZA.callOk { caller := 9, round := 10 } .filter
      (ReachZA.callOk { caller := 1, round := 6 } (.blacklist [9])
        (ReachZA.callOk { caller := 8, round := 5, egld := 30 } (.confirm 3)
          (ReachZA.callOk _ _ g1_reachZ (by decide) (Or.inl rfl) g2_ok)
          (by decide) (Or.inr rfl) (by decide +kernel))
        (by decide) (Or.inl rfl) (by decide +kernel))
      (by decide) (Or.inl rfl) (by decide +kernel))
    (by decide) (Or.inl rfl) (by decide +kernel)

theorem g6_reachZ : v1_ReachZA id .migration exArgs g6 12 :=
  ReachZA.callOk _ _ g5_reachZ (by decide) (Or.inl rfl) g6_ok

theorem g7_reachZ : v1_ReachZA id .migration exArgs g7 15 :=
  ReachZA.callOk _ _ g6_reachZ (by decide) (Or.inl rfl) g7_ok

/-- the ghost survives the filter, is popped by `distribute`, its guarantee is re-drawn: all
    `min 4 3 = 3` confirmed tickets win; its claim pays nothing -/
example : g4.range 7 = some ⟨1, 0⟩ ∧ g4.whitelist = [7, 8] ∧ g4.nrWinning = 2 ∧
    g3b.blacklist 9 = true ∧ g4.range 9 = some ⟨4, 3⟩ ∧
    AllDone g6 ∧ g6.whitelist = [] ∧ g6.nrWinning = 3 ∧ g6.claimablePayment = 30 ∧
    g7.range 7 = none ∧ g7.claimed 7 = true ∧ g7.bal .egld 0 = g6.bal .egld 0 ∧
    g7.bal (.esdt 1) 0 = g6.bal (.esdt 1) 0 := by
  unfold AllDone; decide +kernel

example : ∃ L : List Nat, Covers g6 L ∧ PayEqPost g6 L :=
  let ⟨L, h1, _, h3⟩ := C01_solvent_migration_Z id g6 12 (v1_ReachZ_iff.mpr ⟨_, g6_reachZ⟩)
  ⟨L, h1, h3 (by unfold AllDone; decide +kernel)⟩

example : g6.nrWinning = min exArgs.nrWinning g6.lastTicketId :=
  (final_winners_ZV1_partial id .migration (Or.inl rfl) exArgs g5 11 g5_reachZ
    { caller := 9, round := 12 } g6 _ (by decide) (Or.inl rfl)
    (step_ok_of_isOk g5 g6_ok) (by decide +kernel)).2.2.1

example : ∃ x, step id g6 { caller := 7, round := 15 } .claim = .ok x :=
  claim_never_starves_ZV1_partial id .migration (Or.inl rfl) g6 12 (v1_ReachZ_iff.mpr ⟨_, g6_reachZ⟩)
    (by decide +kernel) { caller := 7, round := 15 } ⟨1, 0⟩ rfl rfl (by decide +kernel) (by decide +kernel)
    (by decide +kernel)

end LP.Props.C01zeroV1

#print axioms LP.Props.C01zeroV1.simulation
#print axioms LP.Props.C01zeroV1.simulation_before_filter
#print axioms LP.Props.C01zeroV1.simulation_after_filter
#print axioms LP.Props.C01zeroV1.reach_is_reachZ
#print axioms LP.Props.C01zeroV1.C01_solvent_ZV1
#print axioms LP.Props.C01zeroV1.C01_solvent_migration_Z
#print axioms LP.Props.C01zeroV1.C01_solvent_lockedGuar_Z
#print axioms LP.Props.C01zeroV1.three_counts_ZV1
#print axioms LP.Props.C01zeroV1.final_winners_ZV1_partial
#print axioms LP.Props.C01zeroV1.winners_bound_ZV1
#print axioms LP.Props.C01zeroV1.reserve_ZV1
#print axioms LP.Props.C01zeroV1.lp_cover_ZV1
#print axioms LP.Props.C01zeroV1.owner_withdrawal_covered_ZV1
#print axioms LP.Props.C01zeroV1.claim_refund_covered_ZV1
#print axioms LP.Props.C01zeroV1.winner_covered_ZV1
#print axioms LP.Props.C01zeroV1.claim_never_starves_ZV1_partial
#print axioms LP.Props.C01zeroV1.ReachZA.callOk
#print axioms LP.Props.C01zeroV1.g1_reachZ
#print axioms LP.Props.C01zeroV1.g1_not_reach
#print axioms LP.Props.C01zeroV1.g6_reachZ
#print axioms LP.Props.C01zeroV1.g7_reachZ
