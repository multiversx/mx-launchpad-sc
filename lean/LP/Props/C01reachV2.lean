import LP.Proofs.ReachV2Claim
import LP.Proofs.ReachOf
import LP.Proofs.ReachOfLp
import LP.Props.C01reach
/-
  C01 / C02 / C03 / C11 (reachable-state form) for `Variant.guarV2` — launchpad-guaranteed-tickets-v2.

  `Reach hash .guarV2 s r` (LP/Proofs/ReachPlain.lean): `s` is reachable from some deployment of
  the v2 contract by accepted transactions with non-decreasing rounds.  Every transaction carries
  EGLD or ESDT but not both (`EnvOK`).  `CallOK` puts NO condition on `addTicketsV2` (v2 skips
  zero-size entries itself); `distribute` calls may carry ANY budget: interrupted `filter`,
  `select` and `distribute` calls (in the top-up loop or in the leftover loop) are all covered.

  Payment-token solvency with its corollaries and the coverage of the launchpad-token side quote
  the theorems proved once for all contracts (`ReachOf.solvent`, … in LP/Proofs/ReachOf.lean)
  through `ReachOf.of_guarV2`.  What only this contract has is read off its invariant `WF2`
  (`reach_WF2`, LP/Proofs/ReachV2Claim.lean; `Reach.wf2`): the winner count at the completion of
  `distribute`, the guarantees (after and DURING the distribution), and the vesting ledger
  (`userTotal` / `userClaimed`).
-/
namespace LP.Props.C01reachV2
open LP LP.FY LP.Props.AllVariants

/-- **C01 for the v2 launchpad with guaranteed tickets**: in every reachable state — including the
    states in the middle of an interrupted `filter`, `select` or `distribute` — the contract holds,
    in the ticket-payment token, exactly the full payment of every confirmed ticket until the
    distribution step is complete (nothing moves the payment token during `distribute`), and
    afterwards exactly the owner's not-yet-withdrawn proceeds plus `price × (confirmed − winning)`
    for every participant who has not settled -/
theorem C01_solvent_guarV2 (hash : List Nat → List Nat) (s : State) (r : Nat)
    (h : Reach hash .guarV2 s r) :
    ∃ L : List Nat, Covers s L ∧ (¬ AllDone s → PayEqPre s L) ∧ (AllDone s → PayEqPost s L) :=
  (ReachOf.of_guarV2 h).solvent rfl

/-- after completion the holdings cover the owner's proceeds plus the refund of any participant
    who still has a range -/
theorem claim_refund_covered_guarV2 (hash : List Nat → List Nat) (s : State)
    (r : Nat) (h : Reach hash .guarV2 s r) (hd : AllDone s) (a : Nat) (rg : Range)
    (hr : s.range a = some rg) :
    s.claimablePayment + s.price * (s.confirmed a - winCountOf s a) ≤ s.bal s.payTok 0 :=
  (ReachOf.of_guarV2 h).refund_covered hd hr rfl

theorem owner_withdrawal_covered_guarV2 (hash : List Nat → List Nat) (s : State)
    (r : Nat) (h : Reach hash .guarV2 s r) (hd : AllDone s) :
    s.claimablePayment ≤ s.bal s.payTok 0 :=
  (ReachOf.of_guarV2 h).proceeds_le hd rfl

/-- once every participant has settled and the owner has withdrawn, no payment token is left -/
theorem all_settled_nothing_left_guarV2 (hash : List Nat → List Nat) (s : State)
    (r : Nat) (h : Reach hash .guarV2 s r) (hd : AllDone s) (hall : ∀ a, s.range a = none)
    (hcp : s.claimablePayment = 0) : s.bal s.payTok 0 = 0 :=
  (ReachOf.of_guarV2 h).nothing_left hd hall hcp rfl

/-- after completion: the winning tickets still held add up to `nrWinning`; nobody holds more
    winning than confirmed tickets; a range has exactly `confirmed` tickets -/
theorem three_counts_guarV2 (hash : List Nat → List Nat) (s : State) (r : Nat)
    (h : Reach hash .guarV2 s r) (hd : AllDone s) :
    ∃ L : List Nat, Covers s L ∧ PayEqPost s L ∧ sumOver (winCountOf s) L = s.nrWinning ∧
      (∀ a, winCountOf s a ≤ s.confirmed a) ∧
      (∀ a rg, s.range a = some rg → a ∈ L ∧ rangeLen rg = s.confirmed a) :=
  (ReachOf.of_guarV2 h).three_counts hd rfl

/-- until the filter completes, `nrWinning + totalGuaranteed` is the winners count configured at
    deployment; the reserve itself never exceeds it -/
theorem reserve_conserved_guarV2 (hash : List Nat → List Nat) (a0 : InitArgs) (s : State) (r : Nat)
    (h : ReachA hash .guarV2 a0 s r) :
    s.totalGuaranteed ≤ a0.nrWinning ∧
    (s.flags.filtered = false → s.nrWinning + s.totalGuaranteed = a0.nrWinning) :=
  ⟨(reach_WF2 h).tgLe, (reach_WF2 h).lpSide.res_guar rfl⟩

/-- **C03, final count**: at the call that completes `distribute` (fresh or resumed, whatever the
    budgets of the earlier calls) the number of winning flags equals the stored `nrWinning`, which
    is `min (nrWinning_f + totalGuaranteed) last` with `nrWinning_f = min (T0 − totalGuaranteed) last`
    the base winners after the filter — and this is `min T0 last`, `T0` the winners count
    configured at deployment; every flag lies in `1..last`; the proceeds are `price × nrWinning` -/
theorem final_winners_guarV2 (hash : List Nat → List Nat) (a0 : InitArgs) (s : State) (r : Nat)
    (h : ReachA hash .guarV2 a0 s r) (e : Env) (s' : State) (o : Out)
    (hs : step hash s e .distribute = .ok (s', o)) (hdone : s'.flags.additional = true) :
    countTrue s'.status s'.lastTicketId = s'.nrWinning ∧
    s'.nrWinning = min (min (a0.nrWinning - s'.totalGuaranteed) s'.lastTicketId + s'.totalGuaranteed)
      s'.lastTicketId ∧
    s'.nrWinning = min a0.nrWinning s'.lastTicketId ∧
    s'.claimablePayment = s'.price * s'.nrWinning ∧
    (∀ t, s'.status t = true → 1 ≤ t ∧ t ≤ s'.lastTicketId) ∧ AllDone s' := by
  have hwf := reach_WF2 h
  obtain ⟨hwf', _, hsel, hnrw, hl, htg, hfin⟩ := v2_distribute_full hwf hs
  obtain ⟨h1, h2, h3⟩ := hfin hdone
  have hle := hwf.tgLe
  have hF : PhF s'.gcore := v2_phase_F hwf'.phase hdone
  have hfl : ∀ t, s'.status t = true → 1 ≤ t ∧ t ≤ s'.lastTicketId := hF.flagsIn
  rw [hl, htg] at *
  exact ⟨h2, by omega, by omega, h3, hfl, hF.d.selected, hdone⟩

/-- **C11 end to end**: once all selection steps are complete, every participant `u` with a
    guarantee record (`uts u = some st`; the records are written only by allocation / blacklist /
    un-blacklist, all rejected from the winner-selection stage on, so this is the record at the
    start of the distribution) who has not settled yet (still has a range) holds at least
    `calcV2 …` = `min confirmed (guarantees whose threshold is met)` winning tickets; and no
    winning flag lies outside `1..lastTicketId` -/
theorem guarantee_honoured_guarV2 (hash : List Nat → List Nat) (s : State) (r : Nat)
    (h : Reach hash .guarV2 s r) (hd : AllDone s) :
    (∀ u st rg, s.uts u = some st → s.range u = some rg →
      (calcV2 st.infos (s.confirmed u)).1 ≤ winCountOf s u ∧
      min (s.confirmed u) (metG st.infos (s.confirmed u)) ≤ winCountOf s u) ∧
    (∀ t, s.status t = true → 1 ≤ t ∧ t ≤ s.lastTicketId) := by
  obtain ⟨T0, hwf, _⟩ := h.wf2
  have hF : PhF s.gcore := v2_phase_F hwf.phase hd.2
  refine ⟨fun u st rg hu hr => ?_, hF.flagsIn⟩
  have h1 := hF.hon u st rg hu hr
  rw [← calcV2_fst, winCountOf_some hr]
  exact ⟨h1, h1⟩

/-- C11 during an interrupted `distribute`: a participant whose guarantee has been processed (he
    has left the whitelist) already holds his guaranteed tickets -/
theorem guarantee_honoured_during_guarV2 (hash : List Nat → List Nat) (s : State) (r : Nat)
    (h : Reach hash .guarV2 s r) (hsel : s.flags.selected = true) (hadd : s.flags.additional = false)
    (u : Nat) (st : UTS) (rg : Range) (hu : s.uts u = some st) (hw : u ∉ s.whitelist)
    (hr : s.range u = some rg) :
    (calcV2 st.infos (s.confirmed u)).1 ≤ winCountOf s u := by
  obtain ⟨T0, hwf, _⟩ := h.wf2
  have hE := v2_phase_E hwf.phase hsel hadd
  obtain ⟨lo, off, add, hD, _⟩ := hE.dist
  rw [winCountOf_some hr]; exact hD.hon u st rg hu hw hr

/-- **C02, launchpad-token ledger with vesting** after the distribution: there is a
    duplicate-free list `L` containing everybody with a vesting record such that either
    (A, the owner has not withdrawn) `balance + Σ paid out = totalDeposited`, the recorded
    proceeds are `price × W` with `W × perTicket = perTicket × nrWinning + Σ userTotal ≤
    totalDeposited`, or (B, the owner has withdrawn) `totalDeposited = 0`, the proceeds are `0`,
    and `balance + Σ paid out = perTicket × nrWinning + Σ userTotal`;
    nobody has been paid more than his entitlement -/
theorem lp_ledger_guarV2 (hash : List Nat → List Nat) (s : State) (r : Nat)
    (h : Reach hash .guarV2 s r) (hd : AllDone s) :
    (∃ L : List Nat, L.Nodup ∧ (∀ a, a ∉ L → s.userTotal a = 0 ∧ s.userClaimed a = 0) ∧
      ((s.bal (.esdt s.lpTok) 0 + sumOver s.userClaimed L = s.totalDeposited ∧
        ∃ W, s.claimablePayment = s.price * W ∧
          W * s.perTicket = s.perTicket * s.nrWinning + sumOver s.userTotal L ∧
          W * s.perTicket ≤ s.totalDeposited) ∨
       (s.totalDeposited = 0 ∧ s.claimablePayment = 0 ∧
        s.bal (.esdt s.lpTok) 0 + sumOver s.userClaimed L
          = s.perTicket * s.nrWinning + sumOver s.userTotal L))) ∧
    (∀ a, s.userClaimed a ≤ s.userTotal a) ∧
    (∀ a, s.claimed a = false → s.userTotal a = 0) := by
  obtain ⟨T0, hwf, _⟩ := h.wf2
  have hp := hwf.lp.post hd.2
  exact ⟨hp.led, hp.le, hp.unclaimed⟩

/-- **every vested claim is covered**: after the distribution the launchpad-token balance covers
    ALL winning tickets not yet settled (`perTicket × nrWinning`) plus everything still owed to
    any settled participant `a` (`userTotal a − userClaimed a` bounds every instalment
    `claimable2` can compute) -/
theorem vested_claim_covered_guarV2 (hash : List Nat → List Nat) (s : State) (r : Nat)
    (h : Reach hash .guarV2 s r) (hd : AllDone s) (a : Nat) :
    s.perTicket * s.nrWinning + (s.userTotal a - s.userClaimed a) ≤ s.bal (.esdt s.lpTok) 0 :=
  Nat.le_trans (Nat.add_le_add_right (Nat.le_add_left _ _) _)
    ((ReachOf.of_guarV2 h).vested_claim_covered rfl hd a)

theorem unsettled_winner_covered_guarV2 (hash : List Nat → List Nat) (s : State) (r : Nat)
    (h : Reach hash .guarV2 s r) (hd : AllDone s) (a : Nat) (rg : Range) (hr : s.range a = some rg) :
    s.perTicket * winCountOf s a ≤ s.bal (.esdt s.lpTok) 0 :=
  (ReachOf.of_guarV2 h).unsettled_winner_covered rfl hd hr

/-- **the owner's surplus never includes a winner's share**: what `claimPaymentOwn` would send
    to the owner (`ownSurplus` = deposit − (proceeds / price) × perTicket, or nothing once
    `totalDeposited` is cleared) leaves the unsettled winners' tokens and everything still owed to
    any settled participant in the contract -/
theorem owner_surplus_safe_guarV2 (hash : List Nat → List Nat) (s : State) (r : Nat)
    (h : Reach hash .guarV2 s r) (hd : AllDone s) (a : Nat) :
    ownSurplus s + s.perTicket * s.nrWinning + (s.userTotal a - s.userClaimed a)
      ≤ s.bal (.esdt s.lpTok) 0 :=
  (ReachOf.of_guarV2 h).vested_claim_covered rfl hd a

/-- **nothing is left**: once every participant has settled and claimed every instalment and the
    owner has withdrawn (`totalDeposited` cleared), the contract holds no launchpad token -/
theorem lp_nothing_left_guarV2 (hash : List Nat → List Nat) (s : State) (r : Nat)
    (h : Reach hash .guarV2 s r) (hd : AllDone s) (hall : ∀ a, s.range a = none)
    (hclaimed : ∀ a, s.userClaimed a = s.userTotal a) (hown : s.totalDeposited = 0) :
    s.bal (.esdt s.lpTok) 0 = 0 :=
  (ReachOf.of_guarV2 h).lp_nothing_left rfl hd hall hclaimed hown

/-- before the distribution completes nobody has claimed and a deposit made so far is intact -/
theorem lp_before_distribution_guarV2 (hash : List Nat → List Nat) (s : State) (r : Nat)
    (h : Reach hash .guarV2 s r) (hd : s.flags.additional = false) :
    (∀ a, s.userTotal a = 0 ∧ s.userClaimed a = 0 ∧ s.claimed a = false) ∧
    (s.deposited = true → s.bal (.esdt s.lpTok) 0 = s.totalDeposited ∧
      s.perTicket * (s.nrWinning + s.totalGuaranteed) ≤ s.totalDeposited) ∧
    (s.deposited = false → s.bal (.esdt s.lpTok) 0 = 0 ∧ ∀ a, s.confirmed a = 0) := by
  obtain ⟨T0, hwf, _⟩ := h.wf2
  exact hwf.lp.before_distribution hd

/-! ### non-vacuity: a whole v2 lifecycle with a zero-size allocation entry (9), a guarantee (7)
    and an INTERRUPTED `distribute` call -/

open LP.Props.C01reach (stOf isOk)

def vArgs : InitArgs :=
  { lpTok := 1, perTicket := 5, payTok := .egld, price := 10, nrWinning := 2, conf := 5, sel := 10, claim := 15 }

def v0 : State := match init .guarV2 vArgs { caller := 1, round := 0 } with
  | .ok s => s
  | .error _ => default

def v1 : State := stOf (step id v0 { caller := 1, round := 1 }
  (.addTicketsV2 [(7, 3, [(1, 1)]), (8, 1, []), (9, 0, [])])) v0
def v2 : State := stOf (step id v1 { caller := 1, round := 2, esdts := [⟨.esdt 1, 0, 10⟩] } .deposit) v1
def v3 : State := stOf (step id v2 { caller := 7, round := 5, egld := 20 } (.confirm 2)) v2
def v4 : State := stOf (step id v3 { caller := 8, round := 6, egld := 10 } (.confirm 1)) v3
def v5 : State := stOf (step id v4 { caller := 9, round := 10 } .filter) v4
def v6 : State := stOf (step id v5 { caller := 9, round := 11 } .select) v5
def v7 : State := stOf (step id v6 { caller := 9, round := 12, budget := some 0 } .distribute) v6
def v8 : State := stOf (step id v7 { caller := 9, round := 13 } .distribute) v7
def v9 : State := stOf (step id v8 { caller := 7, round := 15 } .claim) v8
def v10 : State := stOf (step id v9 { caller := 1, round := 16 } .claimPayment) v9
def v11 : State := stOf (step id v10 { caller := 8, round := 17 } .claim) v10

theorem v0_reach : Reach id .guarV2 v0 0 := Reach.init vArgs { caller := 1, round := 0 } v0 rfl

theorem v8_reach : Reach id .guarV2 v8 13 :=
  LP.Props.C01reach.Reach.callOk { caller := 9, round := 13 } .distribute
    (LP.Props.C01reach.Reach.callOk { caller := 9, round := 12, budget := some 0 } .distribute
      (LP.Props.C01reach.Reach.callOk { caller := 9, round := 11 } .select
        (LP.Props.C01reach.Reach.callOk { caller := 9, round := 10 } .filter
          (LP.Props.C01reach.Reach.callOk { caller := 8, round := 6, egld := 10 } (.confirm 1)
            (LP.Props.C01reach.Reach.callOk { caller := 7, round := 5, egld := 20 } (.confirm 2)
              (LP.Props.C01reach.Reach.callOk { caller := 1, round := 2, esdts := [⟨.esdt 1, 0, 10⟩] } .deposit
                (LP.Props.C01reach.Reach.callOk { caller := 1, round := 1 }
                  (.addTicketsV2 [(7, 3, [(1, 1)]), (8, 1, []), (9, 0, [])])
                  v0_reach (by decide) (Or.inl rfl) trivial (by decide +kernel))
                (by decide) (Or.inl rfl) trivial (by decide +kernel))
              (by decide) (Or.inr rfl) trivial (by decide +kernel))
            (by decide) (Or.inr rfl) trivial (by decide +kernel))
          (by decide) (Or.inl rfl) trivial (by decide +kernel))
        (by decide) (Or.inl rfl) trivial (by decide +kernel))
      (by decide) (Or.inl rfl) trivial (by decide +kernel))
    (by decide) (Or.inl rfl) trivial (by decide +kernel)

theorem v8_done : AllDone v8 := by unfold AllDone; decide +kernel

/-- the interrupted call saved the operation; the second call completed the step: 2 of the 3
    tickets win (`min T0 last = min 2 3`), the owner's proceeds are 20 -/
example : v7.flags.additional = false ∧ v7.flags.selected = true ∧ v7.whitelist = [] ∧
    AllDone v8 ∧ v8.nrWinning = 2 ∧ v8.lastTicketId = 3 ∧ v8.claimablePayment = 20 ∧
    v8.bal .egld 0 = 30 ∧ v1.totalGuaranteed = 1 ∧ v1.nrWinning = 1 ∧ v1.range 9 = none := by
  unfold AllDone; decide +kernel

example : ∃ L : List Nat, Covers v8 L ∧ PayEqPost v8 L := by
  obtain ⟨L, h1, _, h3⟩ := C01_solvent_guarV2 id v8 13 v8_reach
  exact ⟨L, h1, h3 v8_done⟩

theorem v11_reach : Reach id .guarV2 v11 17 :=
  LP.Props.C01reach.Reach.callOk { caller := 8, round := 17 } .claim
    (LP.Props.C01reach.Reach.callOk { caller := 1, round := 16 } .claimPayment
      (LP.Props.C01reach.Reach.callOk { caller := 7, round := 15 } .claim v8_reach
        (by decide) (Or.inl rfl) trivial (by decide +kernel))
      (by decide) (Or.inl rfl) trivial (by decide +kernel))
    (by decide) (Or.inl rfl) trivial (by decide +kernel)

/-- both settle, the owner withdraws; nothing is left in either token -/
example : v11.bal .egld 0 = 0 ∧ v11.bal (.esdt 1) 0 = 0 ∧ v11.range 7 = none ∧ v11.range 8 = none ∧
    v10.claimablePayment = 0 := by
  decide +kernel

/-- the 10 deposited tokens cover the 2 winning tickets (5 each) -/
example : v8.perTicket * v8.nrWinning + (v8.userTotal 7 - v8.userClaimed 7) ≤ v8.bal (.esdt 1) 0 :=
  vested_claim_covered_guarV2 id v8 13 v8_reach v8_done 7

example : v8.bal (.esdt 1) 0 = 10 ∧ v8.totalDeposited = 10 ∧ ownSurplus v8 = 0 ∧ v9.userTotal 7 = 10 ∧
    v9.userClaimed 7 = 10 ∧ v10.totalDeposited = 0 := by decide +kernel

end LP.Props.C01reachV2

#print axioms LP.Props.C01reachV2.C01_solvent_guarV2
#print axioms LP.Props.C01reachV2.final_winners_guarV2
#print axioms LP.Props.C01reachV2.guarantee_honoured_guarV2
#print axioms LP.Props.C01reachV2.guarantee_honoured_during_guarV2
#print axioms LP.Props.C01reachV2.claim_refund_covered_guarV2
#print axioms LP.Props.C01reachV2.owner_withdrawal_covered_guarV2
#print axioms LP.Props.C01reachV2.all_settled_nothing_left_guarV2
#print axioms LP.Props.C01reachV2.three_counts_guarV2
#print axioms LP.Props.C01reachV2.reserve_conserved_guarV2
#print axioms LP.Props.C01reachV2.lp_ledger_guarV2
#print axioms LP.Props.C01reachV2.vested_claim_covered_guarV2
#print axioms LP.Props.C01reachV2.unsettled_winner_covered_guarV2
#print axioms LP.Props.C01reachV2.owner_surplus_safe_guarV2
#print axioms LP.Props.C01reachV2.lp_nothing_left_guarV2
#print axioms LP.Props.C01reachV2.lp_before_distribution_guarV2
#print axioms LP.Props.C01reachV2.v8_reach
#print axioms LP.Props.C01reachV2.v11_reach

#print axioms LP.Props.C01reachV2.v2_WF_ledger
#print axioms LP.Props.C01reachV2.v0_reach
