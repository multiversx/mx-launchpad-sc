import LP.Proofs.ZeroAllocV1More
import LP.Props.C01zeroV1
/-
  The other theorems of LP/Props/C01reachV1.lean (`Variant.migration`, `Variant.lockedGuar`) for
  `v1_ReachZ` / `v1_ReachZA` (zero-size `addTicketsV1` entries allowed), continuing
  LP/Props/C01zeroV1.lean.  Each `…_ZV1` has the conclusion of its counterpart there (with `v1_ReachZA`
  for `v1_Reach` where the conclusion names the relation); `r ≤ e.round` and `EnvOK e` are added only
  to `guarantee_honoured_ZV1`, where the `distribute` step is replayed on the erased state (through
  `final_winners_ZV1_partial`).  The `…_empty` variants weaken "every range is gone" to "every
  remaining range is empty": a ghost need not claim.  `claim_never_starves_ZV1` has no deposit
  hypothesis.  The `zw_*` lemmas are in LP/Proofs/ZeroAllocV1More.lean.
-/
namespace LP.Props.C01zeroV1more
open LP LP.FY LP.Props.C01reachV1 LP.Props.C01zeroV1

/-! ### the proceeds -/

/-- after completion the recorded proceeds and the price are frozen until the owner withdraws
    (statement of `proceeds_until_withdrawal_v1`) -/
theorem proceeds_until_withdrawal_ZV1 (hash : List Nat → List Nat) (v : Variant) (hv : v1_Fam v)
    (s : State) (r : Nat) (h : v1_ReachZ hash v s r) (hd : AllDone s) (e : Env) (c : Call)
    (s' : State) (o : Out) (hr : r ≤ e.round) (hs : step hash s e c = .ok (s', o)) :
    s'.price = s.price ∧ AllDone s' ∧
    (s'.claimablePayment = s.claimablePayment ∨ (c = .claimPayment ∧ s'.claimablePayment = 0)) := by
  obtain ⟨a0, h⟩ := v1_ReachZ_iff.mp h
  exact zw_proceeds_frame (zv_sim hv h) hr hd hs

/-- `Later` of LP/Props/C01reachV1.lean without the premise `v1_CallOK`: accepted calls other than
    `claimPayment`, and the passing of time -/
inductive LaterZ (hash : List Nat → List Nat) (s : State) (r : Nat) : State → Nat → Prop
  | refl : LaterZ hash s r s r
  | call (s1 : State) (r1 : Nat) (e : Env) (c : Call) (s2 : State) (o : Out) :
      LaterZ hash s r s1 r1 → r1 ≤ e.round → EnvOK e → c ≠ .claimPayment →
      step hash s1 e c = .ok (s2, o) → LaterZ hash s r s2 e.round
  | wait (s1 : State) (r1 r2 : Nat) : LaterZ hash s r s1 r1 → r1 ≤ r2 → LaterZ hash s r s1 r2

/-- **until the owner has withdrawn, `claimablePayment = price × (winners at completion)`**: `s'` is
    the state in which the distribution completed, whatever participants (ghosts included) claim
    afterwards -/
theorem proceeds_are_price_times_winners_ZV1 (hash : List Nat → List Nat) (v : Variant)
    (hv : v1_Fam v) (a0 : InitArgs) (s : State) (r : Nat) (h : v1_ReachZA hash v a0 s r) (e : Env)
    (s' : State) (o : Out) (hr : r ≤ e.round) (hok : EnvOK e)
    (hs : step hash s e .distribute = .ok (s', o)) (hret : o.ret = [0])
    (s2 : State) (r2 : Nat) (hl : LaterZ hash s' e.round s2 r2) :
    v1_ReachZA hash v a0 s2 r2 ∧ AllDone s2 ∧
    s2.claimablePayment = s2.price * countTrue s'.status s'.lastTicketId ∧
    countTrue s'.status s'.lastTicketId = min a0.nrWinning s'.lastTicketId := by
  obtain ⟨hd, h1, h2, h3, _⟩ := final_winners_ZV1_partial hash v hv a0 s r h e s' o hr hok hs hret
  have hreach' : v1_ReachZA hash v a0 s' e.round := .call s r e .distribute s' o h hr hok hs
  have key : v1_ReachZA hash v a0 s2 r2 ∧ AllDone s2 ∧ s2.price = s'.price ∧
      s2.claimablePayment = s'.claimablePayment := by
    induction hl with
    | refl => exact ⟨hreach', hd, rfl, rfl⟩
    | call s1 r1 e1 c s2 o1 _ k1 k2 k4 k5 ih =>
      obtain ⟨i1, i2, i3, i4⟩ := ih
      obtain ⟨j1, j2, j3⟩ := zw_proceeds_frame (zv_sim hv i1) k1 i2 k5
      refine ⟨.call s1 r1 e1 c s2 o1 i1 k1 k2 k5, j2, j1.trans i3, ?_⟩
      rcases j3 with j3 | ⟨j3, _⟩
      · exact j3.trans i4
      · exact absurd j3 k4
    | wait s1 r1 r2 _ k1 ih =>
      obtain ⟨i1, i2, i3, i4⟩ := ih
      exact ⟨.wait s1 r1 r2 i1 k1, i2, i3, i4⟩
  obtain ⟨k1, k2, k3, k4⟩ := key
  exact ⟨k1, k2, by rw [k4, k3, h3, h1], by rw [h1, h2]⟩

/-- an accepted `distribute` call that does not complete keeps the ledger equation of the selection
    phase -/
theorem interrupted_distribute_keeps_pre_ZV1 (hash : List Nat → List Nat) (v : Variant)
    (hv : v1_Fam v) (s : State) (r : Nat) (h : v1_ReachZ hash v s r) (e : Env) (s' : State) (o : Out)
    (hr : r ≤ e.round) (hok : EnvOK e)
    (hs : step hash s e .distribute = .ok (s', o)) (hnd : ¬ AllDone s') :
    ∃ L : List Nat, Covers s' L ∧ PayEqPre s' L := by
  have h' : v1_ReachZ hash v s' e.round := .call s r e .distribute s' o h hr hok hs
  obtain ⟨L, h1, h2, _⟩ := C01_solvent_ZV1 hash v hv s' e.round h'
  exact ⟨L, h1, h2 hnd⟩

/-! ### the guarantees -/

/-- until the first `distribute` call is accepted the whitelist is exactly the set of holders of a
    positive guarantee, ghosts included (statement of `whitelisted_iff_v1`) -/
theorem whitelisted_iff_ZV1 (hash : List Nat → List Nat) (v : Variant) (hv : v1_Fam v) (s : State)
    (r : Nat) (h : v1_ReachZ hash v s r) (hna : s.flags.additional = false)
    (hop : s.flags.selected = true → s.op = .none) (u : Nat) :
    u ∈ s.whitelist ↔ ∃ st, s.uts u = some st ∧ st.c + st.d > 0 := by
  obtain ⟨a0, h⟩ := v1_ReachZ_iff.mp h
  rcases zv_sim hv h with hp | ⟨_, z, hz, hsim⟩
  · exact hp.gx.whitelist_iff (v1_fam_flags (zv_PA_flags hp).2.2.2).2.2.1 u
  · obtain ⟨_, hfl, _, _, _, hopz, _⟩ := hsim.fields
    have := v1_phase_whitelist_intact hz.phase (by rw [hfl]; exact hna)
      (by intro hh; rw [hopz]; exact hop (by rw [← hfl]; exact hh)) u
    obtain ⟨R, B, K, C, rfl⟩ := hsim.shape'
    exact this

/-- **guarantees honoured (v1)**: when the distribution completes, every holder of a guarantee
    record owns at least `min (qualified guarantee) (confirmed)` winning tickets (a ghost:
    `min 1 0 = 0`) -/
theorem guarantee_honoured_ZV1 (hash : List Nat → List Nat) (v : Variant) (hv : v1_Fam v)
    (a0 : InitArgs) (s : State) (r : Nat) (h : v1_ReachZA hash v a0 s r) (e : Env) (s' : State)
    (o : Out) (hr : r ≤ e.round) (hok : EnvOK e)
    (hs : step hash s e .distribute = .ok (s', o)) (hret : o.ret = [0]) :
    (∀ u st, s'.uts u = some st →
      min (calcV1 st (s'.confirmed u) s'.minConfirmed).1 (s'.confirmed u) ≤ winCountOf s' u) ∧
    (∀ t, s'.status t = true → 1 ≤ t ∧ t ≤ s'.lastTicketId) := by
  obtain ⟨_, _, _, _, h5, _, h7⟩ := final_winners_ZV1_partial hash v hv a0 s r h e s' o hr hok hs hret
  exact ⟨h7, h5⟩

/-! ### the launchpad tokens -/

/-- **the deposit** made before the filter has completed is exactly `perTicket × T0` launchpad
    tokens: ghost guarantees move reserve tickets between `nrWinning` and `totalGuaranteed` without
    changing the sum (statement of `deposit_is_perTicket_times_T0`) -/
theorem deposit_is_perTicket_times_T0_ZV1 (hash : List Nat → List Nat) (v : Variant) (hv : v1_Fam v)
    (a0 : InitArgs) (s : State) (r : Nat) (h : v1_ReachZA hash v a0 s r) (e : Env) (s' : State)
    (o : Out) (hf : s.flags.filtered = false) (hs : step hash s e .deposit = .ok (s', o)) :
    s'.totalDeposited = s.perTicket * a0.nrWinning ∧ s'.deposited = true ∧
    singleFungible e = .ok (.esdt s.lpTok, s.perTicket * a0.nrWinning) := by
  have hi := zv_sim hv h
  have hres := (zv_Inv_reserve hi).1 hf
  have hmax : LP.Props.C02.maxWinners s = a0.nrWinning := by
    unfold LP.Props.C02.maxWinners reservedForDeposit
    rw [(v1_fam_flags (zw_fam hi)).2.2.2.2.1]
    exact hres
  obtain ⟨hs', _, _⟩ := LP.Props.C02.deposit_effect hash s s' e o hs
  have hacc := ((LP.Props.C02.deposit_accepted_iff hash s e).mp ⟨_, hs⟩).2.2
  rw [hmax] at hacc
  refine ⟨?_, ?_, hacc⟩
  · rw [hs', hmax]
  · rw [hs']

/-- **the owner can withdraw only the surplus** (statement of `owner_surplus_v1`) -/
theorem owner_surplus_ZV1 (hash : List Nat → List Nat) (v : Variant) (hv : v1_Fam v) (s : State)
    (r : Nat) (h : v1_ReachZ hash v s r) (e : Env) (s' : State) (o : Out)
    (hs : step hash s e .claimPayment = .ok (s', o)) :
    s'.bal (.esdt s'.lpTok) 0 = s'.perTicket * s'.nrWinning ∧ s'.nrWinning = s.nrWinning ∧
    s'.claimablePayment = 0 := by
  obtain ⟨a0, h⟩ := v1_ReachZ_iff.mp h
  have hi := zv_sim hv h
  obtain ⟨hd, _⟩ := stage_claim_iff.mp (LP.Props.C06.claimPayment_gate hash s e _ hs)
  obtain ⟨hfam, htok, _⟩ := zw_done hi hd
  obtain ⟨t, hx, rfl⟩ := step_np rfl hs
  obtain ⟨hv1, hv2, _⟩ := v1_fam_flags hfam
  obtain ⟨_, hcov, hts⟩ := rb_claimPayment_state hv1 hv2 htok hx
  rw [hts]
  refine ⟨?_, rfl, rfl⟩
  show ((s.bal.sub s.payTok 0 s.claimablePayment).sub (.esdt s.lpTok) 0 _) (.esdt s.lpTok) 0
    = s.perTicket * s.nrWinning
  rw [Bal.sub_at, Bal.sub_off _ _ _ _ (fun hh => htok hh.symm)]
  omega

/-- **nothing is left at the end**: once every holder of a NON-EMPTY range has settled (stale empty
    ranges may remain for ever), no winner is outstanding and the owner's withdrawal leaves no
    launchpad token -/
theorem lp_zero_at_end_ZV1_empty (hash : List Nat → List Nat) (v : Variant) (hv : v1_Fam v)
    (s : State) (r : Nat) (h : v1_ReachZ hash v s r) (hd : AllDone s)
    (hall : ∀ a rg, s.range a = some rg → ¬ rg.first ≤ rg.last)
    (e : Env) (s' : State) (o : Out) (hs : step hash s e .claimPayment = .ok (s', o)) :
    s.nrWinning = 0 ∧ s'.bal (.esdt s'.lpTok) 0 = 0 := by
  obtain ⟨a0, h0⟩ := v1_ReachZ_iff.mp h
  obtain ⟨z, hz, hsim⟩ := zv_Inv_selected (zv_sim hv h0) hd.1
  have hallz : ∀ a, z.range a = none :=
    hsim.esim.range_none (fun a rg h => Nat.not_le.mp (hall a rg h))
  have hz0 : s.nrWinning = 0 := by
    have := v1_phase_all_settled_nrWinning hz.phase (hd.of_flags hsim.fields.2.1) hallz
    obtain ⟨R, B, K, C, rfl⟩ := hsim.shape'
    exact this
  obtain ⟨k1, k2, _⟩ := owner_surplus_ZV1 hash v hv s r h e s' o hs
  exact ⟨hz0, by rw [k1, k2, hz0]; simp⟩

/-- statement of `lp_zero_at_end_v1` -/
theorem lp_zero_at_end_ZV1 (hash : List Nat → List Nat) (v : Variant) (hv : v1_Fam v) (s : State)
    (r : Nat) (h : v1_ReachZ hash v s r) (hd : AllDone s) (hall : ∀ a, s.range a = none)
    (e : Env) (s' : State) (o : Out) (hs : step hash s e .claimPayment = .ok (s', o)) :
    s.nrWinning = 0 ∧ s'.bal (.esdt s'.lpTok) 0 = 0 :=
  lp_zero_at_end_ZV1_empty hash v hv s r h hd
    (fun a rg hr => by rw [hall a] at hr; cases hr) e s' o hs

theorem all_settled_nothing_left_ZV1_empty (hash : List Nat → List Nat) (v : Variant)
    (hv : v1_Fam v) (s : State) (r : Nat) (h : v1_ReachZ hash v s r) (hd : AllDone s)
    (hall : ∀ a rg, s.range a = some rg → ¬ rg.first ≤ rg.last) (hcp : s.claimablePayment = 0) :
    s.bal s.payTok 0 = 0 := by
  obtain ⟨L, _, hpost, _, _, hrg⟩ := three_counts_ZV1 hash v hv s r h hd
  unfold PayEqPost at hpost
  rw [hpost, hcp, sumOver_zero]
  intro a _
  unfold refundDue
  cases hr : s.range a with
  | none => rfl
  | some rg =>
    have hlen := (hrg a rg hr).1
    have hne := hall a rg hr
    have hc : s.confirmed a = 0 := by rw [← hlen]; unfold rangeLen; omega
    simp [hc]

/-- statement of `all_settled_nothing_left_v1` -/
theorem all_settled_nothing_left_ZV1 (hash : List Nat → List Nat) (v : Variant) (hv : v1_Fam v)
    (s : State) (r : Nat) (h : v1_ReachZ hash v s r) (hd : AllDone s)
    (hall : ∀ a, s.range a = none) (hcp : s.claimablePayment = 0) : s.bal s.payTok 0 = 0 :=
  all_settled_nothing_left_ZV1_empty hash v hv s r h hd
    (fun a rg hr => by rw [hall a] at hr; cases hr) hcp

/-! ### claims never starve, without the deposit hypothesis -/

/-- **nothing is confirmed before the deposit**; by induction over `v1_ReachZ`, no simulation:
    `confirm` requires the deposit (`LP.Props.C07.confirm_accepted_iff`) and no other endpoint
    increases a `confirmed` entry -/
theorem nothing_confirmed_before_deposit_ZV1 (hash : List Nat → List Nat) (v : Variant) (s : State)
    (r : Nat) (h : v1_ReachZ hash v s r) (hnd : s.deposited = false) (a : Nat) :
    s.confirmed a = 0 := by
  have hn : pl_NoConf s := by
    clear hnd
    induction h with
    | init a e s hh => exact lk_init_noConf hh
    | call s r e c s' o _ _ _ h4 ih => exact pl_step_NoConf ih h4
    | wait s r r' _ _ ih => exact ih
  exact hn hnd a

/-- `winner_covered_ZV1` without `hdep`: without a deposit nobody has confirmed, hence nobody has won -/
theorem winner_covered_ZV1_full (hash : List Nat → List Nat) (v : Variant) (hv : v1_Fam v)
    (s : State) (r : Nat) (h : v1_ReachZ hash v s r) (hd : AllDone s) (a : Nat) :
    s.perTicket * winCountOf s a ≤ s.bal (.esdt s.lpTok) 0 ∧ winCountOf s a ≤ s.nrWinning := by
  obtain ⟨L, hcov, _, hwin, hle, _⟩ := three_counts_ZV1 hash v hv s r h hd
  have hwn : winCountOf s a ≤ s.nrWinning := by
    by_cases hc : s.confirmed a = 0
    · have := hle a; omega
    · rw [← hwin]
      exact rb_le_sumOver (winCountOf s) L a (hcov.supp a hc)
  refine ⟨?_, hwn⟩
  cases hdep : s.deposited with
  | true => exact (winner_covered_ZV1 hash v hv s r h hd hdep a).1
  | false =>
    have hc := nothing_confirmed_before_deposit_ZV1 hash v s r h hdep a
    have hw : winCountOf s a = 0 := by have := hle a; omega
    rw [hw]; simp

/-- **claims never starve**: in every `v1_ReachZ` state, in the claim stage, a claim without call
    value by any address that holds a range — empty or not — and has not claimed yet is ACCEPTED -/
theorem claim_never_starves_ZV1 (hash : List Nat → List Nat) (v : Variant) (hv : v1_Fam v)
    (s : State) (r : Nat) (h : v1_ReachZ hash v s r) (e : Env) (rg : Range)
    (he1 : e.egld = 0) (he2 : e.esdts = []) (hst : s.stage e = .claim)
    (hcl : s.claimed e.caller = false) (hrg : s.range e.caller = some rg) :
    ∃ x, step hash s e .claim = .ok x := by
  obtain ⟨⟨hsel, hadd⟩, _⟩ := stage_claim_iff.mp hst
  have hd : AllDone s := ⟨hsel, hadd⟩
  obtain ⟨a0, h0⟩ := v1_ReachZ_iff.mp h
  obtain ⟨hfam, htok, hpct, _⟩ := zw_done (zv_sim hv h0) hd
  obtain ⟨L, _, _, _, hle, _⟩ := three_counts_ZV1 hash v hv s r h hd
  have hcov := claim_refund_covered_ZV1 hash v hv s r h hd e.caller rg hrg
  obtain ⟨hw1, hw2⟩ := winner_covered_ZV1_full hash v hv s r h hd e.caller
  have hpay : s.price * (s.confirmed e.caller - winCountOf s e.caller) ≤ s.bal s.payTok 0 := by omega
  obtain ⟨f1, f2, _⟩ := v1_fam_flags hfam
  exact claim_accepts hash s e rg f1 hpct
    (claimAccepts_of_cover he1 he2 hst hcl hrg htok hw2 (hle e.caller) hpay hw1)
    (fun hn => by rw [f2] at hn; cases hn)

/-! ### non-vacuity: the launch with a ghost guarantee `g1 … g7` of LP/Props/C01zeroV1.lean -/

/-- the `distribute` call of `g5` interrupted by a zero budget -/
def g5i : State := stOf (step id g5 { caller := 9, round := 12, budget := some 0 } .distribute) g5
/-- the owner withdraws after the ghost's claim -/
def g8 : State := stOf (step id g7 { caller := 1, round := 16 } .claimPayment) g7

theorem g2_reachZ : v1_ReachZA id .migration exArgs g2 2 :=
  ReachZA.callOk _ _ g1_reachZ (by decide) (Or.inl rfl) g2_ok

theorem g5_reachZ : v1_ReachZA id .migration exArgs g5 11 := LP.Props.C01zeroV1.g5_reachZ

/-- the ghost 7 (empty range, record `d = 1`) is whitelisted -/
example : 7 ∈ g1.whitelist ↔ ∃ st, g1.uts 7 = some st ∧ st.c + st.d > 0 :=
  whitelisted_iff_ZV1 id .migration (Or.inl rfl) g1 1 (v1_ReachZ_iff.mpr ⟨_, g1_reachZ⟩)
    (by decide +kernel) (fun h => absurd h (by decide +kernel)) 7

example : 7 ∈ g1.whitelist ∧ g1.range 7 = some ⟨1, 0⟩ := by decide +kernel

/-- `g1 → g2`: the deposit is `5 × 4 = 20` although the ghost moved one reserve ticket -/
example : g2.totalDeposited = g1.perTicket * exArgs.nrWinning ∧ g2.totalDeposited = 20 ∧
    g1.nrWinning = 2 ∧ g1.totalGuaranteed = 2 :=
  ⟨(deposit_is_perTicket_times_T0_ZV1 id .migration (Or.inl rfl) exArgs g1 1 g1_reachZ
    { caller := 1, round := 2, esdts := [⟨.esdt 1, 0, 20⟩] } g2 _ (by decide +kernel)
    (step_ok_of_isOk g1 g2_ok)).1, by decide +kernel⟩

example : ∃ L : List Nat, Covers g5i L ∧ PayEqPre g5i L :=
  interrupted_distribute_keeps_pre_ZV1 id .migration (Or.inl rfl) g5 11
    (v1_ReachZ_iff.mpr ⟨_, g5_reachZ⟩) { caller := 9, round := 12, budget := some 0 } g5i _
    (by decide) (Or.inl rfl) (step_ok_of_isOk g5 (by decide +kernel))
    (fun h => absurd h.2 (by decide +kernel))

/-- `g5 → g6`: holder 8 (staking guarantee) and the ghost 7 -/
example : (∀ u st, g6.uts u = some st →
      min (calcV1 st (g6.confirmed u) g6.minConfirmed).1 (g6.confirmed u) ≤ winCountOf g6 u) ∧
    winCountOf g6 8 = 3 ∧ winCountOf g6 7 = 0 :=
  ⟨(guarantee_honoured_ZV1 id .migration (Or.inl rfl) exArgs g5 11 g5_reachZ
    { caller := 9, round := 12 } g6 _ (by decide) (Or.inl rfl) (step_ok_of_isOk g5 g6_ok)
    (by decide +kernel)).1, by decide +kernel⟩

/-- `g6 → g7`: the ghost's claim -/
example : g7.price = g6.price ∧ AllDone g7 ∧ g7.claimablePayment = 30 := by
  obtain ⟨h1, h2, h3⟩ := proceeds_until_withdrawal_ZV1 id .migration (Or.inl rfl) g6 12
    (v1_ReachZ_iff.mpr ⟨_, g6_reachZ⟩) (by unfold AllDone; decide +kernel)
    { caller := 7, round := 15 } .claim g7 _ (by decide) (step_ok_of_isOk g6 g7_ok)
  exact ⟨h1, h2, by decide +kernel⟩

/-- the distribution completed in `g6`, the ghost claims (`g7`): the proceeds are still `price × 3` -/
example : g7.claimablePayment = g7.price * countTrue g6.status g6.lastTicketId ∧
    countTrue g6.status g6.lastTicketId = min exArgs.nrWinning g6.lastTicketId :=
  (proceeds_are_price_times_winners_ZV1 id .migration (Or.inl rfl) exArgs g5 11 g5_reachZ
    { caller := 9, round := 12 } g6 _ (by decide) (Or.inl rfl) (step_ok_of_isOk g5 g6_ok)
    (by decide +kernel) g7 15
    (.call g6 12 { caller := 7, round := 15 } .claim g7 _ .refl (by decide) (Or.inl rfl)
      (by intro h; cases h) (step_ok_of_isOk g6 g7_ok))).2.2

example : g8.bal (.esdt g8.lpTok) 0 = g8.perTicket * g8.nrWinning ∧ g8.nrWinning = g7.nrWinning ∧
    g8.claimablePayment = 0 :=
  owner_surplus_ZV1 id .migration (Or.inl rfl) g7 15 (v1_ReachZ_iff.mpr ⟨_, g7_reachZ⟩)
    { caller := 1, round := 16 } g8 _ (step_ok_of_isOk g7 (by decide +kernel))

example : g8.bal (.esdt 1) 0 = 15 ∧ g8.nrWinning = 3 ∧ g7.bal (.esdt 1) 0 = 20 := by
  decide +kernel

/-- `g6`: the ghost's and holder 8's claims -/
example : (∃ x, step id g6 { caller := 7, round := 15 } .claim = .ok x) ∧
    (∃ x, step id g6 { caller := 8, round := 15 } .claim = .ok x) :=
  ⟨claim_never_starves_ZV1 id .migration (Or.inl rfl) g6 12 (v1_ReachZ_iff.mpr ⟨_, g6_reachZ⟩)
    { caller := 7, round := 15 } ⟨1, 0⟩ rfl rfl (by decide +kernel) (by decide +kernel) (by decide +kernel),
   claim_never_starves_ZV1 id .migration (Or.inl rfl) g6 12 (v1_ReachZ_iff.mpr ⟨_, g6_reachZ⟩)
    { caller := 8, round := 15 } ⟨1, 3⟩ rfl rfl (by decide +kernel) (by decide +kernel) (by decide +kernel)⟩

/-- `g1`: allocation made, ghost whitelisted, no deposit -/
example : g1.deposited = false ∧ ∀ a, g1.confirmed a = 0 :=
  have h : g1.deposited = false := by decide +kernel
  ⟨h, nothing_confirmed_before_deposit_ZV1 id .migration g1 1 (v1_ReachZ_iff.mpr ⟨_, g1_reachZ⟩) h⟩

/-! ### non-vacuity of the end-of-launch theorems: a launch whose only allocation entry is a ghost

  `addTicketsV1 [(7, 0, 0, true)]`, deposit `5 × 4 = 20`, filter / select / distribute over ZERO
  tickets: the whole reserve is dropped (`nrWinning = 0`).  The ghost never has to claim: its stale
  empty range stays and the owner's withdrawal returns all 20 tokens. -/

def m0 : State := stOf (step id ex0 { caller := 1, round := 1 } (.addTicketsV1 [(7, 0, 0, true)])) ex0
def m1 : State := stOf (step id m0 { caller := 1, round := 2, esdts := [⟨.esdt 1, 0, 20⟩] } .deposit) m0
def m2 : State := stOf (step id m1 { caller := 9, round := 10 } .filter) m1
def m3 : State := stOf (step id m2 { caller := 9, round := 11 } .select) m2
def m4 : State := stOf (step id m3 { caller := 9, round := 12 } .distribute) m3
/-- the owner withdraws while the ghost's empty range is still there -/
def m5 : State := stOf (step id m4 { caller := 1, round := 16 } .claimPayment) m4
/-- alternatively the ghost claims first (nothing is paid) -/
def m4c : State := stOf (step id m4 { caller := 7, round := 15 } .claim) m4
def m5c : State := stOf (step id m4c { caller := 1, round := 16 } .claimPayment) m4c

theorem m5_ok : isOk (step id m4 { caller := 1, round := 16 } .claimPayment) = true := by decide +kernel
theorem m5c_ok : isOk (step id m4c { caller := 1, round := 16 } .claimPayment) = true := by decide +kernel

theorem m4_reachZ : v1_ReachZA id .migration exArgs m4 12 :=
  ReachZA.callOk { caller := 9, round := 12 } .distribute
    (ReachZA.callOk { caller := 9, round := 11 } .select
      (ReachZA.callOk { caller := 9, round := 10 } .filter
        (ReachZA.callOk { caller := 1, round := 2, esdts := [⟨.esdt 1, 0, 20⟩] } .deposit
          (ReachZA.callOk { caller := 1, round := 1 } (.addTicketsV1 [(7, 0, 0, true)]) ex0_reach.toZ
            (by decide) (Or.inl rfl) (by decide +kernel))
          (by decide) (Or.inl rfl) (by decide +kernel))
        (by decide) (Or.inl rfl) (by decide +kernel))
      (by decide) (Or.inl rfl) (by decide +kernel))
    (by decide) (Or.inl rfl) (by decide +kernel)

theorem m4c_reachZ : v1_ReachZA id .migration exArgs m4c 15 :=
  ReachZA.callOk { caller := 7, round := 15 } .claim m4_reachZ (by decide) (Or.inl rfl) (by decide +kernel)

theorem m4_range : m4.range = upd (fun _ => none) 7 (some ⟨1, 0⟩) := rfl

theorem m4c_range : m4c.range = upd m4.range 7 none := rfl

theorem m4_hall : ∀ a rg, m4.range a = some rg → ¬ rg.first ≤ rg.last := by
  intro a rg h
  rw [m4_range, upd_apply] at h
  split at h
  · cases h; decide
  · cases h

theorem m4c_hall : ∀ a, m4c.range a = none := by
  intro a
  rw [m4c_range, m4_range, upd_apply]
  split
  · rfl
  · rw [upd_apply]; split
    · contradiction
    · rfl

example : m0.whitelist = [7] ∧ m0.nrWinning = 3 ∧ m0.totalGuaranteed = 1 ∧ AllDone m4 ∧
    m4.range 7 = some ⟨1, 0⟩ ∧ m4.claimed 7 = false ∧ m4.bal (.esdt 1) 0 = 20 ∧
    ¬ (∀ a, m4.range a = none) :=
  ⟨by decide +kernel, by decide +kernel, by decide +kernel, by unfold AllDone; decide +kernel,
    by decide +kernel, by decide +kernel, by decide +kernel, fun h => absurd (h 7) (by decide +kernel)⟩

/-- a stale empty range is left: the hypothesis `∀ a, range a = none` of `lp_zero_at_end_ZV1` FAILS
    in `m4` -/
example : m4.nrWinning = 0 ∧ m5.bal (.esdt m5.lpTok) 0 = 0 :=
  lp_zero_at_end_ZV1_empty id .migration (Or.inl rfl) m4 12 (v1_ReachZ_iff.mpr ⟨_, m4_reachZ⟩)
    (by unfold AllDone; decide +kernel) m4_hall { caller := 1, round := 16 } m5 _
    (step_ok_of_isOk m4 m5_ok)

example : m5.bal m5.payTok 0 = 0 :=
  all_settled_nothing_left_ZV1_empty id .migration (Or.inl rfl) m5 16
    (v1_ReachZ_iff.mpr ⟨_, ReachZA.callOk _ _ m4_reachZ (by decide) (Or.inl rfl) m5_ok⟩) (by unfold AllDone; decide +kernel)
    (by
      have : m5.range = m4.range := rfl
      rw [this]; exact m4_hall) (by decide +kernel)

/-- after the ghost's claim no range is left -/
example : m4c.nrWinning = 0 ∧ m5c.bal (.esdt m5c.lpTok) 0 = 0 :=
  lp_zero_at_end_ZV1 id .migration (Or.inl rfl) m4c 15 (v1_ReachZ_iff.mpr ⟨_, m4c_reachZ⟩)
    (by unfold AllDone; decide +kernel) m4c_hall { caller := 1, round := 16 } m5c _
    (step_ok_of_isOk m4c m5c_ok)

example : m5c.bal m5c.payTok 0 = 0 :=
  all_settled_nothing_left_ZV1 id .migration (Or.inl rfl) m5c 16
    (v1_ReachZ_iff.mpr ⟨_, ReachZA.callOk _ _ m4c_reachZ (by decide) (Or.inl rfl) m5c_ok⟩) (by unfold AllDone; decide +kernel)
    (by
      have : m5c.range = m4c.range := rfl
      rw [this]; exact m4c_hall) (by decide +kernel)

end LP.Props.C01zeroV1more

#print axioms LP.Props.C01zeroV1more.proceeds_until_withdrawal_ZV1
#print axioms LP.Props.C01zeroV1more.proceeds_are_price_times_winners_ZV1
#print axioms LP.Props.C01zeroV1more.interrupted_distribute_keeps_pre_ZV1
#print axioms LP.Props.C01zeroV1more.whitelisted_iff_ZV1
#print axioms LP.Props.C01zeroV1more.guarantee_honoured_ZV1
#print axioms LP.Props.C01zeroV1more.deposit_is_perTicket_times_T0_ZV1
#print axioms LP.Props.C01zeroV1more.owner_surplus_ZV1
#print axioms LP.Props.C01zeroV1more.lp_zero_at_end_ZV1_empty
#print axioms LP.Props.C01zeroV1more.lp_zero_at_end_ZV1
#print axioms LP.Props.C01zeroV1more.all_settled_nothing_left_ZV1_empty
#print axioms LP.Props.C01zeroV1more.all_settled_nothing_left_ZV1
#print axioms LP.Props.C01zeroV1more.nothing_confirmed_before_deposit_ZV1
#print axioms LP.Props.C01zeroV1more.winner_covered_ZV1_full
#print axioms LP.Props.C01zeroV1more.claim_never_starves_ZV1
#print axioms LP.Props.C01zeroV1more.g2_reachZ
#print axioms LP.Props.C01zeroV1more.g5_reachZ
#print axioms LP.Props.C01zeroV1more.m4_reachZ
#print axioms LP.Props.C01zeroV1more.m4c_reachZ
#print axioms LP.Props.C01zeroV1more.m4_hall
#print axioms LP.Props.C01zeroV1more.m4c_hall
