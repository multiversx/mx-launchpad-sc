import LP.Proofs.EventLedger
import LP.Props.C06once
/-
  C20 (history level) — "the event log determines the observable state".

  All statements are along `run` / `runLog` from the deployment `init v a e0` of a variant (those
  about topics, names and completion events: from any state), for any history `p` (rejected
  transactions allowed, no side condition on rounds; `EnvOK` only for the balance).
  `l = runLog hash s0 p` is the log of accepted transactions (each entry = environment, call,
  output with its events), `el_events l` the flat event list, `el_replay` the indexer.

  Model fact: the refund event of a blacklisting carries the caller (owner/support) in its topics
  and payload, not the refunded address.  The refunded addresses are the call's argument list (v2
  `addUsersToBlacklist` repeats it in its own event; the other variants and v2 `refundUsers` do
  not), or the recipients of the matching transfers.  The indexer `el_index` therefore reads the
  list from the call of the entry (and recognises a claim by the call, not by an event).
-/
namespace LP.Props.C20ledger
open LP LP.Events LP.Props.C17 LP.Props.C06

def ledger0 : el_Ledger := (fun _ => 0, fun _ => false)

/-! ## confirmations and payments -/

/-- **the indexer is exact** (all eight variants, any history): replaying the log — every
    `confirmTickets` event adds its ticket count to its caller, a blacklisting zeroes the listed users,
    a first claim zeroes the caller — gives exactly `confirmed` and `claimed` of the final state -/
theorem confirmed_replayed (hash : List Nat → List Nat) {v : Variant} {a : InitArgs} {e0 : Env} {s0 : State}
    (hinit : init v a e0 = .ok s0) (p : Hist) :
    el_replay v ledger0 (runLog hash s0 p) = ((run hash s0 p).confirmed, (run hash s0 p).claimed) := by
  obtain ⟨_, rfl⟩ := init_ok hinit
  exact el_replay_chain (runLog_chain hash p (initState v a e0))

/-- **a blacklisting refund carries all confirmed tickets**: cut the log at a `blacklist bl` /
    `refundUsers bl` entry `x`; with `L` the indexer's ledger and `s1` the state before `x`, the
    `refundTicketPayment` events of `x` are exactly, in the order of `bl`, one per listed user `u` with
    `L u > 0`, carrying `L u` tickets (all of them), the payment token and `price × L u`; their
    tickets add up to the listed users' ledger entries -/
theorem blacklist_refunds_carry_all (hash : List Nat → List Nat) {v : Variant} {a : InitArgs} {e0 : Env}
    {s0 : State} (hinit : init v a e0 = .ok s0) (p : Hist) (l1 l2 : List Entry) (x : Entry) (bl : List Nat)
    (hl : runLog hash s0 p = l1 ++ x :: l2) (hx : x.2.1 = .blacklist bl ∨ x.2.1 = .refundUsers bl) :
    let L := (el_replay v ledger0 l1).1
    let s1 := run hash s0 (l1.map Entry.tx)
    x.2.2.events.filter (fun ev => ev.name == "refundTicketPayment")
      = bl.filterMap (fun u => if L u > 0 then
          some ⟨"refundTicketPayment", [x.1.caller, x.1.round, x.1.epoch],
            [x.1.caller, x.1.round, x.1.epoch, L u, s1.payTok.code, 0, s1.price * L u]⟩ else none) ∧
    el_sum el_refundTix x.2.2.events = (bl.map L).sum ∧
    (∀ u ∈ bl, (el_replay v ledger0 (l1 ++ [x])).1 u = 0) := by
  intro L s1
  have hc := runLog_chain hash p s0
  rw [hl] at hc
  obtain ⟨t1, t2, c1, hst, _⟩ := hc.split
  obtain ⟨_, rfl⟩ := init_ok hinit
  have hs1 : s1 = t1 := c1.replay.2
  have hL : el_replay v ledger0 l1 = el_ledgerOf t1 := el_replay_chain c1
  have hL1 : L = t1.confirmed := congrArg Prod.fst hL
  obtain ⟨k1, ⟨tail, hev, htail⟩, _⟩ := el_blacklist_out hx hst
  refine ⟨?_, ?_, ?_⟩
  · rw [k1, hL1, hs1]; rfl
  · rw [hev, el_sum_append, (el_bl_refund_sums t1 x.1 0 bl).1,
      el_sum_zero (fun ev hh => el_refundTix_other (htail ev hh).1), hL1]
    rfl
  · intro u hu
    rw [el_replay_append, hL]
    have hv1 : t1.variant = v := el_chain_variant c1
    have := el_index_step hst
    rw [hv1] at this
    show (el_index v (el_ledgerOf t1) x).1 u = 0
    rw [show x = (x.1, x.2.1, x.2.2) from rfl, this]
    have hcb : t2.confirmed = (cbAfter t1 x.1 x.2.1).confirmed := congrArg CB.confirmed (step_cb hst)
    show t2.confirmed u = 0
    rw [hcb]
    rcases hx with hx | hx <;> (rw [hx]; simp [cbAfter, hu])

/-- **sum form** (all variants, any history): for an address `u` that has not settled in the final
    state, `confirmed u` + the tickets refunded to `u` by blacklistings (each refund being `u`'s whole
    ledger entry at that moment, `blacklist_refunds_carry_all`) = Σ tickets of the `confirmTickets`
    events with caller `u` -/
theorem confirmed_sum (hash : List Nat → List Nat) {v : Variant} {a : InitArgs} {e0 : Env} {s0 : State}
    (hinit : init v a e0 = .ok s0) (p : Hist) (u : Nat) (hcl : (run hash s0 p).claimed u = false) :
    (run hash s0 p).confirmed u + el_blRefunded v u ledger0 (runLog hash s0 p)
      = el_sum (el_confirmTix u) (el_events (runLog hash s0 p)) := by
  obtain ⟨_, rfl⟩ := init_ok hinit
  have := el_confirmed_sum (runLog_chain hash p (initState v a e0)) hcl
  rwa [show (initState v a e0).confirmed u = 0 from rfl, Nat.zero_add] at this

/-- no claim and no owner withdrawal is in the log while the base selection has not completed -/
theorem no_claim_before_selection (hash : List Nat → List Nat) {v : Variant} {a : InitArgs} {e0 : Env}
    {s0 : State} (hinit : init v a e0 = .ok s0) (p : Hist) (hsel : (run hash s0 p).flags.selected = false) :
    ∀ x ∈ runLog hash s0 p, x.isClaim = false := by
  intro x hx
  cases hq : x.isClaim with
  | false => rfl
  | true =>
    obtain ⟨j, hj⟩ := List.mem_iff_getElem?.1 hx
    obtain ⟨_, h2, _, _, _, _, h7⟩ := completed_once_from_init hash hinit p
    obtain ⟨_, ⟨i, y, _, hi, hy⟩, _⟩ := h7 j x hj hq
    have : (runLog hash s0 p).any Entry.doneSelect = true :=
      List.any_eq_true.2 ⟨y, List.mem_of_getElem? hi, hy⟩
    rw [← h2, hsel] at this
    cases this

/-- **payment balance** (the six variants without NFTs; call values well-formed: EGLD or ESDT,
    not both; log without claim / owner withdrawal — e.g. any time before the base selection completes,
    `no_claim_before_selection`): for every token other than the launchpad token, in particular the
    payment token, the contract's balance + Σ amounts of the refund events in that token = Σ payments
    of the confirm events in that token -/
theorem payment_balance (hash : List Nat → List Nat) {v : Variant} {a : InitArgs} {e0 : Env} {s0 : State}
    (hinit : init v a e0 = .ok s0) (hv : v.hasNft = false) (p : Hist) (hok : ∀ y ∈ p, EnvOK y.1)
    (hcl : ∀ x ∈ runLog hash s0 p, x.isClaim = false) (tok : Token) (ht : tok ≠ .esdt a.lpTok) :
    (run hash s0 p).bal tok 0 + el_sum (el_refundAmt tok.code) (el_events (runLog hash s0 p))
      = el_sum (el_confirmPay tok.code) (el_events (runLog hash s0 p)) := by
  obtain ⟨_, rfl⟩ := init_ok hinit
  have hok' : ∀ x ∈ runLog hash (initState v a e0) p, EnvOK x.1 := by
    intro x hx
    have hm : Entry.tx x ∈ (runLog hash (initState v a e0) p).map Entry.tx := List.mem_map_of_mem hx
    exact hok _ ((runLog_sublist hash p _).subset hm)
  have := el_chain_bal (runLog_chain hash p (initState v a e0)) hok' hv hcl (tok := tok) ht
  rwa [show (initState v a e0).bal tok 0 = 0 from rfl, Nat.zero_add] at this

/-! ## topics and identifiers -/

/-- all variants, any start state: every event of every logged transaction carries
    `[caller, round, epoch]` of that transaction; the only exceptions are the two topic-less pause
    events, emitted by `pause` / `unpause` -/
theorem topics_along_log (hash : List Nat → List Nat) (s : State) (p : Hist) :
    ∀ x ∈ runLog hash s p, ∀ ev ∈ x.2.2.events,
      (x.2.1 = .pause ∧ ev = ⟨"pauseContract", [], []⟩) ∨
      (x.2.1 = .unpause ∧ ev = ⟨"unpauseContract", [], []⟩) ∨
      ev.topics = [x.1.caller, x.1.round, x.1.epoch] :=
  el_topics_chain (runLog_chain hash p s)

/-- every event name identifies its endpoint: the events of a logged transaction carry only the names
    listed for its endpoint (`el_namesOf`) -/
theorem names_along_log (hash : List Nat → List Nat) (s : State) (p : Hist) :
    ∀ x ∈ runLog hash s p, ∀ ev ∈ x.2.2.events, ev.name ∈ el_namesOf x.2.1 := by
  intro x hx ev hev
  obtain ⟨_, _, s1, s2, _, _, hst, _⟩ := el_chain_mem (runLog_chain hash p s) hx
  exact el_names hst ev hev

/-! ## completion events -/

/-- an entry with a `filterTicketsCompleted` event is a completed filter, etc. -/
theorem done_of_event {hash : List Nat → List Nat} {s1 s2 : State} {x : Entry}
    (hst : step hash s1 x.1 x.2.1 = .ok (s2, x.2.2)) :
    ((∃ ev ∈ x.2.2.events, ev.name = "filterTicketsCompleted") → x.doneFilter = true) ∧
    ((∃ ev ∈ x.2.2.events, ev.name = "selectWinnersCompleted") → x.doneSelect = true) ∧
    ((∃ ev ∈ x.2.2.events, ev.name = "distributeGuaranteedTicketsCompleted") →
      s1.variant.isV2 = true ∧ x.doneAdditional = true) := by
  exact ⟨el_of_name_count (el_filter_entry hst).1, el_of_name_count (el_select_entry hst).1,
    el_of_name_count (el_distribute_entry hst).1⟩

/-- **completion events** (all variants; any start state `s`): in the event log of any history
    * there is at most one `filterTicketsCompleted`, at most one `selectWinnersCompleted`, at most one
      `distributeGuaranteedTicketsCompleted` event;
    * the transaction emitting `filterTicketsCompleted` comes before the one emitting
      `selectWinnersCompleted`, which comes before the one emitting
      `distributeGuaranteedTicketsCompleted`;
    * cut the log at an entry `x`, `s2` being the state right after it: a `filterTicketsCompleted` event
      is the only event of `x` and carries `s2.lastTicketId`; a `selectWinnersCompleted` event is the
      only one and carries `s2.nrWinning`; a `distributeGuaranteedTicketsCompleted` event is the only
      one and carries `s2.nrWinning − s1.nrWinning`;
    * an interrupted selection call (`ret = [1]`) emits no event at all. -/
theorem completion_events (hash : List Nat → List Nat) (s : State) (p : Hist) :
    let l := runLog hash s p
    el_nameCount "filterTicketsCompleted" (el_events l) ≤ 1 ∧
    el_nameCount "selectWinnersCompleted" (el_events l) ≤ 1 ∧
    el_nameCount "distributeGuaranteedTicketsCompleted" (el_events l) ≤ 1 ∧
    (∀ (i j : Nat) (x y : Entry), l[i]? = some x → l[j]? = some y →
      (∃ ev ∈ x.2.2.events, ev.name = "filterTicketsCompleted") →
      (∃ ev ∈ y.2.2.events, ev.name = "selectWinnersCompleted") → i < j) ∧
    (∀ (i j : Nat) (x y : Entry), l[i]? = some x → l[j]? = some y →
      (∃ ev ∈ x.2.2.events, ev.name = "selectWinnersCompleted") →
      (∃ ev ∈ y.2.2.events, ev.name = "distributeGuaranteedTicketsCompleted") → i < j) ∧
    (∀ (l1 l2 : List Entry) (x : Entry), l = l1 ++ x :: l2 →
      let s1 := run hash s (l1.map Entry.tx)
      let s2 := run hash s ((l1 ++ [x]).map Entry.tx)
      ((∃ ev ∈ x.2.2.events, ev.name = "filterTicketsCompleted") →
        x.2.2.events = [⟨"filterTicketsCompleted", [x.1.caller, x.1.round, x.1.epoch],
          [x.1.caller, x.1.round, x.1.epoch, s2.lastTicketId]⟩]) ∧
      ((∃ ev ∈ x.2.2.events, ev.name = "selectWinnersCompleted") →
        x.2.2.events = [⟨"selectWinnersCompleted", [x.1.caller, x.1.round, x.1.epoch],
          [x.1.caller, x.1.round, x.1.epoch, s2.nrWinning]⟩]) ∧
      ((∃ ev ∈ x.2.2.events, ev.name = "distributeGuaranteedTicketsCompleted") →
        ∃ add, s2.nrWinning = s1.nrWinning + add ∧
          x.2.2.events = [⟨"distributeGuaranteedTicketsCompleted", [x.1.caller, x.1.round, x.1.epoch],
            [x.1.caller, x.1.round, x.1.epoch, add]⟩])) ∧
    (∀ x ∈ l, x.2.1.isSelection = true → x.2.2.ret = [1] → x.2.2.events = []) := by
  intro l
  have hc : LogChain hash s l (run hash s p) := runLog_chain hash p s
  obtain ⟨k1, k2, k3, k4, k5, _⟩ := completed_once hash s p
  have hdone : ∀ {i : Nat} {x : Entry}, l[i]? = some x → ∃ s1 s2, step hash s1 x.1 x.2.1 = .ok (s2, x.2.2) := by
    intro i x hi
    obtain ⟨_, _, s1, s2, _, _, hst, _⟩ := el_chain_mem hc (List.mem_of_getElem? hi)
    exact ⟨s1, s2, hst⟩
  refine ⟨?_, ?_, ?_, ?_, ?_, ?_, ?_⟩
  · rw [el_count_filter hc]; exact k1
  · rw [el_count_select hc]; exact k2
  · exact Nat.le_trans (el_count_distribute hc) k3
  · intro i j x y hi hj hx hy
    obtain ⟨_, _, h1⟩ := hdone hi
    obtain ⟨_, _, h2⟩ := hdone hj
    exact k4 i j x y hi hj ((done_of_event h1).1 hx) ((done_of_event h2).2.1 hy)
  · intro i j x y hi hj hx hy
    obtain ⟨_, _, h1⟩ := hdone hi
    obtain ⟨_, _, h2⟩ := hdone hj
    exact k5 i j x y hi hj ((done_of_event h1).2.1 hx) ((done_of_event h2).2.2 hy).2
  · intro l1 l2 x hl s1 s2
    have hc' := hc
    rw [hl] at hc'
    obtain ⟨t1, t2, c1, hst, _⟩ := hc'.split
    have e1 : s1 = t1 := c1.replay.2
    have c2 : LogChain hash s (l1 ++ [x]) t2 := el_chain_append c1 (.cons hst (.nil t2))
    have e2 : s2 = t2 := c2.replay.2
    have hd := done_of_event hst
    refine ⟨?_, ?_, ?_⟩
    · intro h
      rw [e2]
      exact (el_filter_entry hst).2 (hd.1 h)
    · intro h
      rw [e2]
      exact (el_select_entry hst).2 (hd.2.1 h)
    · intro h
      rw [e1, e2]
      exact (el_distribute_entry hst).2 (hd.2.2 h).1 (hd.2.2 h).2
  · intro x hx hsel hr
    obtain ⟨_, _, s1, s2, _, _, hst, _⟩ := el_chain_mem hc hx
    exact el_interrupted_silent hst hsel hr

/-- from a deployment the filter event also precedes the distribution event (`selected → filtered`
    holds at deployment) -/
theorem filter_before_distribution (hash : List Nat → List Nat) {v : Variant} {a : InitArgs} {e0 : Env}
    {s0 : State} (hinit : init v a e0 = .ok s0) (p : Hist) (i j : Nat) (x y : Entry)
    (hi : (runLog hash s0 p)[i]? = some x) (hj : (runLog hash s0 p)[j]? = some y)
    (hx : ∃ ev ∈ x.2.2.events, ev.name = "filterTicketsCompleted")
    (hy : ∃ ev ∈ y.2.2.events, ev.name = "distributeGuaranteedTicketsCompleted") : i < j := by
  have hc := runLog_chain hash p s0
  obtain ⟨_, _, _, _, _, _, h1, _⟩ := el_chain_mem hc (List.mem_of_getElem? hi)
  obtain ⟨_, _, _, _, _, _, h2, _⟩ := el_chain_mem hc (List.mem_of_getElem? hj)
  exact (completed_once hash s0 p).2.2.2.2.2 (init_phaseOK hinit).sel_fil i j x y hi hj
    ((done_of_event h1).1 hx) ((done_of_event h2).2.2 hy).2

/-! ## v2 claims, price changes -/

/-- guarV2, any history: for every address, the launchpad-token amounts of its
    `claimLaunchpadTokens` events add up to `userClaimed` of the final state -/
theorem v2_claims_sum (hash : List Nat → List Nat) {a : InitArgs} {e0 : Env} {s0 : State}
    (hinit : init .guarV2 a e0 = .ok s0) (p : Hist) (u : Nat) :
    (run hash s0 p).userClaimed u = el_sum (el_claimAmt u) (el_events (runLog hash s0 p)) := by
  obtain ⟨_, rfl⟩ := init_ok hinit
  have := el_chain_userClaimed (runLog_chain hash p (initState .guarV2 a e0)) rfl u
  rwa [show (initState .guarV2 a e0).userClaimed u = 0 from rfl, Nat.zero_add] at this

/-- all variants, any history: price and payment token of the final state are what the last
    `setTicketPrice` event of the log carries; with no such event they are the deployment's -/
theorem last_price_event (hash : List Nat → List Nat) {v : Variant} {a : InitArgs} {e0 : Env} {s0 : State}
    (hinit : init v a e0 = .ok s0) (p : Hist) :
    let s := run hash s0 p
    let evs := el_events (runLog hash s0 p)
    (s.price, s.payTok.code) = el_priceAfter (a.price, a.payTok.code) evs ∧
    (∀ ev, el_lastSet evs = some ev → s.price = el_fld ev 5 ∧ s.payTok.code = el_fld ev 3) ∧
    (el_lastSet evs = none → s.price = a.price ∧ s.payTok = a.payTok) := by
  intro s evs
  obtain ⟨_, rfl⟩ := init_ok hinit
  have h : (s.price, s.payTok.code) = el_priceAfter (a.price, a.payTok.code) evs :=
    el_chain_price (runLog_chain hash p (initState v a e0))
  refine ⟨h, ?_, ?_⟩
  · intro ev hev
    have h' := h
    unfold el_priceAfter at h'
    rw [hev] at h'
    exact ⟨congrArg Prod.fst h', congrArg Prod.snd h'⟩
  · intro hnone
    have h' := h
    unfold el_priceAfter at h'
    rw [hnone] at h'
    exact ⟨congrArg Prod.fst h', el_code_inj (congrArg Prod.snd h')⟩

/-! ## non-vacuity (hash = `id`) -/

def bArgs : InitArgs :=
  { lpTok := 1, perTicket := 5, payTok := .egld, price := 10, nrWinning := 1, conf := 5, sel := 10, claim := 15 }
def bEnv : Env := { caller := 1, round := 0 }

/-- base launchpad: the owner changes the price to 12, 7 confirms 2 tickets, 8 confirms 1, 8 is
    blacklisted (refund of 12), the filter is interrupted once, then filter, select, 7 claims -/
def b0 : State := match init .base bArgs bEnv with | .ok s => s | .error _ => default
def bHist : Hist :=
  [ ({ caller := 1, round := 1 }, .addTickets [(7, 2), (8, 1)]),
    ({ caller := 1, round := 2, esdts := [⟨.esdt 1, 0, 5⟩] }, .deposit),
    ({ caller := 1, round := 3 }, .setTicketPrice .egld 12),
    ({ caller := 7, round := 5, egld := 24 }, .confirm 2),
    ({ caller := 8, round := 6, egld := 12 }, .confirm 1),
    ({ caller := 1, round := 7 }, .blacklist [8]),
    ({ caller := 9, round := 10, budget := some 0 }, .filter),
    ({ caller := 9, round := 11 }, .filter),
    ({ caller := 9, round := 12 }, .select),
    ({ caller := 7, round := 15 }, .claim) ]

theorem b0_init : init .base bArgs bEnv = .ok b0 := rfl

example : (el_events (runLog id b0 bHist)).map (fun ev => ev.name) =
      ["setTicketPrice", "confirmTickets", "confirmTickets", "refundTicketPayment",
       "filterTicketsCompleted", "selectWinnersCompleted", "refundTicketPayment"] ∧
    (runLog id b0 (bHist.take 6)).length = 6 ∧
    (run id b0 (bHist.take 6)).confirmed 7 = 2 ∧ (run id b0 (bHist.take 6)).confirmed 8 = 0 ∧
    el_sum (el_confirmTix 7) (el_events (runLog id b0 (bHist.take 6))) = 2 ∧
    el_sum (el_confirmTix 8) (el_events (runLog id b0 (bHist.take 6))) = 1 ∧
    el_blRefunded .base 8 ledger0 (runLog id b0 (bHist.take 6)) = 1 ∧
    (run id b0 (bHist.take 6)).bal .egld 0 = 24 ∧
    el_sum (el_confirmPay 0) (el_events (runLog id b0 (bHist.take 6))) = 36 ∧
    el_sum (el_refundAmt 0) (el_events (runLog id b0 (bHist.take 6))) = 12 ∧
    (run id b0 bHist).price = 12 ∧ (run id b0 bHist).lastTicketId = 2 := by decide +kernel

/-- the hypotheses of `payment_balance` and `confirmed_sum` hold on the first six transactions -/
example : (∀ y ∈ bHist.take 6, EnvOK y.1) ∧ (run id b0 (bHist.take 6)).flags.selected = false ∧
    (run id b0 (bHist.take 6)).claimed 8 = false := by
  refine ⟨?_, by decide +kernel⟩
  intro y hy
  simp [bHist] at hy
  rcases hy with rfl | rfl | rfl | rfl | rfl | rfl <;> simp [EnvOK]

example := payment_balance id b0_init rfl (bHist.take 6)
example := confirmed_sum id b0_init (bHist.take 6) 8

def vArgs : InitArgs :=
  { lpTok := 1, perTicket := 5, payTok := .egld, price := 10, nrWinning := 3, conf := 5, sel := 10, claim := 15 }

/-- guarV2: two participants, 7 confirms both tickets, selection, distribution, 7 claims twice -/
def v0 : State := match init .guarV2 vArgs bEnv with | .ok s => s | .error _ => default
def vHist : Hist :=
  [ ({ caller := 1, round := 1 }, .addTicketsV2 [(7, 2, []), (8, 1, [])]),
    ({ caller := 1, round := 2, esdts := [⟨.esdt 1, 0, 15⟩] }, .deposit),
    ({ caller := 7, round := 5, egld := 20 }, .confirm 2),
    ({ caller := 9, round := 10 }, .filter),
    ({ caller := 9, round := 11 }, .select),
    ({ caller := 9, round := 12 }, .distribute),
    ({ caller := 7, round := 15 }, .claim),
    ({ caller := 7, round := 16 }, .claim) ]

theorem v0_init : init .guarV2 vArgs bEnv = .ok v0 := rfl

example : (el_events (runLog id v0 vHist)).map (fun ev => ev.name) =
      ["addTickets", "confirmTickets", "filterTicketsCompleted", "selectWinnersCompleted",
       "distributeGuaranteedTicketsCompleted", "claimLaunchpadTokens"] ∧
    (run id v0 vHist).userClaimed 7 = 10 ∧
    el_sum (el_claimAmt 7) (el_events (runLog id v0 vHist)) = 10 := by decide +kernel

example := v2_claims_sum id v0_init vHist 7

end LP.Props.C20ledger

#print axioms LP.Props.C20ledger.confirmed_replayed
#print axioms LP.Props.C20ledger.blacklist_refunds_carry_all
#print axioms LP.Props.C20ledger.confirmed_sum
#print axioms LP.Props.C20ledger.no_claim_before_selection
#print axioms LP.Props.C20ledger.payment_balance
#print axioms LP.Props.C20ledger.topics_along_log
#print axioms LP.Props.C20ledger.names_along_log
#print axioms LP.Props.C20ledger.done_of_event
#print axioms LP.Props.C20ledger.completion_events
#print axioms LP.Props.C20ledger.filter_before_distribution
#print axioms LP.Props.C20ledger.v2_claims_sum
#print axioms LP.Props.C20ledger.last_price_event
#print axioms LP.Props.C20ledger.b0_init
#print axioms LP.Props.C20ledger.v0_init
