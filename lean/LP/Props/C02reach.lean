import LP.Proofs.ReachPL3
import LP.Proofs.ReachOfLp
import LP.Props.C01reach
/-
  C02 at every reachable state: launchpad-token solvency of the two plain launchpads
  (`Variant.base` = launchpad, `Variant.locked` = launchpad-locked-tokens; `Plain v`).

  The ledger is read off the invariant `pl_Lp T0 s` (LP/Proofs/ReachPL.lean; `T0` = winning
  tickets given at deployment), which every accepted call keeps (`pl_step`: no `EnvOK`, no
  `CallOK`, no monotone rounds); `AllDone` at a claim or withdrawal is what the claim stage says
  (`stage_claim_iff`), and what holds of every contract (`winner_covered_plain`,
  `all_settled_nrWinning_plain`, `lp_zero_at_end_plain`, the balance an accepted withdrawal leaves)
  is quoted from LP/Proofs/ReachOf.lean and ReachOfLp.lean.
  From the deposit on the ledger is an equality
        bal lpTok = perTicket × k + perTicket × nrWinning
  where `k` counts the tickets whose tokens are the owner's not-yet-withdrawn surplus: `k = 0`
  until the filter completes, then `k = T0 − nrWinning`, frozen by every call except
  `claimPayment`, and `k = 0` for ever after the owner's withdrawal.
-/
namespace LP.PL
open LP LP.FY LP.Props.C09 LP.Props.C01reach LP.Props.AllVariants
open LP.Props.C02 (LpCover)

theorem ledger_of_Lp {T0 : Nat} {s : State} (hI : pl_Lp T0 s) :
    s.payTok ≠ .esdt s.lpTok ∧ 0 < s.perTicket ∧ s.nrWinning ≤ T0 ∧
    (s.flags.filtered = false → s.nrWinning = T0 ∧ s.flags.selected = false) ∧
    (s.deposited = false → s.bal (.esdt s.lpTok) 0 = 0 ∧ ∀ a, s.confirmed a = 0) ∧
    (s.deposited = true → ∃ k, s.bal (.esdt s.lpTok) 0 = s.perTicket * k + s.perTicket * s.nrWinning ∧
      s.nrWinning + k ≤ T0 ∧ (s.flags.filtered = false → k = 0)) := by
  refine ⟨hI.base.tokNe, hI.base.perPos, hI.num.nrwLe, hI.num.notFil,
    fun hd => ⟨hI.num.notDep hd, hI.noConf hd⟩, fun hd => ?_⟩
  obtain ⟨k, h1, h2, h3⟩ := hI.num.dep hd
  refine ⟨k, ?_, h2, h3⟩
  have h1' : s.bal (.esdt s.lpTok) 0 = s.perTicket * (s.nrWinning + k) := h1
  rw [h1', Nat.mul_add]; omega

/-- C02, the launchpad-token ledger: before the deposit the contract holds no launchpad token and
    nobody has confirmed; from the deposit on it holds the owner's not-yet-withdrawn surplus
    `perTicket × k` plus exactly what the outstanding winners are owed. -/
theorem lp_ledger_plain (hash : List Nat → List Nat) (v : Variant) (hv : Plain v) (a0 : InitArgs)
    (s : State) (r : Nat) (h : ReachA hash v a0 s r) :
    s.payTok ≠ .esdt s.lpTok ∧ 0 < s.perTicket ∧ s.nrWinning ≤ a0.nrWinning ∧
    (s.flags.filtered = false → s.nrWinning = a0.nrWinning ∧ s.flags.selected = false) ∧
    (s.deposited = false → s.bal (.esdt s.lpTok) 0 = 0 ∧ ∀ a, s.confirmed a = 0) ∧
    (s.deposited = true → ∃ k, s.bal (.esdt s.lpTok) 0 = s.perTicket * k + s.perTicket * s.nrWinning ∧
      s.nrWinning + k ≤ a0.nrWinning ∧ (s.flags.filtered = false → k = 0)) :=
  ledger_of_Lp (pl_reachA hv h)

/-- the same along any history: no restriction on the calls, their arguments, call values or
    rounds -/
theorem lp_ledger_plain_run (hash : List Nat → List Nat) (v : Variant) (hv : Plain v) (a : InitArgs)
    (e : Env) (s0 : State) (hi : init v a e = .ok s0) (h : List (Env × Call)) :
    let s := run hash s0 h
    s.payTok ≠ .esdt s.lpTok ∧ 0 < s.perTicket ∧ s.nrWinning ≤ a.nrWinning ∧
    (s.flags.filtered = false → s.nrWinning = a.nrWinning ∧ s.flags.selected = false) ∧
    (s.deposited = false → s.bal (.esdt s.lpTok) 0 = 0 ∧ ∀ a, s.confirmed a = 0) ∧
    (s.deposited = true → ∃ k, s.bal (.esdt s.lpTok) 0 = s.perTicket * k + s.perTicket * s.nrWinning ∧
      s.nrWinning + k ≤ a.nrWinning ∧ (s.flags.filtered = false → k = 0)) :=
  ledger_of_Lp (pl_run hash hv hi h)

theorem cover_of_Lp {T0 : Nat} {s : State} (hI : pl_Lp T0 s) (hd : s.deposited = true) : LpCover s :=
  (hI.lpSide hI.base.var).cover hd

/-- C02: from the deposit on the launchpad tokens held cover everything still owed to winners -/
theorem lp_cover_plain (hash : List Nat → List Nat) (v : Variant) (hv : Plain v) (s : State) (r : Nat)
    (h : Reach hash v s r) (hd : s.deposited = true) : LpCover s := by
  obtain ⟨T0, hI⟩ := pl_reach hv h
  exact cover_of_Lp hI hd

/-- the same along any history -/
theorem lp_cover_plain_run (hash : List Nat → List Nat) (v : Variant) (hv : Plain v) (a : InitArgs)
    (e : Env) (s0 : State) (hi : init v a e = .ok s0) (h : List (Env × Call))
    (hd : (run hash s0 h).deposited = true) : LpCover (run hash s0 h) :=
  cover_of_Lp (pl_run hash hv hi h) hd

/-- C02: until the filter completes the contract holds exactly the deposit `perTicket × T0` -/
theorem lp_exact_until_filter (hash : List Nat → List Nat) (v : Variant) (hv : Plain v) (a0 : InitArgs)
    (s : State) (r : Nat) (h : ReachA hash v a0 s r) (hd : s.deposited = true)
    (hf : s.flags.filtered = false) :
    s.bal (.esdt s.lpTok) 0 = s.perTicket * a0.nrWinning ∧ s.nrWinning = a0.nrWinning := by
  obtain ⟨_, _, _, h4, _, h6⟩ := lp_ledger_plain hash v hv a0 s r h
  obtain ⟨k, hk, _, hk0⟩ := h6 hd
  have := hk0 hf
  subst this
  rw [hk, (h4 hf).1]
  exact ⟨by simp, rfl⟩

/-- C02, the single deposit: an accepted `deposit` before the filter has completed (`confirm`
    requires the deposit, so a launch with confirmations has no other moment) is made by the
    owner, is the first one, and transfers exactly `perTicket × T0` launchpad tokens; afterwards
    the contract holds exactly that -/
theorem deposit_exact_plain (hash : List Nat → List Nat) (v : Variant) (hv : Plain v) (a0 : InitArgs)
    (s : State) (r : Nat) (h : ReachA hash v a0 s r) (e : Env) (s' : State) (o : Out)
    (hf : s.flags.filtered = false) (hs : step hash s e .deposit = .ok (s', o)) :
    e.caller = s.owner ∧ s.deposited = false ∧ s.nrWinning = a0.nrWinning ∧
    singleFungible e = .ok (.esdt s.lpTok, s.perTicket * a0.nrWinning) ∧
    s'.deposited = true ∧ s'.totalDeposited = s.perTicket * a0.nrWinning ∧
    s'.perTicket = s.perTicket ∧ s'.nrWinning = a0.nrWinning ∧
    s'.bal (.esdt s'.lpTok) 0 = s'.perTicket * a0.nrWinning ∧ o.xfers = [] := by
  have hI := pl_reachA hv h
  obtain ⟨h1, h2, h3, h4, h5, h6⟩ := pl_deposit_exact hI.base.var hs
  have hT : s.nrWinning = a0.nrWinning := (hI.num.notFil hf).1
  have h0 : s.bal (.esdt s.lpTok) 0 = 0 := hI.num.notDep h2
  rw [hT] at h3 h4 h5
  refine ⟨h1, h2, hT, h3, by rw [h4], by rw [h4], by rw [h4]; rfl, by rw [h4]; exact hT, ?_, h6⟩
  rw [h5, h0, h4]; simp

/-- at any point of any history an accepted deposit is exactly `perTicket × nrWinning` launchpad
    tokens (`nrWinning = T0` until the filter completes) -/
theorem deposit_amount_plain_run (hash : List Nat → List Nat) (v : Variant) (hv : Plain v)
    (a : InitArgs) (e0 : Env) (s0 : State) (hi : init v a e0 = .ok s0) (h : List (Env × Call))
    (e : Env) (s' : State) (o : Out) (hs : step hash (run hash s0 h) e .deposit = .ok (s', o)) :
    let s := run hash s0 h
    singleFungible e = .ok (.esdt s.lpTok, s.perTicket * s.nrWinning) ∧
    (s.flags.filtered = false → s.nrWinning = a.nrWinning) ∧
    s'.bal (.esdt s'.lpTok) 0 = s.perTicket * s.nrWinning ∧ s'.deposited = true := by
  have hI := pl_run hash hv hi h
  obtain ⟨_, h2, h3, h4, h5, _⟩ := pl_deposit_exact hI.base.var hs
  have h0 : (run hash s0 h).bal (.esdt (run hash s0 h).lpTok) 0 = 0 := hI.num.notDep h2
  refine ⟨h3, fun hf => (hI.num.notFil hf).1, ?_, by rw [h4]⟩
  rw [h5, h0]; simp

/-- C02: a second deposit is rejected, whatever happens in between -/
theorem deposit_once_plain (hash : List Nat → List Nat) (s : State) (e : Env) (s' : State) (o : Out)
    (hs : step hash s e .deposit = .ok (s', o)) (h : List (Env × Call)) (e' : Env) :
    ∃ err, step hash (run hash s' h) e' .deposit = .error err := by
  have hd : s'.deposited = true := by
    rw [(LP.Props.C02.deposit_effect hash s s' e o hs).1]
  exact LP.Props.C02.second_deposit_rejected hash _ e' (pl_run_deposited hash h s' hd)

/-- C02: the tokens per ticket cannot change after the deposit -/
theorem perTicket_fixed_after_deposit_plain (hash : List Nat → List Nat) (s : State)
    (hd : s.deposited = true) (h : List (Env × Call)) :
    (run hash s h).perTicket = s.perTicket ∧ (run hash s h).deposited = true :=
  ⟨pl_run_perTicket hash h s hd, pl_run_deposited hash h s hd⟩

theorem reach_variant {hash : List Nat → List Nat} {v : Variant} (hv : Plain v) {s : State} {r : Nat}
    (h : Reach hash v s r) : s.variant = v :=
  (ReachOf.of_plain hv h).variant

/-- C02, every winner receives exactly `perTicket × winning tickets`: an accepted `claim` comes
    after all selection steps; besides the refund, the entitlement leaves as at most one lock call
    (with a transfer of the same amount to `lockAddr`) plus at most one direct transfer, the two
    adding up to the entitlement.  Balance and `nrWinning` drop accordingly; the caller's range
    is gone. -/
theorem winner_receives_exact_plain (hash : List Nat → List Nat) (v : Variant) (hv : Plain v)
    (s : State) (r : Nat) (h : Reach hash v s r) (e : Env) (s' : State) (o : Out)
    (hs : step hash s e .claim = .ok (s', o)) :
    AllDone s ∧
    ∃ (rg : Range) (newLocks : List (Nat × Nat × Nat)) (newDirect : List Nat),
      s.range e.caller = some rg ∧ o.locks = newLocks ∧
      o.xfers = refundXfers s e.caller
        ++ newLocks.map (fun l => (s.lockAddr, (⟨.esdt s.lpTok, 0, l.2.2⟩ : Pay)))
        ++ newDirect.map (fun d => (e.caller, (⟨.esdt s.lpTok, 0, d⟩ : Pay))) ∧
      (∀ l ∈ newLocks, l.1 = s.unlockEpoch ∧ l.2.1 = e.caller ∧ 0 < l.2.2) ∧
      (∀ d ∈ newDirect, 0 < d) ∧ newLocks.length ≤ 1 ∧ newDirect.length ≤ 1 ∧
      (newLocks.map (·.2.2)).sum + newDirect.sum = s.perTicket * winCountOf s e.caller ∧
      (v = .base → newLocks = []) ∧
      winCountOf s e.caller ≤ s.nrWinning ∧
      s.perTicket * winCountOf s e.caller ≤ s.bal (.esdt s.lpTok) 0 ∧
      s'.nrWinning = s.nrWinning - winCountOf s e.caller ∧
      s'.bal (.esdt s'.lpTok) 0 = s.bal (.esdt s.lpTok) 0 - s.perTicket * winCountOf s e.caller ∧
      s'.perTicket = s.perTicket ∧ s'.range e.caller = none ∧ s'.claimed e.caller = true := by
  obtain ⟨T0, hI⟩ := pl_reach hv h
  obtain ⟨rg, nl, nd, h1, h2, h3, h4, h5, h6, h7, h8, h9, h10, h11, h12, h13, h14, h15⟩ :=
    pl_claim_out hI.base hs
  have hvar : s.variant = v := reach_variant hv h
  refine ⟨(stage_claim_iff.mp h1).1, rg, nl, nd, h2, h3, h4, h5, h6, h7, h8, h9, fun hb => h10 (hvar.trans hb), h11,
    h12, h14, h15, ?_, ?_, ?_⟩
  · rw [h13]; rfl
  · rw [h13]; show upd s.range e.caller none e.caller = none; simp
  · rw [h13]; show upd s.claimed e.caller true e.caller = true; simp

/-- base launchpad: one direct transfer of the entitlement (none if zero) after the refund; no
    lock call -/
theorem winner_receives_exact_base (hash : List Nat → List Nat) (s : State) (r : Nat)
    (h : Reach hash .base s r) (e : Env) (s' : State) (o : Out)
    (hs : step hash s e .claim = .ok (s', o)) :
    o.xfers = refundXfers s e.caller ++
      (if winCountOf s e.caller = 0 then []
       else [(e.caller, (⟨.esdt s.lpTok, 0, winCountOf s e.caller * s.perTicket⟩ : Pay))]) ∧
    o.locks = [] := by
  have hv := reach_variant (Or.inl rfl) h
  obtain ⟨_, _, _, h3, h4, _⟩ := (claim_base_iff hash s e s' o (by rw [hv]; rfl) (by rw [hv]; rfl)
    (by rw [hv]; rfl)).mp hs
  exact ⟨h3, h4⟩

/-- locked launchpad, the split: with `amount = winning × perTicket` and
    `L = pl_lockedAmt s e amount` (`lockSplit amount lockPct` before the unlock epoch, `0` from it
    on), `L` goes to `lockAddr` with the lock call `(unlockEpoch, caller, L)` and `amount − L`
    directly to the caller, each only if positive -/
theorem winner_receives_exact_locked (hash : List Nat → List Nat) (s : State) (r : Nat)
    (h : Reach hash .locked s r) (e : Env) (s' : State) (o : Out)
    (hs : step hash s e .claim = .ok (s', o)) :
    o.locks = (if pl_lockedAmt s e (winCountOf s e.caller * s.perTicket) > 0
      then [(s.unlockEpoch, e.caller, pl_lockedAmt s e (winCountOf s e.caller * s.perTicket))] else []) ∧
    o.xfers = refundXfers s e.caller
      ++ (if pl_lockedAmt s e (winCountOf s e.caller * s.perTicket) > 0
          then [(s.lockAddr, (⟨.esdt s.lpTok, 0,
            pl_lockedAmt s e (winCountOf s e.caller * s.perTicket)⟩ : Pay))] else [])
      ++ (if winCountOf s e.caller * s.perTicket
            - pl_lockedAmt s e (winCountOf s e.caller * s.perTicket) > 0
          then [(e.caller, (⟨.esdt s.lpTok, 0, winCountOf s e.caller * s.perTicket
            - pl_lockedAmt s e (winCountOf s e.caller * s.perTicket)⟩ : Pay))] else []) ∧
    pl_lockedAmt s e (winCountOf s e.caller * s.perTicket)
      + (winCountOf s e.caller * s.perTicket - pl_lockedAmt s e (winCountOf s e.caller * s.perTicket))
      = winCountOf s e.caller * s.perTicket ∧
    (e.epoch < s.unlockEpoch → pl_lockedAmt s e (winCountOf s e.caller * s.perTicket)
      = lockSplit (winCountOf s e.caller * s.perTicket) s.lockPct) ∧
    (s.unlockEpoch ≤ e.epoch → pl_lockedAmt s e (winCountOf s e.caller * s.perTicket) = 0) ∧
    0 < s.lockPct ∧ s.lockPct ≤ 10000 := by
  obtain ⟨T0, hI⟩ := pl_reach (Or.inr rfl) h
  obtain ⟨k1, k2, k3⟩ := lk_claim_locked_out (by rw [reach_variant (Or.inr rfl) h]; rfl) hI.base.pct hs
  exact ⟨k1, k2, k3, fun he => if_pos he, fun he => if_neg (Nat.not_lt.mpr he),
    (ReachOf.of_plain (v := .locked) (.inr rfl) h).lockPct_pos rfl, hI.base.pct⟩

/-- C02: after completion, whatever claims and withdrawals happened before, the launchpad tokens
    held cover `perTicket × (winning tickets)` of every participant who has not settled -/
theorem winner_covered_plain (hash : List Nat → List Nat) (v : Variant) (hv : Plain v) (s : State)
    (r : Nat) (h : Reach hash v s r) (hd : AllDone s) (a : Nat) :
    s.perTicket * winCountOf s a ≤ s.bal (.esdt s.lpTok) 0 ∧ winCountOf s a ≤ s.nrWinning :=
  (ReachOf.of_plain hv h).winner_covered hd a

/-- C02, the owner can withdraw only the surplus: an accepted `claimPayment` comes from the owner
    after all selection steps and sends him, besides the ticket proceeds, exactly
    `bal lpTok − perTicket × nrWinning` launchpad tokens, leaving exactly what the outstanding
    winners are owed.  The surplus is then gone for ever (`exact_after_withdrawal`). -/
theorem owner_surplus_plain (hash : List Nat → List Nat) (v : Variant) (hv : Plain v) (s : State)
    (r : Nat) (h : Reach hash v s r) (e : Env) (s' : State) (o : Out)
    (hs : step hash s e .claimPayment = .ok (s', o)) :
    e.caller = s.owner ∧ AllDone s ∧ LpCover s ∧
    s'.bal (.esdt s'.lpTok) 0 = s'.perTicket * s'.nrWinning ∧
    s'.nrWinning = s.nrWinning ∧ s'.perTicket = s.perTicket ∧ s'.lpTok = s.lpTok ∧
    s'.claimablePayment = 0 ∧
    o.xfers = (if s.claimablePayment > 0 then [(e.caller, (⟨s.payTok, 0, s.claimablePayment⟩ : Pay))] else [])
      ++ (if s.bal (.esdt s.lpTok) 0 - s.perTicket * s.nrWinning > 0
          then [(e.caller, (⟨.esdt s.lpTok, 0, s.bal (.esdt s.lpTok) 0 - s.perTicket * s.nrWinning⟩ : Pay))]
          else []) ∧
    o.locks = [] ∧ pl_Exact (pl_view s') := by
  obtain ⟨T0, hI⟩ := pl_reach hv h
  obtain ⟨k1, k2, _, k4, k5, k6, k7⟩ := pl_claimPayment_exact hI.base hs
  have hd : AllDone s := (stage_claim_iff.mp k2).1
  have hb := ((ReachOf.of_plain hv h).owner_surplus (rb_plain_flags hv).1 hs).1
  refine ⟨k1, hd, k4, hb, by rw [k5], by rw [k5], by rw [k5], by rw [k5], k6, k7, ?_, fun _ => hb⟩
  show s'.flags.filtered = true
  rw [k5]; exact pl_fil_of_sel hI.num hd.1

/-- C02, the filter fixes the owner's surplus: when it completes `nrWinning` drops from `T0`, and
    the balance, still the whole deposit, splits into `perTicket × (T0 − nrWinning)` for the
    tickets that can no longer win plus `perTicket × nrWinning` for the winners to come -/
theorem surplus_fixed_by_filter (hash : List Nat → List Nat) (v : Variant) (hv : Plain v)
    (a0 : InitArgs) (s : State) (r : Nat) (h : ReachA hash v a0 s r) (hd : s.deposited = true)
    (e : Env) (s' : State) (o : Out) (hs : step hash s e .filter = .ok (s', o))
    (hf' : s'.flags.filtered = true) :
    s.flags.filtered = false ∧ s.nrWinning = a0.nrWinning ∧ s'.nrWinning ≤ a0.nrWinning ∧
    s'.flags.selected = false ∧ s'.perTicket = s.perTicket ∧ s'.deposited = true ∧
    s'.bal (.esdt s'.lpTok) 0 = s'.perTicket * a0.nrWinning ∧
    s'.bal (.esdt s'.lpTok) 0 =
      s'.perTicket * (a0.nrWinning - s'.nrWinning) + s'.perTicket * s'.nrWinning := by
  have hI := pl_reachA hv h
  have htr : pl_Tr .filt (pl_view s) (pl_view s') := pl_step_Tr hI.base hs
  have hgate := (LP.Props.C06.filter_gate hash s e _ hs).2
  rcases pl_Tr_filter_surplus hI.num htr hd with heq | ⟨h1, h2, h3, h4, h5, h6, h7, h8⟩
  · have : s'.flags.filtered = s.flags.filtered := congrArg pl_V.fil heq
    rw [hf', hgate] at this; cases this
  · have h6' : s'.perTicket = s.perTicket := h6
    have h7' : s'.bal (.esdt s'.lpTok) 0 = s.perTicket * a0.nrWinning := h7
    have h8' : s'.bal (.esdt s'.lpTok) 0 =
        s'.perTicket * s'.nrWinning + s'.perTicket * (a0.nrWinning - s'.nrWinning) := h8
    refine ⟨h1, h2, h5, h4, h6', deposited_mono hs hd, by rw [h7', h6'], by rw [h8']; omega⟩

/-- `lastTicketId` = number of confirmed tickets after the filter -/
theorem winners_after_filter_plain (hash : List Nat → List Nat) (v : Variant) (hv : Plain v)
    (a0 : InitArgs) (s : State) (r : Nat) (h : ReachA hash v a0 s r)
    (hf : s.flags.filtered = true) (hsel : s.flags.selected = false) :
    s.nrWinning = min a0.nrWinning s.lastTicketId :=
  (rb_phase_C (reach_WF hv h).phase hf hsel).nrw

/-- C02, the surplus is frozen: once the filter is complete, accepted calls other than
    `claimPayment` (and the passing of time: `Later`) leave `bal lpTok − perTicket × nrWinning`
    unchanged (claims take out exactly what they reduce `nrWinning` by) -/
theorem surplus_until_withdrawal (hash : List Nat → List Nat) (v : Variant) (hv : Plain v) (s : State)
    (r : Nat) (h : Reach hash v s r) (hd : s.deposited = true) (hf : s.flags.filtered = true)
    (s2 : State) (r2 : Nat) (hl : Later hash s r s2 r2) :
    Reach hash v s2 r2 ∧
    s2.bal (.esdt s2.lpTok) 0 - s2.perTicket * s2.nrWinning
      = s.bal (.esdt s.lpTok) 0 - s.perTicket * s.nrWinning ∧
    s2.perTicket = s.perTicket ∧ s2.deposited = true ∧ s2.flags.filtered = true := by
  induction hl with
  | refl => exact ⟨h, rfl, rfl, hd, hf⟩
  | call s1 r1 e c s2 o _ h1 h2 h3 h4 h5 ih =>
    obtain ⟨i1, i2, i3, i4, i5⟩ := ih
    obtain ⟨T0, hI⟩ := pl_reach hv i1
    obtain ⟨k1, k2, k3, k4⟩ := pl_step_surplus hI h5 h4 i4 i5
    exact ⟨.call s1 r1 e c s2 o i1 h1 h2 h3 h5, k1.trans i2, k2.trans i3, k3, k4⟩
  | wait s1 r1 r2 _ h1 ih =>
    obtain ⟨i1, i2⟩ := ih
    exact ⟨.wait s1 r1 r2 i1 h1, i2⟩

/-- C02, the owner's surplus is the deposit for the tickets that did not win: the filter
    completes in `s1`; whatever claims follow, the owner's first `claimPayment` sends him exactly
    `perTicket × (T0 − s1.nrWinning)` launchpad tokens and leaves exactly the outstanding
    winners' tokens -/
theorem owner_gets_unsold_tickets_plain (hash : List Nat → List Nat) (v : Variant) (hv : Plain v)
    (a0 : InitArgs) (s : State) (r : Nat) (h : ReachA hash v a0 s r) (hd : s.deposited = true)
    (e : Env) (s1 : State) (o1 : Out) (hr : r ≤ e.round) (hok : EnvOK e)
    (hs : step hash s e .filter = .ok (s1, o1)) (hf1 : s1.flags.filtered = true)
    (s2 : State) (r2 : Nat) (hl : Later hash s1 e.round s2 r2)
    (e2 : Env) (s3 : State) (o3 : Out) (hs3 : step hash s2 e2 .claimPayment = .ok (s3, o3)) :
    s1.nrWinning ≤ a0.nrWinning ∧
    o3.xfers = (if s2.claimablePayment > 0 then [(e2.caller, (⟨s2.payTok, 0, s2.claimablePayment⟩ : Pay))] else [])
      ++ (if s.perTicket * (a0.nrWinning - s1.nrWinning) > 0
          then [(e2.caller, (⟨.esdt s2.lpTok, 0, s.perTicket * (a0.nrWinning - s1.nrWinning)⟩ : Pay))]
          else []) ∧
    s3.bal (.esdt s3.lpTok) 0 = s3.perTicket * s3.nrWinning ∧ s3.nrWinning = s2.nrWinning := by
  obtain ⟨_, _, k3, _, k5, k6, _, k8⟩ := surplus_fixed_by_filter hash v hv a0 s r h hd e s1 o1 hs hf1
  have hreach1 : Reach hash v s1 e.round :=
    Reach_iff.mpr ⟨a0, .call s r e .filter s1 o1 h hr hok trivial hs⟩
  obtain ⟨hreach2, j2, j3, _, _⟩ :=
    surplus_until_withdrawal hash v hv s1 e.round hreach1 k6 hf1 s2 r2 hl
  obtain ⟨_, _, _, m4, m5, _, _, _, m9, _, _⟩ := owner_surplus_plain hash v hv s2 r2 hreach2 e2 s3 o3 hs3
  have hsur : s2.bal (.esdt s2.lpTok) 0 - s2.perTicket * s2.nrWinning
      = s.perTicket * (a0.nrWinning - s1.nrWinning) := by
    rw [j2, k8, k5]; omega
  refine ⟨k3, ?_, m4, m5⟩
  rw [m9, hsur]

/-- C02, the owner never takes a winner's share: "the owner's surplus is gone" (`pl_Exact`, which
    holds after his accepted `claimPayment`: `owner_surplus_plain`) is kept by everything that can
    happen later (`pl_Since`: any accepted calls, more withdrawals included), so that from the
    deposit on the contract holds exactly `perTicket × nrWinning`, what the participants who have
    not settled are owed (`winner_covered_plain`) -/
theorem exact_after_withdrawal (hash : List Nat → List Nat) (v : Variant) (hv : Plain v) (s : State)
    (r : Nat) (h : Reach hash v s r) (hE : pl_Exact (pl_view s)) (s2 : State) (r2 : Nat)
    (hl : pl_Since hash s r s2 r2) :
    Reach hash v s2 r2 ∧ pl_Exact (pl_view s2) ∧
    (s2.deposited = true → s2.bal (.esdt s2.lpTok) 0 = s2.perTicket * s2.nrWinning) := by
  obtain ⟨T0, hI⟩ := pl_reach hv h
  obtain ⟨_, k2⟩ := pl_Since_Exact hI hE hl
  exact ⟨pl_Since_reach h hl, k2, k2.2⟩

theorem all_settled_nrWinning_plain (hash : List Nat → List Nat) (v : Variant) (hv : Plain v)
    (s : State) (r : Nat) (h : Reach hash v s r) (hd : AllDone s) (hall : ∀ a, s.range a = none) :
    s.nrWinning = 0 :=
  (ReachOf.of_plain hv h).all_settled_nrWinning hd hall

theorem lp_zero_of_exact (hash : List Nat → List Nat) (v : Variant) (hv : Plain v) (s : State) (r : Nat)
    (h : Reach hash v s r) (hz : s.nrWinning = 0) (hE : pl_Exact (pl_view s)) :
    s.bal (.esdt s.lpTok) 0 = 0 := by
  obtain ⟨T0, hI⟩ := pl_reach hv h
  cases hdep : s.deposited with
  | false => exact hI.num.notDep hdep
  | true =>
    have : s.bal (.esdt s.lpTok) 0 = s.perTicket * s.nrWinning := hE.2 hdep
    rw [this, hz]; simp

/-- C02, nothing is left at the end: once every participant has settled, the owner's
    `claimPayment` leaves no launchpad token in the contract -/
theorem lp_zero_at_end_plain (hash : List Nat → List Nat) (v : Variant) (hv : Plain v) (s : State)
    (r : Nat) (h : Reach hash v s r) (hd : AllDone s) (hall : ∀ a, s.range a = none)
    (e : Env) (s' : State) (o : Out) (hs : step hash s e .claimPayment = .ok (s', o)) :
    s.nrWinning = 0 ∧ s'.bal (.esdt s'.lpTok) 0 = 0 :=
  (ReachOf.of_plain hv h).lp_zero_at_end (rb_plain_flags hv).1 hd hall hs

/-- the same as a statement about a state: `pl_Exact` holds from any accepted `claimPayment` on
    (`owner_surplus_plain`, `exact_after_withdrawal`) -/
theorem lp_zero_when_settled_plain (hash : List Nat → List Nat) (v : Variant) (hv : Plain v) (s : State)
    (r : Nat) (h : Reach hash v s r) (hd : AllDone s) (hall : ∀ a, s.range a = none)
    (hE : pl_Exact (pl_view s)) : s.bal (.esdt s.lpTok) 0 = 0 :=
  lp_zero_of_exact hash v hv s r h (all_settled_nrWinning_plain hash v hv s r h hd hall) hE

/-- the same along histories: the owner withdraws at some point (`s → s1`), then anything
    happens; as soon as all participants have settled the contract holds no launchpad token -/
theorem lp_zero_later_plain (hash : List Nat → List Nat) (v : Variant) (hv : Plain v) (s : State)
    (r : Nat) (h : Reach hash v s r) (e : Env) (s1 : State) (o : Out)
    (hr : r ≤ e.round) (hok : EnvOK e) (hs : step hash s e .claimPayment = .ok (s1, o))
    (s2 : State) (r2 : Nat) (hl : pl_Since hash s1 e.round s2 r2) (hall : ∀ a, s2.range a = none) :
    s2.nrWinning = 0 ∧ s2.bal (.esdt s2.lpTok) 0 = 0 := by
  obtain ⟨_, hd, _, _, _, _, _, _, _, _, hE⟩ := owner_surplus_plain hash v hv s r h e s1 o hs
  have hreach1 : Reach hash v s1 e.round := .call s r e .claimPayment s1 o h hr hok trivial hs
  obtain ⟨hreach2, hE2, _⟩ := exact_after_withdrawal hash v hv s1 e.round hreach1 hE s2 r2 hl
  obtain ⟨T0, hwf⟩ := hreach2.wf hv
  have hd2 : AllDone s2 := ⟨pl_Since_selected ((step_flags_gain hs).1 hd.1) hl, hwf.add⟩
  have hz := all_settled_nrWinning_plain hash v hv s2 r2 hreach2 hd2 hall
  exact ⟨hz, lp_zero_of_exact hash v hv s2 r2 hreach2 hz hE2⟩

/-- C02, conversely: a positive launchpad-token balance after completion means an unsettled
    winner or an owner's surplus that has not been withdrawn -/
theorem lp_positive_means_outstanding_plain (hash : List Nat → List Nat) (v : Variant) (hv : Plain v)
    (s : State) (r : Nat) (h : Reach hash v s r) (hd : AllDone s)
    (hpos : 0 < s.bal (.esdt s.lpTok) 0) :
    s.deposited = true ∧
    ((∃ a rg, s.range a = some rg ∧ 0 < winCountOf s a) ∨
     (s.perTicket * s.nrWinning < s.bal (.esdt s.lpTok) 0 ∧ ¬ pl_Exact (pl_view s))) := by
  obtain ⟨T0, hI⟩ := pl_reach hv h
  have hdep : s.deposited = true := by
    cases hdd : s.deposited with
    | true => rfl
    | false => have := hI.num.notDep hdd; have : s.bal (.esdt s.lpTok) 0 = 0 := this; omega
  refine ⟨hdep, ?_⟩
  by_cases hz : s.nrWinning = 0
  · right
    have hlt : s.perTicket * s.nrWinning < s.bal (.esdt s.lpTok) 0 := by rw [hz]; simpa using hpos
    refine ⟨hlt, fun hE => ?_⟩
    have : s.bal (.esdt s.lpTok) 0 = s.perTicket * s.nrWinning := hE.2 hdep
    omega
  · left
    obtain ⟨L, _, _, hwin, _, _⟩ := three_counts hash v hv s r h hd
    obtain ⟨a, _, ha⟩ := pl_sumOver_pos (winCountOf s) L (by rw [hwin]; omega)
    cases hr : s.range a with
    | none => rw [winCountOf_none hr] at ha; cases ha
    | some rg => exact ⟨a, rg, hr, ha⟩

theorem stOf_step {x : Res (State × Out)} (h : isOk x = true) (d : State) :
    ∃ o, x = .ok (stOf x d, o) :=
  LP.Props.C01reach.stOf_spec h d

/-! #### the base launchpad: the history `ex0 … ex10` of LP/Props/C01reach.lean
   (`T0 = 1`, 5 tokens per ticket, participants 7 and 8 confirm 2 + 1 tickets, one winner) -/

theorem ex2_reach : Reach id .base ex2 2 :=
  Reach.callOk _ _
    (Reach.callOk _ _
      ex0_reach (by decide) (Or.inl rfl) (by show ∀ p ∈ [(7, 2), (8, 1)], 1 ≤ p.2; decide) ex1_ok)
    (by decide) (Or.inl rfl) trivial ex2_ok

/-- the deposit `ex1 → ex2`: exactly `5 × 1` launchpad tokens; the ledger in `ex2` and `ex7` -/
example : ex1.deposited = false ∧ ex1.flags.filtered = false ∧
    isOk (step id ex1 { caller := 1, round := 2, esdts := [⟨.esdt 1, 0, 5⟩] } .deposit) = true ∧
    ex2.deposited = true ∧ ex2.bal (.esdt 1) 0 = 5 ∧ ex2.totalDeposited = 5 ∧
    LpCover ex2 ∧ LpCover ex7 ∧ ex7.bal (.esdt 1) 0 = ex7.perTicket * ex7.nrWinning := by
  refine ⟨?_, ?_, ex2_ok, ?_, ?_, ?_, lp_cover_plain id .base (Or.inl rfl) ex2 2 ex2_reach ?_,
    lp_cover_plain id .base (Or.inl rfl) ex7 12 ex7_reach ?_, ?_⟩ <;> decide +kernel

/-- a deposit of the wrong amount, and a second deposit, are rejected -/
example :
    isOk (step id ex1 { caller := 1, round := 2, esdts := [⟨.esdt 1, 0, 6⟩] } .deposit) = false ∧
    isOk (step id ex2 { caller := 1, round := 3, esdts := [⟨.esdt 1, 0, 5⟩] } .deposit) = false := by
  decide +kernel

/-- `winner_receives_exact_plain` on `ex7 → ex8` (participant 7 holds the winning ticket): one direct
    transfer of `5 × 1` launchpad tokens, no lock call -/
example : ∃ o, step id ex7 { caller := 7, round := 15 } .claim = .ok (ex8, o) ∧ o.locks = [] ∧
    ex8.bal (.esdt ex8.lpTok) 0 = ex7.bal (.esdt ex7.lpTok) 0 - ex7.perTicket * winCountOf ex7 7 ∧
    ex8.nrWinning = ex7.nrWinning - winCountOf ex7 7 := by
  obtain ⟨o, ho'⟩ := stOf_spec ex8_ok ex7
  obtain ⟨_, rg, nl, nd, _, h2, _, _, _, _, _, _, h9, _, _, h12, h13, _⟩ :=
    winner_receives_exact_plain id .base (Or.inl rfl) ex7 12 ex7_reach _ ex8 o ho'
  exact ⟨o, ho', by rw [h2, h9 rfl], h13, h12⟩

example : winCountOf ex7 7 = 1 ∧ ex7.bal (.esdt 1) 0 = 5 ∧ ex8.bal (.esdt 1) 0 = 0 ∧
    ex10.bal (.esdt 1) 0 = 0 ∧ ex10.nrWinning = 0 ∧ ex10.range 7 = none ∧ ex10.range 8 = none := by
  decide +kernel

/-- `lp_zero_of_exact` on the final state `ex10` (both participants settled, the owner has
    withdrawn in `ex8 → ex9`) -/
example : ex10.bal (.esdt ex10.lpTok) 0 = 0 :=
  lp_zero_of_exact id .base (Or.inl rfl) ex10 17 ex10_reach (by decide +kernel)
    (by unfold pl_Exact; decide +kernel)

/-! #### the locked launchpad with a surplus and a non-trivial split
   `T0 = 3`, 1000 tokens per ticket, 25 % locked until epoch 9 in the lock contract 77;
   participant 7 confirms his 2 tickets, participant 8 none: the filter leaves 2 winners and a
   surplus of `1000 × (3 − 2)`. -/

def lkArgs : InitArgs :=
  { lpTok := 1, perTicket := 1000, payTok := .egld, price := 10, nrWinning := 3, conf := 5, sel := 10,
    claim := 15, lockPct := 2500, unlockEpoch := 9, lockAddr := 77 }

def lkDeploy : Env := { caller := 1, round := 0, isContract := fun a => a == 77 }

def l0 : State := match init .locked lkArgs lkDeploy with
  | .ok s => s
  | .error _ => default

def l1 : State := stOf (step id l0 { caller := 1, round := 1 } (.addTickets [(7, 2), (8, 1)])) l0
def l2 : State := stOf (step id l1 { caller := 1, round := 2, esdts := [⟨.esdt 1, 0, 3000⟩] } .deposit) l1
def l3 : State := stOf (step id l2 { caller := 7, round := 5, egld := 20 } (.confirm 2)) l2
def l4 : State := stOf (step id l3 { caller := 9, round := 10 } .filter) l3
def l5 : State := stOf (step id l4 { caller := 9, round := 11 } .select) l4
def l6 : State := stOf (step id l5 { caller := 7, round := 15, epoch := 3 } .claim) l5
def l7 : State := stOf (step id l6 { caller := 1, round := 16, epoch := 3 } .claimPayment) l6

theorem l1_ok : isOk (step id l0 { caller := 1, round := 1 } (.addTickets [(7, 2), (8, 1)])) = true := by
  decide +kernel
theorem l2_ok : isOk (step id l1 { caller := 1, round := 2, esdts := [⟨.esdt 1, 0, 3000⟩] } .deposit) = true := by
  decide +kernel
theorem l3_ok : isOk (step id l2 { caller := 7, round := 5, egld := 20 } (.confirm 2)) = true := by
  decide +kernel
theorem l4_ok : isOk (step id l3 { caller := 9, round := 10 } .filter) = true := by decide +kernel
theorem l5_ok : isOk (step id l4 { caller := 9, round := 11 } .select) = true := by decide +kernel
theorem l6_ok : isOk (step id l5 { caller := 7, round := 15, epoch := 3 } .claim) = true := by decide +kernel
theorem l7_ok : isOk (step id l6 { caller := 1, round := 16, epoch := 3 } .claimPayment) = true := by
  decide +kernel

theorem l0_reachA : ReachA id .locked lkArgs l0 0 := ReachA.init lkDeploy l0 rfl

theorem callOkA {hash : List Nat → List Nat} {v : Variant} {a0 : InitArgs} {s : State} {r : Nat}
    (e : Env) (c : Call) (h : ReachA hash v a0 s r) (hr : r ≤ e.round) (hok : EnvOK e) (hc : CallOK c)
    (hs : isOk (step hash s e c) = true) : ReachA hash v a0 (stOf (step hash s e c) s) e.round :=
  let ⟨o, ho⟩ := stOf_spec hs s
  .call s r e c _ o h hr hok hc ho

theorem l3_reachA : ReachA id .locked lkArgs l3 5 :=
  callOkA _ _
    (callOkA _ _
      (callOkA _ _
        l0_reachA (by decide) (Or.inl rfl) (by show ∀ p ∈ [(7, 2), (8, 1)], 1 ≤ p.2; decide) l1_ok)
      (by decide) (Or.inl rfl) trivial l2_ok)
    (by decide) (Or.inr rfl) trivial l3_ok

theorem l4_reachA : ReachA id .locked lkArgs l4 10 :=
  callOkA _ _ l3_reachA (by decide) (Or.inl rfl) trivial l4_ok

theorem l5_reachA : ReachA id .locked lkArgs l5 11 :=
  callOkA _ _ l4_reachA (by decide) (Or.inl rfl) trivial l5_ok

theorem l6_reachA : ReachA id .locked lkArgs l6 15 :=
  callOkA _ _ l5_reachA (by decide) (Or.inl rfl) trivial l6_ok

theorem l7_reachA : ReachA id .locked lkArgs l7 16 :=
  callOkA _ _ l6_reachA (by decide) (Or.inl rfl) trivial l7_ok

/-- the ledger with a positive surplus: after the filter (`l4`) and after the selection (`l5`) the
    contract holds `1000 × 1` (surplus, `k = 1`) `+ 1000 × 2` (winners) -/
example : l3.bal (.esdt 1) 0 = 3000 ∧ l3.nrWinning = 3 ∧ l4.flags.filtered = true ∧ l4.nrWinning = 2 ∧
    l4.bal (.esdt 1) 0 = l4.perTicket * 1 + l4.perTicket * l4.nrWinning ∧ AllDone l5 ∧
    l5.bal (.esdt 1) 0 = 3000 ∧ winCountOf l5 7 = 2 := by
  unfold AllDone
  decide +kernel

/-- `surplus_fixed_by_filter` on `l3 → l4` -/
example : l4.bal (.esdt l4.lpTok) 0 =
    l4.perTicket * (lkArgs.nrWinning - l4.nrWinning) + l4.perTicket * l4.nrWinning := by
  obtain ⟨o, ho'⟩ := stOf_spec l4_ok l3
  exact (surplus_fixed_by_filter id .locked (Or.inr rfl) lkArgs l3 5 l3_reachA (by decide +kernel) _ l4 o ho'
    (by decide +kernel)).2.2.2.2.2.2.2

/-- the split on `l5 → l6` (epoch 3 < 9): participant 7 is owed
    `1000 × 2`; 25 % = 500 go to the lock contract 77 (one lock call `(9, 7, 500)`), 1500 directly to
    him; the balance drops from 3000 to 1000, `nrWinning` from 2 to 0 -/
example :
    (step id l5 { caller := 7, round := 15, epoch := 3 } .claim).toOption.map
        (fun x => (x.2.locks, x.2.xfers)) =
      some ([(9, 7, 500)], [(77, ⟨.esdt 1, 0, 500⟩), (7, ⟨.esdt 1, 0, 1500⟩)]) ∧
    l6.bal (.esdt 1) 0 = 1000 ∧ l6.nrWinning = 0 ∧ l6.range 7 = none := by
  decide +kernel

example : ∃ (o : Out) (nl : List (Nat × Nat × Nat)) (nd : List Nat), step id l5 { caller := 7, round := 15, epoch := 3 } .claim = .ok (l6, o) ∧
    o.locks = nl ∧ (nl.map (·.2.2)).sum + nd.sum = l5.perTicket * winCountOf l5 7 ∧
    l6.bal (.esdt l6.lpTok) 0 = l5.bal (.esdt l5.lpTok) 0 - l5.perTicket * winCountOf l5 7 := by
  obtain ⟨o, ho'⟩ := stOf_spec l6_ok l5
  obtain ⟨_, rg, nl, nd, _, h2, _, _, _, _, _, h8, _, _, _, _, h13, _⟩ :=
    winner_receives_exact_plain id .locked (Or.inr rfl) l5 11 (Reach_iff.mpr ⟨_, l5_reachA⟩) _ l6 o ho'
  exact ⟨o, nl, nd, ho', h2, h8, h13⟩

/-- `winner_receives_exact_locked` on the same step: `L = lockSplit 2000 2500 = 500` -/
example : ∃ o, step id l5 { caller := 7, round := 15, epoch := 3 } .claim = .ok (l6, o) ∧
    o.locks = [(9, 7, 500)] ∧ pl_lockedAmt l5 { caller := 7, round := 15, epoch := 3 } 2000 = 500 ∧
    winCountOf l5 7 * l5.perTicket = 2000 := by
  obtain ⟨o, ho'⟩ := stOf_spec l6_ok l5
  obtain ⟨h1, _⟩ :=
    winner_receives_exact_locked id l5 11 (Reach_iff.mpr ⟨_, l5_reachA⟩) _ l6 o ho'
  exact ⟨o, ho', h1.trans (by decide +kernel), by decide +kernel⟩

/-- `l6 → l7`: the owner receives the ticket proceeds (20 EGLD) and exactly
    the surplus `1000 × (3 − 2)` launchpad tokens; nothing is left -/
example :
    (step id l6 { caller := 1, round := 16, epoch := 3 } .claimPayment).toOption.map (fun x => x.2.xfers) =
      some [(1, ⟨.egld, 0, 20⟩), (1, ⟨.esdt 1, 0, 1000⟩)] ∧
    l7.bal (.esdt 1) 0 = 0 ∧ l7.nrWinning = 0 := by
  decide +kernel

/-- `owner_surplus_plain` and `lp_zero_of_exact` on the same step -/
example : l7.bal (.esdt l7.lpTok) 0 = l7.perTicket * l7.nrWinning ∧ pl_Exact (pl_view l7) ∧
    l7.bal (.esdt l7.lpTok) 0 = 0 := by
  obtain ⟨o, ho'⟩ := stOf_spec l7_ok l6
  obtain ⟨_, _, _, k4, _, _, _, _, _, _, k11⟩ :=
    owner_surplus_plain id .locked (Or.inr rfl) l6 15 (Reach_iff.mpr ⟨_, l6_reachA⟩) _ l7 o ho'
  exact ⟨k4, k11, lp_zero_of_exact id .locked (Or.inr rfl) l7 16 (Reach_iff.mpr ⟨_, l7_reachA⟩)
    (by decide +kernel) k11⟩

/-! #### nobody takes part: the whole deposit is surplus and goes back to the owner
   (`lp_zero_at_end_plain` with all ranges `none`) -/

def z1 : State := stOf (step id ex0 { caller := 1, round := 2, esdts := [⟨.esdt 1, 0, 5⟩] } .deposit) ex0
def z2 : State := stOf (step id z1 { caller := 9, round := 10 } .filter) z1
def z3 : State := stOf (step id z2 { caller := 9, round := 11 } .select) z2
def z4 : State := stOf (step id z3 { caller := 1, round := 15 } .claimPayment) z3

theorem z4_ok : isOk (step id z3 { caller := 1, round := 15 } .claimPayment) = true := by decide +kernel

theorem z3_reach : Reach id .base z3 11 :=
  Reach.callOk { caller := 9, round := 11 } .select
    (Reach.callOk { caller := 9, round := 10 } .filter
      (Reach.callOk { caller := 1, round := 2, esdts := [⟨.esdt 1, 0, 5⟩] } .deposit ex0_reach
        (by decide) (Or.inl rfl) trivial (by decide +kernel))
      (by decide) (Or.inl rfl) trivial (by decide +kernel))
    (by decide) (Or.inl rfl) trivial (by decide +kernel)

example : AllDone z3 ∧ (∀ a, z3.range a = none) ∧ z3.bal (.esdt 1) 0 = 5 ∧ z3.nrWinning = 0 ∧
    z4.bal (.esdt z4.lpTok) 0 = 0 := by
  obtain ⟨o, ho'⟩ := stOf_spec z4_ok z3
  have hd : AllDone z3 := by unfold AllDone; decide +kernel
  have hall : ∀ a, z3.range a = none := fun _ => rfl
  exact ⟨hd, hall, by decide +kernel, by decide +kernel,
    (lp_zero_at_end_plain id .base (Or.inl rfl) z3 11 z3_reach hd hall _ z4 o ho').2⟩

/-- `lp_positive_means_outstanding_plain` on `z3` (surplus not withdrawn) and on `l5` (unsettled
    winner 7) -/
example : z3.perTicket * z3.nrWinning < z3.bal (.esdt z3.lpTok) 0 ∧
    (∃ a rg, l5.range a = some rg ∧ 0 < winCountOf l5 a) :=
  ⟨by decide +kernel, 7, ⟨1, 2⟩, by decide +kernel⟩

end LP.PL

#print axioms LP.PL.lp_ledger_plain
#print axioms LP.PL.lp_ledger_plain_run
#print axioms LP.PL.lp_cover_plain
#print axioms LP.PL.lp_cover_plain_run
#print axioms LP.PL.lp_exact_until_filter
#print axioms LP.PL.deposit_exact_plain
#print axioms LP.PL.deposit_amount_plain_run
#print axioms LP.PL.deposit_once_plain
#print axioms LP.PL.perTicket_fixed_after_deposit_plain
#print axioms LP.PL.winner_receives_exact_plain
#print axioms LP.PL.winner_receives_exact_base
#print axioms LP.PL.winner_receives_exact_locked
#print axioms LP.PL.winner_covered_plain
#print axioms LP.PL.owner_surplus_plain
#print axioms LP.PL.surplus_fixed_by_filter
#print axioms LP.PL.winners_after_filter_plain
#print axioms LP.PL.surplus_until_withdrawal
#print axioms LP.PL.owner_gets_unsold_tickets_plain
#print axioms LP.PL.exact_after_withdrawal
#print axioms LP.PL.all_settled_nrWinning_plain
#print axioms LP.PL.lp_zero_of_exact
#print axioms LP.PL.lp_zero_at_end_plain
#print axioms LP.PL.lp_zero_when_settled_plain
#print axioms LP.PL.lp_zero_later_plain
#print axioms LP.PL.lp_positive_means_outstanding_plain
#print axioms LP.pl_step
#print axioms LP.pl_init
#print axioms LP.pl_run
#print axioms LP.pl_reach
#print axioms LP.pl_step_Tr
#print axioms LP.pl_step_Exact
#print axioms LP.pl_step_surplus

#print axioms LP.PL.ledger_of_Lp
#print axioms LP.PL.cover_of_Lp
#print axioms LP.PL.reach_variant
#print axioms LP.PL.stOf_step
#print axioms LP.PL.ex2_reach
#print axioms LP.PL.l0_reachA
#print axioms LP.PL.callOkA
#print axioms LP.PL.l3_reachA
#print axioms LP.PL.l4_reachA
#print axioms LP.PL.l5_reachA
#print axioms LP.PL.l6_reachA
#print axioms LP.PL.l7_reachA
#print axioms LP.PL.z3_reach
