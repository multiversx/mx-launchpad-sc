import LP.Props.C01
/-
  C02, launchpad-token solvency: the deposit covers every winner; the owner gets only surplus.
  Endpoint-local facts here.  `LpCover` at every reachable state once deposited: `PL.lp_cover_plain`
  (LP/Props/C02reach.lean) for the base and the locked launchpad, `C02_cover_every_variant`
  (LP/Props/AllVariants2.lean) for all eight contracts.  The monitor `m_C02`
  (tools/lpcheck/monitors.py) checks the coverage after every transaction of every explored
  history.
-/
namespace LP.Props.C02
open LP LP.Props.C01

/-- number of tickets that can ever win, as the deposit endpoint computes it -/
def maxWinners (s : State) : Nat := s.nrWinning + reservedForDeposit s

/-- C02, the single deposit: accepted iff none was made before, the caller is the owner, and the
    call value is exactly one fungible transfer of `perTicket × maxWinners` launchpad tokens -/
theorem deposit_accepted_iff (hash : List Nat → List Nat) (s : State) (e : Env) :
    (∃ r, step hash s e .deposit = .ok r) ↔
      e.caller = s.owner ∧ s.deposited = false ∧
      singleFungible e = .ok (.esdt s.lpTok, s.perTicket * maxWinners s) := by
  unfold step maxWinners
  simp only [endpointMeta, Bool.not_true, Bool.false_and, Bool.false_eq_true, ↓reduceIte, Bool.true_and,
    bne_iff_ne, ne_eq, decide_not, Bool.not_eq_eq_eq_not, Bool.not_true, decide_eq_false_iff_not, exec]
  by_cases ho : e.caller = s.owner
  · simp only [ho, not_true_eq_false, ↓reduceIte, true_and]
    constructor
    · rintro ⟨r, h⟩
      cases hd : depositLaunchpadTokens (creditPayments s e) e ((creditPayments s e).nrWinning + reservedForDeposit (creditPayments s e)) with
      | error err => simp [hd, bind, Except.bind] at h
      | ok s1 =>
        unfold depositLaunchpadTokens at hd
        simp only [bind_ok_iff, pure_ok_iff, req_ok_iff, exists_const, Prod.exists, Bool.not_eq_true',
          beq_iff_eq, creditPayments_deposited, creditPayments_perTicket] at hd
        obtain ⟨hnd, tok, amount, hpay, htok, hamt, _⟩ := hd
        refine ⟨hnd, ?_⟩
        rw [hpay]
        have : (creditPayments s e).lpTok = s.lpTok := rfl
        have h2 : (creditPayments s e).nrWinning = s.nrWinning := rfl
        have h3 : reservedForDeposit (creditPayments s e) = reservedForDeposit s := rfl
        simp [htok, hamt, this, h2, h3]
    · rintro ⟨hnd, hpay⟩
      have : depositLaunchpadTokens (creditPayments s e) e ((creditPayments s e).nrWinning + reservedForDeposit (creditPayments s e)) =
          .ok { creditPayments s e with deposited := true, totalDeposited := s.perTicket * (s.nrWinning + reservedForDeposit s) } := by
        unfold depositLaunchpadTokens
        have h1 : (creditPayments s e).lpTok = s.lpTok := rfl
        have h2 : (creditPayments s e).nrWinning = s.nrWinning := rfl
        have h3 : reservedForDeposit (creditPayments s e) = reservedForDeposit s := rfl
        simp [hpay, hnd, req, bind, Except.bind, pure, Except.pure, h1, h2, h3]
      simp [this, bind, Except.bind, pure, Except.pure]
  · simp [ho]

theorem deposit_effect (hash : List Nat → List Nat) (s s' : State) (e : Env) (o : Out)
    (h : step hash s e .deposit = .ok (s', o)) :
    s' = { creditPayments s e with deposited := true, totalDeposited := s.perTicket * maxWinners s } ∧
    o.xfers = [] ∧ o.events = [] := by
  obtain ⟨m, t, _, _, _, hx, hs, ho⟩ := step_ok_inv h
  simp only [exec, bind_ok_iff, pure_ok_iff] at hx
  obtain ⟨s1, hd, ht⟩ := hx
  unfold depositLaunchpadTokens at hd
  simp only [bind_ok_iff, pure_ok_iff, req_ok_iff, exists_const, Prod.exists, Bool.not_eq_true',
    beq_iff_eq] at hd
  obtain ⟨_, tok, amount, _, _, hamt, hs1⟩ := hd
  subst ht hs1
  refine ⟨?_, by simp [ho, tx0, Tx.setS], by simp [ho, tx0, Tx.setS]⟩
  simp only [hs, Tx.setS, tx0, hamt, maxWinners]
  rfl

theorem second_deposit_rejected (hash : List Nat → List Nat) (s : State) (e : Env) (h : s.deposited = true) :
    ∃ err, step hash s e .deposit = .error err := by
  refine rejected_of_not_ok fun s' o hx => ?_
  have := ((deposit_accepted_iff hash s e).mp ⟨(s', o), hx⟩).2.1
  simp [h] at this

/-- the launchpad tokens held cover the winners not yet paid (every settlement decrements
    `nrWinning`) -/
def LpCover (s : State) : Prop := s.perTicket * s.nrWinning ≤ s.bal (.esdt s.lpTok) 0

/-- C02, the owner withdraws only the surplus: an accepted `claim_ticket_payment` (common path,
    payment token ≠ launchpad token) found the winners covered and leaves exactly
    `perTicket × nrWinning` launchpad tokens. -/
theorem owner_gets_only_surplus (t t' : Tx) (e : Env)
    (hne : t.s.payTok ≠ .esdt t.s.lpTok) (h : claimPaymentCommon t e = .ok t') :
    LpCover t.s ∧
    t'.s.bal (.esdt t.s.lpTok) 0 = t.s.perTicket * t.s.nrWinning ∧
    t'.s.nrWinning = t.s.nrWinning ∧ t'.s.perTicket = t.s.perTicket ∧ t'.s.lpTok = t.s.lpTok := by
  obtain ⟨_, _, hle, hs', _⟩ := claimPaymentCommon_exact h hne
  refine ⟨hle, ?_, by rw [hs'], by rw [hs'], by rw [hs']⟩
  rw [hs']
  show ((t.s.bal.sub t.s.payTok 0 t.s.claimablePayment).sub (.esdt t.s.lpTok) 0 _) (.esdt t.s.lpTok) 0 = _
  rw [sub_same, sub_other _ _ _ _ _ _ (fun hh => hne hh.1.symm)]
  omega

/-- arithmetic core of every settlement: paying `n × perTicket` while `n` tickets leave the
    outstanding count keeps the coverage -/
theorem cover_after_payout (per nrW bal n : Nat) (hn : n ≤ nrW) (hc : per * nrW ≤ bal) :
    n * per ≤ bal ∧ per * (nrW - n) ≤ bal - n * per := by
  have h1 : per * nrW = per * (nrW - n) + n * per := by
    rw [Nat.mul_comm n per, ← Nat.mul_add]; congr 1; omega
  constructor <;> omega

/-- C02: once all winners are paid and the owner has withdrawn, no launchpad token is left -/
theorem final_zero (t t' : Tx) (e : Env) (hne : t.s.payTok ≠ .esdt t.s.lpTok)
    (h : claimPaymentCommon t e = .ok t') (hz : t.s.nrWinning = 0) :
    t'.s.bal (.esdt t.s.lpTok) 0 = 0 := by
  have := (owner_gets_only_surplus t t' e hne h).2.1
  simpa [hz] using this

/-- the deposit of 300 = 100 × (1 + 2) is accepted on a `guarV2` state -/
example : ∃ s : State, ∃ e : Env, ∃ r, step id s e .deposit = .ok r ∧ maxWinners s = 3 := by
  refine ⟨{ variant := .guarV2, owner := 1, lpTok := 1, perTicket := 100, payTok := .egld, price := 10,
            nrWinning := 1, totalGuaranteed := 2, cfg := ⟨5, 10, 15⟩, flags := {}, support := 1 },
          { caller := 1, round := 0, esdts := [⟨.esdt 1, 0, 300⟩] }, _, rfl, rfl⟩

end LP.Props.C02

#print axioms LP.Props.C02.deposit_accepted_iff
#print axioms LP.Props.C02.deposit_effect
#print axioms LP.Props.C02.second_deposit_rejected
#print axioms LP.Props.C02.owner_gets_only_surplus
#print axioms LP.Props.C02.cover_after_payout
#print axioms LP.Props.C02.final_zero
