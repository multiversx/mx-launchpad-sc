import LP.Proofs.ReachVVLive
import LP.Props.C01reachV2
import LP.Proofs.ReachOfVest
/-
  C13 / C17 / C02 for `Variant.guarV2` along reachable histories (`Reach hash .guarV2 s r`,
  LP/Proofs/ReachPlain.lean): vesting is EXACT.  Right after an accepted claim at round `r'` a
  settled participant has received exactly `entitled userTotal (unlockedPct2 r' sched)`, whatever
  the history; the schedule is frozen from the confirmation start round on; the launchpad-token
  balance is known in closed form.  `sched2Of s` is the schedule in force: the stored milestone
  list, or the default `[(0, 100 %)]` while none is stored; `entitled E p = E * p / 10000`.
-/
namespace LP.VV
open LP LP.FY LP.Events LP.Props.AllVariants

/-- **C13 as a reachable-state invariant**: in every reachable state of the v2 launchpad
    * a SETTLED participant's `userClaimed` is exactly the released amount of the schedule in force
      at some round `r' ≤ r` (that of his latest claim: `claim_releases_exactly_guarV2`); an
      unsettled one has no vesting record — hence the `0 ∨ …` form of C13 for everybody;
    * a stored schedule has at most 60 milestones and was accepted by `validSchedule2 t0` at some
      round `t0 ≤ r` before the confirmation start round (what that means is spelled out);
    * the unlocked percentage never exceeds 100 %, nobody is booked more than his entitlement, and
      every entitlement is a multiple of `perTicket` (which one:
      `entitlement_is_won_tickets_guarV2`). -/
theorem released_exact_guarV2 (hash : List Nat → List Nat) (s : State) (r : Nat)
    (h : Reach hash .guarV2 s r) :
    (∀ a, s.claimed a = true → ∃ r', r' ≤ r ∧
      s.userClaimed a = entitled (s.userTotal a) (unlockedPct2 r' (sched2Of s))) ∧
    (∀ a, s.userClaimed a = 0 ∨ ∃ r', r' ≤ r ∧
      s.userClaimed a = entitled (s.userTotal a) (unlockedPct2 r' (sched2Of s))) ∧
    (∀ ms, s.sched2 = some ms → ms.length ≤ 60 ∧ ∃ t0, t0 ≤ r ∧ t0 < s.cfg.conf ∧
      validSchedule2 t0 ms = true ∧ ms ≠ [] ∧
      (∀ m ∈ ms, m.2 ≤ 10000 ∧ t0 ≤ m.1 ∧ m.1 ≤ t0 + 26280000) ∧
      ms.Pairwise (fun a b => a.1 ≤ b.1) ∧ (ms.map (·.2)).sum = 10000) ∧
    (∀ now, unlockedPct2 now (sched2Of s) ≤ 10000) ∧
    (∀ a, s.claimed a = false → s.userTotal a = 0 ∧ s.userClaimed a = 0) ∧
    (∀ a, s.userClaimed a ≤ s.userTotal a) ∧
    (∀ a, ∃ k, s.userTotal a = k * s.perTicket) := by
  obtain ⟨a0, h⟩ := Reach_iff.mp h
  have hwf := reach_WF2 h
  have hx := vv_reach_Exact h
  refine ⟨hx.settled, hx.exact, fun ms hms => ?_, vv_pct_le hwf, fun a => (vv_records hwf a).1,
    fun a => (vv_records hwf a).2, hx.unit⟩
  obtain ⟨q1, t0, q2, q3, q4⟩ := hx.sch ms hms
  obtain ⟨k1, k2, k3, k4⟩ := vv_valid_props q4
  exact ⟨q1, t0, q2, q3, q4, k1, k2, k3, k4⟩

/-- **the entitlement is `perTicket ×` the winning tickets held at settlement**: the ghost record
    `w` (`vv_ReachW`) is written exactly once per participant, by his accepted first claim, with
    `winCountOf` of the state that claim is executed in -/
theorem entitlement_is_won_tickets_guarV2 (hash : List Nat → List Nat) (s : State) (r : Nat)
    (h : Reach hash .guarV2 s r) :
    ∃ w, vv_ReachW hash s r w ∧
      ∀ a, s.userTotal a = w a * s.perTicket ∧ (s.claimed a = false → w a = 0) := by
  obtain ⟨w, hw⟩ := vv_reach_ghost h
  exact ⟨w, hw, vv_ghost_total hw⟩

/-- **one vested claim, first or repeat, from any reachable state**: afterwards the caller's
    `userClaimed` is EXACTLY the released part of his entitlement at the round of the call, whatever
    he claimed before.  The launchpad-token balance drops by exactly the increment, which is sent in
    one transfer with one `claimLaunchpadTokens` event iff it is positive (preceded, on a first
    claim with losing confirmed tickets, by the payment-token refund and its event). -/
theorem claim_releases_exactly_guarV2 (hash : List Nat → List Nat) (s : State) (r : Nat)
    (h : Reach hash .guarV2 s r) (e : Env) (s' : State) (o : Out) (hr : r ≤ e.round)
    (hs : step hash s e .claim = .ok (s', o)) :
    s'.sched2 = s.sched2 ∧
    s'.userClaimed e.caller
      = entitled (s'.userTotal e.caller) (unlockedPct2 e.round (sched2Of s)) ∧
    s.userClaimed e.caller ≤ s'.userClaimed e.caller ∧
    s'.userClaimed e.caller ≤ s'.userTotal e.caller ∧
    ((∀ m ∈ sched2Of s, m.1 ≤ e.round) → s'.userClaimed e.caller = s'.userTotal e.caller) ∧
    (∀ hne : sched2Of s ≠ [], ((sched2Of s).getLast hne).1 ≤ e.round →
      s'.userClaimed e.caller = s'.userTotal e.caller) ∧
    s'.bal (.esdt s.lpTok) 0 + (s'.userClaimed e.caller - s.userClaimed e.caller)
      = s.bal (.esdt s.lpTok) 0 ∧
    (∃ rf, (s.claimed e.caller = true → rf = 0) ∧
      o.xfers = (if rf > 0 then [(e.caller, refundPay s rf)] else []) ++
        (if s'.userClaimed e.caller - s.userClaimed e.caller > 0 then
          [(e.caller, (⟨.esdt s.lpTok, 0, s'.userClaimed e.caller - s.userClaimed e.caller⟩ : Pay))]
          else []) ∧
      o.events = (if rf > 0 then [refundEv s e rf] else []) ++
        (if s'.userClaimed e.caller - s.userClaimed e.caller > 0 then
          [claimEv s e (s'.userClaimed e.caller - s.userClaimed e.caller)] else [])) ∧
    (∀ a, a ≠ e.caller → s'.userClaimed a = s.userClaimed a ∧ s'.userTotal a = s.userTotal a) ∧
    (s.claimed e.caller = true → s'.userTotal e.caller = s.userTotal e.caller) ∧
    (s.claimed e.caller = false →
      s'.userTotal e.caller = winCountOf s e.caller * s.perTicket ∧ s.userClaimed e.caller = 0) := by
  obtain ⟨a0, h⟩ := Reach_iff.mp h
  have hwf := reach_WF2 h
  have hx := vv_reach_Exact h
  have j := hwf.claimVested hx hr hs
  have j5 := j.booked
  rw [pctOf_v2 (v2_flags hwf.var).2.2.1] at j5
  have hfull : ∀ now, unlockedPct2 now (sched2Of s) = 10000 →
      entitled (s'.userTotal e.caller) (unlockedPct2 now (sched2Of s)) = s'.userTotal e.caller :=
    fun now hn => by rw [hn]; exact entitled_full _
  refine ⟨(claim_static hs).2.1, j5, j.mono, ?_, fun hall => ?_, fun hne hlast => ?_, j.paid,
    vv_claim_transfers hwf.var hs, fun a ha => ⟨(j.others a ha).1, (j.others a ha).2.1⟩, j.again,
    j.first⟩
  · rw [j5]; exact entitled_le _ (vv_pct_le hwf _)
  · rw [j5]; exact hfull _ ((vv_sched_in_force hx).2.2.2 e.round hall)
  · rw [j5]; exact hfull _ (vv_sched_after_last hx e.round hne hlast)

/-- **a settled participant's claim is never stuck**: not paused, no call value attached — the
    claim is accepted, or rejected with "Already claimed all tokens" when he has received his whole
    (positive) entitlement.  So `claimable − claimed` in `compute_claimable_tokens`
    (token_release.rs:97) never underflows and the transfer never lacks launchpad tokens. -/
theorem repeat_claim_never_stuck_guarV2 (hash : List Nat → List Nat) (s : State) (r : Nat)
    (h : Reach hash .guarV2 s r) (e : Env) (hr : r ≤ e.round) (hcl : s.claimed e.caller = true)
    (hp : s.paused = false) (h1 : e.egld = 0) (h2 : e.esdts = []) :
    (∃ s' o, step hash s e .claim = .ok (s', o)) ∨
    (step hash s e .claim = .error (.user "Already claimed all tokens") ∧
      0 < s.userTotal e.caller ∧ s.userClaimed e.caller = s.userTotal e.caller) := by
  obtain ⟨T0, hwf, hx⟩ := h.wf2
  exact vv_repeat_claim_total hash hwf hx e hr hcl hp h1 h2

/-- **the first claim is never stuck**: in the claim stage, the claim of an unsettled participant
    who owns a ticket range — not paused, no call value attached — is accepted -/
theorem first_claim_never_stuck_guarV2 (hash : List Nat → List Nat) (s : State) (r : Nat)
    (h : Reach hash .guarV2 s r) (e : Env) (hst : s.stage e = .claim)
    (hcl : s.claimed e.caller = false) (rg : Range) (hrg : s.range e.caller = some rg)
    (hp : s.paused = false) (h1 : e.egld = 0) (h2 : e.esdts = []) :
    ∃ s' o, step hash s e .claim = .ok (s', o) :=
  vv_first_claim_total hash h e hst hcl hrg hp h1 h2

/-- **path independence**: let `e.caller` have settled in a reachable state `s`.  Whatever happens
    afterwards (`vv_Later`: any accepted calls and the passing of time), an accepted claim of his at
    `e.round` leaves his cumulative received amount at exactly
    `entitled userTotal (unlockedPct2 e.round sched)`, for the entitlement fixed at his settlement
    and the schedule in force in `s` — however many claims happened in between, and when. -/
theorem vesting_path_independent_guarV2 (hash : List Nat → List Nat) (s : State) (r : Nat)
    (h : Reach hash .guarV2 s r) (e : Env) (hcl : s.claimed e.caller = true)
    (s1 : State) (r1 : Nat) (hl : vv_Later hash s r s1 r1)
    (s2 : State) (o : Out) (hr : r1 ≤ e.round) (hs : step hash s1 e .claim = .ok (s2, o)) :
    s2.userTotal e.caller = s.userTotal e.caller ∧ s2.sched2 = s.sched2 ∧
    s2.userClaimed e.caller
      = entitled (s.userTotal e.caller) (unlockedPct2 e.round (sched2Of s)) ∧
    s.userClaimed e.caller ≤ s2.userClaimed e.caller ∧
    s2.userClaimed e.caller ≤ s.userTotal e.caller ∧
    ((∀ m ∈ sched2Of s, m.1 ≤ e.round) → s2.userClaimed e.caller = s.userTotal e.caller) := by
  have hR := ReachOf.of_guarV2 h
  have hl' := vv_later_iff.mp hl
  have hv2 : ∀ {x : State}, x.variant = .guarV2 → ∀ now, pctOf x now = unlockedPct2 now (sched2Of x) :=
    fun hx => pctOf_v2 (by rw [hx]; rfl)
  obtain ⟨T0, hwf, hx⟩ := h.wf2
  have hconf := vv_settled_conf hwf hcl
  obtain ⟨k1, k2, k3, k4⟩ := (vestFam hash (v := .guarV2) rfl).path_independent hR hcl hl'
    (pctOf_frozen hconf (fun hq => absurd (hR.variant ▸ hq) nofun) hl') hr trivial hs
  rw [hv2 hR.variant] at k2
  refine ⟨k1, ((claim_static hs).2.1).trans (be_later_sched_frozen hconf hl').1, k2, k3, k4,
    fun hall => ?_⟩
  rw [k2, (vv_sched_in_force hx).2.2.2 e.round hall]
  exact entitled_full _

/-- **path independence over `run`**: the same after ANY list `hist` of transactions (rejected
    ones leave the state alone) with non-decreasing rounds `≥ r`, each carrying EGLD or ESDT but
    not both -/
theorem vesting_path_independent_run_guarV2 (hash : List Nat → List Nat) (s : State) (r : Nat)
    (h : Reach hash .guarV2 s r) (e : Env) (hcl : s.claimed e.caller = true)
    (hist : LP.Props.C17.Hist) (hr : LP.Props.C17.RoundsFrom r (hist ++ [(e, .claim)]))
    (hok : ∀ p ∈ hist, EnvOK p.1 ∧ CallOK p.2)
    (s2 : State) (o : Out) (hs : step hash (run hash s hist) e .claim = .ok (s2, o)) :
    s2.userTotal e.caller = s.userTotal e.caller ∧ s2.sched2 = s.sched2 ∧
    s2.userClaimed e.caller
      = entitled (s.userTotal e.caller) (unlockedPct2 e.round (sched2Of s)) ∧
    s.userClaimed e.caller ≤ s2.userClaimed e.caller ∧
    s2.userClaimed e.caller ≤ s.userTotal e.caller ∧
    ((∀ m ∈ sched2Of s, m.1 ≤ e.round) → s2.userClaimed e.caller = s.userTotal e.caller) := by
  obtain ⟨r1, hl, hq⟩ := be_later_run (P := fun e c => EnvOK e ∧ CallOK c) hash hist s r
    hr.append_left hok
  exact vesting_path_independent_guarV2 hash s r h e hcl _ r1 (vv_later_iff.mpr hl) s2 o (hq _ hr).1 hs

/-- at EVERY later state, not only right after a claim of `a`: entitlement and schedule are those
    of `s`; the received amount never decreases, never exceeds the entitlement, and is `0` or the
    released amount at some round `r' ≤ r2` -/
theorem later_amount_guarV2 (hash : List Nat → List Nat) (s : State) (r : Nat)
    (h : Reach hash .guarV2 s r) (a : Nat) (hcl : s.claimed a = true) (s2 : State) (r2 : Nat)
    (hl : vv_Later hash s r s2 r2) :
    s2.claimed a = true ∧ s2.userTotal a = s.userTotal a ∧ s2.sched2 = s.sched2 ∧
    s2.perTicket = s.perTicket ∧
    s.userClaimed a ≤ s2.userClaimed a ∧ s2.userClaimed a ≤ s.userTotal a ∧
    (s2.userClaimed a = 0 ∨
      ∃ r', r' ≤ r2 ∧ s2.userClaimed a = entitled (s.userTotal a) (unlockedPct2 r' (sched2Of s))) := by
  have hR := ReachOf.of_guarV2 h
  have hl' := vv_later_iff.mp hl
  obtain ⟨T0, hwf, _⟩ := h.wf2
  have hconf := vv_settled_conf hwf hcl
  have f := be_later_sched_frozen hconf hl'
  obtain ⟨k1, k2, k3, k4, k5⟩ := (vestFam hash (v := .guarV2) rfl).later_amount hR hcl hl'
    (pctOf_frozen hconf (fun hq => absurd (hR.variant ▸ hq) nofun) hl')
  refine ⟨k1, k2, f.1, f.2.2.2.1, k3, k4, k5.imp id fun ⟨r', hr', h0⟩ => ⟨r', hr', ?_⟩⟩
  rw [h0, pctOf_v2 (by rw [hR.variant]; rfl)]

/-- **C17 / C13, the schedule is frozen**: from any state (reachable or not) in which the
    confirmation start round has been reached, no accepted calls change the stored schedule —
    present or absent —, the confirmation start round or `perTicket` -/
theorem schedule_frozen_guarV2 (hash : List Nat → List Nat) (s : State) (r : Nat)
    (hconf : s.cfg.conf ≤ r) (s2 : State) (r2 : Nat) (hl : vv_Later hash s r s2 r2) :
    s2.sched2 = s.sched2 ∧ s2.cfg.conf = s.cfg.conf ∧ s2.perTicket = s.perTicket :=
  have f := be_later_sched_frozen hconf (vv_later_iff.mp hl)
  ⟨f.1, f.2.2.1, f.2.2.2.1⟩

/-- if no schedule was stored when the confirmation period started, none is ever stored: the
    default `[(0, 100 %)]` stays in force for ever -/
theorem no_schedule_stays_guarV2 (hash : List Nat → List Nat) (s : State) (r : Nat)
    (hconf : s.cfg.conf ≤ r) (hnone : s.sched2 = none) (s2 : State) (r2 : Nat)
    (hl : vv_Later hash s r s2 r2) :
    s2.sched2 = none ∧ sched2Of s2 = defaultSchedule2 ∧ ∀ now, unlockedPct2 now (sched2Of s2) = 10000 := by
  have h1 : s2.sched2 = none := by rw [(be_later_sched_frozen hconf (vv_later_iff.mp hl)).1]; exact hnone
  have h2 : sched2Of s2 = defaultSchedule2 := sched2Of_none h1
  exact ⟨h1, h2, fun now => by rw [h2]; exact unlockedPct2_default now⟩

/-- **the default** (no schedule stored: 100 % at every round): an accepted claim releases the
    whole entitlement at once; on the first claim that is `winning tickets × perTicket`, paid in
    this call; an accepted repeat claim pays nothing (not in the statement: `claimable2` accepts a
    repeat only when the entitlement is `0`, otherwise "Already claimed all tokens") -/
theorem default_schedule_guarV2 (hash : List Nat → List Nat) (s : State) (r : Nat)
    (h : Reach hash .guarV2 s r) (hnone : s.sched2 = none) (e : Env) (s' : State) (o : Out)
    (hr : r ≤ e.round) (hs : step hash s e .claim = .ok (s', o)) :
    s'.sched2 = none ∧ s'.userClaimed e.caller = s'.userTotal e.caller ∧
    (s.claimed e.caller = false →
      s'.userClaimed e.caller = winCountOf s e.caller * s.perTicket ∧
      s'.bal (.esdt s.lpTok) 0 + winCountOf s e.caller * s.perTicket = s.bal (.esdt s.lpTok) 0) ∧
    (s.claimed e.caller = true → s'.userClaimed e.caller = s.userClaimed e.caller ∧
      s'.bal (.esdt s.lpTok) 0 = s.bal (.esdt s.lpTok) 0) := by
  obtain ⟨j1, j2, j3, _, _, _, j7, _, _, j10, j11⟩ :=
    claim_releases_exactly_guarV2 hash s r h e s' o hr hs
  have hdef : sched2Of s = defaultSchedule2 := sched2Of_none hnone
  have hall : s'.userClaimed e.caller = s'.userTotal e.caller := by
    rw [j2, hdef, unlockedPct2_default]; exact entitled_full _
  refine ⟨by rw [j1]; exact hnone, hall, fun hq => ?_, fun hq => ?_⟩
  · obtain ⟨q1, q2⟩ := j11 hq
    rw [hall, q1] at j7 ⊢
    rw [q2, Nat.sub_zero] at j7
    exact ⟨rfl, j7⟩
  · obtain ⟨hset, _⟩ := released_exact_guarV2 hash s r h
    obtain ⟨r', _, h1⟩ := hset e.caller hq
    rw [hdef, unlockedPct2_default, entitled_full] at h1
    have h2 := j10 hq
    have h3 : s'.userClaimed e.caller = s.userClaimed e.caller := by omega
    rw [h3, Nat.sub_self, Nat.add_zero] at j7
    exact ⟨h3, j7⟩

/-- the schedule can be (re)placed only while nobody has been paid: an accepted `setSchedule2`
    from a reachable state finds `userClaimed = 0` and `userTotal = 0` for everybody, and stores a
    valid schedule of at most 60 milestones -/
theorem setSchedule2_only_before_release_guarV2 (hash : List Nat → List Nat) (s : State) (r : Nat)
    (h : Reach hash .guarV2 s r) (e : Env) (ms : List (Nat × Nat)) (s' : State) (o : Out)
    (hr : r ≤ e.round) (hs : step hash s e (.setSchedule2 ms) = .ok (s', o)) :
    (∀ u, s.userClaimed u = 0 ∧ s.userTotal u = 0) ∧ s'.sched2 = some ms ∧ ms.length ≤ 60 ∧
    validSchedule2 e.round ms = true ∧ e.round < s.cfg.conf := by
  obtain ⟨a0, h⟩ := Reach_iff.mp h
  have hwf := reach_WF2 h
  have hst : s.stage e = .addTickets :=
    LP.Props.C06.terms_only_in_addTickets hash s e _ _ (Or.inr (Or.inr (Or.inr ⟨ms, rfl⟩))) hs
  have hlt : e.round < s.cfg.conf := rb_stage_addTickets hst
  have hns : s.flags.started = false := notStarted_of_lt hwf.tlStarted hr (Or.inl hlt)
  obtain ⟨hna, _⟩ := v2_phase_notStarted hwf.phase hns
  have hf := (hwf.lp.pre hna).fresh
  obtain ⟨m, t, _, _, _, hxx, rfl, _⟩ := step_ok_inv hs
  simp only [exec] at hxx
  obtain ⟨_, k2, k3, rfl⟩ := (setSchedule2_eq_ok _ _ _ _).mp hxx
  exact ⟨fun u => ⟨(hf u).2.1, (hf u).1⟩, rfl, k2, k3, hlt⟩

/-- **the launchpad-token balance in closed form**: once every selection step is complete, in
    every reachable state (deposit made or not, owner withdrawn or not, any number of vested claims),

      balance = `ownSurplus` (what the owner has not yet withdrawn)
              + perTicket × `nrWinning` (the winning tickets of the unsettled: `Σ winCountOf` by
                                         `three_counts_guarV2`)
              + Σ over the settled participants (userTotal − userClaimed). -/
theorem lp_exact_guarV2 (hash : List Nat → List Nat) (s : State) (r : Nat)
    (h : Reach hash .guarV2 s r) (hd : AllDone s) :
    ∃ L : List Nat, L.Nodup ∧ (∀ a, a ∉ L → s.userTotal a = 0 ∧ s.userClaimed a = 0) ∧
      s.bal (.esdt s.lpTok) 0 = ownSurplus s + s.perTicket * s.nrWinning
        + sumOver (fun a => s.userTotal a - s.userClaimed a) L :=
  (ReachOf.of_guarV2 h).lp_exact rfl hd

/-- the closed form with the unsettled winners spelled out: `Lw` lists the participants who may
    still hold a range (their winning tickets add up to `nrWinning`), `L` those with a vesting record -/
theorem lp_exact_unsettled_guarV2 (hash : List Nat → List Nat) (s : State) (r : Nat)
    (h : Reach hash .guarV2 s r) (hd : AllDone s) :
    ∃ Lw L : List Nat, Covers s Lw ∧ (∀ a rg, s.range a = some rg → a ∈ Lw) ∧
      L.Nodup ∧ (∀ a, a ∉ L → s.userTotal a = 0 ∧ s.userClaimed a = 0) ∧
      s.bal (.esdt s.lpTok) 0 = ownSurplus s + s.perTicket * sumOver (winCountOf s) Lw
        + sumOver (fun a => s.userTotal a - s.userClaimed a) L := by
  obtain ⟨Lw, h1, _, hwin, _, hrg⟩ := LP.Props.C01reachV2.three_counts_guarV2 hash s r h hd
  obtain ⟨L, k1, k2, k3⟩ := lp_exact_guarV2 hash s r h hd
  exact ⟨Lw, L, h1, fun a rg hr => (hrg a rg hr).1, k1, k2, by rw [hwin]; exact k3⟩

/-- coverage (`owner_surplus_safe_guarV2` of C01reachV2, which the closed form sharpens): the
    balance covers the owner's surplus, the launchpad tokens of ALL winning tickets not yet settled,
    and everything still owed to any settled participant -/
theorem vested_claim_covered_exact_guarV2 (hash : List Nat → List Nat) (s : State) (r : Nat)
    (h : Reach hash .guarV2 s r) (hd : AllDone s) (a : Nat) :
    ownSurplus s + s.perTicket * s.nrWinning + (s.userTotal a - s.userClaimed a)
      ≤ s.bal (.esdt s.lpTok) 0 :=
  LP.Props.C01reachV2.owner_surplus_safe_guarV2 hash s r h hd a

/-- **the owner's withdrawal**: an accepted `claimPayment` from a reachable state pays the recorded
    proceeds and exactly `ownSurplus` launchpad tokens, clears both records, and leaves in the
    contract exactly the unsettled winners' tokens plus everything still owed to the settled -/
theorem owner_withdrawal_guarV2 (hash : List Nat → List Nat) (s : State) (r : Nat)
    (h : Reach hash .guarV2 s r) (e : Env) (s' : State) (o : Out) (hr : r ≤ e.round) (hok : EnvOK e)
    (hs : step hash s e .claimPayment = .ok (s', o)) :
    AllDone s ∧ s'.claimablePayment = 0 ∧ s'.totalDeposited = 0 ∧ s'.nrWinning = s.nrWinning ∧
    s'.bal (.esdt s.lpTok) 0 + ownSurplus s = s.bal (.esdt s.lpTok) 0 ∧
    s'.bal s.payTok 0 + s.claimablePayment = s.bal s.payTok 0 ∧
    ∃ L : List Nat, L.Nodup ∧ (∀ a, a ∉ L → s'.userTotal a = 0 ∧ s'.userClaimed a = 0) ∧
      s'.bal (.esdt s'.lpTok) 0 = s'.perTicket * s'.nrWinning
        + sumOver (fun a => s'.userTotal a - s'.userClaimed a) L :=
  (ReachOf.of_guarV2 h).owner_withdrawal rfl hr hok hs

/-- **nothing is left**: once every participant has settled and claimed everything and the owner
    has withdrawn (`totalDeposited` cleared), the contract holds no launchpad tokens
    (`lp_nothing_left_guarV2` of C01reachV2); conversely, by the closed form, as long as the balance
    is positive after the owner's withdrawal, somebody has not settled or is still owed a part of
    his entitlement -/
theorem lp_nothing_left_exact_guarV2 (hash : List Nat → List Nat) (s : State) (r : Nat)
    (h : Reach hash .guarV2 s r) (hd : AllDone s) (hown : s.totalDeposited = 0) :
    ((∀ a, s.range a = none) → (∀ a, s.userClaimed a = s.userTotal a) →
      s.bal (.esdt s.lpTok) 0 = 0) ∧
    (0 < s.bal (.esdt s.lpTok) 0 →
      0 < s.nrWinning ∨ ∃ a, s.userClaimed a < s.userTotal a) := by
  obtain ⟨L, _, _, heq⟩ := lp_exact_guarV2 hash s r h hd
  have hsur : ownSurplus s = 0 := ownSurplus_zero hown
  constructor
  · intro hall hclaimed
    exact LP.Props.C01reachV2.lp_nothing_left_guarV2 hash s r h hd hall hclaimed hown
  · intro hpos
    by_cases hnw : 0 < s.nrWinning
    · exact Or.inl hnw
    · right
      have hnw0 : s.nrWinning = 0 := by omega
      apply Classical.byContradiction
      intro hno
      have hsum : sumOver (fun a => s.userTotal a - s.userClaimed a) L = 0 :=
        sumOver_zero _ _ (fun a _ => by
          show s.userTotal a - s.userClaimed a = 0
          have : ¬ s.userClaimed a < s.userTotal a := fun hh => hno ⟨a, hh⟩
          omega)
      rw [heq, hsur, hnw0, hsum] at hpos
      simp at hpos

/-! ### non-vacuity

  A guarV2 history through the whole lifecycle: participants 7 (wins two tickets, entitlement 40)
  and 8 (no winning ticket, refund only), `perTicket = 20`, milestones 25 % / 25 % / 50 % at rounds
  16 / 26 / 50.  7 claims at rounds 16, 26, 30 (nothing) and 50; the owner withdraws in between;
  a late `setSchedule2` is rejected. -/

open LP.Props.C01reach (stOf isOk stOf_spec)

def xArgs : InitArgs :=
  { lpTok := 1, perTicket := 20, payTok := .egld, price := 10, nrWinning := 2, conf := 5, sel := 10, claim := 15 }

def xSched : List (Nat × Nat) := [(16, 2500), (26, 2500), (50, 5000)]

def x0 : State := match init .guarV2 xArgs { caller := 1, round := 0 } with
  | .ok s => s
  | .error _ => default

def x1 : State := stOf (step id x0 { caller := 1, round := 1 }
  (.addTicketsV2 [(7, 3, [(1, 1)]), (8, 1, []), (9, 0, [])])) x0
def x2 : State := stOf (step id x1 { caller := 1, round := 1 } (.setSchedule2 xSched)) x1
def x3 : State := stOf (step id x2 { caller := 1, round := 2, esdts := [⟨.esdt 1, 0, 40⟩] } .deposit) x2
def x4 : State := stOf (step id x3 { caller := 7, round := 5, egld := 20 } (.confirm 2)) x3
def x5 : State := stOf (step id x4 { caller := 8, round := 6, egld := 10 } (.confirm 1)) x4
def x6 : State := stOf (step id x5 { caller := 9, round := 10 } .filter) x5
def x7 : State := stOf (step id x6 { caller := 9, round := 11 } .select) x6
def x8 : State := stOf (step id x7 { caller := 9, round := 12 } .distribute) x7
def x9 : State := stOf (step id x8 { caller := 7, round := 16 } .claim) x8
def x10 : State := stOf (step id x9 { caller := 1, round := 17 } .claimPayment) x9
def x11 : State := stOf (step id x10 { caller := 7, round := 26 } .claim) x10
def x12 : State := stOf (step id x11 { caller := 7, round := 30 } .claim) x11
def x13 : State := stOf (step id x12 { caller := 8, round := 31 } .claim) x12
def x14 : State := stOf (step id x13 { caller := 7, round := 50 } .claim) x13

theorem x6_ok : isOk (step id x5 { caller := 9, round := 10 } .filter) = true := by decide +kernel
theorem x7_ok : isOk (step id x6 { caller := 9, round := 11 } .select) = true := by decide +kernel
theorem x9_ok : isOk (step id x8 { caller := 7, round := 16 } .claim) = true := by decide +kernel
theorem x10_ok : isOk (step id x9 { caller := 1, round := 17 } .claimPayment) = true := by decide +kernel
theorem x11_ok : isOk (step id x10 { caller := 7, round := 26 } .claim) = true := by decide +kernel
theorem x12_ok : isOk (step id x11 { caller := 7, round := 30 } .claim) = true := by decide +kernel
theorem x13_ok : isOk (step id x12 { caller := 8, round := 31 } .claim) = true := by decide +kernel
theorem x14_ok : isOk (step id x13 { caller := 7, round := 50 } .claim) = true := by decide +kernel

open LP.Props.C01reach (Reach.callOk) in
theorem x0_reach : Reach id .guarV2 x0 0 := Reach.init xArgs { caller := 1, round := 0 } x0 rfl

open LP.Props.C01reach (Reach.callOk) in
theorem x5_reach : Reach id .guarV2 x5 6 :=
  Reach.callOk { caller := 8, round := 6, egld := 10 } (.confirm 1)
    (Reach.callOk { caller := 7, round := 5, egld := 20 } (.confirm 2)
      (Reach.callOk { caller := 1, round := 2, esdts := [⟨.esdt 1, 0, 40⟩] } .deposit
        (Reach.callOk { caller := 1, round := 1 } (.setSchedule2 xSched)
          (Reach.callOk { caller := 1, round := 1 }
            (.addTicketsV2 [(7, 3, [(1, 1)]), (8, 1, []), (9, 0, [])])
            x0_reach (by decide) (Or.inl rfl) trivial (by decide +kernel))
          (by decide) (Or.inl rfl) trivial (by decide +kernel))
        (by decide) (Or.inl rfl) trivial (by decide +kernel))
      (by decide) (Or.inr rfl) trivial (by decide +kernel))
    (by decide) (Or.inr rfl) trivial (by decide +kernel)

open LP.Props.C01reach (Reach.callOk) in
theorem x8_reach : Reach id .guarV2 x8 12 :=
  Reach.callOk { caller := 9, round := 12 } .distribute
    (Reach.callOk _ _ (Reach.callOk _ _ x5_reach (by decide) (Or.inl rfl) trivial x6_ok)
      (by decide) (Or.inl rfl) trivial x7_ok)
    (by decide) (Or.inl rfl) trivial (by decide +kernel)

open LP.Props.C01reach (Reach.callOk) in
theorem x9_reach : Reach id .guarV2 x9 16 :=
  Reach.callOk _ _ x8_reach (by decide) (Or.inl rfl) trivial x9_ok

open LP.Props.C01reach (Reach.callOk) in
theorem x10_reach : Reach id .guarV2 x10 17 :=
  Reach.callOk _ _ x9_reach (by decide) (Or.inl rfl) trivial x10_ok

open LP.Props.C01reach (Reach.callOk) in
theorem x11_reach : Reach id .guarV2 x11 26 :=
  Reach.callOk _ _ x10_reach (by decide) (Or.inl rfl) trivial x11_ok

open LP.Props.C01reach (Reach.callOk) in
theorem x14_reach : Reach id .guarV2 x14 50 :=
  Reach.callOk _ _
    (Reach.callOk _ _ (Reach.callOk _ _ x11_reach (by decide) (Or.inl rfl) trivial x12_ok)
      (by decide) (Or.inl rfl) trivial x13_ok)
    (by decide) (Or.inl rfl) trivial x14_ok

private theorem eq_error {α : Type} {x : Res α} {err : Err}
    (h : (match x with | .error e => decide (e = err) | .ok _ => false) = true) :
    x = .error err := by
  cases x with
  | error e => exact congrArg _ (of_decide_eq_true h)
  | ok _ => cases h

theorem x9_later_x13 : vv_Later id x9 16 x13 31 := by
  obtain ⟨o10, h10⟩ := stOf_spec x10_ok x9
  obtain ⟨o11, h11⟩ := stOf_spec x11_ok x10
  obtain ⟨o12, h12⟩ := stOf_spec x12_ok x11
  obtain ⟨o13, h13⟩ := stOf_spec x13_ok x12
  exact .call x12 30 { caller := 8, round := 31 } .claim x13 o13
    (.call x11 26 { caller := 7, round := 30 } .claim x12 o12
      (.call x10 17 { caller := 7, round := 26 } .claim x11 o11
        (.call x9 16 { caller := 1, round := 17 } .claimPayment x10 o10 .refl
          (by decide) (Or.inl rfl) trivial h10)
        (by decide) (Or.inl rfl) trivial h11)
      (by decide) (Or.inl rfl) trivial h12)
    (by decide) (Or.inl rfl) trivial h13

/-- the three paying claims land exactly on 25 %, 50 %, 100 % of the entitlement `2 × 20`; the
    claim at round 30 pays nothing -/
example : x2.sched2 = some xSched ∧ x8.nrWinning = 2 ∧ AllDone x8 ∧ winCountOf x8 7 = 2 ∧
    x9.userTotal 7 = 40 ∧ x9.userClaimed 7 = 10 ∧ x11.userClaimed 7 = 20 ∧
    x12.userClaimed 7 = 20 ∧ x14.userClaimed 7 = 40 ∧ x14.userTotal 7 = 40 ∧
    x13.claimed 8 = true ∧ x13.userTotal 8 = 0 := by
  unfold AllDone; decide +kernel

/-- launchpad tokens: deposit 40, the owner takes nothing back (both tickets won), the balance
    drops by the increments 10, 10, 0, 20; nothing is left at the end -/
example : x8.bal (.esdt 1) 0 = 40 ∧ x9.bal (.esdt 1) 0 = 30 ∧ x10.bal (.esdt 1) 0 = 30 ∧
    x11.bal (.esdt 1) 0 = 20 ∧ x12.bal (.esdt 1) 0 = 20 ∧ x14.bal (.esdt 1) 0 = 0 ∧
    x14.bal .egld 0 = 0 ∧ ownSurplus x9 = 0 := by
  decide +kernel

/-- a late `setSchedule2` is rejected; so is a fifth claim of 7 ("Already claimed all tokens") -/
example : isOk (step id x10 { caller := 1, round := 18 } (.setSchedule2 [(60, 10000)])) = false ∧
    isOk (step id x14 { caller := 7, round := 60 } .claim) = false := by decide +kernel

/-- the rejection at the end is the one `repeat_claim_never_stuck_guarV2` allows -/
example : step id x14 { caller := 7, round := 60 } .claim
    = .error (.user "Already claimed all tokens") ∧ x14.paused = false :=
  ⟨eq_error (by decide +kernel), by decide +kernel⟩

example : x11.userClaimed 7 = entitled (x11.userTotal 7) (unlockedPct2 26 (sched2Of x10)) := by
  obtain ⟨o, h⟩ := stOf_spec x11_ok x10
  simpa only using (claim_releases_exactly_guarV2 id x10 17 x10_reach { caller := 7, round := 26 }
    x11 o (by decide) h).2.1

/-- the claim at round 50 after the later history `x9 → x13` (owner's withdrawal, two more claims
    of 7, the settlement of 8) -/
example : x14.userClaimed 7 = entitled (x9.userTotal 7) (unlockedPct2 50 (sched2Of x9)) ∧
    x14.userClaimed 7 = x9.userTotal 7 := by
  obtain ⟨o, ho⟩ := stOf_spec x14_ok x13
  have h := vesting_path_independent_guarV2 id x9 16 x9_reach { caller := 7, round := 50 }
    (by decide +kernel) x13 31 x9_later_x13 x14 o (by decide) ho
  dsimp only at h
  exact ⟨h.2.2.1, h.2.2.2.2.2 (by decide +kernel)⟩

/-- the same history as a list for `run`, with a REJECTED transaction (a late `setSchedule2`) in
    the middle -/
def xHist : LP.Props.C17.Hist :=
  [({ caller := 1, round := 17 }, .claimPayment), ({ caller := 1, round := 18 }, .setSchedule2 [(60, 10000)]),
   ({ caller := 7, round := 26 }, .claim), ({ caller := 7, round := 30 }, .claim),
   ({ caller := 8, round := 31 }, .claim)]

theorem xHist_run : run id x9 xHist = x13 := by
  obtain ⟨o1, h1⟩ := stOf_spec x10_ok x9
  have h2 : step id x10 { caller := 1, round := 18 } (.setSchedule2 [(60, 10000)])
      = .error (.user "Add tickets period has passed") := eq_error (by decide +kernel)
  obtain ⟨o3, h3⟩ := stOf_spec x11_ok x10
  obtain ⟨o4, h4⟩ := stOf_spec x12_ok x11
  obtain ⟨o5, h5⟩ := stOf_spec x13_ok x12
  unfold xHist
  rw [run_cons_ok (s' := x10) h1, run_cons_err h2, run_cons_ok (s' := x11) h3,
    run_cons_ok (s' := x12) h4, run_cons_ok (s' := x13) h5]
  rfl

theorem x14_step : ∃ o, step id (run id x9 xHist) { caller := 7, round := 50 } .claim = .ok (x14, o) := by
  rw [xHist_run]; exact stOf_spec x14_ok x13

example : x14.userClaimed 7 = entitled (x9.userTotal 7) (unlockedPct2 50 (sched2Of x9)) := by
  obtain ⟨o, ho⟩ := x14_step
  simpa only using (vesting_path_independent_run_guarV2 id x9 16 x9_reach { caller := 7, round := 50 }
    (by decide +kernel) xHist
    ⟨by decide, by decide, by decide, by decide, by decide, by decide, trivial⟩ (by
      intro p hp
      simp only [xHist, List.mem_cons, List.not_mem_nil, or_false] at hp
      rcases hp with rfl | rfl | rfl | rfl | rfl <;> exact ⟨Or.inl rfl, trivial⟩)
    x14 o ho).2.2.1

example : ∃ L : List Nat, L.Nodup ∧ x11.bal (.esdt 1) 0 = ownSurplus x11 + x11.perTicket * x11.nrWinning
    + sumOver (fun a => x11.userTotal a - x11.userClaimed a) L := by
  obtain ⟨L, h1, _, h3⟩ := lp_exact_guarV2 id x11 26 x11_reach (by unfold AllDone; decide +kernel)
  rw [show x11.lpTok = 1 by decide +kernel] at h3
  exact ⟨L, h1, h3⟩

/-- the default: the same history WITHOUT `setSchedule2` — the first claim releases everything -/
def y2 : State := stOf (step id x1 { caller := 1, round := 2, esdts := [⟨.esdt 1, 0, 40⟩] } .deposit) x1
def y3 : State := stOf (step id y2 { caller := 7, round := 5, egld := 20 } (.confirm 2)) y2
def y4 : State := stOf (step id y3 { caller := 8, round := 6, egld := 10 } (.confirm 1)) y3
def y5 : State := stOf (step id y4 { caller := 9, round := 10 } .filter) y4
def y6 : State := stOf (step id y5 { caller := 9, round := 11 } .select) y5
def y7 : State := stOf (step id y6 { caller := 9, round := 12 } .distribute) y6
def y8 : State := stOf (step id y7 { caller := 7, round := 15 } .claim) y7

example : y7.sched2 = none ∧ y8.userTotal 7 = 40 ∧ y8.userClaimed 7 = 40 ∧
    y7.bal (.esdt 1) 0 = 40 ∧ y8.bal (.esdt 1) 0 = 0 := by decide +kernel

end LP.VV

#print axioms LP.VV.released_exact_guarV2
#print axioms LP.VV.entitlement_is_won_tickets_guarV2
#print axioms LP.VV.claim_releases_exactly_guarV2
#print axioms LP.VV.repeat_claim_never_stuck_guarV2
#print axioms LP.VV.first_claim_never_stuck_guarV2
#print axioms LP.VV.vesting_path_independent_guarV2
#print axioms LP.VV.vesting_path_independent_run_guarV2
#print axioms LP.VV.later_amount_guarV2
#print axioms LP.VV.schedule_frozen_guarV2
#print axioms LP.VV.no_schedule_stays_guarV2
#print axioms LP.VV.default_schedule_guarV2
#print axioms LP.VV.setSchedule2_only_before_release_guarV2
#print axioms LP.VV.lp_exact_guarV2
#print axioms LP.VV.lp_exact_unsettled_guarV2
#print axioms LP.VV.vested_claim_covered_exact_guarV2
#print axioms LP.VV.owner_withdrawal_guarV2
#print axioms LP.VV.lp_nothing_left_exact_guarV2
#print axioms LP.VV.x0_reach
#print axioms LP.VV.x5_reach
#print axioms LP.VV.x8_reach
#print axioms LP.VV.x9_reach
#print axioms LP.VV.x14_reach
#print axioms LP.VV.x9_later_x13
#print axioms LP.VV.xHist_run
#print axioms LP.VV.x14_step
