import LP.Proofs.AllVariants2Aux
import LP.Props.C01reachV1
import LP.Props.C01reachG1
import LP.Props.C02reach
import LP.Props.C13reachV2
import LP.Props.C14feeLp
/-
  C02, C03, C11, C12 with the quantifier of the properties: "in every launchpad variant and at every
  reachable state" (the way `LP/Props/AllVariants.lean` states C01), each as ONE statement for all
  eight contracts.

  `ReachOfA hash v a0 s r` (LP/Proofs/ReachOf.lean) is `ReachOf hash v s r` with the
  deployment arguments exposed (`ReachOf_iff`), so that "the winners configured at deployment" is
  the term `a0.nrWinning`.  Restrictions on histories (the same in every family): a transaction
  carries EGLD or ESDT transfers, not both (`EnvOK`); allocation entries have at least one ticket
  (`CallOKOf v`).

  C03 and C11 are stated AT THE CALL THAT COMPLETES the ticket selection: a claim clears the flags
  of the settled participant.  Where the families state things differently the common predicate is
  spelled out in the statement and what a common form would lose is kept as a per-family conjunct
  (`match v with`).
-/
namespace LP.Props.AllVariants
open LP LP.FY
open LP.Props.C02 (LpCover maxWinners)
open LP.Props.C17 (Hist RoundsFrom)

/-- every `run` over an admissible history (rejected transactions leave no trace) from a deployment
    is reachable, with the arguments of that deployment -/
theorem every_history_reachable (hash : List Nat → List Nat) (v : Variant) (a : InitArgs) (e0 : Env)
    (s0 : State) (hi : init v a e0 = .ok s0) (p : Hist) (hr : RoundsFrom e0.round p)
    (hp : ∀ x ∈ p, HistOKOf v x.1 x.2) :
    ∃ r', e0.round ≤ r' ∧ ReachOfA hash v a (run hash s0 p) r' := by
  obtain ⟨r', hl, _⟩ := be_later_run hash p s0 e0.round hr hp
  exact ⟨r', hl.round_le, reachOfA_iff_later.mpr ⟨e0, s0, hi, hl⟩⟩

/-- **C02 for every variant, coverage**: at every reachable state, from the deposit on
    (`T0 = a0.nrWinning`; `reserveOf v s = nrWinning + totalGuaranteed` for the five contracts with
    guaranteed tickets, `nrWinning` for the other three):
    * the payment token is not the launchpad token;
    * the launchpad-token balance covers `perTicket × nrWinning`, the tokens of all outstanding
      winners (`LpCover`);
    * until the filter completes `reserveOf v s = T0` and the balance covers `perTicket × T0`;
    * until all selection steps are complete the balance covers `perTicket × reserveOf v s`
      (nftGuar: until the guaranteed-ticket sub-step of `secondary` is complete, i.e. no NFT-draw
      cursor is saved);
    * after completion (`AllDone`): with `Lw` a duplicate-free list of everybody who may still hold
      a range, `Σ_{Lw} winCountOf = nrWinning`, and
        - the six contracts without vesting: balance ≥ `perTicket × Σ_{Lw} winCountOf`;
        - the two contracts with vesting (`guarV1`, `guarV2`) — an EQUALITY:
          balance = owner's not yet withdrawn surplus + `perTicket × Σ_{Lw} winCountOf`
                    + Σ_{Lv} (userTotal − userClaimed)   (the unvested remainders of the settled;
          `Lv` lists every vesting record);
    * what the common form loses: base, locked — the ledger is an equality
      `balance = perTicket × k + perTicket × nrWinning` with `k` the tickets of the owner's not yet
      withdrawn surplus (`k = 0` until the filter completes, `nrWinning + k ≤ T0`); guarV1, guarV2 —
      until the distribution completes the balance is exactly the recorded deposit and nobody has
      a vesting record. -/
theorem C02_cover_every_variant (hash : List Nat → List Nat) (v : Variant) (a0 : InitArgs)
    (s : State) (r : Nat) (h : ReachOfA hash v a0 s r) (hd : s.deposited = true) :
    s.payTok ≠ .esdt s.lpTok ∧
    s.perTicket * s.nrWinning ≤ s.bal (.esdt s.lpTok) 0 ∧
    (s.flags.filtered = false →
      reserveOf v s = a0.nrWinning ∧ s.perTicket * a0.nrWinning ≤ s.bal (.esdt s.lpTok) 0) ∧
    (s.flags.additional = false → (v = .nftGuar → ∀ rg, s.op ≠ .additional (.nft rg)) →
      s.perTicket * reserveOf v s ≤ s.bal (.esdt s.lpTok) 0) ∧
    (AllDone s →
      ∃ Lw : List Nat, Covers s Lw ∧ (∀ a rg, s.range a = some rg → a ∈ Lw) ∧
        sumOver (winCountOf s) Lw = s.nrWinning ∧
        (v.vested = false → s.perTicket * sumOver (winCountOf s) Lw ≤ s.bal (.esdt s.lpTok) 0) ∧
        (v.vested = true → ∃ Lv : List Nat, Lv.Nodup ∧
          (∀ a, a ∉ Lv → s.userTotal a = 0 ∧ s.userClaimed a = 0) ∧
          (∀ a, s.userClaimed a ≤ s.userTotal a) ∧
          s.bal (.esdt s.lpTok) 0 = ownSurplus s + s.perTicket * sumOver (winCountOf s) Lw
            + sumOver (fun a => s.userTotal a - s.userClaimed a) Lv)) ∧
    (match v with
     | .base | .locked =>
        ∃ k, s.bal (.esdt s.lpTok) 0 = s.perTicket * k + s.perTicket * s.nrWinning ∧
          s.nrWinning + k ≤ a0.nrWinning ∧ (s.flags.filtered = false → k = 0)
     | .guarV1 | .guarV2 =>
        s.flags.additional = false → s.bal (.esdt s.lpTok) 0 = s.totalDeposited ∧
          ∀ a, s.userTotal a = 0 ∧ s.userClaimed a = 0 ∧ s.claimed a = false
     | _ => True) := by
  have key : CoverSpec v a0.nrWinning s := h.cover hd
  obtain ⟨k1, k2, k3, k4, k5⟩ := key
  refine ⟨k1, k2, k3, k4, k5, ?_⟩
  cases v <;> simp only [ReachOfA] at h <;> try trivial
  · exact (LP.PL.lp_ledger_plain hash .base (Or.inl rfl) a0 s r h).2.2.2.2.2 hd
  · exact (LP.PL.lp_ledger_plain hash .locked (Or.inr rfl) a0 s r h).2.2.2.2.2 hd
  · intro hna
    obtain ⟨f1, f2, _⟩ := LP.Props.C01reachG1.lp_before_distribution_guarV1 hash s r
      (g1_Reach_iff.mpr ⟨a0, h⟩) hna
    exact ⟨(f2 hd).1, f1⟩
  · intro hna
    obtain ⟨f1, f2, _⟩ := LP.Props.C01reachV2.lp_before_distribution_guarV2 hash s r
      (Reach_iff.mpr ⟨a0, h⟩) hna
    exact ⟨(f2 hd).1, f1⟩

/-- `CoverSpec` is the conjunction of the first five conjuncts of `C02_cover_every_variant` -/
theorem C02_cover_every_history (hash : List Nat → List Nat) (v : Variant) (a : InitArgs) (e0 : Env)
    (s0 : State) (hi : init v a e0 = .ok s0) (p : Hist) (hr : RoundsFrom e0.round p)
    (hp : ∀ x ∈ p, HistOKOf v x.1 x.2) (hd : (run hash s0 p).deposited = true) :
    CoverSpec v a.nrWinning (run hash s0 p) := by
  obtain ⟨r', _, h⟩ := every_history_reachable hash v a e0 s0 hi p hr hp
  obtain ⟨k1, k2, k3, k4, k5, _⟩ := C02_cover_every_variant hash v a _ r' h hd
  exact ⟨k1, k2, k3, k4, k5⟩

/-- **C02 for every variant, the deposit**: an accepted `deposit` in a reachable state is made by
    the owner, is the first one, and carries exactly one fungible transfer of
    `perTicket × reserveOf v s` launchpad tokens — which, until the filter completes (the only
    moment a launch with confirmations can make it: `confirm` requires the deposit), is
    `perTicket × a0.nrWinning`; the amount is recorded, nothing is sent out; after ANY further
    history a second deposit is rejected. -/
theorem C02_deposit_every_variant (hash : List Nat → List Nat) (v : Variant) (a0 : InitArgs)
    (s : State) (r : Nat) (h : ReachOfA hash v a0 s r) (e : Env) (s' : State) (o : Out)
    (hs : step hash s e .deposit = .ok (s', o)) :
    e.caller = s.owner ∧ s.deposited = false ∧
    singleFungible e = .ok (.esdt s.lpTok, s.perTicket * reserveOf v s) ∧
    (s.flags.filtered = false → reserveOf v s = a0.nrWinning ∧
      singleFungible e = .ok (.esdt s.lpTok, s.perTicket * a0.nrWinning) ∧
      s'.totalDeposited = s.perTicket * a0.nrWinning) ∧
    s'.deposited = true ∧ s'.totalDeposited = s.perTicket * reserveOf v s ∧
    s'.perTicket = s.perTicket ∧ s'.nrWinning = s.nrWinning ∧ s'.lpTok = s.lpTok ∧ o.xfers = [] ∧
    ∀ (p : List (Env × Call)) (e' : Env),
      ∃ err, step hash (run hash s' p) e' .deposit = .error err := by
  obtain ⟨k1, k2, k3⟩ := (LP.Props.C02.deposit_accepted_iff hash s e).mp ⟨_, hs⟩
  obtain ⟨h1, h2, _⟩ := LP.Props.C02.deposit_effect hash s s' e o hs
  rw [maxWinners_eq_reserveOf h] at k3 h1
  have hd' : s'.deposited = true := by rw [h1]
  have k5 : s'.totalDeposited = s.perTicket * reserveOf v s := by rw [h1]
  refine ⟨k1, k2, k3, fun hf => ?_, hd', k5, by rw [h1]; rfl, by rw [h1]; rfl, by rw [h1]; rfl, h2,
    fun p e' => LP.Props.C02.second_deposit_rejected hash _ e' (pl_run_deposited hash p s' hd')⟩
  have hres := h.lpSide.res hf
  exact ⟨hres, by rw [← hres]; exact k3, by rw [← hres]; exact k5⟩

/-- **C02 for every variant, nothing is left at the end**: in a reachable state with all selection
    steps complete and every participant settled (no range left), no winner is outstanding, and
    * the six contracts without vesting: the owner's accepted `claimPayment` leaves NO launchpad
      token in the contract;
    * the two contracts with vesting: the balance is zero once everybody has received his whole
      entitlement and the owner has withdrawn (`totalDeposited` cleared); the owner's accepted
      `claimPayment` clears both records and leaves exactly the unvested remainders
      `Σ (userTotal − userClaimed)`. -/
theorem C02_zero_at_end_every_variant (hash : List Nat → List Nat) (v : Variant) (a0 : InitArgs)
    (s : State) (r : Nat) (h : ReachOfA hash v a0 s r) (hd : AllDone s)
    (hall : ∀ a, s.range a = none) :
    s.nrWinning = 0 ∧
    (v.vested = false → ∀ e s' o, step hash s e .claimPayment = .ok (s', o) →
      s'.nrWinning = 0 ∧ s'.bal (.esdt s'.lpTok) 0 = 0) ∧
    (v.vested = true →
      ((∀ a, s.userClaimed a = s.userTotal a) → s.totalDeposited = 0 →
        s.bal (.esdt s.lpTok) 0 = 0) ∧
      (∀ e s' o, r ≤ e.round → EnvOK e → step hash s e .claimPayment = .ok (s', o) →
        s'.totalDeposited = 0 ∧ s'.claimablePayment = 0 ∧ s'.nrWinning = 0 ∧
        ∃ L : List Nat, L.Nodup ∧ (∀ a, a ∉ L → s'.userTotal a = 0 ∧ s'.userClaimed a = 0) ∧
          s'.bal (.esdt s'.lpTok) 0 = sumOver (fun a => s'.userTotal a - s'.userClaimed a) L)) := by
  have hR := h.toReachOf
  have hz := hR.all_settled_nrWinning hd hall
  refine ⟨hz, fun hv e s' o hs => ?_,
    fun hv => ⟨hR.lp_nothing_left hv hd hall, fun e s' o hr hok hs => ?_⟩⟩
  · obtain ⟨k1, k2, _⟩ := hR.owner_surplus hv hs
    exact ⟨k2.trans hz, by rw [k1, k2, hz, Nat.mul_zero]⟩
  · obtain ⟨_, m2, m3, m4, _, _, L, l1, l2, l3⟩ := hR.owner_withdrawal hv hr hok hs
    exact ⟨m3, m2, m4.trans hz, L, l1, l2, by rw [l3, m4, hz, Nat.mul_zero, Nat.zero_add]⟩

/-- **C03 for every variant**, at the call that completes the selection of winning tickets (a claim
    clears the flags of the settled participant, so "flags = min …" is a statement about the moment
    of completion; `nrWinning` and `claimablePayment` keep the count until the first claim / the
    owner's withdrawal: `three_counts…`, `proceeds_until_withdrawal…` of the family files).

    `completionCall v` is `select` (base, locked, nft), `distribute` (guarV2, migration, lockedGuar,
    guarV1) or `secondary` (nftGuar); `Completed v s' o`: the completion flag is set (`selected`
    resp. v2 `additional`), or — the four contracts with the v1 distribution loop — the call
    returned `[0]` (for those "every call sequence completes" is NOT a theorem:
    `C03_leftover_v1_may_spin`; an accepted call returning `[0]` is exactly a completed one).

    In the state `s'` left by that call: the number of winning flags is
    `min a0.nrWinning lastTicketId`; every winning ticket id lies in `1..lastTicketId`; `nrWinning`
    is the number of flags; the owner's proceeds are `price ×` that number, `price > 0`; the lottery
    flag is set; in every contract but nft (whose NFT draw `selectNft` — which touches no ticket —
    is still to come) all selection steps are complete; the four v1-allocation contracts also keep
    every earlier winner. -/
theorem C03_every_variant (hash : List Nat → List Nat) (v : Variant) (a0 : InitArgs)
    (s : State) (r : Nat) (h : ReachOfA hash v a0 s r) (e : Env) (s' : State) (o : Out)
    (hr : r ≤ e.round) (hs : step hash s e (completionCall v) = .ok (s', o))
    (hc : Completed v s' o) :
    countTrue s'.status s'.lastTicketId = min a0.nrWinning s'.lastTicketId ∧
    (∀ t, s'.status t = true → 1 ≤ t ∧ t ≤ s'.lastTicketId) ∧
    s'.nrWinning = countTrue s'.status s'.lastTicketId ∧
    s'.claimablePayment = s'.price * countTrue s'.status s'.lastTicketId ∧
    0 < s'.price ∧ s'.claimablePayment / s'.price = countTrue s'.status s'.lastTicketId ∧
    s'.flags.selected = true ∧
    (v ≠ .nft → AllDone s') ∧
    (v.v1Alloc = true → ∀ t, s.status t = true → s'.status t = true) := by
  have c := h.completion hr hs hc
  refine ⟨c.count ▸ c.nrw, c.flagsIn, c.count.symm, c.count ▸ c.proceeds, c.pricePos, ?_, c.selected,
    c.done, c.keeps⟩
  rw [c.proceeds, c.count]
  exact Nat.mul_div_cancel_left _ c.pricePos

/-- **C11 for every variant with guaranteed tickets**, at the call that completes the distribution
    (as `C03_every_variant`): in the state `s'` left by that call every holder `u` of a guarantee
    record `st` — for v2: who still holds a ticket range — owns at least `guaranteeOf v s' u st`
    winning tickets:
      v2   `(calcV2 st.infos confirmed).1 = min confirmed (guarantees whose threshold is met)`,
      v1   `min (qualified guarantee (calcV1 st confirmed minConfirmed).1) confirmed`;
    and no winning flag lies outside `1..lastTicketId`.  (`distribute` / `secondary` write neither
    `uts` nor `confirmed`, so these are the records and confirmations at the start of the
    distribution.) -/
theorem C11_every_guaranteed_variant (hash : List Nat → List Nat) (v : Variant)
    (hg : v.hasGuaranteed = true) (a0 : InitArgs)
    (s : State) (r : Nat) (h : ReachOfA hash v a0 s r) (e : Env) (s' : State) (o : Out)
    (hr : r ≤ e.round) (hs : step hash s e (completionCall v) = .ok (s', o))
    (hc : Completed v s' o) :
    (∀ u st, s'.uts u = some st → (v = .guarV2 → ∃ rg, s'.range u = some rg) →
      guaranteeOf v s' u st ≤ winCountOf s' u) ∧
    (∀ t, s'.status t = true → 1 ≤ t ∧ t ≤ s'.lastTicketId) ∧
    (∀ u st, guaranteeOf .guarV2 s' u st
      = min (s'.confirmed u) (metG st.infos (s'.confirmed u))) := by
  have c := h.completion hr hs hc
  exact ⟨c.hon hg, c.flagsIn, fun u st => calcV2_fst _ _⟩

/-- **C11, v2, every later state**: for the v2 contract the guarantee is part of the invariant — in
    EVERY reachable state in which all selection steps are complete every holder of a guarantee
    record who has not settled yet holds at least his guaranteed number of winning tickets -/
theorem C11_guarV2_every_state (hash : List Nat → List Nat) (a0 : InitArgs) (s : State) (r : Nat)
    (h : ReachOfA hash .guarV2 a0 s r) (hd : AllDone s) :
    (∀ u st rg, s.uts u = some st → s.range u = some rg →
      guaranteeOf .guarV2 s u st ≤ winCountOf s u) ∧
    (∀ t, s.status t = true → 1 ≤ t ∧ t ≤ s.lastTicketId) := by
  obtain ⟨k1, k2⟩ := LP.Props.C01reachV2.guarantee_honoured_guarV2 hash s r
    (Reach_iff.mpr ⟨a0, h⟩) hd
  exact ⟨fun u st rg hu hrg => (k1 u st rg hu hrg).1, k2⟩

/-- **C12 for every variant with guaranteed tickets**: until the filter completes,
    `nrWinning + totalGuaranteed` is the winners count configured at deployment (every allocation /
    blacklist / un-blacklist moves tickets between the two without changing the sum); until all
    selection steps are complete the sum never exceeds it (nftGuar: until the guaranteed-ticket
    sub-step is complete), nor does `nrWinning` alone -/
theorem C12_every_guaranteed_variant (hash : List Nat → List Nat) (v : Variant)
    (hg : v.hasGuaranteed = true) (a0 : InitArgs) (s : State) (r : Nat)
    (h : ReachOfA hash v a0 s r) :
    (s.flags.filtered = false → s.nrWinning + s.totalGuaranteed = a0.nrWinning) ∧
    (s.flags.additional = false → (v = .nftGuar → ∀ rg, s.op ≠ .additional (.nft rg)) →
      s.nrWinning + s.totalGuaranteed ≤ a0.nrWinning) ∧
    (s.flags.additional = false → s.nrWinning ≤ a0.nrWinning) :=
  have L := h.lpSide
  ⟨L.res_guar hg, L.owedLe hg, L.nrwLe hg⟩

/-- C12 in the notation of C02, all eight contracts: until the filter completes the number of
    tickets the deposit is computed from is `a0.nrWinning` -/
theorem C12_reserveOf_every_variant (hash : List Nat → List Nat) (v : Variant) (a0 : InitArgs)
    (s : State) (r : Nat) (h : ReachOfA hash v a0 s r) (hf : s.flags.filtered = false) :
    reserveOf v s = a0.nrWinning ∧ maxWinners s = a0.nrWinning := by
  have h1 := h.lpSide.res hf
  exact ⟨h1, by rw [maxWinners_eq_reserveOf h]; exact h1⟩

/-- **C03, until the owner withdraws**: once all selection steps are complete, every accepted call
    keeps the price and the completion flags, and leaves `claimablePayment` unchanged unless it is
    the owner's `claimPayment`, which sets it to zero — so that, with `C03_every_variant`, until the
    owner withdraws `claimablePayment / price` is the number of winning flags at completion.
    `_partial`: the hypothesis `hv` names five of the variants but is not used — the proof is
    `ReachOf.proceeds`, which covers all eight; the statement without `hv` is
    `C03_proceeds_until_withdrawal_every_variant` (LP/Props/C03proceeds.lean). -/
theorem C03_proceeds_until_withdrawal_partial (hash : List Nat → List Nat) (v : Variant)
    (hv : v = .base ∨ v = .locked ∨ v = .migration ∨ v = .lockedGuar ∨ v = .guarV1)
    (a0 : InitArgs) (s : State) (r : Nat) (h : ReachOfA hash v a0 s r) (hd : AllDone s)
    (e : Env) (c : Call) (s' : State) (o : Out) (hr : r ≤ e.round)
    (hs : step hash s e c = .ok (s', o)) :
    s'.price = s.price ∧ AllDone s' ∧
    (s'.claimablePayment = s.claimablePayment ∨ (c = .claimPayment ∧ s'.claimablePayment = 0)) :=
  h.toReachOf.proceeds hd hr hs

/-! ### non-vacuity, on the concrete reachable states of the family files -/

section NonVacuity
open LP.PL LP.Props.C01reach

def lgArgs : InitArgs :=
  { LP.Props.C01reachV1.exArgs with lockPct := 5000, unlockEpoch := 10, lockAddr := 99 }

def lgDeploy : Env := { caller := 1, round := 0, isContract := fun a => a == 99 }

def lg0 : State := match init .lockedGuar lgArgs lgDeploy with
  | .ok s => s
  | .error _ => default

/-- reachable states of all eight contracts with the hypotheses of `C02_cover_every_variant`
    (before the filter / during the distribution / after completion / after claims and the owner's
    withdrawal) -/
example :
    (ReachOfA id .locked lkArgs l3 5 ∧ l3.deposited = true ∧ l3.flags.filtered = false) ∧
    (ReachOfA id .locked lkArgs l7 16 ∧ l7.deposited = true ∧ AllDone l7) ∧
    (ReachOfA id .migration LP.Props.C01reachV1.exArgs LP.Props.C01reachV1.ex10 13 ∧
      LP.Props.C01reachV1.ex10.deposited = true ∧
      LP.Props.C01reachV1.ex10.flags.additional = false) ∧
    (ReachOfA id .migration LP.Props.C01reachV1.exArgs LP.Props.C01reachV1.ex14 17 ∧
      LP.Props.C01reachV1.ex14.deposited = true ∧ AllDone LP.Props.C01reachV1.ex14) ∧
    (ReachOfA id .guarV1 LP.Props.C01reachG1.wArgs LP.Props.C01reachG1.w12 50 ∧
      LP.Props.C01reachG1.w12.deposited = true ∧ AllDone LP.Props.C01reachG1.w12) ∧
    (ReachOfA id .nftGuar LP.Props.C14reachG.gArgs LP.Props.C14reachG.g18 17 ∧
      LP.Props.C14reachG.g18.deposited = true ∧ AllDone LP.Props.C14reachG.g18) ∧
    (∃ a0, ReachOfA id .guarV2 a0 LP.VV.x14 50 ∧ LP.VV.x14.deposited = true ∧ AllDone LP.VV.x14) ∧
    (∃ a0, ReachOfA id .nft a0 LP.Props.C14reach.n12 14 ∧ LP.Props.C14reach.n12.deposited = true ∧
      AllDone LP.Props.C14reach.n12) ∧
    (∃ a0, ReachOfA id .base a0 ex7 12 ∧ ex7.deposited = true ∧ AllDone ex7) ∧
    (ReachOfA id .lockedGuar lgArgs lg0 0 ∧ lg0.lockPct = 5000) :=
  ⟨⟨l3_reachA, by decide +kernel⟩, ⟨l7_reachA, by unfold AllDone; decide +kernel⟩,
    ⟨LP.Props.C01reachV1.ex10_reach, by decide +kernel⟩,
    ⟨LP.Props.C01reachV1.ex14_reach, by unfold AllDone; decide +kernel⟩,
    ⟨LP.Props.C01reachG1.w12_reach, by unfold AllDone; decide +kernel⟩,
    ⟨LP.Props.C14reachG.g18_reach, by unfold AllDone; decide +kernel⟩,
    by
      obtain ⟨a0, h⟩ := Reach_iff.mp LP.VV.x14_reach
      exact ⟨a0, h, by unfold AllDone; decide +kernel⟩,
    by
      obtain ⟨a0, h⟩ := Reach_iff.mp LP.Props.C14reach.n12_reach
      exact ⟨a0, h, by unfold AllDone; decide +kernel⟩,
    by
      obtain ⟨a0, h⟩ := Reach_iff.mp ex7_reach
      exact ⟨a0, h, by unfold AllDone; decide +kernel⟩,
    ⟨initA_reachable id .lockedGuar lgArgs lgDeploy lg0 rfl, by decide +kernel⟩⟩

/-- `C02_cover_every_variant` on the locked launchpad before the filter: the whole deposit
    `1000 × 3` is there -/
example : reserveOf .locked l3 = lkArgs.nrWinning ∧
    l3.perTicket * lkArgs.nrWinning ≤ l3.bal (.esdt l3.lpTok) 0 ∧ l3.bal (.esdt 1) 0 = 3000 := by
  obtain ⟨_, _, k3, _⟩ := C02_cover_every_variant id .locked lkArgs l3 5 l3_reachA (by decide +kernel)
  have k := k3 (by decide +kernel)
  exact ⟨k.1, k.2, by decide +kernel⟩

/-- … on the migration launchpad in the middle of an interrupted distribution: the reserve is
    still covered -/
example : LP.Props.C01reachV1.ex10.perTicket * reserveOf .migration LP.Props.C01reachV1.ex10
    ≤ LP.Props.C01reachV1.ex10.bal (.esdt LP.Props.C01reachV1.ex10.lpTok) 0 := by
  obtain ⟨_, _, _, k4, _⟩ := C02_cover_every_variant id .migration _ _ 13
    LP.Props.C01reachV1.ex10_reach (by decide +kernel)
  exact k4 (by decide +kernel) (fun hh => by cases hh)

/-- … on the vested launchpad after three claims of the winner and the owner's withdrawal: the
    closed form of the balance -/
example : ∃ Lw Lv : List Nat, Covers LP.Props.C01reachG1.w12 Lw ∧ Lv.Nodup ∧
    LP.Props.C01reachG1.w12.bal (.esdt LP.Props.C01reachG1.w12.lpTok) 0
      = ownSurplus LP.Props.C01reachG1.w12
        + LP.Props.C01reachG1.w12.perTicket * sumOver (winCountOf LP.Props.C01reachG1.w12) Lw
        + sumOver (fun a => LP.Props.C01reachG1.w12.userTotal a
            - LP.Props.C01reachG1.w12.userClaimed a) Lv := by
  obtain ⟨_, _, _, _, k5, _⟩ := C02_cover_every_variant id .guarV1 _ _ 50
    LP.Props.C01reachG1.w12_reach (by decide +kernel)
  obtain ⟨Lw, h1, _, _, _, h5⟩ := k5 (by unfold AllDone; decide +kernel)
  obtain ⟨Lv, g1, _, _, g4⟩ := h5 rfl
  exact ⟨Lw, Lv, h1, g1, g4⟩

theorem l1_reachA : ReachA id .locked lkArgs l1 1 :=
  callOkA _ _ l0_reachA (by decide) (Or.inl rfl) (by show ∀ p ∈ [(7, 2), (8, 1)], 1 ≤ p.2; decide) l1_ok

/-- `C02_deposit_every_variant` on the deposit `l1 → l2` of the locked launchpad: exactly
    `1000 × 3` launchpad tokens; a second deposit right away is rejected -/
example : ∃ o, step id l1 { caller := 1, round := 2, esdts := [⟨.esdt 1, 0, 3000⟩] } .deposit = .ok (l2, o) ∧
    singleFungible { caller := 1, round := 2, esdts := [⟨.esdt 1, 0, 3000⟩] }
      = .ok (.esdt l1.lpTok, l1.perTicket * lkArgs.nrWinning) ∧
    l2.totalDeposited = l1.perTicket * lkArgs.nrWinning ∧
    ∃ err, step id l2 { caller := 1, round := 3, esdts := [⟨.esdt 1, 0, 3000⟩] } .deposit = .error err := by
  obtain ⟨o, ho'⟩ := stOf_spec l2_ok l1
  obtain ⟨_, _, _, k4, _, _, _, _, _, _, k11⟩ :=
    C02_deposit_every_variant id .locked lkArgs l1 1 l1_reachA _ l2 o ho'
  obtain ⟨_, m2, m3⟩ := k4 (by decide +kernel)
  exact ⟨o, ho', m2, m3, k11 [] _⟩

/-- `C02_zero_at_end_every_variant` on the base launchpad nobody took part in (`z3`): the owner's
    withdrawal `z3 → z4` leaves nothing -/
example : AllDone z3 ∧ (∀ a, z3.range a = none) ∧ z3.nrWinning = 0 ∧
    z4.bal (.esdt z4.lpTok) 0 = 0 := by
  obtain ⟨a0, h⟩ := Reach_iff.mp z3_reach
  obtain ⟨o, ho'⟩ := stOf_spec z4_ok z3
  have hd : AllDone z3 := by unfold AllDone; decide +kernel
  have hall : ∀ a, z3.range a = none := fun _ => rfl
  obtain ⟨k1, k2, _⟩ := C02_zero_at_end_every_variant id .base a0 z3 11 h hd hall
  exact ⟨hd, hall, k1, (k2 rfl _ z4 o ho').2⟩

/-- … its premises hold in the launchpad with NFT draw after both participants have settled -/
example : ∃ a0, ReachOfA id .nft a0 LP.Props.C14reach.n15 17 ∧ AllDone LP.Props.C14reach.n15 ∧
    ∀ a, LP.Props.C14reach.n15.range a = none := by
  obtain ⟨a0, h⟩ := Reach_iff.mp LP.Props.C14reach.n15_reach
  exact ⟨a0, h, by unfold AllDone; decide +kernel, LP.FL.fl_n15_ranges⟩

/-- `C03_every_variant` and `C11_every_guaranteed_variant` on the migration launchpad: the third
    `distribute` call (after two interrupted ones) is accepted with `ret = [0]`;
    4 = min 4 5 tickets win, the proceeds are `10 × 4` -/
example : ∃ s' o, step id LP.Props.C01reachV1.ex10 { caller := 9, round := 14 } (completionCall .migration)
      = .ok (s', o) ∧ Completed .migration s' o ∧
    countTrue s'.status s'.lastTicketId = min LP.Props.C01reachV1.exArgs.nrWinning s'.lastTicketId ∧
    s'.claimablePayment / s'.price = countTrue s'.status s'.lastTicketId ∧ s'.nrWinning = 4 ∧
    (∀ u st, s'.uts u = some st → guaranteeOf .migration s' u st ≤ winCountOf s' u) := by
  refine ⟨_, _, rfl, rfl, ?_, ?_, rfl, ?_⟩
  · exact (C03_every_variant id .migration _ _ 13 LP.Props.C01reachV1.ex10_reach
      { caller := 9, round := 14 } _ _ (by decide) rfl rfl).1
  · exact (C03_every_variant id .migration _ _ 13 LP.Props.C01reachV1.ex10_reach
      { caller := 9, round := 14 } _ _ (by decide) rfl rfl).2.2.2.2.2.1
  · intro u st hu
    exact (C11_every_guaranteed_variant id .migration rfl _ _ 13 LP.Props.C01reachV1.ex10_reach
      { caller := 9, round := 14 } _ _ (by decide) rfl rfl).1 u st hu (fun hh => by cases hh)

/-- … on launchpad-nft-and-guaranteed-tickets: the fourth `secondary` call completes;
    3 = min 3 5 tickets win -/
example : ∃ s' o, step id LP.Props.C14reachG.g14 { caller := 9, round := 14 } (completionCall .nftGuar)
      = .ok (s', o) ∧ Completed .nftGuar s' o ∧
    countTrue s'.status s'.lastTicketId = min LP.Props.C14reachG.gArgs.nrWinning s'.lastTicketId ∧
    s'.nrWinning = 3 ∧ AllDone s' := by
  refine ⟨_, _, rfl, rfl, ?_, rfl, ?_⟩
  · exact (C03_every_variant id .nftGuar _ _ 14 LP.Props.C14reachG.g14_reach
      { caller := 9, round := 14 } _ _ (by decide) rfl rfl).1
  · exact (C03_every_variant id .nftGuar _ _ 14 LP.Props.C14reachG.g14_reach
      { caller := 9, round := 14 } _ _ (by decide) rfl rfl).2.2.2.2.2.2.2.1 (by decide)

/-- … on the locked launchpad (`select` completes in one call): 2 = min 3 2 tickets win -/
example : ∃ o, step id l4 { caller := 9, round := 11 } (completionCall .locked) = .ok (l5, o) ∧
    Completed .locked l5 o ∧
    countTrue l5.status l5.lastTicketId = min lkArgs.nrWinning l5.lastTicketId ∧ l5.nrWinning = 2 := by
  obtain ⟨o, ho'⟩ : ∃ o, step id l4 { caller := 9, round := 11 } (completionCall .locked) = .ok (l5, o) :=
    stOf_spec l5_ok l4
  have hc : Completed .locked l5 o := show l5.flags.selected = true by decide +kernel
  exact ⟨o, ho', hc,
    (C03_every_variant id .locked lkArgs l4 10 l4_reachA _ l5 o (by decide) ho' hc).1,
    by decide +kernel⟩

/-- `C12_every_guaranteed_variant` on the migration launchpad before the filter:
    `1 + 3 = 4 = T0` -/
example : LP.Props.C01reachV1.ex5.nrWinning + LP.Props.C01reachV1.ex5.totalGuaranteed
      = LP.Props.C01reachV1.exArgs.nrWinning ∧
    LP.Props.C01reachV1.ex5.nrWinning = 1 ∧ LP.Props.C01reachV1.ex5.totalGuaranteed = 3 :=
  ⟨(C12_every_guaranteed_variant id .migration rfl _ _ 6 LP.Props.C01reachV1.ex5_reach).1
    (by decide +kernel), by decide +kernel⟩

/-- `every_history_reachable` on a one-transaction history -/
example : ∃ r', ReachOfA id .locked lkArgs
    (run id l0 [({ caller := 1, round := 1 }, .addTickets [(7, 2), (8, 1)])]) r' := by
  obtain ⟨r', _, h⟩ := every_history_reachable id .locked lkArgs lkDeploy l0 rfl
    [({ caller := 1, round := 1 }, .addTickets [(7, 2), (8, 1)])] ⟨by decide, trivial⟩
    (by
      intro x hx
      simp only [List.mem_cons, List.not_mem_nil, or_false] at hx
      subst hx
      exact ⟨Or.inl rfl, by show ∀ p ∈ [(7, 2), (8, 1)], 1 ≤ p.2; decide⟩)
  exact ⟨r', h⟩

end NonVacuity

end LP.Props.AllVariants

#print axioms LP.Props.AllVariants.every_history_reachable
#print axioms LP.Props.AllVariants.C02_cover_every_variant
#print axioms LP.Props.AllVariants.C02_cover_every_history
#print axioms LP.Props.AllVariants.C02_deposit_every_variant
#print axioms LP.Props.AllVariants.C02_zero_at_end_every_variant
#print axioms LP.Props.AllVariants.C03_every_variant
#print axioms LP.Props.AllVariants.C11_every_guaranteed_variant
#print axioms LP.Props.AllVariants.C11_guarV2_every_state
#print axioms LP.Props.AllVariants.C12_every_guaranteed_variant
#print axioms LP.Props.AllVariants.C12_reserveOf_every_variant
#print axioms LP.Props.AllVariants.C03_proceeds_until_withdrawal_partial
#print axioms LP.Props.AllVariants.l1_reachA
