import LP.Proofs.ZeroAllocNft
import LP.Props.C14feeLp
import LP.Props.C01zero
/-
  C14 / C01 / C02 / C09 for the launchpad with NFT draw (`Variant.nft`) without the restriction
  `CallOK`.

  `ReachZ hash .nft s r` (LP/Proofs/ZeroAllocSim.lean) is `Reach hash .nft s r` without the premise
  `CallOK c` (`EnvOK` is kept): `addTickets l` may contain entries `(a, 0)`.  The contract accepts
  them: `a` gets the empty range `[last+1, last]` and a zero-size batch at `last+1` which the next
  allocation overwrites (or which dangles above `lastTicketId`).

  What the model does with such an address in this variant (the `confirm`, `confirmNft` and `claim`
  items are the theorems named in place; the `blacklist` and filter items are shown on the trace
  `m1 … m10` only):
    * its allocation view and every `confirm` (even `confirm 0`) panic: it never confirms anything
      (`LP.Props.C01zero.empty_range_cannot_confirm`, variant independent);
    * hence it can never `confirmNft` ("Must confirm launchpad tickets before entering NFT draw",
      `empty_range_cannot_confirmNft`): it is never a fee payer, never drawn;
    * `blacklist [a]` is accepted and sets its flag (no ticket refund, no fee refund);
    * the filter never visits it; it keeps the stale empty range for ever;
    * in the claim phase it may `claim` exactly once (if the SFT token id is set): nothing is paid,
      no balance moves, the two NFT lists are untouched, but one SFT of category 3 ("did not take
      part in the draw") is handed out and the batch slot at the stale first id — by then possibly
      another participant's batch — is wiped (`empty_range_claim`); batches are dead storage then.

  Method (`zn_` lemmas, LP/Proofs/ZeroAllocNft.lean): every `ReachZ` state `s` is `ZnSim`-related
  to a `Reach` state `z` (`simulation`): `z` is `s` with the empty ranges removed, the zero-size
  batches removed (until the filter has completed), `blacklist`/`claimed` below those of `s`, every
  other field — balances, NFT lists, fee, flags — equal; an address that has claimed in `s` but not
  in `z` has nothing confirmed.  `addTickets l` is matched by `addTickets (l without zero
  entries)`, `blacklist l` by `blacklist (l without empty-range addresses)`, a claim by an
  empty-range address by no step (the SFT of category 3 is the only observable effect), every
  other call by itself.  The `_Z` theorems are those of LP/Props/C14reach.lean and
  LP/Props/C14feeLp.lean for every `ReachZ` state; "all ranges settled" becomes "all remaining ranges
  are empty".  Beside the simulation, two facts are proved by induction over `ReachZ` itself
  (`zn_reachZ_NftLp`, `zn_reachZ_noConf`, LP/Proofs/ZeroAllocNft.lean): `fee_ne_lp_Z`, `lp_cover_nft_Z`,
  `owner_surplus_nft_Z` rest on them alone, `claim_category_Z`, `winner_covered_nft_Z`,
  `claim_never_starves_nft_Z` in part.
-/
namespace LP.Props.C14zero
open LP LP.FY LP.Props.C09 LP.Props.C14 LP.Props.C01reach LP.Props.C14reach LP.FL
open LP.Props.C02 (LpCover)

theorem simulation (hash : List Nat → List Nat) (s : State) (r : Nat)
    (h : ReachZ hash .nft s r) : ∃ z, Reach hash .nft z r ∧ ZnSim s z :=
  zn_sim_reach h

theorem reach_is_reachZ (hash : List Nat → List Nat) (s : State) (r : Nat)
    (h : Reach hash .nft s r) : ReachZ hash .nft s r := h.toZ

/-! ### solvency -/

/-- the payment-token holdings are exactly the ticket ledger plus the NFT fees held in the same
    slot (same statement as `C14_solvent_general`) -/
theorem C14_solvent_general_Z (hash : List Nat → List Nat) (s : State) (r : Nat)
    (h : ReachZ hash .nft s r) :
    ∃ L : List Nat, Covers s L ∧
      (¬ AllDone s → s.bal s.payTok 0 = s.price * sumOver s.confirmed L + feeInPay s) ∧
      (AllDone s → s.bal s.payTok 0 = s.claimablePayment + sumOver (refundDue s) L + feeInPay s) := by
  obtain ⟨L, h1, h2, h3⟩ := zn_ledger_Z h
  exact ⟨L, h1, h2, fun hd => (h3 hd).1⟩

/-- fee token separate: the ticket-payment ledger is exactly that of the plain launchpad -/
theorem C14a_solvent_separate_Z (hash : List Nat → List Nat) (s : State) (r : Nat)
    (h : ReachZ hash .nft s r) (hsep : FeeTokenSeparate s) :
    ∃ L : List Nat, Covers s L ∧ (¬ AllDone s → PayEqPre s L) ∧ (AllDone s → PayEqPost s L) := by
  obtain ⟨L, h1, h2, h3⟩ := C14_solvent_general_Z hash s r h
  have hz : feeInPay s = 0 := by
    have hn : ¬ FeeInPayToken s := hsep.1
    unfold feeInPay; rw [if_neg hn]
  rw [hz] at h2 h3
  exact ⟨L, h1, fun hd => h2 hd, fun hd => h3 hd⟩

/-- fee token separate: holdings of the fee token = fee × (payers + drawn) before the draw
    completes, = claimableNft + fee × remaining losing payers afterwards -/
theorem C14a_fee_ledger_Z (hash : List Nat → List Nat) (s : State) (r : Nat)
    (h : ReachZ hash .nft s r) (hsep : FeeTokenSeparate s) : feeBal s = feeHeld s := by
  obtain ⟨z, hz, hsim⟩ := zn_sim_reach h
  obtain ⟨R, B, K, C, rfl⟩ := hsim.sim.shape'
  have := C14a_fee_ledger hash (z_w s R B K C) r hz hsep
  exact this

/-- fee token = ticket-payment token (EGLD/EGLD): the combined ledger -/
theorem C14b_solvent_same_Z (hash : List Nat → List Nat) (s : State) (r : Nat)
    (h : ReachZ hash .nft s r) (hsame : FeeInPayToken s) :
    ∃ L : List Nat, Covers s L ∧ (¬ AllDone s → CombinedPre s L) ∧ (AllDone s → CombinedPost s L) := by
  obtain ⟨a0, h⟩ := ReachZ_iff.mp h
  obtain ⟨z, hz, hsim, _⟩ := zn_sim h
  have hrd : AllDone z → ∀ a, refundDue s a = refundDue z a := fun hd a =>
    hsim.sim.esim.refundDue_eq (zn_done_rngNone hz hd.2) a
  obtain ⟨R, B, K, C, rfl⟩ := hsim.sim.shape'
  obtain ⟨L, h1, h2, h3⟩ := C14b_solvent_same hash _ r (Reach_iff.mpr ⟨a0, hz⟩) hsame
  refine ⟨L, ⟨h1.nodup, h1.supp⟩, h2, fun hd => ?_⟩
  have := h3 hd
  unfold CombinedPost at this ⊢
  rw [sumOver_congr (fun a _ => hrd hd a)]
  exact this

/-- the fee token is never the launchpad token (repair 4830c00) -/
theorem fee_ne_lp_Z (hash : List Nat → List Nat) (s : State) (r : Nat)
    (h : ReachZ hash .nft s r) : s.nftCost.tok ≠ .esdt s.lpTok :=
  (zn_reachZ_NftLp h).feeNe

/-- every `ReachZ` state is in one of the two configurations, and the corresponding ledger theorem
    applies (same statement as `C14_fee_dichotomy_nft`) -/
theorem C14_fee_dichotomy_nft_Z (hash : List Nat → List Nat) (s : State) (r : Nat)
    (h : ReachZ hash .nft s r) :
    (FeeInPayToken s ∧ ¬ FeeTokenSeparate s ∧
      ∃ L : List Nat, Covers s L ∧ (¬ AllDone s → CombinedPre s L) ∧ (AllDone s → CombinedPost s L)) ∨
    (FeeTokenSeparate s ∧ ¬ FeeInPayToken s ∧ feeBal s = feeHeld s ∧
      ∃ L : List Nat, Covers s L ∧ (¬ AllDone s → PayEqPre s L) ∧ (AllDone s → PayEqPost s L)) := by
  rcases fl_dichotomy s (fee_ne_lp_Z hash s r h) with ⟨h1, h2⟩ | ⟨h1, h2⟩
  · exact Or.inl ⟨h1, h2, C14b_solvent_same_Z hash s r h h1⟩
  · exact Or.inr ⟨h1, h2, C14a_fee_ledger_Z hash s r h h1, C14a_solvent_separate_Z hash s r h h1⟩

/-- **both tokens reconcile to zero**: everything complete, every participant with a non-empty
    range has settled (stale empty ranges may remain: they hold nothing), the owner has withdrawn
    both proceeds: the contract holds zero of the payment token and zero of the fee token -/
theorem nothing_left_Z (hash : List Nat → List Nat) (s : State) (r : Nat)
    (h : ReachZ hash .nft s r) (hd : AllDone s)
    (hall : ∀ a rg, s.range a = some rg → rg.last < rg.first)
    (hcp : s.claimablePayment = 0) (hcn : s.claimableNft = 0) :
    s.bal s.payTok 0 = 0 ∧ feeBal s = 0 := by
  obtain ⟨z, hz, hsim⟩ := zn_sim_reach h
  have hallz := hsim.sim.esim.range_none hall
  obtain ⟨_, _, _, hend⟩ := C14_fee_reconciles_nft hash z r hz
  obtain ⟨R, B, K, C, rfl⟩ := hsim.sim.shape'
  exact hend hd hallz hcp hcn

/-! ### the NFT lists, the draw, the claim categories -/

/-- the two lists are duplicate-free and disjoint (`NftOk`), at most `availNfts` are drawn, every
    payer / drawn participant has confirmed tickets, nobody is drawn before the base lottery is
    complete, settled addresses are in neither list, nobody has settled before the draw is
    complete (same statement as `nft_lists_reach`) -/
theorem nft_lists_Z (hash : List Nat → List Nat) (s : State) (r : Nat)
    (h : ReachZ hash .nft s r) :
    NftOk s ∧ s.nftWinners.length ≤ s.availNfts ∧
    (∀ a, a ∈ s.payers ∨ a ∈ s.nftWinners → 0 < s.confirmed a) ∧
    (s.flags.selected = false → s.nftWinners = []) ∧
    (∀ a, s.claimed a = true → a ∉ s.payers ∧ a ∉ s.nftWinners) ∧
    (s.flags.additional = false → ∀ a, s.claimed a = false) := by
  obtain ⟨a0, h⟩ := ReachZ_iff.mp h
  obtain ⟨z, hz, hsim, _, hfr⟩ := zn_sim h
  obtain ⟨h1, h2, h3, h4, h5, _⟩ := nft_lists_reach hash z r (Reach_iff.mpr ⟨a0, hz⟩)
  have hclc := hsim.clc
  obtain ⟨R, B, K, C, rfl⟩ := hsim.sim.shape'
  refine ⟨⟨h1.nodupP, h1.nodupW, h1.disj⟩, h2, h3, h4, ?_, hfr⟩
  intro a ha
  rcases hclc a ha with hc | hc
  · exact h5 a hc
  · constructor <;> intro hin
    · have h0 : 0 < s.confirmed a := h3 a (Or.inl hin)
      omega
    · have h0 : 0 < s.confirmed a := h3 a (Or.inr hin)
      omega

/-- the call that completes the draw (same statement as `draw_completion_reach`) -/
theorem draw_completion_Z (hash : List Nat → List Nat) (s : State) (r : Nat)
    (h : ReachZ hash .nft s r) (e : Env) (s' : State) (o : Out)
    (hs : step hash s e .selectNft = .ok (s', o)) (hdone : s'.flags.additional = true) :
    s'.nftWinners.length = min s.availNfts (s.payers.length + s.nftWinners.length) ∧
    s'.claimableNft = s.nftCost.amount * s'.nftWinners.length ∧
    NftOk s' ∧ (∀ a, (a ∈ s'.payers ∨ a ∈ s'.nftWinners) ↔ (a ∈ s.payers ∨ a ∈ s.nftWinners)) ∧
    s.nftWinners <+: s'.nftWinners ∧ AllDone s' ∧ o.ret = [0] := by
  obtain ⟨hok, hle, _⟩ := nft_lists_Z hash s r h
  obtain ⟨_, hsel, _, hok', _, _, _, _, hun, hpre, hret, hfin, _⟩ :=
    selectNft_call hash s e s' o hs hok hle
  obtain ⟨f1, f2⟩ := hfin hdone
  exact ⟨f1, f2, hok', hun, hpre, ⟨(step_flags_gain hs).1 hsel, hdone⟩, hret.mp hdone⟩

/-- **claim categories** (same statement as `claim_category_reach`; an empty-range address is in
    neither list: category 3) -/
theorem claim_category_Z (hash : List Nat → List Nat) (s : State) (r : Nat)
    (h : ReachZ hash .nft s r) (e : Env) (s' : State) (o : Out)
    (hs : step hash s e .claim = .ok (s', o)) :
    AllDone s ∧ s.claimed e.caller = false ∧
    ∃ k, o.sfts = [(e.caller, k)] ∧
      (k = 1 ↔ e.caller ∈ s.nftWinners) ∧ (k = 2 ↔ e.caller ∈ s.payers) ∧
      (k = 3 ↔ e.caller ∉ s.nftWinners ∧ e.caller ∉ s.payers) ∧ (k = 1 ∨ k = 2 ∨ k = 3) ∧
      o.xfers = refundXfers s e.caller ++ tokenXfers s e.caller ++
        (if k = 2 then [(e.caller, s.nftCost)] else []) ∧
      e.caller ∉ s'.payers ∧ e.caller ∉ s'.nftWinners ∧ s'.claimed e.caller = true ∧ NftOk s' := by
  obtain ⟨hok, _⟩ := nft_lists_Z hash s r h
  have hvar : s.variant = .nft := (zn_reachZ_NftLp h).var
  obtain ⟨_, hn, _⟩ := nf_flags hvar
  obtain ⟨rg, hacc, _, hx, hsf, _, _, _, hcl, _, _, _, hafter, _, _⟩ :=
    claim_nft_effect hash s e s' o hn hs
  obtain ⟨c1, c2, c3, c4⟩ := nftCategory_exact s e.caller hok
  obtain ⟨hcat3, hok'⟩ := hafter hok
  obtain ⟨_, _, d3, _⟩ := nftCategory_exact s' e.caller hok'
  obtain ⟨⟨hsel, hadd⟩, _⟩ := stage_claim_iff.mp hacc.2.2.1
  exact ⟨⟨hsel, hadd⟩, hacc.2.2.2.1, nftCategory s e.caller, hsf, c1, c2, c3, c4, hx,
    (d3.mp hcat3).2, (d3.mp hcat3).1, hcl, hok'⟩

/-- from the start of the filter until the draw completes the NFT participants cannot change
    along any accepted calls: `payers ∪ nftWinners`, its size, the fee and `availNfts` are constant
    and already drawn participants stay drawn -/
theorem participants_frozen_Z (hash : List Nat → List Nat) (a0 : InitArgs) (s : State) (r : Nat)
    (h : ReachZA hash .nft a0 s r) (hstd : s.flags.started = true) (s2 : State) (r2 : Nat)
    (hl : zn_Later hash s r s2 r2) (hna : s2.flags.additional = false) :
    nf_Frozen s s2 :=
  ((zn_later_frozen h hstd hl).2 hna).1

/-- **the draw end to end** (same statement as `draw_end_to_end`): `s` is any `ReachZA` state after
    the filter has started and before the base lottery is complete; after any accepted calls, the
    `selectNft` call that completes the draw leaves exactly `min availNfts (number of fee payers)`
    winners, all distinct, all fee payers, the others remain in `payers`; the owner's NFT proceeds
    are fee × winners -/
theorem draw_end_to_end_Z (hash : List Nat → List Nat) (a0 : InitArgs) (s : State) (r : Nat)
    (h : ReachZA hash .nft a0 s r) (hstd : s.flags.started = true) (hns : s.flags.selected = false)
    (s1 : State) (r1 : Nat) (hl : zn_Later hash s r s1 r1)
    (e : Env) (s2 : State) (o : Out)
    (hs : step hash s1 e .selectNft = .ok (s2, o)) (hdone : s2.flags.additional = true) :
    s2.nftWinners.length = min s.availNfts s.payers.length ∧
    s2.claimableNft = s.nftCost.amount * s2.nftWinners.length ∧
    s2.nftWinners.Nodup ∧ s2.payers.Nodup ∧ (∀ a, a ∈ s2.payers → a ∉ s2.nftWinners) ∧
    (∀ a, (a ∈ s2.payers ∨ a ∈ s2.nftWinners) ↔ a ∈ s.payers) ∧
    s2.payers.length + s2.nftWinners.length = s.payers.length := by
  obtain ⟨hr1, hfz⟩ := zn_later_frozen h hstd hl
  have hreach1 : ReachZ hash .nft s1 r1 := ReachZ_iff.mpr ⟨a0, hr1⟩
  have hw0 : s.nftWinners = [] := (nft_lists_Z hash s r (ReachZ_iff.mpr ⟨a0, h⟩)).2.2.2.1 hns
  obtain ⟨hok1, hle1, _⟩ := nft_lists_Z hash s1 r1 hreach1
  obtain ⟨_, _, hna1, hok2, _, _, _, hlen2, hun2, _, _, hfin, _⟩ :=
    selectNft_call hash s1 e s2 o hs hok1 hle1
  obtain ⟨hF, _⟩ := hfz hna1
  obtain ⟨f1, f2⟩ := hfin hdone
  have hlen : s1.payers.length + s1.nftWinners.length = s.payers.length := by
    rw [hF.len, hw0]; simp
  refine ⟨by rw [f1, hF.avail, hlen], by rw [f2, hF.cost], hok2.nodupW, hok2.nodupP, hok2.disj, ?_,
    by rw [hlen2, hlen]⟩
  intro a
  rw [hun2 a, hF.mem a, hw0]
  simp

/-! ### the counts -/

/-- after completion: the winning tickets still held add up to `nrWinning`; nobody holds more
    winning than confirmed tickets; every range — empty or not — has exactly `confirmed` tickets,
    and the holders of non-empty ranges are in the covering list -/
theorem three_counts_nft_Z (hash : List Nat → List Nat) (s : State) (r : Nat)
    (h : ReachZ hash .nft s r) (hd : AllDone s) :
    ∃ L : List Nat, Covers s L ∧
      s.bal s.payTok 0 = s.claimablePayment + sumOver (refundDue s) L + feeInPay s ∧
      sumOver (winCountOf s) L = s.nrWinning ∧
      (∀ a, winCountOf s a ≤ s.confirmed a) ∧
      (∀ a rg, s.range a = some rg → rangeLen rg = s.confirmed a ∧ (rg.first ≤ rg.last → a ∈ L)) := by
  obtain ⟨L, h1, _, h3⟩ := zn_ledger_Z h
  exact ⟨L, h1, h3 hd⟩

/-- at the completion of the base lottery: winning flags = `nrWinning` =
    `min (configured winners) (confirmed tickets)`, proceeds = price × winners -/
theorem three_counts_at_completion_nft_Z (hash : List Nat → List Nat) (a0 : InitArgs) (s : State)
    (r : Nat) (h : ReachZA hash .nft a0 s r) (e : Env) (s' : State) (o : Out)
    (hr : r ≤ e.round) (hok : EnvOK e)
    (hs : step hash s e .select = .ok (s', o)) (hsel : s'.flags.selected = true) :
    countTrue s'.status s'.lastTicketId = s'.nrWinning ∧
    s'.nrWinning = min a0.nrWinning s'.lastTicketId ∧
    s'.claimablePayment = s'.price * s'.nrWinning ∧
    (∀ t, s'.status t = true → 1 ≤ t ∧ t ≤ s'.lastTicketId) := by
  obtain ⟨z, hz, hsim, hd, _⟩ := zn_sim h
  obtain ⟨z', _, hsim', _, _, hstep⟩ := zn_sim_indep (c := .select) rfl hz hsim.sim hd hr hok hs
  have hfl : z'.flags = s'.flags := hsim'.fields.2.1
  have := three_counts_at_completion_nft hash a0 z r hz e z' o hstep (by rw [hfl]; exact hsel)
  obtain ⟨R, B, K, C, rfl⟩ := hsim'.shape'
  exact this

/-- until the filter completes the winners count is the configured one -/
theorem winners_before_filter_nft_Z (hash : List Nat → List Nat) (a0 : InitArgs) (s : State) (r : Nat)
    (h : ReachZA hash .nft a0 s r) (hf : s.flags.filtered = false) : s.nrWinning = a0.nrWinning := by
  obtain ⟨z, hz, hsim, _⟩ := zn_sim h
  have hfl : z.flags = s.flags := hsim.sim.fields.2.1
  have := winners_before_filter_nft hash a0 z r hz (by rw [hfl]; exact hf)
  obtain ⟨R, B, K, C, rfl⟩ := hsim.sim.shape'
  exact this

/-! ### launchpad tokens -/

/-- from the deposit on the launchpad tokens held cover everything still owed to winners -/
theorem lp_cover_nft_Z (hash : List Nat → List Nat) (s : State) (r : Nat)
    (h : ReachZ hash .nft s r) (hd : s.deposited = true) : LpCover s :=
  (zn_reachZ_NftLp h).cover hd

/-- the owner can withdraw only the surplus -/
theorem owner_surplus_nft_Z (hash : List Nat → List Nat) (s : State) (r : Nat)
    (h : ReachZ hash .nft s r) (e : Env) (s' : State) (o : Out)
    (hs : step hash s e .claimPayment = .ok (s', o)) :
    s'.bal (.esdt s'.lpTok) 0 = s'.perTicket * s'.nrWinning ∧ s'.nrWinning = s.nrWinning ∧
    s'.claimablePayment = 0 ∧ s'.claimableNft = 0 := by
  obtain ⟨_, h1, h2, _, _, _, h6, h7, _⟩ := fl_owner_surplus_step (zn_reachZ_NftLp h) hs
  exact ⟨h1, h2, h6, h7⟩

/-- once every holder of a non-empty range has settled no winner is outstanding -/
theorem all_settled_nrWinning_nft_Z (hash : List Nat → List Nat) (s : State) (r : Nat)
    (h : ReachZ hash .nft s r) (hd : AllDone s)
    (hall : ∀ a rg, s.range a = some rg → rg.last < rg.first) : s.nrWinning = 0 := by
  obtain ⟨z, hz, hsim⟩ := zn_sim_reach h
  have hfl : z.flags = s.flags := hsim.sim.fields.2.1
  have := all_settled_nrWinning_nft hash z r hz (hd.of_flags hfl)
    (hsim.sim.esim.range_none hall)
  obtain ⟨R, B, K, C, rfl⟩ := hsim.sim.shape'
  exact this

/-- all steps complete and every participant with a non-empty range settled (stale empty ranges
    may remain): the owner's accepted `claimPayment` leaves no launchpad token -/
theorem lp_zero_at_end_nft_Z (hash : List Nat → List Nat) (s : State) (r : Nat)
    (h : ReachZ hash .nft s r) (hd : AllDone s)
    (hall : ∀ a rg, s.range a = some rg → rg.last < rg.first)
    (e : Env) (s' : State) (o : Out) (hs : step hash s e .claimPayment = .ok (s', o)) :
    s.nrWinning = 0 ∧ s'.bal (.esdt s'.lpTok) 0 = 0 := by
  have hz := all_settled_nrWinning_nft_Z hash s r h hd hall
  obtain ⟨k1, k2, _⟩ := owner_surplus_nft_Z hash s r h e s' o hs
  exact ⟨hz, by rw [k1, k2, hz]; simp⟩

/-- **the contract is empty at the end of the lifecycle**: everything complete, every holder of a
    non-empty range settled, then the owner's accepted `claimPayment` leaves no token of any kind -/
theorem C14_contract_empty_nft_Z (hash : List Nat → List Nat) (s : State) (r : Nat)
    (h : ReachZ hash .nft s r) (hd : AllDone s)
    (hall : ∀ a rg, s.range a = some rg → rg.last < rg.first)
    (e : Env) (hr : r ≤ e.round) (hok : EnvOK e) (s' : State) (o : Out)
    (hs : step hash s e .claimPayment = .ok (s', o)) :
    ∀ t n, s'.bal t n = 0 := by
  obtain ⟨a0, h⟩ := ReachZ_iff.mp h
  obtain ⟨z, hz, hsim, hdd, _⟩ := zn_sim h
  obtain ⟨z', _, hsim', _, _, hstep⟩ := zn_sim_indep (c := .claimPayment) rfl hz hsim.sim hdd hr hok hs
  have hfl : z.flags = s.flags := hsim.sim.fields.2.1
  have := C14_contract_empty_nft hash z r (Reach_iff.mpr ⟨a0, hz⟩)
    (hd.of_flags hfl) (hsim.sim.esim.range_none hall) e hr hok z' o hstep
  obtain ⟨R', B', K', C', rfl⟩ := hsim'.shape'
  exact this

/-! ### claims never starve -/

/-- after completion: the payment-token holdings cover the owner's recorded proceeds, the ticket
    refund of any address holding a range (empty or not) and all NFT fees held in the same slot -/
theorem claim_refund_covered_nft_Z (hash : List Nat → List Nat) (s : State) (r : Nat)
    (h : ReachZ hash .nft s r) (hd : AllDone s) (a : Nat) (rg : Range) (hr : s.range a = some rg) :
    s.claimablePayment + s.price * (s.confirmed a - winCountOf s a) + feeInPay s
      ≤ s.bal s.payTok 0 := by
  obtain ⟨L, _, hpost, _, _, hrg⟩ := three_counts_nft_Z hash s r h hd
  obtain ⟨hlen, hin⟩ := hrg a rg hr
  by_cases hne : rg.first ≤ rg.last
  · have hle := rb_le_sumOver (refundDue s) L a (hin hne)
    have hdue : refundDue s a = s.price * (s.confirmed a - winCountOf s a) := by
      simp only [refundDue, hr]
    omega
  · have hc : s.confirmed a = 0 := by rw [← hlen]; unfold rangeLen; omega
    rw [hc]
    simp only [Nat.zero_sub, Nat.mul_zero, Nat.add_zero]
    omega

/-- fee in the payment token: ticket refund, the full fee refund of a losing payer and both of
    the owner's withdrawals are covered together -/
theorem claim_refund_covered_same_Z (hash : List Nat → List Nat) (s : State) (r : Nat)
    (h : ReachZ hash .nft s r) (hsame : FeeInPayToken s) (hd : AllDone s) (a : Nat) (rg : Range)
    (hr : s.range a = some rg) (ha : a ∈ s.payers) :
    s.claimablePayment + s.price * (s.confirmed a - winCountOf s a) + s.claimableNft +
      s.nftCost.amount ≤ s.bal s.payTok 0 := by
  have h1 := claim_refund_covered_nft_Z hash s r h hd a rg hr
  have hz : feeInPay s = s.claimableNft + s.nftCost.amount * s.payers.length := by
    unfold feeInPay feeHeld; rw [if_pos hsame, hd.2]; rfl
  have : 0 < s.payers.length := List.length_pos_of_mem ha
  have : s.nftCost.amount * 1 ≤ s.nftCost.amount * s.payers.length := Nat.mul_le_mul_left _ this
  omega

/-- separate fee token: the fee refund of a losing payer and the owner's NFT proceeds are
    covered -/
theorem fee_refund_covered_separate_Z (hash : List Nat → List Nat) (s : State) (r : Nat)
    (h : ReachZ hash .nft s r) (hsep : FeeTokenSeparate s) (hd : AllDone s) (a : Nat)
    (ha : a ∈ s.payers) : s.claimableNft + s.nftCost.amount ≤ feeBal s := by
  rw [C14a_fee_ledger_Z hash s r h hsep]
  unfold feeHeld
  rw [hd.2]
  simp only [if_true]
  have : 0 < s.payers.length := List.length_pos_of_mem ha
  have : s.nftCost.amount * 1 ≤ s.nftCost.amount * s.payers.length := Nat.mul_le_mul_left _ this
  omega

/-- the launchpad tokens of any address are covered -/
theorem winner_covered_nft_Z (hash : List Nat → List Nat) (s : State) (r : Nat)
    (h : ReachZ hash .nft s r) (hd : AllDone s) (a : Nat) :
    s.perTicket * winCountOf s a ≤ s.bal (.esdt s.lpTok) 0 ∧ winCountOf s a ≤ s.nrWinning := by
  obtain ⟨L, _, _, hwin, hle, hrg⟩ := three_counts_nft_Z hash s r h hd
  have hwn : winCountOf s a ≤ s.nrWinning := by
    cases hr : s.range a with
    | none => simp [winCountOf, hr]
    | some rg =>
      by_cases hne : rg.first ≤ rg.last
      · rw [← hwin]
        exact rb_le_sumOver (winCountOf s) L a ((hrg a rg hr).2 hne)
      · have : rangeLen rg = 0 := by unfold rangeLen; omega
        simp [winCountOf, hr, this, countWinning]
  refine ⟨?_, hwn⟩
  cases hdep : s.deposited with
  | false =>
    have h0 : winCountOf s a = 0 := by
      have := hle a
      rw [zn_reachZ_noConf h hdep a] at this
      omega
    rw [h0]; simp
  | true =>
    have hc : s.perTicket * s.nrWinning ≤ s.bal (.esdt s.lpTok) 0 := lp_cover_nft_Z hash s r h hdep
    exact Nat.le_trans (Nat.mul_le_mul_left _ hwn) hc

/-- **claims never starve**: in the claim stage, once the SFT token id is set (the one-off set-up
    `sftSetup`; without it `claimNft` rejects every claim: "Token ID not set"), a claim without
    call value by any address that holds a range — empty or not — and has not claimed yet is
    accepted: the ticket refund, the launchpad tokens and — for a fee payer who was not drawn — the
    full fee refund are covered -/
theorem claim_never_starves_nft_Z (hash : List Nat → List Nat) (s : State)
    (r : Nat) (h : ReachZ hash .nft s r) (e : Env) (rg : Range)
    (he1 : e.egld = 0) (he2 : e.esdts = []) (hst : s.stage e = .claim)
    (hcl : s.claimed e.caller = false) (hrg : s.range e.caller = some rg)
    (hsft : s.sftToken = true) :
    ∃ x, step hash s e .claim = .ok x := by
  have hI := zn_reachZ_NftLp h
  obtain ⟨_, hn, _⟩ := nf_flags hI.var
  obtain ⟨⟨hsel, hadd⟩, _⟩ := stage_claim_iff.mp hst
  have hd : AllDone s := ⟨hsel, hadd⟩
  obtain ⟨L, _, _, _, hle, _⟩ := three_counts_nft_Z hash s r h hd
  have hcov := claim_refund_covered_nft_Z hash s r h hd e.caller rg hrg
  obtain ⟨hw1, hw2⟩ := winner_covered_nft_Z hash s r h hd e.caller
  obtain ⟨hok, _⟩ := nft_lists_Z hash s r h
  have hwc : winCount s e.caller = winCountOf s e.caller := rfl
  have hpay : s.price * (s.confirmed e.caller - winCountOf s e.caller) ≤ s.bal s.payTok 0 := by omega
  have hacc : ClaimAccepts s e rg :=
    claimAccepts_of_cover he1 he2 hst hcl hrg hI.tokNe hw2 (hle e.caller) hpay hw1
  refine zn_claim_accepts hash s e rg hn hacc hsft ?_
  intro hcat
  have hpay : e.caller ∈ s.payers := (nftCategory_exact s e.caller hok).2.1.mp hcat
  rcases fl_dichotomy s hI.feeNe with ⟨hsame, _⟩ | ⟨hsep, _⟩
  · -- the fee sits in the payment slot
    have hc2 := claim_refund_covered_same_Z hash s r h hsame hd e.caller rg hrg hpay
    have hBA : (balAfterClaim s e.caller) s.payTok 0
        = s.bal s.payTok 0 - s.price * (s.confirmed e.caller - winCount s e.caller) := by
      unfold balAfterClaim
      simp [Bal.sub, hI.tokNe]
    rw [hsame.1, hsame.2, hBA, hwc]
    omega
  · -- a separate fee slot: the common claim does not touch it
    have hc2 := fee_refund_covered_separate_Z hash s r h hsep hd e.caller hpay
    have b1 : ¬ (s.nftCost.tok = s.payTok ∧ s.nftCost.nonce = 0) := hsep.1
    have b2 : ¬ (s.nftCost.tok = .esdt s.lpTok ∧ s.nftCost.nonce = 0) := hsep.2
    have hBA : (balAfterClaim s e.caller) s.nftCost.tok s.nftCost.nonce
        = s.bal s.nftCost.tok s.nftCost.nonce := by
      simp only [balAfterClaim, Bal.sub, b1, b2, if_false]
    rw [hBA]
    have : feeBal s = s.bal s.nftCost.tok s.nftCost.nonce := rfl
    omega

/-- in particular for the `Reach` states of LP/Props/C14reach.lean -/
theorem claim_never_starves_nft (hash : List Nat → List Nat) (s : State)
    (r : Nat) (h : Reach hash .nft s r) (e : Env) (rg : Range)
    (he1 : e.egld = 0) (he2 : e.esdts = []) (hst : s.stage e = .claim)
    (hcl : s.claimed e.caller = false) (hrg : s.range e.caller = some rg)
    (hsft : s.sftToken = true) :
    ∃ x, step hash s e .claim = .ok x :=
  claim_never_starves_nft_Z hash s r h.toZ e rg he1 he2 hst hcl hrg hsft

/-! ### addresses with an empty range -/

/-- they cannot enter the NFT draw: they have no confirmed tickets -/
theorem empty_range_cannot_confirmNft (hash : List Nat → List Nat) (s : State) (r : Nat)
    (h : ReachZ hash .nft s r) (e : Env) (rg : Range) (hr : r ≤ e.round)
    (hrg : s.range e.caller = some rg) (he : rg.last < rg.first) :
    ∀ x, step hash s e .confirmNft ≠ .ok x := by
  rintro ⟨s', o⟩ hs
  obtain ⟨_, hst, _, hpos, _⟩ := (confirmNft_accepted_iff hash s e).mp ⟨_, hs⟩
  obtain ⟨a0, h⟩ := ReachZ_iff.mp h
  obtain ⟨z, hz, hsim, _⟩ := zn_sim h
  have hsim := hsim.sim
  have hwf := nf_reach_WF hz
  obtain ⟨hcfg, _, _, _, hcf, _, _⟩ := hsim.fields
  have hns : z.flags.started = false :=
    notStarted_of_lt hwf.tlStarted hr (Or.inr (by rw [hcfg]; exact (rb_stage_confirm hst).2))
  have hzn : z.range e.caller = none := by
    rw [hsim.range]; exact z_eraseR_of_empty hrg (by omega)
  have := zn_noRange_noConf hwf hns hzn
  rw [hcf] at this
  omega

/-- their claim pays nothing and moves no balance: only the caller's `claimed` flag, its stale
    range and the batch slot at the range's first id change; exactly one SFT, of category 3, is
    handed out -/
theorem empty_range_claim (hash : List Nat → List Nat) (s : State)
    (r : Nat) (h : ReachZ hash .nft s r) (e : Env) (s' : State) (o : Out) (rg : Range)
    (hrg : s.range e.caller = some rg) (he : rg.last < rg.first)
    (hs : step hash s e .claim = .ok (s', o)) :
    s' = z_w s (upd s.range e.caller none) (upd s.batch rg.first none) s.blacklist
          (upd s.claimed e.caller true) ∧
    o.sfts = [(e.caller, 3)] ∧ o.xfers = [] ∧ o.locks = [] ∧
    s'.bal = s.bal ∧ s'.nrWinning = s.nrWinning ∧ s'.confirmed = s.confirmed ∧
    s'.payers = s.payers ∧ s'.nftWinners = s.nftWinners := by
  have hI := zn_reachZ_NftLp h
  obtain ⟨_, hn, _⟩ := nf_flags hI.var
  obtain ⟨hd, _, _⟩ := claim_category_Z hash s r h e s' o hs
  obtain ⟨_, _, _, _, _, hrgs⟩ := three_counts_nft_Z hash s r h hd
  obtain ⟨_, _, hconf, _⟩ := nft_lists_Z hash s r h
  have hc0 : s.confirmed e.caller = 0 := by
    rw [← (hrgs e.caller rg hrg).1]; unfold rangeLen; omega
  have hnp : e.caller ∉ s.payers := fun hin => by
    have := hconf e.caller (Or.inl hin); omega
  have hnw : e.caller ∉ s.nftWinners := fun hin => by
    have := hconf e.caller (Or.inr hin); omega
  obtain ⟨key, k1, k2, k3⟩ := zn_claim_stutter hn hs hrg he hc0 hnp hnw
  exact ⟨key, k1, k2, k3, by rw [key]; rfl, by rw [key]; rfl, by rw [key]; rfl, by rw [key]; rfl,
    by rw [key]; rfl⟩

/-! ### non-vacuity: a launch with zero-size entries from the initial state `n0` of
  LP/Props/C14reach.lean -/

open LP.Props.C01zero (ReachZ.callOk)

/-- a launch with zero-size entries: 7 and 9 get empty ranges, 8 gets two tickets -/
def m1 : State :=
  stOf (step id n0 { caller := 1, round := 1 } (.addTickets [(7, 0), (8, 2), (9, 0)])) n0
def m2 : State := stOf (step id m1 { caller := 1, round := 2, esdts := [⟨.esdt 1, 0, 5⟩] } .deposit) m1
def m3 : State := stOf (step id m2 { caller := 9, round := 3 } .sftSetup) m2
def m4 : State := stOf (step id m3 { caller := 8, round := 5, egld := 20 } (.confirm 2)) m3
def m5 : State := stOf (step id m4 { caller := 8, round := 6, egld := 3 } .confirmNft) m4
def m6 : State := stOf (step id m5 { caller := 1, round := 6 } (.blacklist [7])) m5
def m7 : State := stOf (step id m6 { caller := 9, round := 10 } .filter) m6
def m8 : State := stOf (step id m7 { caller := 9, round := 11 } .select) m7
def m9 : State := stOf (step id m8 { caller := 9, round := 12 } .selectNft) m8
def m10 : State := stOf (step id m9 { caller := 9, round := 15 } .claim) m9

theorem m1_reachZ : ReachZ id .nft m1 1 :=
  ReachZ.callOk { caller := 1, round := 1 } (.addTickets [(7, 0), (8, 2), (9, 0)]) n0_reach.toZ
    (by decide) (Or.inl rfl) (by decide +kernel)

/-- the zero-size entries created empty ranges; the batch slot of 7 was overwritten, the one of 9
    dangles above `lastTicketId` -/
example : m1.range 7 = some ⟨1, 0⟩ ∧ m1.range 8 = some ⟨1, 2⟩ ∧ m1.batch 1 = some ⟨8, 2⟩ ∧
    m1.lastTicketId = 2 ∧ m1.range 9 = some ⟨3, 2⟩ ∧ m1.batch 3 = some ⟨9, 0⟩ := by
  decide +kernel

/-- `m1` is not a `Reach` state (of any deployment, at any round): those have no empty range -/
theorem m1_not_reach (hash : List Nat → List Nat) (r : Nat) : ¬ Reach hash .nft m1 r := by
  intro h
  have := LP.Props.C18reach.ranges_bounded hash m1 r (.nft h) 7 ⟨1, 0⟩
    (by decide +kernel)
  exact absurd this.2.1 (by decide)

theorem m5_reachZ : ReachZ id .nft m5 6 :=
  ReachZ.callOk { caller := 8, round := 6, egld := 3 } .confirmNft
    (ReachZ.callOk { caller := 8, round := 5, egld := 20 } (.confirm 2)
      (ReachZ.callOk { caller := 9, round := 3 } .sftSetup
        (ReachZ.callOk { caller := 1, round := 2, esdts := [⟨.esdt 1, 0, 5⟩] } .deposit m1_reachZ
          (by decide) (Or.inl rfl) (by decide +kernel))
        (by decide) (Or.inl rfl) (by decide +kernel))
      (by decide) (Or.inr rfl) (by decide +kernel))
    (by decide) (Or.inr rfl) (by decide +kernel)

theorem m7_reachZ : ReachZ id .nft m7 10 :=
  ReachZ.callOk { caller := 9, round := 10 } .filter
    (ReachZ.callOk { caller := 1, round := 6 } (.blacklist [7]) m5_reachZ
      (by decide) (Or.inl rfl) (by decide +kernel))
    (by decide) (Or.inl rfl) (by decide +kernel)

theorem m8_ok : isOk (step id m7 { caller := 9, round := 11 } .select) = true := by decide +kernel
theorem m9_ok : isOk (step id m8 { caller := 9, round := 12 } .selectNft) = true := by decide +kernel

theorem m9_reachZ : ReachZ id .nft m9 12 :=
  ReachZ.callOk _ _ (ReachZ.callOk _ _ m7_reachZ (by decide) (Or.inl rfl) m8_ok)
    (by decide) (Or.inl rfl) m9_ok

/-- from `m7` (filter complete, base lottery not yet run; stale empty ranges of 7 and 9 present)
    through `select` and `selectNft` -/
example : m9.nftWinners.length = min m7.availNfts m7.payers.length ∧
    m9.claimableNft = m7.nftCost.amount * m9.nftWinners.length := by
  obtain ⟨a0, h⟩ := ReachZ_iff.mp m7_reachZ
  obtain ⟨o1, h1⟩ := step_stOf m8_ok m7
  obtain ⟨o2, h2⟩ := step_stOf m9_ok m8
  have hl : zn_Later id m7 10 m8 11 :=
    zn_Later.call m7 10 { caller := 9, round := 11 } .select m8 o1 zn_Later.refl
      (by decide) (Or.inl rfl) h1
  obtain ⟨e1, e2, _⟩ := draw_end_to_end_Z id a0 m7 10 h (by decide +kernel) (by decide +kernel)
    m8 11 hl { caller := 9, round := 12 } m9 o2 h2 (by decide +kernel)
  exact ⟨e1, e2⟩

theorem m10_reachZ : ReachZ id .nft m10 15 :=
  ReachZ.callOk { caller := 9, round := 15 } .claim m9_reachZ (by decide) (Or.inl rfl)
    (by decide +kernel)

/-- an empty-range address can neither confirm nor enter the NFT draw -/
example : isOk (step id m5 { caller := 7, round := 6 } (.confirm 0)) = false ∧
    isOk (step id m5 { caller := 7, round := 6, egld := 3 } .confirmNft) = false := by
  decide +kernel

example : ∀ x, step id m5 { caller := 7, round := 6, egld := 3 } .confirmNft ≠ .ok x :=
  empty_range_cannot_confirmNft id m5 6 m5_reachZ { caller := 7, round := 6, egld := 3 } ⟨1, 0⟩
    (by decide) (by decide +kernel) (by decide)

example : ∀ x, step id m5 { caller := 7, round := 6 } (.confirm 0) ≠ .ok x :=
  LP.Props.C01zero.empty_range_cannot_confirm id m5 { caller := 7, round := 6 } 0 ⟨1, 0⟩
    (by decide +kernel) (by decide)

/-- the stale empty ranges survive the filter and both lotteries (also the blacklisted one) -/
example : AllDone m9 ∧ m9.blacklist 7 = true ∧ m9.range 7 = some ⟨1, 0⟩ ∧
    m9.range 9 = some ⟨3, 2⟩ ∧ m9.nftWinners = [8] ∧ m9.payers = [] := by
  unfold AllDone; decide +kernel

/-- the claim of 9 (empty range): one SFT of category 3, no transfer, no balance moves -/
example : m10.range 9 = none ∧ m10.claimed 9 = true ∧ m10.bal .egld 0 = m9.bal .egld 0 ∧
    m10.bal (.esdt 1) 0 = m9.bal (.esdt 1) 0 ∧ m10.nftWinners = [8] := by
  decide +kernel

example : ∃ L : List Nat, Covers m9 L ∧
    m9.bal m9.payTok 0 = m9.claimablePayment + sumOver (refundDue m9) L + feeInPay m9 :=
  let ⟨L, h1, _, h3⟩ := C14_solvent_general_Z id m9 12 m9_reachZ
  ⟨L, h1, h3 (by unfold AllDone; decide +kernel)⟩

example : ∃ x, step id m9 { caller := 9, round := 15 } .claim = .ok x :=
  claim_never_starves_nft_Z id m9 12 m9_reachZ { caller := 9, round := 15 } ⟨3, 2⟩
    rfl rfl (by decide +kernel) (by decide +kernel) (by decide +kernel) (by decide +kernel)

example : ∃ x, step id m9 { caller := 8, round := 15 } .claim = .ok x :=
  claim_never_starves_nft_Z id m9 12 m9_reachZ { caller := 8, round := 15 } ⟨1, 2⟩
    rfl rfl (by decide +kernel) (by decide +kernel) (by decide +kernel) (by decide +kernel)

end LP.Props.C14zero

#print axioms LP.Props.C14zero.simulation
#print axioms LP.Props.C14zero.reach_is_reachZ
#print axioms LP.Props.C14zero.C14_solvent_general_Z
#print axioms LP.Props.C14zero.C14a_solvent_separate_Z
#print axioms LP.Props.C14zero.C14a_fee_ledger_Z
#print axioms LP.Props.C14zero.C14b_solvent_same_Z
#print axioms LP.Props.C14zero.fee_ne_lp_Z
#print axioms LP.Props.C14zero.C14_fee_dichotomy_nft_Z
#print axioms LP.Props.C14zero.nothing_left_Z
#print axioms LP.Props.C14zero.nft_lists_Z
#print axioms LP.Props.C14zero.draw_completion_Z
#print axioms LP.Props.C14zero.claim_category_Z
#print axioms LP.Props.C14zero.participants_frozen_Z
#print axioms LP.Props.C14zero.draw_end_to_end_Z
#print axioms LP.Props.C14zero.three_counts_nft_Z
#print axioms LP.Props.C14zero.three_counts_at_completion_nft_Z
#print axioms LP.Props.C14zero.winners_before_filter_nft_Z
#print axioms LP.Props.C14zero.lp_cover_nft_Z
#print axioms LP.Props.C14zero.owner_surplus_nft_Z
#print axioms LP.Props.C14zero.all_settled_nrWinning_nft_Z
#print axioms LP.Props.C14zero.lp_zero_at_end_nft_Z
#print axioms LP.Props.C14zero.C14_contract_empty_nft_Z
#print axioms LP.Props.C14zero.claim_refund_covered_nft_Z
#print axioms LP.Props.C14zero.claim_refund_covered_same_Z
#print axioms LP.Props.C14zero.fee_refund_covered_separate_Z
#print axioms LP.Props.C14zero.winner_covered_nft_Z
#print axioms LP.Props.C14zero.claim_never_starves_nft_Z
#print axioms LP.Props.C14zero.claim_never_starves_nft
#print axioms LP.Props.C14zero.empty_range_cannot_confirmNft
#print axioms LP.Props.C14zero.empty_range_claim
#print axioms LP.Props.C14zero.m1_reachZ
#print axioms LP.Props.C14zero.m1_not_reach
#print axioms LP.Props.C14zero.m5_reachZ
#print axioms LP.Props.C14zero.m7_reachZ
#print axioms LP.Props.C14zero.m9_reachZ
#print axioms LP.Props.C14zero.m10_reachZ
