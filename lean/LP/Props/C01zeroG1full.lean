import LP.Proofs.ZeroAllocG1Full
import LP.Props.C01zeroG1
/-
  C01 / C02 / C03 / C11 / C12 / C13 headline theorems of `Variant.guarV1`
  (launchpad-guaranteed-tickets) with NO restriction on the allocation entries.

  `g1_ReachFull hash s r` (LP/Proofs/ZeroAllocG1.lean) / `g1_ReachFullA hash a0 s r`
  (LP/Proofs/ZeroAllocG1Full.lean) are `g1_Reach` / `g1_ReachA` WITHOUT the premise `v1_CallOK c`:
  an `addTicketsV1` entry may be `(a, 0, 0, m)` for either value of the migration flag `m`.
  `EnvOK` (EGLD or ESDT, not both) is kept.  For `m = false` see LP/Props/C01zeroG1.lean, which also
  shows that `m = true` cannot be erased into a `g1_Reach` state (`migrated_zero_not_simulable`).

  What the model does with `(a, 0, 0, true)` (`minConfirmed > 0` is enforced at deployment):
    * `a` gets the EMPTY range `[last+1, last]`, a zero-size batch, the record
      `uts a = {a := 0, b := 0, c := 0, d := 1}`, ENTERS THE WHITELIST, and one ticket of the
      reserve moves (`nrWinning − 1`, `totalGuaranteed + 1`): a GHOST GUARANTEE;
    * `a` can never confirm; `blacklist [a]` parks the record and gives the reserve ticket back,
      `unblacklist [a]` restores both;
    * the filter never visits `a`; `distribute` pops `a` from the whitelist, `calcV1` qualifies the
      ghost, the top-up over the empty range marks nothing and the whole guarantee becomes LEFTOVER
      (`z_processGuaranteed`), re-drawn among the real tickets: nothing of the reserve is lost;
    * in the claim phase the first `claim` of `a` sets its flag and pays nothing, every later one
      changes nothing.

  The invariant `zh_Inv T0 s r` (`zh_` = guarV1, unrestricted entries; LP/Proofs/ZeroAllocG1Full.lean)
  holds in every `g1_ReachFullA` state (`simulation`):
    * before the first `filter` call (`zh_PA`): the SHADOW `zv_sh s U BU N TG` — `s` with the empty
      ranges / zero-size batches erased and the guarantee bookkeeping replaced by an EMPTY one —
      satisfies `g1_WF`, the invariant of `g1_Reach`, and takes real steps; the reserve part is
      `GuarInvX s` (C12) on the REAL state plus `nrWinning + totalGuaranteed = T0`;
    * from the first `filter` call on: `s` is `ZGSim`-related (empty ranges / zero-size batches
      erased, guarantee-free records of empty-range addresses possibly erased, every other field —
      whitelist, reserve, vesting records, schedule, balances — equal) to a state `z` satisfying
      `g1_WF`; `z` takes the same step as `s`, except that a claim by an empty-range address is
      matched by NO step.
  With ghost guarantees `z` is in general NOT a `g1_Reach` state, but every headline theorem of
  LP/Props/C01reachG1.lean follows from `g1_WF` alone, and so transfers to EVERY `g1_ReachFull` state.

  The final-winner theorems are conditional on the `distribute` call having completed, as in
  C01reachG1: the v1 leftover loop need not terminate (LP/Props/C04unstuck3.lean).
  `final_winners_guarV1_full_partial` and `guarantee_honoured_guarV1_full` carry the hypotheses
  `r ≤ e.round` and `EnvOK e`, `claim_releases_exactly_guarV1_full` the hypothesis `EnvOK e`, which their
  counterparts in C01reachG1 do not have (`zh_Inv_distribute`, `zh_Inv_claim` also say that the erased
  state stays in `g1_WF` after the call).
-/
namespace LP.Props.C01zeroG1full
open LP LP.FY LP.Props.C01reach LP.Props.C01reachG1 LP.Props.C01zeroG1

/-! ### the simulation invariant -/

theorem simulation (hash : List Nat → List Nat) (a0 : InitArgs)
    (s : State) (r : Nat) (h : g1_ReachFullA hash a0 s r) : zh_Inv a0.nrWinning s r :=
  zh_sim h

/-- before the first `filter` call: the shadow (no empty range, no zero-size batch, no guarantee)
    satisfies `g1_WF`; the C12 reserve invariant holds on the real state -/
theorem simulation_before_filter (hash : List Nat → List Nat) (a0 : InitArgs) (s : State) (r : Nat)
    (h : g1_ReachFullA hash a0 s r) (hns : s.flags.started = false) :
    (∃ U BU N TG, g1_WF a0.nrWinning (zv_sh s U BU N TG) r) ∧ GuarInvX s ∧
    s.nrWinning + s.totalGuaranteed = a0.nrWinning := by
  rcases zh_sim h with h1 | ⟨h1, _⟩
  · obtain ⟨U, BU, N, TG, hwf, _⟩ := h1.sh
    exact ⟨⟨U, BU, N, TG, hwf⟩, h1.gx, h1.sum⟩
  · rw [hns] at h1; cases h1

theorem simulation_after_filter (hash : List Nat → List Nat) (a0 : InitArgs) (s : State) (r : Nat)
    (h : g1_ReachFullA hash a0 s r) (hst : s.flags.started = true) :
    ∃ z, g1_WF a0.nrWinning z r ∧ ZGSim s z := by
  rcases zh_sim h with hp | ⟨_, z, hz, hsim⟩
  · rw [hp.ns] at hst; cases hst
  · exact ⟨z, hz, hsim⟩

theorem reachZ_is_reachFull (hash : List Nat → List Nat) (s : State) (r : Nat)
    (h : g1_ReachZ hash s r) : g1_ReachFull hash s r := h.toFull

theorem reach_is_reachFull (hash : List Nat → List Nat) (s : State) (r : Nat)
    (h : g1_Reach hash s r) : g1_ReachFull hash s r := h.toZ.toFull

/-! ### ticket-payment solvency -/

/-- C01 for launchpad-guaranteed-tickets, ANY allocation entries (statement of
    `C01_solvent_guarV1`) -/
theorem C01_solvent_guarV1_full (hash : List Nat → List Nat) (s : State) (r : Nat)
    (h : g1_ReachFull hash s r) :
    ∃ L : List Nat, Covers s L ∧ (¬ AllDone s → PayEqPre s L) ∧ (AllDone s → PayEqPost s L) := by
  obtain ⟨T0, hi⟩ := h.inv
  exact zh_Inv_solvent hi

/-- `three_counts_guarV1` but for the last clause: every range — empty or not — has exactly
    `confirmed` tickets, and membership in the covering list is claimed for the holders of NON-EMPTY
    ranges only -/
theorem three_counts_guarV1_full (hash : List Nat → List Nat) (s : State) (r : Nat)
    (h : g1_ReachFull hash s r) (hd : AllDone s) :
    ∃ L : List Nat, Covers s L ∧ PayEqPost s L ∧ sumOver (winCountOf s) L = s.nrWinning ∧
      (∀ a, winCountOf s a ≤ s.confirmed a) ∧
      (∀ a rg, s.range a = some rg → rangeLen rg = s.confirmed a ∧ (rg.first ≤ rg.last → a ∈ L)) := by
  obtain ⟨T0, hi⟩ := h.inv
  exact zh_Inv_three_counts hi hd

theorem owner_withdrawal_covered_guarV1_full (hash : List Nat → List Nat) (s : State) (r : Nat)
    (h : g1_ReachFull hash s r) (hd : AllDone s) : s.claimablePayment ≤ s.bal s.payTok 0 := by
  obtain ⟨L, _, hpost, _⟩ := three_counts_guarV1_full hash s r h hd
  unfold PayEqPost at hpost
  omega

/-- C01: the refund of ANY address holding a range (empty or not) is covered, together with the
    owner's proceeds -/
theorem claim_refund_covered_guarV1_full (hash : List Nat → List Nat) (s : State) (r : Nat)
    (h : g1_ReachFull hash s r) (hd : AllDone s) (a : Nat) (rg : Range) (hr : s.range a = some rg) :
    s.claimablePayment + s.price * (s.confirmed a - winCountOf s a) ≤ s.bal s.payTok 0 := by
  obtain ⟨T0, hi⟩ := h.inv
  exact zh_Inv_refund_covered hi hd hr

/-! ### reserve, final winners, guarantees -/

/-- C12, reserve conservation: `nrWinning + totalGuaranteed` is the configured number of winners
    until the filter completes (ghost guarantees included), and at most that afterwards -/
theorem reserve_guarV1_full (hash : List Nat → List Nat) (a0 : InitArgs)
    (s : State) (r : Nat) (h : g1_ReachFullA hash a0 s r) :
    (s.flags.filtered = false → s.nrWinning + s.totalGuaranteed = a0.nrWinning) ∧
    (s.flags.additional = false → s.nrWinning + s.totalGuaranteed ≤ a0.nrWinning) :=
  zh_Inv_reserve (zh_sim h)

/-- C12 on the REAL state until the filter starts: `totalGuaranteed` is the sum of the guarantees of
    the whitelisted addresses — ghosts included —, a positive guarantee ⇔ whitelisted, blacklisted
    users hold a range -/
theorem reserve_invariant_guarV1_full (hash : List Nat → List Nat) (a0 : InitArgs)
    (s : State) (r : Nat) (h : g1_ReachFullA hash a0 s r) (hns : s.flags.started = false) :
    GuarInvX s :=
  (simulation_before_filter hash a0 s r h hns).2.1

/-- C03, final winner count, conditional on the `distribute` call having completed (as
    `final_winners_guarV1_partial`): the number of winning flags = `nrWinning`
    = `min (configured winners) (confirmed tickets)` — the ghost guarantees are re-drawn as
    leftovers, nothing of the reserve is lost —, proceeds = `price × nrWinning` -/
theorem final_winners_guarV1_full_partial (hash : List Nat → List Nat)
    (a0 : InitArgs) (s : State) (r : Nat) (h : g1_ReachFullA hash a0 s r) (e : Env) (s' : State)
    (o : Out) (hr : r ≤ e.round) (hok : EnvOK e)
    (hs : step hash s e .distribute = .ok (s', o)) (hret : o.ret = [0]) :
    AllDone s' ∧
    countTrue s'.status s'.lastTicketId = s'.nrWinning ∧
    s'.nrWinning = min a0.nrWinning s'.lastTicketId ∧
    s'.claimablePayment = s'.price * s'.nrWinning ∧
    (∀ t, s'.status t = true → 1 ≤ t ∧ t ≤ s'.lastTicketId) ∧
    (∀ t, s.status t = true → s'.status t = true) :=
  zh_Inv_final_winners (zh_sim h) hr hok hs hret

/-- C11, guarantees honoured: when the distribution completes, every holder of a guarantee record
    owns at least `min (qualified guarantee) (confirmed tickets)` winning tickets (for a ghost:
    `min 1 0 = 0`) -/
theorem guarantee_honoured_guarV1_full (hash : List Nat → List Nat)
    (a0 : InitArgs) (s : State) (r : Nat) (h : g1_ReachFullA hash a0 s r) (e : Env) (s' : State)
    (o : Out) (hr : r ≤ e.round) (hok : EnvOK e)
    (hs : step hash s e .distribute = .ok (s', o)) (hret : o.ret = [0]) :
    (∀ u st, s'.uts u = some st →
      min (calcV1 st (s'.confirmed u) s'.minConfirmed).1 (s'.confirmed u) ≤ winCountOf s' u) ∧
    (∀ t, s'.status t = true → 1 ≤ t ∧ t ≤ s'.lastTicketId) :=
  zh_Inv_guarantee_honoured (zh_sim h) hr hok hs hret

/-- during the distribution the number of winning flags is between the lottery winners and
    `min T0 lastTicketId` -/
theorem winners_bound_guarV1_full (hash : List Nat → List Nat) (a0 : InitArgs)
    (s : State) (r : Nat) (h : g1_ReachFullA hash a0 s r) (hsel : s.flags.selected = true)
    (hna : s.flags.additional = false) :
    s.nrWinning ≤ countTrue s.status s.lastTicketId ∧
    countTrue s.status s.lastTicketId ≤ min a0.nrWinning s.lastTicketId ∧
    (∀ t, s.status t = true → 1 ≤ t ∧ t ≤ s.lastTicketId) := by
  obtain ⟨z, hz, hsim⟩ := zh_Inv_selected (zh_sim h) hsel
  have hfl : z.flags = s.flags := hsim.fields.2.1
  have := v1_phase_winners_bound hz.phase (by rw [hfl]; exact hsel) (by rw [hfl]; exact hna)
  obtain ⟨w, rfl⟩ := hsim.shape'
  exact this

/-! ### launchpad tokens and the vesting ledger -/

/-- C02: before the distribution completes nobody has settled or claimed, and a deposit made so far
    is intact and covers `perTicket × (base winners + reserve)` (statement of
    `lp_before_distribution_guarV1`) -/
theorem lp_before_distribution_guarV1_full (hash : List Nat → List Nat) (s : State) (r : Nat)
    (h : g1_ReachFull hash s r) (hd : s.flags.additional = false) :
    (∀ a, s.userTotal a = 0 ∧ s.userClaimed a = 0 ∧ s.claimed a = false) ∧
    (s.deposited = true → s.bal (.esdt s.lpTok) 0 = s.totalDeposited ∧
      s.perTicket * (s.nrWinning + s.totalGuaranteed) ≤ s.totalDeposited) ∧
    (s.deposited = false → s.bal (.esdt s.lpTok) 0 = 0 ∧ ∀ a, s.confirmed a = 0) := by
  obtain ⟨T0, hi⟩ := h.inv
  exact zh_Inv_lp_before hi hd

/-- C02: after the distribution the launchpad tokens held cover every outstanding winner; before, a
    deposit covers the base winners and the whole reserve -/
theorem lp_cover_guarV1_full (hash : List Nat → List Nat) (s : State) (r : Nat)
    (h : g1_ReachFull hash s r) :
    (s.flags.additional = true → LP.Props.C02.LpCover s) ∧
    (s.flags.additional = false → s.deposited = true →
      s.perTicket * (s.nrWinning + s.totalGuaranteed) ≤ s.bal (.esdt s.lpTok) 0) := by
  obtain ⟨T0, hi⟩ := h.inv
  exact zh_Inv_lp_cover hi

/-- C13: not yet settled ⇒ no vesting record, and nobody is booked more than his entitlement
    (statement of `unsettled_no_record_guarV1`) -/
theorem unsettled_no_record_guarV1_full (hash : List Nat → List Nat) (s : State) (r : Nat)
    (h : g1_ReachFull hash s r) :
    (∀ a, s.claimed a = false → s.userTotal a = 0 ∧ s.userClaimed a = 0) ∧
    (∀ a, s.userClaimed a ≤ s.userTotal a) := by
  obtain ⟨T0, hi⟩ := h.inv
  exact zh_Inv_norec hi

/-- C02, the launchpad-token ledger after the distribution (statement of `lp_ledger_guarV1`) -/
theorem lp_ledger_guarV1_full (hash : List Nat → List Nat) (s : State) (r : Nat)
    (h : g1_ReachFull hash s r) (hd : AllDone s) :
    ∃ L : List Nat, L.Nodup ∧ (∀ a, a ∉ L → s.userTotal a = 0 ∧ s.userClaimed a = 0) ∧
      ((s.bal (.esdt s.lpTok) 0 + sumOver s.userClaimed L = s.totalDeposited ∧
        ∃ W, s.claimablePayment = s.price * W ∧
          W * s.perTicket = s.perTicket * s.nrWinning + sumOver s.userTotal L ∧
          W * s.perTicket ≤ s.totalDeposited) ∨
       (s.totalDeposited = 0 ∧ s.claimablePayment = 0 ∧
        s.bal (.esdt s.lpTok) 0 + sumOver s.userClaimed L
          = s.perTicket * s.nrWinning + sumOver s.userTotal L)) := by
  obtain ⟨a0, h⟩ := g1_ReachFull_iff.mp h
  obtain ⟨z, hz, hsim, hdz⟩ := zh_Inv_done (zh_sim h) hd
  have := (hz.vs.lp.post hdz.2).led
  obtain ⟨w, rfl⟩ := hsim.shape'
  exact this

/-- C02, the launchpad-token balance in closed form (statement of `lp_exact_guarV1`) -/
theorem lp_exact_guarV1_full (hash : List Nat → List Nat) (s : State) (r : Nat)
    (h : g1_ReachFull hash s r) (hd : AllDone s) :
    ∃ L : List Nat, L.Nodup ∧ (∀ a, a ∉ L → s.userTotal a = 0 ∧ s.userClaimed a = 0) ∧
      s.bal (.esdt s.lpTok) 0 = ownSurplus s + s.perTicket * s.nrWinning
        + sumOver (fun a => s.userTotal a - s.userClaimed a) L := by
  obtain ⟨T0, hi⟩ := h.inv
  exact zh_Inv_lp_exact hi hd

/-- C13: every vested claim is covered (statement of `vested_claim_covered_guarV1`) -/
theorem vested_claim_covered_guarV1_full (hash : List Nat → List Nat) (s : State) (r : Nat)
    (h : g1_ReachFull hash s r) (hd : AllDone s) (a : Nat) :
    ownSurplus s + s.perTicket * s.nrWinning + (s.userTotal a - s.userClaimed a)
      ≤ s.bal (.esdt s.lpTok) 0 := by
  obtain ⟨T0, hi⟩ := h.inv
  exact zh_Inv_vested_claim_covered hi hd a

/-- C02: the launchpad tokens of the winning tickets of ANY address are there -/
theorem unsettled_winner_covered_guarV1_full (hash : List Nat → List Nat) (s : State) (r : Nat)
    (h : g1_ReachFull hash s r) (hd : AllDone s) (a : Nat) :
    s.perTicket * winCountOf s a ≤ s.bal (.esdt s.lpTok) 0 ∧ winCountOf s a ≤ s.nrWinning := by
  obtain ⟨T0, hi⟩ := h.inv
  exact zh_Inv_unsettled_winner_covered hi hd a

/-- C13 (statement of `released_exact_guarV1`): for every participant `userClaimed` is `0` or
    EXACTLY the schedule's released amount at some round `r' ≤ r`; a stored schedule is valid -/
theorem released_exact_guarV1_full (hash : List Nat → List Nat) (s : State) (r : Nat)
    (h : g1_ReachFull hash s r) :
    (∀ a, claimedExactly1 s a r) ∧ (∀ sc, s.sched1 = some sc → validSched1 sc) ∧
    (∀ now, pct1 now s.sched1 ≤ 10000) := by
  obtain ⟨T0, hi⟩ := h.inv
  exact zh_Inv_exact hi

/-- C13, one vested claim, first or repeat (statement of `claim_releases_exactly_guarV1`, plus
    `EnvOK e`): afterwards the caller's cumulative received amount is EXACTLY the schedule's
    released part of his entitlement at the round of the call; the contract pays exactly the
    increment; nobody else's record is touched; the entitlement is `winning tickets × perTicket`,
    fixed by the first claim (for an empty-range address: `0`).  A claim by an empty-range address
    is matched by no step of `z`, hence the second case of the proof. -/
theorem claim_releases_exactly_guarV1_full (hash : List Nat → List Nat) (s : State) (r : Nat)
    (h : g1_ReachFull hash s r) (e : Env) (s' : State) (o : Out) (hr : r ≤ e.round) (hok : EnvOK e)
    (hs : step hash s e .claim = .ok (s', o)) :
    s'.sched1 = s.sched1 ∧
    s'.userClaimed e.caller = entitled (s'.userTotal e.caller) (pct1 e.round s.sched1) ∧
    s.userClaimed e.caller ≤ s'.userClaimed e.caller ∧
    s'.userClaimed e.caller ≤ s'.userTotal e.caller ∧
    (∀ sc, s.sched1 = some sc →
      (sc.start + sc.times * sc.period ≤ e.round ∨ (sc.initial = 10000 ∧ sc.start ≤ e.round)) →
      s'.userClaimed e.caller = s'.userTotal e.caller) ∧
    s'.bal (.esdt s.lpTok) 0 + (s'.userClaimed e.caller - s.userClaimed e.caller)
      = s.bal (.esdt s.lpTok) 0 ∧
    (∀ a, a ≠ e.caller → s'.userClaimed a = s.userClaimed a ∧ s'.userTotal a = s.userTotal a) ∧
    (s.claimed e.caller = true → s'.userTotal e.caller = s.userTotal e.caller) ∧
    (s.claimed e.caller = false →
      s'.userTotal e.caller = winCountOf s e.caller * s.perTicket ∧ s.userClaimed e.caller = 0) := by
  obtain ⟨a0, h⟩ := g1_ReachFull_iff.mp h
  have hinv := zh_sim h
  have hle0 := (zh_Inv_norec hinv).2 e.caller
  obtain ⟨z, z', hz, hsim, hz', hsim', hcase⟩ := zh_Inv_claim hinv hr hok hs
  rcases hcase with ⟨hstep, hcc⟩ | ⟨_, hut0, hcase⟩
  · have j := hz.claimVested hr hstep
    have j1 := (claim_static hstep).1
    have j5 := j.booked
    rw [pctOf_v1 (g1_flags hz.var).2.2.1] at j5
    have j6 := j.mono
    have j7 := j.paid
    have j8 := j.others
    have j10 := j.again
    have j11 := j.first
    have hwc := hsim.esim.winCountOf_eq e.caller
    have hsch := hz.vs.sch
    obtain ⟨w, rfl⟩ := hsim.shape'
    obtain ⟨w', rfl⟩ := hsim'.shape'
    have j1' : s'.sched1 = s.sched1 := j1
    have j5' : s'.userClaimed e.caller = entitled (s'.userTotal e.caller) (pct1 e.round s.sched1) := j5
    have j6' : s.userClaimed e.caller ≤ s'.userClaimed e.caller := j6
    have j7' : s'.bal (.esdt s.lpTok) 0 + (s'.userClaimed e.caller - s.userClaimed e.caller)
        = s.bal (.esdt s.lpTok) 0 := j7
    have hsch' : ∀ x, s.sched1 = some x → validSched1 x := hsch
    have hcc' : w.C e.caller = s.claimed e.caller := hcc
    refine ⟨j1', j5', j6', ?_, ?_, j7', fun a ha => ⟨(j8 a ha).1, (j8 a ha).2.1⟩, ?_, ?_⟩
    · rw [j5']; exact entitled_le _ (g1_pct1_le hsch' _)
    · intro sc hsc hfull
      rw [j5', hsc]
      show entitled _ (unlockedPct1 e.round sc) = _
      rw [unlockedPct1_full sc (hsch' sc hsc) hfull]
      exact entitled_full _
    · intro hq
      exact j10 (hcc'.trans hq)
    · intro hq
      obtain ⟨k1, k2⟩ := j11 (hcc'.trans hq)
      have k1' : s'.userTotal e.caller = winCountOf (zg_w s w) e.caller * s.perTicket := k1
      rw [← hwc] at k1'
      exact ⟨k1', k2⟩
  · have hc0 : s.userClaimed e.caller = 0 := by omega
    have hent : ∀ p, entitled 0 p = 0 := fun p => by simp [entitled]
    rcases hcase with ⟨hs', hcl⟩ | ⟨rg, hrg, hlt, hcl, hs'⟩
    · subst hs'
      refine ⟨rfl, ?_, Nat.le_refl _, ?_, ?_, ?_, fun a _ => ⟨rfl, rfl⟩, fun _ => rfl, fun hq => ?_⟩
      · rw [hc0, hut0, hent]
      · rw [hc0, hut0]; exact Nat.le_refl _
      · intro _ _ _; rw [hc0, hut0]
      · rw [Nat.sub_self, Nat.add_zero]
      · rw [hcl] at hq; cases hq
    · subst hs'
      have hwin0 : winCountOf s e.caller = 0 := by
        have hlen : rangeLen rg = 0 := by unfold rangeLen; omega
        unfold winCountOf
        rw [hrg]
        simp only [hlen, countWinning]
      refine ⟨rfl, ?_, Nat.le_refl _, ?_, ?_, ?_, fun a _ => ⟨rfl, rfl⟩, fun _ => rfl, fun _ => ⟨?_, hc0⟩⟩
      · show s.userClaimed e.caller = entitled (s.userTotal e.caller) _
        rw [hc0, hut0, hent]
      · show s.userClaimed e.caller ≤ s.userTotal e.caller
        rw [hc0, hut0]; exact Nat.le_refl _
      · intro _ _ _
        show s.userClaimed e.caller = s.userTotal e.caller
        rw [hc0, hut0]
      · show s.bal (.esdt s.lpTok) 0 + (s.userClaimed e.caller - s.userClaimed e.caller) = _
        rw [Nat.sub_self, Nat.add_zero]
      · show s.userTotal e.caller = _
        rw [hut0, hwin0, Nat.zero_mul]

/-! ### what an address with an empty range (ghost or not) can do at claim time -/

/-- its first claim pays nothing, moves no balance and records no entitlement: only the caller's
    `claimed` flag, its stale range and the batch slot at the range's first id change -/
theorem empty_range_claim_guarV1_full (hash : List Nat → List Nat) (s : State)
    (r : Nat) (h : g1_ReachFull hash s r) (e : Env) (s' : State) (o : Out) (rg : Range)
    (hr : r ≤ e.round) (hok : EnvOK e) (hcl : s.claimed e.caller = false)
    (hrg : s.range e.caller = some rg) (he : rg.last < rg.first)
    (hs : step hash s e .claim = .ok (s', o)) :
    s' = zg_w s ⟨upd s.range e.caller none, upd s.batch rg.first none, s.blacklist,
                 upd s.claimed e.caller true, s.uts⟩ ∧
    s'.bal = s.bal ∧ s'.nrWinning = s.nrWinning ∧ s'.userTotal = s.userTotal ∧
    s'.userClaimed = s.userClaimed := by
  obtain ⟨T0, hi⟩ := h.inv
  exact zh_Inv_empty_range_claim hi hcl hrg he hs

/-! ### non-vacuity: a launch with a GHOST guarantee, to the very end

  `m1` (LP/Props/C01zeroG1.lean) = deployment `wArgs` (`T0 = 2`, `perTicket = 20`, `price = 10`)
  followed by `addTicketsV1 [(6, 0, 0, true), (7, 2, 0, false)]`: 6 is a ghost (empty range,
  whitelisted, one reserve ticket), 7 holds two tickets and a staking guarantee.  The history goes
  on: schedule, deposit, 7 confirms both tickets, filter, lottery (`nrWinning = 0`: the whole
  reserve is guaranteed), distribution (7's guarantee is honoured, the ghost's guarantee is
  re-drawn: both tickets win), two claims by the ghost (nothing happens). -/

theorem g1F_callOk {hash : List Nat → List Nat} {a0 : InitArgs} {s : State} {r : Nat}
    (e : Env) (c : Call)
    (h : g1_ReachFullA hash a0 s r) (hr : r ≤ e.round) (hok : EnvOK e)
    (hs : isOk (step hash s e c) = true) :
    g1_ReachFullA hash a0 (stOf (step hash s e c) s) e.round :=
  let ⟨o, ho⟩ := stOf_spec hs s
  .call s r e c _ o h hr hok ho

def outOf (x : Res (State × Out)) : Out :=
  match x with
  | .ok (_, o) => o
  | .error _ => {}

theorem step_ok_of_isOk {x : Res (State × Out)} (d : State) (h : isOk x = true) :
    x = .ok (stOf x d, outOf x) := by
  cases x with
  | error err => cases h
  | ok q => rfl

def n2 : State := stOf (step id m1 { caller := 1, round := 1 } (.setSchedule1 16 2500 3 2500 10)) m1
def n3 : State := stOf (step id n2 { caller := 1, round := 2, esdts := [⟨.esdt 1, 0, 40⟩] } .deposit) n2
def n4 : State := stOf (step id n3 { caller := 7, round := 5, egld := 20 } (.confirm 2)) n3
def n5 : State := stOf (step id n4 { caller := 9, round := 10 } .filter) n4
def n6 : State := stOf (step id n5 { caller := 9, round := 11 } .select) n5
def n7 : State := stOf (step id n6 { caller := 9, round := 12 } .distribute) n6
def n8 : State := stOf (step id n7 { caller := 6, round := 16 } .claim) n7
def n9 : State := stOf (step id n8 { caller := 6, round := 17 } .claim) n8

theorem n2_ok : isOk (step id m1 { caller := 1, round := 1 } (.setSchedule1 16 2500 3 2500 10)) = true := by
  decide +kernel
theorem n3_ok : isOk (step id n2 { caller := 1, round := 2, esdts := [⟨.esdt 1, 0, 40⟩] } .deposit) = true := by
  decide +kernel
theorem n4_ok : isOk (step id n3 { caller := 7, round := 5, egld := 20 } (.confirm 2)) = true := by
  decide +kernel
theorem n5_ok : isOk (step id n4 { caller := 9, round := 10 } .filter) = true := by decide +kernel
theorem n6_ok : isOk (step id n5 { caller := 9, round := 11 } .select) = true := by decide +kernel
theorem n7_ok : isOk (step id n6 { caller := 9, round := 12 } .distribute) = true := by decide +kernel
theorem n8_ok : isOk (step id n7 { caller := 6, round := 16 } .claim) = true := by decide +kernel
theorem n9_ok : isOk (step id n8 { caller := 6, round := 17 } .claim) = true := by decide +kernel

theorem m1_reachFullA : g1_ReachFullA id wArgs m1 1 :=
  g1F_callOk _ _ w0_reach.toFullA (by decide) (Or.inl rfl) m1_ok

theorem n2_reachFullA : g1_ReachFullA id wArgs n2 1 :=
  g1F_callOk _ _ m1_reachFullA (by decide) (Or.inl rfl) n2_ok

theorem n3_reachFullA : g1_ReachFullA id wArgs n3 2 :=
  g1F_callOk _ _ n2_reachFullA (by decide) (Or.inl rfl) n3_ok

theorem n4_reachFullA : g1_ReachFullA id wArgs n4 5 :=
  g1F_callOk _ _ n3_reachFullA (by decide) (Or.inr rfl) n4_ok

theorem n5_reachFullA : g1_ReachFullA id wArgs n5 10 :=
  g1F_callOk _ _ n4_reachFullA (by decide) (Or.inl rfl) n5_ok

theorem n6_reachFullA : g1_ReachFullA id wArgs n6 11 :=
  g1F_callOk _ _ n5_reachFullA (by decide) (Or.inl rfl) n6_ok

theorem n7_reachFullA : g1_ReachFullA id wArgs n7 12 :=
  g1F_callOk _ _ n6_reachFullA (by decide) (Or.inl rfl) n7_ok

theorem n8_reachFullA : g1_ReachFullA id wArgs n8 16 :=
  g1F_callOk _ _ n7_reachFullA (by decide) (Or.inl rfl) n8_ok

theorem n9_reachFullA : g1_ReachFullA id wArgs n9 17 :=
  g1F_callOk _ _ n8_reachFullA (by decide) (Or.inl rfl) n9_ok

/-- the ghost: empty range, whitelisted, one reserve ticket moved -/
example : m1.range 6 = some ⟨1, 0⟩ ∧ m1.whitelist = [6, 7] ∧ m1.totalGuaranteed = 2 ∧
    m1.nrWinning = 0 ∧ m1.uts 6 = some { a := 0, b := 0, c := 0, d := 1 } := by
  decide +kernel

/-- it survives the filter (the whole reserve is guaranteed: the lottery draws `0` winners) -/
example : n5.flags.filtered = true ∧ n5.range 6 = some ⟨1, 0⟩ ∧ n5.whitelist = [6, 7] ∧
    n5.nrWinning = 0 ∧ n5.lastTicketId = 2 := by
  decide +kernel

/-- `distribute` pops it, its guarantee is re-drawn: both confirmed tickets win -/
example : AllDone n7 ∧ n7.whitelist = [] ∧ n7.nrWinning = 2 ∧ n7.claimablePayment = 20 ∧
    winCountOf n7 7 = 2 ∧ n7.range 6 = some ⟨1, 0⟩ ∧ n7.claimed 6 = false := by
  unfold AllDone; decide +kernel

/-- its claims pay nothing -/
example : n8.claimed 6 = true ∧ n8.range 6 = none ∧ n8.userTotal 6 = 0 ∧
    n8.bal (.esdt 1) 0 = n7.bal (.esdt 1) 0 ∧ n8.bal .egld 0 = n7.bal .egld 0 ∧
    n9.bal (.esdt 1) 0 = n8.bal (.esdt 1) 0 ∧ n9.claimed 6 = true := by
  decide +kernel

/-- `m1` is not a `g1_Reach` state, and not even erasure-related to one (`m1_not_simulable` of
    C01zeroG1) -/
example (hash : List Nat → List Nat) (r : Nat) : ¬ g1_Reach hash m1 r :=
  empty_range_not_reach hash m1 r 6 ⟨1, 0⟩ (by decide +kernel) (by decide +kernel)

example : (∃ U BU N TG, g1_WF wArgs.nrWinning (zv_sh m1 U BU N TG) 1) ∧ GuarInvX m1 ∧
    m1.nrWinning + m1.totalGuaranteed = 2 :=
  simulation_before_filter id wArgs m1 1 m1_reachFullA (by decide +kernel)

example : ∃ z, g1_WF wArgs.nrWinning z 12 ∧ ZGSim n7 z :=
  simulation_after_filter id wArgs n7 12 n7_reachFullA (by decide +kernel)

example : ∃ L : List Nat, Covers n9 L ∧ PayEqPost n9 L := by
  have hr : g1_ReachFull id n9 17 := g1_ReachFull_iff.mpr ⟨wArgs, n9_reachFullA⟩
  obtain ⟨L, h1, _, h3⟩ := C01_solvent_guarV1_full id n9 17 hr
  exact ⟨L, h1, h3 (by unfold AllDone; decide +kernel)⟩

example : n7.nrWinning = min wArgs.nrWinning n7.lastTicketId := by
  have hret : (outOf (step id n6 { caller := 9, round := 12 } .distribute)).ret = [0] := by decide +kernel
  exact (final_winners_guarV1_full_partial id wArgs n6 11 n6_reachFullA { caller := 9, round := 12 } n7 _
    (by decide) (Or.inl rfl) (step_ok_of_isOk n6 n7_ok) hret).2.2.1

example : n7.perTicket * n7.nrWinning ≤ n7.bal (.esdt n7.lpTok) 0 := by
  have hr : g1_ReachFull id n7 12 := g1_ReachFull_iff.mpr ⟨wArgs, n7_reachFullA⟩
  have := vested_claim_covered_guarV1_full id n7 12 hr (by unfold AllDone; decide +kernel) 7
  omega

example : n8.bal = n7.bal ∧ n8.userTotal = n7.userTotal := by
  have hr : g1_ReachFull id n7 12 := g1_ReachFull_iff.mpr ⟨wArgs, n7_reachFullA⟩
  have h := empty_range_claim_guarV1_full id n7 12 hr { caller := 6, round := 16 } n8 _ ⟨1, 0⟩
    (by decide) (Or.inl rfl) (by decide +kernel) (by decide +kernel) (by decide +kernel)
    (step_ok_of_isOk n7 n8_ok)
  exact ⟨h.2.1, h.2.2.2.1⟩

example : n8.userClaimed 6 = entitled (n8.userTotal 6) (pct1 16 n7.sched1) ∧
    n8.userTotal 6 = winCountOf n7 6 * n7.perTicket := by
  have hr : g1_ReachFull id n7 12 := g1_ReachFull_iff.mpr ⟨wArgs, n7_reachFullA⟩
  have h := claim_releases_exactly_guarV1_full id n7 12 hr { caller := 6, round := 16 } n8 _
    (by decide) (Or.inl rfl) (step_ok_of_isOk n7 n8_ok)
  exact ⟨h.2.1, (h.2.2.2.2.2.2.2.2 (by decide +kernel)).1⟩

/-- a second history: the ghost is blacklisted (the reserve ticket comes back) and un-blacklisted
    (it is reserved again) before the filter; the reserve is conserved throughout -/
def p2 : State := stOf (step id m1 { caller := 1, round := 2 } (.blacklist [6])) m1
def p3 : State := stOf (step id p2 { caller := 1, round := 3 } (.unblacklist [6])) p2

theorem p2_reachFullA : g1_ReachFullA id wArgs p2 2 :=
  g1F_callOk { caller := 1, round := 2 } (.blacklist [6]) m1_reachFullA (by decide) (Or.inl rfl) (by decide +kernel)

theorem p3_reachFullA : g1_ReachFullA id wArgs p3 3 :=
  g1F_callOk { caller := 1, round := 3 } (.unblacklist [6]) p2_reachFullA (by decide) (Or.inl rfl) (by decide +kernel)

example : p2.blacklist 6 = true ∧ p2.whitelist = [7] ∧ p2.totalGuaranteed = 1 ∧ p2.nrWinning = 1 ∧
    p3.blacklist 6 = false ∧ p3.whitelist = [7, 6] ∧ p3.totalGuaranteed = 2 ∧ p3.nrWinning = 0 := by
  decide +kernel

example : p2.nrWinning + p2.totalGuaranteed = wArgs.nrWinning ∧ GuarInvX p3 :=
  ⟨(reserve_guarV1_full id wArgs p2 2 p2_reachFullA).1 (by decide +kernel),
   reserve_invariant_guarV1_full id wArgs p3 3 p3_reachFullA (by decide +kernel)⟩

end LP.Props.C01zeroG1full

#print axioms LP.Props.C01zeroG1full.simulation
#print axioms LP.Props.C01zeroG1full.simulation_before_filter
#print axioms LP.Props.C01zeroG1full.simulation_after_filter
#print axioms LP.Props.C01zeroG1full.reachZ_is_reachFull
#print axioms LP.Props.C01zeroG1full.reach_is_reachFull
#print axioms LP.Props.C01zeroG1full.C01_solvent_guarV1_full
#print axioms LP.Props.C01zeroG1full.three_counts_guarV1_full
#print axioms LP.Props.C01zeroG1full.owner_withdrawal_covered_guarV1_full
#print axioms LP.Props.C01zeroG1full.claim_refund_covered_guarV1_full
#print axioms LP.Props.C01zeroG1full.reserve_guarV1_full
#print axioms LP.Props.C01zeroG1full.reserve_invariant_guarV1_full
#print axioms LP.Props.C01zeroG1full.final_winners_guarV1_full_partial
#print axioms LP.Props.C01zeroG1full.guarantee_honoured_guarV1_full
#print axioms LP.Props.C01zeroG1full.winners_bound_guarV1_full
#print axioms LP.Props.C01zeroG1full.lp_before_distribution_guarV1_full
#print axioms LP.Props.C01zeroG1full.lp_cover_guarV1_full
#print axioms LP.Props.C01zeroG1full.unsettled_no_record_guarV1_full
#print axioms LP.Props.C01zeroG1full.lp_ledger_guarV1_full
#print axioms LP.Props.C01zeroG1full.lp_exact_guarV1_full
#print axioms LP.Props.C01zeroG1full.vested_claim_covered_guarV1_full
#print axioms LP.Props.C01zeroG1full.unsettled_winner_covered_guarV1_full
#print axioms LP.Props.C01zeroG1full.released_exact_guarV1_full
#print axioms LP.Props.C01zeroG1full.claim_releases_exactly_guarV1_full
#print axioms LP.Props.C01zeroG1full.empty_range_claim_guarV1_full
#print axioms LP.Props.C01zeroG1full.g1F_callOk
#print axioms LP.Props.C01zeroG1full.step_ok_of_isOk
#print axioms LP.Props.C01zeroG1full.m1_reachFullA
#print axioms LP.Props.C01zeroG1full.n2_reachFullA
#print axioms LP.Props.C01zeroG1full.n3_reachFullA
#print axioms LP.Props.C01zeroG1full.n4_reachFullA
#print axioms LP.Props.C01zeroG1full.n5_reachFullA
#print axioms LP.Props.C01zeroG1full.n6_reachFullA
#print axioms LP.Props.C01zeroG1full.n7_reachFullA
#print axioms LP.Props.C01zeroG1full.n8_reachFullA
#print axioms LP.Props.C01zeroG1full.n9_reachFullA
#print axioms LP.Props.C01zeroG1full.p2_reachFullA
#print axioms LP.Props.C01zeroG1full.p3_reachFullA
