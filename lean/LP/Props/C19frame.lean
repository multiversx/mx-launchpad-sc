import LP.Proofs.PauseFrame
import LP.Props.C19
/-
  C19 (completion) — the `paused` flag is transparent.

  The flag is written only by `pause`/`unpause` and read only by the gates of confirm / filter /
  select (every variant) and of v2's distribute / claim (`GatedCall`).  Hence an accepted call
  behaves exactly like the same call on the un-paused state, and deleting from a history the
  `pause`/`unpause` calls and the calls rejected because of the pause changes the final state at
  most in the flag.  All statements are for every variant, every call, every state (reachable or not).
-/
namespace LP.Props.C19frame
open LP

/-- only `pause` / `unpause` write the flag -/
theorem paused_frame (hash : List Nat → List Nat) (s s' : State) (e : Env) (c : Call) (o : Out)
    (h : step hash s e c = .ok (s', o)) (h1 : c ≠ .pause) (h2 : c ≠ .unpause) :
    s'.paused = s.paused :=
  step_paused_eq h (Call.isPauseCtl_eq_false h1 h2)

/-- **an accepted call does not see the flag**: whatever the flag, an accepted call other than
    `pause`/`unpause` is accepted on the un-paused state with the same outputs and the same
    resulting state (flag cleared) -/
theorem paused_irrelevant (hash : List Nat → List Nat) (s s' : State) (e : Env) (c : Call) (o : Out)
    (h1 : c ≠ .pause) (h2 : c ≠ .unpause) (h : step hash s e c = .ok (s', o)) :
    step hash { s with paused := false } e c = .ok ({ s' with paused := false }, o) :=
  step_unpaused_of_ok h (Call.isPauseCtl_eq_false h1 h2)

/-- conversely, a non-gated call accepted on the un-paused state is accepted whatever the
    flag, with the same outputs and the same resulting state (flag kept) -/
theorem paused_irrelevant_conv (hash : List Nat → List Nat) (s s₀' : State) (e : Env) (c : Call) (o : Out)
    (h1 : c ≠ .pause) (h2 : c ≠ .unpause) (hg : ¬GatedCall s.variant c)
    (h : step hash { s with paused := false } e c = .ok (s₀', o)) :
    step hash s e c = .ok ({ s₀' with paused := s.paused }, o) :=
  step_of_unpaused_ok h (Call.isPauseCtl_eq_false h1 h2) (gated_false_of hg)

/-- for non-gated calls the whole result — acceptance, error, outputs, state
    up to the flag — is independent of the flag -/
theorem paused_independent (hash : List Nat → List Nat) (s : State) (b : Bool) (e : Env) (c : Call)
    (h1 : c ≠ .pause) (h2 : c ≠ .unpause) (hg : ¬GatedCall s.variant c) :
    step hash { s with paused := b } e c
      = match step hash s e c with
        | .ok (s', o) => .ok ({ s' with paused := b }, o)
        | .error err => .error err := by
  have := step_setP hash s b e c (Call.isPauseCtl_eq_false h1 h2)
    (by rw [gated_false_of hg]; intro h; cases h)
  refine this.trans ?_
  cases step hash s e c with
  | error err => rfl
  | ok r => rfl

/-- a gated call is accepted only on an un-paused contract (all five gates at once; cf.
    `C19.paused_rejects`, `C19.paused_rejects_v2`) -/
theorem gated_accepted_unpaused (hash : List Nat → List Nat) (s s' : State) (e : Env) (c : Call) (o : Out)
    (hg : GatedCall s.variant c) (h : step hash s e c = .ok (s', o)) : s.paused = false :=
  gated_ok_unpaused h ((gated_iff _ _).mpr hg)

/-! ### histories -/

/-- what the pause-free sub-history `erasePause hash s h` (defined in LP.Proofs.PauseFrame by
    recursion along the real run) deletes: a call is dropped iff it is `pause`/`unpause`, or it is a
    gated call made while the flag is set (such a call is rejected); every other call — accepted, or
    rejected for a reason other than the pause — is kept, in order -/
theorem erasePause_step (hash : List Nat → List Nat) (s : State) (e : Env) (c : Call)
    (rest : List (Env × Call)) :
    erasePause hash s ((e, c) :: rest)
      = (if c.isPauseCtl || (gated s.variant c && s.paused) then [] else [(e, c)])
        ++ erasePause hash (run hash s [(e, c)]) rest :=
  erasePause_spec hash s e c rest

/-- the pause-free history is a sub-history -/
theorem erasePause_sublist (hash : List Nat → List Nat) : ∀ (h : List (Env × Call)) (s : State),
    (erasePause hash s h).Sublist h
  | [], s => by simp [erasePause]
  | (e, c) :: rest, s => by
    rw [erasePause_spec]
    split
    · exact (erasePause_sublist hash rest _).cons _
    · exact (erasePause_sublist hash rest _).cons_cons _

/-- … without any `pause` / `unpause` -/
theorem erasePause_no_ctl (hash : List Nat → List Nat) : ∀ (h : List (Env × Call)) (s : State),
    ∀ ec ∈ erasePause hash s h, ec.2 ≠ .pause ∧ ec.2 ≠ .unpause
  | [], s => by simp [erasePause]
  | (e, c) :: rest, s => by
    intro ec hec
    rw [erasePause_spec] at hec
    rcases List.mem_append.mp hec with h1 | h1
    · split at h1
      · cases h1
      · rename_i hn
        simp only [List.mem_singleton] at h1
        subst h1
        constructor <;> (intro hc; have hc' : c = _ := hc; subst hc'; simp [Call.isPauseCtl] at hn)
    · exact erasePause_no_ctl hash rest _ ec h1

/-- **pause is transparent over histories**: for every history `h` from every state `s`, the
    final state equals, up to the flag, the final state of the pause-free sub-history
    `erasePause hash s h` (delete `pause`/`unpause` and the calls rejected because of the pause)
    run from the un-paused `s` -/
theorem pause_transparent (hash : List Nat → List Nat) (s : State) (h : List (Env × Call)) :
    { run hash s h with paused := false }
      = run hash { s with paused := false } (erasePause hash s h) :=
  run_erasePause hash h s

/-- the pause-free sub-history, run from the un-paused state, produces exactly the
    outputs (return values, events, transfers, lock calls, SFT hand-outs, draws) of the accepted
    calls of `h` other than `pause`/`unpause`, for the same calls in the same order -/
theorem pause_transparent_outputs (hash : List Nat → List Nat) (s : State) (h : List (Env × Call)) :
    runOuts hash { s with paused := false } (erasePause hash s h)
      = (runOuts hash s h).filter (fun x => !x.2.1.isPauseCtl) :=
  runOuts_erasePause hash h s

/-- the pause-free run never sets the flag -/
theorem run_unpaused_of_no_ctl (hash : List Nat → List Nat) : ∀ (h : List (Env × Call)) (s : State),
    (∀ ec ∈ h, ec.2 ≠ .pause ∧ ec.2 ≠ .unpause) → (run hash s h).paused = s.paused :=
  run_rec hash (fun _ _ => rfl)
    (fun s e c rest _ hst ih hall => by
      rw [run_cons_err hst]
      exact ih fun ec hec => hall ec (List.mem_cons_of_mem _ hec))
    (fun s e c rest s' o hst ih hall => by
      rw [run_cons_ok hst, ih fun ec hec => hall ec (List.mem_cons_of_mem _ hec)]
      exact paused_frame hash s s' e c o hst (hall _ List.mem_cons_self).1 (hall _ List.mem_cons_self).2)

/-- from an un-paused state, if the contract is un-paused at the end of `h`
    then the pauses left no trace at all — the final state is the final state of the pause-free
    sub-history -/
theorem pause_transparent_exact (hash : List Nat → List Nat) (s : State) (h : List (Env × Call))
    (hs : s.paused = false) (hend : (run hash s h).paused = false) :
    run hash s h = run hash s (erasePause hash s h) := by
  have h1 := run_erasePause hash h s
  rw [← hs, State.setP_self, hs, ← hend, State.setP_self] at h1
  exact h1

/-- a pause, calls that are rejected, and an unpause leave no trace (`C19.pause_roundtrip`) -/
theorem pause_roundtrip (hash : List Nat → List Nat) (s : State) (e1 e2 : Env)
    (mid : List (Env × Call)) (s1 s2 : State) (o1 o2 : Out)
    (hnp : s.paused = false)
    (h1 : step hash s e1 .pause = .ok (s1, o1))
    (hmid : ∀ ec ∈ mid, ∃ err, step hash s1 ec.1 ec.2 = .error err)
    (h2 : step hash s1 e2 .unpause = .ok (s2, o2)) :
    run hash s ((e1, Call.pause) :: mid ++ [(e2, Call.unpause)]) = s :=
  C19.pause_roundtrip hash s e1 e2 mid s1 s2 o1 o2 hnp h1 hmid h2

/-! ### non-vacuity -/

/-- a deployed, deposited, paused base launchpad in the confirmation period -/
def demo : State :=
  { variant := .base, owner := 1, lpTok := 1, perTicket := 1, payTok := .egld, price := 10,
    nrWinning := 1, cfg := ⟨5, 10, 15⟩, flags := {}, support := 1, deposited := true, paused := true,
    range := fun a => if a = 7 then some ⟨1, 3⟩ else none }

/-- `paused_frame` / `paused_irrelevant` / `paused_irrelevant_conv` apply to an accepted non-gated
    call on a paused contract (the owner moves the claim start) -/
example : ∃ s' o, step id demo { caller := 1, round := 6 } (.setClaimStart 20) = .ok (s', o) ∧
    ¬GatedCall demo.variant (.setClaimStart 20) ∧ demo.paused = true :=
  ⟨_, _, rfl, by simp [GatedCall], rfl⟩

/-- a history with a pause, a confirmation rejected because of it, an unpause and an accepted
    confirmation: the pause-free sub-history is the accepted confirmation alone -/
example :
    let s := { demo with paused := false }
    let h : List (Env × Call) :=
      [({ caller := 1, round := 6 }, .pause), ({ caller := 7, round := 6, egld := 20 }, .confirm 2),
       ({ caller := 1, round := 7 }, .unpause), ({ caller := 7, round := 8, egld := 10 }, .confirm 1)]
    (erasePause id s h).length = 1 ∧ (run id s h).confirmed 7 = 1 ∧ (run id s h).paused = false := by
  refine ⟨by decide, by decide, by decide⟩

end LP.Props.C19frame

#print axioms LP.Props.C19frame.paused_frame
#print axioms LP.Props.C19frame.paused_irrelevant
#print axioms LP.Props.C19frame.paused_irrelevant_conv
#print axioms LP.Props.C19frame.paused_independent
#print axioms LP.Props.C19frame.gated_accepted_unpaused
#print axioms LP.Props.C19frame.erasePause_step
#print axioms LP.Props.C19frame.erasePause_sublist
#print axioms LP.Props.C19frame.erasePause_no_ctl
#print axioms LP.Props.C19frame.pause_transparent
#print axioms LP.Props.C19frame.pause_transparent_outputs
#print axioms LP.Props.C19frame.pause_transparent_exact
#print axioms LP.Props.C19frame.pause_roundtrip

#print axioms LP.Props.C19frame.run_unpaused_of_no_ctl
