import LP.Proofs.ZeroAllocNGFull
import LP.Props.C01zero
import LP.Props.C18reach
/-
  C14 / C01 / C02 / C03 / C11 / C12 for `Variant.nftGuar` (launchpad-nft-and-guaranteed-tickets)
  with zero-size allocation entries that carry no migration guarantee.

  What a zero-size entry `(a, 0, 0, migrated)` of `addTicketsV1` does (model = contract; evaluated
  examples at the end of this file):
    * `a` gets the empty range `[last+1, last]` and a zero-size batch at `last+1` which the next
      allocation overwrites (or which dangles above `lastTicketId`) — as in the plain launchpad;
    * `staking = 0 < minConfirmed` (deployment enforces `minConfirmed > 0`): no staking guarantee;
    * `migrated = false`: the record `{a := 0, b := 0, c := 0, d := 0}` is written, the whitelist
      and the reserve (`nrWinning`, `totalGuaranteed`) are not touched;
    * `migrated = true`: the address enters the whitelist and reserves one ticket (`nrWinning - 1`,
      `totalGuaranteed + 1`, record `{0,0,0,1}`), although it can never confirm anything;
    * such an address cannot `confirm` (the allocation view panics), hence cannot `confirmNft`;
      `blacklist [a]` is accepted (nothing to refund; a reserved ticket goes back to `nrWinning`);
      the filter never visits it; the guaranteed-ticket loop of `secondary` visits a whitelisted
      one and turns its reserved ticket into a leftover ticket (`calcV1 {0,0,0,1} 0 _ = (1, 0)`,
      the top-up over the empty range marks nothing); in the claim stage it may `claim` once:
      nothing is paid, the "not confirmed" SFT (category 3) is handed out, the batch slot at its
      stale first id is wiped.

  Two relations (LP/Proofs/ZeroAllocNG.lean), `ng_Reach ⊆ ng_ReachG ⊆ ng_ReachZ`:
    `ng_ReachZ`  — `ng_Reach` without any premise on the calls;
    `ng_ReachG`  — zero-size entries allowed when `migrated = false` (`zc_CallOK`).

  `simulation` (`zc_sim`, LP/Proofs/ZeroAllocNG.lean): every `ng_ReachG` state `s` is `ZSimG`-related
  to an `ng_Reach` state `z` — `s` with the empty ranges, the zero-size batches (until the filter
  has completed) and the empty guarantee records removed, `blacklist`/`claimed` below those of `s`,
  every other field equal.
  `addTicketsV1 l` is matched by `addTicketsV1 (l without zero-size entries)`, `blacklist l` by
  `blacklist (l without empty-range addresses)`, a claim by an empty-range address by no step,
  every other call (including `secondary`, interrupted anywhere) by itself.  The `_G` theorems are
  those of LP/Props/C14reachG.lean for every `ng_ReachG` state; they are read off the invariant
  `zk_Inv` of LP/Proofs/ZeroAllocNGFull.lean, which every `ng_ReachZ` state satisfies.

  An entry with `migrated = true` cannot be erased: it moves the reserve and the whitelist, and an
  `ng_Reach` state (`GI.has_range`, phase A) has no whitelisted address without a range.  Giving
  the address a real ticket instead (`(a, 0, 1, true)`: same leftover effect,
  `calcV1 {0,1,0,1} 0 _ = (0, 1)`, and the filter removes the ticket) shifts all later ticket ids
  until the filter completes, adds iterations to the filter loop, and near the `usizeMax` bound the
  contract rejects the extra ticket: some `ng_ReachZ` states are related to no `ng_Reach` state by
  any relation that keeps `nrWinning`, `totalGuaranteed` and the whitelist.  Those states are
  covered in LP/Props/C14zeroGfull.lean; here: what such an entry does
  (`migrated_ghost_reserves`, `migrated_ghost_qualifies`, `migrated_ghost_leftover`) and the
  evaluated history `m1 … m12`.
-/
namespace LP.Props.C14zeroG
open LP LP.FY LP.Props.C09 LP.Props.C14 LP.Props.C01reach LP.Props.C14reach LP.Props.C14reachG

theorem simulation (hash : List Nat → List Nat) (s : State) (r : Nat) (h : ng_ReachG hash s r) :
    ∃ z, ng_Reach hash z r ∧ ZSimG s z := by
  obtain ⟨a0, h⟩ := ng_ReachG_iff.mp h
  obtain ⟨z, hz, hsim, _⟩ := zc_sim h
  exact ⟨z, ng_Reach_iff.mpr ⟨a0, hz⟩, hsim⟩

theorem reach_is_reachG (hash : List Nat → List Nat) (s : State) (r : Nat) (h : ng_Reach hash s r) :
    ng_ReachG hash s r := h.toG

theorem reachG_is_reachZ (hash : List Nat → List Nat) (s : State) (r : Nat) (h : ng_ReachG hash s r) :
    ng_ReachZ hash s r := h.toZ

/-! ### quantities that do not see the erasure -/

theorem winCountOf_eq {s z : State} (h : ZSimG s z) (a : Nat) : winCountOf s a = winCountOf z a :=
  h.esim.winCountOf_eq a

theorem refundDue_eq {s z : State} (h : ZSimG s z)
    (hnone : ∀ a, z.range a = none → z.confirmed a = 0) (a : Nat) : refundDue s a = refundDue z a :=
  h.esim.refundDue_eq hnone a

theorem allDone_iff {s z : State} (h : ZSimG s z) : AllDone z ↔ AllDone s :=
  ⟨fun hd => hd.of_flags h.fields.2.1.symm, fun hd => hd.of_flags h.fields.2.1⟩

/-! ### ticket-payment solvency and the fee ledger -/

/-- same statement as `ng_solvent_general` -/
theorem ng_solvent_general_G (hash : List Nat → List Nat) (s : State) (r : Nat)
    (h : ng_ReachG hash s r) :
    ∃ L : List Nat, Covers s L ∧
      (¬ AllDone s → s.bal s.payTok 0 = s.price * sumOver s.confirmed L + feeInPay s) ∧
      (AllDone s → s.bal s.payTok 0 = s.claimablePayment + sumOver (refundDue s) L + feeInPay s) := by
  obtain ⟨T0, hi⟩ := h.inv
  exact zk_Inv_solvent_general hi

theorem ng_solvent_separate_G (hash : List Nat → List Nat) (s : State) (r : Nat)
    (h : ng_ReachG hash s r) (hsep : FeeTokenSeparate s) :
    ∃ L : List Nat, Covers s L ∧ (¬ AllDone s → PayEqPre s L) ∧ (AllDone s → PayEqPost s L) := by
  obtain ⟨T0, hi⟩ := h.inv
  exact zk_Inv_solvent_separate hi hsep

theorem ng_fee_ledger_G (hash : List Nat → List Nat) (s : State) (r : Nat)
    (h : ng_ReachG hash s r) (hsep : FeeTokenSeparate s) : feeBal s = feeHeld s := by
  obtain ⟨T0, hi⟩ := h.inv
  exact zk_Inv_fee_ledger hi hsep

theorem ng_solvent_same_G (hash : List Nat → List Nat) (s : State) (r : Nat)
    (h : ng_ReachG hash s r) (hsame : FeeInPayToken s) :
    ∃ L : List Nat, Covers s L ∧ (¬ AllDone s → CombinedPre s L) ∧ (AllDone s → CombinedPost s L) := by
  obtain ⟨T0, hi⟩ := h.inv
  exact zk_Inv_solvent_same hi hsame

/-- after completion: the winners still held add up to `nrWinning`; nobody holds more winning than
    confirmed tickets; every range — empty or not — has exactly `confirmed` tickets, and the
    holders of NON-EMPTY ranges are in the covering list -/
theorem ng_three_counts_G (hash : List Nat → List Nat) (s : State) (r : Nat)
    (h : ng_ReachG hash s r) (hd : AllDone s) :
    ∃ L : List Nat, Covers s L ∧
      s.bal s.payTok 0 = s.claimablePayment + sumOver (refundDue s) L + feeInPay s ∧
      sumOver (winCountOf s) L = s.nrWinning ∧
      (∀ a, winCountOf s a ≤ s.confirmed a) ∧
      (∀ a rg, s.range a = some rg → rangeLen rg = s.confirmed a ∧ (rg.first ≤ rg.last → a ∈ L)) := by
  obtain ⟨T0, hi⟩ := h.inv
  exact zk_Inv_three_counts hi hd

/-- after completion the payment-token holdings cover the owner's proceeds, the ticket refund of
    ANY holder of a range (empty or not), and all NFT fees held in the same slot -/
theorem ng_claim_refund_covered_G (hash : List Nat → List Nat) (s : State) (r : Nat)
    (h : ng_ReachG hash s r) (hd : AllDone s) (a : Nat) (rg : Range) (hr : s.range a = some rg) :
    s.claimablePayment + s.price * (s.confirmed a - winCountOf s a) + feeInPay s
      ≤ s.bal s.payTok 0 := by
  obtain ⟨T0, hi⟩ := h.inv
  exact zk_Inv_refund_covered hi hd hr

/-! ### the completed additional step (conditional on the call having completed, as in
  LP/Props/C14reachG.lean: the v1 leftover loop may spin) -/

/-- a record without guarantee qualifies for nothing -/
theorem calcV1_noGuar (st : UTS) (conf mc : Nat) (hc : st.c = 0) (hd : st.d = 0) :
    (calcV1 st conf mc).1 = 0 := by
  rw [calcV1_zero st conf mc hc hd]

/-- **final ticket winners** (same statement as `ng_final_winners_partial`) -/
theorem ng_final_winners_G (hash : List Nat → List Nat) (a0 : InitArgs) (s : State) (r : Nat)
    (h : ng_ReachGA hash a0 s r) (e : Env) (s' : State) (o : Out) (hr : r ≤ e.round) (hok : EnvOK e)
    (hs : step hash s e .secondary = .ok (s', o)) (hret : o.ret = [0]) :
    AllDone s' ∧
    countTrue s'.status s'.lastTicketId = s'.nrWinning ∧
    s'.nrWinning = min a0.nrWinning s'.lastTicketId ∧
    s'.claimablePayment = s'.price * s'.nrWinning ∧
    (∀ t, s'.status t = true → 1 ≤ t ∧ t ≤ s'.lastTicketId) ∧
    (∀ t, s.status t = true → s'.status t = true) :=
  zk_Inv_final_winners (zk_sim h.toZ) hr hs hret

/-- **guarantees honoured** (same statement as `ng_guarantee_honoured`): the holder of an empty
    record (zero-size entry) is owed nothing -/
theorem ng_guarantee_honoured_G (hash : List Nat → List Nat) (a0 : InitArgs) (s : State) (r : Nat)
    (h : ng_ReachGA hash a0 s r) (e : Env) (s' : State) (o : Out) (hr : r ≤ e.round) (hok : EnvOK e)
    (hs : step hash s e .secondary = .ok (s', o)) (hret : o.ret = [0]) :
    (∀ u st, s'.uts u = some st →
      min (calcV1 st (s'.confirmed u) s'.minConfirmed).1 (s'.confirmed u) ≤ winCountOf s' u) ∧
    (∀ t, s'.status t = true → 1 ≤ t ∧ t ≤ s'.lastTicketId) :=
  zk_Inv_guarantee_honoured (zk_sim h.toZ) hr hs hret

/-- **the NFT draw at completion** (same statement as `ng_draw_completion`) -/
theorem ng_draw_completion_G (hash : List Nat → List Nat) (a0 : InitArgs) (s : State) (r : Nat)
    (h : ng_ReachGA hash a0 s r) (e : Env) (s' : State) (o : Out) (hr : r ≤ e.round) (hok : EnvOK e)
    (hs : step hash s e .secondary = .ok (s', o)) (hret : o.ret = [0]) :
    s'.nftWinners.length = min s.availNfts (s.payers.length + s.nftWinners.length) ∧
    s'.claimableNft = s.nftCost.amount * s'.nftWinners.length ∧
    NftOk s' ∧ (∀ a, (a ∈ s'.payers ∨ a ∈ s'.nftWinners) ↔ (a ∈ s.payers ∨ a ∈ s.nftWinners)) ∧
    s.nftWinners <+: s'.nftWinners ∧ AllDone s' :=
  zk_Inv_draw_completion (zk_sim h.toZ) hr hs hret

/-- an accepted `secondary` call returns `[0]` exactly when it completes the additional step -/
theorem ng_secondary_ret_G (hash : List Nat → List Nat) (a0 : InitArgs) (s : State) (r : Nat)
    (h : ng_ReachGA hash a0 s r) (e : Env) (s' : State) (o : Out) (hr : r ≤ e.round) (hok : EnvOK e)
    (hs : step hash s e .secondary = .ok (s', o)) :
    (o.ret = [0] ∧ s'.flags.additional = true) ∨ (o.ret = [1] ∧ s'.flags.additional = false) :=
  (step_loop_outcome rfl hs).ret

/-- the two NFT lists (the `claimed` clauses of `ng_nft_lists` fail: an empty-range address may
    have "claimed") -/
theorem ng_nft_lists_G (hash : List Nat → List Nat) (s : State) (r : Nat)
    (h : ng_ReachG hash s r) :
    NftOk s ∧ s.nftWinners.length ≤ s.availNfts ∧
    (∀ a, a ∈ s.payers ∨ a ∈ s.nftWinners → 0 < s.confirmed a) ∧
    (s.flags.selected = false → s.nftWinners = []) ∧
    (s.flags.additional = false → (∀ rg, s.op ≠ .additional (.nft rg)) → s.nftWinners = []) := by
  obtain ⟨T0, hi⟩ := h.inv
  exact zk_Inv_nft_lists hi

/-! ### the launchpad-token side and the reserve -/

/-- same statement as `ng_lp_cover` -/
theorem ng_lp_cover_G (hash : List Nat → List Nat) (s : State) (r : Nat)
    (h : ng_ReachG hash s r) (hd : s.deposited = true) (hnl : ¬ FeeInLpToken s) :
    LP.Props.C02.LpCover s ∧
    (s.flags.additional = false → (∀ rg, s.op ≠ .additional (.nft rg)) →
      s.perTicket * (s.nrWinning + s.totalGuaranteed) ≤ s.bal (.esdt s.lpTok) 0) := by
  obtain ⟨T0, hi⟩ := h.inv
  exact zk_Inv_lp_cover hi hd hnl

/-- **reserve conservation** (same statement as `ng_reserve`): a zero-size entry without migration
    guarantee does not touch the reserve -/
theorem ng_reserve_G (hash : List Nat → List Nat) (a0 : InitArgs) (s : State) (r : Nat)
    (h : ng_ReachGA hash a0 s r) :
    (s.flags.filtered = false → s.nrWinning + s.totalGuaranteed = a0.nrWinning) ∧
    (s.flags.additional = false → (∀ rg, s.op ≠ .additional (.nft rg)) →
      s.nrWinning + s.totalGuaranteed ≤ a0.nrWinning) ∧
    (s.flags.additional = false → s.nrWinning ≤ a0.nrWinning) :=
  zk_Inv_reserve_bounds (zk_sim h.toZ)

/-- until the first `secondary` call is accepted the whitelist is exactly the set of holders of a
    positive guarantee -/
theorem ng_whitelisted_iff_G (hash : List Nat → List Nat) (s : State) (r : Nat)
    (h : ng_ReachG hash s r) (hna : s.flags.additional = false)
    (hop : s.flags.selected = true → s.op = .none) (u : Nat) :
    u ∈ s.whitelist ↔ ∃ st, s.uts u = some st ∧ st.c + st.d > 0 := by
  obtain ⟨T0, hi⟩ := h.inv
  exact zk_Inv_whitelist hi hna hop u

/-- the owner can withdraw only the surplus (same statement as `ng_owner_surplus_reach`) -/
theorem ng_owner_surplus_G (hash : List Nat → List Nat) (s : State) (r : Nat)
    (h : ng_ReachG hash s r) (hnl : ¬ FeeInLpToken s) (e : Env) (s' : State) (o : Out)
    (hr : r ≤ e.round) (hok : EnvOK e)
    (hs : step hash s e .claimPayment = .ok (s', o)) :
    s'.bal (.esdt s'.lpTok) 0 = s'.perTicket * s'.nrWinning ∧ s'.nrWinning = s.nrWinning ∧
    s'.claimablePayment = 0 ∧ s'.claimableNft = 0 := by
  obtain ⟨T0, hi⟩ := h.inv
  exact zk_Inv_owner_surplus hi hnl hs

/-- all steps complete and every holder of a non-empty range settled (stale empty ranges may
    remain: they hold nothing): the owner's accepted `claimPayment` leaves no launchpad token -/
theorem ng_lp_zero_at_end_G (hash : List Nat → List Nat) (s : State) (r : Nat)
    (h : ng_ReachG hash s r) (hnl : ¬ FeeInLpToken s) (hd : AllDone s)
    (hall : ∀ a rg, s.range a = some rg → rg.last < rg.first)
    (e : Env) (s' : State) (o : Out) (hr : r ≤ e.round) (hok : EnvOK e)
    (hs : step hash s e .claimPayment = .ok (s', o)) :
    s.nrWinning = 0 ∧ s'.bal (.esdt s'.lpTok) 0 = 0 := by
  obtain ⟨T0, hi⟩ := h.inv
  exact zk_Inv_lp_zero_at_end hi hnl hd hall hs

/-! ### addresses with an empty range -/

/-- they cannot confirm (not even zero tickets): the allocation view panics.  (That `confirmNft` then
    rejects them is a theorem for `Variant.nft` only, `LP.Props.C14zero.empty_range_cannot_confirmNft`.) -/
theorem empty_range_cannot_confirm (hash : List Nat → List Nat) (s : State) (e : Env) (n : Nat)
    (rg : Range) (hr : s.range e.caller = some rg) (he : rg.last < rg.first) :
    ∀ x, step hash s e (.confirm n) ≠ .ok x :=
  LP.Props.C01zero.empty_range_cannot_confirm hash s e n rg hr he

/-- their accepted claim pays nothing and moves no balance: only the caller's `claimed` flag, its
    stale range and the batch slot at the range's first id change; the "not confirmed" SFT
    (category 3) is handed out -/
theorem empty_range_claim_G (hash : List Nat → List Nat) (s : State)
    (r : Nat) (h : ng_ReachG hash s r) (e : Env) (s' : State) (o : Out) (rg : Range)
    (hr : r ≤ e.round) (hok : EnvOK e)
    (hrg : s.range e.caller = some rg) (he : rg.last < rg.first)
    (hs : step hash s e .claim = .ok (s', o)) :
    s' = zc_w s (upd s.range e.caller none) (upd s.batch rg.first none) s.blacklist
          (upd s.claimed e.caller true) s.uts ∧ s'.bal = s.bal ∧ s'.nrWinning = s.nrWinning ∧
    o.xfers = [] ∧ o.sfts = [(e.caller, 3)] ∧ o.locks = [] := by
  obtain ⟨T0, hi⟩ := h.inv
  exact zk_Inv_empty_range_claim hi hrg he hs

/-- **claims never starve** (in particular in every `ng_Reach` state): in the claim stage, a claim
    without call value by any address that holds a range — empty or not — and has not claimed is
    accepted, provided the SFT collection is set up, the launchpad tokens were deposited, the fee
    is not kept in the launchpad-token slot and — only for a fee payer that was not drawn
    (category 2) — the contract still holds his fee in the fee-token slot after his ticket
    settlement -/
theorem claim_never_starves_G (hash : List Nat → List Nat) (s : State) (r : Nat)
    (h : ng_ReachG hash s r) (e : Env) (rg : Range)
    (he1 : e.egld = 0) (he2 : e.esdts = []) (hst : s.stage e = .claim)
    (hcl : s.claimed e.caller = false) (hrg : s.range e.caller = some rg)
    (hsft : s.sftToken = true) (hdep : s.deposited = true) (hnl : ¬ FeeInLpToken s)
    (hfee : nftCategory s e.caller = 2 →
      s.nftCost.amount ≤ (balAfterClaim s e.caller) s.nftCost.tok s.nftCost.nonce) :
    ∃ x, step hash s e .claim = .ok x := by
  obtain ⟨T0, hi⟩ := h.inv
  exact zk_Inv_claim_accepted hi he1 he2 hst hcl hrg hsft hdep hnl hfee

/-! ### non-vacuity

  The history of LP/Props/C14reachG.lean (`g0` … `g18`) with two more allocation entries
  `(5, 0, 0, false)` and `(6, 0, 0, false)`: 5 and 6 get the empty ranges `[1,0]` and `[5,4]` and the
  empty record; 5 is blacklisted during the confirmation period; the filter (interrupted once), the
  base lottery and four `secondary` calls (interrupted in the top-up loop, in the leftover loop, in
  the NFT draw, completed) run as before; 6 then "claims". -/

theorem callOkG {hash : List Nat → List Nat} {a0 : InitArgs} {s : State} {r : Nat}
    (e : Env) (c : Call)
    (h : ng_ReachGA hash a0 s r) (hr : r ≤ e.round) (hok : EnvOK e) (hc : zc_CallOK c)
    (hs : isOk (step hash s e c) = true) :
    ng_ReachGA hash a0 (stOf (step hash s e c) s) e.round :=
  let ⟨o, ho⟩ := stOf_spec hs s
  .call s r e c _ o h hr hok hc ho

theorem callOkZ {hash : List Nat → List Nat} {a0 : InitArgs} {s : State} {r : Nat}
    (e : Env) (c : Call)
    (h : ng_ReachZA hash a0 s r) (hr : r ≤ e.round) (hok : EnvOK e)
    (hs : isOk (step hash s e c) = true) :
    ng_ReachZA hash a0 (stOf (step hash s e c) s) e.round :=
  let ⟨o, ho⟩ := stOf_spec hs s
  .call s r e c _ o h hr hok ho

theorem step_ret {x : Res (State × Out)} {l : List Nat} (d : State)
    (h : x.toOption.map (·.2.ret) = some l) : ∃ o, x = .ok (stOf x d, o) ∧ o.ret = l := by
  cases x with
  | error err => cases h
  | ok q => exact ⟨q.2, rfl, Option.some.inj h⟩

def hAlloc : List (Nat × Nat × Nat × Bool) :=
  [(5, 0, 0, false), (7, 2, 1, false), (8, 1, 0, false), (6, 0, 0, false), (9, 0, 2, false)]

def h1 : State := stOf (step id g0 { caller := 1, round := 1 } (.addTicketsV1 hAlloc)) g0
def h2 : State := stOf (step id h1 { caller := 1, round := 2, esdts := [⟨.esdt 1, 0, 15⟩] } .deposit) h1
def h3 : State := stOf (step id h2 { caller := 9, round := 3 } .sftSetup) h2
def h4 : State := stOf (step id h3 { caller := 7, round := 5, egld := 20 } (.confirm 2)) h3
def h5 : State := stOf (step id h4 { caller := 8, round := 6, egld := 10 } (.confirm 1)) h4
def h6 : State := stOf (step id h5 { caller := 9, round := 6, egld := 20 } (.confirm 2)) h5
def h7 : State := stOf (step id h6 { caller := 7, round := 7, egld := 3 } .confirmNft) h6
def h8 : State := stOf (step id h7 { caller := 9, round := 8, egld := 3 } .confirmNft) h7
def h8b : State := stOf (step id h8 { caller := 1, round := 8 } (.blacklist [5])) h8
def h9 : State := stOf (step id h8b { caller := 9, round := 10, budget := some 0 } .filter) h8b
def h10 : State := stOf (step id h9 { caller := 9, round := 11 } .filter) h9
def h11 : State := stOf (step id h10 { caller := 9, round := 12 } .select) h10
def h12 : State := stOf (step id h11 { caller := 9, round := 13, budget := some 0 } .secondary) h11
def h13 : State := stOf (step id h12 { caller := 9, round := 13, budget := some 1 } .secondary) h12
def h14 : State := stOf (step id h13 { caller := 9, round := 14, budget := some 0 } .secondary) h13
def h15 : State := stOf (step id h14 { caller := 9, round := 14 } .secondary) h14
def h16 : State := stOf (step id h15 { caller := 6, round := 15 } .claim) h15

theorem g0_reachG : ng_ReachGA id gArgs g0 0 := g0_reach.toG

theorem h1_reachG : ng_ReachGA id gArgs h1 1 :=
  callOkG { caller := 1, round := 1 } (.addTicketsV1 hAlloc) g0_reachG (by decide) (Or.inl rfl)
    (by show ∀ q ∈ hAlloc, 1 ≤ q.2.1 + q.2.2.1 ∨ q.2.2.2 = false; decide) (by decide +kernel)

/-- the zero-size entries created empty ranges, empty records, and took no ticket id; the reserve
    is that of the history without them -/
example : h1.range 5 = some ⟨1, 0⟩ ∧ h1.range 7 = some ⟨1, 3⟩ ∧ h1.range 6 = some ⟨5, 4⟩ ∧
    h1.range 9 = some ⟨5, 6⟩ ∧ h1.batch 1 = some ⟨7, 3⟩ ∧ h1.batch 5 = some ⟨9, 2⟩ ∧
    h1.lastTicketId = 6 ∧ h1.uts 5 = some { a := 0, b := 0, c := 0, d := 0 } ∧
    h1.whitelist = [7, 8] ∧ h1.nrWinning = 1 ∧ h1.totalGuaranteed = 2 ∧
    g1.lastTicketId = 6 ∧ g1.nrWinning = 1 ∧ g1.totalGuaranteed = 2 := by
  decide +kernel

/-- `h1` is not an `ng_Reach` state (of any deployment, at any round): those have no empty
    range -/
theorem h1_not_reach (hash : List Nat → List Nat) (r : Nat) : ¬ ng_Reach hash h1 r := by
  intro h
  have := LP.Props.C18reach.ranges_bounded hash h1 r (.nftGuar h) 5 ⟨1, 0⟩
    (by decide +kernel)
  exact absurd this.2.1 (by decide)

theorem h8_reachG : ng_ReachGA id gArgs h8 8 :=
  callOkG { caller := 9, round := 8, egld := 3 } .confirmNft
    (callOkG { caller := 7, round := 7, egld := 3 } .confirmNft
      (callOkG { caller := 9, round := 6, egld := 20 } (.confirm 2)
        (callOkG { caller := 8, round := 6, egld := 10 } (.confirm 1)
          (callOkG { caller := 7, round := 5, egld := 20 } (.confirm 2)
            (callOkG { caller := 9, round := 3 } .sftSetup
              (callOkG { caller := 1, round := 2, esdts := [⟨.esdt 1, 0, 15⟩] } .deposit h1_reachG
                (by decide) (Or.inl rfl) trivial (by decide +kernel))
              (by decide) (Or.inl rfl) trivial (by decide +kernel))
            (by decide) (Or.inr rfl) trivial (by decide +kernel))
          (by decide) (Or.inr rfl) trivial (by decide +kernel))
        (by decide) (Or.inr rfl) trivial (by decide +kernel))
      (by decide) (Or.inr rfl) trivial (by decide +kernel))
    (by decide) (Or.inr rfl) trivial (by decide +kernel)

theorem h11_reachG : ng_ReachGA id gArgs h11 12 :=
  callOkG { caller := 9, round := 12 } .select
    (callOkG { caller := 9, round := 11 } .filter
      (callOkG { caller := 9, round := 10, budget := some 0 } .filter
        (callOkG { caller := 1, round := 8 } (.blacklist [5]) h8_reachG
          (by decide) (Or.inl rfl) trivial (by decide +kernel))
        (by decide) (Or.inl rfl) trivial (by decide +kernel))
      (by decide) (Or.inl rfl) trivial (by decide +kernel))
    (by decide) (Or.inl rfl) trivial (by decide +kernel)

theorem h14_reachG : ng_ReachGA id gArgs h14 14 :=
  callOkG { caller := 9, round := 14, budget := some 0 } .secondary
    (callOkG { caller := 9, round := 13, budget := some 1 } .secondary
      (callOkG { caller := 9, round := 13, budget := some 0 } .secondary h11_reachG
        (by decide) (Or.inl rfl) trivial (by decide +kernel))
      (by decide) (Or.inl rfl) trivial (by decide +kernel))
    (by decide) (Or.inl rfl) trivial (by decide +kernel)

theorem h15_reachG : ng_ReachGA id gArgs h15 14 :=
  callOkG { caller := 9, round := 14 } .secondary h14_reachG (by decide) (Or.inl rfl) trivial (by decide +kernel)

theorem h16_ok : isOk (step id h15 { caller := 6, round := 15 } .claim) = true := by decide +kernel

theorem h16_reachG : ng_ReachGA id gArgs h16 15 :=
  callOkG _ _ h15_reachG (by decide) (Or.inl rfl) trivial h16_ok

/-- the stale empty ranges survive the blacklisting and the filter; the selection runs exactly as
    in the history without them -/
example : h8b.blacklist 5 = true ∧ h10.flags.filtered = true ∧ h10.range 5 = some ⟨1, 0⟩ ∧
    h10.range 6 = some ⟨5, 4⟩ ∧ h10.lastTicketId = 5 ∧ g10.lastTicketId = 5 ∧
    AllDone h15 ∧ h15.nrWinning = 3 ∧ h15.claimablePayment = 30 ∧ h15.nftWinners = [7] ∧
    h15.bal .egld 0 = 56 ∧ h15.bal (.esdt 1) 0 = 15 := by
  unfold AllDone; decide +kernel

/-- the claim of 6 (empty range): nothing moves but its flag, its range and a batch slot -/
example : h16.claimed 6 = true ∧ h16.range 6 = none ∧ h16.bal .egld 0 = h15.bal .egld 0 ∧
    h16.bal (.esdt 1) 0 = h15.bal (.esdt 1) 0 ∧ h16.nrWinning = h15.nrWinning := by
  decide +kernel

example : ∃ L : List Nat, Covers h15 L ∧ CombinedPost h15 L :=
  let ⟨L, k1, _, k3⟩ := ng_solvent_same_G id h15 14 (ng_ReachG_iff.mpr ⟨_, h15_reachG⟩)
    (by decide +kernel)
  ⟨L, k1, k3 (by unfold AllDone; decide +kernel)⟩

example : ∃ s' o, step id h14 { caller := 9, round := 14 } .secondary = .ok (s', o) ∧
    o.ret = [0] ∧ s'.nrWinning = min gArgs.nrWinning s'.lastTicketId ∧ s'.nrWinning = 3 ∧
    (∀ u st, s'.uts u = some st →
      min (calcV1 st (s'.confirmed u) s'.minConfirmed).1 (s'.confirmed u) ≤ winCountOf s' u) := by
  obtain ⟨o, hs, hret⟩ := step_ret (x := step id h14 { caller := 9, round := 14 } .secondary)
    (l := [0]) h14 (by decide +kernel)
  exact ⟨h15, o, hs, hret,
    (ng_final_winners_G id gArgs h14 14 h14_reachG
      { caller := 9, round := 14 } h15 o (by decide) (Or.inl rfl) hs hret).2.2.1,
    by decide +kernel,
    (ng_guarantee_honoured_G id gArgs h14 14 h14_reachG
      { caller := 9, round := 14 } h15 o (by decide) (Or.inl rfl) hs hret).1⟩

example : h16 = zc_w h15 (upd h15.range 6 none) (upd h15.batch 5 none) h15.blacklist
    (upd h15.claimed 6 true) h15.uts :=
  (empty_range_claim_G id h15 14 (ng_ReachG_iff.mpr ⟨_, h15_reachG⟩) { caller := 6, round := 15 }
    h16 _ ⟨5, 4⟩ (by decide) (Or.inl rfl) (by decide +kernel) (by decide)
    (step_stOf h16_ok h15).choose_spec).1

/-- the empty-range address 6, the blacklisted empty-range address 5 and the winner 7 are all
    accepted -/
example : (∃ x, step id h15 { caller := 6, round := 15 } .claim = .ok x) ∧
    (∃ x, step id h15 { caller := 5, round := 15 } .claim = .ok x) ∧
    (∃ x, step id h15 { caller := 7, round := 15 } .claim = .ok x) := by
  have hG := ng_ReachG_iff.mpr ⟨_, h15_reachG⟩
  have hsft : h15.sftToken = true := by decide +kernel
  have hdep : h15.deposited = true := by decide +kernel
  have hnl : ¬ FeeInLpToken h15 := by decide +kernel
  refine ⟨claim_never_starves_G id h15 14 hG { caller := 6, round := 15 } ⟨5, 4⟩ rfl rfl (by decide +kernel)
      (by decide +kernel) (by decide +kernel) hsft hdep hnl (by decide +kernel),
    claim_never_starves_G id h15 14 hG { caller := 5, round := 15 } ⟨1, 0⟩ rfl rfl (by decide +kernel)
      (by decide +kernel) (by decide +kernel) hsft hdep hnl (by decide +kernel),
    claim_never_starves_G id h15 14 hG { caller := 7, round := 15 } ⟨1, 2⟩ rfl rfl (by decide +kernel)
      (by decide +kernel) (by decide +kernel) hsft hdep hnl (by decide +kernel)⟩

/-! ### the zero-size entry with migration guarantee (outside `ng_ReachG`): `(5, 0, 0, true)`
  enters the whitelist and reserves a ticket; the guaranteed-ticket loop turns it into a leftover
  ticket which the leftover loop re-draws -/

def mAlloc : List (Nat × Nat × Nat × Bool) :=
  [(5, 0, 0, true), (7, 2, 1, false), (8, 1, 0, false), (9, 0, 2, false)]

def m1 : State := stOf (step id g0 { caller := 1, round := 1 } (.addTicketsV1 mAlloc)) g0
def m2 : State := stOf (step id m1 { caller := 1, round := 2, esdts := [⟨.esdt 1, 0, 15⟩] } .deposit) m1
def m3 : State := stOf (step id m2 { caller := 9, round := 3 } .sftSetup) m2
def m4 : State := stOf (step id m3 { caller := 7, round := 5, egld := 20 } (.confirm 2)) m3
def m5 : State := stOf (step id m4 { caller := 8, round := 6, egld := 10 } (.confirm 1)) m4
def m6 : State := stOf (step id m5 { caller := 9, round := 6, egld := 20 } (.confirm 2)) m5
def m10 : State := stOf (step id m6 { caller := 9, round := 11 } .filter) m6
def m11 : State := stOf (step id m10 { caller := 9, round := 12 } .select) m10
def m12 : State := stOf (step id m11 { caller := 9, round := 13 } .secondary) m11

theorem m6_reachZ : ng_ReachZA id gArgs m6 6 :=
  callOkZ { caller := 9, round := 6, egld := 20 } (.confirm 2)
    (callOkZ { caller := 8, round := 6, egld := 10 } (.confirm 1)
      (callOkZ { caller := 7, round := 5, egld := 20 } (.confirm 2)
        (callOkZ { caller := 9, round := 3 } .sftSetup
          (callOkZ { caller := 1, round := 2, esdts := [⟨.esdt 1, 0, 15⟩] } .deposit
            (callOkZ { caller := 1, round := 1 } (.addTicketsV1 mAlloc) g0_reachG.toZ
              (by decide) (Or.inl rfl) (by decide +kernel))
            (by decide) (Or.inl rfl) (by decide +kernel))
          (by decide) (Or.inl rfl) (by decide +kernel))
        (by decide) (Or.inr rfl) (by decide +kernel))
      (by decide) (Or.inr rfl) (by decide +kernel))
    (by decide) (Or.inr rfl) (by decide +kernel)

theorem m10_ok : isOk (step id m6 { caller := 9, round := 11 } .filter) = true := by decide +kernel
theorem m11_ok : isOk (step id m10 { caller := 9, round := 12 } .select) = true := by decide +kernel
theorem m12_ok : isOk (step id m11 { caller := 9, round := 13 } .secondary) = true := by decide +kernel

theorem m12_reachZ : ng_ReachZA id gArgs m12 13 :=
  callOkZ _ _
    (callOkZ _ _ (callOkZ _ _ m6_reachZ (by decide) (Or.inl rfl) m10_ok)
      (by decide) (Or.inl rfl) m11_ok)
    (by decide) (Or.inl rfl) m12_ok

/-- the migrated zero-size entry reserves a ticket and enters the whitelist; the reserve law
    `nrWinning + totalGuaranteed = T0` and the deposit are those of the configured winners -/
example : m1.whitelist = [5, 7, 8] ∧ m1.nrWinning = 0 ∧ m1.totalGuaranteed = 3 ∧
    m1.uts 5 = some { a := 0, b := 0, c := 0, d := 1 } ∧ m1.range 5 = some ⟨1, 0⟩ ∧
    m2.bal (.esdt 1) 0 = 15 := by
  decide +kernel

/-- no base winner is drawn; the combined step tops up 7 and 8 and re-draws the ticket reserved
    for 5: three winners = min 3 5, proceeds 30, the holdings (50 EGLD ticket payments) unchanged -/
example : m10.nrWinning = 0 ∧ m10.lastTicketId = 5 ∧ m11.claimablePayment = 0 ∧
    AllDone m12 ∧ m12.nrWinning = 3 ∧ m12.claimablePayment = 30 ∧ m12.whitelist = [] ∧
    m12.bal .egld 0 = 50 ∧ m12.range 5 = some ⟨1, 0⟩ := by
  unfold AllDone; decide +kernel

/-- in general: (when a ticket is left) the address enters the whitelist, one ticket moves from
    `nrWinning` to `totalGuaranteed`, the record is `{0, 0, 0, 1}` -/
theorem migrated_ghost_reserves {mc : Nat} (hmc : 0 < mc) (wl0 : List Nat) (a tw tg : Nat) :
    zc_one mc wl0 a 0 0 true tw tg =
      if tw = 0 then .error (.user "Too many users with guaranteed ticket")
      else .ok ((setInsert wl0 a).1, { a := 0, b := 0, c := 0, d := 1 }, tw - 1, tg + 1) := by
  have : ¬ (0 ≥ mc) := by omega
  by_cases h : tw = 0 <;> simp [zc_one, this, h]

/-- with no confirmed ticket it qualifies for its migration guarantee -/
theorem migrated_ghost_qualifies (mc : Nat) :
    calcV1 { a := 0, b := 0, c := 0, d := 1 } 0 mc = (1, 0) := by
  simp [calcV1]

/-- the top-up over its empty range marks nothing: the guaranteed ticket becomes a leftover
    ticket (exactly as for a holder without range) -/
theorem migrated_ghost_leftover (status : Nat → Bool) (r : Range) (g : Nat) (he : r.last < r.first) :
    processGuaranteed status (some r) g = (status, g, 0) := by
  have h := z_processGuaranteed status (fun _ => some r) 0 g
  rw [z_eraseR_of_empty (f := fun _ => some r) (a := 0) rfl (by omega)] at h
  exact h.symm

theorem m1_not_reach (hash : List Nat → List Nat) (r : Nat) : ¬ ng_Reach hash m1 r := by
  intro h
  have := LP.Props.C18reach.ranges_bounded hash m1 r (.nftGuar h) 5 ⟨1, 0⟩
    (by decide +kernel)
  exact absurd this.2.1 (by decide)

end LP.Props.C14zeroG


#print axioms LP.Props.C14zeroG.simulation
#print axioms LP.Props.C14zeroG.reach_is_reachG
#print axioms LP.Props.C14zeroG.reachG_is_reachZ
#print axioms LP.Props.C14zeroG.winCountOf_eq
#print axioms LP.Props.C14zeroG.refundDue_eq
#print axioms LP.Props.C14zeroG.allDone_iff
#print axioms LP.Props.C14zeroG.ng_solvent_general_G
#print axioms LP.Props.C14zeroG.ng_solvent_separate_G
#print axioms LP.Props.C14zeroG.ng_fee_ledger_G
#print axioms LP.Props.C14zeroG.ng_solvent_same_G
#print axioms LP.Props.C14zeroG.ng_three_counts_G
#print axioms LP.Props.C14zeroG.ng_claim_refund_covered_G
#print axioms LP.Props.C14zeroG.calcV1_noGuar
#print axioms LP.Props.C14zeroG.ng_final_winners_G
#print axioms LP.Props.C14zeroG.ng_guarantee_honoured_G
#print axioms LP.Props.C14zeroG.ng_draw_completion_G
#print axioms LP.Props.C14zeroG.ng_secondary_ret_G
#print axioms LP.Props.C14zeroG.ng_nft_lists_G
#print axioms LP.Props.C14zeroG.ng_lp_cover_G
#print axioms LP.Props.C14zeroG.ng_reserve_G
#print axioms LP.Props.C14zeroG.ng_whitelisted_iff_G
#print axioms LP.Props.C14zeroG.ng_owner_surplus_G
#print axioms LP.Props.C14zeroG.ng_lp_zero_at_end_G
#print axioms LP.Props.C14zeroG.empty_range_cannot_confirm
#print axioms LP.Props.C14zeroG.empty_range_claim_G
#print axioms LP.Props.C14zeroG.claim_never_starves_G
#print axioms LP.Props.C14zeroG.callOkG
#print axioms LP.Props.C14zeroG.callOkZ
#print axioms LP.Props.C14zeroG.g0_reachG
#print axioms LP.Props.C14zeroG.h1_reachG
#print axioms LP.Props.C14zeroG.h1_not_reach
#print axioms LP.Props.C14zeroG.h8_reachG
#print axioms LP.Props.C14zeroG.h11_reachG
#print axioms LP.Props.C14zeroG.h14_reachG
#print axioms LP.Props.C14zeroG.h15_reachG
#print axioms LP.Props.C14zeroG.h16_reachG
#print axioms LP.Props.C14zeroG.m6_reachZ
#print axioms LP.Props.C14zeroG.m12_reachZ
#print axioms LP.Props.C14zeroG.m1_not_reach
#print axioms LP.Props.C14zeroG.migrated_ghost_reserves
#print axioms LP.Props.C14zeroG.migrated_ghost_qualifies
#print axioms LP.Props.C14zeroG.migrated_ghost_leftover
#print axioms LP.zc_sim
#print axioms LP.zc_sim_step
