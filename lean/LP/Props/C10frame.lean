import LP.Proofs.FieldFrames
import LP.Props.C10
/-
  C10 — `blacklisted ⇒ nothing confirmed` in every state reachable from a deployment.
  `cbAfter` gives `State.confirmed` and `State.blacklist` after any accepted call in one
  formula; the frames of the two maps and the preservation of `BlZero` are read off it.
-/
namespace LP.Props.C10frame
open LP LP.Events

/-- The exact effect of every accepted call on `confirmed` and `blacklist`: `cbAfter s e c` is
    `confirm n`              ↦ caller's `confirmed` + n,
    `blacklist l`/`refundUsers l` ↦ listed users: `confirmed := 0`, `blacklist := true`,
    `unblacklist l`          ↦ listed users: `blacklist := false`,
    `claim`                  ↦ caller's `confirmed := 0` (nothing on a repeated vesting claim),
    anything else            ↦ both maps unchanged -/
theorem cb_after (hash : List Nat → List Nat) (s s' : State) (e : Env) (c : Call) (o : Out)
    (h : step hash s e c = .ok (s', o)) :
    s'.confirmed = (cbAfter s e c).confirmed ∧ s'.blacklist = (cbAfter s e c).blacklist := by
  have := step_cb h
  exact ⟨congrArg CB.confirmed this, congrArg CB.blacklist this⟩

theorem blacklist_frame (hash : List Nat → List Nat) (s s' : State) (e : Env) (c : Call) (o : Out)
    (h : step hash s e c = .ok (s', o))
    (h1 : ∀ l, c ≠ .blacklist l) (h2 : ∀ l, c ≠ .refundUsers l) (h3 : ∀ l, c ≠ .unblacklist l) :
    s'.blacklist = s.blacklist := by
  rw [(cb_after hash s s' e c o h).2]
  cases c <;> first | rfl | exact absurd rfl (h1 _) | exact absurd rfl (h2 _) | exact absurd rfl (h3 _)

theorem blacklist_after_blacklist (hash : List Nat → List Nat) (s s' : State) (e : Env) (l : List Nat) (o : Out)
    (h : step hash s e (.blacklist l) = .ok (s', o)) :
    s'.blacklist = fun a => if a ∈ l then true else s.blacklist a :=
  (cb_after hash s s' e _ o h).2

theorem blacklist_after_refundUsers (hash : List Nat → List Nat) (s s' : State) (e : Env) (l : List Nat) (o : Out)
    (h : step hash s e (.refundUsers l) = .ok (s', o)) :
    s'.blacklist = fun a => if a ∈ l then true else s.blacklist a :=
  (cb_after hash s s' e _ o h).2

theorem blacklist_after_unblacklist (hash : List Nat → List Nat) (s s' : State) (e : Env) (l : List Nat) (o : Out)
    (h : step hash s e (.unblacklist l) = .ok (s', o)) :
    s'.blacklist = fun a => if a ∈ l then false else s.blacklist a :=
  (cb_after hash s s' e _ o h).2

theorem confirmed_frame (hash : List Nat → List Nat) (s s' : State) (e : Env) (c : Call) (o : Out)
    (h : step hash s e c = .ok (s', o))
    (h1 : ∀ n, c ≠ .confirm n) (h2 : ∀ l, c ≠ .blacklist l) (h3 : ∀ l, c ≠ .refundUsers l)
    (h4 : c ≠ .claim) : s'.confirmed = s.confirmed := by
  rw [(cb_after hash s s' e c o h).1]
  cases c <;>
    first | rfl | exact absurd rfl (h1 _) | exact absurd rfl (h2 _) | exact absurd rfl (h3 _) | exact absurd rfl h4

theorem confirmed_after_confirm (hash : List Nat → List Nat) (s s' : State) (e : Env) (n : Nat) (o : Out)
    (h : step hash s e (.confirm n) = .ok (s', o)) :
    s'.confirmed = upd s.confirmed e.caller (s.confirmed e.caller + n) :=
  (cb_after hash s s' e _ o h).1

theorem confirmed_after_blacklist (hash : List Nat → List Nat) (s s' : State) (e : Env) (l : List Nat) (o : Out)
    (h : step hash s e (.blacklist l) = .ok (s', o)) :
    s'.confirmed = fun a => if a ∈ l then 0 else s.confirmed a :=
  (cb_after hash s s' e _ o h).1

theorem confirmed_after_refundUsers (hash : List Nat → List Nat) (s s' : State) (e : Env) (l : List Nat) (o : Out)
    (h : step hash s e (.refundUsers l) = .ok (s', o)) :
    s'.confirmed = fun a => if a ∈ l then 0 else s.confirmed a :=
  (cb_after hash s s' e _ o h).1

/-- A repeated claim of a vesting variant (it only releases vested tokens) leaves `confirmed` as
    it is. -/
theorem confirmed_after_claim (hash : List Nat → List Nat) (s s' : State) (e : Env) (o : Out)
    (h : step hash s e .claim = .ok (s', o)) :
    s'.confirmed = if s.variant.vested && s.claimed e.caller then s.confirmed
                   else upd s.confirmed e.caller 0 :=
  (cb_after hash s s' e _ o h).1

/-- **C10**: `blacklisted ⇒ confirmed = 0` is preserved by every accepted call of every variant. -/
theorem blacklisted_confirmed_zero_all (hash : List Nat → List Nat) (s : State) (e : Env) (c : Call)
    (s' : State) (o : Out) (hz : BlZero s) (h : step hash s e c = .ok (s', o)) : BlZero s' :=
  C10.blZero_step hz h

/-- Nobody is blacklisted in a freshly deployed contract. -/
theorem init_blZero (v : Variant) (a : InitArgs) (e : Env) (s : State) (h : init v a e = .ok s) :
    BlZero s := by
  intro u hu
  rw [show s.blacklist = fun _ => false from congrArg State.blacklist (init_ok h).2] at hu
  cases hu

theorem run_blZero (hash : List Nat → List Nat) (s : State) (h : List (Env × Call)) (hz : BlZero s) :
    BlZero (run hash s h) :=
  run_induct hash BlZero (fun s e c s' o hp hst => blacklisted_confirmed_zero_all hash s e c s' o hp hst) h s hz

/-- **C10**: in every state reachable from a deployment a blacklisted user has nothing confirmed. -/
theorem reachable_blZero (hash : List Nat → List Nat) (v : Variant) (a : InitArgs) (e : Env) (s : State)
    (hi : init v a e = .ok s) (h : List (Env × Call)) : BlZero (run hash s h) :=
  run_blZero hash s h (init_blZero v a e s hi)

/-- non-vacuity, a call outside `C10.covered`: the owner deposits the launchpad tokens while
    user 8 is blacklisted -/
example : C10.covered .deposit = false ∧
    ∃ s' o, step (fun x => x) { C10.exS with deposited := false, blacklist := fun a => a == 8 }
      { caller := 1, round := 2, esdts := [⟨.esdt 1, 0, 1⟩] } .deposit = .ok (s', o) ∧
      s'.blacklist 8 = true ∧ s'.confirmed 7 = 2 :=
  ⟨rfl, _, _, rfl, rfl, rfl⟩

example : BlZero { C10.exS with blacklist := fun a => a == 8 } := by
  intro u hu
  have : u = 8 := by simpa [C10.exS] using hu
  subst this; rfl

end LP.Props.C10frame

#print axioms LP.Props.C10frame.cb_after
#print axioms LP.Props.C10frame.blacklist_frame
#print axioms LP.Props.C10frame.blacklist_after_blacklist
#print axioms LP.Props.C10frame.blacklist_after_refundUsers
#print axioms LP.Props.C10frame.blacklist_after_unblacklist
#print axioms LP.Props.C10frame.confirmed_frame
#print axioms LP.Props.C10frame.confirmed_after_confirm
#print axioms LP.Props.C10frame.confirmed_after_blacklist
#print axioms LP.Props.C10frame.confirmed_after_refundUsers
#print axioms LP.Props.C10frame.confirmed_after_claim
#print axioms LP.Props.C10frame.blacklisted_confirmed_zero_all
#print axioms LP.Props.C10frame.init_blZero
#print axioms LP.Props.C10frame.run_blZero
#print axioms LP.Props.C10frame.reachable_blZero
