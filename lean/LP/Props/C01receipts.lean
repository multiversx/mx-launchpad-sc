import LP.Proofs.Receipts
import LP.Props.C16reach
import LP.Props.C01reachG1
import LP.Proofs.AllVariants2Aux
/-
  C01 "nobody receives more or less than owed", C02 "every winner receives in total exactly
  tokens-per-ticket × winning tickets", C09 "each participant settles exactly once" —
  CUMULATIVE RECEIPTS over whole histories, all eight contracts.

  Vocabulary (LP/Proofs/Receipts.lean, LP/Proofs/LockedGuarClaim.lean):
    `lk_runLog hash s hist`   the accepted transactions of a history `(pre-state, env, call, outputs)`
    `cr_paid tok a xfers`     amount of the fungible token `tok` (nonce 0) the transfers send to `a`
    `cr_totalPay a log`       Σ over the log of `cr_paid payTok a` (payment token of each pre-state)
    `cr_total tok a log`      Σ over the log of `cr_paid tok a` (fixed token)
    `totalReceived lp a log`  Σ over the log of lock calls with destination `a` + direct transfers
                              of the launchpad token to `a`
    `cr_owedPay s e c a`      what the accepted call `c` by `e.caller` in pre-state `s` owes `a` in the
                              payment token (spelled out in `payment_per_transaction`)
    `cr_due s a`              `cr_owedPay` of `a`'s own first claim, read in state `s`

  Per transaction and over ANY history a non-owner receives exactly Σ `cr_owedPay`, each term read
  in the pre-state of its transaction (section 1; launchpad token, `cr_owedLp`: section 3).  The
  sharp form (section 2): from a reachable
  state with all steps done nothing of an unsettled participant's data changes until his claim, so
  the sum is 0 or the amount AS EVALUATED IN THE STARTING STATE.
-/
namespace LP.Props.C01receipts
open LP LP.FY LP.Props.C09 LP.Props.C17 LP.Props.AllVariants

abbrev Covered := be_Covered
abbrev HistOK := be_HistOK

theorem covered_of_reachOf (hash : List Nat → List Nat) (v : Variant) (s : State) (r : Nat)
    (h : ReachOf hash v s r) : Covered hash s r := h.covered

theorem variant_g1 {hash : List Nat → List Nat} {s : State} {r : Nat} (h : g1_Reach hash s r) :
    s.variant = .guarV1 := by
  obtain ⟨a0, hA⟩ := g1_Reach_iff.mp h
  exact hA.variant

/-- **static facts of every reachable state** of the eight contracts: payment token ≠ launchpad
    token, NFT fee token ≠ launchpad token, lock percentage ≤ 100 % -/
theorem static_of_covered (hash : List Nat → List Nat) (s : State) (r : Nat) (h : Covered hash s r) :
    s.payTok ≠ .esdt s.lpTok ∧ s.nftCost.tok ≠ .esdt s.lpTok ∧ s.lockPct ≤ 10000 :=
  ⟨(cr_static_covered h).tokNe, (cr_static_covered h).feeNe, (cr_static_covered h).pct⟩

/-! ## 1. the payment token -/

/-- **one accepted transaction, payment token** — ANY state of ANY variant in which the payment
    token is not the launchpad token: an address other than the owner receives in the payment
    token EXACTLY `cr_owedPay s e c a`:
    his first `claim` pays `price × (confirmed − winning)` (+ NFT fee, same token, category 2);
    a `blacklist l` / `refundUsers l` listing him pays `price × confirmed` (+ NFT fee, same token,
    if he had paid it); every other call — and every later claim of a vested variant — pays 0. -/
theorem payment_per_transaction (hash : List Nat → List Nat) (s : State) (e : Env) (c : Call)
    (s' : State) (o : Out) (hne : s.payTok ≠ .esdt s.lpTok) (a : Nat) (ha : a ≠ s.owner)
    (hs : step hash s e c = .ok (s', o)) :
    cr_paid s.payTok a o.xfers = cr_owedPay s e c a ∧
    (cr_owedPay s e .claim a =
      if e.caller = a ∧ s.claimed a = false then
        s.price * (s.confirmed a - winCountOf s a) +
          (if s.variant.hasNft = true ∧ nftCategory s a = 2 then cr_fee s s.payTok else 0)
      else 0) ∧
    (∀ l, cr_owedPay s e (.blacklist l) a =
      if a ∈ l then s.price * s.confirmed a +
        (if s.variant.hasNft = true ∧ a ∈ s.payers then cr_fee s s.payTok else 0) else 0) ∧
    (∀ l, cr_owedPay s e (.refundUsers l) a = if a ∈ l then s.price * s.confirmed a else 0) ∧
    (c ≠ .claim → (∀ l, c ≠ .blacklist l) → (∀ l, c ≠ .refundUsers l) → cr_owedPay s e c a = 0) := by
  refine ⟨cr_step_pay hne ha hs, rfl, fun _ => rfl, fun _ => rfl, fun h1 h2 h3 => ?_⟩
  cases c <;> first | rfl | exact absurd rfl h1 | exact absurd rfl (h2 _) | exact absurd rfl (h3 _)

/-- **payment-token receipts over ANY history** (all eight contracts; any calls, any rounds;
    rejected transactions leave no trace): from a reachable state, what `a ≠ owner` receives in the
    payment token is exactly the sum of `cr_owedPay`, each term evaluated in the pre-state of its
    transaction. -/
theorem payment_total (hash : List Nat → List Nat) (s : State) (r : Nat) (h : Covered hash s r)
    (hist : List (Env × Call)) (a : Nat) (ha : a ≠ s.owner) :
    cr_totalPay a (lk_runLog hash s hist) = cr_totalOwed a (lk_runLog hash s hist) :=
  cr_totalPay_eq hash a hist s (cr_static_covered h).tokNe ha

/-- the same from ANY state in which the payment token is not the launchpad token -/
theorem payment_total_any_state (hash : List Nat → List Nat) (s : State)
    (hne : s.payTok ≠ .esdt s.lpTok) (hist : List (Env × Call)) (a : Nat) (ha : a ≠ s.owner) :
    cr_totalPay a (lk_runLog hash s hist) = cr_totalOwed a (lk_runLog hash s hist) :=
  cr_totalPay_eq hash a hist s hne ha

/-- **each participant settles at most once** (C09): along ANY history from ANY state of ANY
    variant, at most ONE accepted claim by `a` runs while `claimed a` is still unset — the only
    kind of claim that can pay a refund or deliver an entitlement. -/
theorem settles_at_most_once (hash : List Nat → List Nat) (s : State) (hist : List (Env × Call))
    (a : Nat) : ((lk_runLog hash s hist).filter (cr_isSettleBy a)).length ≤ 1 :=
  cr_settle_once hash a hist s

/-- only `a`'s settlement and the blacklistings that list `a` owe him anything -/
theorem payment_total_classified (s : State) (e : Env) (c : Call) (o : Out) (a : Nat)
    (h : cr_owedPay s e c a ≠ 0) :
    cr_isSettleBy a (s, e, c, o) = true ∨ cr_isBlacklistOf a (s, e, c, o) = true := by
  cases h1 : cr_isSettleBy a (s, e, c, o)
  · cases h2 : cr_isBlacklistOf a (s, e, c, o)
    · exact absurd (cr_owedPay_of_not s e c o a h1 h2) h
    · exact Or.inr rfl
  · exact Or.inl rfl

/-! ## 2. the sharp corollary -/

/-- **from completion to any later point** (all eight contracts): `s` reachable with all selection
    steps done, `a` unsettled, not the owner (nor the lock contract); along any admissible history
    `a` receives in the payment token EITHER 0 (no accepted claim by him yet) OR exactly
    `cr_due s a = price × (confirmed a − winCountOf a)` (+ the NFT fee if it is charged in the payment
    token and he paid it without being drawn) AS EVALUATED IN THE STARTING STATE `s`: these
    quantities do not change between the completion and his claim (`cr_post_frame`). -/
theorem payment_after_completion (hash : List Nat → List Nat) (s : State) (r : Nat)
    (h : Covered hash s r) (hd : AllDone s) (hist : Hist) (hr : RoundsFrom r hist)
    (hok : ∀ x ∈ hist, HistOK x.1 x.2) (a : Nat) (ha : a ≠ s.owner)
    (ha2 : s.variant.hasLock = true → a ≠ s.lockAddr) (hcl : s.claimed a = false) :
    cr_total s.payTok a (lk_runLog hash s hist) =
      (match (lk_runLog hash s hist).find? (isClaimBy a) with
       | some _ => cr_due s a
       | none => 0) ∧
    (s.variant.hasNft = false → cr_due s a = s.price * (s.confirmed a - winCountOf s a)) ∧
    cr_due s a = s.price * (s.confirmed a - winCountOf s a) +
      (if s.variant.hasNft = true ∧ nftCategory s a = 2 then cr_fee s s.payTok else 0) := by
  refine ⟨((cr_from_late hash a hist s r ⟨h, hd, ha, ha2⟩ hr hok).2 hcl).1, ?_, rfl⟩
  intro hn
  simp [cr_due, hn]

/-- once `a` has settled nothing more reaches him in the payment token -/
theorem payment_after_settlement (hash : List Nat → List Nat) (s : State) (r : Nat)
    (h : Covered hash s r) (hd : AllDone s) (hist : Hist) (hr : RoundsFrom r hist)
    (hok : ∀ x ∈ hist, HistOK x.1 x.2) (a : Nat) (ha : a ≠ s.owner)
    (ha2 : s.variant.hasLock = true → a ≠ s.lockAddr) (hcl : s.claimed a = true) :
    cr_total s.payTok a (lk_runLog hash s hist) = 0 :=
  ((cr_from_late hash a hist s r ⟨h, hd, ha, ha2⟩ hr hok).1 hcl).1

/-- the frame behind `payment_after_completion` -/
theorem unsettled_data_frozen (hash : List Nat → List Nat) (s : State) (r : Nat)
    (h : Covered hash s r) (hd : AllDone s) (e : Env) (c : Call) (s' : State) (o : Out)
    (hr : r ≤ e.round) (hs : step hash s e c = .ok (s', o)) (a : Nat)
    (hnot : c = .claim → e.caller ≠ a) :
    s'.range a = s.range a ∧ s'.confirmed a = s.confirmed a ∧ winCountOf s' a = winCountOf s a ∧
    s'.claimed a = s.claimed a ∧ s'.price = s.price ∧ s'.payTok = s.payTok ∧
    s'.perTicket = s.perTicket ∧ cr_due s' a = cr_due s a := by
  obtain ⟨hf, hv, hsel, hdisj⟩ := cr_covered_done h hd
  have hk := cr_post_frame (a := a) hd hf hv (Nat.le_trans hsel hr)
    (fun b ra rb => hdisj a b ra rb) hs hnot
  exact ⟨hk.range, hk.confirmed, cr_winCountOf_kept hk, hk.claimed, hk.price, hk.payTok, hk.perTicket,
    cr_due_kept hk (step_variant hs)⟩

/-! ## 3. the launchpad token -/

/-- **launchpad-token receipts over ANY history**, all eight contracts: lock calls with destination
    `a` plus direct launchpad-token transfers to `a` add up to the sum of `cr_owedLp` — for his
    claim `perTicket × winning` of the pre-state (six non-vested contracts), resp. the increment of
    his `userClaimed` record (guarV1, guarV2); 0 for every other transaction. -/
theorem launchpad_total (hash : List Nat → List Nat) (s : State) (r : Nat) (h : Covered hash s r)
    (hist : List (Env × Call)) (a : Nat) (ha : a ≠ s.owner)
    (ha2 : s.variant.hasLock = true → a ≠ s.lockAddr) :
    totalReceived s.lpTok a (lk_runLog hash s hist) = cr_totalOwedLp hash a (lk_runLog hash s hist) :=
  cr_totalLp_eq hash a hist s (cr_static_covered h) ha ha2

/-- **six non-vested contracts, from completion**: an unsettled `a` receives in launchpad tokens
    (direct + locked) 0 before his claim and exactly `perTicket × winCountOf a` — as evaluated in the
    starting state — from his claim on; nothing after he has settled. -/
theorem launchpad_after_completion (hash : List Nat → List Nat) (s : State) (r : Nat)
    (h : Covered hash s r) (hd : AllDone s) (hv : s.variant.vested = false) (hist : Hist)
    (hr : RoundsFrom r hist) (hok : ∀ x ∈ hist, HistOK x.1 x.2) (a : Nat) (ha : a ≠ s.owner)
    (ha2 : s.variant.hasLock = true → a ≠ s.lockAddr) :
    (s.claimed a = false → totalReceived s.lpTok a (lk_runLog hash s hist) =
      (match (lk_runLog hash s hist).find? (isClaimBy a) with
       | some _ => s.perTicket * winCountOf s a
       | none => 0)) ∧
    (s.claimed a = true → totalReceived s.lpTok a (lk_runLog hash s hist) = 0) := by
  obtain ⟨h1, h2⟩ := cr_from_late hash a hist s r ⟨h, hd, ha, ha2⟩ hr hok
  exact ⟨fun hcl => (h2 hcl).2 hv, fun hcl => (h1 hcl).2 hv⟩

/-- **two vested contracts (guarV1, guarV2), from completion**: the launchpad tokens `a` receives
    over any admissible history are exactly the increase of his `userClaimed` record (which never
    decreases).  With `LP.Props.C13reachV2.claim_releases_exactly_guarV2` /
    `LP.Props.C01reachG1` (`released_exact_*`, `vesting_path_independent_*`) the final
    `userClaimed a` is the floor formula `userTotal × unlocked % / 10000` at the round of his last
    claim. -/
theorem vested_after_completion (hash : List Nat → List Nat) (s : State) (r : Nat)
    (h : Covered hash s r) (hd : AllDone s) (hv : s.variant.vested = true) (hist : Hist)
    (hr : RoundsFrom r hist) (hok : ∀ x ∈ hist, HistOK x.1 x.2) (a : Nat) (ha : a ≠ s.owner) :
    totalReceived s.lpTok a (lk_runLog hash s hist)
      = (run hash s hist).userClaimed a - s.userClaimed a ∧
    s.userClaimed a ≤ (run hash s hist).userClaimed a := by
  have hl : s.variant.hasLock = true → a ≠ s.lockAddr := fun hl => by
    rw [(rc_vested_flags hv).2] at hl; cases hl
  have := cr_vested_from_late hash a hist s r ⟨h, hd, ha, hl⟩ hv hr hok
  omega

/-- **all eight contracts in one statement** (from completion, unsettled `a`): payment token — 0 or
    `cr_due s a`; launchpad token — per family. -/
theorem receipts_every_variant (hash : List Nat → List Nat) (v : Variant) (s : State) (r : Nat)
    (h : ReachOf hash v s r) (hd : AllDone s) (hist : Hist) (hr : RoundsFrom r hist)
    (hok : ∀ x ∈ hist, HistOK x.1 x.2) (a : Nat) (ha : a ≠ s.owner)
    (ha2 : s.variant.hasLock = true → a ≠ s.lockAddr) (hcl : s.claimed a = false) :
    s.variant = v ∧
    cr_total s.payTok a (lk_runLog hash s hist) =
      (match (lk_runLog hash s hist).find? (isClaimBy a) with
       | some _ => cr_due s a
       | none => 0) ∧
    ((lk_runLog hash s hist).filter (cr_isSettleBy a)).length ≤ 1 ∧
    (match v with
     | .guarV1 | .guarV2 =>
        totalReceived s.lpTok a (lk_runLog hash s hist)
          = (run hash s hist).userClaimed a - s.userClaimed a
     | _ =>
        totalReceived s.lpTok a (lk_runLog hash s hist) =
          (match (lk_runLog hash s hist).find? (isClaimBy a) with
           | some _ => s.perTicket * winCountOf s a
           | none => 0)) := by
  have hc := covered_of_reachOf hash v s r h
  have hvar : s.variant = v := h.variant
  have hpay := (payment_after_completion hash s r hc hd hist hr hok a ha ha2 hcl).1
  refine ⟨hvar, hpay, settles_at_most_once hash s hist a, ?_⟩
  have nonv : s.variant.vested = false → totalReceived s.lpTok a (lk_runLog hash s hist) =
      (match (lk_runLog hash s hist).find? (isClaimBy a) with
       | some _ => s.perTicket * winCountOf s a
       | none => 0) :=
    fun hv => (launchpad_after_completion hash s r hc hd hv hist hr hok a ha ha2).1 hcl
  have vest : s.variant.vested = true → totalReceived s.lpTok a (lk_runLog hash s hist)
      = (run hash s hist).userClaimed a - s.userClaimed a :=
    fun hv => (vested_after_completion hash s r hc hd hv hist hr hok a ha).1
  cases v <;> simp only [] <;> first
    | exact nonv (by rw [hvar]; rfl)
    | exact vest (by rw [hvar]; rfl)

/-! ## 4. the owner

  A `claimPayment` pays nobody but the owner (any state).  What the owner receives:
  LP/Props/C01owner.lean. -/
theorem owner_only_from_withdrawals (hash : List Nat → List Nat) (s : State) (e : Env) (s' : State)
    (o : Out) (hs : step hash s e .claimPayment = .ok (s', o)) (tok : Token) (a : Nat)
    (ha : a ≠ s.owner) : e.caller = s.owner ∧ cr_paid tok a o.xfers = 0 :=
  ⟨step_claimPayment_owner hs, cr_xfers_to_caller hs tok ha⟩

/-! ## non-vacuity

  (a) the locked guaranteed-ticket launchpad `g7` of LP/Props/C16reach.lean (round 12, all steps
  done; participant 7 confirmed 2 and holds both winning tickets, participant 8 confirmed 1 and
  lost; price 10 EGLD, 1000 tokens per ticket) and its history `gHist`: 7 claims, 8 claims, the owner
  withdraws, 7 claims again (rejected). -/

open LP.Props.C16reach in
theorem g7_covered : Covered id g7 12 := covered_of_reachOf id .lockedGuar g7 12 g7_reachOf

open LP.Props.C16reach in
theorem g7_done : AllDone g7 := by unfold AllDone; decide +kernel

open LP.Props.C16reach in
theorem gHist_ok : RoundsFrom 12 gHist ∧ ∀ x ∈ gHist, HistOK x.1 x.2 := by
  refine ⟨⟨by decide, by decide, by decide, by decide, trivial⟩, ?_⟩
  intro x hx
  simp only [gHist, List.mem_cons, List.not_mem_nil, or_false] at hx
  rcases hx with rfl | rfl | rfl | rfl <;> exact ⟨Or.inl rfl, trivial, trivial⟩

open LP.Props.C16reach in
/-- the hypotheses of `payment_after_completion` hold for 7 and 8 in `g7`: 7 is owed
    `10 × (2 − 2) = 0`, 8 is owed `10 × (1 − 0) = 10` -/
example : AllDone g7 ∧ g7.owner = 1 ∧ g7.lockAddr = 77 ∧ g7.claimed 7 = false ∧ g7.claimed 8 = false ∧
    cr_due g7 7 = 0 ∧ cr_due g7 8 = 10 ∧ g7.payTok = .egld := by
  unfold AllDone; decide +kernel

open LP.Props.C16reach in
example : cr_total .egld 8 (lk_runLog id g7 gHist) = 10 := by
  have h := (payment_after_completion id g7 12 g7_covered g7_done gHist gHist_ok.1 gHist_ok.2 8
    (by decide +kernel) (fun _ => by decide +kernel) (by decide +kernel)).1
  have h1 : g7.payTok = .egld := by decide +kernel
  rw [h1] at h
  rw [h]
  have h2 : (lk_runLog id g7 gHist).find? (isClaimBy 8) ≠ none := by decide +kernel
  have h3 : cr_due g7 8 = 10 := by decide +kernel
  cases hf : (lk_runLog id g7 gHist).find? (isClaimBy 8) with
  | none => exact absurd hf h2
  | some x => exact h3

open LP.Props.C16reach in
/-- evaluated directly: 8 receives 10 EGLD, 7 nothing in EGLD; 7 receives `1000 × 2` launchpad
    tokens (500 locked + 1500 direct), 8 none; three accepted transactions, one settlement each -/
example : cr_total .egld 8 (lk_runLog id g7 gHist) = 10 ∧ cr_total .egld 7 (lk_runLog id g7 gHist) = 0 ∧
    totalReceived 1 7 (lk_runLog id g7 gHist) = 2000 ∧ totalReceived 1 8 (lk_runLog id g7 gHist) = 0 ∧
    ((lk_runLog id g7 gHist).filter (cr_isSettleBy 7)).length = 1 ∧
    g7.perTicket * winCountOf g7 7 = 2000 := by
  decide +kernel

open LP.Props.C16reach in
example : totalReceived g7.lpTok 7 (lk_runLog id g7 gHist) =
    (match (lk_runLog id g7 gHist).find? (isClaimBy 7) with
     | some _ => g7.perTicket * winCountOf g7 7
     | none => 0) :=
  (receipts_every_variant id .lockedGuar g7 12 g7_reachOf g7_done gHist gHist_ok.1 gHist_ok.2 7
    (by decide +kernel) (fun _ => by decide +kernel) (by decide +kernel)).2.2.2

/-! (b) the base launchpad `ex7` of LP/Props/C01reach.lean (round 12, all steps done) -/

open LP.Props.C01reach in
example : Covered id ex7 12 ∧ AllDone ex7 ∧ ex7.variant.vested = false :=
  ⟨.plain (Or.inl rfl) ex7_reach, by unfold AllDone; decide +kernel⟩

open LP.Props.C01reach in
example : ex7.payTok ≠ .esdt ex7.lpTok ∧ (7 : Nat) ≠ ex7.owner ∧
    ∃ o, step id ex7 { caller := 7, round := 15 } .claim = .ok (ex8, o) ∧
      cr_paid ex7.payTok 7 o.xfers = cr_owedPay ex7 { caller := 7, round := 15 } .claim 7 := by
  obtain ⟨o, ho⟩ := stOf_spec ex8_ok ex7
  have ht : ex7.payTok ≠ .esdt ex7.lpTok := by decide +kernel
  have h7 : (7 : Nat) ≠ ex7.owner := by decide +kernel
  exact ⟨ht, h7, o, ho, (payment_per_transaction id ex7 _ _ ex8 o ht 7 h7 ho).1⟩

end LP.Props.C01receipts

#print axioms LP.Props.C01receipts.covered_of_reachOf
#print axioms LP.Props.C01receipts.static_of_covered
#print axioms LP.Props.C01receipts.payment_per_transaction
#print axioms LP.Props.C01receipts.payment_total
#print axioms LP.Props.C01receipts.payment_total_any_state
#print axioms LP.Props.C01receipts.settles_at_most_once
#print axioms LP.Props.C01receipts.payment_total_classified
#print axioms LP.Props.C01receipts.payment_after_completion
#print axioms LP.Props.C01receipts.payment_after_settlement
#print axioms LP.Props.C01receipts.unsettled_data_frozen
#print axioms LP.Props.C01receipts.launchpad_total
#print axioms LP.Props.C01receipts.launchpad_after_completion
#print axioms LP.Props.C01receipts.vested_after_completion
#print axioms LP.Props.C01receipts.receipts_every_variant
#print axioms LP.Props.C01receipts.owner_only_from_withdrawals
#print axioms LP.Props.C01receipts.g7_covered
#print axioms LP.Props.C01receipts.gHist_ok
#print axioms LP.Props.C01receipts.variant_g1
