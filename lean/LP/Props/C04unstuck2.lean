import LP.Proofs.Unstuck2
import LP.Props.C04unstuck
import LP.Props.C01reachV1
import LP.Props.C01reachG1
import LP.Props.C14reachG
/-
  C04 "every step reports completion after finitely many resumed calls and cannot be left stuck"
  on reachable states, for the additional steps `distribute` (guarV2; the v1 family `migration`,
  `lockedGuar`, `guarV1`) and `secondary` (nftGuar), and end to end for base, locked, nft, guarV2.

  Vocabulary (LP/Proofs/Unstuck2.lean; `us2_` continues `us_` of LP/Proofs/Unstuck.lean):
  * `us2_distOff s`      the saved offset of the leftover loop (1 when no `.guar` cursor is saved);
  * `us2_distLeft s`     `|whitelist| + (lastTicketId + 1 - (nrWinning + us2_distOff s))`;
  * `us2_V1Cov hash s r` `s` is a reachable state of `migration` / `lockedGuar` (`v1_Reach`) or of
                         `guarV1` (`g1_Reach`): the three contracts with the v1 `distribute`;
  * `us2_leftStart s e`  the loop state in which the leftover loop of a `distribute`/`secondary`
                         call in environment `e` starts, with the budget left for it — defined
                         when the guaranteed-ticket loop completes within the call;
  * `us2_Spins hash s e` the call reaches the leftover loop and that loop performs
                         `v1LeftoverFuel = 200000` iterations within the call without completing
                         or being interrupted: THE condition under which the model's v1 leftover
                         loop returns an error ("out of gas");
  * `us2_redraws hash false nrW last n z`   among the first `n` iterations of the v1 leftover loop
                         from `z`, the number whose draw hits an already winning ticket;
  * `us2_V1Out` / `us2_SecOut`   the outcomes of an accepted `distribute` / `secondary` call;
  * `us2_OwnerCall s e`  `e` carries no payment, has an unlimited budget, and its caller is the
                         owner of `s`.

  `distribute` of guarV2 reads the pause flag and has a caller gate; `distribute` of the v1 family
  and `secondary` have neither, hence no hypothesis on `paused` or on the caller for them.

  The v1 leftover loop terminates only probabilistically (`C03_leftover_v1_may_spin`,
  LP/Props/C03final.lean), so for the v1 family and nftGuar the statements are: acceptance IFF
  `¬ us2_Spins`; what `us2_Spins` implies about the draws; strict progress of the
  guaranteed-ticket phase; exact progress of the leftover phase; completion under an explicit
  hypothesis on the draws (`us2_DrawsOK`, satisfiable: `us2_DrawsOK_zero`).  Without that
  hypothesis completion is FALSE in the model (C04unstuck3, "spinning is possible").  The
  call-count bound for `secondary` is in C04unstuck3.
-/
namespace LP.Props.C04unstuck2
open LP LP.Props.C17

variable (hash : List Nat → List Nat)

/-- C04 for `distribute` of guarV2: lottery complete, distribution not, selection stage, un-paused:
    a call by the owner or a non-contract account (no payment, any budget) is accepted whatever is
    saved — only `.none` or a `.guar` cursor can be; it completes or, only with a finite budget, is
    interrupted having strictly decreased `us2_distLeft ≤ |whitelist| + lastTicketId`. -/
theorem distribute_v2_never_stuck (s : State) (r : Nat) (e : Env)
    (hs : Reach hash .guarV2 s r) (hsd : s.flags.selected = true)
    (hna : s.flags.additional = false) (hr : r ≤ e.round) (hsel : s.cfg.sel ≤ e.round)
    (hegld : e.egld = 0) (hesdt : e.esdts = []) (hp : s.paused = false)
    (hcaller : e.caller = s.owner ∨ e.callerIsContract = false) :
    (s.op = .none ∨ ∃ g, s.op = .additional (.guar g)) ∧
    us2_distLeft s ≤ s.whitelist.length + s.lastTicketId ∧
    ∃ s' o, step hash s e .distribute = .ok (s', o) ∧ Reach hash .guarV2 s' e.round ∧
      s'.paused = false ∧ s'.cfg = s.cfg ∧ s'.owner = s.owner ∧ s'.flags.selected = true ∧
      ((o.ret = [0] ∧ s'.flags.additional = true ∧ s'.op = .none) ∨
       (o.ret = [1] ∧ s'.flags.additional = false ∧ s'.op ≠ .none ∧
          us2_distLeft s' < us2_distLeft s ∧ e.budget ≠ none)) ∧
      (e.budget = none → o.ret = [0] ∧ s'.flags.additional = true ∧ s'.op = .none) := by
  obtain ⟨h1, h2, s', o, hst, hre, hsd', hout⟩ :=
    us2_dist_v2_never_stuck hash hs hsd hna hr hsel ⟨hegld, hesdt⟩ hp hcaller
  exact ⟨h1, h2, s', o, hst, hre, by rw [hout.paused]; exact hp, hout.cfg, hout.owner, hsd',
    hout.cases, hout.unlimited⟩

theorem distribute_v2_completes (s : State) (r : Nat) (hs : Reach hash .guarV2 s r)
    (hsd : s.flags.selected = true) (hsel : s.cfg.sel ≤ r) (hp : s.paused = false)
    (es : List Env) (hr : RoundsFrom r (us_hist .distribute es))
    (hq : ∀ e ∈ es, us_NoPay e ∧ (e.caller = s.owner ∨ e.callerIsContract = false))
    (hlen : us2_distLeft s + 1 ≤ es.length) :
    (run hash s (us_hist .distribute es)).flags.additional = true := by
  refine us_outcome_completes hash .distribute rfl
    (fun s1 r1 => Reach hash .guarV2 s1 r1 ∧ s1.flags.selected = true)
    (fun e => us_NoPay e ∧ (e.caller = s.owner ∨ e.callerIsContract = false))
    us2_distLeft s ?_ es r ⟨hs, hsd⟩ hsel hr hq hlen
  intro s1 r1 e hg hna hr1 hq1
  obtain ⟨_, _, s', o, hst, hre', hsd', hout⟩ := us2_dist_v2_never_stuck hash hg.reach.1 hg.reach.2
    hna hr1 (Nat.le_trans hg.sel hr1) hq1.1 (by rw [hg.paused, hp]) (by rw [hg.owner]; exact hq1.2)
  exact ⟨s', o, hst, ⟨hre', hsd'⟩, hout⟩

/-- the bound of the property text: `|whitelist| + lastTicketId + 1` calls always suffice -/
theorem distribute_v2_completes_within (s : State) (r : Nat) (hs : Reach hash .guarV2 s r)
    (hsd : s.flags.selected = true) (hsel : s.cfg.sel ≤ r) (hp : s.paused = false)
    (es : List Env) (hr : RoundsFrom r (us_hist .distribute es))
    (hq : ∀ e ∈ es, us_NoPay e ∧ (e.caller = s.owner ∨ e.callerIsContract = false))
    (hlen : s.whitelist.length + s.lastTicketId + 1 ≤ es.length) :
    (run hash s (us_hist .distribute es)).flags.additional = true :=
  us_completes_within hash .distribute rfl us2_distLeft (s.whitelist.length + s.lastTicketId) es hr
    (fun hna e he hr1 =>
      (us2_dist_v2_never_stuck hash hs hsd hna hr1 (Nat.le_trans hsel hr1) (hq e he).1 hp
        (hq e he).2).2.1)
    (distribute_v2_completes hash s r hs hsd hsel hp es hr hq) hlen

/-- C04, v1 `distribute`, acceptance: lottery complete, distribution not, from the selection round
    on — paused or not, any caller, any budget, whatever is saved (only `.none` or a `.guar` cursor
    can be) — a call without payment is accepted IFF the leftover loop does not exhaust its fuel in
    this call; if it does, the call fails with "out of gas". -/
theorem distribute_v1_accepted_iff (s : State) (r : Nat) (e : Env) (hs : us2_V1Cov hash s r)
    (hsd : s.flags.selected = true) (hna : s.flags.additional = false) (hr : r ≤ e.round)
    (hsel : s.cfg.sel ≤ e.round) (hegld : e.egld = 0) (hesdt : e.esdts = []) :
    (s.op = .none ∨ ∃ g, s.op = .additional (.guar g)) ∧
    ((∃ s' o, step hash s e .distribute = .ok (s', o)) ↔ ¬ us2_Spins hash s e) ∧
    (us2_Spins hash s e → step hash s e .distribute = .error (.vm "out of gas")) := by
  obtain ⟨h1, hA, hB⟩ := us2_dist_v1_accepted_or_spins hash hs hsd hna hr hsel ⟨hegld, hesdt⟩
  refine ⟨h1, ⟨fun ⟨s', o, hst⟩ hsp => ?_, fun hns => ?_⟩, fun hsp => (hA hsp).1⟩
  · rw [(hA hsp).1] at hst; cases hst
  · obtain ⟨s', o, hst, _⟩ := hB hns
    exact ⟨s', o, hst⟩

/-- a spinning call drew an already winning ticket in all but at most
    `lastTicketId + 1 - (nrWinning + offset)` of its 200000 leftover iterations: every other
    iteration consumes one of the positions left -/
theorem distribute_v1_spin_means_redraws (s : State) (r : Nat) (e : Env)
    (hs : us2_V1Cov hash s r) (hsd : s.flags.selected = true) (hna : s.flags.additional = false)
    (hr : r ≤ e.round) (hsel : s.cfg.sel ≤ e.round) (hegld : e.egld = 0) (hesdt : e.esdts = [])
    (hsp : us2_Spins hash s e) :
    ∃ z0 b1, us2_leftStart s e = some (z0, b1) ∧
      v1LeftoverFuel ≤ s.lastTicketId + 1 - (s.nrWinning + us2_distOff s) +
        us2_redraws hash false s.nrWinning s.lastTicketId v1LeftoverFuel z0 :=
  ((us2_dist_v1_accepted_or_spins hash hs hsd hna hr hsel ⟨hegld, hesdt⟩).2.1 hsp).2

/-- an accepted call is interrupted in the guaranteed-ticket phase, interrupted in the leftover
    phase, or completes (`us2_V1Out`) -/
theorem distribute_v1_outcome (s : State) (r : Nat) (e : Env) (hs : us2_V1Cov hash s r)
    (hsd : s.flags.selected = true) (hna : s.flags.additional = false) (hr : r ≤ e.round)
    (hsel : s.cfg.sel ≤ e.round) (hegld : e.egld = 0) (hesdt : e.esdts = [])
    (hns : ¬ us2_Spins hash s e) :
    ∃ s' o, step hash s e .distribute = .ok (s', o) ∧ us2_V1Cov hash s' e.round ∧
      us2_V1Out hash s e s' o :=
  (us2_dist_v1_accepted_or_spins hash hs hsd hna hr hsel ⟨hegld, hesdt⟩).2.2 hns

/-- while the stored whitelist is not empty, every accepted call that does not complete the step
    strictly shortens it -/
theorem distribute_v1_guaranteed_phase_progress (s : State) (r : Nat) (e : Env) (s' : State)
    (o : Out) (hs : us2_V1Cov hash s r) (hsd : s.flags.selected = true)
    (hna : s.flags.additional = false) (hwl : s.whitelist ≠ [])
    (hst : step hash s e .distribute = .ok (s', o)) (hret : o.ret = [1]) :
    s'.whitelist.length < s.whitelist.length ∧ s'.flags.additional = false ∧ s'.op ≠ .none := by
  obtain ⟨_, _, _, _, _, hc⟩ := us2_dist_v1_shape hash (hs.distSt hsd hna) hs.meta.2 hst
  have hpos : 0 < s.whitelist.length := List.length_pos_iff.mpr hwl
  rcases hc with ⟨_, hf, hop, _, hlt, _⟩ | ⟨_, hf, hop, _, hnil, _⟩ | ⟨h0, _⟩
  · exact ⟨hlt, by rw [hf]; exact hna, hop⟩
  · exact ⟨by rw [hnil]; exact hpos, by rw [hf]; exact hna, hop⟩
  · rw [hret] at h0; cases h0

/-- once the whitelist is empty, an accepted call that does not complete the step performed `k + 1`
    leftover iterations (`k` = the budget left for that loop) and moved the saved offset forward by
    exactly the number of them that did NOT draw an already winning ticket -/
theorem distribute_v1_leftover_phase_progress (s : State) (r : Nat) (e : Env) (s' : State)
    (o : Out) (hs : us2_V1Cov hash s r) (hsd : s.flags.selected = true)
    (hna : s.flags.additional = false) (hwl : s.whitelist = [])
    (hst : step hash s e .distribute = .ok (s', o)) (hret : o.ret = [1]) :
    s'.whitelist = [] ∧ s'.flags.additional = false ∧ s'.op ≠ .none ∧
    ∃ z0 k, us2_leftStart s e = some (z0, some k) ∧
      us2_distOff s' + us2_redraws hash false s.nrWinning s.lastTicketId (k + 1) z0
        = us2_distOff s + (k + 1) := by
  obtain ⟨_, _, _, _, _, hc⟩ := us2_dist_v1_shape hash (hs.distSt hsd hna) hs.meta.2 hst
  rcases hc with ⟨_, _, _, _, hlt, _⟩ | ⟨_, hf, hop, _, hnil, _, hz⟩ | ⟨h0, _⟩
  · rw [hwl] at hlt; simp at hlt
  · exact ⟨hnil, by rw [hf]; exact hna, hop, hz⟩
  · rw [hret] at h0; cases h0

/-- if fewer than `200000 - (lastTicketId + 1 - (nrWinning + offset))` iterations of the call's own
    leftover loop draw an already winning ticket, ONE call with an unlimited budget completes the
    step.  Without `hdraws`: false (`C04unstuck3.distribute_v1_spins_concrete`). -/
theorem distribute_v1_completes_partial (s : State) (r : Nat) (e : Env) (hs : us2_V1Cov hash s r)
    (hsd : s.flags.selected = true) (hna : s.flags.additional = false) (hr : r ≤ e.round)
    (hsel : s.cfg.sel ≤ e.round) (hegld : e.egld = 0) (hesdt : e.esdts = [])
    (hb : e.budget = none)
    (hdraws : ∀ z0 b1, us2_leftStart s e = some (z0, b1) →
      s.lastTicketId + 1 - (s.nrWinning + us2_distOff s) +
        us2_redraws hash false s.nrWinning s.lastTicketId v1LeftoverFuel z0 < v1LeftoverFuel) :
    ∃ s' o, step hash s e .distribute = .ok (s', o) ∧ us2_V1Cov hash s' e.round ∧
      o.ret = [0] ∧ s'.flags.additional = true ∧ s'.flags.selected = true ∧ s'.op = .none := by
  obtain ⟨_, hA, hB⟩ := us2_dist_v1_accepted_or_spins hash hs hsd hna hr hsel ⟨hegld, hesdt⟩
  have hns : ¬ us2_Spins hash s e := by
    intro hsp
    obtain ⟨_, z0, b1, hls, hle⟩ := hA hsp
    have := hdraws z0 b1 hls
    omega
  obtain ⟨s', o, hst, hcov, hout⟩ := hB hns
  refine ⟨s', o, hst, hcov, ?_⟩
  rcases hout.cases with ⟨_, _, _, _, _, _, h⟩ | ⟨_, _, _, _, _, h, _⟩ | ⟨h1, h2, h3⟩
  · exact absurd hb h
  · exact absurd hb h
  · exact ⟨h1, h2, by rw [hout.selected]; exact hsd, h3⟩

/-- `us2_DrawsOK hash e`: in whatever reachable state the call is made, its leftover loop does not
    spin and, when interrupted there, at least one of its iterations did not re-draw an already
    winning ticket (true e.g. of every call with budget 0 whose scripted draw is `0`:
    `us2_DrawsOK_zero`).  Under it every interrupted call strictly decreases `us2_distLeft`, so
    `us2_distLeft s + 1` calls complete the step. -/
theorem distribute_v1_completes_partial_calls (s : State) (r : Nat) (hs : us2_V1Cov hash s r)
    (hsd : s.flags.selected = true) (hsel : s.cfg.sel ≤ r) (es : List Env)
    (hr : RoundsFrom r (us_hist .distribute es))
    (hq : ∀ e ∈ es, us_NoPay e ∧ us2_DrawsOK hash e)
    (hlen : us2_distLeft s + 1 ≤ es.length) :
    (run hash s (us_hist .distribute es)).flags.additional = true := by
  refine us_run_completes hash .distribute rfl
    (fun s1 r1 => us2_V1Cov hash s1 r1 ∧ s1.flags.selected = true ∧ s1.cfg.sel ≤ r1)
    (fun e => us_NoPay e ∧ us2_DrawsOK hash e) us2_distLeft ?_ es s r ⟨hs, hsd, hsel⟩ hr hq hlen
  intro s1 r1 e hg hna hr1 hq1
  obtain ⟨hc1, hsd1, hsel1⟩ := hg
  obtain ⟨s', o, hst, hcov, hsd', hcfg, hprog⟩ := us2_dist_v1_progress hash hc1 hsd1 hna hr1
    (Nat.le_trans hsel1 hr1) hq1.1 hq1.2
  exact ⟨s', o, hst, ⟨hcov, hsd', by rw [hcfg]; exact Nat.le_trans hsel1 hr1⟩, hprog⟩

/-- C04, `secondary`, while the guaranteed sub-step is in progress (no NFT generator saved):
    accepted IFF the leftover loop does not exhaust its fuel in this call — paused or not, any
    caller, any budget; the NFT draw started in the same call cannot fail -/
theorem secondary_accepted_iff (s : State) (r : Nat) (e : Env) (hs : ng_Reach hash s r)
    (hsd : s.flags.selected = true) (hna : s.flags.additional = false)
    (hopn : ∀ rg, s.op ≠ .additional (.nft rg)) (hr : r ≤ e.round) (hsel : s.cfg.sel ≤ e.round)
    (hegld : e.egld = 0) (hesdt : e.esdts = []) :
    (s.op = .none ∨ ∃ g, s.op = .additional (.guar g)) ∧
    ((∃ s' o, step hash s e .secondary = .ok (s', o)) ↔ ¬ us2_Spins hash s e) ∧
    (us2_Spins hash s e → step hash s e .secondary = .error (.vm "out of gas") ∧
      ∃ z0 b1, us2_leftStart s e = some (z0, b1) ∧
        v1LeftoverFuel ≤ s.lastTicketId + 1 - (s.nrWinning + us2_distOff s) +
          us2_redraws hash false s.nrWinning s.lastTicketId v1LeftoverFuel z0) := by
  obtain ⟨h1, hA, hB⟩ := us2_sec_guar_accepted_or_spins hash hs hsd hna hopn hr hsel ⟨hegld, hesdt⟩
  refine ⟨h1, ⟨fun ⟨s', o, hst⟩ hsp => ?_, fun hns => ?_⟩, hA⟩
  · rw [(hA hsp).1] at hst; cases hst
  · obtain ⟨s', o, hst, _⟩ := hB hns
    exact ⟨s', o, hst⟩

/-- an accepted call is interrupted in the guaranteed-ticket phase (whitelist strictly shorter),
    interrupted in the leftover phase (offset advanced by the number of iterations that did not
    re-draw a winning ticket), interrupted in the NFT draw (its generator saved), or completes
    (`us2_SecOut`) -/
theorem secondary_outcome (s : State) (r : Nat) (e : Env) (hs : ng_Reach hash s r)
    (hsd : s.flags.selected = true) (hna : s.flags.additional = false)
    (hopn : ∀ rg, s.op ≠ .additional (.nft rg)) (hr : r ≤ e.round) (hsel : s.cfg.sel ≤ e.round)
    (hegld : e.egld = 0) (hesdt : e.esdts = []) (hns : ¬ us2_Spins hash s e) :
    ∃ s' o, step hash s e .secondary = .ok (s', o) ∧ ng_Reach hash s' e.round ∧
      us2_SecOut hash s e s' o :=
  (us2_sec_guar_accepted_or_spins hash hs hsd hna hopn hr hsel ⟨hegld, hesdt⟩).2.2 hns

/-- C04, `secondary`, NFT phase: once the generator of the NFT draw is saved (which implies
    `selected ∧ ¬additional`), a call without payment is accepted from the selection round on,
    paused or not, any caller, any budget; it completes the step or strictly decreases
    `us_nftLeft ≤ availNfts`, saving the generator again -/
theorem secondary_nft_phase_never_stuck (s : State) (r : Nat) (e : Env) (rg : Rng)
    (hs : ng_Reach hash s r) (hop : s.op = .additional (.nft rg)) (hr : r ≤ e.round)
    (hsel : s.cfg.sel ≤ e.round) (hegld : e.egld = 0) (hesdt : e.esdts = []) :
    s.flags.selected = true ∧ s.flags.additional = false ∧ us_nftLeft s ≤ s.availNfts ∧
    ∃ s' o, step hash s e .secondary = .ok (s', o) ∧ ng_Reach hash s' e.round ∧
      s'.flags.selected = true ∧ s'.cfg = s.cfg ∧
      ((o.ret = [0] ∧ s'.flags.additional = true ∧ s'.op = .none) ∨
       (o.ret = [1] ∧ s'.flags.additional = false ∧ (∃ rg', s'.op = .additional (.nft rg')) ∧
          us_nftLeft s' < us_nftLeft s ∧ e.budget ≠ none)) ∧
      (e.budget = none → o.ret = [0] ∧ s'.flags.additional = true ∧ s'.op = .none) := by
  obtain ⟨h1, h2, h3, s', o, hst, hre, hsd', hop', hout⟩ :=
    us2_sec_nft_never_stuck hash hs hop hr hsel ⟨hegld, hesdt⟩
  refine ⟨h1, h2, h3, s', o, hst, hre, hsd', hout.cfg, ?_, hout.unlimited⟩
  rcases hout.cases with h | ⟨a, b, _, c, d⟩
  · exact Or.inl h
  · exact Or.inr ⟨a, b, hop' b, c, d⟩

theorem secondary_nft_phase_completes (s : State) (r : Nat) (rg : Rng) (hs : ng_Reach hash s r)
    (hop : s.op = .additional (.nft rg)) (hsel : s.cfg.sel ≤ r) (es : List Env)
    (hr : RoundsFrom r (us_hist .secondary es)) (hpay : ∀ e ∈ es, us_NoPay e)
    (hlen : us_nftLeft s + 1 ≤ es.length) :
    (run hash s (us_hist .secondary es)).flags.additional = true := by
  refine us_outcome_completes hash .secondary rfl
    (fun s1 r1 => ng_Reach hash s1 r1 ∧
      (s1.flags.additional = false → ∃ rg', s1.op = .additional (.nft rg'))) us_NoPay
    us_nftLeft s ?_ es r ⟨hs, fun _ => ⟨rg, hop⟩⟩ hsel hr hpay hlen
  intro s1 r1 e hg hna hr1 hq
  obtain ⟨rg1, hop1⟩ := hg.reach.2 hna
  obtain ⟨_, _, _, s', o, hst, hre', _, hop', hout⟩ := us2_sec_nft_never_stuck hash hg.reach.1 hop1
    hr1 (Nat.le_trans hg.sel hr1) hq
  exact ⟨s', o, hst, ⟨hre', hop'⟩, hout⟩

/-! ## end to end: "cannot be left stuck" (base, locked, nft, guarV2)

  From ANY reachable state in the selection stage, not paused, whatever operation is saved, the
  sequence `filter`, `select` (, the additional step) of owner calls with unlimited budgets leads
  to `AllDone`; a call whose step is already complete is rejected and changes nothing. -/

theorem all_steps_complete_plain (v : Variant) (hv : Plain v) (s : State) (r : Nat)
    (hs : Reach hash v s r) (hsel : s.cfg.sel ≤ r) (hp : s.paused = false) (e1 e2 : Env)
    (hr : RoundsFrom r [(e1, .filter), (e2, .select)])
    (h1 : us2_OwnerCall s e1) (h2 : us2_OwnerCall s e2) :
    AllDone (run hash s [(e1, .filter), (e2, .select)]) ∧
    Reach hash v (run hash s [(e1, .filter), (e2, .select)]) e2.round := by
  obtain ⟨hO, hsd⟩ := us3_two_steps (us2_rel hash (Or.inl hv)) hs hsel hp e1 e2 hr h1 h2
  obtain ⟨a0, ha⟩ := Reach_iff.mp hO.reach
  exact ⟨⟨hsd, (reach_WF hv ha).add⟩, hO.reach⟩

theorem all_steps_complete_nft (s : State) (r : Nat)
    (hs : Reach hash .nft s r) (hsel : s.cfg.sel ≤ r) (hp : s.paused = false) (e1 e2 e3 : Env)
    (hr : RoundsFrom r [(e1, .filter), (e2, .select), (e3, .selectNft)])
    (h1 : us2_OwnerCall s e1) (h2 : us2_OwnerCall s e2) (h3 : us2_OwnerCall s e3) :
    AllDone (run hash s [(e1, .filter), (e2, .select), (e3, .selectNft)]) ∧
    Reach hash .nft (run hash s [(e1, .filter), (e2, .select), (e3, .selectNft)]) e3.round := by
  obtain ⟨hr1, hr2, hr3, _⟩ := hr
  obtain ⟨hO, hsd⟩ := us3_two_steps (us2_rel hash (Or.inr (Or.inl rfl))) hs hsel hp e1 e2
    ⟨hr1, hr2, trivial⟩ h1 h2
  rw [us2_run_three, ← us2_run_two hash s (e1, .filter) (e2, .select)]
  obtain ⟨hO', hadd, hsd'⟩ := hO.stage_outcome (us2_rel hash (Or.inr (Or.inl rfl))) hr3 h3.2.1
    .selectNft rfl us_nftLeft (fun s => s.flags.selected = true) hsd fun hf =>
      (us_nft_never_stuck hash hO.reach hsd hf hr3 (Nat.le_trans hO.sel hr3) h3.1).2.2
  exact ⟨⟨hsd', hadd⟩, hO'.reach⟩

theorem all_steps_complete_guarV2 (s : State) (r : Nat)
    (hs : Reach hash .guarV2 s r) (hsel : s.cfg.sel ≤ r) (hp : s.paused = false) (e1 e2 e3 : Env)
    (hr : RoundsFrom r [(e1, .filter), (e2, .select), (e3, .distribute)])
    (h1 : us2_OwnerCall s e1) (h2 : us2_OwnerCall s e2) (h3 : us2_OwnerCall s e3) :
    AllDone (run hash s [(e1, .filter), (e2, .select), (e3, .distribute)]) ∧
    Reach hash .guarV2 (run hash s [(e1, .filter), (e2, .select), (e3, .distribute)]) e3.round := by
  obtain ⟨hr1, hr2, hr3, _⟩ := hr
  obtain ⟨hO, hsd⟩ := us3_two_steps (us2_rel hash (Or.inr (Or.inr rfl))) hs hsel hp e1 e2
    ⟨hr1, hr2, trivial⟩ h1 h2
  rw [us2_run_three, ← us2_run_two hash s (e1, .filter) (e2, .select)]
  obtain ⟨hO', hadd, hsd'⟩ := hO.stage_outcome (us2_rel hash (Or.inr (Or.inr rfl))) hr3 h3.2.1
    .distribute rfl us2_distLeft (fun s => s.flags.selected = true) hsd fun hf =>
      (us2_dist_v2_never_stuck hash hO.reach hsd hf hr3 (Nat.le_trans hO.sel hr3) h3.1
        (by rw [hO.paused, hp]) (Or.inl (by rw [hO.owner]; exact h3.2.2))).2.2
  exact ⟨⟨hsd', hadd⟩, hO'.reach⟩

section ExV2
open LP.VV LP.Props.C04unstuck

/-- `x7` (guarV2, lottery complete, nothing saved): measure 3 = 1 whitelist entry + 2 positions; a
    call with budget 0 is interrupted and leaves measure 2 -/
example : Reach id .guarV2 x7 11 ∧ x7.flags.selected = true ∧ x7.flags.additional = false ∧
    x7.paused = false ∧ x7.cfg.sel ≤ 12 ∧ us2_distLeft x7 = 3 ∧
    (match step id x7 { caller := 9, round := 12, budget := some 0 } .distribute with
     | .ok (s', o) => some (o.ret, us2_distLeft s')
     | .error _ => none) = some ([1], 2) :=
  ⟨x7_reach, by decide +kernel⟩

/-- `all_steps_complete_guarV2` from `x5` (guarV2, nothing done yet), at the selection round -/
example : AllDone (run id x5 [({ caller := 1, round := 10 }, .filter),
    ({ caller := 1, round := 11 }, .select), ({ caller := 1, round := 12 }, .distribute)]) :=
  have ho : 1 = x5.owner := by decide +kernel
  (all_steps_complete_guarV2 id x5 10 (.wait _ _ _ x5_reach (by decide)) (by decide +kernel)
    (by decide +kernel) _ _ _
    ⟨by decide, by decide, by decide, trivial⟩ ⟨⟨rfl, rfl⟩, rfl, ho⟩
    ⟨⟨rfl, rfl⟩, rfl, ho⟩ ⟨⟨rfl, rfl⟩, rfl, ho⟩).1

end ExV2

section ExPlain
open LP.Props.C01reach LP.Props.C04unstuck LP.Props.C14reach

/-- `all_steps_complete_plain` from `ex4` (base launchpad, tickets confirmed, nothing selected) -/
example : AllDone (run id ex4 [({ caller := 1, round := 10 }, .filter),
    ({ caller := 1, round := 11 }, .select)]) :=
  have ho : 1 = ex4.owner := by decide +kernel
  (all_steps_complete_plain id .base (Or.inl rfl) ex4 10 (.wait _ _ _ ex4_reach (by decide))
    (by decide +kernel) (by decide +kernel) _ _ ⟨by decide, by decide, trivial⟩
    ⟨⟨rfl, rfl⟩, rfl, ho⟩ ⟨⟨rfl, rfl⟩, rfl, ho⟩).1

/-- from `ex5`, where an interrupted `filter` has left a cursor -/
example : ex5.op ≠ .none ∧ AllDone (run id ex5 [({ caller := 1, round := 10 }, .filter),
    ({ caller := 1, round := 11 }, .select)]) :=
  have ho : 1 = ex5.owner := by decide +kernel
  ⟨by decide +kernel, (all_steps_complete_plain id .base (Or.inl rfl) ex5 10 ex5_reach
    (by decide +kernel) (by decide +kernel) _ _ ⟨by decide, by decide, trivial⟩
    ⟨⟨rfl, rfl⟩, rfl, ho⟩ ⟨⟨rfl, rfl⟩, rfl, ho⟩).1⟩

/-- `all_steps_complete_nft` from `n7` (launchpad with NFT draw, before the filter) -/
example : AllDone (run id n7 [({ caller := 1, round := 10 }, .filter),
    ({ caller := 1, round := 11 }, .select), ({ caller := 1, round := 12 }, .selectNft)]) :=
  have ho : 1 = n7.owner := by decide +kernel
  (all_steps_complete_nft id n7 10 (.wait _ _ _ n7_reach (by decide)) (by decide +kernel)
    (by decide +kernel) _ _ _
    ⟨by decide, by decide, by decide, trivial⟩ ⟨⟨rfl, rfl⟩, rfl, ho⟩
    ⟨⟨rfl, rfl⟩, rfl, ho⟩ ⟨⟨rfl, rfl⟩, rfl, ho⟩).1

end ExPlain

section ExV1
open LP.Props.C01reachV1

/-- `ex8` (migration: lottery complete, 2 whitelist entries), `ex9` (after a `distribute` call with
    budget 0: 1 entry), `ex10` (after a call with budget 1: whitelist empty, leftover offset 2) -/
theorem ex8_cov : us2_V1Cov id ex8 12 := .v1 (Or.inl rfl) (v1_Reach_iff.mpr ⟨_, ex8_reach⟩)

theorem ex10_cov : us2_V1Cov id ex10 13 := .v1 (Or.inl rfl) (v1_Reach_iff.mpr ⟨_, ex10_reach⟩)

/-- from `ex8` the call with budget 0 does not spin, is interrupted in the guaranteed-ticket phase
    and shortens the whitelist -/
example : ex8.flags.selected = true ∧ ex8.flags.additional = false ∧ ex8.cfg.sel ≤ 13 ∧
    ex8.whitelist ≠ [] ∧ ¬ us2_Spins id ex8 { caller := 9, round := 13, budget := some 0 } ∧
    ex9.whitelist.length < ex8.whitelist.length := by
  have hs : ex8.flags.selected = true := by decide +kernel
  have ha : ex8.flags.additional = false := by decide +kernel
  have hc : ex8.cfg.sel ≤ 13 := by decide +kernel
  refine ⟨hs, ha, hc, by decide +kernel, ?_, by decide +kernel⟩
  obtain ⟨o, h⟩ := stOf_spec ex9_ok ex8
  exact (distribute_v1_accepted_iff id ex8 12 _ ex8_cov hs ha (by decide) hc rfl rfl).2.1.mp ⟨_, _, h⟩

/-- `ex10` is in the leftover phase; the unlimited call from it completes -/
example : ex10.flags.selected = true ∧ ex10.flags.additional = false ∧ ex10.whitelist = [] ∧
    us2_distOff ex10 = 2 ∧ ex11.flags.additional = true := by decide +kernel

/-- seven one-iteration calls with the scripted draw `0` from `ex8` (`us2_distLeft ex8 = 6`)
    satisfy the hypotheses of `distribute_v1_completes_partial_calls` -/
def exZero : Env := { caller := 9, round := 13, budget := some 0, script := [0] }

example : us2_distLeft ex8 = 6 ∧
    (run id ex8 (us_hist .distribute (List.replicate 7 exZero))).flags.additional = true := by
  refine ⟨by decide +kernel, distribute_v1_completes_partial_calls id ex8 12 ex8_cov
    (by decide +kernel) (by decide +kernel)
    (List.replicate 7 exZero) ?_ ?_ (by decide)⟩
  · exact ⟨by decide, by decide, by decide, by decide, by decide, by decide, by decide, trivial⟩
  · intro e he
    rw [List.eq_of_mem_replicate he]
    exact ⟨⟨rfl, rfl⟩, us2_DrawsOK_zero id exZero rfl rfl⟩

end ExV1

section ExG1
open LP.Props.C01reachG1

theorem w7_reach : g1_ReachA id wArgs w7 11 :=
  g1_callOk _ _ (g1_callOk _ _ w5_reach (by decide) (Or.inl rfl) trivial w6_ok)
    (by decide) (Or.inl rfl) trivial w7_ok

/-- guarV1: `w7` (lottery complete, distribution not started) -/
example : us2_V1Cov id w7 11 ∧ w7.flags.selected = true ∧ w7.flags.additional = false ∧
    w7.cfg.sel ≤ 12 ∧ w7.whitelist ≠ [] :=
  ⟨.guarV1 (g1_Reach_iff.mpr ⟨_, w7_reach⟩), by decide +kernel⟩

end ExG1

section ExNG
open LP.Props.C14reachG

/-- nftGuar: `g11` (lottery complete, nothing saved: guaranteed phase) and `g14` (the generator of
    the NFT draw saved: NFT phase) -/
example : ng_Reach id g11 12 ∧ g11.flags.selected = true ∧ g11.flags.additional = false ∧
    (∀ rg, g11.op ≠ .additional (.nft rg)) ∧ g11.cfg.sel ≤ 13 ∧ g11.whitelist.length = 2 :=
  ⟨ng_Reach_iff.mpr ⟨_, g11_reach⟩, by decide +kernel, by decide +kernel,
    fun rg h => (by
      have h0 : g11.op = .none := by decide +kernel
      rw [h0] at h; cases h), by decide +kernel⟩

example : ng_Reach id g14 14 ∧ (∃ rg, g14.op = .additional (.nft rg)) ∧ g14.cfg.sel ≤ 14 ∧
    g15.flags.additional = true :=
  ⟨ng_Reach_iff.mpr ⟨_, g14_reach⟩, ⟨⟨List.replicate 32 0, 4⟩, by decide +kernel⟩,
    by decide +kernel⟩

end ExNG

end LP.Props.C04unstuck2

#print axioms LP.Props.C04unstuck2.distribute_v2_never_stuck
#print axioms LP.Props.C04unstuck2.distribute_v2_completes
#print axioms LP.Props.C04unstuck2.distribute_v2_completes_within
#print axioms LP.Props.C04unstuck2.distribute_v1_accepted_iff
#print axioms LP.Props.C04unstuck2.distribute_v1_spin_means_redraws
#print axioms LP.Props.C04unstuck2.distribute_v1_outcome
#print axioms LP.Props.C04unstuck2.distribute_v1_guaranteed_phase_progress
#print axioms LP.Props.C04unstuck2.distribute_v1_leftover_phase_progress
#print axioms LP.Props.C04unstuck2.distribute_v1_completes_partial
#print axioms LP.Props.C04unstuck2.distribute_v1_completes_partial_calls
#print axioms LP.Props.C04unstuck2.secondary_accepted_iff
#print axioms LP.Props.C04unstuck2.secondary_outcome
#print axioms LP.Props.C04unstuck2.secondary_nft_phase_never_stuck
#print axioms LP.Props.C04unstuck2.secondary_nft_phase_completes
#print axioms LP.Props.C04unstuck2.all_steps_complete_plain
#print axioms LP.Props.C04unstuck2.all_steps_complete_nft
#print axioms LP.Props.C04unstuck2.all_steps_complete_guarV2
#print axioms LP.Props.C04unstuck2.ex8_cov
#print axioms LP.Props.C04unstuck2.ex10_cov
#print axioms LP.Props.C04unstuck2.w7_reach
