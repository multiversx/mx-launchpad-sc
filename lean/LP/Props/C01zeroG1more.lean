import LP.Proofs.ZeroAllocG1Later
import LP.Props.C01zeroG1full
import LP.Proofs.VestFam
/-
  The other headline theorems of LP/Props/C01reachG1.lean (`Variant.guarV1`) for `g1_ReachFull` /
  `g1_ReachFullA` (LP/Proofs/ZeroAllocG1.lean, ZeroAllocG1Full.lean): any accepted call, in
  particular `addTicketsV1` with entries `(a, 0, 0, m)` for either `m` (`m = true`: a ghost
  guarantee, LP/Props/C01zeroG1full.lean).  With C01zeroG1full.lean every theorem of
  C01reachG1.lean has a counterpart for `g1_ReachFull`, except `all_settled_nothing_left_guarV1` and
  `lp_exact_unsettled_guarV1`, which are not stated; `three_counts_guarV1_full` is weaker in its last clause.

  Each `…_full` has the statement of its counterpart with `g1_Reach` / `g1_ReachA` / `g1_Later`
  replaced by `g1_ReachFull` / `g1_ReachFullA` / `g1_LaterFull` (`g1_Later` without the premise
  `v1_CallOK`, LP/Proofs/ZeroAllocG1Later.lean).  Only `vesting_path_independent_guarV1_full` has
  an extra hypothesis, `EnvOK e` for the final claim, which is replayed through the simulation as
  in `claim_releases_exactly_guarV1_full`.

  Every proof goes through `zh_Inv` (`zh_sim`) and either the `g1_WF`-level lemma applied to the
  erased state or `zi_done_frame`, whose hypotheses hold on the REAL state; the vesting sentences
  along histories are those of `VestFam` for the family `vestFam_full`.
-/
namespace LP.Props.C01zeroG1more
open LP LP.FY LP.Props.C01reach LP.Props.C01reachG1 LP.Props.C01zeroG1 LP.Props.C01zeroG1full

theorem later_is_laterFull (hash : List Nat → List Nat) (s : State) (r : Nat) (s2 : State) (r2 : Nat)
    (hl : g1_Later hash s r s2 r2) : g1_LaterFull hash s r s2 r2 := hl.toFull

/-! ### proceeds, whitelist -/

/-- after completion the recorded proceeds and the price are frozen until the owner withdraws
    (statement of `proceeds_until_withdrawal_guarV1`) -/
theorem proceeds_until_withdrawal_guarV1_full (hash : List Nat → List Nat)
    (s : State) (r : Nat) (h : g1_ReachFull hash s r) (hd : AllDone s) (e : Env) (c : Call)
    (s' : State) (o : Out) (hr : r ≤ e.round) (hs : step hash s e c = .ok (s', o)) :
    s'.price = s.price ∧ AllDone s' ∧
    (s'.claimablePayment = s.claimablePayment ∨ (c = .claimPayment ∧ s'.claimablePayment = 0)) := by
  obtain ⟨a0, h⟩ := g1_ReachFull_iff.mp h
  have hi := zh_sim h
  obtain ⟨hvar, htok, htl⟩ := zi_static hi
  obtain ⟨hst, hfil⟩ := zi_done_facts hi hd
  obtain ⟨hc1, hc2⟩ := htl hst
  obtain ⟨h1, h2, h3, _⟩ := zi_done_frame hvar htok hc1 hc2 hfil hr hd hs
  exact ⟨h1, hd.of_flags h2, h3⟩

/-- an accepted `distribute` call that does not complete keeps the ledger equation of the selection
    phase (statement of `interrupted_distribute_keeps_pre_guarV1`) -/
theorem interrupted_distribute_keeps_pre_guarV1_full (hash : List Nat → List Nat)
    (s : State) (r : Nat) (h : g1_ReachFull hash s r) (e : Env) (s' : State) (o : Out)
    (hr : r ≤ e.round) (hok : EnvOK e)
    (hs : step hash s e .distribute = .ok (s', o)) (hnd : ¬ AllDone s') :
    ∃ L : List Nat, Covers s' L ∧ PayEqPre s' L := by
  have h' : g1_ReachFull hash s' e.round := .call s r e .distribute s' o h hr hok hs
  obtain ⟨L, h1, h2, _⟩ := C01_solvent_guarV1_full hash s' e.round h'
  exact ⟨L, h1, h2 hnd⟩

/-- until the first `distribute` call is accepted the whitelist is exactly the set of holders of a
    positive guarantee — ghost guarantees `{c := 0, d := 1}` of empty-range addresses included
    (statement of `whitelisted_iff_guarV1`) -/
theorem whitelisted_iff_guarV1_full (hash : List Nat → List Nat) (s : State)
    (r : Nat) (h : g1_ReachFull hash s r) (hna : s.flags.additional = false)
    (hop : s.flags.selected = true → s.op = .none) (u : Nat) :
    u ∈ s.whitelist ↔ ∃ st, s.uts u = some st ∧ st.c + st.d > 0 := by
  obtain ⟨a0, h⟩ := g1_ReachFull_iff.mp h
  rcases zh_sim h with hp | ⟨_, z, hz, hsim⟩
  · exact hp.gx.whitelist_iff (by rw [(zh_PA_flags hp).2.2.2]; rfl) u
  · obtain ⟨_, hfl, _, _, _, hop', _, _, hwl, _⟩ := hsim.fields
    have key := v1_phase_whitelist_intact hz.phase (by rw [hfl]; exact hna) (by rw [hfl, hop']; exact hop) u
    rw [hwl] at key
    rw [key]
    -- a record that `z` does not have carries no guarantee
    rcases hsim.uts u with h0 | ⟨h0, st, h1, h2, h3⟩
    · rw [h0]
    · constructor
      · rintro ⟨st', k1, _⟩
        rw [h0] at k1; cases k1
      · rintro ⟨st', k1, k2⟩
        rw [h1] at k1
        injection k1 with k1
        subst k1
        omega

/-! ### the launchpad-token ledger with vesting -/

/-- **the owner's withdrawal** (statement of `owner_withdrawal_guarV1`): an accepted `claimPayment`
    pays the recorded proceeds and exactly `ownSurplus` launchpad tokens, clears both records, and
    leaves exactly the unsettled winners' tokens plus everything still owed to the settled -/
theorem owner_withdrawal_guarV1_full (hash : List Nat → List Nat) (s : State) (r : Nat)
    (h : g1_ReachFull hash s r) (e : Env) (s' : State) (o : Out) (hr : r ≤ e.round) (hok : EnvOK e)
    (hs : step hash s e .claimPayment = .ok (s', o)) :
    AllDone s ∧ s'.claimablePayment = 0 ∧ s'.totalDeposited = 0 ∧ s'.nrWinning = s.nrWinning ∧
    s'.bal (.esdt s.lpTok) 0 + ownSurplus s = s.bal (.esdt s.lpTok) 0 ∧
    s'.bal s.payTok 0 + s.claimablePayment = s.bal s.payTok 0 ∧
    ∃ L : List Nat, L.Nodup ∧ (∀ a, a ∉ L → s'.userTotal a = 0 ∧ s'.userClaimed a = 0) ∧
      s'.bal (.esdt s'.lpTok) 0 = s'.perTicket * s'.nrWinning
        + sumOver (fun a => s'.userTotal a - s'.userClaimed a) L := by
  have h' : g1_ReachFull hash s' e.round := .call s r e .claimPayment s' o h hr hok hs
  obtain ⟨T0, hi⟩ := h.inv
  obtain ⟨hvar, htok, _⟩ := zi_static hi
  obtain ⟨hd, e1, e2, e3, e4, e5, hd', hsur⟩ := claimPayment_vested (g1_flags hvar).1 htok hs
  obtain ⟨L, k1, k2, k3⟩ := lp_exact_guarV1_full hash s' e.round h' hd'
  rw [hsur, Nat.zero_add] at k3
  exact ⟨hd, e1, e2, e3, e4, e5, L, k1, k2, k3⟩

/-! ### vesting: the states of `g1_ReachFull` are a family with vesting -/

theorem vestFam_full_v1 (hash : List Nat → List Nat) {s : State} {r : Nat}
    (h : g1_ReachFull hash s r) : s.variant.isV2 = false := by
  obtain ⟨T0, hi⟩ := h.inv
  rw [(zi_static hi).1]; rfl

theorem vestFam_full (hash : List Nat → List Nat) :
    VestFam hash (be_OK fun _ => True) EnvOK (g1_ReachFull hash) := by
  have hvar := @vestFam_full_v1 hash
  refine ⟨fun h hl => ?_, fun h => h.1, fun h => ?_, fun h hr hok hs => ?_⟩
  · obtain ⟨a0, hA⟩ := g1_ReachFull_iff.mp h
    exact g1_ReachFull_iff.mpr ⟨a0, (g1_LaterFull.reach hA (g1_laterFull_iff.mpr hl)).1⟩
  · obtain ⟨k1, _, k3⟩ := released_exact_guarV1_full hash _ _ h
    obtain ⟨k4, k5⟩ := unsettled_no_record_guarV1_full hash _ _ h
    exact ⟨fun a => (k1 a).imp id fun ⟨r', hr', h0⟩ => ⟨r', hr', by rw [pctOf_v1 (hvar h)]; exact h0⟩,
      fun now => by rw [pctOf_v1 (hvar h)]; exact k3 now, k4, k5⟩
  · obtain ⟨_, j2, j3, _, _, j6, j7, j8, j9⟩ :=
      claim_releases_exactly_guarV1_full hash _ _ h _ _ _ hr hok hs
    have hcl := (LP.Props.C09.step_claimed_exact hash _ _ .claim _ _ hs).2 rfl
    exact ⟨by rw [pctOf_v1 (hvar h)]; exact j2, j3, j6,
      fun a ha => ⟨(j7 a ha).1, (j7 a ha).2, by rw [hcl, upd_other _ _ _ _ ha]⟩,
      by rw [hcl, upd_same], j8, j9⟩

/-- **path independence of vesting** (statement of `vesting_path_independent_guarV1`, plus
    `EnvOK e`): let `a` have settled in a reachable state `s` in which the confirmation period has
    started and a schedule `sc` is stored.  Whatever happens afterwards, after an accepted claim of
    `a` at round `e.round` his cumulative received amount is EXACTLY
    `userTotal a × unlockedPct1 e.round sc / 10000` for the entitlement fixed at his settlement (for
    a former ghost: `0`). -/
theorem vesting_path_independent_guarV1_full (hash : List Nat → List Nat) (s : State) (r : Nat)
    (h : g1_ReachFull hash s r) (sc : Sched1) (hconf : s.cfg.conf ≤ r) (hsc : s.sched1 = some sc)
    (e : Env) (hcl : s.claimed e.caller = true)
    (s1 : State) (r1 : Nat) (hl : g1_LaterFull hash s r s1 r1)
    (s2 : State) (o : Out) (hr : r1 ≤ e.round) (hok : EnvOK e)
    (hs : step hash s1 e .claim = .ok (s2, o)) :
    s2.userTotal e.caller = s.userTotal e.caller ∧ s2.sched1 = some sc ∧
    s2.userClaimed e.caller = entitled (s.userTotal e.caller) (unlockedPct1 e.round sc) ∧
    s.userClaimed e.caller ≤ s2.userClaimed e.caller ∧
    s2.userClaimed e.caller ≤ s.userTotal e.caller ∧
    ((sc.start + sc.times * sc.period ≤ e.round ∨ (sc.initial = 10000 ∧ sc.start ≤ e.round)) →
      s2.userClaimed e.caller = s.userTotal e.caller) :=
  (vestFam_full hash).path_independent_v1 (vestFam_full_v1 hash)
    (fun h => (released_exact_guarV1_full hash _ _ h).2.1) h hconf hsc hcl (g1_laterFull_iff.mp hl)
    hr hok hs

/-- the same at EVERY later state, not only after a claim of `a` (statement of
    `later_amount_guarV1`) -/
theorem later_amount_guarV1_full (hash : List Nat → List Nat) (s : State) (r : Nat)
    (h : g1_ReachFull hash s r) (sc : Sched1) (hconf : s.cfg.conf ≤ r) (hsc : s.sched1 = some sc)
    (a : Nat) (hcl : s.claimed a = true) (s2 : State) (r2 : Nat)
    (hl : g1_LaterFull hash s r s2 r2) :
    s2.userTotal a = s.userTotal a ∧ s2.sched1 = some sc ∧
    s.userClaimed a ≤ s2.userClaimed a ∧ s2.userClaimed a ≤ s.userTotal a ∧
    (s2.userClaimed a = 0 ∨
      ∃ r', r' ≤ r2 ∧ s2.userClaimed a = entitled (s.userTotal a) (unlockedPct1 r' sc)) :=
  (vestFam_full hash).later_amount_v1 (vestFam_full_v1 hash) h hconf hsc hcl
    (g1_laterFull_iff.mp hl)

/-- **nothing is left** (statement of `lp_nothing_left_guarV1`): once every participant has settled
    and claimed everything and the owner has withdrawn, the contract holds no launchpad tokens -/
theorem lp_nothing_left_guarV1_full (hash : List Nat → List Nat) (s : State) (r : Nat)
    (h : g1_ReachFull hash s r) (hd : AllDone s) (hall : ∀ a, s.range a = none)
    (hclaimed : ∀ a, s.userClaimed a = s.userTotal a) (hown : s.totalDeposited = 0) :
    s.bal (.esdt s.lpTok) 0 = 0 := by
  obtain ⟨L', _, _, hwin, _, _⟩ := three_counts_guarV1_full hash s r h hd
  obtain ⟨L, _, _, heq⟩ := lp_exact_guarV1_full hash s r h hd
  exact LP.Props.AllVariants.lp_nothing_left_of_exact
    (LP.Props.AllVariants.nrWinning_zero_of_counts hwin hall) heq hclaimed hown

/-- **the deposit** (statement of `deposit_is_perTicket_times_T0_guarV1`): a deposit accepted before
    the filter has completed is exactly `perTicket × (nrWinning + totalGuaranteed) = perTicket × T0`
    launchpad tokens — the ghost guarantees are part of the reserve -/
theorem deposit_is_perTicket_times_T0_guarV1_full (hash : List Nat → List Nat)
    (a0 : InitArgs) (s : State) (r : Nat) (h : g1_ReachFullA hash a0 s r) (e : Env) (s' : State)
    (o : Out) (hf : s.flags.filtered = false) (hs : step hash s e .deposit = .ok (s', o)) :
    s'.totalDeposited = s.perTicket * a0.nrWinning ∧ s'.deposited = true ∧
    singleFungible e = .ok (.esdt s.lpTok, s.perTicket * a0.nrWinning) := by
  have hinv := zh_sim h
  have hres := (zh_Inv_reserve hinv).1 hf
  have hmax : LP.Props.C02.maxWinners s = a0.nrWinning := by
    unfold LP.Props.C02.maxWinners reservedForDeposit
    rw [(g1_flags (zh_Inv_var hinv)).2.2.2.2.1]
    exact hres
  obtain ⟨hs', _, _⟩ := LP.Props.C02.deposit_effect hash s s' e o hs
  have hacc := ((LP.Props.C02.deposit_accepted_iff hash s e).mp ⟨_, hs⟩).2.2
  rw [hmax] at hacc
  refine ⟨?_, ?_, hacc⟩
  · rw [hs', hmax]
  · rw [hs']

/-! ### the unlock schedule -/

/-- **the schedule is frozen once the confirmation period has started** (statement of
    `schedule_frozen_guarV1`); `s` need not be reachable -/
theorem schedule_frozen_guarV1_full (hash : List Nat → List Nat) (s : State) (r : Nat) (sc : Sched1)
    (hconf : s.cfg.conf ≤ r) (hsc : s.sched1 = some sc) (s2 : State) (r2 : Nat)
    (hl : g1_LaterFull hash s r s2 r2) : s2.sched1 = some sc ∧ s2.cfg.conf = s.cfg.conf :=
  have f := be_later_sched_frozen hconf (g1_laterFull_iff.mp hl)
  ⟨f.2.1 sc hsc, f.2.2.1⟩

/-- an accepted `setSchedule1` finds `userClaimed = 0` for everybody and stores a valid schedule
    (statement of `setSchedule1_only_before_release_guarV1`) -/
theorem setSchedule1_only_before_release_guarV1_full (hash : List Nat → List Nat) (s : State)
    (r : Nat) (h : g1_ReachFull hash s r) (e : Env) (a b c d f : Nat) (s' : State) (o : Out)
    (hr : r ≤ e.round)
    (hs : step hash s e (.setSchedule1 a b c d f) = .ok (s', o)) :
    (∀ u, s.userClaimed u = 0) ∧ s'.sched1 = some ⟨a, b, c, d, f⟩ ∧
    validSched1 ⟨a, b, c, d, f⟩ := by
  obtain ⟨T0, hi⟩ := h.inv
  refine g1_setSchedule1_effect hr (fun hq => ((zi_static hi).2.2 hq).1) (fun hns u => ?_)
    (zh_Inv_exact hi).1 hs
  rcases hi with hpa | ⟨hst, _⟩
  · exact (zh_PA_fresh hpa u).2.1
  · rw [hns] at hst; cases hst

/-! ### non-vacuity: the launch with a ghost guarantee `m1`, `n2 … n9` of C01zeroG1full.lean, continued

  (`T0 = 2`, `perTicket = 20`, `price = 10`; 6 is the ghost, 7 holds both winning tickets; schedule
  "25 % at round 16, then 3 × 25 % every 10 rounds".)  `q10`: 7 claims at round 26 (50 % of 40);
  `q11`: the owner withdraws; `q12`: 7 claims at round 50 (everything).  `d7`: the `distribute`
  call on `n6` with budget `0`, an interruption. -/

def q10 : State := stOf (step id n9 { caller := 7, round := 26 } .claim) n9
def q11 : State := stOf (step id q10 { caller := 1, round := 27 } .claimPayment) q10
def q12 : State := stOf (step id q11 { caller := 7, round := 50 } .claim) q11
def d7 : State := stOf (step id n6 { caller := 9, round := 12, budget := some 0 } .distribute) n6

theorem q10_ok : isOk (step id n9 { caller := 7, round := 26 } .claim) = true := by decide +kernel
theorem q11_ok : isOk (step id q10 { caller := 1, round := 27 } .claimPayment) = true := by decide +kernel
theorem q12_ok : isOk (step id q11 { caller := 7, round := 50 } .claim) = true := by decide +kernel

theorem q10_reachFullA : g1_ReachFullA id wArgs q10 26 :=
  g1F_callOk _ _ n9_reachFullA (by decide) (Or.inl rfl) q10_ok

theorem q11_reachFullA : g1_ReachFullA id wArgs q11 27 :=
  g1F_callOk _ _ q10_reachFullA (by decide) (Or.inl rfl) q11_ok

theorem q12_reachFullA : g1_ReachFullA id wArgs q12 50 :=
  g1F_callOk _ _ q11_reachFullA (by decide) (Or.inl rfl) q12_ok

theorem full_of_A {s : State} {r : Nat} (h : g1_ReachFullA id wArgs s r) : g1_ReachFull id s r :=
  g1_ReachFull_iff.mpr ⟨wArgs, h⟩

theorem lF_callOk {hash : List Nat → List Nat} {s0 : State} {r0 : Nat} {s : State} {r : Nat}
    (e : Env) (c : Call)
    (h : g1_LaterFull hash s0 r0 s r) (hr : r ≤ e.round) (hok : EnvOK e)
    (hs : isOk (step hash s e c) = true) :
    g1_LaterFull hash s0 r0 (stOf (step hash s e c) s) e.round :=
  let ⟨o, ho⟩ := stOf_spec hs s
  .call s r e c _ o h hr hok ho

example : q10.userTotal 7 = 40 ∧ q10.userClaimed 7 = 20 ∧ q10.claimablePayment = 20 ∧
    q11.claimablePayment = 0 ∧ q11.totalDeposited = 0 ∧ q11.bal (.esdt 1) 0 = 20 ∧
    q12.userClaimed 7 = 40 ∧ q12.bal (.esdt 1) 0 = 0 ∧ q12.bal .egld 0 = 0 := by
  decide +kernel

/-- `m1`: the ghost 6 is whitelisted; 8 (no record) is not -/
example : 6 ∈ m1.whitelist ∧ 8 ∉ m1.whitelist := by
  have hw := whitelisted_iff_guarV1_full id m1 1 (full_of_A m1_reachFullA) (by decide +kernel)
    (fun hh => absurd hh (by decide +kernel))
  refine ⟨(hw 6).2 ⟨{ a := 0, b := 0, c := 0, d := 1 }, by decide +kernel⟩, fun h8 => ?_⟩
  obtain ⟨st, h1, _⟩ := (hw 8).1 h8
  have h2 : m1.uts 8 = none := by decide +kernel
  rw [h2] at h1; cases h1

example : n2.sched1 = some wSched ∧ validSched1 wSched := by
  exact (setSchedule1_only_before_release_guarV1_full id m1 1 (full_of_A m1_reachFullA)
    { caller := 1, round := 1 } 16 2500 3 2500 10 n2 _ (by decide) (step_ok_of_isOk m1 n2_ok)).2

/-- `n2 → n3`: the deposit is `20 × 2`, the ghost's reserve ticket included -/
example : n3.totalDeposited = n2.perTicket * wArgs.nrWinning ∧ n2.nrWinning = 0 := by
  exact ⟨(deposit_is_perTicket_times_T0_guarV1_full id wArgs n2 1 n2_reachFullA _ n3 _ (by decide +kernel)
    (step_ok_of_isOk n2 n3_ok)).1, by decide +kernel⟩

example : ¬ AllDone d7 ∧ ∃ L : List Nat, Covers d7 L ∧ PayEqPre d7 L := by
  have hs : step id n6 { caller := 9, round := 12, budget := some 0 } .distribute
      = .ok (d7, outOf (step id n6 { caller := 9, round := 12, budget := some 0 } .distribute)) :=
    step_ok_of_isOk n6 (by decide +kernel)
  have hnd : ¬ AllDone d7 := fun hd => absurd hd.2 (by decide +kernel)
  exact ⟨hnd, interrupted_distribute_keeps_pre_guarV1_full id n6 11 (full_of_A n6_reachFullA) _ d7 _
    (by decide +kernel) (Or.inl rfl) hs hnd⟩

/-- `n9 → q10` (a claim) and `q10 → q11` (the withdrawal) -/
example : q10.claimablePayment = n9.claimablePayment ∧ AllDone q10 ∧
    q11.claimablePayment = 0 ∧ q11.totalDeposited = 0 ∧
    q11.bal (.esdt q10.lpTok) 0 + ownSurplus q10 = q10.bal (.esdt q10.lpTok) 0 ∧
    q11.bal q10.payTok 0 + q10.claimablePayment = q10.bal q10.payTok 0 := by
  obtain ⟨_, h2, h3⟩ := proceeds_until_withdrawal_guarV1_full id n9 17 (full_of_A n9_reachFullA)
    (by unfold AllDone; decide +kernel) _ _ q10 _ (by decide) (step_ok_of_isOk n9 q10_ok)
  obtain ⟨_, k2, k3, _, k5, k6, _⟩ := owner_withdrawal_guarV1_full id q10 26 (full_of_A q10_reachFullA)
    _ q11 _ (by decide) (Or.inl rfl) (step_ok_of_isOk q10 q11_ok)
  refine ⟨?_, h2, k2, k3, k5, k6⟩
  rcases h3 with h3 | ⟨h3, _⟩
  · exact h3
  · cases h3

/-- from `q10` (7 has settled), after the owner's withdrawal, the claim at round 50
    (`start + 3 × 10 = 46 ≤ 50`) releases everything; from `n4` (the confirmation period has just
    started) to `q12`, eight accepted calls later, the schedule is the same -/
example : q12.userClaimed 7 = q10.userTotal 7 ∧ q12.sched1 = some wSched ∧
    q12.cfg.conf = n4.cfg.conf := by
  have hl : g1_LaterFull id q10 26 q11 27 := lF_callOk _ _ .refl (by decide) (Or.inl rfl) q11_ok
  have h := vesting_path_independent_guarV1_full id q10 26 (full_of_A q10_reachFullA) wSched
    (by decide +kernel) (by decide +kernel) { caller := 7, round := 50 } (by decide +kernel) q11 27 hl q12 _ (by decide)
    (Or.inl rfl) (step_ok_of_isOk q11 q12_ok)
  have hc : ({ caller := 7, round := 50 } : Env).caller = 7 := rfl
  rw [hc] at h
  have hl4 : g1_LaterFull id n4 5 q12 50 :=
    lF_callOk _ _
      (lF_callOk _ _
        (lF_callOk _ _
          (lF_callOk _ _
            (lF_callOk _ _
              (lF_callOk _ _
                (lF_callOk _ _
                  (lF_callOk _ _ .refl (by decide) (Or.inl rfl) n5_ok)
                  (by decide) (Or.inl rfl) n6_ok)
                (by decide) (Or.inl rfl) n7_ok)
              (by decide) (Or.inl rfl) n8_ok)
            (by decide) (Or.inl rfl) n9_ok)
          (by decide) (Or.inl rfl) q10_ok)
        (by decide) (Or.inl rfl) q11_ok)
      (by decide) (Or.inl rfl) q12_ok
  have hf := schedule_frozen_guarV1_full id n4 5 wSched (by decide +kernel) (by decide +kernel) q12 50 hl4
  exact ⟨h.2.2.2.2.2 (Or.inl (by decide +kernel)), h.2.1, hf.2⟩

/-- the former ghost 6 (settled in `n8` with entitlement `0`): four accepted calls later its
    entitlement and booked amount are still `0` -/
example : q12.userTotal 6 = n8.userTotal 6 ∧ q12.userClaimed 6 ≤ n8.userTotal 6 ∧ n8.userTotal 6 = 0 := by
  have hl : g1_LaterFull id n8 16 q12 50 :=
    lF_callOk _ _
      (lF_callOk _ _
        (lF_callOk _ _ (lF_callOk _ _ .refl (by decide) (Or.inl rfl) n9_ok)
          (by decide) (Or.inl rfl) q10_ok)
        (by decide) (Or.inl rfl) q11_ok)
      (by decide) (Or.inl rfl) q12_ok
  have h := later_amount_guarV1_full id n8 16 (full_of_A n8_reachFullA) wSched (by decide +kernel) (by decide +kernel)
    6 (by decide +kernel) q12 50 hl
  exact ⟨h.1, h.2.2.2.1, by decide +kernel⟩

/-- the hypotheses of `lp_nothing_left_guarV1_full` in `q12`, for the two participants 6 and 7 only -/
example : AllDone q12 ∧ q12.range 6 = none ∧ q12.range 7 = none ∧
    q12.userClaimed 6 = q12.userTotal 6 ∧ q12.userClaimed 7 = q12.userTotal 7 ∧
    q12.totalDeposited = 0 ∧ q12.bal (.esdt q12.lpTok) 0 = 0 := by
  unfold AllDone; decide +kernel

end LP.Props.C01zeroG1more

#print axioms LP.Props.C01zeroG1more.later_is_laterFull
#print axioms LP.Props.C01zeroG1more.proceeds_until_withdrawal_guarV1_full
#print axioms LP.Props.C01zeroG1more.interrupted_distribute_keeps_pre_guarV1_full
#print axioms LP.Props.C01zeroG1more.whitelisted_iff_guarV1_full
#print axioms LP.Props.C01zeroG1more.owner_withdrawal_guarV1_full
#print axioms LP.Props.C01zeroG1more.vesting_path_independent_guarV1_full
#print axioms LP.Props.C01zeroG1more.later_amount_guarV1_full
#print axioms LP.Props.C01zeroG1more.lp_nothing_left_guarV1_full
#print axioms LP.Props.C01zeroG1more.deposit_is_perTicket_times_T0_guarV1_full
#print axioms LP.Props.C01zeroG1more.schedule_frozen_guarV1_full
#print axioms LP.Props.C01zeroG1more.setSchedule1_only_before_release_guarV1_full
#print axioms LP.Props.C01zeroG1more.q10_reachFullA
#print axioms LP.Props.C01zeroG1more.q11_reachFullA
#print axioms LP.Props.C01zeroG1more.q12_reachFullA
#print axioms LP.Props.C01zeroG1more.full_of_A
#print axioms LP.Props.C01zeroG1more.lF_callOk
