import LP.Proofs.ReachPlain
import LP.Proofs.Frame
import LP.Proofs.ReachOf
import LP.Proofs.ReachOfLp
/-
  C01 on reachable states — ticket-payment solvency of the plain launchpad, `Variant.base` and
  `Variant.locked` (`Plain v`); the locked variant differs only in how launchpad tokens are sent at
  claim.

  `Reach hash v s r` (LP/Proofs/ReachPlain.lean): `s` is reached by the launchpad `v` from some
  deployment by accepted transactions with non-decreasing rounds, `r` = round of the latest one, or
  later (`wait`); `ReachA hash v a0 s r` fixes the deployment arguments `a0`.  Every transaction
  carries EGLD or ESDT, not both (`EnvOK`), and every entry of an `addTickets` call allocates at
  least one ticket (`CallOK`: a zero-size entry creates the empty range `[f, f-1]` and a batch slot
  that the next allocation overwrites; histories with such entries: LP/Props/C01zero.lean).
-/
namespace LP.Props.C01reach
open LP LP.FY LP.Props.AllVariants

/-- **C01 for every plain launchpad**: in every reachable state the contract holds, in the
    ticket-payment token, exactly the full payment of every confirmed ticket until the lottery is
    complete, and afterwards exactly the owner's not-yet-withdrawn proceeds plus
    `price × (confirmed − winning)` for every participant who has not settled. -/
theorem C01_solvent (hash : List Nat → List Nat) (v : Variant) (hv : Plain v) (s : State) (r : Nat)
    (h : Reach hash v s r) :
    ∃ L : List Nat, Covers s L ∧ (¬ AllDone s → PayEqPre s L) ∧ (AllDone s → PayEqPost s L) :=
  (ReachOf.of_plain hv h).solvent (nftFees_noNft (rb_plain_flags hv).2.1)

theorem C01_solvent_base (hash : List Nat → List Nat) (s : State) (r : Nat)
    (h : Reach hash .base s r) :
    ∃ L : List Nat, Covers s L ∧ (¬ AllDone s → PayEqPre s L) ∧ (AllDone s → PayEqPost s L) :=
  C01_solvent hash .base (Or.inl rfl) s r h

theorem C01_solvent_locked (hash : List Nat → List Nat) (s : State) (r : Nat)
    (h : Reach hash .locked s r) :
    ∃ L : List Nat, Covers s L ∧ (¬ AllDone s → PayEqPre s L) ∧ (AllDone s → PayEqPost s L) :=
  C01_solvent hash .locked (Or.inr rfl) s r h

/-! ### claims and the owner's withdrawal never fail for lack of payment tokens -/

/-- after completion the holdings cover the recorded proceeds of the owner plus the refund
    `price × (confirmed − winning)` of any participant who still has a range -/
theorem claim_refund_covered (hash : List Nat → List Nat) (v : Variant) (hv : Plain v) (s : State)
    (r : Nat) (h : Reach hash v s r) (hd : AllDone s) (a : Nat) (rg : Range)
    (hr : s.range a = some rg) :
    s.claimablePayment + s.price * (s.confirmed a - winCountOf s a) ≤ s.bal s.payTok 0 :=
  (ReachOf.of_plain hv h).refund_covered hd hr (nftFees_noNft (rb_plain_flags hv).2.1)

theorem owner_withdrawal_covered (hash : List Nat → List Nat) (v : Variant) (hv : Plain v) (s : State)
    (r : Nat) (h : Reach hash v s r) (hd : AllDone s) :
    s.claimablePayment ≤ s.bal s.payTok 0 :=
  (ReachOf.of_plain hv h).proceeds_le hd (nftFees_noNft (rb_plain_flags hv).2.1)

/-- the refund transfer of a claim succeeds: `Tx.refund` of `confirmed − winning` tickets is
    accepted on any transaction record whose price, payment token and payment-token balance are
    those of the reachable state (`settle`, which runs before it in `claim`, touches none of them) -/
theorem claim_refund_succeeds (hash : List Nat → List Nat) (v : Variant) (hv : Plain v) (s : State)
    (r : Nat) (h : Reach hash v s r) (hd : AllDone s) (e : Env) (rg : Range)
    (hr : s.range e.caller = some rg) (t : Tx) (hp : t.s.price = s.price)
    (htok : t.s.payTok = s.payTok) (hb : t.s.bal s.payTok 0 = s.bal s.payTok 0) :
    ∃ t', t.refund e e.caller (s.confirmed e.caller - winCountOf s e.caller) = .ok t' := by
  have hc := claim_refund_covered hash v hv s r h hd e.caller rg hr
  unfold Tx.refund
  split
  · exact ⟨t, rfl⟩
  · simp only [Tx.send, hp, htok, hb]
    rw [if_neg (by omega)]
    exact ⟨_, rfl⟩

/-- once every participant has settled and the owner has withdrawn, the contract holds no
    payment tokens -/
theorem all_settled_nothing_left (hash : List Nat → List Nat) (v : Variant) (hv : Plain v) (s : State)
    (r : Nat) (h : Reach hash v s r) (hd : AllDone s) (hall : ∀ a, s.range a = none)
    (hcp : s.claimablePayment = 0) : s.bal s.payTok 0 = 0 :=
  (ReachOf.of_plain hv h).nothing_left hd hall hcp (nftFees_noNft (rb_plain_flags hv).2.1)

/-- after completion the winning tickets still held by the participants add up to `nrWinning`;
    nobody holds more winning than confirmed tickets; a range has exactly `confirmed` tickets -/
theorem three_counts (hash : List Nat → List Nat) (v : Variant) (hv : Plain v) (s : State) (r : Nat)
    (h : Reach hash v s r) (hd : AllDone s) :
    ∃ L : List Nat, Covers s L ∧ PayEqPost s L ∧ sumOver (winCountOf s) L = s.nrWinning ∧
      (∀ a, winCountOf s a ≤ s.confirmed a) ∧
      (∀ a rg, s.range a = some rg → a ∈ L ∧ rangeLen rg = s.confirmed a) :=
  (ReachOf.of_plain hv h).three_counts hd (nftFees_noNft (rb_plain_flags hv).2.1)

/-- **C03** at the call that sets the `selected` flag, for a launchpad deployed with
    `a0.nrWinning` winners: the number of winning flags equals `nrWinning`, which is
    `min (configured winners) (confirmed tickets)`; the owner's proceeds are `price × nrWinning` -/
theorem three_counts_at_completion (hash : List Nat → List Nat) (v : Variant) (hv : Plain v)
    (a0 : InitArgs) (s : State) (r : Nat) (h : ReachA hash v a0 s r) (e : Env) (s' : State) (o : Out)
    (hs : step hash s e .select = .ok (s', o)) (hsel : s'.flags.selected = true) :
    countTrue s'.status s'.lastTicketId = s'.nrWinning ∧
    s'.nrWinning = min a0.nrWinning s'.lastTicketId ∧
    s'.claimablePayment = s'.price * s'.nrWinning ∧
    (∀ t, s'.status t = true → 1 ≤ t ∧ t ≤ s'.lastTicketId) ∧ AllDone s' := by
  have hwf := reach_WF hv h
  obtain ⟨h1, h2, h3, h4⟩ := rb_select_completion hwf hs hsel
  refine ⟨h1, h2, h3, h4, hsel, ?_⟩
  have := (step_flags_gain hs).2 hwf.add
  exact this

theorem winners_before_filter (hash : List Nat → List Nat) (v : Variant) (hv : Plain v)
    (a0 : InitArgs) (s : State) (r : Nat) (h : ReachA hash v a0 s r)
    (hf : s.flags.filtered = false) : s.nrWinning = a0.nrWinning :=
  (ReachOfA.of_plain hv h).lpSide.res_noGuar (rb_plain_flags hv).2.2.2.2 hf

/-- after completion the recorded proceeds and the price are frozen until the owner withdraws -/
theorem proceeds_until_withdrawal (hash : List Nat → List Nat) (v : Variant) (hv : Plain v)
    (s : State) (r : Nat) (h : Reach hash v s r) (hd : AllDone s) (e : Env) (c : Call)
    (s' : State) (o : Out) (hr : r ≤ e.round) (hs : step hash s e c = .ok (s', o)) :
    s'.price = s.price ∧ AllDone s' ∧
    (s'.claimablePayment = s.claimablePayment ∨ (c = .claimPayment ∧ s'.claimablePayment = 0)) :=
  (ReachOf.of_plain hv h).proceeds hd hr hs

/-- `s2` (at round `r2`) is reached from `s` (at round `r`) by waiting and by accepted calls other
    than the owner's withdrawal `claimPayment` -/
inductive Later (hash : List Nat → List Nat) (s : State) (r : Nat) : State → Nat → Prop
  | refl : Later hash s r s r
  | call (s1 : State) (r1 : Nat) (e : Env) (c : Call) (s2 : State) (o : Out) :
      Later hash s r s1 r1 → r1 ≤ e.round → EnvOK e → CallOK c → c ≠ .claimPayment →
      step hash s1 e c = .ok (s2, o) → Later hash s r s2 e.round
  | wait (s1 : State) (r1 r2 : Nat) : Later hash s r s1 r1 → r1 ≤ r2 → Later hash s r s1 r2

theorem later_iff_be {hash : List Nat → List Nat} {s s2 : State} {r r2 : Nat} :
    Later hash s r s2 r2 ↔
      be_Later (fun e c => EnvOK e ∧ CallOK c ∧ c ≠ .claimPayment) hash s r s2 r2 := by
  constructor <;> intro h
  · induction h with
    | refl => exact .refl
    | call s1 r1 e c s2 o _ h1 h2 h3 h4 h5 ih => exact .call s1 r1 e c s2 o ih h1 ⟨h2, h3, h4⟩ h5
    | wait s1 r1 r2 _ h1 ih => exact .wait s1 r1 r2 ih h1
  · induction h with
    | refl => exact .refl
    | call s1 r1 e c s2 o _ h1 h2 h3 ih => exact .call s1 r1 e c s2 o ih h1 h2.1 h2.2.1 h2.2.2 h3
    | wait s1 r1 r2 _ h1 ih => exact .wait s1 r1 r2 ih h1

theorem proceeds_constant (hash : List Nat → List Nat) (v : Variant) (hv : Plain v) (s : State)
    (r : Nat) (h : Reach hash v s r) (hd : AllDone s) (s2 : State) (r2 : Nat)
    (hl : Later hash s r s2 r2) :
    Reach hash v s2 r2 ∧ AllDone s2 ∧ s2.price = s.price ∧
    s2.claimablePayment = s.claimablePayment := by
  rcases hv with rfl | rfl
  · exact ReachOf.proceeds_constant (v := .base) h hd (fun _ _ hp => hp) (later_iff_be.mp hl)
  · exact ReachOf.proceeds_constant (v := .locked) h hd (fun _ _ hp => hp) (later_iff_be.mp hl)

/-- **until the owner has withdrawn, `claimablePayment = price × (winners at completion)`**, `s'`
    being the state in which `selectWinners` completed -/
theorem proceeds_are_price_times_winners (hash : List Nat → List Nat) (v : Variant) (hv : Plain v)
    (a0 : InitArgs) (s : State) (r : Nat) (h : ReachA hash v a0 s r) (e : Env) (s' : State) (o : Out)
    (hr : r ≤ e.round) (hok : EnvOK e)
    (hs : step hash s e .select = .ok (s', o)) (hsel : s'.flags.selected = true)
    (s2 : State) (r2 : Nat) (hl : Later hash s' e.round s2 r2) :
    s2.claimablePayment = s2.price * countTrue s'.status s'.lastTicketId ∧
    countTrue s'.status s'.lastTicketId = min a0.nrWinning s'.lastTicketId := by
  obtain ⟨h1, h2, h3, _, h5⟩ := three_counts_at_completion hash v hv a0 s r h e s' o hs hsel
  have hreach' : Reach hash v s' e.round :=
    Reach_iff.mpr ⟨a0, .call s r e .select s' o h hr hok trivial hs⟩
  obtain ⟨_, _, k3, k4⟩ := proceeds_constant hash v hv s' e.round hreach' h5 s2 r2 hl
  exact ⟨by rw [k4, k3, h3, h1], by rw [h1, h2]⟩

/-! ### non-vacuity: two participants, an interrupted filter call, the lottery, both claims and
  the owner's withdrawal -/

def exArgs : InitArgs :=
  { lpTok := 1, perTicket := 5, payTok := .egld, price := 10, nrWinning := 1, conf := 5, sel := 10, claim := 15 }

def stOf (x : Res (State × Out)) (d : State) : State :=
  match x with
  | .ok (s, _) => s
  | .error _ => d

def isOk {α : Type} (x : Res α) : Bool :=
  match x with
  | .ok _ => true
  | .error _ => false

theorem stOf_spec {x : Res (State × Out)} (h : isOk x = true) (d : State) :
    ∃ o, x = .ok (stOf x d, o) := by
  cases x with
  | error err => cases h
  | ok q => exact ⟨q.2, rfl⟩

theorem Reach.callOk {hash : List Nat → List Nat} {v : Variant} {s : State} {r : Nat} (e : Env) (c : Call)
    (h : Reach hash v s r) (hr : r ≤ e.round) (hok : EnvOK e) (hc : CallOK c)
    (hs : isOk (step hash s e c) = true) : Reach hash v (stOf (step hash s e c) s) e.round :=
  let ⟨o, ho⟩ := stOf_spec hs s
  .call s r e c _ o h hr hok hc ho

def ex0 : State := match init .base exArgs { caller := 1, round := 0 } with
  | .ok s => s
  | .error _ => default

def ex1 : State := stOf (step id ex0 { caller := 1, round := 1 } (.addTickets [(7, 2), (8, 1)])) ex0
def ex2 : State := stOf (step id ex1 { caller := 1, round := 2, esdts := [⟨.esdt 1, 0, 5⟩] } .deposit) ex1
def ex3 : State := stOf (step id ex2 { caller := 7, round := 5, egld := 20 } (.confirm 2)) ex2
def ex4 : State := stOf (step id ex3 { caller := 8, round := 6, egld := 10 } (.confirm 1)) ex3
def ex5 : State := stOf (step id ex4 { caller := 9, round := 10, budget := some 0 } .filter) ex4
def ex6 : State := stOf (step id ex5 { caller := 9, round := 11 } .filter) ex5
def ex7 : State := stOf (step id ex6 { caller := 9, round := 12 } .select) ex6

/-! Every evaluation of a fact about `exK` re-runs the history from `ex0`, so the acceptance of a
  call that several theorems need (here and in the files that continue this history) is checked
  once, under a name; the other test histories do the same. -/
theorem ex1_ok : isOk (step id ex0 { caller := 1, round := 1 } (.addTickets [(7, 2), (8, 1)])) = true := by
  decide +kernel
theorem ex2_ok : isOk (step id ex1 { caller := 1, round := 2, esdts := [⟨.esdt 1, 0, 5⟩] } .deposit) = true := by
  decide +kernel
theorem ex3_ok : isOk (step id ex2 { caller := 7, round := 5, egld := 20 } (.confirm 2)) = true := by
  decide +kernel
theorem ex4_ok : isOk (step id ex3 { caller := 8, round := 6, egld := 10 } (.confirm 1)) = true := by
  decide +kernel
theorem ex5_ok : isOk (step id ex4 { caller := 9, round := 10, budget := some 0 } .filter) = true := by
  decide +kernel
theorem ex6_ok : isOk (step id ex5 { caller := 9, round := 11 } .filter) = true := by
  decide +kernel

theorem ex0_reach : Reach id .base ex0 0 := Reach.init exArgs { caller := 1, round := 0 } ex0 rfl

theorem ex7_reach : Reach id .base ex7 12 :=
  Reach.callOk { caller := 9, round := 12 } .select
    (Reach.callOk _ _
      (Reach.callOk _ _
        (Reach.callOk _ _
          (Reach.callOk _ _
            (Reach.callOk _ _
              (Reach.callOk _ _
                ex0_reach (by decide) (Or.inl rfl) (by show ∀ p ∈ [(7, 2), (8, 1)], 1 ≤ p.2; decide) ex1_ok)
              (by decide) (Or.inl rfl) trivial ex2_ok)
            (by decide) (Or.inr rfl) trivial ex3_ok)
          (by decide) (Or.inr rfl) trivial ex4_ok)
        (by decide) (Or.inl rfl) trivial ex5_ok)
      (by decide) (Or.inl rfl) trivial ex6_ok)
    (by decide) (Or.inl rfl) trivial (by decide +kernel)

example : AllDone ex7 ∧ ex7.bal .egld 0 = 30 ∧ ex7.claimablePayment = 10 ∧ ex7.nrWinning = 1 ∧
    ex5.op = .filter 3 0 ∧ ex4.bal .egld 0 = 30 := by
  unfold AllDone
  decide +kernel

example : ∃ L : List Nat, Covers ex7 L ∧ PayEqPost ex7 L := by
  obtain ⟨L, h1, _, h3⟩ := C01_solvent_base id ex7 12 ex7_reach
  exact ⟨L, h1, h3 (by unfold AllDone; decide +kernel)⟩

def ex8 : State := stOf (step id ex7 { caller := 7, round := 15 } .claim) ex7
def ex9 : State := stOf (step id ex8 { caller := 1, round := 16 } .claimPayment) ex8
def ex10 : State := stOf (step id ex9 { caller := 8, round := 17 } .claim) ex9

theorem ex8_ok : isOk (step id ex7 { caller := 7, round := 15 } .claim) = true := by decide +kernel

theorem ex10_reach : Reach id .base ex10 17 :=
  Reach.callOk { caller := 8, round := 17 } .claim
    (Reach.callOk { caller := 1, round := 16 } .claimPayment
      (Reach.callOk _ _ ex7_reach (by decide) (Or.inl rfl) trivial ex8_ok)
      (by decide) (Or.inl rfl) trivial (by decide +kernel))
    (by decide) (Or.inl rfl) trivial (by decide +kernel)

example : ex8.bal .egld 0 + ex9.bal .egld 0 = 30 ∧ ex9.claimablePayment = 0 ∧ ex10.bal .egld 0 = 0 ∧
    ex10.range 7 = none ∧ ex10.range 8 = none := by
  decide +kernel

end LP.Props.C01reach

#print axioms LP.Props.C01reach.C01_solvent
#print axioms LP.Props.C01reach.C01_solvent_base
#print axioms LP.Props.C01reach.C01_solvent_locked
#print axioms LP.Props.C01reach.claim_refund_covered
#print axioms LP.Props.C01reach.claim_refund_succeeds
#print axioms LP.Props.C01reach.owner_withdrawal_covered
#print axioms LP.Props.C01reach.all_settled_nothing_left
#print axioms LP.Props.C01reach.three_counts
#print axioms LP.Props.C01reach.three_counts_at_completion
#print axioms LP.Props.C01reach.winners_before_filter
#print axioms LP.Props.C01reach.proceeds_until_withdrawal
#print axioms LP.Props.C01reach.proceeds_constant
#print axioms LP.Props.C01reach.proceeds_are_price_times_winners
#print axioms LP.Props.C01reach.ex7_reach
#print axioms LP.Props.C01reach.ex10_reach

#print axioms LP.Props.C01reach.Reach.callOk
#print axioms LP.Props.C01reach.ex0_reach
