import LP.Proofs.OwnerReceipts
import LP.Props.C01receipts
import LP.Props.C03proceeds
import LP.Props.C13reachV2
import LP.Props.C01reachG1
import LP.Proofs.ReachOfVest
/-
  The owner's side of LP/Props/C01receipts.lean: C01 "owner: price × winners", C02 "the owner can
  withdraw only the surplus", C13 "floor formula for totals", over whole histories of all eight
  contracts.  Definitions (prefix `ow_`) are in LP/Proofs/OwnerStep.lean and
  LP/Proofs/OwnerReceipts.lean:
    `ow_withdrawn tok a log`  what the accepted `claimPayment` entries of the log send to `a` in `tok`
    `ow_nftPart s tok`        `claimableNft` if the NFT fee is charged in the fungible token `tok`
    `ow_surplus s`            guarV1/guarV2: `totalDeposited − (claimablePayment / price) × perTicket`;
                              the six others: `bal lpTok − perTicket × nrWinning`
    `ow_due s tok`            `(tok = payTok ? claimablePayment) + (tok = lpTok ? ow_surplus s)
                               + ow_nftPart s tok`

  Not covered:
  * The launchpad-token statements assume `deposited = true`: `deposit_launchpad_tokens` has no
    stage check, so without a deposit the owner can still deposit after completion (then nobody
    confirmed, `W = 0`) and withdraw it with a later `claimPayment`.
  * For the six non-vested contracts the surplus is the exact value `bal − perTicket × nrWinning`
    at completion; its bound by the recorded deposit, `totalDeposited − perTicket × W`, needs
    "balance = recorded deposit until the first claim", which holds per family only
    (`LP.PL.lp_ledger_plain`, `C02_cover_every_variant`).  For guarV1/guarV2 that form is exact.
  * `owner_total_with_own_tickets` leaves the owner's participant part as `Σ cr_owedPay`; the closed
    form "0 or `cr_due`" of `payment_after_completion` is not stated for `a = owner`.
  * `vested_total_*` start the history at the winner's settlement, so that the winning tickets at
    settlement are `winCountOf s a`; transactions before it give him nothing
    (`vested_after_completion` with `userClaimed = 0`), but the concatenation is not stated.
-/
namespace LP.Props.C01owner
open LP LP.FY LP.Props.C09 LP.Props.C17 LP.Props.AllVariants LP.Props.C01receipts

/-! ## one accepted `claimPayment`, exactly -/

/-- **an accepted `claimPayment` in a reachable state of any of the eight contracts.**  The caller
    is the owner, all selection steps are complete, the stage is Claim.  The owner receives
    `claimablePayment` in the payment token, `ow_surplus s` in the launchpad token and the NFT
    proceeds `ow_nftPart s tok` in the token the NFT fee is charged in, if that is fungible
    (`cr_paid` counts transfers with nonce 0 only); nobody else receives anything.
    Afterwards all three are 0 and `nrWinning` is unchanged; the common withdrawal
    leaves exactly `perTicket × nrWinning` launchpad tokens, the vested one clears
    `totalDeposited`. -/
theorem claimPayment_exact (hash : List Nat → List Nat) (s : State) (r : Nat)
    (h : Covered hash s r) (e : Env) (s' : State) (o : Out)
    (hs : step hash s e .claimPayment = .ok (s', o)) :
    e.caller = s.owner ∧ AllDone s ∧ s.stage e = .claim ∧
    cr_paid s.payTok s.owner o.xfers = s.claimablePayment + ow_nftPart s s.payTok ∧
    cr_paid (.esdt s.lpTok) s.owner o.xfers = ow_surplus s ∧
    (∀ tok, cr_paid tok s.owner o.xfers = ow_due s tok) ∧
    (∀ tok a, a ≠ s.owner → cr_paid tok a o.xfers = 0) ∧
    (s.variant.hasNft = false → ∀ tok, ow_nftPart s tok = 0) ∧
    (s.variant.vested = false → ow_surplus s = s.bal (.esdt s.lpTok) 0 - s.perTicket * s.nrWinning) ∧
    (s.variant.vested = true →
      ow_surplus s = s.totalDeposited - s.claimablePayment / s.price * s.perTicket) ∧
    s'.claimablePayment = 0 ∧ (s.variant.hasNft = true → s'.claimableNft = 0) ∧
    ow_surplus s' = 0 ∧ (∀ tok, ow_due s' tok = 0) ∧ s'.nrWinning = s.nrWinning ∧
    (s.variant.vested = true → s'.totalDeposited = 0) ∧
    (s.variant.vested = false → s.perTicket * s.nrWinning ≤ s.bal (.esdt s.lpTok) 0 ∧
      s'.bal (.esdt s.lpTok) 0 = s.perTicket * s.nrWinning) := by
  have hS := cr_static_covered h
  obtain ⟨k1, k2, k3, k4, k5, _, k7, k8, k9, k10⟩ := ow_claimPayment_exact hS.tokNe hS.feeNe hs
  have hd : AllDone s := (stage_claim_iff.mp k2).1
  have hlp : cr_paid (.esdt s.lpTok) s.owner o.xfers = ow_surplus s := by
    have : cr_paid (.esdt s.lpTok) s.owner o.xfers = ow_due s (.esdt s.lpTok) := k3 _
    rw [this, ow_due_lp hS]
  have hpay : cr_paid s.payTok s.owner o.xfers = s.claimablePayment + ow_nftPart s s.payTok := by
    have : cr_paid s.payTok s.owner o.xfers = ow_due s s.payTok := k3 _
    rw [this, ow_due_other hS.tokNe]; simp
  refine ⟨k1, hd, k2, hpay, hlp, k3, fun tok a ha => (owner_only_from_withdrawals hash s e s' o hs tok a ha).2,
    ow_nftPart_noNft, ow_surplus_plain, ow_surplus_vested, k4, k5, k7, ow_due_zero_after hS hs, k8, k9,
    fun hv => ⟨(k10 hv).2.1, (k10 hv).2.2⟩⟩

/-- per variant (`ReachOf hash v`), with the two amounts written out -/
theorem claimPayment_exact_every_variant (hash : List Nat → List Nat) (v : Variant) (s : State)
    (r : Nat) (h : ReachOf hash v s r) (e : Env) (s' : State) (o : Out)
    (hs : step hash s e .claimPayment = .ok (s', o)) :
    s.variant = v ∧ e.caller = s.owner ∧ AllDone s ∧
    s'.claimablePayment = 0 ∧ (v.hasNft = true → s'.claimableNft = 0) ∧
    (match v with
     | .guarV1 | .guarV2 =>
        cr_paid s.payTok s.owner o.xfers = s.claimablePayment ∧
        cr_paid (.esdt s.lpTok) s.owner o.xfers
          = s.totalDeposited - s.claimablePayment / s.price * s.perTicket ∧
        s'.totalDeposited = 0
     | .nft | .nftGuar =>
        cr_paid s.payTok s.owner o.xfers = s.claimablePayment +
          (if s.nftCost.tok = s.payTok ∧ s.nftCost.nonce = 0 then s.claimableNft else 0) ∧
        cr_paid (.esdt s.lpTok) s.owner o.xfers
          = s.bal (.esdt s.lpTok) 0 - s.perTicket * s.nrWinning ∧
        s'.bal (.esdt s.lpTok) 0 = s.perTicket * s.nrWinning
     | _ =>
        cr_paid s.payTok s.owner o.xfers = s.claimablePayment ∧
        cr_paid (.esdt s.lpTok) s.owner o.xfers
          = s.bal (.esdt s.lpTok) 0 - s.perTicket * s.nrWinning ∧
        s'.bal (.esdt s.lpTok) 0 = s.perTicket * s.nrWinning) := by
  have hc := covered_of_reachOf hash v s r h
  have hvar : s.variant = v := h.variant
  obtain ⟨k1, k2, _, k4, k5, _, _, k8, k9, k10, k11, k12, _, _, _, k16, k17⟩ :=
    claimPayment_exact hash s r hc e s' o hs
  refine ⟨hvar, k1, k2, k11, by rw [← hvar]; exact k12, ?_⟩
  have plain : s.variant.hasNft = false → s.variant.vested = false →
      cr_paid s.payTok s.owner o.xfers = s.claimablePayment ∧
      cr_paid (.esdt s.lpTok) s.owner o.xfers = s.bal (.esdt s.lpTok) 0 - s.perTicket * s.nrWinning ∧
      s'.bal (.esdt s.lpTok) 0 = s.perTicket * s.nrWinning := fun hn hv =>
    ⟨by rw [k4, k8 hn, Nat.add_zero], by rw [k5, k9 hv], (k17 hv).2⟩
  have vest : s.variant.hasNft = false → s.variant.vested = true →
      cr_paid s.payTok s.owner o.xfers = s.claimablePayment ∧
      cr_paid (.esdt s.lpTok) s.owner o.xfers
        = s.totalDeposited - s.claimablePayment / s.price * s.perTicket ∧
      s'.totalDeposited = 0 := fun hn hv =>
    ⟨by rw [k4, k8 hn, Nat.add_zero], by rw [k5, k10 hv], k16 hv⟩
  have nftc : s.variant.hasNft = true → s.variant.vested = false →
      cr_paid s.payTok s.owner o.xfers = s.claimablePayment +
        (if s.nftCost.tok = s.payTok ∧ s.nftCost.nonce = 0 then s.claimableNft else 0) ∧
      cr_paid (.esdt s.lpTok) s.owner o.xfers = s.bal (.esdt s.lpTok) 0 - s.perTicket * s.nrWinning ∧
      s'.bal (.esdt s.lpTok) 0 = s.perTicket * s.nrWinning := fun hn hv =>
    ⟨by rw [k4]; simp [ow_nftPart, hn], by rw [k5, k9 hv], (k17 hv).2⟩
  cases v <;> simp only [] <;> first
    | exact plain (by rw [hvar]; rfl) (by rw [hvar]; rfl)
    | exact vest (by rw [hvar]; rfl) (by rw [hvar]; rfl)
    | exact nftc (by rw [hvar]; rfl) (by rw [hvar]; rfl)

/-! ## histories: the first withdrawal pays everything, every later one nothing -/

/-- **from any reachable state in which all selection steps are complete**, along any history
    (`HistOK`, non-decreasing rounds, rejected transactions allowed), in any fungible token `tok`
    (for the launchpad token: once the deposit has been made): what the owner receives from all
    `claimPayment` calls together is 0 if none is accepted and otherwise `ow_due s tok` as
    evaluated in the starting state, paid in full by the first accepted one. -/
theorem owner_withdrawals_from_done (hash : List Nat → List Nat) (s : State) (r : Nat)
    (h : Covered hash s r) (hd : AllDone s) (tok : Token)
    (hdep : tok = .esdt s.lpTok → s.deposited = true) (hist : Hist) (hr : RoundsFrom r hist)
    (hok : ∀ x ∈ hist, HistOK x.1 x.2) :
    ow_withdrawn tok s.owner (lk_runLog hash s hist) =
      (match (lk_runLog hash s hist).find? ow_isWithdrawal with
       | some _ => ow_due s tok
       | none => 0) ∧
    (∀ x ∈ ((lk_runLog hash s hist).filter ow_isWithdrawal).tail,
      cr_paid tok s.owner x.2.2.2.xfers = 0) := by
  let I : State → Nat → Prop := fun s1 r1 =>
    be_Covered hash s1 r1 ∧ AllDone s1 ∧ ow_due s1 tok = ow_due s tok ∧
    (tok = .esdt s1.lpTok → s1.deposited = true)
  have hIwait : ∀ s1 r1 r', I s1 r1 → r1 ≤ r' → I s1 r' := fun s1 r1 r' hI hle =>
    ⟨(be_family_all hash).wait hI.1 hle, hI.2⟩
  have hIstep : ∀ s1 r1 e c s2 o, I s1 r1 → r1 ≤ e.round → be_HistOK e c → c ≠ .claimPayment →
      step hash s1 e c = .ok (s2, o) → I s2 e.round := by
    intro s1 r1 e c s2 o hI hle hk hc hs
    obtain ⟨hcov, hd1, hdue, hdp⟩ := hI
    obtain ⟨hf, hv, hsel⟩ := ow_covered_sel hcov hd1.1
    refine ⟨(be_family_all hash).call hcov hle hk hs, hd1.step hs, ?_, ?_⟩
    · rw [ow_due_kept hd1 hf hv (Nat.le_trans hsel hle) (cr_static_covered hcov) tok hdp hs hc]
      exact hdue
    · rw [step_lpTok hs]; exact fun hh => deposited_mono hs (hdp hh)
  have hIcov : ∀ s1 r1, I s1 r1 → be_Covered hash s1 r1 ∧ (tok = .esdt s1.lpTok → s1.deposited = true) :=
    fun s1 r1 hI => ⟨hI.1, hI.2.2.2⟩
  obtain ⟨j1, j2, j3⟩ := ow_first_withdrawal hash tok I hIwait hIstep hIcov hist s r hr
    ⟨h, hd, rfl, hdep⟩ hok
  refine ⟨?_, j3⟩
  cases hfind : (lk_runLog hash s hist).find? ow_isWithdrawal with
  | none => rw [hfind] at j1; exact j1
  | some x =>
    rw [hfind] at j1
    obtain ⟨⟨r', hx⟩, _⟩ := j2 x hfind
    rw [j1]; exact hx.2.2.1

/-- **C01 owner: price × winners, exactly once** — all eight contracts.  `s'` is the state left by
    the accepted call that completes the selection of winning tickets (`completionCall v`,
    `Completed v s' o`, as in `C03_every_variant`), `W` the number of winning flags at that moment,
    `p` any later history.  Over `p` the owner's payment-token receipts from `claimPayment` calls
    are nothing if none is accepted, and otherwise exactly `price × W`,
    `W = min (winners configured at deployment) lastTicketId`, plus (if the NFT fee is charged in
    the payment token) the `claimableNft` of the state the first accepted `claimPayment` runs in;
    that first withdrawal pays all of it. -/
theorem owner_proceeds_total (hash : List Nat → List Nat) (v : Variant) (a0 : InitArgs) (s : State)
    (r : Nat) (h : ReachOfA hash v a0 s r) (e : Env) (s' : State) (o : Out) (hr : r ≤ e.round)
    (hok : HistOKOf v e (completionCall v))
    (hs : step hash s e (completionCall v) = .ok (s', o)) (hc : Completed v s' o)
    (p : Hist) (hrp : RoundsFrom e.round p) (hp : ∀ x ∈ p, HistOK x.1 x.2) :
    let W := countTrue s'.status s'.lastTicketId
    W = min a0.nrWinning s'.lastTicketId ∧ 0 < s'.price ∧
    ow_withdrawn s'.payTok s'.owner (lk_runLog hash s' p) =
      (match (lk_runLog hash s' p).find? ow_isWithdrawal with
       | some x => s'.price * W + ow_nftPart x.1 s'.payTok
       | none => 0) ∧
    (∀ x, (lk_runLog hash s' p).find? ow_isWithdrawal = some x →
      x.1.claimablePayment = s'.price * W ∧ x.1.price = s'.price ∧ x.1.payTok = s'.payTok ∧
      AllDone x.1) ∧
    (v.hasNft = false →
      ow_withdrawn s'.payTok s'.owner (lk_runLog hash s' p) =
        (match (lk_runLog hash s' p).find? ow_isWithdrawal with
         | some _ => s'.price * W
         | none => 0)) ∧
    (∀ x ∈ ((lk_runLog hash s' p).filter ow_isWithdrawal).tail,
      cr_paid s'.payTok s'.owner x.2.2.2.xfers = 0) := by
  intro W
  obtain ⟨k1, _, _, k4, k5, _, k7, k8, _⟩ := C03_every_variant hash v a0 s r h e s' o hr hs hc
  have h' : ReachOfA hash v a0 s' e.round := h.call e _ s' o hr hok.1 hok.2 hs
  let I : State → Nat → Prop := fun s1 r1 =>
    ReachOfA hash v a0 s1 r1 ∧ s1.flags.selected = true ∧ (v ≠ .nft → AllDone s1) ∧
    s1.price = s'.price ∧ s1.claimablePayment = s'.price * W ∧ s1.payTok = s'.payTok
  have hIwait : ∀ s1 r1 r', I s1 r1 → r1 ≤ r' → I s1 r' := fun s1 r1 r' hI hle =>
    ⟨hI.1.wait hle, hI.2⟩
  have hIstep : ∀ s1 r1 e1 c s2 o1, I s1 r1 → r1 ≤ e1.round → be_HistOK e1 c → c ≠ .claimPayment →
      step hash s1 e1 c = .ok (s2, o1) → I s2 e1.round := by
    intro s1 r1 e1 c s2 o1 hI hle hk hcc hst
    obtain ⟨hre, hsl, hdn, hpr, hcp, hpt⟩ := hI
    obtain ⟨q1, q2, q3, q4⟩ :=
      LP.Props.C03proceeds.proceeds_step hash v a0 s1 r1 hre hsl hdn e1 c s2 o1 hle hst
    have hko := hk.okOf v
    have hcov := hre.toReachOf.covered
    obtain ⟨hf, hv, hsel⟩ := ow_covered_sel hcov hsl
    have hpay : s2.payTok = s1.payTok := cr_late_payTok hv (Nat.le_trans hsel hle) hst
    refine ⟨hre.call e1 c s2 o1 hle hko.1 hko.2 hst, q2, q3, by rw [q1]; exact hpr, ?_,
      by rw [hpay]; exact hpt⟩
    rcases q4 with q4 | ⟨q4, _⟩
    · rw [q4]; exact hcp
    · exact absurd q4 hcc
  have hIcov : ∀ s1 r1, I s1 r1 →
      be_Covered hash s1 r1 ∧ (s'.payTok = .esdt s1.lpTok → s1.deposited = true) := by
    intro s1 r1 hI
    have hcov := hI.1.toReachOf.covered
    refine ⟨hcov, fun hh => ?_⟩
    have := (cr_static_covered hcov).tokNe
    rw [hI.2.2.2.2.2] at this
    exact absurd hh this
  obtain ⟨j1, j2, j3⟩ := ow_first_withdrawal hash s'.payTok I hIwait hIstep hIcov p s' e.round hrp
    ⟨h', k7, k8, rfl, k4, rfl⟩ hp
  have hval : ∀ x, (lk_runLog hash s' p).find? ow_isWithdrawal = some x →
      x.1.claimablePayment = s'.price * W ∧ x.1.price = s'.price ∧ x.1.payTok = s'.payTok ∧
      AllDone x.1 ∧ ow_due x.1 s'.payTok = s'.price * W + ow_nftPart x.1 s'.payTok := by
    intro x hx
    obtain ⟨⟨r', hI⟩, hd⟩ := j2 x hx
    have hS := cr_static_covered hI.1.toReachOf.covered
    have hne : s'.payTok ≠ .esdt x.1.lpTok := by rw [← hI.2.2.2.2.2]; exact hS.tokNe
    refine ⟨hI.2.2.2.2.1, hI.2.2.2.1, hI.2.2.2.2.2, hd, ?_⟩
    rw [ow_due_other hne, hI.2.2.2.2.2, hI.2.2.2.2.1]; simp
  refine ⟨k1, k5, ?_, fun x hx => ⟨(hval x hx).1, (hval x hx).2.1, (hval x hx).2.2.1, (hval x hx).2.2.2.1⟩,
    ?_, j3⟩
  · cases hfind : (lk_runLog hash s' p).find? ow_isWithdrawal with
    | none => rw [hfind] at j1; exact j1
    | some x => rw [hfind] at j1; rw [j1]; exact (hval x hfind).2.2.2.2
  · intro hn
    cases hfind : (lk_runLog hash s' p).find? ow_isWithdrawal with
    | none => rw [hfind] at j1; exact j1
    | some x =>
      rw [hfind] at j1
      obtain ⟨⟨r', hI⟩, _⟩ := j2 x hfind
      have hvar : x.1.variant.hasNft = false := by
        rw [hI.1.toReachOf.variant]; exact hn
      rw [j1]
      show ow_due x.1 s'.payTok = s'.price * W
      rw [(hval x hfind).2.2.2.2, ow_nftPart_noNft hvar, Nat.add_zero]

/-- **the owner's total in the payment token, own tickets included**: what his `claimPayment`
    calls sent (`ow_withdrawn`) plus what he is owed as a participant, `Σ cr_owedPay` (the values
    are those of `payment_per_transaction`); nothing else reaches him.  The first equation needs
    only `payTok ≠ lpTok`. -/
theorem owner_total_with_own_tickets (hash : List Nat → List Nat) (s : State) (r : Nat)
    (h : Covered hash s r) (hsel : s.flags.selected = true) (hist : Hist) (hr : RoundsFrom r hist)
    (hok : ∀ x ∈ hist, HistOK x.1 x.2) (a : Nat) :
    cr_totalPay a (lk_runLog hash s hist)
      = ow_withdrawnPay a (lk_runLog hash s hist) + cr_totalOwed a (lk_runLog hash s hist) ∧
    cr_total s.payTok a (lk_runLog hash s hist)
      = ow_withdrawn s.payTok a (lk_runLog hash s hist) + cr_totalOwed a (lk_runLog hash s hist) ∧
    (a ≠ s.owner → ow_withdrawn s.payTok a (lk_runLog hash s hist) = 0) := by
  have h1 := ow_totalPay_split hash a hist s (cr_static_covered h).tokNe
  obtain ⟨h2, h3⟩ := ow_withdrawnPay_eq hash a hist s r h hsel hr hok
  refine ⟨h1, by rw [← h3, ← h2]; exact h1, fun ha => ?_⟩
  have h4 := payment_total hash s r h hist a ha
  rw [h1, h2] at h4
  omega

/-! ## the launchpad token: the owner can withdraw only the surplus, once -/

/-- **C02, the owner's launchpad tokens over any history** — all eight contracts.  From a reachable
    state with all selection steps complete and the deposit made: the launchpad tokens the owner
    receives from all his `claimPayment` calls together are 0 if none is accepted and otherwise
    exactly `ow_surplus s` as evaluated in the starting state, paid by the first accepted
    withdrawal.  Claims of participants in between do not change the surplus (they take out exactly
    what they reduce `nrWinning` by); a later withdrawal recomputes `balance − perTicket ×
    nrWinning`, which is 0 from then on, or (vested) finds `totalDeposited = 0`. -/
theorem owner_surplus_total (hash : List Nat → List Nat) (s : State) (r : Nat)
    (h : Covered hash s r) (hd : AllDone s) (hdep : s.deposited = true) (hist : Hist)
    (hr : RoundsFrom r hist) (hok : ∀ x ∈ hist, HistOK x.1 x.2) :
    ow_withdrawn (.esdt s.lpTok) s.owner (lk_runLog hash s hist) =
      (match (lk_runLog hash s hist).find? ow_isWithdrawal with
       | some _ => ow_surplus s
       | none => 0) ∧
    (∀ x ∈ ((lk_runLog hash s hist).filter ow_isWithdrawal).tail,
      cr_paid (.esdt s.lpTok) s.owner x.2.2.2.xfers = 0) ∧
    ow_withdrawn (.esdt s.lpTok) s.owner (lk_runLog hash s hist) ≤ ow_surplus s ∧
    (s.variant.vested = false →
      ow_surplus s = s.bal (.esdt s.lpTok) 0 - s.perTicket * s.nrWinning) ∧
    (s.variant.vested = true →
      ow_surplus s = s.totalDeposited - s.claimablePayment / s.price * s.perTicket ∧
      ow_surplus s ≤ s.totalDeposited ∧
      ∀ W, 0 < s.price → s.claimablePayment = s.price * W →
        ow_surplus s = s.totalDeposited - s.perTicket * W) := by
  obtain ⟨j1, j2⟩ := owner_withdrawals_from_done hash s r h hd (.esdt s.lpTok) (fun _ => hdep)
    hist hr hok
  rw [ow_due_lp (cr_static_covered h)] at j1
  refine ⟨j1, j2, ?_, ow_surplus_plain, fun hv => ?_⟩
  · rw [j1]; split
    · exact Nat.le_refl _
    · exact Nat.zero_le _
  · have e1 := ow_surplus_vested hv
    refine ⟨e1, by rw [e1]; exact Nat.sub_le _ _, fun W hpos hcp => ?_⟩
    rw [e1, hcp, Nat.mul_div_cancel_left _ hpos, Nat.mul_comm]

/-- **guarV1, guarV2 from the completing `distribute` call**: over any later history the owner's
    launchpad-token receipts from `claimPayment` are 0 (no accepted withdrawal) or exactly
    `totalDeposited − perTicket × W`, `W = min (winners configured at deployment) lastTicketId`,
    with `totalDeposited` the recorded deposit at completion. -/
theorem owner_surplus_vested_from_completion (hash : List Nat → List Nat) (v : Variant)
    (hv : v = .guarV1 ∨ v = .guarV2) (a0 : InitArgs) (s : State) (r : Nat)
    (h : ReachOfA hash v a0 s r) (e : Env) (s' : State) (o : Out) (hr : r ≤ e.round)
    (hok : HistOKOf v e (completionCall v))
    (hs : step hash s e (completionCall v) = .ok (s', o)) (hc : Completed v s' o)
    (hdep : s'.deposited = true)
    (p : Hist) (hrp : RoundsFrom e.round p) (hp : ∀ x ∈ p, HistOK x.1 x.2) :
    let W := countTrue s'.status s'.lastTicketId
    W = min a0.nrWinning s'.lastTicketId ∧
    ow_withdrawn (.esdt s'.lpTok) s'.owner (lk_runLog hash s' p) =
      (match (lk_runLog hash s' p).find? ow_isWithdrawal with
       | some _ => s'.totalDeposited - s'.perTicket * W
       | none => 0) ∧
    (∀ x ∈ ((lk_runLog hash s' p).filter ow_isWithdrawal).tail,
      cr_paid (.esdt s'.lpTok) s'.owner x.2.2.2.xfers = 0) := by
  intro W
  obtain ⟨k1, _, _, k4, k5, _, _, k8, _⟩ := C03_every_variant hash v a0 s r h e s' o hr hs hc
  have h' : ReachOfA hash v a0 s' e.round := h.call e _ s' o hr hok.1 hok.2 hs
  have hd : AllDone s' := k8 (by rcases hv with rfl | rfl <;> nofun)
  have hvest : s'.variant.vested = true := by
    rw [h'.toReachOf.variant]
    rcases hv with rfl | rfl <;> rfl
  obtain ⟨j1, j2, _, _, j5⟩ := owner_surplus_total hash s' e.round h'.toReachOf.covered hd
    hdep p hrp hp
  rw [(j5 hvest).2.2 W k5 k4] at j1
  exact ⟨k1, j1, j2⟩

/-! ## C13: the vested totals are the floor formula -/

/-- **both contracts with vesting: a winner's cumulative launchpad tokens are the floor formula**
    with the percentage `pctOf s` of the schedule in force in `s` (`hsc`: with the periodic schedule
    of guarV1, one is stored).  The first claim books the released part of the entitlement it
    writes; the last claim, after any history, is path independent (`VestFam.path_independent`);
    what was received in between is the difference of the booked amounts
    (`vested_after_completion`). -/
theorem vested_total (hash : List Nat → List Nat) (v : Variant) (hv : v.vested = true) (s : State)
    (r : Nat) (h : ReachOf hash v s r) (hd : AllDone s)
    (hsc : s.variant.isV2 = false → ∃ sc, s.sched1 = some sc)
    (a : Nat) (ha : a ≠ s.owner) (hcl : s.claimed a = false)
    (e0 : Env) (he0 : e0.caller = a) (hr0 : r ≤ e0.round) (hok0 : EnvOK e0) (s1 : State) (o1 : Out)
    (hs0 : step hash s e0 .claim = .ok (s1, o1))
    (mid : Hist) (e : Env) (he : e.caller = a) (hokE : EnvOK e)
    (hr : RoundsFrom e0.round (mid ++ [(e, .claim)])) (hok : ∀ x ∈ mid, HistOK x.1 x.2)
    (s2 : State) (o2 : Out) (hs2 : step hash (run hash s1 mid) e .claim = .ok (s2, o2)) :
    totalReceived s.lpTok a (lk_runLog hash s [(e0, .claim)])
      = entitled (winCountOf s a * s.perTicket) (pctOf s e0.round) ∧
    totalReceived s.lpTok a (lk_runLog hash s ((e0, .claim) :: (mid ++ [(e, .claim)])))
      = entitled (winCountOf s a * s.perTicket) (pctOf s e.round) := by
  subst he0
  have hvest : s.variant.vested = true := h.variant ▸ hv
  have huc0 : s.userClaimed e0.caller = 0 := ((h.vest hv).unsettled _ hcl).2
  have j := h.claimVested hv hr0 hs0
  have hut : s1.userTotal e0.caller = winCountOf s e0.caller * s.perTicket := (j.first hcl).1
  have hk0 : HistOK e0 .claim := ⟨hok0, trivial, trivial⟩
  constructor
  · have h1 := (vested_after_completion hash s r h.covered hd hvest [(e0, .claim)] ⟨hr0, trivial⟩
      (by intro x hx; simp only [List.mem_singleton] at hx; subst hx; exact hk0) _ ha).1
    have hrun : run hash s [(e0, .claim)] = s1 := by rw [run_cons_ok hs0]; rfl
    rw [h1, hrun, huc0, Nat.sub_zero, j.booked, hut]
  · have hokH : ∀ x ∈ (e0, Call.claim) :: (mid ++ [(e, Call.claim)]), HistOK x.1 x.2 := by
      intro x hx
      rcases List.mem_cons.mp hx with rfl | hx
      · exact hk0
      · rcases List.mem_append.mp hx with hx | hx
        · exact hok x hx
        · simp only [List.mem_singleton] at hx; subst hx; exact ⟨hokE, trivial, trivial⟩
    have h1 := (vested_after_completion hash s r h.covered hd hvest
      ((e0, Call.claim) :: (mid ++ [(e, Call.claim)])) ⟨hr0, hr⟩ hokH _ ha).1
    have hrun : run hash s ((e0, .claim) :: (mid ++ [(e, .claim)])) = s2 := by
      rw [run_cons_ok hs0, LP.Props.C17.run_append, run_cons_ok hs2]; rfl
    have h1R : ReachOf hash v s1 e0.round := h.call hr0 hok0 (by cases v <;> trivial) hs0
    have hcl1 : s1.claimed e.caller = true := by
      rw [he]; exact claim_sets_claimed hash s e0 s1 o1 hs0
    obtain ⟨_, hv1, hsel1⟩ := ow_covered_sel h1R.covered (hd.step hs0).1
    have hconf1 : s1.cfg.conf ≤ e0.round := by
      simp only [validPeriods, Bool.and_eq_true, decide_eq_true_eq] at hv1
      omega
    obtain ⟨hs1, _, _, _, _, hp1⟩ := claim_static hs0
    obtain ⟨r1, hl, hq⟩ := be_later_run (P := HistOKOf v) hash mid s1 e0.round hr.append_left
      fun x hx => (hok x hx).okOf v
    obtain ⟨_, k2, _⟩ := (vestFam hash hv).path_independent h1R hcl1 hl
      (pctOf_frozen hconf1 (fun hq1 => by rw [hs1]; exact hsc ((step_variant hs0) ▸ hq1)) hl)
      (hq _ hr).1 trivial hs2
    rw [he] at k2
    rw [h1, hrun, huc0, Nat.sub_zero, k2, hut, hp1]

open LP.VV LP.Props.C01reachG1 in
/-- **guarV2: a winner's cumulative launchpad tokens are the floor formula.**  `s` is a reachable
    state (all selection steps complete) in which `a` has not settled; the first transaction is his
    accepted settlement at `e0`, followed by any history `mid` and a last accepted claim of `a` at
    `e`.  With `E = winning tickets at settlement × perTicket` and the schedule in force in `s`,
    everything `a` has received in launchpad tokens over the whole history is
    `E × unlockedPct2 (round of his last accepted claim) / 10000`, rounded down once, not per
    claim: after the settlement alone with `e0.round`, after the whole history with `e.round`. -/
theorem vested_total_guarV2 (hash : List Nat → List Nat) (s : State) (r : Nat)
    (h : Reach hash .guarV2 s r) (hd : AllDone s) (a : Nat) (ha : a ≠ s.owner)
    (hcl : s.claimed a = false)
    (e0 : Env) (he0 : e0.caller = a) (hr0 : r ≤ e0.round) (hok0 : EnvOK e0) (s1 : State) (o1 : Out)
    (hs0 : step hash s e0 .claim = .ok (s1, o1))
    (mid : Hist) (e : Env) (he : e.caller = a) (hokE : EnvOK e)
    (hr : RoundsFrom e0.round (mid ++ [(e, .claim)])) (hok : ∀ x ∈ mid, HistOK x.1 x.2)
    (s2 : State) (o2 : Out) (hs2 : step hash (run hash s1 mid) e .claim = .ok (s2, o2)) :
    totalReceived s.lpTok a (lk_runLog hash s [(e0, .claim)])
      = entitled (winCountOf s a * s.perTicket) (unlockedPct2 e0.round (sched2Of s)) ∧
    totalReceived s.lpTok a (lk_runLog hash s ((e0, .claim) :: (mid ++ [(e, .claim)])))
      = entitled (winCountOf s a * s.perTicket) (unlockedPct2 e.round (sched2Of s)) ∧
    entitled (winCountOf s a * s.perTicket) (unlockedPct2 e.round (sched2Of s))
      = winCountOf s a * s.perTicket * unlockedPct2 e.round (sched2Of s) / 10000 := by
  obtain ⟨k1, k2⟩ := vested_total hash .guarV2 rfl s r h hd
    (fun hq => absurd ((ReachOf.of_guarV2 h).variant ▸ hq) nofun)
    a ha hcl e0 he0 hr0 hok0 s1 o1 hs0 mid e he hokE hr hok s2 o2 hs2
  have hp := pctOf_v2 (s := s) (by rw [ReachOf.variant (v := .guarV2) h]; rfl)
  rw [hp] at k1 k2
  exact ⟨k1, k2, rfl⟩

open LP.VV LP.Props.C01reachG1 in
/-- **guarV1: the same** with `unlockedPct1 _ sc` for a stored schedule `sc` (without one nothing
    is released: `pct1 _ none = 0`). -/
theorem vested_total_guarV1 (hash : List Nat → List Nat) (s : State) (r : Nat)
    (h : g1_Reach hash s r) (hd : AllDone s) (sc : Sched1) (hsc : s.sched1 = some sc)
    (a : Nat) (ha : a ≠ s.owner) (hcl : s.claimed a = false)
    (e0 : Env) (he0 : e0.caller = a) (hr0 : r ≤ e0.round) (hok0 : EnvOK e0) (s1 : State) (o1 : Out)
    (hs0 : step hash s e0 .claim = .ok (s1, o1))
    (mid : Hist) (e : Env) (he : e.caller = a) (hokE : EnvOK e)
    (hr : RoundsFrom e0.round (mid ++ [(e, .claim)])) (hok : ∀ x ∈ mid, HistOK x.1 x.2)
    (s2 : State) (o2 : Out) (hs2 : step hash (run hash s1 mid) e .claim = .ok (s2, o2)) :
    totalReceived s.lpTok a (lk_runLog hash s [(e0, .claim)])
      = entitled (winCountOf s a * s.perTicket) (unlockedPct1 e0.round sc) ∧
    totalReceived s.lpTok a (lk_runLog hash s ((e0, .claim) :: (mid ++ [(e, .claim)])))
      = entitled (winCountOf s a * s.perTicket) (unlockedPct1 e.round sc) ∧
    entitled (winCountOf s a * s.perTicket) (unlockedPct1 e.round sc)
      = winCountOf s a * s.perTicket * unlockedPct1 e.round sc / 10000 := by
  obtain ⟨k1, k2⟩ := vested_total hash .guarV1 rfl s r h hd (fun _ => ⟨sc, hsc⟩)
    a ha hcl e0 he0 hr0 hok0 s1 o1 hs0 mid e he hokE hr hok s2 o2 hs2
  have hp := pctOf_v1 (s := s) (by rw [ReachOf.variant (v := .guarV1) h]; rfl)
  rw [hp, hsc] at k1 k2
  exact ⟨k1, k2, rfl⟩

/-! ## non-vacuity -/

section examples
open LP.Props.C16reach LP.VV

/-- the locked guaranteed-ticket launchpad `g7` of LP/Props/C16reach.lean (round 12, all steps
    done, deposit made, 2 winning tickets at price 10) and its history `gHist` (7 claims, 8 claims,
    the owner withdraws, 7 claims again — rejected): the owner receives `10 × 2 = 20` EGLD and the
    surplus, 0 here since everything deposited was won -/
example : Covered id g7 12 ∧ AllDone g7 ∧ g7.deposited = true ∧ g7.owner = 1 ∧
    g7.claimablePayment = 20 ∧ ow_surplus g7 = 0 ∧ ow_due g7 g7.payTok = 20 ∧
    (lk_runLog id g7 gHist).find? ow_isWithdrawal ≠ none ∧
    ow_withdrawn g7.payTok g7.owner (lk_runLog id g7 gHist) = 20 ∧
    ow_withdrawn (.esdt g7.lpTok) g7.owner (lk_runLog id g7 gHist) = 0 := by
  exact ⟨g7_covered, g7_done, by decide +kernel⟩

example : ow_withdrawn g7.payTok g7.owner (lk_runLog id g7 gHist) =
    (match (lk_runLog id g7 gHist).find? ow_isWithdrawal with
     | some _ => ow_due g7 g7.payTok
     | none => 0) :=
  (owner_withdrawals_from_done id g7 12 g7_covered g7_done g7.payTok (fun _ => by decide +kernel)
    gHist gHist_ok.1 gHist_ok.2).1

/-- the guarV2 history of LP/Props/C13reachV2.lean: the withdrawal `x9 → x10` (round 17) pays the
    recorded proceeds `20 = 10 × 2` and the surplus `40 − (20 / 10) × 20 = 0` -/
example : Covered id x9 16 ∧
    (∃ o, step id x9 { caller := 1, round := 17 } .claimPayment = .ok (x10, o)) ∧
    x9.claimablePayment = 20 ∧ x9.totalDeposited = 40 ∧ ow_surplus x9 = 0 := by
  exact ⟨.guarV2 x9_reach, LP.Props.C01reach.stOf_spec x10_ok x9, by decide +kernel⟩

/-- the same history: participant 7 (2 winning tickets × 20 tokens, schedule 25 % at round 16,
    25 % at 26, 50 % at 50) settles in `x8` at round 16, the owner withdraws at 17, 7 claims again
    at 26 and has received `40 × 5000 / 10000 = 20` in total -/
example :
    totalReceived x8.lpTok 7 (lk_runLog id x8
      (({ caller := 7, round := 16 }, .claim) ::
        ([({ caller := 1, round := 17 }, Call.claimPayment)] ++ [({ caller := 7, round := 26 }, .claim)])))
      = entitled (winCountOf x8 7 * x8.perTicket) (unlockedPct2 26 (sched2Of x8)) ∧
    entitled (winCountOf x8 7 * x8.perTicket) (unlockedPct2 26 (sched2Of x8)) = 20 := by
  obtain ⟨o1, h1⟩ := LP.Props.C01reach.stOf_spec x9_ok x8
  obtain ⟨o2, h2⟩ := LP.Props.C01reach.stOf_spec x10_ok x9
  obtain ⟨o3, h3⟩ := LP.Props.C01reach.stOf_spec x11_ok x10
  have h3' : step id (run id x9 [({ caller := 1, round := 17 }, Call.claimPayment)])
      { caller := 7, round := 26 } .claim = .ok (x11, o3) := by rw [run_cons_ok (s' := x10) h2]; exact h3
  refine ⟨(vested_total_guarV2 id x8 12 x8_reach (by unfold AllDone; decide +kernel) 7
    (by decide +kernel) (by decide +kernel)
    { caller := 7, round := 16 } rfl (by decide) (Or.inl rfl) x9 o1 h1
    [({ caller := 1, round := 17 }, Call.claimPayment)] { caller := 7, round := 26 } rfl (Or.inl rfl)
    ⟨by decide, by decide, trivial⟩
    (by intro x hx; simp only [List.mem_singleton] at hx; subst hx; exact ⟨Or.inl rfl, trivial, trivial⟩)
    x11 o3 h3').2.1, by decide +kernel⟩

end examples

end LP.Props.C01owner

#print axioms LP.Props.C01owner.claimPayment_exact
#print axioms LP.Props.C01owner.claimPayment_exact_every_variant
#print axioms LP.Props.C01owner.owner_withdrawals_from_done
#print axioms LP.Props.C01owner.owner_proceeds_total
#print axioms LP.Props.C01owner.owner_total_with_own_tickets
#print axioms LP.Props.C01owner.owner_surplus_total
#print axioms LP.Props.C01owner.owner_surplus_vested_from_completion
#print axioms LP.Props.C01owner.vested_total_guarV2
#print axioms LP.Props.C01owner.vested_total_guarV1
