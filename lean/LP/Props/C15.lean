import LP.Proofs.Gate
/-
  C15 — Privileged endpoints reject everyone but their intended callers.
  Decision logic stated outright on `step`; a rejected call carries no state, and the history
  fold `run` keeps the previous state (atomicity by construction).
-/
namespace LP.Props.C15
open LP

/-- the owner-only endpoints of the property's list -/
def ownerOnlyCall : Call → Bool
  | .addTickets _ | .addTicketsV1 _ | .addTicketsV2 _ | .deposit
  | .setTicketPrice _ _ | .setPerTicket _ | .setConfStart _ | .setSelStart _ | .setClaimStart _
  | .setSupport _ | .pause | .unpause | .claimPayment
  | .setSchedule1 .. | .setSchedule2 _ | .setNftCost _ => true
  | _ => false

/-- every owner-only endpoint carries the `#[only_owner]` annotation in every variant that has it -/
theorem ownerOnly_table (v : Variant) (c : Call) (m : Meta)
    (hc : ownerOnlyCall c = true) (hm : endpointMeta v c = some m) : m.ownerOnly = true := by
  cases c <;> simp [ownerOnlyCall] at hc <;> simp [endpointMeta] at hm <;>
    first
      | (subst hm; rfl)
      | (obtain ⟨_, rfl⟩ := hm; rfl)

/-- allocation, deposit, every setter, support change, pause/unpause, withdrawal and schedule
    changes are rejected for every caller other than the owner, in every variant, every phase,
    whatever the payment and arguments -/
theorem owner_only_rejected (hash : List Nat → List Nat) (s : State) (e : Env) (c : Call)
    (hc : ownerOnlyCall c = true) (hne : e.caller ≠ s.owner) :
    ∃ err, step hash s e c = .error err := by
  refine rejected_of_not_ok fun _ _ h => ?_
  obtain ⟨m, hm, ho⟩ := (step_spec h).admitted.exposed
  exact hne (ho (ownerOnly_table _ c m hc hm))

/-- blacklist management and SFT set-up: owner or support address only (the model accepts no SFT
    set-up call from anybody, so for those three `extended_rejected` holds trivially) -/
def extendedCall : Call → Bool
  | .blacklist _ | .refundUsers _ | .unblacklist _ | .issueSft | .createSfts | .setTransferRole _ => true
  | _ => false

/-- the caller clause of `Gate`, for the calls `extendedCall` lists -/
theorem _root_.LP.Gate.extended {s : State} {e : Env} {c : Call} (g : Gate s e c) (hc : extendedCall c = true) :
    e.caller = s.owner ∨ e.caller = s.support := by
  cases c <;> first | exact Bool.noConfusion hc | exact g.1 | exact g.elim

theorem extended_rejected (hash : List Nat → List Nat) (s : State) (e : Env) (c : Call)
    (hc : extendedCall c = true) (h1 : e.caller ≠ s.owner) (h2 : e.caller ≠ s.support) :
    ∃ err, step hash s e c = .error err :=
  rejected_of_not_gate fun g => (g.extended hc).elim h1 h2

/-- base winner selection: the owner or a non-contract account -/
theorem select_rejected_for_contracts (hash : List Nat → List Nat) (s : State) (e : Env)
    (h1 : e.caller ≠ s.owner) (h2 : e.callerIsContract = true) :
    ∃ err, step hash s e .select = .error err :=
  rejected_of_not_gate fun g => g.2.2.1.elim h1 fun h => absurd (h2.symm.trans h) nofun

/-- v2's distribution step: the owner or a non-contract account -/
theorem distribute_v2_rejected_for_contracts (hash : List Nat → List Nat) (s : State) (e : Env)
    (hv : s.variant = .guarV2) (h1 : e.caller ≠ s.owner) (h2 : e.callerIsContract = true) :
    ∃ err, step hash s e .distribute = .error err :=
  rejected_of_not_gate fun g =>
    (g.2.2.2 (by rw [hv]; rfl)).2.elim h1 fun h => absurd (h2.symm.trans h) nofun

/-- filtering, confirming and claiming are open to every caller as far as the dispatcher goes: their
    annotations say neither owner-only nor (for filter/claim) payable.  (The bodies still look the caller up:
    blacklist, range and claimed flag; no owner or support check, see `Gate`.) -/
theorem open_endpoints (v : Variant) :
    endpointMeta v .filter = some ⟨false, false⟩ ∧
    endpointMeta v .claim = some ⟨false, false⟩ ∧
    (∀ n, endpointMeta v (.confirm n) = some ⟨false, true⟩) := by
  simp [endpointMeta]

/-- a rejected call changes neither state nor balances: `run` keeps the previous state -/
theorem rejected_is_noop (hash : List Nat → List Nat) (s : State) (e : Env) (c : Call)
    (rest : List (Env × Call)) (err : Err) (h : step hash s e c = .error err) :
    run hash s ((e, c) :: rest) = run hash s rest :=
  run_cons_err h

/-- a stranger calling `pause` on a deployed base launchpad is rejected, the owner is not -/
example : ∃ s : State, s.owner = 1 ∧
    (∃ err, step id s { caller := 30, round := 0 } .pause = .error err) ∧
    (∃ r, step id s { caller := 1, round := 0 } .pause = .ok r) := by
  refine ⟨{ variant := .base, owner := 1, lpTok := 1, perTicket := 1, payTok := .egld, price := 1,
            nrWinning := 1, cfg := ⟨5, 10, 15⟩, flags := {}, support := 1 }, rfl, ?_, ?_⟩
  · exact ⟨_, rfl⟩
  · exact ⟨_, rfl⟩

end LP.Props.C15

#print axioms LP.Props.C15.owner_only_rejected
#print axioms LP.Props.C15.extended_rejected
#print axioms LP.Props.C15.select_rejected_for_contracts
#print axioms LP.Props.C15.distribute_v2_rejected_for_contracts
#print axioms LP.Props.C15.open_endpoints
#print axioms LP.Props.C15.rejected_is_noop

#print axioms LP.Props.C15.ownerOnly_table
