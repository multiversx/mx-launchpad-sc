import LP.Proofs.FY
import LP.Proofs.FYCount
import Mathlib.Logic.Function.Iterate
/-
  C05 — fairness structure of the base lottery, stated on the textbook shuffle (that the
  contract's loop refines it is `fy_refines_textbook` in C03base): valid residue vectors
  correspond one-to-one to ordered selections of k distinct tickets, exchanging two tickets is
  an involution on them, hence every ticket wins with probability k/n under uniform residues;
  and the raw draws are the successive 4-byte words of a seed re-hashed every 8 draws.
-/
namespace LP.FY

/-- **C05, bijection**.  `ValidRes n k cs`: `cs.length = k` and the entry of step `q+1` is
    `< n - q` (none exists for `k > n`).  The selection map
    `cs ↦ tbSel n cs = (textbook run with raws = cs).take k` is a bijection from valid residue
    vectors onto the duplicate-free `k`-lists over `1..n`, and running with arbitrary raws `r_i`
    is the same as running with their residues `r_i % (n - i + 1)`. -/
theorem residues_bijective (n k : Nat) :
    (∀ cs, ValidRes n k cs → IsSel n k (tbSel n cs)) ∧
    (∀ cs cs', ValidRes n k cs → ValidRes n k cs' → tbSel n cs = tbSel n cs' → cs = cs') ∧
    (∀ sel, IsSel n k sel → ∃ cs, ValidRes n k cs ∧ tbSel n cs = sel) ∧
    (∀ raws : List Nat, tbRun n (residues n raws) = tbRun n raws ∧
      tbSel n (residues n raws) = tbSel n raws ∧
      (residues n raws).length = raws.length ∧
      (∀ q, q < raws.length → (residues n raws).getD q 0 = raws.getD q 0 % (n - (q + 1) + 1)) ∧
      (raws.length = k → k ≤ n → ValidRes n k (residues n raws))) := by
  refine ⟨fun cs h => tbSel_isSel h, fun cs cs' h h' e => tbSel_inj h h' e,
    fun sel h => tbSel_surj h, ?_⟩
  intro raws
  refine ⟨tbRun_residues n raws, tbSel_residues n raws, by simp [residues], ?_, ?_⟩
  · intro q hq
    have := getD_resFrom n raws 1 q hq
    rw [Nat.add_comm 1 q] at this
    exact this
  · intro hk hkn
    subst hk
    exact validRes_residues n raws hkn

/-- **C05, symmetry**.  For tickets `t, t'` of `1..n`, `resSwap n k t t'` (exchange the values
    `t` and `t'` in the selection, transported through the bijection) is an involution of the
    valid residue vectors that maps those whose selection contains `t` onto those whose
    selection contains `t'`.  Hence, for residues uniform over the valid vectors, all tickets
    are equally likely to win. -/
theorem equally_likely (n k t t' : Nat) (ht : 1 ≤ t ∧ t ≤ n) (ht' : 1 ≤ t' ∧ t' ≤ n) :
    (∀ sel, IsSel n k sel → IsSel n k (swapVals t t' sel) ∧
        swapVals t t' (swapVals t t' sel) = sel ∧ (t ∈ sel ↔ t' ∈ swapVals t t' sel)) ∧
    (∀ cs, ValidRes n k cs →
        ValidRes n k (resSwap n k t t' cs) ∧
        tbSel n (resSwap n k t t' cs) = swapVals t t' (tbSel n cs) ∧
        resSwap n k t t' (resSwap n k t t' cs) = cs ∧
        (t ∈ tbSel n cs ↔ t' ∈ tbSel n (resSwap n k t t' cs)) ∧
        (t' ∈ tbSel n cs ↔ t ∈ tbSel n (resSwap n k t t' cs))) := by
  constructor
  · intro sel h
    exact ⟨swapVals_isSel ht ht' h, swapVals_invol t t' sel, (swapVals_mem_iff t t' sel).1⟩
  · intro cs h
    exact resSwap_spec ht ht' h

/-- Counted: `allRes n k` enumerates the valid residue vectors without repetition, and the
    number `winCount n k t` of those whose selection contains `t` is the same for all `t`. -/
theorem equally_likely_count (n k t t' : Nat) (ht : 1 ≤ t ∧ t ≤ n) (ht' : 1 ≤ t' ∧ t' ≤ n) :
    (∀ cs, cs ∈ allRes n k ↔ ValidRes n k cs) ∧ (allRes n k).Nodup ∧
    winCount n k t = ((allRes n k).filter (fun cs => decide (t ∈ tbSel n cs))).length ∧
    winCount n k t = winCount n k t' :=
  ⟨mem_allRes n k, nodup_allRes n k, rfl,
    Nat.le_antisymm (winCount_le ht ht') (winCount_le ht' ht)⟩

/-- **C05, probability**: under uniformly distributed residues every ticket of `1..n` wins
    with probability `k/n`. -/
theorem win_probability (n k t : Nat) (ht : 1 ≤ t ∧ t ≤ n) :
    n * winCount n k t = k * (allRes n k).length := by
  have h := double_count (fun (cs : List Nat) (t : Nat) => decide (t ∈ tbSel n cs))
    (allRes n k) (List.range' 1 n)
  rw [sum_map_const _ k, sum_map_const _ (winCount n k t)] at h
  · simp only [List.length_range'] at h
    rw [h.symm, Nat.mul_comm]
  · intro t' ht'
    rw [List.mem_range'_1] at ht'
    exact Nat.le_antisymm (winCount_le (by omega) ht) (winCount_le ht (by omega))
  · intro cs hcs
    have hs := tbSel_isSel ((mem_allRes n k cs).mp hcs)
    rw [length_filter_range_mem n _ hs.2.1 hs.2.2, hs.1]

/-- The `j`-th raw draw (0-based) of a generator started at `{seed, index := 0}` is the
    big-endian 4-byte word number `j % 8` of the seed after `j / 8` re-hashings, for any `hash`
    (`HASH_LEN = 32`, `USIZE_BYTES = 4`, launchpad-common/src/random.rs:6-7). -/
theorem draw_words (hash : List Nat → List Nat) (seed : List Nat) :
    (∀ j, drawAt hash { seed := seed, index := 0 } j = beWord (hash^[j / 8] seed) (4 * (j % 8))) ∧
    (∀ k, draws hash { seed := seed, index := 0 } k =
      (List.range k).map (fun j => beWord (hash^[j / 8] seed) (4 * (j % 8)))) := by
  have hit : ∀ (m : Nat) (a : List Nat), iter hash m a = hash^[m] a := by
    intro m; induction m with
    | zero => intro a; rfl
    | succ m ih => intro a; exact ih (hash a)
  have h1 : ∀ j, drawAt hash { seed := seed, index := 0 } j = beWord (hash^[j / 8] seed) (4 * (j % 8)) := by
    intro j; rw [drawAt_closed, hit]
  refine ⟨h1, ?_⟩
  intro k
  rw [draws_eq_map]
  exact List.map_congr_left (fun j _ => h1 j)

/-- `drawAt`/`draws` are the successive outputs of `Rng.next`. -/
theorem draws_unfold (hash : List Nat → List Nat) (r : Rng) (k : Nat) :
    draws hash r 0 = [] ∧
    draws hash r (k + 1) = (r.next hash).1 :: draws hash (r.next hash).2 k ∧
    drawAt hash r 0 = (r.next hash).1 ∧
    drawAt hash r (k + 1) = drawAt hash (r.next hash).2 k :=
  ⟨rfl, rfl, rfl, drawAt_succ' hash r k⟩

/-! ### Non-vacuity: 3 of 5 tickets, 2 of 4 tickets counted, nine draws from the seed 0..31 -/

example : ValidRes 5 3 [2, 3, 1] ∧ tbSel 5 [2, 3, 1] = [3, 5, 4] ∧ IsSel 5 3 [3, 5, 4] ∧
    residues 5 [7, 11, 1] = [2, 3, 1] ∧ swapVals 3 1 [3, 5, 4] = [1, 5, 4] := by
  refine ⟨⟨rfl, ?_⟩, by decide, ⟨rfl, by decide, by decide⟩, by decide, by decide⟩
  intro q hq
  match q, hq with
  | 0, _ => decide
  | 1, _ => decide
  | 2, _ => decide

example : 4 * winCount 4 2 1 = 2 * (allRes 4 2).length ∧ winCount 4 2 1 = 6 ∧ winCount 4 2 3 = 6 ∧ (allRes 4 2).length = 12 := by decide

example : draws id { seed := List.range 32, index := 0 } 9 =
    [0x00010203, 0x04050607, 0x08090a0b, 0x0c0d0e0f, 0x10111213, 0x14151617, 0x18191a1b,
     0x1c1d1e1f, 0x00010203] := by decide

end LP.FY

#print axioms LP.FY.residues_bijective
#print axioms LP.FY.equally_likely
#print axioms LP.FY.equally_likely_count
#print axioms LP.FY.win_probability
#print axioms LP.FY.draw_words
#print axioms LP.FY.draws_unfold
