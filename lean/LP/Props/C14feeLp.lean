import LP.Proofs.ReachFL
import LP.Proofs.NftFee
import LP.Props.C14reachG
/-
  C14 / C02 — what follows from "the NFT fee token differs from the launchpad token".  `validCost lp c`
  ends with `req (c.tok != .esdt lp) …` and is called by `init` and `setNftCost`, so the inequality
  holds after any history of `.nft` / `.nftGuar`.  With it the fee is either in the ticket-payment
  slot `(payTok, 0)` (combined ledger) or in a slot of its own (two ledgers; this includes the payment
  token's identifier with a non-zero nonce), and the launchpad-token statements of `C14reachG` lose
  their hypothesis `¬ FeeInLpToken s`; for `.nft` they rest on the invariant `fl_NftLp`
  (LP/Proofs/ReachFL.lean).
-/
namespace LP.FL
open LP LP.FY LP.Props.C09 LP.Props.C14 LP.Props.C01reach LP.Props.C14reach LP.Props.C14reachG LP.Props.AllVariants
open LP.Props.C02 (LpCover)

/-! ### the fee token is never the launchpad token -/

/-- after any history (accepted and rejected transactions alike) of a variant with the NFT hook the
    fee token differs from the launchpad token -/
theorem fl_fee_ne_lp_run (hash : List Nat → List Nat) (v : Variant) (hv : v.hasNft = true)
    (a : InitArgs) (e : Env) (s0 : State) (hi : init v a e = .ok s0) (h : List (Env × Call)) :
    (run hash s0 h).nftCost.tok ≠ .esdt (run hash s0 h).lpTok :=
  fl_run_fee_ne_lp hash hi hv h

/-- the only call that changes the fee is `setNftCost`, which checks the token -/
theorem fl_fee_ne_lp_step (hash : List Nat → List Nat) (s : State) (e : Env) (c : Call) (s' : State)
    (o : Out) (hs : step hash s e c = .ok (s', o)) :
    s'.lpTok = s.lpTok ∧ ((∀ p, c ≠ .setNftCost p) → s'.nftCost = s.nftCost) ∧
    (∀ p, c = .setNftCost p → s'.nftCost = p ∧ p.tok ≠ .esdt s.lpTok) ∧
    (s.nftCost.tok ≠ .esdt s.lpTok → s'.nftCost.tok ≠ .esdt s'.lpTok) := by
  refine ⟨step_lpTok hs, fun hc => nftCost_frame hs hc, ?_, fun h => fl_step_fee_ne_lp hs h⟩
  rintro p rfl
  obtain ⟨h1, h2⟩ := fl_setNftCost_checked hs
  exact ⟨h2, h1⟩

theorem fl_fee_ne_lp_reach (hash : List Nat → List Nat) (s : State) (r : Nat)
    (h : Reach hash .nft s r ∨ ng_Reach hash s r) : s.nftCost.tok ≠ .esdt s.lpTok :=
  h.elim (fun h => (ReachOf.of_nft h).static.feeNe) fun h => (ReachOf.of_nftGuar h).static.feeNe

theorem fl_not_FeeInLpToken_nftGuar (hash : List Nat → List Nat) (s : State) (r : Nat)
    (h : ng_Reach hash s r) : ¬ FeeInLpToken s :=
  fun hh => (ReachOf.of_nftGuar h).static.feeNe hh.1

theorem fl_not_FeeInLpToken_nft (hash : List Nat → List Nat) (s : State) (r : Nat)
    (h : Reach hash .nft s r) : ¬ FeeInLpToken s :=
  fun hh => (ReachOf.of_nft h).static.feeNe hh.1

/-! ### where the fee is kept: three configurations, two ledgers; the fees reconcile -/

/-- the three token configurations of the fee: (i) the ticket-payment slot, (ii) another token,
    (iii) the payment token's identifier with a non-zero nonce -/
theorem fl_fee_config_cases (s : State) :
    (s.nftCost.tok = s.payTok ∧ s.nftCost.nonce = 0) ∨ s.nftCost.tok ≠ s.payTok ∨
    (s.nftCost.tok = s.payTok ∧ s.nftCost.nonce ≠ 0) := by
  by_cases h1 : s.nftCost.tok = s.payTok
  · by_cases h2 : s.nftCost.nonce = 0
    · exact Or.inl ⟨h1, h2⟩
    · exact Or.inr (Or.inr ⟨h1, h2⟩)
  · exact Or.inr (Or.inl h1)

/-- (i) is configuration (b), the combined ledger -/
theorem fl_case_i_iff (s : State) :
    (s.nftCost.tok = s.payTok ∧ s.nftCost.nonce = 0) ↔ FeeInPayToken s := Iff.rfl

/-- (ii) is configuration (a), two separate ledgers -/
theorem fl_case_ii_separate (s : State) (hne : s.nftCost.tok ≠ .esdt s.lpTok)
    (h : s.nftCost.tok ≠ s.payTok) : FeeTokenSeparate s :=
  ⟨fun hh => h hh.1, fun hh => hne hh.1⟩

/-- (iii) is configuration (a) as well: the fee slot `(payTok, nonce)` is not the ticket-payment
    slot `(payTok, 0)` -/
theorem fl_case_iii_separate (s : State) (hne : s.nftCost.tok ≠ .esdt s.lpTok)
    (h : s.nftCost.nonce ≠ 0) : FeeTokenSeparate s :=
  ⟨fun hh => h hh.2, fun hh => hne hh.1⟩

/-- configuration (iii) needs an ESDT: an EGLD fee has nonce 0 (first check of `validCost`) -/
theorem fl_case_iii_esdt_run (hash : List Nat → List Nat) (v : Variant) (hv : v.hasNft = true)
    (a : InitArgs) (e : Env) (s0 : State) (hi : init v a e = .ok s0) (h : List (Env × Call))
    (hn : (run hash s0 h).nftCost.nonce ≠ 0) : ∃ id, (run hash s0 h).nftCost.tok = .esdt id := by
  have hk := fl_run_nonceOk_preserves hash h s0 (fl_init_nonceOk hi hv)
  cases ht : (run hash s0 h).nftCost.tok with
  | egld => exact absurd (hk ht) hn
  | esdt id => exact ⟨id, rfl⟩

theorem fl_case_iii_esdt_reach (hash : List Nat → List Nat) (s : State) (r : Nat)
    (h : Reach hash .nft s r ∨ ng_Reach hash s r) (hn : s.nftCost.nonce ≠ 0) :
    ∃ id, s.nftCost.tok = .esdt id := by
  have hk : fl_FeeNonceOk s := by
    obtain ⟨k1, k2⟩ := nft_reach_inv (hash := hash) (Q := fl_FeeNonceOk) (s := s) (r := r)
      (fun _ _ _ _ hv hi => fl_init_nonceOk hi hv) (fun _ _ _ _ _ hq hs => fl_step_nonceOk hs hq)
    exact h.elim (k1 .nft rfl) k2
  cases ht : s.nftCost.tok with
  | egld => exact absurd (hk ht) hn
  | esdt id => exact ⟨id, rfl⟩

theorem fl_dichotomy (s : State) (hne : s.nftCost.tok ≠ .esdt s.lpTok) :
    (FeeInPayToken s ∧ ¬ FeeTokenSeparate s) ∨ (FeeTokenSeparate s ∧ ¬ FeeInPayToken s) := by
  by_cases h : FeeInPayToken s
  · exact Or.inl ⟨h, fun hh => hh.1 h⟩
  · exact Or.inr ⟨⟨h, fun hh => hne hh.1⟩, h⟩

/-- C14, launchpad with NFT draw: every reachable state is in configuration (b), with the combined
    ledger in the payment slot, or in (a), with the ticket ledger in the payment slot and the fee
    ledger in the fee slot -/
theorem C14_fee_dichotomy_nft (hash : List Nat → List Nat) (s : State) (r : Nat)
    (h : Reach hash .nft s r) :
    (FeeInPayToken s ∧ ¬ FeeTokenSeparate s ∧
      ∃ L : List Nat, Covers s L ∧ (¬ AllDone s → CombinedPre s L) ∧ (AllDone s → CombinedPost s L)) ∨
    (FeeTokenSeparate s ∧ ¬ FeeInPayToken s ∧ feeBal s = feeHeld s ∧
      ∃ L : List Nat, Covers s L ∧ (¬ AllDone s → PayEqPre s L) ∧ (AllDone s → PayEqPost s L)) :=
  (nf_reach_facts h).fee_dichotomy (fl_not_FeeInLpToken_nft hash s r h)

theorem C14_fee_dichotomy_nftGuar (hash : List Nat → List Nat) (s : State) (r : Nat)
    (h : ng_Reach hash s r) :
    (FeeInPayToken s ∧ ¬ FeeTokenSeparate s ∧
      ∃ L : List Nat, Covers s L ∧ (¬ AllDone s → CombinedPre s L) ∧ (AllDone s → CombinedPost s L)) ∨
    (FeeTokenSeparate s ∧ ¬ FeeInPayToken s ∧ feeBal s = feeHeld s ∧
      ∃ L : List Nat, Covers s L ∧ (¬ AllDone s → PayEqPre s L) ∧ (AllDone s → PayEqPost s L)) :=
  (ng_reach_facts h).fee_dichotomy (fl_not_FeeInLpToken_nftGuar hash s r h)

/-- C14, fees reconcile — launchpad with NFT draw, every reachable state, any token configuration:
    the payment-token holdings are the ticket ledger plus `feeInPay s`, which is the whole fee
    liability `feeHeld s` when the fee is paid in the payment slot and zero otherwise (the fee slot
    then holds exactly `feeHeld s`); once everybody has settled and the owner has withdrawn both
    proceeds, the contract holds neither payment nor fee tokens -/
theorem C14_fee_reconciles_nft (hash : List Nat → List Nat) (s : State) (r : Nat)
    (h : Reach hash .nft s r) :
    (∃ L : List Nat, Covers s L ∧
      (¬ AllDone s → s.bal s.payTok 0 = s.price * sumOver s.confirmed L + feeInPay s) ∧
      (AllDone s → s.bal s.payTok 0 = s.claimablePayment + sumOver (refundDue s) L + feeInPay s)) ∧
    (FeeInPayToken s → feeInPay s = feeHeld s ∧ feeBal s = s.bal s.payTok 0) ∧
    (¬ FeeInPayToken s → feeInPay s = 0 ∧ feeBal s = feeHeld s) ∧
    (AllDone s → (∀ a, s.range a = none) → s.claimablePayment = 0 → s.claimableNft = 0 →
      s.bal s.payTok 0 = 0 ∧ feeBal s = 0) :=
  (nf_reach_facts h).fee_reconciles (fl_not_FeeInLpToken_nft hash s r h)

/-- C14, fees reconcile — launchpad-nft-and-guaranteed-tickets, every reachable state, including
    the middle of interrupted `filter` / `select` / `secondary` calls -/
theorem C14_fee_reconciles_nftGuar (hash : List Nat → List Nat) (s : State) (r : Nat)
    (h : ng_Reach hash s r) :
    (∃ L : List Nat, Covers s L ∧
      (¬ AllDone s → s.bal s.payTok 0 = s.price * sumOver s.confirmed L + feeInPay s) ∧
      (AllDone s → s.bal s.payTok 0 = s.claimablePayment + sumOver (refundDue s) L + feeInPay s)) ∧
    (FeeInPayToken s → feeInPay s = feeHeld s ∧ feeBal s = s.bal s.payTok 0) ∧
    (¬ FeeInPayToken s → feeInPay s = 0 ∧ feeBal s = feeHeld s) ∧
    (AllDone s → (∀ a, s.range a = none) → s.claimablePayment = 0 → s.claimableNft = 0 →
      s.bal s.payTok 0 = 0 ∧ feeBal s = 0) :=
  (ng_reach_facts h).fee_reconciles (fl_not_FeeInLpToken_nftGuar hash s r h)

theorem C14_fee_covered_nft (hash : List Nat → List Nat) (s : State) (r : Nat)
    (h : Reach hash .nft s r) : feeHeld s ≤ feeBal s :=
  (nf_reach_facts h).fee_covered (fl_not_FeeInLpToken_nft hash s r h)

theorem C14_fee_covered_nftGuar (hash : List Nat → List Nat) (s : State) (r : Nat)
    (h : ng_Reach hash s r) : feeHeld s ≤ feeBal s :=
  (ng_reach_facts h).fee_covered (fl_not_FeeInLpToken_nftGuar hash s r h)

/-! ### the launchpad-token side of the two contracts with an NFT draw -/

/-- C02, nftGuar: from the deposit on the launchpad tokens held cover every outstanding winner;
    until the guaranteed-ticket sub-step is complete they cover the whole reserve -/
theorem lp_cover_nftGuar (hash : List Nat → List Nat) (s : State) (r : Nat)
    (h : ng_Reach hash s r) (hd : s.deposited = true) :
    LpCover s ∧
    (s.flags.additional = false → (∀ rg, s.op ≠ .additional (.nft rg)) →
      s.perTicket * (s.nrWinning + s.totalGuaranteed) ≤ s.bal (.esdt s.lpTok) 0) :=
  ng_lp_cover hash s r h hd (fl_not_FeeInLpToken_nftGuar hash s r h)

theorem lp_owed_cover_nftGuar (hash : List Nat → List Nat) (s : State) (r : Nat)
    (h : ng_Reach hash s r) (hd : s.deposited = true) :
    s.perTicket * ng_owed s ≤ s.bal (.esdt s.lpTok) 0 := by
  obtain ⟨T0, hwf⟩ := h.wf
  exact hwf.lp (Or.inl (fl_not_FeeInLpToken_nftGuar hash s r h)) hd

/-- nftGuar: the owner can withdraw only the surplus -/
theorem owner_surplus_nftGuar (hash : List Nat → List Nat) (s : State) (r : Nat)
    (h : ng_Reach hash s r) (e : Env) (s' : State) (o : Out)
    (hs : step hash s e .claimPayment = .ok (s', o)) :
    s'.bal (.esdt s'.lpTok) 0 = s'.perTicket * s'.nrWinning ∧ s'.nrWinning = s.nrWinning ∧
    s'.claimablePayment = 0 ∧ s'.claimableNft = 0 :=
  have ⟨k1, k2, k3, k4⟩ := (ReachOf.of_nftGuar h).owner_surplus rfl hs
  ⟨k1, k2, k3, k4 rfl⟩

/-- nftGuar: no launchpad token is left at the end -/
theorem lp_zero_at_end_nftGuar (hash : List Nat → List Nat) (s : State) (r : Nat)
    (h : ng_Reach hash s r) (hd : AllDone s) (hall : ∀ a, s.range a = none)
    (e : Env) (s' : State) (o : Out) (hs : step hash s e .claimPayment = .ok (s', o)) :
    s.nrWinning = 0 ∧ s'.bal (.esdt s'.lpTok) 0 = 0 :=
  (ReachOf.of_nftGuar h).lp_zero_at_end rfl hd hall hs

/-- C02, launchpad with NFT draw: from the deposit on the launchpad tokens held cover every
    outstanding winner (`nrWinning` is the configured number until the filter completes, then `min`
    with the confirmed tickets, and is decremented by every settlement) -/
theorem lp_cover_nft (hash : List Nat → List Nat) (s : State) (r : Nat)
    (h : Reach hash .nft s r) (hd : s.deposited = true) : LpCover s :=
  (fl_reach_NftLp h).cover hd

theorem lp_cover_nft_run (hash : List Nat → List Nat) (a : InitArgs) (e : Env) (s0 : State)
    (hi : init .nft a e = .ok s0) (h : List (Env × Call))
    (hd : (run hash s0 h).deposited = true) : LpCover (run hash s0 h) :=
  (fl_run_NftLp hash hi h).cover hd

/-- why `lp_cover_nft` starts at the deposit: an accepted `confirm` (in any state of any variant)
    finds the deposit made, so before the deposit nothing is confirmed and nothing can be owed -/
theorem lp_deposit_first_nft (hash : List Nat → List Nat) (s : State) (e : Env) (n : Nat)
    (s' : State) (o : Out) (hs : step hash s e (.confirm n) = .ok (s', o)) :
    s.deposited = true := by
  obtain ⟨total, hacc, _⟩ := LP.Props.C07.confirm_effect hash s e n s' o hs
  exact hacc.2.2.2.1

/-- the owner can withdraw only the surplus: an accepted `claimPayment` leaves exactly the
    outstanding winners' launchpad tokens -/
theorem owner_surplus_nft (hash : List Nat → List Nat) (s : State) (r : Nat)
    (h : Reach hash .nft s r) (e : Env) (s' : State) (o : Out)
    (hs : step hash s e .claimPayment = .ok (s', o)) :
    s'.bal (.esdt s'.lpTok) 0 = s'.perTicket * s'.nrWinning ∧ s'.nrWinning = s.nrWinning ∧
    s'.claimablePayment = 0 ∧ s'.claimableNft = 0 :=
  have ⟨k1, k2, k3, k4⟩ := (ReachOf.of_nft h).owner_surplus rfl hs
  ⟨k1, k2, k3, k4 rfl⟩

theorem all_settled_nrWinning_nft (hash : List Nat → List Nat) (s : State) (r : Nat)
    (h : Reach hash .nft s r) (hd : AllDone s) (hall : ∀ a, s.range a = none) :
    s.nrWinning = 0 :=
  (ReachOf.of_nft h).all_settled_nrWinning hd hall

/-- once every participant has settled, the owner's withdrawal leaves no launchpad token -/
theorem lp_zero_at_end_nft (hash : List Nat → List Nat) (s : State) (r : Nat)
    (h : Reach hash .nft s r) (hd : AllDone s) (hall : ∀ a, s.range a = none)
    (e : Env) (s' : State) (o : Out) (hs : step hash s e .claimPayment = .ok (s', o)) :
    s.nrWinning = 0 ∧ s'.bal (.esdt s'.lpTok) 0 = 0 :=
  (ReachOf.of_nft h).lp_zero_at_end rfl hd hall hs

/-- C14, end of the lifecycle (launchpad with NFT draw): everything complete and every participant
    settled, the owner's accepted `claimPayment` leaves no token of any kind in the contract -/
theorem C14_contract_empty_nft (hash : List Nat → List Nat) (s : State) (r : Nat)
    (h : Reach hash .nft s r) (hd : AllDone s) (hall : ∀ a, s.range a = none)
    (e : Env) (hr : r ≤ e.round) (hok : EnvOK e) (s' : State) (o : Out)
    (hs : step hash s e .claimPayment = .ok (s', o)) :
    ∀ t n, s'.bal t n = 0 := by
  have h' : Reach hash .nft s' e.round := .call s r e .claimPayment s' o h hr hok trivial hs
  obtain ⟨_, _, _, _, _, _, hcp, hcn, B, hB⟩ := fl_owner_surplus_step (fl_reach_NftLp h) hs
  have hd' : AllDone s' := by rw [hB]; exact hd
  have hall' : ∀ a, s'.range a = none := by rw [hB]; exact hall
  obtain ⟨_, _, _, hend⟩ := C14_fee_reconciles_nft hash s' e.round h'
  obtain ⟨z1, z2⟩ := hend hd' hall' hcp hcn
  obtain ⟨_, z3⟩ := lp_zero_at_end_nft hash s r h hd hall e s' o hs
  obtain ⟨T0, hwf⟩ := h'.nf
  have hside := hwf.side
  intro t n
  by_cases c1 : t = s'.payTok ∧ n = 0
  · rw [c1.1, c1.2]; exact z1
  · by_cases c2 : t = .esdt s'.lpTok ∧ n = 0
    · rw [c2.1, c2.2]; exact z3
    · by_cases c3 : t = s'.nftCost.tok ∧ n = s'.nftCost.nonce
      · rw [c3.1, c3.2]; exact z2
      · exact hside.balOther t n c1 c2 c3

/-! Non-vacuity on the histories `n0 … n15` of `C14reach` and `g0 … g18` of `C14reachG`. -/

/-- a fee in the launchpad token (`lpTok = 1`) is rejected at deployment and by `setNftCost` -/
example :
    isOk (init .nft { nArgs with nftCost := ⟨.esdt 1, 0, 3⟩ } { caller := 1, round := 0 }) = false ∧
    isOk (init .nftGuar { gArgs with nftCost := ⟨.esdt 1, 7, 3⟩ } { caller := 1, round := 0 }) = false ∧
    isOk (step id n0 { caller := 1, round := 1 } (.setNftCost ⟨.esdt 1, 0, 3⟩)) = false ∧
    isOk (step id n0 { caller := 1, round := 1 } (.setNftCost ⟨.esdt 9, 0, 3⟩)) = true := by
  decide +kernel

/-- a history whose second call tries to move the fee into the launchpad token (rejected) and whose
    third moves it to another token -/
example : (run id n0 [({ caller := 1, round := 1 }, .addTickets [(7, 2), (8, 1)]),
      ({ caller := 1, round := 1 }, .setNftCost ⟨.esdt 1, 0, 3⟩),
      ({ caller := 1, round := 2 }, .setNftCost ⟨.esdt 9, 4, 3⟩)]).nftCost.tok ≠ .esdt 1 :=
  fl_fee_ne_lp_run id .nft rfl nArgs { caller := 1, round := 0 } n0 rfl _

example : (run id n0 [({ caller := 1, round := 1 }, .addTickets [(7, 2), (8, 1)]),
      ({ caller := 1, round := 1 }, .setNftCost ⟨.esdt 1, 0, 3⟩),
      ({ caller := 1, round := 2 }, .setNftCost ⟨.esdt 9, 4, 3⟩)]).nftCost = ⟨.esdt 9, 4, 3⟩ := by
  decide +kernel

/-- configuration (iii) is reachable -/
example : ∃ s, Reach id .nft s 0 ∧ s.nftCost.tok = s.payTok ∧ s.nftCost.nonce ≠ 0 ∧
    FeeTokenSeparate s ∧ ¬ FeeInPayToken s :=
  ⟨_, Reach.init { nArgs with payTok := .esdt 2, nftCost := ⟨.esdt 2, 7, 500⟩ }
      { caller := 1, round := 0 } _ rfl, rfl, by decide, by constructor <;> decide, by decide⟩

/-- configuration (b) in `n12` -/
example : FeeInPayToken n12 ∧ AllDone n12 ∧ feeInPay n12 = feeHeld n12 ∧ feeHeld n12 = 6 ∧
    ∃ L : List Nat, Covers n12 L ∧
      n12.bal n12.payTok 0 = n12.claimablePayment + sumOver (refundDue n12) L + feeInPay n12 := by
  obtain ⟨⟨L, h1, _, h3⟩, h4, _, _⟩ := C14_fee_reconciles_nft id n12 14 n12_reach
  exact ⟨n12_fee, n12_done, (h4 n12_fee).1, by decide +kernel, L, h1, h3 n12_done⟩

theorem fl_cpState_range (s : State) (B : Bal) (cp cn : Nat) :
    (nf_cpState s B cp cn).range = s.range := rfl

theorem fl_claimState_range (s : State) (a : Nat) (r : Range) (P W : List Nat) (B : Bal) :
    (nf_claimState s a r P W B).range = upd s.range a none := rfl

/-- both participants have settled in `n15` -/
theorem fl_n15_ranges : ∀ a, n15.range a = none := by
  intro a
  match a with
  | 0 | 1 | 2 | 3 | 4 | 5 | 6 | 7 | 8 => decide +kernel
  | a + 9 =>
    obtain ⟨o1, h1'⟩ : ∃ o, step id n12 _ _ = .ok (n13, o) := step_stOf n13_ok n12
    obtain ⟨o2, h2'⟩ : ∃ o, step id n13 _ _ = .ok (n14, o) := step_stOf n14_ok n13
    obtain ⟨o3, h3'⟩ : ∃ o, step id n14 _ _ = .ok (n15, o) := step_stOf n15_ok n14
    obtain ⟨r1, _, _, e1⟩ := nf_claim_shape id n12 _ n13 o1 (by decide +kernel) h1'
    obtain ⟨_, _, _, _, _, _, _, _, B, e2⟩ := fl_owner_surplus_step (fl_reach_NftLp n13_reach) h2'
    obtain ⟨r3, _, _, e3⟩ := nf_claim_shape id n14 _ n15 o3 (by decide +kernel) h3'
    have q1 : n13.range (a + 9) = n12.range (a + 9) := by
      rw [e1, fl_claimState_range]
      exact upd_other _ _ _ _ (by show a + 9 ≠ 7; omega)
    have q2 : n14.range (a + 9) = n13.range (a + 9) := by rw [e2, fl_cpState_range]
    have q3 : n15.range (a + 9) = n14.range (a + 9) := by
      rw [e3, fl_claimState_range]
      exact upd_other _ _ _ _ (by show a + 9 ≠ 8; omega)
    rw [q3, q2, q1]
    rfl

/-- the premises of the last part of `C14_fee_reconciles_nft` hold in `n15` -/
example : n15.bal n15.payTok 0 = 0 ∧ feeBal n15 = 0 := by
  obtain ⟨_, _, _, h⟩ := C14_fee_reconciles_nft id n15 17 n15_reach
  exact h (by unfold AllDone; decide +kernel) fl_n15_ranges (by decide +kernel) (by decide +kernel)

/-- 5 launchpad tokens cover the one outstanding winner in `n12`; the owner's withdrawal
    `n13 → n14` leaves exactly what the outstanding winners are owed -/
example : LpCover n12 ∧ n12.perTicket * n12.nrWinning = 5 ∧ n12.bal (.esdt 1) 0 = 5 :=
  ⟨lp_cover_nft id n12 14 n12_reach (by decide +kernel), by decide +kernel⟩

example : n14.bal (.esdt n14.lpTok) 0 = n14.perTicket * n14.nrWinning ∧ n14.claimableNft = 0 := by
  obtain ⟨o2, h2'⟩ := step_stOf n14_ok n13
  obtain ⟨k1, _, _, k4⟩ := owner_surplus_nft id n13 15 n13_reach _ n14 o2 h2'
  exact ⟨k1, k4⟩

/-- after `n15` one more (empty) owner withdrawal is accepted and the contract holds nothing -/
example : ∃ s' o, step id n15 { caller := 1, round := 18 } .claimPayment = .ok (s', o) ∧
    ∀ t n, s'.bal t n = 0 := by
  obtain ⟨o, h⟩ := step_stOf (x := step id n15 { caller := 1, round := 18 } .claimPayment)
    (by decide +kernel) n15
  exact ⟨_, o, h, C14_contract_empty_nft id n15 17 n15_reach (by unfold AllDone; decide +kernel) fl_n15_ranges
    { caller := 1, round := 18 } (by decide) (Or.inl rfl) _ o h⟩

/-- nftGuar in the middle of the NFT draw (`g14`) and after it (`g15`) -/
example : (∃ L : List Nat, Covers g14 L ∧
      g14.bal g14.payTok 0 = g14.price * sumOver g14.confirmed L + feeInPay g14) ∧
    feeInPay g15 = feeHeld g15 ∧ LpCover g15 ∧ g15.perTicket * g15.nrWinning = 15 := by
  obtain ⟨⟨L, h1, h2, _⟩, _⟩ := C14_fee_reconciles_nftGuar id g14 14 (ng_Reach_iff.mpr ⟨_, g14_reach⟩)
  obtain ⟨_, k2, _⟩ := C14_fee_reconciles_nftGuar id g15 14 (ng_Reach_iff.mpr ⟨_, g15_reach⟩)
  exact ⟨⟨L, h1, h2 (by unfold AllDone; decide +kernel)⟩, (k2 (by decide +kernel)).1,
    (lp_cover_nftGuar id g15 14 (ng_Reach_iff.mpr ⟨_, g15_reach⟩) (by decide +kernel)).1,
    by decide +kernel⟩

/-- nftGuar: the owner's withdrawal `g16 → g17` -/
example : g17.bal (.esdt g17.lpTok) 0 = g17.perTicket * g17.nrWinning := by
  obtain ⟨o, h'⟩ := step_stOf g17_ok g16
  have hr : ng_ReachA id gArgs g16 15 := callOk _ _ g15_reach (by decide) (Or.inl rfl) trivial g16_ok
  exact (owner_surplus_nftGuar id g16 15 (ng_Reach_iff.mpr ⟨_, hr⟩) _ g17 o h').1

end LP.FL

#print axioms LP.FL.fl_fee_ne_lp_run
#print axioms LP.FL.fl_fee_ne_lp_step
#print axioms LP.FL.fl_fee_ne_lp_reach
#print axioms LP.FL.fl_not_FeeInLpToken_nftGuar
#print axioms LP.FL.fl_not_FeeInLpToken_nft
#print axioms LP.FL.fl_fee_config_cases
#print axioms LP.FL.fl_case_ii_separate
#print axioms LP.FL.fl_case_iii_separate
#print axioms LP.FL.fl_case_iii_esdt_run
#print axioms LP.FL.fl_case_iii_esdt_reach
#print axioms LP.FL.fl_dichotomy
#print axioms LP.FL.C14_fee_dichotomy_nft
#print axioms LP.FL.C14_fee_dichotomy_nftGuar
#print axioms LP.FL.C14_fee_reconciles_nft
#print axioms LP.FL.C14_fee_reconciles_nftGuar
#print axioms LP.FL.C14_fee_covered_nft
#print axioms LP.FL.C14_fee_covered_nftGuar
#print axioms LP.FL.lp_cover_nftGuar
#print axioms LP.FL.lp_owed_cover_nftGuar
#print axioms LP.FL.owner_surplus_nftGuar
#print axioms LP.FL.lp_zero_at_end_nftGuar
#print axioms LP.FL.lp_cover_nft
#print axioms LP.FL.lp_cover_nft_run
#print axioms LP.FL.lp_deposit_first_nft
#print axioms LP.FL.owner_surplus_nft
#print axioms LP.FL.all_settled_nrWinning_nft
#print axioms LP.FL.lp_zero_at_end_nft
#print axioms LP.FL.C14_contract_empty_nft
#print axioms LP.FL.fl_n15_ranges
#print axioms LP.fl_step_fee_ne_lp
#print axioms LP.fl_run_fee_ne_lp
#print axioms LP.fl_step_NftLp
#print axioms LP.fl_run_NftLp
#print axioms LP.fl_reach_NftLp
#print axioms LP.fl_owner_surplus_step

#print axioms LP.FL.fl_case_i_iff
#print axioms LP.FL.fl_cpState_range
#print axioms LP.FL.fl_claimState_range
