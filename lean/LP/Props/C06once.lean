import LP.Proofs.Once
/-
  C06, order half — filter, then base selection, then the variant's additional step, each exactly once
  and in that order; the contract never returns to an earlier phase; `conf < sel ≤ claim` always.
  Everything is stated along `run` from the deployment of any of the eight variants, rejected
  transactions included and with no side condition (`EnvOK`, `CallOK`) on them; "at most once, in this
  order" holds from any start state.  The steps are read off the log `runLog` of accepted
  transactions, where "completed" is `o.ret = [0]` (`statusRet .completed = 0`; an interrupted call
  returns `[1]`).
-/
namespace LP.Props.C06
open LP LP.Props.C17

theorem noAdditionalStep_iff (v : Variant) : v.noAdditionalStep = true ↔ (v = .base ∨ v = .locked) := by
  cases v <;> simp [Variant.noAdditionalStep]

theorem flags_never_reset (hash : List Nat → List Nat) (s : State) (p : Hist) :
    Flags.gain4 s.flags (run hash s p).flags :=
  run_induct hash (fun x => Flags.gain4 s.flags x.flags)
    (fun _ _ _ _ _ hq hst => Flags.gain4_trans hq (step_flags_gain4 hst)) p s (Flags.gain4_refl _)

/-- C06, order of the flags after any history from deployment: `selected → filtered`;
    `additional → selected` for the six variants with an additional step, while base/locked have
    `additional` preset at deployment; no flag is reset by a continuation `q` -/
theorem flags_order (hash : List Nat → List Nat) {v : Variant} {a : InitArgs} {e0 : Env} {s0 : State}
    (hinit : init v a e0 = .ok s0) (p : Hist) :
    let s := run hash s0 p
    s.variant = v ∧
    (s.flags.selected = true → s.flags.filtered = true) ∧
    (v ≠ .base → v ≠ .locked → s.flags.additional = true → s.flags.selected = true) ∧
    ((v = .base ∨ v = .locked) → s.flags.additional = true) ∧
    (∀ q : Hist, Flags.gain4 s.flags (run hash s0 (p ++ q)).flags) := by
  intro s
  have hp : PhaseOK s := run_phaseOK hash p s0 (init_phaseOK hinit)
  have hv : s.variant = v := (run_variant hash p s0).trans (congrArg State.variant (init_ok hinit).2)
  refine ⟨hv, hp.sel_fil, ?_, ?_, ?_⟩
  · intro h1 h2
    refine hp.add_sel ?_
    rw [hv]
    cases hn : v.noAdditionalStep with
    | false => rfl
    | true => rcases (noAdditionalStep_iff v).1 hn with h | h <;> contradiction
  · intro h
    exact hp.preset (by rw [hv]; exact (noAdditionalStep_iff v).2 h)
  · intro q
    rw [run_append]
    exact flags_never_reset hash s q

/-- the log is faithful: its entries are transactions of the history, in order, each accepted in
    the state the earlier entries lead to, and replaying only them reproduces log and final state
    (that no accepted transaction is left out is the definition of `runLog`, not stated here) -/
theorem runLog_faithful (hash : List Nat → List Nat) (s : State) (p : Hist) :
    LogChain hash s (runLog hash s p) (run hash s p) ∧
    ((runLog hash s p).map Entry.tx).Sublist p ∧
    runLog hash s ((runLog hash s p).map Entry.tx) = runLog hash s p ∧
    run hash s ((runLog hash s p).map Entry.tx) = run hash s p :=
  ⟨runLog_chain hash p s, runLog_sublist hash p s, (runLog_chain hash p s).replay.1,
    (runLog_chain hash p s).replay.2⟩

/-- C06, any start state: the log of a history holds at most one completed `filter`, `select` and
    additional step (`distribute` / `selectNft` / `secondary`), in this order; filter before
    additional step needs `selected → filtered` in the start state (counterexample `u0` below) -/
theorem completed_once (hash : List Nat → List Nat) (s : State) (p : Hist) :
    let l := runLog hash s p
    l.countP Entry.doneFilter ≤ 1 ∧ l.countP Entry.doneSelect ≤ 1 ∧ l.countP Entry.doneAdditional ≤ 1 ∧
    (∀ (i j : Nat) (x y : Entry), l[i]? = some x → l[j]? = some y → x.doneFilter = true → y.doneSelect = true → i < j) ∧
    (∀ (i j : Nat) (x y : Entry), l[i]? = some x → l[j]? = some y → x.doneSelect = true → y.doneAdditional = true → i < j) ∧
    ((s.flags.selected = true → s.flags.filtered = true) →
      ∀ (i j : Nat) (x y : Entry), l[i]? = some x → l[j]? = some y → x.doneFilter = true → y.doneAdditional = true → i < j) := by
  intro l
  have hc : LogChain hash s l (run hash s p) := runLog_chain hash p s
  exact ⟨(filterStage hash).count_le_one hc, (selectStage hash).count_le_one hc,
    (additionalStage hash).count_le_one hc,
    fun _ _ _ _ => hc.filter_before_select, fun _ _ _ _ => hc.select_before_additional,
    fun hord _ _ _ _ => hc.filter_before_additional hord⟩

/-- C06, from deployment: the flags record exactly which steps have completed; a completed `select`
    is preceded by a completed `filter`, a completed additional step by a completed `select`;
    base/locked never run an additional step; an accepted `claim` / `claimPayment` comes after all
    the completed steps of the variant and no selection step completes after it -/
theorem completed_once_from_init (hash : List Nat → List Nat) {v : Variant} {a : InitArgs} {e0 : Env}
    {s0 : State} (hinit : init v a e0 = .ok s0) (p : Hist) :
    let l := runLog hash s0 p
    let s := run hash s0 p
    s.flags.filtered = l.any Entry.doneFilter ∧
    s.flags.selected = l.any Entry.doneSelect ∧
    s.flags.additional = (v.noAdditionalStep || l.any Entry.doneAdditional) ∧
    (v.noAdditionalStep = true → ∀ x ∈ l, x.2.1.isAdditional = false) ∧
    (∀ (j : Nat) (y : Entry), l[j]? = some y → y.doneSelect = true →
      ∃ (i : Nat) (x : Entry), i < j ∧ l[i]? = some x ∧ x.doneFilter = true) ∧
    (∀ (j : Nat) (y : Entry), l[j]? = some y → y.doneAdditional = true →
      ∃ (i : Nat) (x : Entry), i < j ∧ l[i]? = some x ∧ x.doneSelect = true) ∧
    (∀ (j : Nat) (y : Entry), l[j]? = some y → y.isClaim = true →
      (∃ (i : Nat) (x : Entry), i < j ∧ l[i]? = some x ∧ x.doneFilter = true) ∧
      (∃ (i : Nat) (x : Entry), i < j ∧ l[i]? = some x ∧ x.doneSelect = true) ∧
      (v.noAdditionalStep = false → ∃ (i : Nat) (x : Entry), i < j ∧ l[i]? = some x ∧ x.doneAdditional = true) ∧
      (∀ (k : Nat) (z : Entry), j < k → l[k]? = some z →
        z.doneFilter = false ∧ z.doneSelect = false ∧ z.doneAdditional = false)) := by
  intro l s
  have hp0 : PhaseOK s0 := init_phaseOK hinit
  obtain ⟨_, rfl⟩ := init_ok hinit
  have hc : LogChain hash (initState v a e0) l s := runLog_chain hash p _
  refine ⟨(filterStage hash).flag_eq hc, (selectStage hash).flag_eq hc,
    (additionalStage hash).flag_eq hc,
    fun hn x hx => Bool.eq_false_iff.2 ((additionalStage hash).no_call hc hn x hx), ?_, ?_, ?_⟩
  · intro j y hj hy
    obtain ⟨s1, s2, h1, h2, _⟩ := hc.cut hj
    exact set_earlier ((filterStage hash).flag_eq h1) rfl (doneSelect_needs hy h2).1
  · intro j y hj hy
    obtain ⟨s1, s2, h1, h2, _⟩ := hc.cut hj
    exact set_earlier ((selectStage hash).flag_eq h1) rfl (doneAdditional_needs hy h2).1
  · intro j y hj hy
    obtain ⟨s1, s2, h1, h2, h3⟩ := hc.cut hj
    have hp1 : PhaseOK s1 := h1.phaseOK hp0
    obtain ⟨g1, g2⟩ := claim_needs (isClaim_call hy) hp1.claimed h2
    have g0 := hp1.sel_fil g1
    have hg := step_flags_gain4 h2
    refine ⟨set_earlier ((filterStage hash).flag_eq h1) rfl g0,
      set_earlier ((selectStage hash).flag_eq h1) rfl g1,
      fun hn => set_earlier ((additionalStage hash).flag_eq h1) hn g2, ?_⟩
    intro k z hk hz
    have hm := mem_drop_of_index hz hk
    exact ⟨(filterStage hash).no_done h3 (hg.2.1 g0) z hm, (selectStage hash).no_done h3 (hg.2.2.1 g1) z hm,
      (additionalStage hash).no_done h3 (hg.2.2.2 g2) z hm⟩

/-- C06, timeline: after any history `p` from deployment `conf < sel ≤ claim`, and a start round
    that has been reached (`≤ r`) is unchanged by any continuation `q` with non-decreasing
    rounds `≥ r` -/
theorem timeline_always (hash : List Nat → List Nat) {v : Variant} {a : InitArgs} {e0 : Env} {s0 : State}
    (hinit : init v a e0 = .ok s0) (p q : Hist) (r : Nat) (hq : RoundsFrom r q) :
    let s := run hash s0 p
    let s' := run hash s0 (p ++ q)
    validPeriods s.cfg = true ∧ (s.cfg.conf < s.cfg.sel ∧ s.cfg.sel ≤ s.cfg.claim) ∧
    (s.cfg.conf ≤ r → s'.cfg.conf = s.cfg.conf) ∧
    (s.cfg.sel ≤ r → s'.cfg.sel = s.cfg.sel) ∧
    (s.cfg.claim ≤ r → s'.cfg.claim = s.cfg.claim) := by
  intro s s'
  have hv : validPeriods s.cfg = true := be_validPeriods_run hash s0 p (be_validPeriods_init hinit)
  have hs' : s' = run hash s q := run_append hash p q s0
  refine ⟨hv, (validPeriods_iff _).1 hv, ?_, ?_, ?_⟩
  · intro h; rw [hs']; exact conf_frozen_along hash q s r h hq
  · intro h; rw [hs']; exact sel_frozen_along hash q s r h hq
  · intro h; rw [hs']; exact claim_frozen_along hash q s r h hq

/-- the freezing half needs no deployment: from any start state a history with non-decreasing
    rounds `≥ r` does not change a start round that `r` has reached -/
theorem reached_start_frozen_run (hash : List Nat → List Nat) (s : State) (q : Hist) (r : Nat)
    (hq : RoundsFrom r q) :
    (s.cfg.conf ≤ r → (run hash s q).cfg.conf = s.cfg.conf) ∧
    (s.cfg.sel ≤ r → (run hash s q).cfg.sel = s.cfg.sel) ∧
    (s.cfg.claim ≤ r → (run hash s q).cfg.claim = s.cfg.claim) :=
  ⟨fun h => conf_frozen_along hash q s r h hq, fun h => sel_frozen_along hash q s r h hq,
   fun h => claim_frozen_along hash q s r h hq⟩

/-- C06 along one history `p ++ (e, c) :: q ++ (e', c') :: rest` from deployment with non-decreasing
    rounds, `s1` / `s2` the states the earlier / later transaction meets (accepted or not): the
    stage seen by the later one is not earlier; no flag is reset; in both states the flags are
    ordered (`PhaseOK`) and `conf < sel ≤ claim`; a start round reached at `(e, c)` is unchanged
    at `(e', c')`; each selection step completes at most once in the whole log -/
theorem phase_never_returns (hash : List Nat → List Nat) {v : Variant} {a : InitArgs} {e0 : Env}
    {s0 : State} (hinit : init v a e0 = .ok s0) (r0 : Nat)
    (p q rest : Hist) (e e' : Env) (c c' : Call)
    (hr : RoundsFrom r0 (p ++ (e, c) :: (q ++ (e', c') :: rest))) :
    let s1 := run hash s0 p
    let s2 := run hash s0 (p ++ (e, c) :: q)
    let l := runLog hash s0 (p ++ (e, c) :: (q ++ (e', c') :: rest))
    (s1.stage e).toNat ≤ (s2.stage e').toNat ∧
    Flags.gain4 s1.flags s2.flags ∧ s1.flags.phase ≤ s2.flags.phase ∧
    PhaseOK s1 ∧ PhaseOK s2 ∧
    validPeriods s1.cfg = true ∧ validPeriods s2.cfg = true ∧
    (s1.cfg.conf ≤ e.round → s2.cfg.conf = s1.cfg.conf) ∧
    (s1.cfg.sel ≤ e.round → s2.cfg.sel = s1.cfg.sel) ∧
    (s1.cfg.claim ≤ e.round → s2.cfg.claim = s1.cfg.claim) ∧
    l.countP Entry.doneFilter ≤ 1 ∧ l.countP Entry.doneSelect ≤ 1 ∧ l.countP Entry.doneAdditional ≤ 1 := by
  intro s1 s2 l
  have hs2 : s2 = run hash s1 ((e, c) :: q) := run_append hash p ((e, c) :: q) s0
  have hg : Flags.gain4 s1.flags s2.flags := by rw [hs2]; exact flags_never_reset hash s1 _
  have hp0 := init_phaseOK hinit
  have hv0 := be_validPeriods_init hinit
  have hr1 : RoundsFrom r0 ((e, c) :: (q ++ (e', c') :: rest)) := RoundsFrom.append_right hr
  have hr2 : RoundsFrom e.round ((e, c) :: q) := ⟨Nat.le_refl _, RoundsFrom.append_left hr1.2⟩
  obtain ⟨k1, k2, k3, _⟩ := completed_once hash s0 (p ++ (e, c) :: (q ++ (e', c') :: rest))
  refine ⟨stage_never_decreases_in_history hash s0 r0 p q rest e e' c c' hr, hg, hg.phase_le,
    run_phaseOK hash p s0 hp0, run_phaseOK hash _ s0 hp0,
    be_validPeriods_run hash s0 p hv0, be_validPeriods_run hash s0 _ hv0, ?_, ?_, ?_, k1, k2, k3⟩
  · intro h; rw [hs2]; exact conf_frozen_along hash _ s1 e.round h hr2
  · intro h; rw [hs2]; exact sel_frozen_along hash _ s1 e.round h hr2
  · intro h; rw [hs2]; exact claim_frozen_along hash _ s1 e.round h hr2

/-! Non-vacuity: three histories from deployment, hash = `id`. -/

def bArgs : InitArgs :=
  { lpTok := 1, perTicket := 5, payTok := .egld, price := 10, nrWinning := 1, conf := 5, sel := 10, claim := 15 }
def bEnv : Env := { caller := 1, round := 0 }

/-- base launchpad: a too-early filter, a select before the filter, a second filter and a second
    select are rejected; the filter is interrupted once (`budget := some 0`) -/
def b0 : State := match init .base bArgs bEnv with | .ok s => s | .error _ => default
def bHist : Hist :=
  [ ({ caller := 1, round := 1 }, .addTickets [(7, 2), (8, 1)]),
    ({ caller := 1, round := 2, esdts := [⟨.esdt 1, 0, 5⟩] }, .deposit),
    ({ caller := 9, round := 3 }, .filter),
    ({ caller := 7, round := 5, egld := 20 }, .confirm 2),
    ({ caller := 8, round := 6, egld := 10 }, .confirm 1),
    ({ caller := 9, round := 10 }, .select),
    ({ caller := 9, round := 10, budget := some 0 }, .filter),
    ({ caller := 9, round := 11 }, .filter),
    ({ caller := 9, round := 11 }, .filter),
    ({ caller := 9, round := 12 }, .select),
    ({ caller := 9, round := 12 }, .select),
    ({ caller := 7, round := 15 }, .claim),
    ({ caller := 1, round := 16 }, .claimPayment) ]

theorem b0_init : init .base bArgs bEnv = .ok b0 := rfl

/-- 9 of the 13 transactions are accepted -/
example : (runLog id b0 bHist).map (fun x => x.2.2.ret) = [[], [], [], [], [1], [0], [0], [], []] ∧
    (runLog id b0 bHist).map Entry.doneFilter = [false, false, false, false, false, true, false, false, false] ∧
    (runLog id b0 bHist).map Entry.doneSelect = [false, false, false, false, false, false, true, false, false] ∧
    (runLog id b0 bHist).map Entry.isClaim = [false, false, false, false, false, false, false, true, true] ∧
    (runLog id b0 bHist).countP Entry.doneAdditional = 0 ∧
    (run id b0 bHist).flags = { started := true, filtered := true, selected := true, additional := true } := by decide +kernel

example : RoundsFrom 0 bHist := by simp [RoundsFrom, bHist]

/-- the claim at position 7 has the completed select (6) before it -/
example : ∃ (i : Nat) (x : Entry), i < 7 ∧ (runLog id b0 bHist)[i]? = some x ∧ x.doneSelect = true := by
  obtain ⟨y, hy⟩ : ∃ y, (runLog id b0 bHist)[7]? = some y :=
    Option.isSome_iff_exists.1 (by decide +kernel)
  have hcl : y.isClaim = true := by
    have : ((runLog id b0 bHist).map Entry.isClaim)[7]? = some true := by decide +kernel
    rw [List.getElem?_map, hy] at this
    simpa using this
  exact ((completed_once_from_init id b0_init bHist).2.2.2.2.2.2 7 y hy hcl).2.1

def nArgs : InitArgs :=
  { lpTok := 1, perTicket := 5, payTok := .egld, price := 10, nrWinning := 1, conf := 5, sel := 10, claim := 15,
    nftCost := ⟨.egld, 0, 3⟩, availNfts := 1 }

/-- launchpad-with-nft: `selectNft` before the base selection and a claim before the additional step
    are rejected; `selectNft` is interrupted once, completes once, a third call is rejected -/
def n0 : State := match init .nft nArgs bEnv with | .ok s => s | .error _ => default
def nHist : Hist :=
  [ ({ caller := 1, round := 1 }, .addTickets [(7, 2), (8, 1)]),
    ({ caller := 1, round := 1 }, .sftSetup),
    ({ caller := 1, round := 2, esdts := [⟨.esdt 1, 0, 5⟩] }, .deposit),
    ({ caller := 7, round := 5, egld := 20 }, .confirm 2),
    ({ caller := 7, round := 6, egld := 3 }, .confirmNft),
    ({ caller := 9, round := 10 }, .selectNft),
    ({ caller := 9, round := 10 }, .filter),
    ({ caller := 9, round := 11 }, .select),
    ({ caller := 7, round := 15 }, .claim),
    ({ caller := 9, round := 16, budget := some 0 }, .selectNft),
    ({ caller := 9, round := 16 }, .selectNft),
    ({ caller := 9, round := 16 }, .selectNft),
    ({ caller := 7, round := 17 }, .claim),
    ({ caller := 1, round := 18 }, .claimPayment) ]

theorem n0_init : init .nft nArgs bEnv = .ok n0 := rfl

example : (runLog id n0 nHist).map (fun x => x.2.2.ret) = [[], [], [], [], [], [0], [0], [1], [0], [], []] ∧
    (runLog id n0 nHist).map Entry.doneAdditional =
      [false, false, false, false, false, false, false, false, true, false, false] ∧
    (runLog id n0 nHist).map Entry.isClaim =
      [false, false, false, false, false, false, false, false, false, true, true] ∧
    (run id n0 (nHist.take 8)).flags = { started := true, filtered := true, selected := true, additional := false } ∧
    (run id n0 nHist).flags = { started := true, filtered := true, selected := true, additional := true } := by decide +kernel

def gArgs : InitArgs :=
  { lpTok := 1, perTicket := 5, payTok := .egld, price := 10, nrWinning := 3, conf := 5, sel := 10, claim := 15 }

/-- launchpad-guaranteed-tickets (vesting variant): two wrong deposits are rejected; participant 7
    calls `claim` twice — the second call is the "already settled" path that `PhaseOK.claimed` covers -/
def g0 : State := match init .guarV1 gArgs bEnv with | .ok s => s | .error _ => default
def gHist : Hist :=
  [ ({ caller := 1, round := 1 }, .addTicketsV1 [(7, 2, 0, false), (8, 1, 0, false)]),
    ({ caller := 1, round := 2, esdts := [⟨.esdt 1, 0, 5⟩] }, .deposit),
    ({ caller := 1, round := 2, esdts := [⟨.esdt 1, 0, 10⟩] }, .deposit),
    ({ caller := 1, round := 2, esdts := [⟨.esdt 1, 0, 15⟩] }, .deposit),
    ({ caller := 7, round := 5, egld := 20 }, .confirm 2),
    ({ caller := 9, round := 10 }, .filter),
    ({ caller := 9, round := 11 }, .select),
    ({ caller := 9, round := 12 }, .distribute),
    ({ caller := 7, round := 15 }, .claim),
    ({ caller := 7, round := 15 }, .claim),
    ({ caller := 1, round := 16 }, .claimPayment) ]

theorem g0_init : init .guarV1 gArgs bEnv = .ok g0 := rfl

example : (runLog id g0 gHist).map (fun x => x.2.2.ret) = [[], [], [], [0], [0], [0], [], [], []] ∧
    (runLog id g0 gHist).map Entry.doneAdditional = [false, false, false, false, false, true, false, false, false] ∧
    (runLog id g0 gHist).map Entry.isClaim = [false, false, false, false, false, false, true, true, true] ∧
    (run id g0 gHist).claimed 7 = true ∧
    (run id g0 gHist).flags = { started := true, filtered := true, selected := true, additional := true } := by decide +kernel

/-- base history: the stage goes from WinnerSelection (2) at the completed filter to Claim (3) at
    the owner's withdrawal -/
example : RoundsFrom 0 (bHist.take 7 ++ ({ caller := 9, round := 11 }, Call.filter) ::
      ((bHist.drop 8).take 4 ++ ({ caller := 1, round := 16 }, Call.claimPayment) :: [])) ∧
    bHist = bHist.take 7 ++ ({ caller := 9, round := 11 }, Call.filter) ::
      ((bHist.drop 8).take 4 ++ ({ caller := 1, round := 16 }, Call.claimPayment) :: []) ∧
    ((run id b0 (bHist.take 7)).stage { caller := 9, round := 11 }).toNat = 2 ∧
    ((run id b0 (bHist.take 7 ++ ({ caller := 9, round := 11 }, Call.filter) :: (bHist.drop 8).take 4)).stage
      { caller := 1, round := 16 }).toNat = 3 ∧
    (run id b0 (bHist.take 7)).cfg.sel ≤ 11 ∧ (run id b0 (bHist.take 7)).flags.phase = 1 ∧
    (run id b0 bHist).flags.phase = 3 := by
  exact ⟨by simp [RoundsFrom, bHist], by simp [bHist], by decide +kernel⟩

/-- the hypothesis `selected → filtered` of the last clause of `completed_once` is needed: from `u0`
    (unreachable: the nft history after the base selection, `filtered` cleared by hand) the
    additional step completes first and the filter after it -/
def u0 : State := { run id n0 (nHist.take 8) with flags := { started := true, selected := true } }
def uHist : Hist := [ ({ caller := 9, round := 12 }, .selectNft), ({ caller := 9, round := 13 }, .filter) ]

example : (runLog id u0 uHist).map Entry.doneAdditional = [true, false] ∧
    (runLog id u0 uHist).map Entry.doneFilter = [false, true] ∧ ¬ PhaseOK u0 ∧ PhaseOK b0 :=
  ⟨by decide +kernel, by decide +kernel, fun h => Bool.noConfusion (h.sel_fil rfl),
    init_phaseOK b0_init⟩

example : (run id n0 (nHist.take 8)).flags.additional = true → (run id n0 (nHist.take 8)).flags.selected = true :=
  (flags_order id n0_init (nHist.take 8)).2.2.1 (by decide) (by decide)

/-- the selection start round 10 is reached after the first 7 transactions and unchanged by the
    next 6 -/
example := (timeline_always id b0_init (bHist.take 7) ((bHist.drop 7).take 6) 10
    (by simp [RoundsFrom, bHist])).2.2.2.1 (by decide +kernel)

example : (run id b0 (bHist.take 7)).cfg.sel = 10 ∧ (run id b0 bHist).cfg.sel = 10 := by decide +kernel

example : ((run id b0 (bHist.take 7)).stage { caller := 9, round := 11 }).toNat ≤
    ((run id b0 (bHist.take 7 ++ ({ caller := 9, round := 11 }, Call.filter) :: (bHist.drop 8).take 4)).stage
      { caller := 1, round := 16 }).toNat :=
  (phase_never_returns id b0_init 0 (bHist.take 7) ((bHist.drop 8).take 4) [] { caller := 9, round := 11 }
    { caller := 1, round := 16 } .filter .claimPayment (by simp [RoundsFrom, bHist])).1

end LP.Props.C06

#print axioms LP.Props.C06.flags_never_reset
#print axioms LP.Props.C06.flags_order
#print axioms LP.Props.C06.runLog_faithful
#print axioms LP.Props.C06.completed_once
#print axioms LP.Props.C06.completed_once_from_init
#print axioms LP.Props.C06.timeline_always
#print axioms LP.Props.C06.reached_start_frozen_run
#print axioms LP.Props.C06.phase_never_returns
#print axioms LP.Props.C06.noAdditionalStep_iff
#print axioms LP.Props.C06.b0_init
#print axioms LP.Props.C06.n0_init
#print axioms LP.Props.C06.g0_init
