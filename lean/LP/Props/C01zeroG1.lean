import LP.Proofs.ZeroAllocG1Full
import LP.Props.C18reach
/-
  C01 / C02 / C03 / C11 / C12 headline theorems of `Variant.guarV1` (launchpad-guaranteed-tickets)
  with zero-size allocation entries that carry no migration flag.

  `g1_ReachZ hash s r` (LP/Proofs/ZeroAllocG1.lean) is `g1_Reach hash s r` with the premise
  `v1_CallOK c` (every `addTicketsV1` entry has `1 ≤ staking + energy`) weakened to `zg_CallOK c`:
  entries `(a, 0, 0, false)` are allowed, `(a, 0, 0, true)` are not.  `g1_ReachFull` has no premise;
  LP/Props/C01zeroG1full.lean proves the same theorems for it.

  What the model does with `(a, 0, 0, false)` (`minConfirmed > 0`, so no staking guarantee):
    * `a` gets the empty range `[last+1, last]`, a zero-size batch at `last+1` (overwritten by the
      next allocation, or dangling above `lastTicketId`) and the guarantee record
      `{a := 0, b := 0, c := 0, d := 0}`; it is not whitelisted, nothing is reserved;
    * it never confirms (`LP.Props.C01zero.empty_range_cannot_confirm`); `blacklist [a]` /
      `unblacklist [a]` only move the flag; filter and distribution never touch it;
    * its first `claim` sets `claimed`, wipes the stale range and the batch slot at its first id,
      pays nothing and records no entitlement; every later `claim` changes nothing
      (`empty_range_claim_guarV1`; `zg_claim_noop`, `zg_sim_claim`).

  `simulation_guarV1` (`zg_sim`, LP/Proofs/ZeroAllocG1.lean): every `g1_ReachZ` state `s` is
  `ZGSim`-related to a `g1_Reach` state: `s` with the empty ranges, the zero-size batches (until the
  filter has completed) and the records of the empty-range addresses removed, `blacklist` /
  `claimed` below those of `s`, every other field equal.
  `addTicketsV1`, `blacklist`, `unblacklist` are matched by the same call without the
  zero-size entries / empty-range addresses, a claim by an empty-range address by no step, every
  other call by itself.  The theorems below go through `g1_ReachZ ⊆ g1_ReachFull` and the invariant
  `zh_Inv` of LP/Proofs/ZeroAllocG1Full.lean instead.

  No erasure can simulate `(a, 0, 0, true)` in `g1_Reach`, whose invariant says "whitelisted ⇒ holds
  a non-empty range" (`migrated_zero_not_simulable`, concrete state `m1`): the entry whitelists `a`
  and reserves a ticket, and at the distribution that guarantee falls into the leftover and is
  RE-DRAWN among the other tickets, by a different loop at a different time.
  "Claims never starve" is not stated for guarV1; the coverage inequalities it would rest on are.
-/
namespace LP.Props.C01zeroG1
open LP LP.FY LP.Props.C01reach LP.Props.C01reachG1

theorem simulation_guarV1 (hash : List Nat → List Nat) (s : State) (r : Nat)
    (h : g1_ReachZ hash s r) : ∃ z, g1_Reach hash z r ∧ ZGSim s z := by
  obtain ⟨a0, h⟩ := g1_ReachZ_iff.mp h
  obtain ⟨z, hz, hsim, _⟩ := zg_sim h
  exact ⟨z, g1_Reach_iff.mpr ⟨a0, hz⟩, hsim⟩

theorem reach_is_reachZ_guarV1 (hash : List Nat → List Nat) (s : State) (r : Nat)
    (h : g1_Reach hash s r) : g1_ReachZ hash s r := h.toZ

/-! ### ticket-payment solvency -/

/-- **C01 for launchpad-guaranteed-tickets, zero-size entries allowed** (statement of
    `C01_solvent_guarV1`) -/
theorem C01_solvent_guarV1_Z (hash : List Nat → List Nat) (s : State) (r : Nat)
    (h : g1_ReachZ hash s r) :
    ∃ L : List Nat, Covers s L ∧ (¬ AllDone s → PayEqPre s L) ∧ (AllDone s → PayEqPost s L) := by
  obtain ⟨T0, hi⟩ := h.inv
  exact zh_Inv_solvent hi

/-- `three_counts_guarV1` but for the last clause: an empty range has `confirmed = 0`, and
    membership in the covering list is claimed for the holders of NON-EMPTY ranges only -/
theorem three_counts_guarV1_Z (hash : List Nat → List Nat) (s : State) (r : Nat)
    (h : g1_ReachZ hash s r) (hd : AllDone s) :
    ∃ L : List Nat, Covers s L ∧ PayEqPost s L ∧ sumOver (winCountOf s) L = s.nrWinning ∧
      (∀ a, winCountOf s a ≤ s.confirmed a) ∧
      (∀ a rg, s.range a = some rg → rangeLen rg = s.confirmed a ∧ (rg.first ≤ rg.last → a ∈ L)) := by
  obtain ⟨T0, hi⟩ := h.inv
  exact zh_Inv_three_counts hi hd

theorem claim_refund_covered_guarV1_Z (hash : List Nat → List Nat) (s : State) (r : Nat)
    (h : g1_ReachZ hash s r) (hd : AllDone s) (a : Nat) (rg : Range) (hr : s.range a = some rg) :
    s.claimablePayment + s.price * (s.confirmed a - winCountOf s a) ≤ s.bal s.payTok 0 := by
  obtain ⟨T0, hi⟩ := h.inv
  exact zh_Inv_refund_covered hi hd hr

/-! ### reserve, final winners, guarantees -/

theorem reserve_guarV1_Z (hash : List Nat → List Nat) (a0 : InitArgs)
    (s : State) (r : Nat) (h : g1_ReachZA hash a0 s r) :
    (s.flags.filtered = false → s.nrWinning + s.totalGuaranteed = a0.nrWinning) ∧
    (s.flags.additional = false → s.nrWinning + s.totalGuaranteed ≤ a0.nrWinning) :=
  zh_Inv_reserve (zh_sim h.toFullA)

/-- **final winner count**, conditional on the `distribute` call having completed, as
    `final_winners_guarV1_partial`: termination of the v1 leftover loop is not a theorem -/
theorem final_winners_guarV1_Z_partial (hash : List Nat → List Nat)
    (a0 : InitArgs) (s : State) (r : Nat) (h : g1_ReachZA hash a0 s r) (e : Env) (s' : State)
    (o : Out) (hr : r ≤ e.round) (hok : EnvOK e)
    (hs : step hash s e .distribute = .ok (s', o)) (hret : o.ret = [0]) :
    AllDone s' ∧
    countTrue s'.status s'.lastTicketId = s'.nrWinning ∧
    s'.nrWinning = min a0.nrWinning s'.lastTicketId ∧
    s'.claimablePayment = s'.price * s'.nrWinning ∧
    (∀ t, s'.status t = true → 1 ≤ t ∧ t ≤ s'.lastTicketId) ∧
    (∀ t, s.status t = true → s'.status t = true) :=
  zh_Inv_final_winners (zh_sim h.toFullA) hr hok hs hret

/-- **guarantees honoured**: when the distribution completes, every holder of a guarantee record —
    also the guarantee-free records of empty-range addresses — owns at least
    `min (qualified guarantee) (confirmed tickets)` winning tickets -/
theorem guarantee_honoured_guarV1_Z (hash : List Nat → List Nat)
    (a0 : InitArgs) (s : State) (r : Nat) (h : g1_ReachZA hash a0 s r) (e : Env) (s' : State)
    (o : Out) (hr : r ≤ e.round) (hok : EnvOK e)
    (hs : step hash s e .distribute = .ok (s', o)) (hret : o.ret = [0]) :
    (∀ u st, s'.uts u = some st →
      min (calcV1 st (s'.confirmed u) s'.minConfirmed).1 (s'.confirmed u) ≤ winCountOf s' u) ∧
    (∀ t, s'.status t = true → 1 ≤ t ∧ t ≤ s'.lastTicketId) :=
  zh_Inv_guarantee_honoured (zh_sim h.toFullA) hr hok hs hret

/-! ### launchpad tokens -/

/-- **`LpCover`** after the distribution; before, a deposit covers the base winners and the whole
    reserve -/
theorem lp_cover_guarV1_Z (hash : List Nat → List Nat) (s : State) (r : Nat)
    (h : g1_ReachZ hash s r) :
    (s.flags.additional = true → LP.Props.C02.LpCover s) ∧
    (s.flags.additional = false → s.deposited = true →
      s.perTicket * (s.nrWinning + s.totalGuaranteed) ≤ s.bal (.esdt s.lpTok) 0) := by
  obtain ⟨T0, hi⟩ := h.inv
  exact zh_Inv_lp_cover hi

/-- **the launchpad-token balance in closed form** (statement of `lp_exact_guarV1`) -/
theorem lp_exact_guarV1_Z (hash : List Nat → List Nat) (s : State) (r : Nat)
    (h : g1_ReachZ hash s r) (hd : AllDone s) :
    ∃ L : List Nat, L.Nodup ∧ (∀ a, a ∉ L → s.userTotal a = 0 ∧ s.userClaimed a = 0) ∧
      s.bal (.esdt s.lpTok) 0 = ownSurplus s + s.perTicket * s.nrWinning
        + sumOver (fun a => s.userTotal a - s.userClaimed a) L := by
  obtain ⟨T0, hi⟩ := h.inv
  exact zh_Inv_lp_exact hi hd

/-- **every vested claim is covered** (statement of `vested_claim_covered_guarV1`) -/
theorem vested_claim_covered_guarV1_Z (hash : List Nat → List Nat) (s : State) (r : Nat)
    (h : g1_ReachZ hash s r) (hd : AllDone s) (a : Nat) :
    ownSurplus s + s.perTicket * s.nrWinning + (s.userTotal a - s.userClaimed a)
      ≤ s.bal (.esdt s.lpTok) 0 := by
  obtain ⟨T0, hi⟩ := h.inv
  exact zh_Inv_vested_claim_covered hi hd a

theorem unsettled_winner_covered_guarV1_Z (hash : List Nat → List Nat) (s : State) (r : Nat)
    (h : g1_ReachZ hash s r) (hd : AllDone s) (a : Nat) :
    s.perTicket * winCountOf s a ≤ s.bal (.esdt s.lpTok) 0 ∧ winCountOf s a ≤ s.nrWinning := by
  obtain ⟨T0, hi⟩ := h.inv
  exact zh_Inv_unsettled_winner_covered hi hd a

/-- the second half of `unsettled_no_record_guarV1` only -/
theorem unsettled_no_record_guarV1_Z (hash : List Nat → List Nat) (s : State) (r : Nat)
    (h : g1_ReachZ hash s r) : ∀ a, s.userClaimed a ≤ s.userTotal a := by
  obtain ⟨T0, hi⟩ := h.inv
  exact (zh_Inv_norec hi).2

/-! ### what an address with an empty range can do at claim time -/

/-- its FIRST claim pays nothing and records no entitlement: only the caller's `claimed` flag, its
    stale range and the batch slot at the range's first id change -/
theorem empty_range_claim_guarV1 (hash : List Nat → List Nat) (s : State)
    (r : Nat) (h : g1_ReachZ hash s r) (e : Env) (s' : State) (o : Out) (rg : Range)
    (hr : r ≤ e.round) (hok : EnvOK e) (hcl : s.claimed e.caller = false)
    (hrg : s.range e.caller = some rg) (he : rg.last < rg.first)
    (hs : step hash s e .claim = .ok (s', o)) :
    s' = zg_w s ⟨upd s.range e.caller none, upd s.batch rg.first none, s.blacklist,
                 upd s.claimed e.caller true, s.uts⟩ ∧
    s'.bal = s.bal ∧ s'.nrWinning = s.nrWinning ∧ s'.userTotal = s.userTotal ∧
    s'.userClaimed = s.userClaimed := by
  obtain ⟨T0, hi⟩ := h.inv
  exact zh_Inv_empty_range_claim hi hcl hrg he hs

theorem empty_range_not_reach (hash : List Nat → List Nat) (s : State) (r : Nat) (a : Nat)
    (rg : Range) (hrg : s.range a = some rg) (he : rg.last < rg.first) : ¬ g1_Reach hash s r := by
  intro h
  have := LP.Props.C18reach.ranges_bounded hash s r (.guarV1 h) a rg hrg
  omega

/-- **no erasure simulates a MIGRATED zero-size entry**: before the filter starts, a state whose
    whitelist contains an address with an empty range is `ZGSim`-related to no `g1_Reach` state -/
theorem migrated_zero_not_simulable (hash : List Nat → List Nat) (s : State) (r : Nat) (a : Nat)
    (rg : Range) (hrg : s.range a = some rg) (he : rg.last < rg.first) (hw : a ∈ s.whitelist)
    (hns : s.flags.started = false) : ¬ ∃ z, g1_Reach hash z r ∧ ZGSim s z := by
  rintro ⟨z, hz, hsim⟩
  obtain ⟨a0, hz⟩ := g1_Reach_iff.mp hz
  obtain ⟨_, hfl, _, _, _, _, _, _, hwl, _⟩ := hsim.fields
  obtain ⟨_, _, q3, _⟩ := zg_phaseA_facts (g1_reach_WF hz) (by rw [hfl]; exact hns)
  have := q3 a (by rw [hwl]; exact hw)
  rw [hsim.range, z_eraseR_of_empty hrg (by omega)] at this
  cases this

/-! ### non-vacuity: a guarV1 launch with two zero-size entries, from allocation to the vested claims -/

theorem g1Z_callOk {hash : List Nat → List Nat} {a0 : InitArgs} {s : State} {r : Nat}
    (e : Env) (c : Call)
    (h : g1_ReachZA hash a0 s r) (hr : r ≤ e.round) (hok : EnvOK e) (hc : zg_CallOK c)
    (hs : isOk (step hash s e c) = true) :
    g1_ReachZA hash a0 (stOf (step hash s e c) s) e.round :=
  let ⟨o, ho⟩ := stOf_spec hs s
  .call s r e c _ o h hr hok hc ho

/-- 7: staking guarantee, two tickets; 9: a ZERO-size entry; 8: two energy tickets; 5: a second
    zero-size entry (dangling batch) -/
def zAlloc : List (Nat × Nat × Nat × Bool) := [(7, 2, 0, false), (9, 0, 0, false), (8, 0, 2, false), (5, 0, 0, false)]

def y1 : State := stOf (step id w0 { caller := 1, round := 1 } (.addTicketsV1 zAlloc)) w0
def y2 : State := stOf (step id y1 { caller := 1, round := 1 } (.setSchedule1 16 2500 3 2500 10)) y1
def y3 : State := stOf (step id y2 { caller := 1, round := 2, esdts := [⟨.esdt 1, 0, 40⟩] } .deposit) y2
def y4 : State := stOf (step id y3 { caller := 7, round := 5, egld := 20 } (.confirm 2)) y3
def y5 : State := stOf (step id y4 { caller := 8, round := 6, egld := 10 } (.confirm 1)) y4
def y5b : State := stOf (step id y5 { caller := 1, round := 6 } (.blacklist [9, 5])) y5
def y5c : State := stOf (step id y5b { caller := 1, round := 7 } (.unblacklist [9])) y5b
def y6 : State := stOf (step id y5c { caller := 9, round := 10 } .filter) y5c
def y7 : State := stOf (step id y6 { caller := 9, round := 11 } .select) y6
def y8 : State := stOf (step id y7 { caller := 9, round := 12 } .distribute) y7
def y9 : State := stOf (step id y8 { caller := 9, round := 16 } .claim) y8
def y10 : State := stOf (step id y9 { caller := 9, round := 17 } .claim) y9
def y11 : State := stOf (step id y10 { caller := 7, round := 50 } .claim) y10

theorem y1_reachZ : g1_ReachZA id wArgs y1 1 :=
  g1Z_callOk { caller := 1, round := 1 } (.addTicketsV1 zAlloc) w0_reach.toZ (by decide) (Or.inl rfl)
    (by show ∀ q ∈ zAlloc, q.2.1 + q.2.2.1 = 0 → q.2.2.2 = false; decide) (by decide +kernel)

/-- empty ranges, records without guarantee, no reserve -/
example : y1.range 9 = some ⟨3, 2⟩ ∧ y1.range 8 = some ⟨3, 4⟩ ∧ y1.batch 3 = some ⟨8, 2⟩ ∧
    y1.range 5 = some ⟨5, 4⟩ ∧ y1.batch 5 = some ⟨5, 0⟩ ∧ y1.lastTicketId = 4 ∧
    y1.uts 9 = some { a := 0, b := 0, c := 0, d := 0 } ∧ y1.whitelist = [7] ∧
    y1.totalGuaranteed = 1 ∧ y1.nrWinning = 1 := by
  decide +kernel

theorem y1_not_reach (hash : List Nat → List Nat) (r : Nat) : ¬ g1_Reach hash y1 r :=
  empty_range_not_reach hash y1 r 9 ⟨3, 2⟩ (by decide +kernel) (by decide)

theorem y8_reachZ : g1_ReachZA id wArgs y8 12 :=
  g1Z_callOk { caller := 9, round := 12 } .distribute
    (g1Z_callOk { caller := 9, round := 11 } .select
      (g1Z_callOk { caller := 9, round := 10 } .filter
        (g1Z_callOk { caller := 1, round := 7 } (.unblacklist [9])
          (g1Z_callOk { caller := 1, round := 6 } (.blacklist [9, 5])
            (g1Z_callOk { caller := 8, round := 6, egld := 10 } (.confirm 1)
              (g1Z_callOk { caller := 7, round := 5, egld := 20 } (.confirm 2)
                (g1Z_callOk { caller := 1, round := 2, esdts := [⟨.esdt 1, 0, 40⟩] } .deposit
                  (g1Z_callOk { caller := 1, round := 1 } (.setSchedule1 16 2500 3 2500 10) y1_reachZ
                    (by decide) (Or.inl rfl) trivial (by decide +kernel))
                  (by decide) (Or.inl rfl) trivial (by decide +kernel))
                (by decide) (Or.inr rfl) trivial (by decide +kernel))
              (by decide) (Or.inr rfl) trivial (by decide +kernel))
            (by decide) (Or.inl rfl) trivial (by decide +kernel))
          (by decide) (Or.inl rfl) trivial (by decide +kernel))
        (by decide) (Or.inl rfl) trivial (by decide +kernel))
      (by decide) (Or.inl rfl) trivial (by decide +kernel))
    (by decide) (Or.inl rfl) trivial (by decide +kernel)

theorem y11_reachZ : g1_ReachZA id wArgs y11 50 :=
  g1Z_callOk { caller := 7, round := 50 } .claim
    (g1Z_callOk { caller := 9, round := 17 } .claim
      (g1Z_callOk { caller := 9, round := 16 } .claim y8_reachZ
        (by decide) (Or.inl rfl) trivial (by decide +kernel))
      (by decide) (Or.inl rfl) trivial (by decide +kernel))
    (by decide) (Or.inl rfl) trivial (by decide +kernel)

/-- blacklisting / un-blacklisting an empty-range address only moves its flag; the stale empty
    ranges survive the filter; 9's first claim sets the flag and pays nothing, its second claim
    changes nothing; 7 then receives its full entitlement -/
example : y5b.blacklist 9 = true ∧ y5b.whitelist = [7] ∧ y5b.totalGuaranteed = 1 ∧
    y5c.blacklist 9 = false ∧ y5c.blacklist 5 = true ∧ y5c.uts 9 = y1.uts 9 ∧
    y6.flags.filtered = true ∧ y6.range 9 = some ⟨3, 2⟩ ∧ y6.range 5 = some ⟨5, 4⟩ ∧
    AllDone y8 ∧ y8.nrWinning = 2 ∧
    y9.claimed 9 = true ∧ y9.range 9 = none ∧ y9.userTotal 9 = 0 ∧
    y9.bal (.esdt 1) 0 = y8.bal (.esdt 1) 0 ∧ y9.bal .egld 0 = y8.bal .egld 0 ∧
    y10.bal (.esdt 1) 0 = y9.bal (.esdt 1) 0 ∧ y10.claimed 9 = true ∧
    y11.userTotal 7 = 40 ∧ y11.userClaimed 7 = 40 := by
  unfold AllDone; decide +kernel

example : ∃ L : List Nat, Covers y11 L ∧ PayEqPost y11 L :=
  let ⟨L, h1, _, h3⟩ := C01_solvent_guarV1_Z id y11 50 (g1_ReachZ_iff.mpr ⟨_, y11_reachZ⟩)
  ⟨L, h1, h3 (by unfold AllDone; decide +kernel)⟩

example : y8.perTicket * (y8.nrWinning) ≤ y8.bal (.esdt y8.lpTok) 0 := by
  have := vested_claim_covered_guarV1_Z id y8 12 (g1_ReachZ_iff.mpr ⟨_, y8_reachZ⟩)
    (by unfold AllDone; decide +kernel) 7
  omega

/-- a MIGRATED zero-size entry: 6 is whitelisted with an empty range, one ticket is reserved; a
    `g1_ReachFull` state that no erasure simulates -/
def m1 : State := stOf (step id w0 { caller := 1, round := 1 } (.addTicketsV1 [(6, 0, 0, true), (7, 2, 0, false)])) w0

theorem m1_ok :
    isOk (step id w0 { caller := 1, round := 1 } (.addTicketsV1 [(6, 0, 0, true), (7, 2, 0, false)])) = true := by
  decide +kernel

theorem m1_reachFull : g1_ReachFull id m1 1 := by
  have h0 : g1_ReachFull id w0 0 := (g1_ReachZ_iff.mpr ⟨_, w0_reach.toZ⟩).toFull
  obtain ⟨o, hx⟩ := stOf_spec m1_ok w0
  exact .call w0 0 _ _ m1 o h0 (by decide) (Or.inl rfl) hx

example : m1.range 6 = some ⟨1, 0⟩ ∧ m1.whitelist = [6, 7] ∧ m1.totalGuaranteed = 2 ∧ m1.nrWinning = 0 := by
  decide +kernel

theorem m1_not_simulable (hash : List Nat → List Nat) (r : Nat) :
    ¬ ∃ z, g1_Reach hash z r ∧ ZGSim m1 z :=
  migrated_zero_not_simulable hash m1 r 6 ⟨1, 0⟩ (by decide +kernel) (by decide) (by decide +kernel)
    (by decide +kernel)

end LP.Props.C01zeroG1

#print axioms LP.Props.C01zeroG1.simulation_guarV1
#print axioms LP.Props.C01zeroG1.reach_is_reachZ_guarV1
#print axioms LP.Props.C01zeroG1.C01_solvent_guarV1_Z
#print axioms LP.Props.C01zeroG1.three_counts_guarV1_Z
#print axioms LP.Props.C01zeroG1.claim_refund_covered_guarV1_Z
#print axioms LP.Props.C01zeroG1.reserve_guarV1_Z
#print axioms LP.Props.C01zeroG1.final_winners_guarV1_Z_partial
#print axioms LP.Props.C01zeroG1.guarantee_honoured_guarV1_Z
#print axioms LP.Props.C01zeroG1.lp_cover_guarV1_Z
#print axioms LP.Props.C01zeroG1.lp_exact_guarV1_Z
#print axioms LP.Props.C01zeroG1.vested_claim_covered_guarV1_Z
#print axioms LP.Props.C01zeroG1.unsettled_winner_covered_guarV1_Z
#print axioms LP.Props.C01zeroG1.unsettled_no_record_guarV1_Z
#print axioms LP.Props.C01zeroG1.empty_range_claim_guarV1
#print axioms LP.Props.C01zeroG1.empty_range_not_reach
#print axioms LP.Props.C01zeroG1.migrated_zero_not_simulable
#print axioms LP.Props.C01zeroG1.g1Z_callOk
#print axioms LP.Props.C01zeroG1.y1_reachZ
#print axioms LP.Props.C01zeroG1.y1_not_reach
#print axioms LP.Props.C01zeroG1.y8_reachZ
#print axioms LP.Props.C01zeroG1.y11_reachZ
#print axioms LP.Props.C01zeroG1.m1_reachFull
#print axioms LP.Props.C01zeroG1.m1_not_simulable
