import LP.Proofs.Frame
import LP.Props.C17
/-
  C06, history half — along any history of transactions with non-decreasing rounds the lifecycle
  stage never moves backwards: an accepted step only lets flags gain and changes `cfg` only by a
  setter that keeps the current stage.
-/
namespace LP.Props.C06
open LP LP.Props.C17

/-- the stage seen at round `r` in the start state is at most the stage seen by any later
    transaction `(e', c')` of a history with non-decreasing rounds `≥ r` -/
theorem stage_mono_from (hash : List Nat → List Nat) : ∀ (p : Hist) (s : State) (r : Nat) (e' : Env) (c' : Call),
    RoundsFrom r (p ++ [(e', c')]) →
    (stageOf r s.cfg s.flags).toNat ≤ ((run hash s p).stage e').toNat
  | [], s, r, e', c', ⟨h1, _⟩ => stageOf_mono_raw s.cfg h1 (Flags.gain_refl _)
  | (e, c) :: rest, s, r, e', c', ⟨h1, h2⟩ => by
    have h0 : (stageOf r s.cfg s.flags).toNat ≤ (s.stage e).toNat :=
      stageOf_mono_raw s.cfg h1 (Flags.gain_refl _)
    simp only [run]
    cases h : step hash s e c with
    | error err => exact Nat.le_trans h0 (stage_mono_from hash rest s e.round e' c' h2)
    | ok x =>
      obtain ⟨s', o⟩ := x
      have h3 := step_stage_mono h (Nat.le_refl e.round)
      exact Nat.le_trans h0 (Nat.le_trans h3 (stage_mono_from hash rest s' e.round e' c' h2))

/-- **C06, histories**: in a history with non-decreasing rounds, a later transaction never sees an
    earlier stage than an earlier transaction did (rejected transactions included) -/
theorem stage_never_decreases_in_history (hash : List Nat → List Nat) (s : State) (r0 : Nat)
    (p q rest : Hist) (e e' : Env) (c c' : Call)
    (hr : RoundsFrom r0 (p ++ (e, c) :: (q ++ (e', c') :: rest))) :
    ((run hash s p).stage e).toNat ≤ ((run hash s (p ++ (e, c) :: q)).stage e').toNat := by
  have hr1 : RoundsFrom r0 ((e, c) :: (q ++ (e', c') :: rest)) := RoundsFrom.append_right hr
  have hr2 : RoundsFrom e.round (((e, c) :: q) ++ [(e', c')]) := by
    have : RoundsFrom e.round (((e, c) :: q) ++ ([(e', c')] ++ rest)) := ⟨Nat.le_refl _, by simpa using hr1.2⟩
    rw [← List.append_assoc] at this
    exact RoundsFrom.append_left this
  rw [run_append hash p ((e, c) :: q) s]
  exact stage_mono_from hash ((e, c) :: q) (run hash s p) e.round e' c' hr2

/-- once a transaction has seen a stage other than AddTickets, no later transaction sees
    AddTickets again -/
theorem addTickets_never_returns (hash : List Nat → List Nat) (s : State) (r0 : Nat)
    (p q rest : Hist) (e e' : Env) (c c' : Call)
    (hr : RoundsFrom r0 (p ++ (e, c) :: (q ++ (e', c') :: rest)))
    (hst : (run hash s p).stage e ≠ .addTickets) :
    (run hash s (p ++ (e, c) :: q)).stage e' ≠ .addTickets := by
  have h := stage_never_decreases_in_history hash s r0 p q rest e e' c c' hr
  intro h2
  rw [h2] at h
  cases h3 : (run hash s p).stage e <;> simp_all [Stage.toNat]

/-- non-vacuity: a three-transaction history with non-decreasing rounds -/
example : RoundsFrom 0 ([] ++ (({ caller := 1, round := 2 } : Env), Call.pause) ::
    ([(({ caller := 1, round := 6 } : Env), Call.unpause)] ++ (({ caller := 1, round := 7 } : Env), Call.filter) :: [])) := by
  simp [RoundsFrom]

end LP.Props.C06

#print axioms LP.Props.C06.stage_mono_from
#print axioms LP.Props.C06.stage_never_decreases_in_history
#print axioms LP.Props.C06.addTickets_never_returns
