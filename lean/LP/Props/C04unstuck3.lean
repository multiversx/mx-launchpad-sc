import LP.Proofs.Unstuck3
import LP.Props.C04unstuck2
/-
  C04 "every step reports completion after finitely many resumed calls and cannot be left stuck"
  on reachable states: the call-count bound for `secondary` of nftGuar; end to end (`filter`,
  `select`, `distribute` / `secondary` by the owner with unlimited budgets) for migration,
  lockedGuar, guarV1 and nftGuar under the no-spin hypothesis, which is also NECESSARY; and that
  spinning IS possible — at loop level for EVERY fuel bound, at endpoint level for the model's
  `v1LeftoverFuel = 200000` on a concrete reachable state of migration (proved parametrically in
  the fuel, not by running 200000 iterations).  So the statements without the hypothesis on the
  draws are false in the model, as the v1 leftover loop terminates only probabilistically.

  Vocabulary (LP/Proofs/Unstuck3.lean; for `us2_*` see LP/Props/C04unstuck2.lean):
  * `us3_secLeft s`       the measure of the whole `secondary` step: `us_nftLeft s` once the
                          generator of the NFT draw is saved, `us2_distLeft s + us_nftLeft s + 1`
                          before;
  * `us3_DrawsOKng hash e`  the analogue of `us2_DrawsOK` for a `secondary` call of nftGuar with the
                          guaranteed sub-step in progress: the leftover loop does not spin and, when
                          interrupted there, at least one of its iterations did not re-draw an
                          already winning ticket (satisfiable:
                          `secondary_draws_hypothesis_satisfiable`).
-/
namespace LP.Props.C04unstuck3
open LP LP.Props.C17

variable (hash : List Nat → List Nat)

/-- C04 for `secondary`: lottery complete, step not, from the selection round on — paused or not,
    any caller, any budget, in either phase — a call without payment whose draws satisfy
    `us3_DrawsOKng` is accepted and completes the step or STRICTLY decreases `us3_secLeft` -/
theorem secondary_progress_partial (s : State) (r : Nat) (e : Env) (hs : ng_Reach hash s r)
    (hsd : s.flags.selected = true) (hna : s.flags.additional = false) (hr : r ≤ e.round)
    (hsel : s.cfg.sel ≤ e.round) (hegld : e.egld = 0) (hesdt : e.esdts = [])
    (hdr : us3_DrawsOKng hash e) :
    ∃ s' o, step hash s e .secondary = .ok (s', o) ∧ ng_Reach hash s' e.round ∧
      s'.flags.selected = true ∧ s'.cfg = s.cfg ∧
      (s'.flags.additional = true ∨ us3_secLeft s' < us3_secLeft s) := by
  have hpay : us_NoPay e := ⟨hegld, hesdt⟩
  by_cases hopn : ∃ rg, s.op = .additional (.nft rg)
  · obtain ⟨rg, hop⟩ := hopn
    obtain ⟨_, _, _, s', o, hst, hre, hsd', hop', hout⟩ :=
      us2_sec_nft_never_stuck hash hs hop hr hsel hpay
    refine ⟨s', o, hst, hre, hsd', hout.cfg, ?_⟩
    rcases hout.cases with ⟨_, h, _⟩ | ⟨_, hadd, _, hlt, _⟩
    · exact Or.inl h
    · obtain ⟨rg', h'⟩ := hop' hadd
      right
      rw [us3_secLeft_nft h', us3_secLeft_nft hop]
      exact hlt
  · have hopn' : ∀ rg, s.op ≠ .additional (.nft rg) := fun rg h => hopn ⟨rg, h⟩
    obtain ⟨hns, hred⟩ := hdr s r hs hsd hna hopn'
    obtain ⟨s', o, hst, hre, hout⟩ :=
      (us2_sec_guar_accepted_or_spins hash hs hsd hna hopn' hr hsel hpay).2.2 hns
    have hsd' : s'.flags.selected = true := by rw [hout.selected]; exact hsd
    obtain ⟨a0, ha⟩ := ng_Reach_iff.mp hs
    have wf := ng_reach_WF ha
    have hmono : us_nftLeft s' ≤ us_nftLeft s :=
      us3_nftLeft_step hash ⟨wf.side.nodupP, wf.side.nodupW, wf.side.disj⟩ wf.side.winLe hpay hst
    refine ⟨s', o, hst, hre, hsd', hout.cfg, ?_⟩
    rw [us3_secLeft_guar hopn']
    rcases hout.cases with ⟨_, _, ⟨g', hop'⟩, hnw, hlt, hoff, _⟩ |
      ⟨_, hf, ⟨g', hop'⟩, hnw, hnil, _, z0, k, hls, heq⟩ | ⟨_, _, ⟨rg', hop'⟩, _⟩ | ⟨_, h, _⟩
    · right
      rw [us3_secLeft_guar (fun rg h => by rw [hop'] at h; cases h)]
      have := us2_distLeft_lt hnw hout.last (Or.inl ⟨hlt, hoff⟩)
      omega
    · right
      have hopn2 : ∀ rg, s'.op ≠ .additional (.nft rg) := fun rg h => by rw [hop'] at h; cases h
      rw [us3_secLeft_guar hopn2]
      have hb := (us2_ng_distSt hre hsd' (by rw [hf]; exact hna) hopn2).bound
      have hlt := hred z0 k hls
      have := us2_distLeft_lt hnw hout.last (Or.inr ⟨hnil, by omega, hb⟩)
      omega
    · right
      rw [us3_secLeft_nft hop']
      omega
    · exact Or.inl h

theorem secondary_nftLeft_mono (s : State) (r : Nat) (e : Env) (s' : State) (o : Out)
    (hs : ng_Reach hash s r) (hegld : e.egld = 0) (hesdt : e.esdts = [])
    (hst : step hash s e .secondary = .ok (s', o)) : us_nftLeft s' ≤ us_nftLeft s := by
  obtain ⟨a0, ha⟩ := ng_Reach_iff.mp hs
  have wf := ng_reach_WF ha
  exact us3_nftLeft_step hash ⟨wf.side.nodupP, wf.side.nodupW, wf.side.disj⟩ wf.side.winLe
    ⟨hegld, hesdt⟩ hst

theorem secondary_completes_partial_measure (s : State) (r : Nat) (hs : ng_Reach hash s r)
    (hsd : s.flags.selected = true) (hsel : s.cfg.sel ≤ r) (es : List Env)
    (hr : RoundsFrom r (us_hist .secondary es))
    (hq : ∀ e ∈ es, us_NoPay e ∧ us3_DrawsOKng hash e)
    (hlen : us3_secLeft s + 1 ≤ es.length) :
    (run hash s (us_hist .secondary es)).flags.additional = true := by
  refine us_run_completes hash .secondary rfl
    (fun s1 r1 => ng_Reach hash s1 r1 ∧ s1.flags.selected = true ∧ s1.cfg.sel ≤ r1)
    (fun e => us_NoPay e ∧ us3_DrawsOKng hash e) us3_secLeft ?_ es s r ⟨hs, hsd, hsel⟩ hr hq hlen
  intro s1 r1 e hg hna hr1 hq1
  obtain ⟨hc1, hsd1, hsel1⟩ := hg
  obtain ⟨s', o, hst, hre, hsd', hcfg, hprog⟩ := secondary_progress_partial hash _ _ e hc1 hsd1 hna
    hr1 (Nat.le_trans hsel1 hr1) hq1.1.1 hq1.1.2 hq1.2
  exact ⟨s', o, hst, ⟨hre, hsd', by rw [hcfg]; exact Nat.le_trans hsel1 hr1⟩, hprog⟩

/-- whatever is saved, `us2_distLeft s + 1` calls for the guaranteed sub-step (as for `distribute`)
    plus `us_nftLeft s + 1` for the NFT draw complete the step -/
theorem secondary_completes_partial_calls (s : State) (r : Nat) (hs : ng_Reach hash s r)
    (hsd : s.flags.selected = true) (hsel : s.cfg.sel ≤ r) (es : List Env)
    (hr : RoundsFrom r (us_hist .secondary es))
    (hq : ∀ e ∈ es, us_NoPay e ∧ us3_DrawsOKng hash e)
    (hlen : us2_distLeft s + us_nftLeft s + 2 ≤ es.length) :
    (run hash s (us_hist .secondary es)).flags.additional = true := by
  have := us3_secLeft_le s
  exact secondary_completes_partial_measure hash s r hs hsd hsel es hr hq (by omega)

/-- the bound in terms of the stored data only -/
theorem secondary_completes_partial_within (s : State) (r : Nat) (hs : ng_Reach hash s r)
    (hsd : s.flags.selected = true) (hsel : s.cfg.sel ≤ r) (es : List Env)
    (hr : RoundsFrom r (us_hist .secondary es))
    (hq : ∀ e ∈ es, us_NoPay e ∧ us3_DrawsOKng hash e)
    (hlen : s.whitelist.length + s.lastTicketId + min s.payers.length s.availNfts + 2
      ≤ es.length) :
    (run hash s (us_hist .secondary es)).flags.additional = true :=
  us_completes_within hash .secondary rfl us3_secLeft
    (s.whitelist.length + s.lastTicketId + min s.payers.length s.availNfts + 1) es hr
    (fun hna _ _ _ => us3_secLeft_bound hash hs hsd hna)
    (secondary_completes_partial_measure hash s r hs hsd hsel es hr hq) hlen

/-- the hypothesis on the draws is satisfiable: one loop iteration, scripted draw `0` -/
theorem secondary_draws_hypothesis_satisfiable (e : Env) (hb : e.budget = some 0)
    (hscr : e.script = [0]) : us3_DrawsOKng hash e :=
  fun s1 _ _ _ _ _ => us3_draws_zero hash e hb hscr s1

/-! ## end to end for migration, lockedGuar, guarV1 and nftGuar

  From ANY reachable state in the selection stage, not paused, whatever operation is saved, the
  sequence `filter`, `select`, `distribute` / `secondary` of owner calls with unlimited budgets
  leads to `AllDone`, PROVIDED the leftover loop of the third call does not spin (`hns`).  The
  `_iff` versions: if that loop spins, the third call is rejected ("out of gas") and the step is
  not completed. -/

/-- migration, lockedGuar (`us2_V1Cov.v1`) and guarV1 (`us2_V1Cov.guarV1`) -/
theorem all_steps_complete_v1_partial (s : State) (r : Nat) (hs : us2_V1Cov hash s r)
    (hsel : s.cfg.sel ≤ r) (hp : s.paused = false) (e1 e2 e3 : Env)
    (hr : RoundsFrom r [(e1, .filter), (e2, .select), (e3, .distribute)])
    (h1 : us2_OwnerCall s e1) (h2 : us2_OwnerCall s e2) (h3 : us2_OwnerCall s e3)
    (hns : (run hash s [(e1, .filter), (e2, .select)]).flags.additional = false →
      ¬ us2_Spins hash (run hash s [(e1, .filter), (e2, .select)]) e3) :
    AllDone (run hash s [(e1, .filter), (e2, .select), (e3, .distribute)]) ∧
    us2_V1Cov hash (run hash s [(e1, .filter), (e2, .select), (e3, .distribute)]) e3.round :=
  (us3_verdict_v1 hash hs hsel hp e1 e2 e3 hr h1 h2 h3).ok hns

/-- with the hypothesis on the draws of `C04unstuck2.distribute_v1_completes_partial` instead -/
theorem all_steps_complete_v1_partial_draws (s : State) (r : Nat) (hs : us2_V1Cov hash s r)
    (hsel : s.cfg.sel ≤ r) (hp : s.paused = false) (e1 e2 e3 : Env)
    (hr : RoundsFrom r [(e1, .filter), (e2, .select), (e3, .distribute)])
    (h1 : us2_OwnerCall s e1) (h2 : us2_OwnerCall s e2) (h3 : us2_OwnerCall s e3)
    (hdraws : ∀ s2, s2 = run hash s [(e1, .filter), (e2, .select)] →
      ∀ z0 b1, us2_leftStart s2 e3 = some (z0, b1) →
        s2.lastTicketId + 1 - (s2.nrWinning + us2_distOff s2) +
          us2_redraws hash false s2.nrWinning s2.lastTicketId v1LeftoverFuel z0 < v1LeftoverFuel) :
    AllDone (run hash s [(e1, .filter), (e2, .select), (e3, .distribute)]) ∧
    us2_V1Cov hash (run hash s [(e1, .filter), (e2, .select), (e3, .distribute)]) e3.round :=
  (us3_verdict_v1 hash hs hsel hp e1 e2 e3 hr h1 h2 h3).draws (hdraws _ rfl)

theorem all_steps_complete_v1_iff (s : State) (r : Nat) (hs : us2_V1Cov hash s r)
    (hsel : s.cfg.sel ≤ r) (hp : s.paused = false) (e1 e2 e3 : Env)
    (hr : RoundsFrom r [(e1, .filter), (e2, .select), (e3, .distribute)])
    (h1 : us2_OwnerCall s e1) (h2 : us2_OwnerCall s e2) (h3 : us2_OwnerCall s e3) :
    AllDone (run hash s [(e1, .filter), (e2, .select), (e3, .distribute)]) ↔
      ((run hash s [(e1, .filter), (e2, .select)]).flags.additional = true ∨
        ¬ us2_Spins hash (run hash s [(e1, .filter), (e2, .select)]) e3) :=
  (us3_verdict_v1 hash hs hsel hp e1 e2 e3 hr h1 h2 h3).iff

theorem all_steps_complete_nftGuar_partial (s : State) (r : Nat) (hs : ng_Reach hash s r)
    (hsel : s.cfg.sel ≤ r) (hp : s.paused = false) (e1 e2 e3 : Env)
    (hr : RoundsFrom r [(e1, .filter), (e2, .select), (e3, .secondary)])
    (h1 : us2_OwnerCall s e1) (h2 : us2_OwnerCall s e2) (h3 : us2_OwnerCall s e3)
    (hns : (run hash s [(e1, .filter), (e2, .select)]).flags.additional = false →
      ¬ us2_Spins hash (run hash s [(e1, .filter), (e2, .select)]) e3) :
    AllDone (run hash s [(e1, .filter), (e2, .select), (e3, .secondary)]) ∧
    ng_Reach hash (run hash s [(e1, .filter), (e2, .select), (e3, .secondary)]) e3.round :=
  (us3_verdict_ng hash hs hsel hp e1 e2 e3 hr h1 h2 h3).ok hns

theorem all_steps_complete_nftGuar_partial_draws (s : State) (r : Nat) (hs : ng_Reach hash s r)
    (hsel : s.cfg.sel ≤ r) (hp : s.paused = false) (e1 e2 e3 : Env)
    (hr : RoundsFrom r [(e1, .filter), (e2, .select), (e3, .secondary)])
    (h1 : us2_OwnerCall s e1) (h2 : us2_OwnerCall s e2) (h3 : us2_OwnerCall s e3)
    (hdraws : ∀ s2, s2 = run hash s [(e1, .filter), (e2, .select)] →
      ∀ z0 b1, us2_leftStart s2 e3 = some (z0, b1) →
        s2.lastTicketId + 1 - (s2.nrWinning + us2_distOff s2) +
          us2_redraws hash false s2.nrWinning s2.lastTicketId v1LeftoverFuel z0 < v1LeftoverFuel) :
    AllDone (run hash s [(e1, .filter), (e2, .select), (e3, .secondary)]) ∧
    ng_Reach hash (run hash s [(e1, .filter), (e2, .select), (e3, .secondary)]) e3.round :=
  (us3_verdict_ng hash hs hsel hp e1 e2 e3 hr h1 h2 h3).draws (hdraws _ rfl)

theorem all_steps_complete_nftGuar_iff (s : State) (r : Nat) (hs : ng_Reach hash s r)
    (hsel : s.cfg.sel ≤ r) (hp : s.paused = false) (e1 e2 e3 : Env)
    (hr : RoundsFrom r [(e1, .filter), (e2, .select), (e3, .secondary)])
    (h1 : us2_OwnerCall s e1) (h2 : us2_OwnerCall s e2) (h3 : us2_OwnerCall s e3) :
    AllDone (run hash s [(e1, .filter), (e2, .select), (e3, .secondary)]) ↔
      ((run hash s [(e1, .filter), (e2, .select)]).flags.additional = true ∨
        ¬ us2_Spins hash (run hash s [(e1, .filter), (e2, .select)]) e3) :=
  (us3_verdict_ng hash hs hsel hp e1 e2 e3 hr h1 h2 h3).iff

/-! ## spinning is possible -/

/-- from a loop state that still has a reserved ticket to place (`leftover ≠ 0`, not all tickets
    winning), whose current ticket is not winning, and whose next `F` scripted draws all equal a
    value `raw` that lands on an already winning ticket: the loop performs `F` iterations — unless
    the call's budget interrupts it earlier — and returns `outOfFuel`; nothing has changed but the
    generator and the consumed draws -/
theorem leftover_v1_loop_spins_script (nrW last raw F : Nat) (b : Option Nat) (z : LCore)
    (rest : List Nat) (hb : ∀ k, b = some k → F ≤ k)
    (hfull : nrW + z.additional < last) (hlo : z.leftover ≠ 0)
    (hcur : z.status (idFromPos z.posToId (nrW + z.offset)) = false)
    (hhit : z.status (idFromPos z.posToId (inRange raw (nrW + z.offset) (last + 1))) = true)
    (hscr : z.d.script = List.replicate F raw ++ rest) :
    ∃ z' b', runWhile (leftCoreBody hash false nrW last) F b z = .ok (z', b', .outOfFuel) ∧
      z'.d.script = rest ∧ z'.status = z.status ∧ z'.posToId = z.posToId ∧
      z'.offset = z.offset ∧ z'.leftover = z.leftover ∧ z'.additional = z.additional := by
  induction F generalizing b z rest with
  | zero => exact ⟨z, b, runWhile_zero _ _ _, by simpa using hscr, rfl, rfl, rfl, rfl, rfl⟩
  | succ F ih =>
    have hscr' : z.d.script = raw :: (List.replicate F raw ++ rest) := by
      rw [hscr, List.replicate_succ]; rfl
    have hstep := us3_spin_step hash nrW last z raw _ hfull hlo hcur hhit hscr'
    cases b with
    | none =>
      rw [runWhile_cont_none hstep]
      exact ih none _ rest (fun k hk => by cases hk) hfull hlo hcur hhit rfl
    | some k =>
      have hk := hb k rfl
      cases k with
      | zero => omega
      | succ k =>
        rw [runWhile_cont_succ hstep]
        exact ih (some k) _ rest
          (fun k' hk' => by simp only [Option.some.injEq] at hk'; omega) hfull hlo hcur hhit rfl

/-- the v1 leftover loop, for EVERY fuel bound `F`: if a reserved ticket is still to be placed, the
    ticket at the current position `nrW + offset` is not winning and the one at some later position
    `p ≤ last` is, then on the constant draw stream `p - (nrW + offset)` of length `F` — every draw
    lands on that winning ticket — the loop returns `outOfFuel`.  (`C03_leftover_v1_may_spin` in
    LP/Props/C03final.lean is the case of one 3-ticket state.) -/
theorem leftover_v1_loop_spins_every_fuel (nrW last : Nat) (z : LCore) (p : Nat)
    (hfull : nrW + z.additional < last) (hlo : z.leftover ≠ 0)
    (hcur : z.status (idFromPos z.posToId (nrW + z.offset)) = false)
    (hp1 : nrW + z.offset ≤ p) (hp2 : p ≤ last) (hwin : z.status (idFromPos z.posToId p) = true) :
    ∀ F : Nat, ∃ script : List Nat, script.length = F ∧ (∀ x ∈ script, x = p - (nrW + z.offset)) ∧
      ∃ z', runWhile (leftCoreBody hash false nrW last) F none { z with d := ⟨script, z.d.log⟩ }
        = .ok (z', none, .outOfFuel) := by
  intro F
  refine ⟨List.replicate F (p - (nrW + z.offset)), List.length_replicate,
    fun x hx => List.eq_of_mem_replicate hx, ?_⟩
  obtain ⟨z', b', hrun, _⟩ := leftover_v1_loop_spins_script hash nrW last (p - (nrW + z.offset)) F
    none { z with d := ⟨List.replicate F (p - (nrW + z.offset)), z.d.log⟩ } []
    (fun k hk => by cases hk) hfull hlo hcur
    (by show z.status (idFromPos z.posToId (inRange (p - (nrW + z.offset)) (nrW + z.offset)
          (last + 1))) = true
        rw [us3_inRange_hit hp1 hp2]; exact hwin)
    (by simp)
  have hb' : b' = none := (runWhile_none_budget _ _ _ _ _ _ hrun).1
  subst hb'
  exact ⟨z', hrun⟩

/-- at endpoint level, with the model's fuel: a `distribute` / `secondary` call whose leftover loop
    starts in such a state and whose scripted draws begin with `v1LeftoverFuel` copies of a value
    landing on an already winning ticket spins, hence is rejected with "out of gas" -/
theorem call_spins_of_constant_draws (s : State) (e : Env) (z0 : LCore) (b1 : Option Nat)
    (raw : Nat) (rest : List Nat)
    (hls : us2_leftStart s e = some (z0, b1)) (hb : ∀ k, b1 = some k → v1LeftoverFuel ≤ k)
    (hfull : s.nrWinning + z0.additional < s.lastTicketId) (hlo : z0.leftover ≠ 0)
    (hcur : z0.status (idFromPos z0.posToId (s.nrWinning + z0.offset)) = false)
    (hhit : z0.status (idFromPos z0.posToId
      (inRange raw (s.nrWinning + z0.offset) (s.lastTicketId + 1))) = true)
    (hscr : z0.d.script = List.replicate v1LeftoverFuel raw ++ rest) : us2_Spins hash s e := by
  obtain ⟨z', b', hrun, _⟩ := leftover_v1_loop_spins_script hash s.nrWinning s.lastTicketId raw
    v1LeftoverFuel b1 z0 rest hb hfull hlo hcur hhit hscr
  exact ⟨z0, b1, z', b', hls, hrun⟩

/-! ### the concrete witness (migration)

  Three participants: 9 (no guarantee, tickets 1-2), 7 (staking guarantee, tickets 3-4), 8
  (staking + migration guarantee 2, ONE confirmed ticket: 5), `nrWinning = 4` of which 3 reserved.
  The lottery (`hash = id`) picks ticket 1; the guaranteed-ticket loop marks tickets 3 and 5 and
  leaves one reserved ticket over; the leftover loop starts at position 2 (ticket 2, not winning);
  the raw draw `1` lands on position 3 (ticket 3, winning): a re-draw.  With every scripted draw
  equal to `1` the loop never leaves position 2. -/

section Witness
open LP.Props.C01reachV1

def spAlloc : List (Nat × Nat × Nat × Bool) :=
  [(9, 0, 2, false), (7, 2, 1, false), (8, 1, 0, true)]

def sp1 : State := stOf (step id ex0 { caller := 1, round := 1 } (.addTicketsV1 spAlloc)) ex0
def sp2 : State :=
  stOf (step id sp1 { caller := 1, round := 2, esdts := [⟨.esdt 1, 0, 20⟩] } .deposit) sp1
def sp3 : State := stOf (step id sp2 { caller := 9, round := 5, egld := 20 } (.confirm 2)) sp2
def sp4 : State := stOf (step id sp3 { caller := 7, round := 6, egld := 20 } (.confirm 2)) sp3
def sp5 : State := stOf (step id sp4 { caller := 8, round := 6, egld := 10 } (.confirm 1)) sp4
def sp6 : State := stOf (step id sp5 { caller := 1, round := 10 } .filter) sp5
def sp7 : State := stOf (step id sp6 { caller := 1, round := 11 } .select) sp6

theorem sp5_reach : v1_ReachA id .migration exArgs sp5 6 :=
  callOk { caller := 8, round := 6, egld := 10 } (.confirm 1)
    (callOk { caller := 7, round := 6, egld := 20 } (.confirm 2)
      (callOk { caller := 9, round := 5, egld := 20 } (.confirm 2)
        (callOk { caller := 1, round := 2, esdts := [⟨.esdt 1, 0, 20⟩] } .deposit
          (callOk { caller := 1, round := 1 } (.addTicketsV1 spAlloc)
            ex0_reach (by decide) (Or.inl rfl)
            (by show ∀ q ∈ spAlloc, 1 ≤ q.2.1 + q.2.2.1; decide) (by decide +kernel))
          (by decide) (Or.inl rfl) trivial (by decide +kernel))
        (by decide) (Or.inr rfl) trivial (by decide +kernel))
      (by decide) (Or.inr rfl) trivial (by decide +kernel))
    (by decide) (Or.inr rfl) trivial (by decide +kernel)

theorem sp7_reach : v1_ReachA id .migration exArgs sp7 11 :=
  callOk { caller := 1, round := 11 } .select
    (callOk { caller := 1, round := 10 } .filter sp5_reach
      (by decide) (Or.inl rfl) trivial (by decide +kernel))
    (by decide) (Or.inl rfl) trivial (by decide +kernel)

theorem sp5_cov : us2_V1Cov id sp5 10 :=
  .v1 (Or.inl rfl) (v1_Reach_iff.mpr ⟨_, .wait _ _ _ sp5_reach (by decide)⟩)

theorem sp7_cov : us2_V1Cov id sp7 11 := .v1 (Or.inl rfl) (v1_Reach_iff.mpr ⟨_, sp7_reach⟩)

/-- the owner's `distribute` call at round 12, unlimited budget, scripted draws `scr` -/
def spEnv (scr : List Nat) : Env := { caller := 1, round := 12, script := scr }

/-- the state in which the leftover loop of that call starts -/
def spZ (scr : List Nat) : LCore :=
  match us2_leftStart sp7 (spEnv scr) with
  | some p => p.1
  | none => ⟨fun _ => false, fun _ => 0, default, 0, 0, 0, ⟨[], []⟩⟩

theorem sp_start (scr : List Nat) :
    us2_leftStart sp7 (spEnv scr) = some (spZ scr, none) ∧ (spZ scr).d.script = scr ∧
    sp7.nrWinning = 1 ∧ sp7.lastTicketId = 5 ∧
    (spZ scr).leftover = 1 ∧ (spZ scr).offset = 1 ∧ (spZ scr).additional = 2 ∧
    (spZ scr).status (idFromPos (spZ scr).posToId 2) = false ∧
    (spZ scr).status (idFromPos (spZ scr).posToId 3) = true :=
  ⟨rfl, rfl, by decide +kernel, by decide +kernel, rfl, rfl, rfl, rfl, rfl⟩

def spScript (rest : List Nat) : List Nat := List.replicate v1LeftoverFuel 1 ++ rest

/-- C04 fails for the v1 `distribute` under adversarial draws: in the reachable state `sp7` of
    migration (lottery complete, distribution not started, selection stage, not paused) the owner's
    call with an unlimited budget and the draw stream `1, 1, 1, …` (`v1LeftoverFuel` times, then
    anything) spins and is rejected with "out of gas" -/
theorem distribute_v1_spins_concrete (rest : List Nat) :
    us2_V1Cov id sp7 11 ∧ sp7.flags.selected = true ∧ sp7.flags.additional = false ∧
    sp7.paused = false ∧ sp7.cfg.sel ≤ 12 ∧ us2_OwnerCall sp7 (spEnv (spScript rest)) ∧
    us2_Spins id sp7 (spEnv (spScript rest)) ∧
    step id sp7 (spEnv (spScript rest)) .distribute = .error (.vm "out of gas") := by
  obtain ⟨hls, hscr, hnw, hlast, hlo, hoff, hadd, hcur, hwin⟩ := sp_start (spScript rest)
  have hsp : us2_Spins id sp7 (spEnv (spScript rest)) := by
    refine call_spins_of_constant_draws id sp7 _ _ none 1 rest hls (fun k hk => by cases hk)
      (by rw [hnw, hlast, hadd]; decide) (by rw [hlo]; decide)
      (by rw [hnw, hoff]; exact hcur)
      (by rw [hnw, hoff, hlast]; exact hwin) hscr
  have hs : sp7.flags.selected = true := by decide +kernel
  have ha : sp7.flags.additional = false := by decide +kernel
  have hc : sp7.cfg.sel ≤ 12 := by decide +kernel
  refine ⟨sp7_cov, hs, ha, by decide +kernel, hc,
    ⟨⟨rfl, rfl⟩, rfl, show 1 = sp7.owner by decide +kernel⟩, hsp, ?_⟩
  exact (LP.Props.C04unstuck2.distribute_v1_accepted_iff id sp7 11 _ sp7_cov
    hs ha (show 11 ≤ 12 by decide) hc rfl rfl).2.2 hsp

/-- end to end: from `sp5` (tickets confirmed, nothing selected) the owner's `filter`, `select`,
    `distribute` with unlimited budgets, the third with the draw stream `1, 1, 1, …`, leaves the
    contract with the lottery complete and the distribution not started -/
theorem all_steps_v1_stuck_concrete (rest : List Nat) :
    ¬ AllDone (run id sp5 [({ caller := 1, round := 10 }, .filter),
      ({ caller := 1, round := 11 }, .select), (spEnv (spScript rest), .distribute)]) ∧
    run id sp5 [({ caller := 1, round := 10 }, .filter),
      ({ caller := 1, round := 11 }, .select), (spEnv (spScript rest), .distribute)] = sp7 := by
  have h2 : run id sp5 [({ caller := 1, round := 10 }, .filter),
      ({ caller := 1, round := 11 }, .select)] = sp7 := rfl
  obtain ⟨_, _, hna, _, _, _, hsp, herr⟩ := distribute_v1_spins_concrete rest
  have h3 : run id sp5 [({ caller := 1, round := 10 }, .filter),
      ({ caller := 1, round := 11 }, .select), (spEnv (spScript rest), .distribute)] = sp7 := by
    rw [us2_run_three, ← us2_run_two id sp5 (_, .filter) (_, .select), h2, us2_run_one_err herr]
  refine ⟨fun hd => ?_, h3⟩
  rw [h3] at hd
  rw [hd.2] at hna
  cases hna

/-- the hypotheses of `all_steps_complete_v1_iff` hold of `sp5`, and its right-hand side fails -/
example (rest : List Nat) :
    ¬ ((run id sp5 [({ caller := 1, round := 10 }, .filter),
        ({ caller := 1, round := 11 }, .select)]).flags.additional = true ∨
      ¬ us2_Spins id (run id sp5 [({ caller := 1, round := 10 }, .filter),
        ({ caller := 1, round := 11 }, .select)]) (spEnv (spScript rest))) :=
  have ho : 1 = sp5.owner := by decide +kernel
  fun h => (all_steps_v1_stuck_concrete rest).1
    ((all_steps_complete_v1_iff id sp5 10 sp5_cov (by decide +kernel) (by decide +kernel) _ _ _
      ⟨by decide, by decide, show 11 ≤ 12 by decide, trivial⟩ ⟨⟨rfl, rfl⟩, rfl, ho⟩
      ⟨⟨rfl, rfl⟩, rfl, ho⟩ ⟨⟨rfl, rfl⟩, rfl, ho⟩).mpr h)

/-- with the generator's own draws (no script) the same sequence from `sp5` completes -/
example : AllDone (run id sp5 [({ caller := 1, round := 10 }, .filter),
    ({ caller := 1, round := 11 }, .select), ({ caller := 1, round := 12 }, .distribute)]) := by
  have ho : 1 = sp5.owner := by decide +kernel
  refine (all_steps_complete_v1_partial id sp5 10 sp5_cov (by decide +kernel) (by decide +kernel) _ _ _
    ⟨by decide, by decide, by decide, trivial⟩ ⟨⟨rfl, rfl⟩, rfl, ho⟩
    ⟨⟨rfl, rfl⟩, rfl, ho⟩ ⟨⟨rfl, rfl⟩, rfl, ho⟩ ?_).1
  intro _
  have h2 : run id sp5 [({ caller := 1, round := 10 }, .filter),
      ({ caller := 1, round := 11 }, .select)] = sp7 := rfl
  rw [h2]
  obtain ⟨o, h⟩ := LP.Props.C14reach.step_stOf
    (x := step id sp7 { caller := 1, round := 12 } .distribute) (by decide +kernel) sp7
  exact (LP.Props.C04unstuck2.distribute_v1_accepted_iff id sp7 11 _ sp7_cov (by decide +kernel)
    (by decide +kernel) (by decide) (by decide +kernel) rfl rfl).2.1.mp ⟨_, _, h⟩

/-- for EVERY fuel `F` the loop started in `spZ` spins on the stream `1, …, 1` of length `F` -/
example (F : Nat) : ∃ script : List Nat, script.length = F ∧ (∀ x ∈ script, x = 1) ∧
    ∃ z', runWhile (leftCoreBody id false 1 5) F none { spZ [] with d := ⟨script, (spZ []).d.log⟩ }
      = .ok (z', none, .outOfFuel) := by
  obtain ⟨_, _, _, _, hlo, hoff, hadd, hcur, hwin⟩ := sp_start []
  have := leftover_v1_loop_spins_every_fuel id 1 5 (spZ []) 3 (by rw [hadd]; decide)
    (by rw [hlo]; decide) (by rw [hoff]; exact hcur) (by rw [hoff]; decide) (by decide) hwin F
  rw [hoff] at this
  exact this

end Witness

section ExNG
open LP.Props.C14reachG

def gZero : Env := { caller := 9, round := 13, budget := some 0, script := [0] }

/-- from `g11` (lottery complete, nothing saved, 2 whitelist entries, 2 fee payers, 1 NFT) nine
    one-iteration `secondary` calls with the scripted draw `0` complete the step -/
example : us2_distLeft g11 = 6 ∧ us_nftLeft g11 = 1 ∧
    (run id g11 (us_hist .secondary (List.replicate 9 gZero))).flags.additional = true := by
  have hd : us2_distLeft g11 = 6 := by decide +kernel
  have hn : us_nftLeft g11 = 1 := by decide +kernel
  refine ⟨hd, hn, secondary_completes_partial_calls id g11 12 (ng_Reach_iff.mpr ⟨_, g11_reach⟩)
    (by decide +kernel) (by decide +kernel) (List.replicate 9 gZero)
    (us3_roundsFrom_replicate .secondary gZero (by decide) 9) ?_ (by rw [hd, hn]; decide)⟩
  intro e he
  rw [List.eq_of_mem_replicate he]
  exact ⟨⟨rfl, rfl⟩, secondary_draws_hypothesis_satisfiable id gZero rfl rfl⟩

/-- from `g8` (tickets and NFT fees confirmed, nothing selected) `filter`, `select`, `secondary`
    with the generator's own draws -/
example : AllDone (run id g8 [({ caller := 1, round := 10 }, .filter),
    ({ caller := 1, round := 11 }, .select), ({ caller := 1, round := 12 }, .secondary)]) := by
  have hs : ng_Reach id g8 10 := ng_Reach_iff.mpr ⟨_, .wait _ _ _ g8_reach (by decide)⟩
  have hR : RoundsFrom 10 [(({ caller := 1, round := 10 } : Env), Call.filter),
      (({ caller := 1, round := 11 } : Env), Call.select)] := ⟨by decide, by decide, trivial⟩
  have hsel : g8.cfg.sel ≤ 10 := by decide +kernel
  have hp : g8.paused = false := by decide +kernel
  have ho : 1 = g8.owner := by decide +kernel
  refine (all_steps_complete_nftGuar_partial id g8 10 hs hsel hp _ _ _
    ⟨by decide, by decide, by decide, trivial⟩ ⟨⟨rfl, rfl⟩, rfl, ho⟩
    ⟨⟨rfl, rfl⟩, rfl, ho⟩ ⟨⟨rfl, rfl⟩, rfl, ho⟩ ?_).1
  intro hna
  obtain ⟨hO, hsd⟩ := us3_two_steps (us3_rel_ng id) hs hsel hp _ _ hR
    ⟨⟨rfl, rfl⟩, rfl, ho⟩ ⟨⟨rfl, rfl⟩, rfl, ho⟩
  obtain ⟨o, h⟩ := LP.Props.C14reach.step_stOf
    (x := step id (run id g8 [({ caller := 1, round := 10 }, .filter),
      ({ caller := 1, round := 11 }, .select)]) { caller := 1, round := 12 } .secondary)
    (by decide +kernel)
    (run id g8 [({ caller := 1, round := 10 }, .filter), ({ caller := 1, round := 11 }, .select)])
  have hop : (run id g8 [(({ caller := 1, round := 10 } : Env), Call.filter),
      (({ caller := 1, round := 11 } : Env), Call.select)]).op = .none := by decide +kernel
  exact (LP.Props.C04unstuck2.secondary_accepted_iff id _ 11 _ hO.reach hsd hna
    (fun rg hh => by rw [hop] at hh; cases hh) (by decide) (by decide +kernel) rfl rfl).2.1.mp ⟨_, _, h⟩

end ExNG

end LP.Props.C04unstuck3

#print axioms LP.Props.C04unstuck3.secondary_progress_partial
#print axioms LP.Props.C04unstuck3.secondary_nftLeft_mono
#print axioms LP.Props.C04unstuck3.secondary_completes_partial_measure
#print axioms LP.Props.C04unstuck3.secondary_completes_partial_calls
#print axioms LP.Props.C04unstuck3.secondary_completes_partial_within
#print axioms LP.Props.C04unstuck3.secondary_draws_hypothesis_satisfiable
#print axioms LP.Props.C04unstuck3.all_steps_complete_v1_partial
#print axioms LP.Props.C04unstuck3.all_steps_complete_v1_partial_draws
#print axioms LP.Props.C04unstuck3.all_steps_complete_v1_iff
#print axioms LP.Props.C04unstuck3.all_steps_complete_nftGuar_partial
#print axioms LP.Props.C04unstuck3.all_steps_complete_nftGuar_partial_draws
#print axioms LP.Props.C04unstuck3.all_steps_complete_nftGuar_iff
#print axioms LP.Props.C04unstuck3.leftover_v1_loop_spins_every_fuel
#print axioms LP.Props.C04unstuck3.leftover_v1_loop_spins_script
#print axioms LP.Props.C04unstuck3.call_spins_of_constant_draws
#print axioms LP.Props.C04unstuck3.sp5_reach
#print axioms LP.Props.C04unstuck3.sp7_reach
#print axioms LP.Props.C04unstuck3.sp5_cov
#print axioms LP.Props.C04unstuck3.sp7_cov
#print axioms LP.Props.C04unstuck3.sp_start
#print axioms LP.Props.C04unstuck3.distribute_v1_spins_concrete
#print axioms LP.Props.C04unstuck3.all_steps_v1_stuck_concrete
