import LP.Proofs.Gaps
import LP.Props.C02reach
import LP.Props.C13reachV2
import LP.Props.C01reachV1
import LP.Props.C01reachG1
import LP.Props.C14reachG
/-
  C18 / C07 at the level of reachable states, for all eight launchpads
  (`Covered hash s r` = `be_Covered`: `s` is reachable by base, locked, nft, guarV1, guarV2,
  migration, lockedGuar or nftGuar from some deployment by accepted transactions satisfying
  `HistOK` — EGLD or ESDT but not both; allocation entries of `addTickets`/`addTicketsV1` have at
  least one ticket —, latest transaction at a round `≤ r`).

  The allocation records partition the ticket space `1..lastTicketId` before the filter starts and
  from its completion to that of the lottery (a claim deletes the claimant's record); an accepted
  allocation gives each listed address exactly `[total before its entry + 1, … + n]`, only if it
  had no record; the record is kept unchanged until the selection period begins, and a second
  allocation is rejected in every later state;
  `confirmed ≤ size` until the filter completes, `= size` afterwards; the per-address views report
  these numbers.
-/
namespace LP.Props.C18reach
open LP LP.Events LP.Props.C17

abbrev Covered := be_Covered
abbrev HistOK := be_HistOK
abbrev Later := be_Later HistOK

/-- number of tickets of the record of `a` (`last - first + 1`; `0` without a record) -/
abbrev size (s : State) (a : Nat) : Nat := ar_size s.range a

/-- the (address, size) pairs an allocation call creates: `addTickets l` ↦ `l`,
    `addTicketsV1 l` ↦ (address, staking + energy), `addTicketsV2 l` ↦ the non-zero entries -/
abbrev allocList := ar_allocList

/-- the allocation records partition the ticket space `1 .. lastTicketId` -/
structure Partition (s : State) : Prop where
  /-- every record lies in `1..lastTicketId` and is not empty -/
  bounds : ∀ a rg, s.range a = some rg → 1 ≤ rg.first ∧ rg.first ≤ rg.last ∧ rg.last ≤ s.lastTicketId
  /-- the records of different addresses are disjoint -/
  disjoint : ∀ a b ra rb, a ≠ b → s.range a = some ra → s.range b = some rb →
    ra.last < rb.first ∨ rb.last < ra.first
  /-- every ticket id belongs to the record of exactly one address -/
  cover : ∀ t, 1 ≤ t → t ≤ s.lastTicketId → ∃ a rg, s.range a = some rg ∧ rg.first ≤ t ∧ t ≤ rg.last ∧
    ∀ b rb, s.range b = some rb → rb.first ≤ t → t ≤ rb.last → b = a
  /-- the sizes add up to the total, over the (duplicate-free) list of record holders -/
  total : ∃ H : List Nat, H.Nodup ∧ (∀ a, a ∈ H ↔ (s.range a).isSome = true) ∧
    sumOver (size s) H = s.lastTicketId

theorem partition_of_part {s : State} {L : List (Nat × Nat)} (h : ar_Part s.core L) : Partition s :=
  ⟨fun _ _ hr => h.bounds hr, fun _ _ _ _ hne hra hrb => h.disj hne hra hrb,
    fun _ h1 h2 => h.cover h1 h2, ⟨L.map Prod.fst, h.sum⟩⟩

/-- **C18, before the filter.** In every reachable state of each of the eight launchpads in which
    the filter has not started (`filtered = false`, no saved operation): the records partition
    `1..lastTicketId`, and nobody has confirmed more than the size of his record. -/
theorem ranges_partition (hash : List Nat → List Nat) (s : State) (r : Nat) (h : Covered hash s r)
    (hf : s.flags.filtered = false) (hop : s.op = .none) :
    Partition s ∧ ∀ a, s.confirmed a ≤ size s a := by
  obtain ⟨L, hp, hle⟩ := (ar_tix_covered h).pre hf hop
  exact ⟨partition_of_part hp, fun a => (ar_confLe_of_part hp hle a).1⟩

/-- **C18, after the filter.** In every reachable state in which the filter has completed and the
    base lottery has not: the (compacted) records partition the (shrunk) ticket space
    `1..lastTicketId`, every record has exactly as many tickets as its holder confirmed, and an
    address without a record has nothing confirmed. -/
theorem ranges_partition_filtered (hash : List Nat → List Nat) (s : State) (r : Nat)
    (h : Covered hash s r) (hf : s.flags.filtered = true) (hsel : s.flags.selected = false) :
    Partition s ∧ ∀ a, s.confirmed a = size s a := by
  obtain ⟨L, hp, heq⟩ := (ar_tix_covered h).post hf hsel
  exact ⟨partition_of_part hp, fun a => (ar_confEq_of_part hp heq a).1⟩

/-- For guarV2, migration, lockedGuar and guarV1 the partition of `ranges_partition_filtered` also
    holds after the base lottery, until the distribution step has completed
    (`additional = false`; no claim is possible before). -/
theorem ranges_partition_until_distributed (hash : List Nat → List Nat) (s : State) (r : Nat)
    (h : Reach hash .guarV2 s r ∨ (∃ v, v1_Fam v ∧ v1_Reach hash v s r) ∨ g1_Reach hash s r)
    (hf : s.flags.filtered = true) (ha : s.flags.additional = false) :
    Partition s ∧ ∀ a, s.confirmed a = size s a := by
  have hc : Covered hash s r := by
    rcases h with h | ⟨v, hv, h⟩ | h
    · exact .guarV2 h
    · exact .v1 hv h
    · exact .guarV1 h
  obtain ⟨L, hp, heq⟩ := gp_part_open hc hf (.inr ha)
  exact ⟨partition_of_part hp, fun a => (ar_confEq_of_part hp heq a).1⟩

/-- Every state after the filter (also while winners claim, which deletes records): records are
    non-empty, pairwise disjoint and of exactly the confirmed size. -/
theorem ranges_after_filter (hash : List Nat → List Nat) (s : State) (r : Nat)
    (h : Covered hash s r) (hf : s.flags.filtered = true) :
    (∀ a rg, s.range a = some rg → rg.first ≤ rg.last ∧ rg.last + 1 = rg.first + s.confirmed a) ∧
    (∀ a, s.range a = none → s.confirmed a = 0) ∧
    (∀ a b ra rb, a ≠ b → s.range a = some ra → s.range b = some rb →
      ra.last < rb.first ∨ rb.last < ra.first) := by
  have ht := ar_tix_covered h
  refine ⟨fun a rg hr => ?_, fun a hr => ?_, ht.disjF hf⟩
  · obtain ⟨h1, h2⟩ := ht.confEq hf a
    have h3 := h2 rg hr
    have h1' : s.confirmed a = ar_size s.range a := h1
    rw [ar_size_some hr] at h1'
    unfold rangeLen at h1'
    exact ⟨h3, by omega⟩
  · have h1 : s.confirmed a = ar_size s.range a := (ht.confEq hf a).1
    rw [h1, ar_size_none hr]

/-- Every reachable state (before, during and after the filter, during the lottery and the
    additional selection steps, while winners claim): every record is non-empty and lies inside
    `1..lastTicketId`. -/
theorem ranges_bounded (hash : List Nat → List Nat) (s : State) (r : Nat) (h : Covered hash s r)
    (a : Nat) (rg : Range) (hr : s.range a = some rg) :
    1 ≤ rg.first ∧ rg.first ≤ rg.last ∧ rg.last ≤ s.lastTicketId := by
  have hb := ar_bnd_covered h a rg hr
  have ht := ar_tix_covered h
  refine ⟨hb.1, ?_, hb.2⟩
  cases hf : s.flags.filtered with
  | false => exact (ht.confLe hf a).2 rg hr
  | true => exact (ht.confEq hf a).2 rg hr

/-- **C18, exact range.** An accepted allocation call (any of the three endpoints, any state): the
    address of the entry `(a, n)` that follows the prefix `P` of the call's list had no record and
    receives exactly `[lastTicketId + Σ P + 1, lastTicketId + Σ P + n]` — `n` fresh consecutive ids
    right after the tickets allocated before its entry. -/
theorem allocation_exact (hash : List Nat → List Nat) (s : State) (e : Env) (c : Call) (s' : State)
    (o : Out) (L P S : List (Nat × Nat)) (a n : Nat) (hok : HistOK e c) (hL : allocList c = some L)
    (h : step hash s e c = .ok (s', o)) (hsplit : L = P ++ (a, n) :: S) :
    s.range a = none ∧
    s'.range a = some ⟨s.lastTicketId + ticketTotal P + 1, s.lastTicketId + ticketTotal P + n⟩ ∧
    size s' a = n :=
  ar_step_alloc_exact hL (ar_alloc_pos hok hL) h hsplit

/-- An accepted allocation call happens in the add-tickets stage, lists no address twice, lists
    only addresses without a record, increases the total number of tickets by exactly the sum of
    the allocated sizes and leaves every other address's record unchanged. -/
theorem allocation_total (hash : List Nat → List Nat) (s : State) (e : Env) (c : Call) (s' : State)
    (o : Out) (L : List (Nat × Nat)) (hL : allocList c = some L) (h : step hash s e c = .ok (s', o)) :
    s.stage e = .addTickets ∧ (L.map Prod.fst).Nodup ∧ (∀ a ∈ L.map Prod.fst, s.range a = none) ∧
    s'.lastTicketId = s.lastTicketId + ticketTotal L ∧
    (∀ a, a ∉ L.map Prod.fst → s'.range a = s.range a) := by
  obtain ⟨h1, h2, h3, h4, _, h6⟩ := ar_step_alloc hL h
  exact ⟨h1, h2, h3, h4, h6⟩

theorem duplicate_in_call_rejected (hash : List Nat → List Nat) (s : State) (e : Env) (c : Call)
    (L : List (Nat × Nat)) (hL : allocList c = some L) (hdup : ¬ (L.map Prod.fst).Nodup) :
    ∃ err, step hash s e c = .error err :=
  rejected_of_not_ok fun _ _ hx => hdup (ar_step_alloc hL hx).2.1

theorem allocated_again_rejected (hash : List Nat → List Nat) (s : State) (e : Env) (c : Call)
    (L : List (Nat × Nat)) (a : Nat) (hL : allocList c = some L) (ha : a ∈ L.map Prod.fst)
    (hr : s.range a ≠ none) : ∃ err, step hash s e c = .error err :=
  rejected_of_not_ok fun _ _ hx => hr ((ar_step_alloc hL hx).2.2.1 a ha)

/-- **The record is kept.** From a reachable state in which `a` holds the record `rg`: in every
    later state of any history (accepted transactions satisfying `HistOK`, rounds non-decreasing,
    waiting allowed) that has not yet reached the start of the selection period (`r' < cfg.sel`;
    the filter — the only operation that rewrites records before claims — is gated on that
    period), `a` holds exactly `rg`. -/
theorem range_kept (hash : List Nat → List Nat) (s : State) (r : Nat) (h : Covered hash s r)
    (s' : State) (r' : Nat) (hl : Later hash s r s' r') (hearly : r' < s'.cfg.sel)
    (a : Nat) (rg : Range) (hr : s.range a = some rg) : s'.range a = some rg :=
  ar_later_keeps h hl hearly a rg hr

/-- **Allocated at most once, across calls.** From a reachable state in which `a` holds a record:
    in every later state, every allocation call (at a round `≥ r'`, that of the later state) that
    lists `a` (with a positive count for v2) is rejected. -/
theorem allocated_once (hash : List Nat → List Nat) (s : State) (r : Nat) (h : Covered hash s r)
    (a : Nat) (rg : Range) (hr : s.range a = some rg)
    (s' : State) (r' : Nat) (hl : Later hash s r s' r') (e : Env) (hre : r' ≤ e.round) (c : Call)
    (L : List (Nat × Nat)) (hL : allocList c = some L) (ha : a ∈ L.map Prod.fst) :
    ∃ err, step hash s' e c = .error err := by
  refine rejected_of_not_ok fun _ _ hx => ?_
  obtain ⟨hst, _, hnone, _⟩ := ar_step_alloc hL hx
  have hc' := (be_family_all hash).later h hl
  have hv := ((be_family_all hash).good hc').valid
  obtain ⟨h1, _⟩ := (validPeriods_iff _).mp hv
  have h2 := rb_stage_addTickets hst
  have := ar_later_keeps h hl (by omega) a rg hr
  rw [hnone a ha] at this; cases this

/-- **C07.** In every reachable state of each of the eight launchpads: until the filter completes
    (also while it is interrupted) `confirmed a ≤ size of a's record` (`0` without a record); once
    it has completed `confirmed a = size of a's record`; a blacklisted address has nothing
    confirmed. -/
theorem confirmed_within_allocation (hash : List Nat → List Nat) (s : State) (r : Nat)
    (h : Covered hash s r) (a : Nat) :
    (s.flags.filtered = false → s.confirmed a ≤ size s a) ∧
    (s.flags.filtered = true → s.confirmed a = size s a) ∧
    (s.blacklist a = true → s.confirmed a = 0) :=
  ⟨fun hf => ((ar_tix_covered h).confLe hf a).1, fun hf => ((ar_tix_covered h).confEq hf a).1,
    fun hb => ((be_family_all hash).good h).blz a hb⟩

/-- In every reachable state the ticket-count view of every address succeeds (no record is empty,
    so the checked subtraction `last - first` does not underflow) and reports the size of the
    record; the confirmed-tickets view is bounded by / equal to it as in
    `confirmed_within_allocation`. -/
theorem views_exact (hash : List Nat → List Nat) (s : State) (r : Nat) (h : Covered hash s r) (a : Nat) :
    ticketsFor s a = .ok (size s a) ∧
    (s.flags.filtered = false → ∀ n, ticketsFor s a = .ok n → s.confirmed a ≤ n) ∧
    (s.flags.filtered = true → ticketsFor s a = .ok (s.confirmed a)) := by
  have ht := ar_tix_covered h
  have hne : ∀ rg, s.range a = some rg → rg.first ≤ rg.last :=
    fun rg hr => (ranges_bounded hash s r h a rg hr).2.1
  have h1 : ticketsFor s a = .ok (size s a) := by
    unfold ticketsFor
    cases hr : s.range a with
    | none => simp [size, ar_size, hr]
    | some rg =>
      have := hne rg hr
      simp only [csub, this, ↓reduceIte, bind, Except.bind, pure, Except.pure, size, ar_size, hr, rangeLen]
      congr 1; omega
  refine ⟨h1, fun hf n hn => ?_, fun hf => ?_⟩
  · rw [h1] at hn; injection hn with hn; subst hn; exact (ht.confLe hf a).1
  · rw [h1]; congr 1; exact ((ht.confEq hf a).1).symm

/-- The partition, the bound and the view from any deployment of any variant, after any history `p`
    (rounds non-decreasing, transactions satisfying `HistOK`, rejected transactions allowed). -/
theorem allocation_run (hash : List Nat → List Nat) (v : Variant) (a0 : InitArgs) (e0 : Env)
    (s0 : State) (hi : init v a0 e0 = .ok s0) (p : Hist) (hr : RoundsFrom e0.round p)
    (hp : ∀ x ∈ p, HistOK x.1 x.2) :
    let s := run hash s0 p
    (s.flags.filtered = false → s.op = .none → Partition s) ∧
    (s.flags.filtered = true → s.flags.selected = false → Partition s) ∧
    (∀ a, (s.flags.filtered = false → s.confirmed a ≤ size s a) ∧
      (s.flags.filtered = true → s.confirmed a = size s a) ∧
      (s.blacklist a = true → s.confirmed a = 0) ∧ ticketsFor s a = .ok (size s a)) := by
  obtain ⟨r', hc, _⟩ := be_covered_run (be_covered_init (hash := hash) hi) p hr hp
  refine ⟨fun hf hop => (ranges_partition hash _ r' hc hf hop).1,
    fun hf hs => (ranges_partition_filtered hash _ r' hc hf hs).1, fun a => ?_⟩
  obtain ⟨h1, h2, h3⟩ := confirmed_within_allocation hash _ r' hc a
  exact ⟨h1, h2, h3, (views_exact hash _ r' hc a).1⟩

/-! ## non-vacuity: states of the histories of LP/Props/C01reach.lean (base, `ex…`) and
  LP/Props/C02reach.lean (locked, `l…`) -/

section examples
open LP.Props.C01reach LP.PL

/-- `ex2`: base launchpad, 7 ↦ 2 tickets, 8 ↦ 1 ticket, deposit made, filter not started; the
    records are `[1,2]`, `[3,3]` -/
theorem ex2_covered : Covered id ex2 2 := .plain (Or.inl rfl) ex2_reach

example : ex2.flags.filtered = false ∧ ex2.op = .none ∧ ex2.range 7 = some ⟨1, 2⟩ ∧
    ex2.range 8 = some ⟨3, 3⟩ ∧ ex2.lastTicketId = 3 ∧ Partition ex2 := by
  refine ⟨?_, ?_, ?_, ?_, ?_, (ranges_partition id ex2 2 ex2_covered ?_ ?_).1⟩ <;> decide +kernel

/-- the allocation `ex0 → ex1` gives 8 the record `[0 + 2 + 1, 0 + 2 + 1]` -/
example : ex1.range 8 = some ⟨3, 3⟩ := by
  obtain ⟨o, ho'⟩ := stOf_spec ex1_ok ex0
  have hok : HistOK { caller := 1, round := 1 } (.addTickets [(7, 2), (8, 1)]) :=
    ⟨Or.inl rfl, by show ∀ p ∈ [(7, 2), (8, 1)], 1 ≤ p.2; decide, trivial⟩
  exact (allocation_exact id ex0 _ _ ex1 o [(7, 2), (8, 1)] [(7, 2)] [] 8 1 hok rfl ho' rfl).2.1.trans
    (by decide +kernel)

/-- allocating 7 again in `ex2`, and a call listing 9 twice, are rejected -/
example : isOk (step id ex2 { caller := 1, round := 3 } (.addTickets [(7, 1)])) = false ∧
    isOk (step id ex2 { caller := 1, round := 3 } (.addTickets [(9, 1), (9, 2)])) = false := by
  decide +kernel

/-- `l3` (7 confirmed 2 of 2, 8 confirmed 0 of 1) and `l4` (filter complete, lottery not: 8's
    record is gone, 7 holds `[1,2]`, total 2) -/
theorem l3_covered : Covered id l3 5 := .plain (Or.inr rfl) (Reach_iff.mpr ⟨_, l3_reachA⟩)

theorem l4_covered : Covered id l4 10 := .plain (Or.inr rfl) (Reach_iff.mpr ⟨_, l4_reachA⟩)

example : l3.confirmed 7 = 2 ∧ size l3 7 = 2 ∧ l3.confirmed 8 = 0 ∧ size l3 8 = 1 ∧
    l4.flags.filtered = true ∧ l4.flags.selected = false ∧ l4.range 7 = some ⟨1, 2⟩ ∧
    l4.range 8 = none ∧ l4.lastTicketId = 2 ∧ Partition l4 ∧ ticketsFor l4 7 = .ok 2 := by
  refine ⟨?_, ?_, ?_, ?_, ?_, ?_, ?_, ?_, ?_, (ranges_partition_filtered id l4 10 l4_covered ?_ ?_).1,
    rfl⟩ <;> decide +kernel

/-- `l5` (lottery complete: participant 7 still holds `[1,2]`) and `l6` (participant 7 has
    claimed) -/
theorem l5_covered : Covered id l5 11 := .plain (Or.inr rfl) (Reach_iff.mpr ⟨_, l5_reachA⟩)
theorem l6_covered : Covered id l6 15 := .plain (Or.inr rfl) (Reach_iff.mpr ⟨_, l6_reachA⟩)

example : l5.flags.selected = true ∧ l5.range 7 = some ⟨1, 2⟩ ∧ l5.lastTicketId = 2 ∧
    l6.range 7 = none ∧ l6.lastTicketId = 2 := by
  decide +kernel

/-- from `ex1` to `ex2` (round 2 < selection start) the record is kept -/
example : ex2.range 7 = ex1.range 7 := by decide +kernel

end examples

/-! #### the other families: guarV2 (`x5`), migration (`ex5`), guarV1 (`w5`), nftGuar (`g8` before
   the filter, `g9` interrupted filter, `g10` filter complete) -/

section more
open LP.VV in
example : Covered id x5 6 ∧ x5.flags.filtered = false ∧ x5.op = .none ∧
    x5.range 7 = some ⟨1, 3⟩ ∧ x5.range 8 = some ⟨4, 4⟩ ∧ x5.lastTicketId = 4 ∧ x5.confirmed 7 = 2 :=
  ⟨.guarV2 x5_reach, by decide +kernel⟩

open LP.Props.C01reachV1 in
example : Covered id ex5 6 ∧ ex5.flags.filtered = false ∧ ex5.op = .none ∧
    ex5.range 7 = some ⟨1, 3⟩ ∧ ex5.range 8 = some ⟨4, 4⟩ ∧ ex5.range 9 = some ⟨5, 6⟩ ∧
    ex5.lastTicketId = 6 :=
  ⟨.v1 (Or.inl rfl) (v1_Reach_iff.mpr ⟨_, ex5_reach⟩), by decide +kernel⟩

open LP.Props.C01reachG1 in
example : Covered id w5 6 ∧ w5.flags.filtered = false ∧ w5.op = .none ∧
    w5.range 7 = some ⟨1, 2⟩ ∧ w5.range 8 = some ⟨3, 4⟩ ∧ w5.lastTicketId = 4 :=
  ⟨.guarV1 (g1_Reach_iff.mpr ⟨_, w5_reach⟩), by decide +kernel⟩

open LP.Props.C14reachG in
example : Covered id g8 8 ∧ g8.flags.filtered = false ∧ g8.op = .none ∧ g8.lastTicketId = 6 ∧
    Covered id g10 11 ∧ g10.flags.filtered = true ∧ g10.flags.selected = false ∧
    g10.range 7 = some ⟨1, 2⟩ ∧ g10.range 8 = some ⟨3, 3⟩ ∧ g10.range 9 = some ⟨4, 5⟩ ∧
    g10.lastTicketId = 5 :=
  ⟨.nftGuar (ng_Reach_iff.mpr ⟨_, g8_reach⟩), by decide +kernel, by decide +kernel, by decide +kernel,
    .nftGuar (ng_Reach_iff.mpr ⟨_, g10_reach⟩), by decide +kernel⟩

/-- the interrupted filter `g9`: 7's record already compacted to `[1,2]`, 8 and 9 untouched -/
example : LP.Props.C14reachG.g9.op = .filter 4 1 ∧ LP.Props.C14reachG.g9.flags.filtered = false ∧
    LP.Props.C14reachG.g9.range 7 = some ⟨1, 2⟩ ∧ LP.Props.C14reachG.g9.range 8 = some ⟨4, 4⟩ ∧
    LP.Props.C14reachG.g9.lastTicketId = 6 := by
  decide +kernel

/-- migration, `ex8`: base lottery complete, distribution not -/
example : LP.Props.C01reachV1.ex8.flags.filtered = true ∧ LP.Props.C01reachV1.ex8.flags.selected = true ∧
    LP.Props.C01reachV1.ex8.flags.additional = false ∧ Partition LP.Props.C01reachV1.ex8 :=
  have hf : LP.Props.C01reachV1.ex8.flags.filtered = true := by decide +kernel
  have ha : LP.Props.C01reachV1.ex8.flags.additional = false := by decide +kernel
  ⟨hf, by decide +kernel, ha, (ranges_partition_until_distributed id _ 12
    (Or.inr (Or.inl ⟨_, Or.inl rfl, v1_Reach_iff.mpr ⟨_, LP.Props.C01reachV1.ex8_reach⟩⟩)) hf ha).1⟩

end more

end LP.Props.C18reach

#print axioms LP.Props.C18reach.ranges_partition
#print axioms LP.Props.C18reach.ranges_partition_filtered
#print axioms LP.Props.C18reach.ranges_partition_until_distributed
#print axioms LP.Props.C18reach.ranges_after_filter
#print axioms LP.Props.C18reach.ranges_bounded
#print axioms LP.Props.C18reach.allocation_exact
#print axioms LP.Props.C18reach.allocation_total
#print axioms LP.Props.C18reach.duplicate_in_call_rejected
#print axioms LP.Props.C18reach.allocated_again_rejected
#print axioms LP.Props.C18reach.range_kept
#print axioms LP.Props.C18reach.allocated_once
#print axioms LP.Props.C18reach.confirmed_within_allocation
#print axioms LP.Props.C18reach.views_exact
#print axioms LP.Props.C18reach.allocation_run
