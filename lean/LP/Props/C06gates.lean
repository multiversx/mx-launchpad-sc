import LP.Proofs.Gate
/-
  C06, gating half — which lifecycle phase each gated endpoint requires: the stage and completion-flag
  clauses of the table `Gate` (LP/Proofs/Gate.lean), which also holds the pause and caller guards of the
  same bodies (LP/Props/C19.lean, C15.lean).  That the stage never moves backwards is LP/Props/C06stage.lean
  (along histories: C06run.lean).
-/
namespace LP.Props.C06
open LP

/-- allocations are accepted only before confirmation starts -/
theorem alloc_only_in_addTickets (hash : List Nat → List Nat) (s : State) (e : Env) (c : Call) (r : State × Out)
    (hc : (∃ l, c = .addTickets l) ∨ (∃ l, c = .addTicketsV1 l) ∨ (∃ l, c = .addTicketsV2 l))
    (h : step hash s e c = .ok r) : s.stage e = .addTickets := by
  rcases hc with ⟨l, rfl⟩ | ⟨l, rfl⟩ | ⟨l, rfl⟩ <;> exact step_gate h

/-- the setters of price, tokens-per-ticket, NFT fee and the v2 schedule are accepted only before
    confirmation starts (that no other call changes these terms afterwards: LP/Props/C17.lean) -/
theorem terms_only_in_addTickets (hash : List Nat → List Nat) (s : State) (e : Env) (c : Call) (r : State × Out)
    (hc : (∃ a b, c = .setTicketPrice a b) ∨ (∃ a, c = .setPerTicket a) ∨ (∃ a, c = .setNftCost a) ∨
          (∃ l, c = .setSchedule2 l))
    (h : step hash s e c = .ok r) : s.stage e = .addTickets := by
  rcases hc with ⟨a, b, rfl⟩ | ⟨a, rfl⟩ | ⟨a, rfl⟩ | ⟨l, rfl⟩
  · exact (step_gate h).1
  · exact (step_gate h).1
  · exact (step_gate h).1
  · exact step_gate h

/-- the setter of the v1 schedule is accepted only before confirmation starts, or when no schedule
    has been set yet -/
theorem schedule1_gate (hash : List Nat → List Nat) (s : State) (e : Env) (a b c d f : Nat) (r : State × Out)
    (h : step hash s e (.setSchedule1 a b c d f) = .ok r) : e.round < s.cfg.conf ∨ s.sched1 = none :=
  step_gate h

/-- confirmations (tickets and NFT fee) only inside the confirmation window -/
theorem confirm_only_in_confirm (hash : List Nat → List Nat) (s : State) (e : Env) (c : Call) (r : State × Out)
    (hc : (∃ n, c = .confirm n) ∨ c = .confirmNft)
    (h : step hash s e c = .ok r) : s.stage e = .confirm := by
  rcases hc with ⟨n, rfl⟩ | rfl
  · exact (step_gate h).2
  · exact step_gate h

/-- `blacklist`, `refundUsers` and `unblacklist` are accepted only before selection starts -/
theorem blacklist_only_before_selection (hash : List Nat → List Nat) (s : State) (e : Env) (c : Call) (r : State × Out)
    (hc : (∃ l, c = .blacklist l) ∨ (∃ l, c = .refundUsers l) ∨ (∃ l, c = .unblacklist l))
    (h : step hash s e c = .ok r) : s.stage e = .addTickets ∨ s.stage e = .confirm := by
  rcases hc with ⟨l, rfl⟩ | ⟨l, rfl⟩ | ⟨l, rfl⟩ <;> exact (step_gate h).2

/-! selection steps only during selection, each gated by the flags of the previous ones:
    filter (not yet filtered) → base selection (filtered, not yet selected) →
    additional step (selected, not yet completed) -/

theorem filter_gate (hash : List Nat → List Nat) (s : State) (e : Env) (r : State × Out)
    (h : step hash s e .filter = .ok r) : s.stage e = .winnerSelection ∧ s.flags.filtered = false :=
  (step_gate h).2

theorem select_gate (hash : List Nat → List Nat) (s : State) (e : Env) (r : State × Out)
    (h : step hash s e .select = .ok r) :
    s.stage e = .winnerSelection ∧ s.flags.filtered = true ∧ s.flags.selected = false :=
  ⟨(step_gate h).2.1, (step_gate h).2.2.2⟩

theorem additional_gate (hash : List Nat → List Nat) (s : State) (e : Env) (c : Call) (r : State × Out)
    (hc : c = .distribute ∨ c = .selectNft ∨ c = .secondary)
    (h : step hash s e c = .ok r) :
    s.stage e = .winnerSelection ∧ s.flags.selected = true ∧ s.flags.additional = false := by
  rcases hc with rfl | rfl | rfl
  · exact ⟨(step_gate h).1, (step_gate h).2.1, (step_gate h).2.2.1⟩
  all_goals exact step_gate h

/-- the claim phase presupposes that every selection step has completed -/
theorem claim_stage_means_all_done (round : Nat) (c : Cfg) (f : Flags) (h : stageOf round c f = .claim) :
    f.selected = true ∧ f.additional = true ∧ c.claim ≤ round ∧ c.sel ≤ round :=
  have ⟨h1, _, h3, h4⟩ := stageOf_claim_iff.mp h
  ⟨h1.1, h1.2, h4, h3⟩

/-- owner withdrawal only in the claim phase (all variants) -/
theorem claimPayment_gate (hash : List Nat → List Nat) (s : State) (e : Env) (r : State × Out)
    (h : step hash s e .claimPayment = .ok r) : s.stage e = .claim :=
  step_gate h

/-- a participant's settlement (first claim) only in the claim phase; the one call accepted outside it
    is that of an already settled participant of a vesting variant (what it does: LP/Props/C13.lean) -/
theorem claim_gate (hash : List Nat → List Nat) (s : State) (e : Env) (r : State × Out)
    (h : step hash s e .claim = .ok r) : s.stage e = .claim ∨ (s.variant.vested = true ∧ s.claimed e.caller = true) :=
  (step_gate h).1

/-- non-vacuity: a claim-phase state exists -/
example : stageOf 15 ⟨5, 10, 15⟩ { filtered := true, selected := true, additional := true } = .claim := by decide

end LP.Props.C06

#print axioms LP.Props.C06.alloc_only_in_addTickets
#print axioms LP.Props.C06.terms_only_in_addTickets
#print axioms LP.Props.C06.schedule1_gate
#print axioms LP.Props.C06.confirm_only_in_confirm
#print axioms LP.Props.C06.blacklist_only_before_selection
#print axioms LP.Props.C06.filter_gate
#print axioms LP.Props.C06.select_gate
#print axioms LP.Props.C06.additional_gate
#print axioms LP.Props.C06.claim_stage_means_all_done
#print axioms LP.Props.C06.claimPayment_gate
#print axioms LP.Props.C06.claim_gate
