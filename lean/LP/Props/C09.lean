import LP.Proofs.ClaimVested
import LP.Proofs.Claim
import LP.Proofs.FieldFrames
import LP.Props.C16
/-
  C09 — each participant settles exactly once, for exactly what the views reported.  The claim loop
  `clearRange` counts the winning flags of the caller's range, which is the length of the list the
  view reports; acceptance and the exact transfers of `claim` are read off the closed form of
  `claimBase` (`LP.Proofs.Claim`) through `step_claim_iff_of`, for the base / migration and the
  lock variants (NFT variants: `claim_nft_effect` in `LP.Props.C14`).  `claimed` is written only by
  `claim` and never reset, so a second claim is rejected in every later state.
-/
namespace LP.Props.C09
open LP

/-- C09, the claim loop: `clearRange` returns the number of winning flags in `[first, first+len)`,
    which is the length of the list the view computes, and clears the range and nothing else -/
theorem clearRange_exact (status : Nat → Bool) (posToId : Nat → Nat) (first len : Nat)
    (st' : Nat → Bool) (p' : Nat → Nat) (c : Nat)
    (h : clearRange status posToId first len = (st', p', c)) :
    c = countWinning status first len ∧
    c = (winningIds status first len).length ∧
    (∀ t, first ≤ t → t < first + len → st' t = false ∧ p' t = 0) ∧
    (∀ t, ¬ (first ≤ t ∧ t < first + len) → st' t = status t ∧ p' t = posToId t) := by
  have h1 := clearRange_count status posToId first len
  have h2 := clearRange_status status posToId first len
  have h3 := clearRange_pos status posToId first len
  rw [h] at h1 h2 h3
  simp only at h1 h2 h3
  refine ⟨h1, by rw [h1, countWinning_eq_length], ?_, ?_⟩
  · intro t a b
    have : first ≤ t ∧ t < first + len := ⟨a, b⟩
    simp [h2, h3, this]
  · intro t hn
    simp [h2, h3, hn]

theorem winningIds_exact (status : Nat → Bool) (first len : Nat) :
    (∀ t, t ∈ winningIds status first len ↔ first ≤ t ∧ t < first + len ∧ status t = true) ∧
    (winningIds status first len).length ≤ len := by
  refine ⟨fun t => mem_winningIds status first len t, ?_⟩
  rw [← countWinning_eq_length]
  exact countWinning_le status first len

example :
    (clearRange (fun t => t == 3 || t == 5 || t == 9) (fun t => t + 1) 3 4).2.2 = 2 ∧
    winningIds (fun t => t == 3 || t == 5 || t == 9) 3 4 = [3, 5] ∧
    (clearRange (fun t => t == 3 || t == 5 || t == 9) (fun t => t + 1) 3 4).1 5 = false ∧
    (clearRange (fun t => t == 3 || t == 5 || t == 9) (fun t => t + 1) 3 4).1 9 = true := by decide +kernel

theorem claim_stage_selected {s : State} {e : Env} (h : s.stage e = .claim) :
    s.flags.selected = true ∧ s.flags.additional = true ∧ s.cfg.claim ≤ e.round :=
  have ⟨h1, _, _, h4⟩ := stage_claim_iff.mp h
  ⟨h1.1, h1.2, h4⟩

theorem winCount_of_range {s : State} {a : Nat} {r : Range} (h : s.range a = some r) :
    winCount s a = countWinning s.status r.first (rangeLen r) := by
  rw [winCount, h]

/-- C09, acceptance and amounts of `settle`: accepted exactly in the claim stage for a caller who
    has not claimed and has a range; `redeem` is the number of ids `viewWinningIds` reports,
    `refund` the confirmed tickets that did not win; the two inequalities are the two checked
    subtractions -/
theorem settle_exact (s : State) (e : Env) (s' : State) (redeem refund : Nat) :
    settle s e = .ok (s', redeem, refund) ↔
      s.stage e = .claim ∧ s.flags.selected = true ∧ s.claimed e.caller = false ∧
      ∃ r, s.range e.caller = some r ∧
        redeem = (viewWinningIds s e.caller).length ∧
        redeem ≤ s.nrWinning ∧ redeem ≤ s.confirmed e.caller ∧
        refund = s.confirmed e.caller - redeem ∧
        s' = settledState s e.caller r := by
  rw [settle_ok_iff]
  constructor
  · rintro ⟨hst, hcl, r, hr, hrd, h⟩
    have hsel := (stage_claim_iff.mp hst).1.1
    exact ⟨hst, hsel, hcl, r, hr,
      by rw [hrd, ← winCount_of_range hr, winCount_eq_view s e.caller hsel], h⟩
  · rintro ⟨hst, hsel, hcl, r, hr, hrd, h⟩
    exact ⟨hst, hcl, r, hr,
      by rw [hrd, ← winCount_eq_view s e.caller hsel, winCount_of_range hr], h⟩

/-- C09, effect of a settlement of range `r` for `a`, with its frame -/
theorem settledState_effect (s : State) (a : Nat) (r : Range) :
    let s' := settledState s a r
    s'.claimed a = true ∧ s'.range a = none ∧ s'.confirmed a = 0 ∧
    s'.nrWinning = s.nrWinning - countWinning s.status r.first (rangeLen r) ∧
    (∀ t, r.first ≤ t → t < r.first + rangeLen r → s'.status t = false ∧ s'.posToId t = 0) ∧
    (∀ t, ¬ (r.first ≤ t ∧ t < r.first + rangeLen r) →
        s'.status t = s.status t ∧ s'.posToId t = s.posToId t) ∧
    (∀ b, b ≠ a → s'.range b = s.range b ∧ s'.confirmed b = s.confirmed b ∧
        s'.claimed b = s.claimed b) ∧
    (∀ f, f ≠ r.first → s'.batch f = s.batch f) ∧ s'.batch r.first = none ∧
    s'.bal = s.bal ∧ s'.flags = s.flags ∧ s'.cfg = s.cfg ∧ s'.variant = s.variant ∧
    s'.price = s.price ∧ s'.perTicket = s.perTicket ∧ s'.payTok = s.payTok ∧
    s'.lpTok = s.lpTok ∧ s'.blacklist = s.blacklist ∧ s'.lastTicketId = s.lastTicketId ∧
    s'.claimablePayment = s.claimablePayment ∧ s'.payers = s.payers ∧
    s'.nftWinners = s.nftWinners ∧ s'.userTotal = s.userTotal ∧ s'.userClaimed = s.userClaimed := by
  intro s'
  have hspec := clearRange_exact s.status s.posToId r.first (rangeLen r) _ _ _ rfl
  exact ⟨upd_same _ _ _, upd_same _ _ _, upd_same _ _ _, rfl, hspec.2.2.1, hspec.2.2.2,
    fun b hb => ⟨upd_other _ _ _ _ hb, upd_other _ _ _ _ hb, upd_other _ _ _ _ hb⟩,
    fun f hf => upd_other _ _ _ _ hf, upd_same _ _ _, rfl, rfl, rfl, rfl, rfl, rfl, rfl,
    rfl, rfl, rfl, rfl, rfl, rfl, rfl, rfl⟩

theorem rangeLen_mem (r : Range) (t : Nat) :
    (r.first ≤ t ∧ t < r.first + rangeLen r) ↔ (r.first ≤ t ∧ t ≤ r.last) := by
  unfold rangeLen; omega

/-- once-only at the level of `settle` -/
theorem settle_twice_rejected (s : State) (e : Env) (h : s.claimed e.caller = true) :
    settle s e = .error (.user "Already claimed") ∨ settle s e = .error (.user "Not in claim period") := by
  rw [settle_eq]
  unfold requireStage
  by_cases hst : s.stage e = .claim
  · left
    simp [hst, h, req, bind, Except.bind]
  · right
    simp [hst, req, bind, Except.bind]

/-- the initial transaction record of a call without call value -/
def txc (s : State) (e : Env) : Tx := ⟨s, ⟨e.budget, e.seeds, e.script⟩, {}⟩

theorem txc_s (s : State) (e : Env) : (txc s e).s = s := rfl
theorem txc_o (s : State) (e : Env) : (txc s e).o = {} := rfl

theorem step_claim_ok_iff (hash : List Nat → List Nat) (s : State) (e : Env) (s' : State) (o : Out) :
    step hash s e .claim = .ok (s', o) ↔
      e.egld = 0 ∧ e.esdts = [] ∧
      ∃ t, exec hash (txc s e) e .claim = .ok t ∧ s' = t.s ∧ o = t.o :=
  step_np_iff rfl

/-- refund part of the transfers of a claim: one transfer, none if zero -/
def refundXfers (s : State) (a : Nat) : List (Nat × Pay) :=
  if s.confirmed a - winCount s a = 0 then []
  else [(a, ⟨s.payTok, 0, s.price * (s.confirmed a - winCount s a)⟩)]

/-- token part without a lock: one transfer, none if zero -/
def tokenXfers (s : State) (a : Nat) : List (Nat × Pay) :=
  if winCount s a = 0 then [] else [(a, ⟨.esdt s.lpTok, 0, winCount s a * s.perTicket⟩)]

def balAfterClaim (s : State) (a : Nat) : Bal :=
  (s.bal.sub s.payTok 0 (s.price * (s.confirmed a - winCount s a))).sub
    (.esdt s.lpTok) 0 (winCount s a * s.perTicket)

/-- when a claim by `e.caller` is accepted (variants without vesting and NFT hook): no call value,
    the conditions of `settle`, and the contract holds the refund and then the tokens to deliver -/
def ClaimAccepts (s : State) (e : Env) (r : Range) : Prop :=
  e.egld = 0 ∧ e.esdts = [] ∧
  s.stage e = .claim ∧ s.claimed e.caller = false ∧ s.range e.caller = some r ∧
  winCount s e.caller ≤ s.nrWinning ∧ winCount s e.caller ≤ s.confirmed e.caller ∧
  s.price * (s.confirmed e.caller - winCount s e.caller) ≤ s.bal s.payTok 0 ∧
  winCount s e.caller * s.perTicket ≤
    (s.bal.sub s.payTok 0 (s.price * (s.confirmed e.caller - winCount s e.caller))) (.esdt s.lpTok) 0

theorem claimAccepts_iff (s : State) (e : Env) (r : Range) :
    ClaimAccepts s e r ↔
      e.egld = 0 ∧ e.esdts = [] ∧ ClaimPre (txc s e) e r ∧
      countWinning s.status r.first (rangeLen r) * s.perTicket ≤
        (s.bal.sub s.payTok 0 (s.price *
          (s.confirmed e.caller - countWinning s.status r.first (rangeLen r)))) (.esdt s.lpTok) 0 := by
  unfold ClaimAccepts ClaimPre
  rw [txc_s]
  constructor
  · rintro ⟨h1, h2, hst, hcl, hr, h⟩
    rw [winCount_of_range hr] at h
    exact ⟨h1, h2, ⟨hst, hcl, hr, h.1, h.2.1, h.2.2.1⟩, h.2.2.2⟩
  · rintro ⟨h1, h2, ⟨hst, hcl, hr, hnw, hle, hb⟩, hb2⟩
    rw [winCount_of_range hr]
    exact ⟨h1, h2, hst, hcl, hr, hnw, hle, hb, hb2⟩

/-- an accepted non-vested claim, given the closed form `T r` of `claimBase`
    (`claimBase_plain_ok_iff` or `claimBase_lock_ok_iff`) -/
theorem step_claim_iff_of {hash : List Nat → List Nat} {s : State} {e : Env} {s' : State} {o : Out}
    {T : Range → Tx} (hv : s.variant.vested = false)
    (hT : ∀ t', claimBase (txc s e) e = .ok t' ↔
      ∃ r, ClaimPre (txc s e) e r ∧
        countWinning s.status r.first (rangeLen r) * s.perTicket ≤
          (s.bal.sub s.payTok 0 (s.price *
            (s.confirmed e.caller - countWinning s.status r.first (rangeLen r)))) (.esdt s.lpTok) 0 ∧
        t' = T r) :
    step hash s e .claim = .ok (s', o) ↔ ∃ r, ClaimAccepts s e r ∧ s' = (T r).s ∧ o = (T r).o := by
  rw [step_claim_ok_iff, exec_claim_nonvested hash _ e hv]
  simp only [hT, claimAccepts_iff]
  constructor
  · rintro ⟨h1, h2, _, ⟨r, hpre, hb2, rfl⟩, hs, ho⟩
    exact ⟨r, ⟨h1, h2, hpre, hb2⟩, hs, ho⟩
  · rintro ⟨r, ⟨h1, h2, hpre, hb2⟩, hs, ho⟩
    exact ⟨h1, h2, _, ⟨r, hpre, hb2, rfl⟩, hs, ho⟩

/-- the state once the tokens have left `claimMid` (directly or through the lock) -/
theorem claimMid_sub_tokens {s : State} {e : Env} {r : Range} (hr : s.range e.caller = some r) :
    { (claimMid (txc s e) e r).s with
      bal := (claimMid (txc s e) e r).s.bal.sub (.esdt (claimMid (txc s e) e r).s.lpTok) 0
        (countWinning s.status r.first (rangeLen r) * (claimMid (txc s e) e r).s.perTicket) } =
      { settledState s e.caller r with bal := balAfterClaim s e.caller } := by
  rw [claimMid_state, balAfterClaim, winCount_of_range hr]
  rfl

theorem claimMid_out {s : State} {e : Env} {r : Range} (hr : s.range e.caller = some r) :
    (claimMid (txc s e) e r).o =
      { xfers := refundXfers s e.caller,
        events := if s.confirmed e.caller - winCount s e.caller = 0 then []
                  else [refundEvent s e (s.confirmed e.caller - winCount s e.caller)] } := by
  rw [claimMid_o, refundXfers, winCount_of_range hr]
  simp only [txc_o, txc_s, List.nil_append]
  rfl

/-- C09 (base, migration), acceptance and complete effect of `claim`: the caller receives one
    transfer of `price * (confirmed - winning)` payment tokens, then one of `winning * perTicket`
    launchpad tokens (each omitted if zero), `winning = (viewWinningIds s caller).length`; no lock
    call, no SFT; the state is the settled state with these two amounts deducted -/
theorem claim_base_iff (hash : List Nat → List Nat) (s : State) (e : Env) (s' : State) (o : Out)
    (hv : s.variant.vested = false) (hl : s.variant.hasLock = false) (hn : s.variant.hasNft = false) :
    step hash s e .claim = .ok (s', o) ↔
      ∃ r, ClaimAccepts s e r ∧
        s' = { settledState s e.caller r with bal := balAfterClaim s e.caller } ∧
        o.xfers = refundXfers s e.caller ++ tokenXfers s e.caller ∧
        o.locks = [] ∧ o.sfts = [] ∧ o.ret = [] ∧ o.draws = [] ∧
        o.events = (if s.confirmed e.caller - winCount s e.caller = 0 then []
                    else [refundEvent s e (s.confirmed e.caller - winCount s e.caller)]) := by
  rw [step_claim_iff_of hv fun t' => claimBase_plain_ok_iff (txc s e) e t' hl hn]
  refine exists_congr fun r => and_congr_right fun hacc => ?_
  have hr : s.range e.caller = some r := hacc.2.2.2.2.1
  have hts := (sendTokensResult_state (claimMid (txc s e) e r) e.caller
    (countWinning s.status r.first (rangeLen r))).trans (claimMid_sub_tokens hr)
  have hto : (sendTokensResult (claimMid (txc s e) e r) e.caller
        (countWinning s.status r.first (rangeLen r))).o =
      { xfers := refundXfers s e.caller ++ tokenXfers s e.caller,
        events := if s.confirmed e.caller - winCount s e.caller = 0 then []
                  else [refundEvent s e (s.confirmed e.caller - winCount s e.caller)] } := by
    rw [sendTokensResult_o, claimMid_out hr, claimMid_state, tokenXfers, winCount_of_range hr]
    rfl
  rw [txc_s, hts, hto, Out.eq_iff]

/-- non-vacuity: an accepted claim with 3 confirmed tickets 4..6, two of them winning -/
def exState : State :=
  { variant := .base, owner := 1, lpTok := 1, perTicket := 100, payTok := .egld, price := 10,
    nrWinning := 5, cfg := ⟨5, 10, 15⟩, flags := { selected := true, additional := true },
    support := 1, deposited := true,
    range := fun a => if a = 7 then some ⟨4, 6⟩ else none,
    confirmed := fun a => if a = 7 then 3 else 0,
    status := fun t => t == 4 || t == 6 || t == 8,
    bal := fun _ _ => 1000 }
def exEnv : Env := { caller := 7, round := 20 }

example : ClaimAccepts exState exEnv ⟨4, 6⟩ ∧ winCount exState 7 = 2 ∧
    viewWinningIds exState 7 = [4, 6] ∧
    refundXfers exState 7 = [(7, ⟨.egld, 0, 10⟩)] ∧
    tokenXfers exState 7 = [(7, ⟨.esdt 1, 0, 200⟩)] := by
  unfold ClaimAccepts
  decide +kernel

/-- C09 (locked, locked+guaranteed), acceptance -/
theorem claim_lock_accepted_iff (hash : List Nat → List Nat) (s : State) (e : Env)
    (hv : s.variant.vested = false) (hl : s.variant.hasLock = true) (hp : s.lockPct ≤ 10000) :
    (∃ x, step hash s e .claim = .ok x) ↔ ∃ r, ClaimAccepts s e r := by
  simp only [Prod.exists, step_claim_iff_of hv fun t' =>
    claimBase_lock_ok_iff (txc s e) e t' hl (lk_hasLock_flags hl).2.1 hp]
  constructor
  · rintro ⟨_, _, r, hacc, -⟩
    exact ⟨r, hacc⟩
  · rintro ⟨r, hacc⟩
    exact ⟨_, _, r, hacc, rfl, rfl⟩

/-- C16 for the token delivery of a claim through the lock, including `n = 0`, where nothing is
    sent -/
theorem sendTokensLockedResult_conservation (t : Tx) (e : Env) (dest n : Nat)
    (hp : t.s.lockPct ≤ 10000) (hb : n * t.s.perTicket ≤ t.s.bal (.esdt t.s.lpTok) 0) :
    ∃ (newLocks : List (Nat × Nat × Nat)) (newDirect : List Nat),
      (sendTokensLockedResult t e dest n).o.locks = t.o.locks ++ newLocks ∧
      (sendTokensLockedResult t e dest n).o.xfers = t.o.xfers
        ++ newLocks.map (fun l => (t.s.lockAddr, (⟨.esdt t.s.lpTok, 0, l.2.2⟩ : Pay)))
        ++ newDirect.map (fun d => (dest, (⟨.esdt t.s.lpTok, 0, d⟩ : Pay))) ∧
      (∀ l ∈ newLocks, l.1 = t.s.unlockEpoch ∧ l.2.1 = dest ∧ 0 < l.2.2) ∧
      (∀ d ∈ newDirect, 0 < d) ∧ newLocks.length ≤ 1 ∧ newDirect.length ≤ 1 ∧
      (newLocks.map (·.2.2)).sum + newDirect.sum = n * t.s.perTicket ∧
      (sendTokensLockedResult t e dest n).o.sfts = t.o.sfts := by
  unfold sendTokensLockedResult
  by_cases hz : n = 0
  · rw [if_pos hz, hz, Nat.zero_mul]
    exact ⟨[], [], (List.append_nil _).symm, by simp, nofun, nofun, Nat.zero_le _, Nat.zero_le _,
      rfl, rfl⟩
  · rw [if_neg hz]
    obtain ⟨t', nl, nd, hok, h⟩ := sendLocked_conservation t e dest _ hp hb
    rw [sendLocked_ok t e dest _ (fun _ => hp) hb] at hok
    cases hok
    exact ⟨nl, nd, h.1, h.2.1, h.2.2.1, h.2.2.2.1, h.2.2.2.2.1, h.2.2.2.2.2.1, h.2.2.2.2.2.2, rfl⟩

/-- C09 (locked, locked+guaranteed), effect: an accepted claim refunds as in `claim_base_iff` and
    delivers `winning * perTicket` launchpad tokens as at most one lock call, carried by a
    transfer of the same amount to the lock contract, plus at most one direct transfer to the
    caller; the two parts add up to the entitlement (C16).  `hp` is what `init` requires of the
    lock percentage (Step.lean, "Invalid lock percentage") -/
theorem claim_lock_effect (hash : List Nat → List Nat) (s : State) (e : Env) (s' : State) (o : Out)
    (hv : s.variant.vested = false) (hl : s.variant.hasLock = true) (hp : s.lockPct ≤ 10000)
    (h : step hash s e .claim = .ok (s', o)) :
    ∃ (r : Range) (newLocks : List (Nat × Nat × Nat)) (newDirect : List Nat),
      ClaimAccepts s e r ∧
      s' = { settledState s e.caller r with bal := balAfterClaim s e.caller } ∧
      o.locks = newLocks ∧
      o.xfers = refundXfers s e.caller
        ++ newLocks.map (fun l => (s.lockAddr, (⟨.esdt s.lpTok, 0, l.2.2⟩ : Pay)))
        ++ newDirect.map (fun d => (e.caller, (⟨.esdt s.lpTok, 0, d⟩ : Pay))) ∧
      (∀ l ∈ newLocks, l.1 = s.unlockEpoch ∧ l.2.1 = e.caller ∧ 0 < l.2.2) ∧
      (∀ d ∈ newDirect, 0 < d) ∧ newLocks.length ≤ 1 ∧ newDirect.length ≤ 1 ∧
      (newLocks.map (·.2.2)).sum + newDirect.sum = winCount s e.caller * s.perTicket ∧
      o.sfts = [] := by
  obtain ⟨r, hacc, rfl, rfl⟩ := (step_claim_iff_of hv fun t' =>
    claimBase_lock_ok_iff (txc s e) e t' hl (lk_hasLock_flags hl).2.1 hp).mp h
  obtain ⟨-, -, hpre, hb2⟩ := (claimAccepts_iff s e r).mp hacc
  have hr : s.range e.caller = some r := hpre.2.2.1
  have hb2' : countWinning s.status r.first (rangeLen r) * (claimMid (txc s e) e r).s.perTicket ≤
      (claimMid (txc s e) e r).s.bal (.esdt (claimMid (txc s e) e r).s.lpTok) 0 := by
    rw [claimMid_state]; exact hb2
  have hp' : (claimMid (txc s e) e r).s.lockPct ≤ 10000 := by rw [claimMid_state]; exact hp
  obtain ⟨nl, nd, hlocks, hxf, hnl, hnd, hl1, hd1, hsum, hsf⟩ :=
    sendTokensLockedResult_conservation (claimMid (txc s e) e r) e e.caller _ hp' hb2'
  rw [claimMid_out hr] at hlocks hxf hsf
  rw [claimMid_state] at hxf hnl hsum
  rw [← winCount_of_range hr] at hsum
  exact ⟨r, nl, nd, hacc, (sendTokensLockedResult_state _ e _ _).trans (claimMid_sub_tokens hr),
    hlocks, hxf, hnl, hnd, hl1, hd1, hsum, hsf⟩

/-- C09: an address without a ticket range (never allocated, filtered out, or already settled)
    cannot claim; a settled user of a vesting variant may call again (`vested_repeat_claim`),
    hence `hc` -/
theorem no_range_no_claim (hash : List Nat → List Nat) (s : State) (e : Env)
    (hr : s.range e.caller = none)
    (hc : s.variant.vested = false ∨ s.claimed e.caller = false) :
    ∃ err, step hash s e .claim = .error err := by
  refine rejected_of_not_ok fun _ _ h => ?_
  rcases step_claim_who h with ⟨hv, hcl⟩ | ⟨_, r, hr'⟩
  · rcases hc with hc | hc
    · rw [hv] at hc; cases hc
    · rw [hcl] at hc; cases hc
  · rw [hr] at hr'; cases hr'

/-- C09 (vesting variants): a claim by a user who has already settled performs no second
    settlement; it only releases the amount `claimableV` vested since (C13: `claimVested_v2_exact`,
    `claimVested_v1_exact`), in one transfer of launchpad tokens (none if zero), without refund -/
theorem vested_repeat_claim (hash : List Nat → List Nat) (s : State) (e : Env) (s' : State) (o : Out)
    (hv : s.variant.vested = true) (hcl : s.claimed e.caller = true)
    (h : step hash s e .claim = .ok (s', o)) :
    ∃ c, claimableV s e e.caller = .ok c ∧
      o.xfers = (if c > 0 then [(e.caller, ⟨.esdt s.lpTok, 0, c⟩)] else []) ∧
      s'.userClaimed e.caller = s.userClaimed e.caller + c ∧
      (∀ a, a ≠ e.caller → s'.userClaimed a = s.userClaimed a) ∧
      s'.userTotal = s.userTotal := by
  rw [step_claim_ok_iff, exec_claim_vested hash _ e hv] at h
  obtain ⟨h1, h2, t, hx, rfl, rfl⟩ := h
  obtain ⟨c, hc, huc, hoth, hut, _, _, hxf⟩ := claimVested_repeat (t := txc s e) hcl hx
  exact ⟨c, hc, by simpa [txc] using hxf, huc, hoth, hut⟩

/-- C09, frame: an accepted transaction changes `claimed` only if it is `claim`, and then it sets
    exactly the caller's flag -/
theorem step_claimed_exact (hash : List Nat → List Nat) (s : State) (e : Env) (c : Call)
    (s' : State) (o : Out) (h : step hash s e c = .ok (s', o)) :
    (c ≠ .claim → s'.claimed = s.claimed) ∧
    (c = .claim → s'.claimed = upd s.claimed e.caller true) := by
  obtain ⟨m, t, _, _, _, hx, rfl, rfl⟩ := step_ok_inv h
  have h0 : (tx0 s e).s.claimed = s.claimed := rfl
  constructor
  · intro hc
    rw [exec_claimed_eq hc hx, h0]
  · intro hc
    subst hc
    rw [exec_claim_claimed hx, h0]

theorem step_claimed_mono (hash : List Nat → List Nat) (s : State) (e : Env) (c : Call)
    (s' : State) (o : Out) (h : step hash s e c = .ok (s', o)) (u : Nat)
    (hu : s.claimed u = true) : s'.claimed u = true := by
  obtain ⟨h1, h2⟩ := step_claimed_exact hash s e c s' o h
  by_cases hc : c = .claim
  · rw [h2 hc, upd_apply]
    split
    · rfl
    · exact hu
  · rw [h1 hc]; exact hu

theorem run_claimed_mono (hash : List Nat → List Nat) (l : List (Env × Call)) :
    ∀ (s : State) (u : Nat), s.claimed u = true → (run hash s l).claimed u = true :=
  fun s u hu => run_induct hash (fun s => s.claimed u = true)
    (fun s e c s' o hs h => step_claimed_mono hash s e c s' o h u hs) l s hu

theorem claim_sets_claimed (hash : List Nat → List Nat) (s : State) (e : Env) (s' : State) (o : Out)
    (h : step hash s e .claim = .ok (s', o)) : s'.claimed e.caller = true := by
  rw [(step_claimed_exact hash s e .claim s' o h).2 rfl]
  simp [upd]

/-- C09, second claim (variants without vesting): rejected in any state in which `claimed` holds
    for the caller; in the claim stage, without call value, with "Already claimed" -/
theorem second_claim_rejected (hash : List Nat → List Nat) (s : State) (e : Env)
    (hv : s.variant.vested = false) (hcl : s.claimed e.caller = true) :
    (∃ err, step hash s e .claim = .error err) ∧
    (s.stage e = .claim → e.egld = 0 → e.esdts = [] →
      step hash s e .claim = .error (.user "Already claimed")) := by
  constructor
  · refine rejected_of_not_ok fun _ _ h => ?_
    rcases step_claim_who h with ⟨hv', _⟩ | ⟨hc, _⟩
    · rw [hv] at hv'; cases hv'
    · rw [hcl] at hc; cases hc
  · intro hst h1 h2
    rw [step_eq_exec rfl h1 h2]
    have hx : exec hash (rbTx s e) e .claim = .error (.user "Already claimed") := by
      rw [exec_claim_nonvested hash _ e hv]
      unfold claimBase
      rw [settle_eq]
      simp [requireStage, hst, hcl, req, bind, Except.bind]
    rw [hx]

/-- C09, once-only (variants without vesting): after an accepted claim, whatever transactions
    follow, any further `claim` by the same caller is rejected -/
theorem claim_once (hash : List Nat → List Nat) (s : State) (e : Env) (s' : State) (o : Out)
    (h : step hash s e .claim = .ok (s', o))
    (l : List (Env × Call)) (e2 : Env) (he2 : e2.caller = e.caller)
    (hv : (run hash s' l).variant.vested = false) :
    ∃ err, step hash (run hash s' l) e2 .claim = .error err := by
  have h1 := claim_sets_claimed hash s e s' o h
  have h2 := run_claimed_mono hash l s' e.caller h1
  exact (second_claim_rejected hash (run hash s' l) e2 hv (by rw [he2]; exact h2)).1

end LP.Props.C09

#print axioms LP.Props.C09.clearRange_exact
#print axioms LP.Props.C09.winningIds_exact
#print axioms LP.Props.C09.settle_exact
#print axioms LP.Props.C09.settledState_effect
#print axioms LP.Props.C09.settle_twice_rejected
#print axioms LP.Props.C09.claim_base_iff
#print axioms LP.Props.C09.claim_lock_accepted_iff
#print axioms LP.Props.C09.claim_lock_effect
#print axioms LP.Props.C09.no_range_no_claim
#print axioms LP.Props.C09.vested_repeat_claim
#print axioms LP.Props.C09.step_claimed_exact
#print axioms LP.Props.C09.step_claimed_mono
#print axioms LP.Props.C09.run_claimed_mono
#print axioms LP.Props.C09.second_claim_rejected
#print axioms LP.Props.C09.claim_once

#print axioms LP.Props.C09.claim_stage_selected
#print axioms LP.Props.C09.rangeLen_mem
#print axioms LP.Props.C09.txc_s
#print axioms LP.Props.C09.txc_o
#print axioms LP.Props.C09.step_claim_ok_iff
#print axioms LP.Props.C09.winCount_of_range
#print axioms LP.Props.C09.claim_sets_claimed
