import LP.Proofs.TopUp
import LP.Proofs.GuarLoop
/-
  C11 — honouring the guarantees: `select_guaranteed_tickets`
  (launchpad-guaranteed-tickets-v2/src/guaranteed_ticket_winners.rs:53)
  places a reserved ticket in its holder's range or hands it to the leftover re-draw.
-/
namespace LP

/-- `topUp` marks as many more tickets of the range as it can and returns the rest -/
theorem C11_topUp (status st' : Nat → Bool) (cur len remaining marked rem : Nat)
    (h : topUp status cur len remaining = (st', marked, rem)) :
    marked + rem = remaining ∧
    (∀ t, (t < cur ∨ cur + len ≤ t) → st' t = status t) ∧
    (∀ t, status t = true → st' t = true) ∧
    countWinning st' cur len = countWinning status cur len + marked ∧
    marked = min remaining (len - countWinning status cur len) ∧
    (remaining ≤ len - countWinning status cur len → rem = 0) := by
  simp only [Prod.ext_iff] at h
  obtain ⟨rfl, rfl, rfl⟩ := h
  exact ⟨topUp_sum _ _ _ _, fun t ht => topUp_outside _ _ _ _ t ht,
    fun t ht => topUp_mono _ _ _ _ t ht, topUp_count _ _ _ _, topUp_marked _ _ _ _,
    topUp_enough _ _ _ _⟩

example : (topUp (fun t => t == 2) 1 3 5).2 = (2, 3) ∧
    (topUp (fun t => t == 2) 1 3 5).1 1 = true ∧ (topUp (fun t => t == 2) 1 3 5).1 4 = false :=
  ⟨rfl, rfl, rfl⟩

/-- `g`: earned guarantees (threshold `≤ conf`), capped by `conf`; `l`: to the leftover -/
theorem C11_calcV2 (infos : List (Nat × Nat)) (conf g l : Nat) (h : calcV2 infos conf = (g, l)) :
    g + l = sumG infos ∧ g ≤ conf ∧
    g = min conf (sumG (infos.filter (fun i => decide (conf ≥ i.2)))) := by
  simp only [Prod.ext_iff] at h
  obtain ⟨rfl, rfl⟩ := h
  exact ⟨calcV2_sum _ _, calcV2_le_conf _ _, calcV2_fst _ _⟩

theorem C11_calcV1 (st : UTS) (conf minc g l : Nat) (h : calcV1 st conf minc = (g, l)) :
    g + l = st.c + st.d := by
  simp only [Prod.ext_iff] at h
  obtain ⟨rfl, rfl⟩ := h
  exact calcV1_sum _ _ _

example : calcV2 [(2, 2), (3, 5), (1, 1)] 2 = (2, 4) := by decide

/-- the holder ends with at least `g` winning tickets in his range; `lo`: to the leftover -/
theorem C11_processGuaranteed (status st' : Nat → Bool) (r : Range) (g lo add : Nat)
    (hg : g ≤ rangeLen r) (h : processGuaranteed status (some r) g = (st', lo, add)) :
    lo + add = g ∧
    countWinning st' r.first (rangeLen r) ≥ g ∧
    (∀ t, (t < r.first ∨ r.first + rangeLen r ≤ t) → st' t = status t) ∧
    (∀ t, status t = true → st' t = true) ∧
    countWinning st' r.first (rangeLen r) = countWinning status r.first (rangeLen r) + add := by
  simp only [Prod.ext_iff] at h
  obtain ⟨rfl, rfl, rfl⟩ := h
  obtain ⟨h1, h2, _, h4, h5, h6⟩ := processGuaranteed_some_general status r g
  refine ⟨h1, ?_, h5, h6, h2⟩
  have : min g (rangeLen r) = g := Nat.min_eq_left hg
  omega

theorem C11_processGuaranteed_general (status st' : Nat → Bool) (r : Range) (g lo add : Nat)
    (h : processGuaranteed status (some r) g = (st', lo, add)) :
    lo + add = g ∧
    countWinning st' r.first (rangeLen r) ≥ min g (rangeLen r) ∧
    (∀ t, (t < r.first ∨ r.first + rangeLen r ≤ t) → st' t = status t) ∧
    (∀ t, status t = true → st' t = true) ∧
    countWinning st' r.first (rangeLen r) = countWinning status r.first (rangeLen r) + add ∧
    add = min (g - countWinning status r.first (rangeLen r))
              (rangeLen r - countWinning status r.first (rangeLen r)) := by
  simp only [Prod.ext_iff] at h
  obtain ⟨rfl, rfl, rfl⟩ := h
  obtain ⟨h1, h2, h3, h4, h5, h6⟩ := processGuaranteed_some_general status r g
  exact ⟨h1, h4, h5, h6, h2, h3⟩

theorem C11_processGuaranteed_none (status : Nat → Bool) (g : Nat) :
    processGuaranteed status none g = (status, g, 0) := rfl

example : ∃ st', processGuaranteed (fun t => t == 5) (some ⟨4, 6⟩) 2 = (st', 1, 1) ∧
    st' 4 = true ∧ st' 5 = true ∧ st' 6 = false := ⟨_, rfl, rfl, rfl, rfl⟩

theorem C11_guarBody (s : State) (x : GSt) (u : Nat) (rest : List Nat)
    (hwl : x.whitelist = u :: rest) (hul : x.usersLeft ≠ 0) :
    ∃ x', guarBody s x = .ok (x', true) ∧
      x'.whitelist = (swapRemove x.whitelist u).1 ∧
      x'.whitelist.length + 1 = x.whitelist.length ∧
      x'.usersLeft = x.usersLeft - 1 ∧
      x'.leftover + x'.additional =
        x.leftover + x.additional + gOf s.variant.isV2 ((s.uts u).getD {}) ∧
      (∀ t, (∀ r, s.range u = some r → t < r.first ∨ r.first + rangeLen r ≤ t) →
        x'.status t = x.status t) ∧
      (∀ t, x.status t = true → x'.status t = true) := by
  obtain ⟨x', h1, h2, h3, h4, h5, h6, h7, _⟩ := guarBody_cons s x u rest hwl hul
  exact ⟨x', h1, h2, h3, h4, h5, h6, h7⟩

/-- the loop, never interrupted (`budget = none`), started as the endpoint starts it -/
theorem C11_guarLoop (s : State) (lo add : Nat) :
    ∃ x', runWhile (guarBody s) (s.whitelist.length + 2) none
        ⟨s.whitelist, s.whitelist.length, s.status, lo, add⟩ = .ok (x', none, .completed) ∧
      x'.whitelist = [] ∧
      x'.leftover + x'.additional =
        lo + add + (s.whitelist.map (fun u => gOf s.variant.isV2 ((s.uts u).getD {}))).sum ∧
      (∀ t, (∀ u ∈ s.whitelist, ∀ r, s.range u = some r →
          t < r.first ∨ r.first + rangeLen r ≤ t) → x'.status t = s.status t) ∧
      (∀ t, s.status t = true → x'.status t = true) := by
  obtain ⟨x', h1, h2, h3, h4, h5, _⟩ := guarLoop_run s s.whitelist.length
    ⟨s.whitelist, s.whitelist.length, s.status, lo, add⟩ (s.whitelist.length + 2) rfl rfl (by omega)
  exact ⟨x', h1, h2, h3, h4, h5⟩

/-- under the invariant of C12 every reserved ticket ends in `additional` or `leftover` -/
theorem C11_guarLoop_total (s : State) (h : GuarInv s.variant.isV2 s) :
    ∃ x', runWhile (guarBody s) (s.whitelist.length + 2) none
        ⟨s.whitelist, s.whitelist.length, s.status, 0, 0⟩ = .ok (x', none, .completed) ∧
      x'.leftover + x'.additional = s.totalGuaranteed := by
  obtain ⟨x', h1, _, h3, _⟩ := C11_guarLoop s 0 0
  refine ⟨x', h1, ?_⟩
  rw [h3, h.total]; simp [gSum]

end LP

#print axioms LP.C11_topUp
#print axioms LP.C11_calcV2
#print axioms LP.C11_calcV1
#print axioms LP.C11_processGuaranteed
#print axioms LP.C11_processGuaranteed_general
#print axioms LP.C11_processGuaranteed_none
#print axioms LP.C11_guarBody
#print axioms LP.C11_guarLoop
#print axioms LP.C11_guarLoop_total
