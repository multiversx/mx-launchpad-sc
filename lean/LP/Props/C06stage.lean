import LP.Proofs.Stage
/-
  C06 — the lifecycle stage AddTickets < Confirm < WinnerSelection < Claim, as a function of
  round, timeline and flags, never goes back: it is monotone in round and flags, and a timeline
  setter is accepted only for a start round still in the future, which leaves the current stage
  as it is.
-/
namespace LP

/-- C06: the stage is monotone in time and flags (`_hv` is not needed). -/
theorem stage_monotone {round round' : Nat} (cfg : Cfg) {flags flags' : Flags}
    (_hv : validPeriods cfg = true)
    (hr : round ≤ round')
    (hs : flags.selected = true → flags'.selected = true)
    (ha : flags.additional = true → flags'.additional = true) :
    (stageOf round cfg flags).toNat ≤ (stageOf round' cfg flags').toNat :=
  stageOf_mono_raw cfg hr ⟨hs, ha⟩

theorem stage_monotone_any_cfg {round round' : Nat} (cfg : Cfg) {flags flags' : Flags}
    (hr : round ≤ round') (hf : Flags.gain flags flags') :
    (stageOf round cfg flags).toNat ≤ (stageOf round' cfg flags').toNat :=
  stageOf_mono_raw cfg hr hf

example : validPeriods ⟨10, 20, 30⟩ = true ∧
    (stageOf 15 ⟨10, 20, 30⟩ { selected := false, additional := true }).toNat = 1 ∧
    (stageOf 35 ⟨10, 20, 30⟩ { selected := true, additional := true }).toNat = 3 := by decide

/-- C06: an accepted timeline change leaves the stage at the current round unchanged: the
    changed start round is `> round` before and after, so `round < start` keeps its value. -/
theorem setter_keeps_current_stage (round r : Nat) (cfg : Cfg) (flags : Flags) :
    (validTimelineChange round cfg.conf r = .ok () →
      stageOf round { cfg with conf := r } flags = stageOf round cfg flags) ∧
    (validTimelineChange round cfg.sel r = .ok () →
      stageOf round { cfg with sel := r } flags = stageOf round cfg flags) ∧
    (validTimelineChange round cfg.claim r = .ok () →
      stageOf round { cfg with claim := r } flags = stageOf round cfg flags) :=
  ⟨stageOf_setConf cfg flags, stageOf_setSel cfg flags, stageOf_setClaim cfg flags⟩

example : validTimelineChange 5 (Cfg.mk 10 20 30).conf 7 = .ok () ∧
    validPeriods { (Cfg.mk 10 20 30) with conf := 7 } = true := ⟨rfl, rfl⟩

/-- `setter_keeps_current_stage` on the endpoints: an accepted setter leaves the stage seen by its
    own environment unchanged. -/
theorem exec_setter_keeps_stage {hash : List Nat → List Nat} {t t' : Tx} {e : Env} {r : Nat}
    (h : exec hash t e (.setConfStart r) = .ok t' ∨ exec hash t e (.setSelStart r) = .ok t' ∨
         exec hash t e (.setClaimStart r) = .ok t') :
    t'.s.stage e = t.s.stage e ∧ t'.s.flags = t.s.flags ∧ t'.o = t.o := by
  rcases h with h | h | h
  · obtain ⟨hv, _, rfl⟩ := exec_setConfStart_ok h
    exact ⟨stageOf_setConf _ _ hv, rfl, rfl⟩
  · obtain ⟨hv, _, rfl⟩ := exec_setSelStart_ok h
    exact ⟨stageOf_setSel _ _ hv, rfl, rfl⟩
  · obtain ⟨hv, _, rfl⟩ := exec_setClaimStart_ok h
    exact ⟨stageOf_setClaim _ _ hv, rfl, rfl⟩

/-- C06: a start round that has been reached (`≤ round`) is frozen: its setter is rejected. -/
theorem reached_start_frozen (hash : List Nat → List Nat) (t : Tx) (e : Env) (r : Nat) :
    (t.s.cfg.conf ≤ e.round → ∃ err, exec hash t e (.setConfStart r) = .error err) ∧
    (t.s.cfg.sel ≤ e.round → ∃ err, exec hash t e (.setSelStart r) = .error err) ∧
    (t.s.cfg.claim ≤ e.round → ∃ err, exec hash t e (.setClaimStart r) = .error err) := by
  refine ⟨fun h => ?_, fun h => ?_, fun h => ?_⟩ <;>
    exact ⟨.user "Cannot change start round, it's either in progress or passed already",
      by simp [exec, validTimelineChange_err h, bind, Except.bind]⟩

/-- An accepted change keeps `conf < sel ≤ claim`, and the new value is in the future. -/
theorem accepted_setter_valid {hash : List Nat → List Nat} {t t' : Tx} {e : Env} {r : Nat}
    (h : exec hash t e (.setConfStart r) = .ok t' ∨ exec hash t e (.setSelStart r) = .ok t' ∨
         exec hash t e (.setClaimStart r) = .ok t') :
    t'.s.cfg.conf < t'.s.cfg.sel ∧ t'.s.cfg.sel ≤ t'.s.cfg.claim ∧ e.round < r := by
  rcases h with h | h | h
  · obtain ⟨hv, hp, rfl⟩ := exec_setConfStart_ok h
    have := (validPeriods_iff _).1 hp
    exact ⟨this.1, this.2, (validTimelineChange_ok.1 hv).2⟩
  · obtain ⟨hv, hp, rfl⟩ := exec_setSelStart_ok h
    have := (validPeriods_iff _).1 hp
    exact ⟨this.1, this.2, (validTimelineChange_ok.1 hv).2⟩
  · obtain ⟨hv, hp, rfl⟩ := exec_setClaimStart_ok h
    have := (validPeriods_iff _).1 hp
    exact ⟨this.1, this.2, (validTimelineChange_ok.1 hv).2⟩

/-- Of the timeline an accepted setter changes only its own start round, which was still in the
    future. -/
theorem accepted_setter_frame {hash : List Nat → List Nat} {t t' : Tx} {e : Env} {r : Nat} :
    (exec hash t e (.setConfStart r) = .ok t' →
      t'.s.cfg = { t.s.cfg with conf := r } ∧ e.round < t.s.cfg.conf) ∧
    (exec hash t e (.setSelStart r) = .ok t' →
      t'.s.cfg = { t.s.cfg with sel := r } ∧ e.round < t.s.cfg.sel) ∧
    (exec hash t e (.setClaimStart r) = .ok t' →
      t'.s.cfg = { t.s.cfg with claim := r } ∧ e.round < t.s.cfg.claim) := by
  refine ⟨fun h => ?_, fun h => ?_, fun h => ?_⟩
  · obtain ⟨hv, _, rfl⟩ := exec_setConfStart_ok h
    exact ⟨rfl, (validTimelineChange_ok.1 hv).1⟩
  · obtain ⟨hv, _, rfl⟩ := exec_setSelStart_ok h
    exact ⟨rfl, (validTimelineChange_ok.1 hv).1⟩
  · obtain ⟨hv, _, rfl⟩ := exec_setClaimStart_ok h
    exact ⟨rfl, (validTimelineChange_ok.1 hv).1⟩

/-- C06: along any sequence of (round advance, flag gain, accepted setter) steps the stage
    number never decreases; the round never decreases and `validPeriods` is preserved. -/
theorem stage_never_decreases {x y : TL} (h : TLSteps x y) :
    x.stage.toNat ≤ y.stage.toNat ∧ x.round ≤ y.round ∧
    (validPeriods x.cfg = true → validPeriods y.cfg = true) := by
  induction h with
  | refl x => exact ⟨Nat.le_refl _, Nat.le_refl _, id⟩
  | cons h _ ih =>
    exact ⟨Nat.le_trans h.stage_le ih.1, Nat.le_trans h.round_le ih.2.1,
      fun hv => ih.2.2 (h.validPeriods hv)⟩

/-- an accepted timeline setter of the model is a setter move of `TLStep` -/
theorem exec_setter_is_TLStep {hash : List Nat → List Nat} {t t' : Tx} {e : Env} {r : Nat}
    (h : exec hash t e (.setConfStart r) = .ok t' ∨ exec hash t e (.setSelStart r) = .ok t' ∨
         exec hash t e (.setClaimStart r) = .ok t') :
    TLStep ⟨e.round, t.s.cfg, t.s.flags⟩ ⟨e.round, t'.s.cfg, t'.s.flags⟩ := by
  rcases h with h | h | h
  · obtain ⟨hv, hp, rfl⟩ := exec_setConfStart_ok h
    exact TLStep.setConf ⟨e.round, t.s.cfg, t.s.flags⟩ r hv hp
  · obtain ⟨hv, hp, rfl⟩ := exec_setSelStart_ok h
    exact TLStep.setSel ⟨e.round, t.s.cfg, t.s.flags⟩ r hv hp
  · obtain ⟨hv, hp, rfl⟩ := exec_setClaimStart_ok h
    exact TLStep.setClaim ⟨e.round, t.s.cfg, t.s.flags⟩ r hv hp

example : TLSteps ⟨5, ⟨10, 20, 30⟩, {}⟩ ⟨25, ⟨7, 20, 22⟩, { selected := true, additional := true }⟩ :=
  .cons (.setConf _ 7 rfl rfl) <|
  .cons (.advance _ 12 (by decide)) <|
  .cons (.setClaim _ 22 rfl rfl) <|
  .cons (.gain _ { selected := true, additional := true } (by simp [Flags.gain])) <|
  .cons (.advance _ 25 (by decide)) <| .refl _

end LP

#print axioms LP.stage_monotone
#print axioms LP.stage_monotone_any_cfg
#print axioms LP.setter_keeps_current_stage
#print axioms LP.exec_setter_keeps_stage
#print axioms LP.reached_start_frozen
#print axioms LP.accepted_setter_valid
#print axioms LP.accepted_setter_frame
#print axioms LP.stage_never_decreases
#print axioms LP.exec_setter_is_TLStep
