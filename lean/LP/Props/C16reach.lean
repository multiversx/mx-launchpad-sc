import LP.Proofs.LockedGuarClaim
import LP.Props.C02reach
import LP.Props.C01reachV1
/-
  C16 (reachable-state form) — the locked-token variants split a winner's tokens exactly between
  the lock contract and the wallet.

  The two contracts with a lock are `Variant.locked` (launchpad-locked-tokens, reachable states
  `Reach hash .locked`) and `Variant.lockedGuar` (launchpad-locked-tokens-and-guaranteed-tickets,
  reachable states `v1_Reach hash .lockedGuar`); both are treated at once through `ReachOf`, since
  the settlement lemmas `lk_claim_locked_out`, `lk_claim_state` hold for any variant with a lock.

  For a winner's cumulative receipts, `lk_runLog hash s hist` (LP/Proofs/LockedGuarClaim.lean) is
  the list of accepted transactions `(state it ran in, env, call, outputs)` of a history;
  `lockedFor a locks` sums the lock calls with destination `a`, `directTo lp a xfers` the direct
  transfers of the fungible token `lp` to `a`; `received`, `totalReceived` add them up over one
  transaction / a log.  The side conditions `a ≠ owner` (the owner also receives the
  launchpad-token surplus through `claimPayment`) and `a ≠ lockAddr` (the lock contract receives
  every locked part) are both necessary, see the examples at the end.  The histories are arbitrary
  (no `EnvOK`, no `CallOK`, no monotone rounds): only static facts of the reachable starting state
  are used.
-/
namespace LP.Props.C16reach
open LP LP.FY LP.Props.C09 LP.Props.AllVariants
open LP.Props.C02 (LpCover)

def LockedVariant (v : Variant) : Prop := v = .locked ∨ v = .lockedGuar

theorem lockedVariant_iff (v : Variant) : LockedVariant v ↔ v.hasLock = true := by
  cases v <;> simp [LockedVariant, Variant.hasLock]

/-- a reachable state of a variant with a lock: the static facts the settlement lemmas need, a
    positive lock percentage, and coverage of all outstanding winners from the deposit on (each
    holds of every contract: `ReachOf.static`, `.lockPct_pos`, `.lpCover`) -/
theorem locked_reach_facts (hash : List Nat → List Nat) (v : Variant) (hv : LockedVariant v)
    (s : State) (r : Nat) (h : ReachOf hash v s r) :
    s.variant = v ∧ LkStatic s ∧ 0 < s.lockPct ∧ (s.deposited = true → LpCover s) :=
  have hl := (lockedVariant_iff v).mp hv
  ⟨h.variant, ⟨h.variant ▸ hl, h.static.pct, h.static.tokNe⟩, h.lockPct_pos hl, h.lpCover⟩

/-- **C16 at every reachable state of both variants with a lock**: an accepted `claim` delivers
    the caller's entitlement `amount = winning × perTicket` as exactly one lock call
    `(unlockEpoch, caller, L)` carried by one transfer of `L` to the lock contract (none if
    `L = 0`) followed by exactly one direct transfer of `amount − L` to the caller (none if zero),
    after the refund, where `L = amount × lockPct / 10000` before the unlock epoch and `0` from the
    unlock epoch on; the two parts add up to the entitlement; `0 < lockPct ≤ 10000`; the claim
    happens after all selection steps, the entitlement is covered by the launchpad tokens held,
    and leaves the balance exactly. -/
theorem C16_every_locked_variant (hash : List Nat → List Nat) (v : Variant) (hv : LockedVariant v)
    (s : State) (r : Nat) (h : ReachOf hash v s r) (e : Env) (s' : State) (o : Out)
    (hs : step hash s e .claim = .ok (s', o)) :
    s.variant = v ∧
    o.locks = (if pl_lockedAmt s e (winCountOf s e.caller * s.perTicket) > 0
      then [(s.unlockEpoch, e.caller, pl_lockedAmt s e (winCountOf s e.caller * s.perTicket))] else []) ∧
    o.xfers = refundXfers s e.caller
      ++ (if pl_lockedAmt s e (winCountOf s e.caller * s.perTicket) > 0
          then [(s.lockAddr, (⟨.esdt s.lpTok, 0,
            pl_lockedAmt s e (winCountOf s e.caller * s.perTicket)⟩ : Pay))] else [])
      ++ (if winCountOf s e.caller * s.perTicket
            - pl_lockedAmt s e (winCountOf s e.caller * s.perTicket) > 0
          then [(e.caller, (⟨.esdt s.lpTok, 0, winCountOf s e.caller * s.perTicket
            - pl_lockedAmt s e (winCountOf s e.caller * s.perTicket)⟩ : Pay))] else []) ∧
    pl_lockedAmt s e (winCountOf s e.caller * s.perTicket)
      + (winCountOf s e.caller * s.perTicket - pl_lockedAmt s e (winCountOf s e.caller * s.perTicket))
      = winCountOf s e.caller * s.perTicket ∧
    (e.epoch < s.unlockEpoch → pl_lockedAmt s e (winCountOf s e.caller * s.perTicket)
      = lockSplit (winCountOf s e.caller * s.perTicket) s.lockPct) ∧
    (s.unlockEpoch ≤ e.epoch → pl_lockedAmt s e (winCountOf s e.caller * s.perTicket) = 0) ∧
    0 < s.lockPct ∧ s.lockPct ≤ 10000 ∧
    AllDone s ∧ winCountOf s e.caller ≤ s.nrWinning ∧
    s.perTicket * winCountOf s e.caller ≤ s.bal (.esdt s.lpTok) 0 ∧
    (s.deposited = true → LpCover s) ∧
    s'.nrWinning = s.nrWinning - winCountOf s e.caller ∧
    s'.bal (.esdt s'.lpTok) 0 = s.bal (.esdt s.lpTok) 0 - s.perTicket * winCountOf s e.caller ∧
    s'.perTicket = s.perTicket ∧ s'.range e.caller = none ∧ s'.claimed e.caller = true := by
  obtain ⟨hvar, hS, hpos, hcov⟩ := locked_reach_facts hash v hv s r h
  obtain ⟨k1, k2, k3⟩ := lk_claim_locked_out hS.lock hS.pct hs
  obtain ⟨m1, _, _, m4, m5, m6, m7, m8, m9, m10⟩ := lk_claim_state hS.lock hS.pct hS.tokNe hs
  exact ⟨hvar, k1, k2, k3, fun he => if_pos he, fun he => if_neg (Nat.not_lt.mpr he), hpos, hS.pct,
    (stage_claim_iff.mp m1).1, m4, m5, hcov, m6, m7, m8, m9, m10⟩

/-- **any unsettled participant is covered**: in every reachable state after completion — whatever
    claims and owner withdrawals happened before — the launchpad tokens held cover
    `perTicket × (winning tickets)` of every participant, and his winning tickets are among the
    outstanding winners (`ReachOf.winner_covered`, which holds of all eight contracts) -/
theorem winner_covered_every_locked_variant (hash : List Nat → List Nat) (v : Variant)
    (hv : LockedVariant v) (s : State) (r : Nat) (h : ReachOf hash v s r) (hd : AllDone s) (a : Nat) :
    s.perTicket * winCountOf s a ≤ s.bal (.esdt s.lpTok) 0 ∧ winCountOf s a ≤ s.nrWinning :=
  h.winner_covered hd a

/-- **`lockPct`, `unlockEpoch`, `lockAddr` never change**: along any history of any variant (any
    calls, any arguments, call values and rounds; rejected transactions leave no trace) the three
    lock terms — and the variant — are those of the starting state -/
theorem lock_terms_frozen (hash : List Nat → List Nat) (s : State) (hist : List (Env × Call)) :
    (run hash s hist).lockPct = s.lockPct ∧ (run hash s hist).unlockEpoch = s.unlockEpoch ∧
    (run hash s hist).lockAddr = s.lockAddr ∧ (run hash s hist).variant = s.variant := by
  obtain ⟨h1, h2, h3, h4, _⟩ := lk_run_terms hash s hist
  exact ⟨h1, h2, h3, h4⟩

theorem lock_terms_frozen_step (hash : List Nat → List Nat) (s : State) (e : Env) (c : Call)
    (s' : State) (o : Out) (hs : step hash s e c = .ok (s', o)) :
    s'.lockPct = s.lockPct ∧ s'.unlockEpoch = s.unlockEpoch ∧ s'.lockAddr = s.lockAddr := by
  obtain ⟨k1, k2⟩ := step_lockAddr hs
  exact ⟨step_lockPct hs, k2, k1⟩

/-- the lock terms of a locked variant are, for ever, the deployment arguments, which satisfy
    `0 < lockPct ≤ 10000`, `unlockEpoch` after the deployment epoch, `lockAddr` a contract -/
theorem lock_terms_are_deployment_args (hash : List Nat → List Nat) (v : Variant)
    (hv : LockedVariant v) (a : InitArgs) (e0 : Env) (s0 : State) (hi : init v a e0 = .ok s0)
    (hist : List (Env × Call)) :
    (run hash s0 hist).lockPct = a.lockPct ∧ (run hash s0 hist).unlockEpoch = a.unlockEpoch ∧
    (run hash s0 hist).lockAddr = a.lockAddr ∧
    0 < a.lockPct ∧ a.lockPct ≤ 10000 ∧ e0.epoch < a.unlockEpoch ∧
    a.lockAddr ≠ 0 ∧ e0.isContract a.lockAddr = true := by
  obtain ⟨h1, h2, h3, _⟩ := lock_terms_frozen hash s0 hist
  obtain ⟨hok, rfl⟩ := init_ok hi
  rw [h1, h2, h3]
  rcases hv with rfl | rfl <;> exact ⟨rfl, rfl, rfl, hok.lock rfl⟩

/-- **a variant without a lock never makes a lock call** (the six contracts with
    `hasLock = false`) -/
theorem no_lock_call_without_lock (hash : List Nat → List Nat) (s : State) (e : Env) (c : Call)
    (s' : State) (o : Out) (hv : s.variant.hasLock = false) (hs : step hash s e c = .ok (s', o)) :
    o.locks = [] :=
  lk_step_locks (fun _ => hv) hs

theorem no_lock_call_without_lock_run (hash : List Nat → List Nat) (s : State)
    (hv : s.variant.hasLock = false) (hist : List (Env × Call)) :
    ∀ x ∈ lk_runLog hash s hist, x.2.2.2.locks = [] := by
  intro x hx
  obtain ⟨h1, h2, s', _, k2, k3⟩ := lk_runLog_mem hash hist s x hx
  refine no_lock_call_without_lock hash x.1 x.2.1 x.2.2.1 s' x.2.2.2 ?_ k3
  rw [k2, (lock_terms_frozen hash s h1).2.2.2]
  exact hv

/-- in every variant only the `claim` endpoint can make a lock call -/
theorem lock_calls_only_from_claims (hash : List Nat → List Nat) (s : State) (e : Env) (c : Call)
    (s' : State) (o : Out) (hc : c ≠ .claim) (hs : step hash s e c = .ok (s', o)) : o.locks = [] :=
  lk_step_locks (fun h => absurd h hc) hs

theorem static_of_reach (hash : List Nat → List Nat) (v : Variant) (hv : LockedVariant v)
    (s : State) (r : Nat) (h : ReachOf hash v s r) : LkStatic s :=
  (locked_reach_facts hash v hv s r h).2.1

/-- **one accepted transaction**: from a reachable state of a locked variant, after any history,
    an accepted transaction gives `a` (neither the owner nor the lock contract) exactly his
    entitlement `perTicket × winning tickets` — lock calls with destination `a` plus direct
    launchpad-token transfers to `a` — if it is his `claim`, and nothing otherwise -/
theorem receipts_per_transaction (hash : List Nat → List Nat) (v : Variant) (hv : LockedVariant v)
    (s : State) (r : Nat) (h : ReachOf hash v s r) (hist : List (Env × Call)) (a : Nat)
    (ha1 : a ≠ s.owner) (ha2 : a ≠ s.lockAddr) (e : Env) (c : Call) (s' : State) (o : Out)
    (hs : step hash (run hash s hist) e c = .ok (s', o)) :
    received s.lpTok a o =
      if isClaimBy a (run hash s hist, e, c, o) = true
      then (run hash s hist).perTicket * winCountOf (run hash s hist) a else 0 := by
  obtain ⟨_, _, t3, _, t5, t6⟩ := lk_run_terms hash s hist
  have hS1 : LkStatic (run hash s hist) :=
    run_induct hash LkStatic (fun _ _ _ _ _ hp hx => lk_step_static hp hx) hist s
      (static_of_reach hash v hv s r h)
  have := lk_step_received hS1 (a := a) (by rw [t6]; exact ha1) (by rw [t3]; exact ha2) hs
  rw [t5] at this
  exact this

/-- **C16, a winner's cumulative receipts**: from a reachable state of a locked variant, along any
    history (any calls by anybody, any arguments; rejected transactions leave no trace), the lock
    calls with destination `a` and the direct launchpad-token transfers to `a` over all accepted
    transactions add up to exactly `perTicket × winning tickets of a`, read in the state in which
    his first accepted `claim` ran — and to nothing if he makes no accepted claim; there is at most
    one accepted claim per address.  (`a` is neither the owner nor the lock contract.) -/
theorem winner_total_receipts (hash : List Nat → List Nat) (v : Variant) (hv : LockedVariant v)
    (s : State) (r : Nat) (h : ReachOf hash v s r) (hist : List (Env × Call)) (a : Nat)
    (ha1 : a ≠ s.owner) (ha2 : a ≠ s.lockAddr) :
    totalReceived s.lpTok a (lk_runLog hash s hist) =
      (match (lk_runLog hash s hist).find? (isClaimBy a) with
       | some x => x.1.perTicket * winCountOf x.1 a
       | none => 0) ∧
    ((lk_runLog hash s hist).filter (isClaimBy a)).length ≤ 1 :=
  lk_total_received hash a hist s ⟨static_of_reach hash v hv s r h, ha1, ha2⟩

/-- with the claim exhibited: if the history is `h1`, then `a`'s accepted `claim`, then `h2`, he
    receives over the whole history exactly `perTicket × (his winning tickets)` as they stand when
    he claims (`perTicket` is the deposit-time value once the deposit is made); no other accepted
    claim by `a` occurs before or after, and every later claim by `a` is rejected -/
theorem winner_total_receipts_of_claim (hash : List Nat → List Nat) (v : Variant)
    (hv : LockedVariant v) (s : State) (r : Nat) (h : ReachOf hash v s r) (a : Nat)
    (ha1 : a ≠ s.owner) (ha2 : a ≠ s.lockAddr) (h1 h2 : List (Env × Call)) (e : Env) (s2 : State)
    (o : Out) (hca : e.caller = a) (hs : step hash (run hash s h1) e .claim = .ok (s2, o)) :
    totalReceived s.lpTok a (lk_runLog hash s (h1 ++ (e, .claim) :: h2))
      = (run hash s h1).perTicket * winCountOf (run hash s h1) a ∧
    (s.deposited = true → (run hash s h1).perTicket = s.perTicket) ∧
    (∀ x ∈ lk_runLog hash s h1, isClaimBy a x = false) ∧
    (∀ x ∈ lk_runLog hash s2 h2, isClaimBy a x = false) ∧
    (∀ e2 : Env, e2.caller = a → ∃ err, step hash (run hash s2 h2) e2 .claim = .error err) := by
  have hS := static_of_reach hash v hv s r h
  obtain ⟨k1, k2, k3⟩ := lk_total_of_claim hash a s ⟨hS, ha1, ha2⟩ h1 h2 e s2 o hca hs
  refine ⟨k1, fun hd => pl_run_perTicket hash h1 s hd, k2, k3, fun e2 he2 => ?_⟩
  refine claim_once hash (run hash s h1) e s2 o hs h2 e2 (he2.trans hca.symm) ?_
  rw [(lock_terms_frozen hash s2 h2).2.2.2, step_variant hs, (lock_terms_frozen hash s h1).2.2.2]
  exact (lk_hasLock_flags hS.lock).1

theorem winner_total_receipts_no_claim (hash : List Nat → List Nat) (v : Variant)
    (hv : LockedVariant v) (s : State) (r : Nat) (h : ReachOf hash v s r) (hist : List (Env × Call))
    (a : Nat) (ha1 : a ≠ s.owner) (ha2 : a ≠ s.lockAddr)
    (hno : ∀ x ∈ lk_runLog hash s hist, isClaimBy a x = false) :
    totalReceived s.lpTok a (lk_runLog hash s hist) = 0 :=
  lk_total_no_claim hash a hist s ⟨static_of_reach hash v hv s r h, ha1, ha2⟩ hno

/-! ### non-vacuity

  (a) the locked guaranteed-ticket launchpad through its whole lifecycle: `T0 = 2`, 1000 tokens per
  ticket, 25 % locked until epoch 9 in the lock contract 77.  Participant 7 (2 staking tickets, one
  guaranteed) confirms both, participant 8 (1 energy ticket) confirms his; after filter, lottery and
  distribution participant 7 holds both winning tickets. -/

def gArgs : InitArgs :=
  { lpTok := 1, perTicket := 1000, payTok := .egld, price := 10, nrWinning := 2, conf := 5, sel := 10,
    claim := 15, lockPct := 2500, unlockEpoch := 9, lockAddr := 77 }

def gDeploy : Env := { caller := 1, round := 0, isContract := fun a => a == 77 }

def g0 : State := match init .lockedGuar gArgs gDeploy with
  | .ok s => s
  | .error _ => default

def gAlloc : List (Nat × Nat × Nat × Bool) := [(7, 2, 0, false), (8, 0, 1, false)]

open LP.Props.C01reachV1 (stOf isOk callOk) in
def g1 : State := stOf (step id g0 { caller := 1, round := 1 } (.addTicketsV1 gAlloc)) g0
open LP.Props.C01reachV1 (stOf isOk callOk) in
def g2 : State := stOf (step id g1 { caller := 1, round := 2, esdts := [⟨.esdt 1, 0, 2000⟩] } .deposit) g1
open LP.Props.C01reachV1 (stOf isOk callOk) in
def g3 : State := stOf (step id g2 { caller := 7, round := 5, egld := 20 } (.confirm 2)) g2
open LP.Props.C01reachV1 (stOf isOk callOk) in
def g4 : State := stOf (step id g3 { caller := 8, round := 6, egld := 10 } (.confirm 1)) g3
open LP.Props.C01reachV1 (stOf isOk callOk) in
def g5 : State := stOf (step id g4 { caller := 9, round := 10 } .filter) g4
open LP.Props.C01reachV1 (stOf isOk callOk) in
def g6 : State := stOf (step id g5 { caller := 9, round := 11 } .select) g5
open LP.Props.C01reachV1 (stOf isOk callOk) in
def g7 : State := stOf (step id g6 { caller := 9, round := 12 } .distribute) g6
open LP.Props.C01reachV1 (stOf isOk callOk) in
def g8 : State := stOf (step id g7 { caller := 7, round := 15, epoch := 3 } .claim) g7

theorem g0_reach : v1_ReachA id .lockedGuar gArgs g0 0 := v1_ReachA.init gDeploy g0 rfl

open LP.Props.C01reachV1 (stOf isOk callOk) in
theorem g4_reach : v1_ReachA id .lockedGuar gArgs g4 6 :=
  callOk { caller := 8, round := 6, egld := 10 } (.confirm 1)
    (callOk { caller := 7, round := 5, egld := 20 } (.confirm 2)
      (callOk { caller := 1, round := 2, esdts := [⟨.esdt 1, 0, 2000⟩] } .deposit
        (callOk { caller := 1, round := 1 } (.addTicketsV1 gAlloc)
          g0_reach (by decide) (Or.inl rfl)
          (by show ∀ q ∈ gAlloc, 1 ≤ q.2.1 + q.2.2.1; decide) (by decide +kernel))
        (by decide) (Or.inl rfl) trivial (by decide +kernel))
      (by decide) (Or.inr rfl) trivial (by decide +kernel))
    (by decide) (Or.inr rfl) trivial (by decide +kernel)

open LP.Props.C01reachV1 (stOf isOk callOk) in
theorem g7_reach : v1_ReachA id .lockedGuar gArgs g7 12 :=
  callOk { caller := 9, round := 12 } .distribute
    (callOk { caller := 9, round := 11 } .select
      (callOk { caller := 9, round := 10 } .filter g4_reach (by decide) (Or.inl rfl) trivial (by decide +kernel))
      (by decide) (Or.inl rfl) trivial (by decide +kernel))
    (by decide) (Or.inl rfl) trivial (by decide +kernel)

theorem g7_reachOf : ReachOf id .lockedGuar g7 12 := v1_Reach_iff.mpr ⟨_, g7_reach⟩

theorem stOf_step_v1 {x : Res (State × Out)} (h : LP.Props.C01reachV1.isOk x = true) (d : State) :
    ∃ o, x = .ok (LP.Props.C01reachV1.stOf x d, o) :=
  LP.Props.C01reachV1.stOf_spec h d

theorem g8_ok : LP.Props.C01reachV1.isOk (step id g7 { caller := 7, round := 15, epoch := 3 } .claim) = true := by
  decide +kernel

example : g1.nrWinning = 1 ∧ g1.totalGuaranteed = 1 ∧ g2.bal (.esdt 1) 0 = 2000 ∧ AllDone g7 ∧
    g7.nrWinning = 2 ∧ winCountOf g7 7 = 2 ∧ winCountOf g7 8 = 0 ∧ g7.bal (.esdt 1) 0 = 2000 ∧
    g7.owner = 1 ∧ g7.lockAddr = 77 ∧ g7.lockPct = 2500 ∧ g7.unlockEpoch = 9 := by
  unfold AllDone
  decide +kernel

/-- `g7 → g8`, epoch 3 < 9: participant 7 is owed `1000 × 2`; 25 % = 500 go to the lock contract
    77 with the lock call `(9, 7, 500)`, 1500 directly to him; from epoch 9 on the whole 2000 go
    directly to him and no lock call is made -/
example :
    (step id g7 { caller := 7, round := 15, epoch := 3 } .claim).toOption.map
        (fun x => (x.2.locks, x.2.xfers)) =
      some ([(9, 7, 500)], [(77, ⟨.esdt 1, 0, 500⟩), (7, ⟨.esdt 1, 0, 1500⟩)]) ∧
    (step id g7 { caller := 7, round := 15, epoch := 10 } .claim).toOption.map
        (fun x => (x.2.locks, x.2.xfers)) =
      some ([], [(7, ⟨.esdt 1, 0, 2000⟩)]) ∧
    g8.bal (.esdt 1) 0 = 0 ∧ g8.nrWinning = 0 ∧ g8.range 7 = none ∧ g8.claimed 7 = true := by
  decide +kernel

/-- `C16_every_locked_variant` applied to that step: `L = lockSplit 2000 2500 = 500` -/
example : ∃ o, step id g7 { caller := 7, round := 15, epoch := 3 } .claim = .ok (g8, o) ∧
    o.locks = [(9, 7, 500)] ∧ pl_lockedAmt g7 { caller := 7, round := 15, epoch := 3 } 2000 = 500 ∧
    winCountOf g7 7 * g7.perTicket = 2000 ∧ 0 < g7.lockPct ∧ g7.lockPct ≤ 10000 ∧ AllDone g7 ∧
    g8.bal (.esdt g8.lpTok) 0 = g7.bal (.esdt g7.lpTok) 0 - g7.perTicket * winCountOf g7 7 := by
  obtain ⟨o, ho'⟩ := stOf_step_v1 g8_ok g7
  obtain ⟨_, h1, _, _, _, _, h6, h7, h8, _, _, _, _, h13, _⟩ :=
    C16_every_locked_variant id .lockedGuar (Or.inr rfl) g7 12 g7_reachOf _ g8 o ho'
  exact ⟨o, ho', h1.trans (by decide +kernel), by decide +kernel, by decide +kernel, h6, h7, h8,
    h13⟩

/-- the same on `Variant.locked` (`l5 → l6` of LP/Props/C02reach.lean) -/
example : ∃ o, step id LP.PL.l5 { caller := 7, round := 15, epoch := 3 } .claim = .ok (LP.PL.l6, o) ∧
    LP.PL.l5.variant = .locked ∧ 0 < LP.PL.l5.lockPct ∧ AllDone LP.PL.l5 := by
  obtain ⟨o, ho'⟩ := LP.Props.C01reach.stOf_spec LP.PL.l6_ok LP.PL.l5
  obtain ⟨h0, _, _, _, _, _, h6, _, h8, _⟩ :=
    C16_every_locked_variant id .locked (Or.inl rfl) LP.PL.l5 11
      (Reach_iff.mpr ⟨_, LP.PL.l5_reachA⟩) _ LP.PL.l6 o ho'
  exact ⟨o, ho', h0, h6, h8⟩

example : g7.perTicket * winCountOf g7 7 ≤ g7.bal (.esdt g7.lpTok) 0 ∧ winCountOf g7 7 ≤ g7.nrWinning :=
  winner_covered_every_locked_variant id .lockedGuar (Or.inr rfl) g7 12 g7_reachOf
    (by unfold AllDone; decide +kernel) 7

/-! (b) a history from `g7`: participant 7 claims (500 locked + 1500 direct), participant 8 claims
  (refund only), the owner withdraws, participant 7 claims again (rejected: three log entries). -/

def gHist : List (Env × Call) :=
  [({ caller := 7, round := 15, epoch := 3 }, .claim), ({ caller := 8, round := 16, epoch := 3 }, .claim),
   ({ caller := 1, round := 17, epoch := 3 }, .claimPayment),
   ({ caller := 7, round := 18, epoch := 3 }, .claim)]

/-- 7 receives `1000 × 2`, 8 nothing; the lock contract 77 itself receives the locked 500 — the
    reason for the side condition `a ≠ lockAddr` -/
example : (lk_runLog id g7 gHist).length = 3 ∧
    totalReceived 1 7 (lk_runLog id g7 gHist) = 2000 ∧ totalReceived 1 8 (lk_runLog id g7 gHist) = 0 ∧
    totalReceived 1 77 (lk_runLog id g7 gHist) = 500 := by
  decide +kernel

/-- `h1 = []`, the claim of 7, `h2` = the rest -/
example : totalReceived g7.lpTok 7 (lk_runLog id g7 gHist) = g7.perTicket * winCountOf g7 7 ∧
    g7.perTicket * winCountOf g7 7 = 2000 := by
  obtain ⟨o, ho'⟩ := stOf_step_v1 g8_ok g7
  have := (winner_total_receipts_of_claim id .lockedGuar (Or.inr rfl) g7 12 g7_reachOf 7
    (by decide +kernel) (by decide +kernel) [] gHist.tail _ g8 o rfl ho').1
  exact ⟨this, by decide +kernel⟩

/-- on `Variant.locked`, from `l5`: participant 7 claims, the owner withdraws, 7 claims again
    (rejected).  7 receives `1000 × 2`; the owner 1 receives the surplus `1000` — the reason for
    the side condition `a ≠ owner` -/
example :
    totalReceived LP.PL.l5.lpTok 7 (lk_runLog id LP.PL.l5
      [({ caller := 7, round := 15, epoch := 3 }, .claim), ({ caller := 1, round := 16, epoch := 3 }, .claimPayment),
       ({ caller := 7, round := 17, epoch := 3 }, .claim)]) = 2000 ∧
    ((lk_runLog id LP.PL.l5
      [({ caller := 7, round := 15, epoch := 3 }, .claim), ({ caller := 1, round := 16, epoch := 3 }, .claimPayment),
       ({ caller := 7, round := 17, epoch := 3 }, .claim)]).filter (isClaimBy 7)).length ≤ 1 ∧
    totalReceived 1 1 (lk_runLog id LP.PL.l5
      [({ caller := 7, round := 15, epoch := 3 }, .claim), ({ caller := 1, round := 16, epoch := 3 }, .claimPayment),
       ({ caller := 7, round := 17, epoch := 3 }, .claim)]) = 1000 := by
  have h := winner_total_receipts id .locked (Or.inl rfl) LP.PL.l5 11
    (Reach_iff.mpr ⟨_, LP.PL.l5_reachA⟩)
    [({ caller := 7, round := 15, epoch := 3 }, .claim), ({ caller := 1, round := 16, epoch := 3 }, .claimPayment),
     ({ caller := 7, round := 17, epoch := 3 }, .claim)] 7 (by decide +kernel) (by decide +kernel)
  exact ⟨by decide +kernel, h.2, by decide +kernel⟩

/-! (c) the lock terms and the variants without a lock -/

example : init .lockedGuar gArgs gDeploy = .ok g0 ∧ init .locked LP.PL.lkArgs LP.PL.lkDeploy = .ok LP.PL.l0 ∧
    (run id g0 []).lockPct = 2500 ∧ g7.lockPct = g0.lockPct ∧ g7.unlockEpoch = g0.unlockEpoch ∧
    g7.lockAddr = g0.lockAddr :=
  ⟨rfl, rfl, by decide +kernel⟩

/-- the base launchpad makes no lock call (`ex7 → ex8` of LP/Props/C01reach.lean, the winner's
    claim) -/
example : LP.Props.C01reach.ex7.variant.hasLock = false ∧
    ∃ o, step id LP.Props.C01reach.ex7 { caller := 7, round := 15 } .claim = .ok (LP.Props.C01reach.ex8, o) ∧
      o.locks = [] := by
  obtain ⟨o, ho'⟩ := LP.Props.C01reach.stOf_spec LP.Props.C01reach.ex8_ok LP.Props.C01reach.ex7
  have hv : LP.Props.C01reach.ex7.variant.hasLock = false := by decide +kernel
  exact ⟨hv, o, ho', no_lock_call_without_lock id _ _ _ _ o hv ho'⟩

end LP.Props.C16reach

#print axioms LP.Props.C16reach.locked_reach_facts
#print axioms LP.Props.C16reach.C16_every_locked_variant
#print axioms LP.Props.C16reach.lock_terms_frozen
#print axioms LP.Props.C16reach.lock_terms_frozen_step
#print axioms LP.Props.C16reach.lock_terms_are_deployment_args
#print axioms LP.Props.C16reach.no_lock_call_without_lock
#print axioms LP.Props.C16reach.no_lock_call_without_lock_run
#print axioms LP.Props.C16reach.lock_calls_only_from_claims
#print axioms LP.Props.C16reach.static_of_reach
#print axioms LP.Props.C16reach.receipts_per_transaction
#print axioms LP.Props.C16reach.winner_total_receipts
#print axioms LP.Props.C16reach.winner_total_receipts_of_claim
#print axioms LP.Props.C16reach.winner_total_receipts_no_claim
#print axioms LP.Props.C16reach.g7_reach
#print axioms LP.Props.C16reach.g7_reachOf
#print axioms LP.Props.C16reach.stOf_step_v1
#print axioms LP.Props.C16reach.lockedVariant_iff
#print axioms LP.Props.C16reach.g0_reach
#print axioms LP.Props.C16reach.g4_reach
#print axioms LP.Props.C16reach.winner_covered_every_locked_variant
