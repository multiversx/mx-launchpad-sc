import LP.Proofs.Solvency
import LP.Proofs.ClaimPayment
/-
  C01 — Ticket-payment solvency: the contract always holds exactly what it still owes.

  The two ledger equations (`PayEqPre` until all selection steps are complete, `PayEqPost`
  afterwards) are defined in LP/Proofs/Solvency.lean.  Here, for a single call: an accepted
  confirmation keeps the first, the common path of the owner's withdrawal keeps the second; the
  hand-over between them, and the final zero.  On reachable states the equations hold by
  `C01_every_variant` (LP/Props/AllVariants.lean; per family C01reach, C01reachV1, C01reachG1,
  C01reachV2, C14reach, C14reachG).  The implementation-side monitor `m_C01`
  (tools/lpcheck/monitors.py) checks holdings = owed after every transaction of every explored
  history.
-/
namespace LP.Props.C01
open LP

theorem send_bal (t t' : Tx) (to : Nat) (p : Pay) (h : t.send to p = .ok t') :
    p.amount ≤ t.s.bal p.tok p.nonce ∧
    t'.s = { t.s with bal := t.s.bal.sub p.tok p.nonce p.amount } ∧
    t'.o.xfers = t.o.xfers ++ [(to, p)] ∧ t'.o.events = t.o.events ∧ t'.c = t.c := by
  obtain ⟨hle, rfl⟩ := (send_ok_iff t to p t').mp h
  exact ⟨hle, rfl, rfl, rfl, rfl⟩

theorem sub_same (b : Bal) (t : Token) (n a : Nat) : (b.sub t n a) t n = b t n - a :=
  Bal.sub_at b t n a

theorem sub_other (b : Bal) (t t' : Token) (n n' a : Nat) (h : ¬(t' = t ∧ n' = n)) :
    (b.sub t n a) t' n' = b t' n' :=
  Bal.sub_other_apply b t t' n n' a h

/-- **Confirmation keeps the pre-selection equation**: holdings and the confirmed total grow
    by the same `price × n`. -/
theorem confirm_keeps_pre (hash : List Nat → List Nat) (s s' : State) (e : Env) (n : Nat) (o : Out)
    (L : List Nat) (hwf : e.egld = 0 ∨ e.esdts = [])
    (h : step hash s e (.confirm n) = .ok (s', o))
    (hcov : Covers s L) (hin : e.caller ∈ L) (hpre : PayEqPre s L) :
    PayEqPre s' L ∧ Covers s' L ∧ o.xfers = [] := by
  obtain ⟨total, hacc, hs', hx, _, _, _⟩ := C07.confirm_effect hash s e n s' o h
  have hb := C07.confirm_holdings s e n total hacc hwf
  have hsum := sumOver_upd_mem s.confirmed L e.caller (s.confirmed e.caller + n) hcov.nodup hin
  refine ⟨?_, ⟨hcov.nodup, ?_⟩, hx⟩
  · unfold PayEqPre at *
    subst hs'
    simp only [creditPayments_payTok, creditPayments_price]
    rw [hb]
    simp only [Bal.add, and_self, ↓reduceIte, hpre]
    have : sumOver (upd s.confirmed e.caller (s.confirmed e.caller + n)) L = sumOver s.confirmed L + n := by omega
    rw [this, Nat.mul_add]
  · intro a ha
    subst hs'
    by_cases hac : a = e.caller
    · subst hac; exact hin
    · simp [upd, hac] at ha
      exact hcov.supp a ha

/-- **Owner withdrawal (common path) keeps the post-selection equation**: the holdings of the
    payment token fall by exactly the recorded proceeds, which are reset to zero.  `hne`: the
    launchpad-token surplus sent by the same call is in a different token. -/
theorem claimPaymentCommon_keeps_post (t t' : Tx) (e : Env) (L : List Nat)
    (hne : t.s.payTok ≠ .esdt t.s.lpTok)
    (h : claimPaymentCommon t e = .ok t') (hpost : PayEqPost t.s L) :
    PayEqPost t'.s L ∧ t'.s.claimablePayment = 0 ∧
    t'.s.bal t.s.payTok 0 = t.s.bal t.s.payTok 0 - t.s.claimablePayment ∧
    t.s.claimablePayment ≤ t.s.bal t.s.payTok 0 := by
  obtain ⟨_, hle, _, hs', _⟩ := claimPaymentCommon_exact h hne
  have hb : t'.s.bal t.s.payTok 0 = t.s.bal t.s.payTok 0 - t.s.claimablePayment := by
    rw [hs']
    show ((t.s.bal.sub t.s.payTok 0 t.s.claimablePayment).sub (.esdt t.s.lpTok) 0 _) t.s.payTok 0 = _
    rw [sub_other _ _ _ _ _ _ (fun hh => hne hh.1), sub_same]
  have hcp : t'.s.claimablePayment = 0 := by rw [hs']
  refine ⟨?_, hcp, hb, hle⟩
  -- the refunds due read neither the balances nor the recorded proceeds
  have hrd : refundDue t'.s = refundDue t.s := by rw [hs']; rfl
  have hp : t'.s.payTok = t.s.payTok := by rw [hs']
  unfold PayEqPost at *
  rw [hrd, hp, hb, hcp, hpost]
  omega

/-- the hand-over at the completion of the last selection step -/
theorem handover (s : State) (L : List Nat) (hpre : PayEqPre s L)
    (hcp : s.claimablePayment = s.price * sumOver (winCountOf s) L)
    (hle : ∀ a ∈ L, winCountOf s a ≤ s.confirmed a)
    (hnr : ∀ a ∈ L, s.range a = none → s.confirmed a = 0) : PayEqPost s L := by
  refine ledger_handover hpre hcp hle (fun a ha => ?_)
  unfold refundDue
  cases hr : s.range a with
  | none => rw [hnr a ha hr, Nat.zero_sub, Nat.mul_zero]
  | some r => rfl

theorem after_all_claims_nothing_left (s : State) (L : List Nat) (hpost : PayEqPost s L)
    (hall : ∀ a ∈ L, s.range a = none) (hcp : s.claimablePayment = 0) : s.bal s.payTok 0 = 0 :=
  all_settled_zero s L hpost hall hcp

/-- non-vacuity: a state with two participants satisfying the pre-selection equation -/
example : ∃ s : State, PayEqPre s [7, 8] ∧ Covers s [7, 8] ∧ s.bal s.payTok 0 = 50 := by
  refine ⟨{ variant := .base, owner := 1, lpTok := 1, perTicket := 1, payTok := .egld, price := 10,
            nrWinning := 1, cfg := ⟨5, 10, 15⟩, flags := {}, support := 1,
            confirmed := fun a => if a = 7 then 3 else if a = 8 then 2 else 0,
            bal := fun t n => if t = .egld ∧ n = 0 then 50 else 0 }, ?_, ⟨by decide, ?_⟩, ?_⟩
  · simp [PayEqPre, sumOver]
  · intro a ha
    by_cases h7 : a = 7
    · simp [h7]
    · by_cases h8 : a = 8
      · simp [h8]
      · simp [h7, h8] at ha
  · simp

end LP.Props.C01

#print axioms LP.Props.C01.confirm_keeps_pre
#print axioms LP.Props.C01.claimPaymentCommon_keeps_post
#print axioms LP.Props.C01.handover
#print axioms LP.Props.C01.after_all_claims_nothing_left

#print axioms LP.Props.C01.send_bal
#print axioms LP.Props.C01.sub_same
#print axioms LP.Props.C01.sub_other
