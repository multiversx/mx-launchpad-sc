import LP.Proofs.ReserveSeq
/-
  C12 — the guaranteed-ticket reserve: `nrWinning + totalGuaranteed` is conserved by every
  allocation / blacklist hook, and no counter wraps.  The invariant `GuarInv v2 s`
  (LP/Proofs/Reserve.lean, `GI`) says `totalGuaranteed` is the sum of the guarantees of the
  duplicate-free whitelist, whose members are exactly the users with a positive guarantee.  Two
  further clauses make it inductive: `has_range` (a live record has a ticket range) and, v1 only,
  `bl_pos` (a range without live record means a positive guarantee parked in `blUts`).
  LP/Proofs/ReserveSeq.lean has a counterexample for each of them and for each hypothesis of
  `C12_restoreGuaranteedV2`; all but `ce_add_whitelisted` (`has_range`) are replayed below.
-/
namespace LP

/-! ### each hook conserves the reserve and re-establishes the invariant -/

theorem C12_addTicketsV2 (t t' : Tx) (e : Env) (l : List (Nat × Nat × List (Nat × Nat)))
    (h : GuarInv true t.s) (hok : addTicketsV2 t e l = .ok t') :
    t'.s.nrWinning + t'.s.totalGuaranteed = t.s.nrWinning + t.s.totalGuaranteed ∧
    GuarInv true t'.s :=
  (addTicketsV2_reserve t e l h).of_ok hok

theorem C12_clearGuaranteedV2 (s s' : State) (l : List Nat)
    (h : GuarInv true s) (hok : clearGuaranteedV2 s l = .ok s') :
    s'.nrWinning + s'.totalGuaranteed = s.nrWinning + s.totalGuaranteed ∧ GuarInv true s' := by
  obtain ⟨s2, h2, h3⟩ := clearGuaranteedV2_reserve s l h
  rw [h2] at hok; cases hok; exact h3

/-- `hnd`, `hno`: the endpoint `removeUsersFromBlacklist` guarantees both under `GuarInvX`
    (see `C12_history`) -/
theorem C12_restoreGuaranteedV2 (s s' : State) (l : List Nat)
    (h : GuarInv true s) (hnd : l.Nodup) (hno : ∀ u ∈ l, s.uts u = none)
    (hok : restoreGuaranteedV2 s l = .ok s') :
    s'.nrWinning + s'.totalGuaranteed = s.nrWinning + s.totalGuaranteed ∧ GuarInv true s' :=
  (restoreGuaranteedV2_reserve s l h hnd hno).of_ok hok

theorem C12_addTicketsV1 (s s' : State) (e : Env) (l : List (Nat × Nat × Nat × Bool))
    (h : GuarInv false s) (hok : addTicketsV1 s e l = .ok s') :
    s'.nrWinning + s'.totalGuaranteed = s.nrWinning + s.totalGuaranteed ∧ GuarInv false s' :=
  (addTicketsV1_reserve s e l h).of_ok hok

theorem C12_clearGuaranteedV1 (s s' : State) (l : List Nat)
    (h : GuarInv false s) (hok : clearGuaranteedV1 s l = .ok s') :
    s'.nrWinning + s'.totalGuaranteed = s.nrWinning + s.totalGuaranteed ∧ GuarInv false s' := by
  obtain ⟨s2, h2, h3⟩ := clearGuaranteedV1_reserve s l h
  rw [h2] at hok; cases hok; exact h3

theorem C12_restoreGuaranteedV1 (s s' : State) (l : List Nat)
    (h : GuarInv false s) (hok : restoreGuaranteedV1 s l = .ok s') :
    s'.nrWinning + s'.totalGuaranteed = s.nrWinning + s.totalGuaranteed ∧ GuarInv false s' :=
  (restoreGuaranteedV1_reserve s l h).of_ok hok

/-! ### no counter wraps: the hooks fail only with a user error -/

theorem C12_addTicketsV2_no_panic (t : Tx) (e : Env) (l : List (Nat × Nat × List (Nat × Nat)))
    (h : GuarInv true t.s) :
    (∃ t', addTicketsV2 t e l = .ok t') ∨ (∃ m, addTicketsV2 t e l = .error (.user m)) :=
  (addTicketsV2_reserve t e l h).ok_or_user

theorem C12_addTicketsV1_no_panic (s : State) (e : Env) (l : List (Nat × Nat × Nat × Bool))
    (h : GuarInv false s) :
    (∃ s', addTicketsV1 s e l = .ok s') ∨ (∃ m, addTicketsV1 s e l = .error (.user m)) :=
  (addTicketsV1_reserve s e l h).ok_or_user

/-- under the invariant the blacklist hooks never fail at all -/
theorem C12_clearGuaranteedV2_total (s : State) (l : List Nat) (h : GuarInv true s) :
    ∃ s', clearGuaranteedV2 s l = .ok s' :=
  (clearGuaranteedV2_reserve s l h).imp fun _ h => h.1

theorem C12_clearGuaranteedV1_total (s : State) (l : List Nat) (h : GuarInv false s) :
    ∃ s', clearGuaranteedV1 s l = .ok s' :=
  (clearGuaranteedV1_reserve s l h).imp fun _ h => h.1

theorem C12_restoreGuaranteedV2_no_panic (s : State) (l : List Nat)
    (h : GuarInv true s) (hnd : l.Nodup) (hno : ∀ u ∈ l, s.uts u = none) :
    (∃ s', restoreGuaranteedV2 s l = .ok s') ∨
    (∃ m, restoreGuaranteedV2 s l = .error (.user m)) :=
  (restoreGuaranteedV2_reserve s l h hnd hno).ok_or_user

theorem C12_restoreGuaranteedV1_no_panic (s : State) (l : List Nat) (h : GuarInv false s) :
    (∃ s', restoreGuaranteedV1 s l = .ok s') ∨
    (∃ m, restoreGuaranteedV1 s l = .error (.user m)) :=
  (restoreGuaranteedV1_reserve s l h).ok_or_user

/-! ### whole histories through the dispatcher (`step` / `run`) -/

theorem C12_initial (s : State) (hw : s.whitelist = []) (ht : s.totalGuaranteed = 0)
    (hu : s.uts = fun _ => none) (hr : s.range = fun _ => none)
    (hb : s.blacklist = fun _ => false) : GuarInvX s :=
  GuarInvX_initial s hw ht hu hr hb

/-- C12 over any history of `addTickets` (v1/v2), `addUsersToBlacklist`, `refundUserTickets`,
    `removeUsersFromBlacklist` transactions, of any variant, accepted or rejected -/
theorem C12_history (hash : List Nat → List Nat) (cs : List (Env × Call)) (s : State)
    (hcs : ∀ ec ∈ cs, isGuarCall ec.2 = true) (h : GuarInvX s) :
    (run hash s cs).nrWinning + (run hash s cs).totalGuaranteed =
      s.nrWinning + s.totalGuaranteed ∧
    GuarInvX (run hash s cs) ∧ GuarInv s.variant.isV2 (run hash s cs) := by
  have := run_guar_reserve hash cs s hcs h
  exact ⟨this.1, this.2.1, this.2.2 ▸ this.2.1.base⟩

/-- no checked subtraction fails in such a history -/
theorem C12_history_no_panic (hash : List Nat → List Nat) (pre post : List (Env × Call))
    (e : Env) (c : Call) (s : State)
    (hcs : ∀ ec ∈ pre ++ (e, c) :: post, isGuarCall ec.2 = true) (h : GuarInvX s)
    (site : String) :
    step hash (run hash s pre) e c ≠ .error (.panic site) := by
  have h1 := run_guar_reserve hash pre s (fun ec hm => hcs ec (List.mem_append_left _ hm)) h
  have h2 := step_guar hash (run hash s pre) e c
    (hcs (e, c) (List.mem_append_right _ (List.mem_cons_self ..))) h1.2.1
  intro hx
  rw [hx] at h2
  exact h2 site rfl

/-! ### examples: the hypotheses are satisfiable; the extra clauses and hypotheses are necessary -/

example : GuarInv true sLive := sLive_inv

/-- an accepted history: allocate, blacklist, un-blacklist -/
example : (run (fun x => x) (sBase .guarV2) hist).nrWinning +
    (run (fun x => x) (sBase .guarV2) hist).totalGuaranteed = 5 :=
  (C12_history (fun x => x) hist (sBase .guarV2) hist_guar sBase_invX).1

example : (run (fun x => x) (sBase .guarV2) hist).totalGuaranteed = 2 := by
  have := hist_run; simp only [Prod.mk.injEq] at this; exact this.2.2.2.2.2.1

/-- counterexamples for `hno`, `hnd` and `bl_pos` (commentary in LP/Proofs/ReserveSeq.lean) -/
example : ∃ s', restoreGuaranteedV2 sLive [7] = .ok s' ∧ s'.whitelist = [7] ∧
    s'.totalGuaranteed = 2 ∧ gSum true s'.uts s'.whitelist = 0 := ce_restore_live
example : ∃ s', restoreGuaranteedV2 sBl [7, 7] = .ok s' ∧ s'.whitelist = [7] ∧
    s'.nrWinning = 3 ∧ s'.totalGuaranteed = 2 ∧ gSum true s'.uts s'.whitelist = 0 :=
  ce_restore_twice
example : ∃ s', restoreGuaranteedV1 sV1 [7] = .ok s' ∧ s'.whitelist = [7] ∧
    s'.uts 7 = some {} ∧ s'.totalGuaranteed = 0 := ce_restore_v1_empty

end LP

#print axioms LP.C12_addTicketsV2
#print axioms LP.C12_clearGuaranteedV2
#print axioms LP.C12_restoreGuaranteedV2
#print axioms LP.C12_addTicketsV1
#print axioms LP.C12_clearGuaranteedV1
#print axioms LP.C12_restoreGuaranteedV1
#print axioms LP.C12_addTicketsV2_no_panic
#print axioms LP.C12_addTicketsV1_no_panic
#print axioms LP.C12_clearGuaranteedV2_total
#print axioms LP.C12_clearGuaranteedV1_total
#print axioms LP.C12_restoreGuaranteedV2_no_panic
#print axioms LP.C12_restoreGuaranteedV1_no_panic
#print axioms LP.C12_initial
#print axioms LP.C12_history
#print axioms LP.C12_history_no_panic
