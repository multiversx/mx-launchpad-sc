import LP.Proofs.Locked
/-
  LP.Props.C16 — the locked / direct split of launchpad tokens
  (launchpad-locked-tokens, locked_launchpad_token_send.rs:43-79).

  `lockSplit amount pct = amount * pct / 10000` goes to the lock contract (one transfer to
  `lockAddr` + one recorded lock call `(unlockEpoch, dest, locked)`), the rest directly to
  the user.  `init` guarantees `0 < lockPct ≤ 10000` for the variants with a lock; the theorems
  about `sendLocked` assume the upper bound.
-/
namespace LP

/-- arithmetic of the split -/
theorem lockSplit_props (amount pct : Nat) (_h0 : 0 < pct) (h1 : pct ≤ 10000) :
    lockSplit amount pct ≤ amount ∧
    lockSplit amount pct + (amount - lockSplit amount pct) = amount ∧
    lockSplit amount 10000 = amount := by
  have := lockSplit_le (amount := amount) h1
  exact ⟨this, by omega, lockSplit_full amount⟩

example : lockSplit 1000 2500 = 250 ∧ lockSplit 3 3333 = 0 ∧ lockSplit 7 10000 = 7 := by decide

/-- Success, general form: when the contract holds at least `amount` launchpad tokens the
    call succeeds and its complete effect is `sendLockedResult`: the state changes only in
    the launchpad-token balance, which decreases by exactly `amount`; the outputs gain the
    lock transfer + lock call (if the locked part is positive) and the direct transfer (if the
    remainder is positive), in this order; locked + direct = amount. -/
theorem sendLocked_success (t : Tx) (e : Env) (dest amount : Nat)
    (hp : t.s.lockPct ≤ 10000)
    (hb : amount ≤ t.s.bal (.esdt t.s.lpTok) 0) :
    ∃ t', t.sendLocked e dest amount = .ok t' ∧
      t' = sendLockedResult t e dest amount ∧
      t'.s = { t.s with bal := t.s.bal.sub (.esdt t.s.lpTok) 0 amount } ∧
      t'.s.bal (.esdt t.s.lpTok) 0 = t.s.bal (.esdt t.s.lpTok) 0 - amount ∧
      (∀ tok n, ¬ (tok = .esdt t.s.lpTok ∧ n = 0) → t'.s.bal tok n = t.s.bal tok n) ∧
      lockedPart t e amount + (amount - lockedPart t e amount) = amount ∧
      t'.c = t.c ∧ t'.o.ret = t.o.ret ∧ t'.o.events = t.o.events ∧ t'.o.sfts = t.o.sfts ∧
      t'.o.draws = t.o.draws := by
  refine ⟨_, sendLocked_ok t e dest amount (fun _ => hp) hb, rfl, rfl, ?_, ?_, ?_, rfl, rfl, rfl,
    rfl, rfl⟩
  · exact Bal.sub_at ..
  · exact fun tok n h => Bal.sub_other_apply _ _ _ _ _ _ h
  · have := lockedPart_le (t := t) (e := e) (amount := amount) (fun _ => hp)
    omega

/-- Conservation on the outputs: the new lock calls (each carried by a transfer of the same
    amount to the lock contract) and the new direct transfers to `dest` add up to `amount`. -/
theorem sendLocked_conservation (t : Tx) (e : Env) (dest amount : Nat)
    (hp : t.s.lockPct ≤ 10000)
    (hb : amount ≤ t.s.bal (.esdt t.s.lpTok) 0) :
    ∃ (t' : Tx) (newLocks : List (Nat × Nat × Nat)) (newDirect : List Nat),
      t.sendLocked e dest amount = .ok t' ∧
      t'.o.locks = t.o.locks ++ newLocks ∧
      t'.o.xfers = t.o.xfers
        ++ newLocks.map (fun l => (t.s.lockAddr, (⟨.esdt t.s.lpTok, 0, l.2.2⟩ : Pay)))
        ++ newDirect.map (fun d => (dest, (⟨.esdt t.s.lpTok, 0, d⟩ : Pay))) ∧
      (∀ l ∈ newLocks, l.1 = t.s.unlockEpoch ∧ l.2.1 = dest ∧ 0 < l.2.2) ∧
      (∀ d ∈ newDirect, 0 < d) ∧ newLocks.length ≤ 1 ∧ newDirect.length ≤ 1 ∧
      (newLocks.map (·.2.2)).sum + newDirect.sum = amount := by
  have hL := lockedPart_le (t := t) (e := e) (amount := amount) (fun _ => hp)
  have hres := sendLocked_ok t e dest amount (fun _ => hp) hb
  simp only [sendLockedResult] at hres
  generalize lockedPart t e amount = L at hL hres
  refine ⟨_, (if L > 0 then [(t.s.unlockEpoch, dest, L)] else []),
    (if amount - L > 0 then [amount - L] else []), hres, ?_⟩
  by_cases h1 : L > 0 <;> by_cases h2 : amount - L > 0 <;> simp [h1, h2] <;> omega

/-- Locked case: before the unlock epoch and with a positive locked part, the new outputs
    are exactly one lock call `(unlockEpoch, dest, lockSplit …)` (carried by one transfer of
    that amount to the lock contract) plus — if the remainder is positive — one direct
    transfer of `amount - lockSplit …` to `dest`. -/
theorem sendLocked_locked_case (t : Tx) (e : Env) (dest amount : Nat)
    (hp : t.s.lockPct ≤ 10000)
    (hb : amount ≤ t.s.bal (.esdt t.s.lpTok) 0)
    (he : e.epoch < t.s.unlockEpoch) (hl : 0 < lockSplit amount t.s.lockPct) :
    ∃ t', t.sendLocked e dest amount = .ok t' ∧
      t'.o.locks = t.o.locks ++ [(t.s.unlockEpoch, dest, lockSplit amount t.s.lockPct)] ∧
      t'.o.xfers = t.o.xfers
        ++ [(t.s.lockAddr, ⟨.esdt t.s.lpTok, 0, lockSplit amount t.s.lockPct⟩)]
        ++ (if amount - lockSplit amount t.s.lockPct > 0
            then [(dest, ⟨.esdt t.s.lpTok, 0, amount - lockSplit amount t.s.lockPct⟩)] else []) ∧
      t'.s = { t.s with bal := t.s.bal.sub (.esdt t.s.lpTok) 0 amount } := by
  refine ⟨_, sendLocked_ok t e dest amount (fun _ => hp) hb, ?_, ?_, rfl⟩
  · simp [sendLockedResult, lockedPart, he, hl]
  · simp [sendLockedResult, lockedPart, he, hl]

/-- Direct case: at or after the unlock epoch, or when the locked part rounds to zero, the
    only new output is a single direct transfer of `amount` (none for `amount = 0`), and no
    lock call is made. -/
theorem sendLocked_direct_case (t : Tx) (e : Env) (dest amount : Nat)
    (hp : t.s.lockPct ≤ 10000)
    (hb : amount ≤ t.s.bal (.esdt t.s.lpTok) 0)
    (hd : ¬ (e.epoch < t.s.unlockEpoch ∧ 0 < lockSplit amount t.s.lockPct)) :
    ∃ t', t.sendLocked e dest amount = .ok t' ∧
      t'.o.locks = t.o.locks ∧
      t'.o.xfers = t.o.xfers
        ++ (if amount > 0 then [(dest, ⟨.esdt t.s.lpTok, 0, amount⟩)] else []) ∧
      t'.s = { t.s with bal := t.s.bal.sub (.esdt t.s.lpTok) 0 amount } := by
  have hL : lockedPart t e amount = 0 := by
    unfold lockedPart
    split
    · have : ¬ 0 < lockSplit amount t.s.lockPct := fun h => hd ⟨‹_›, h⟩
      omega
    · rfl
  refine ⟨_, sendLocked_ok t e dest amount (fun _ => hp) hb, ?_, ?_, rfl⟩
  · simp [sendLockedResult, hL]
  · simp [sendLockedResult, hL]

/-- Failure: if the contract holds fewer than `amount` launchpad tokens the call fails with
    the VM error; a `Res` error carries no state or output, so there is no partial effect
    (`step` returns the error and `run` keeps the old state). -/
theorem sendLocked_failure (t : Tx) (e : Env) (dest amount : Nat)
    (hp : t.s.lockPct ≤ 10000)
    (hb : t.s.bal (.esdt t.s.lpTok) 0 < amount) :
    t.sendLocked e dest amount = .error (.vm "insufficient funds") :=
  sendLocked_err t e dest amount (fun _ => hp) hb

/-- success ↔ sufficient balance -/
theorem sendLocked_ok_iff (t : Tx) (e : Env) (dest amount : Nat) (hp : t.s.lockPct ≤ 10000) :
    (∃ t', t.sendLocked e dest amount = .ok t') ↔ amount ≤ t.s.bal (.esdt t.s.lpTok) 0 := by
  constructor
  · rintro ⟨t', h⟩
    by_cases hb : amount ≤ t.s.bal (.esdt t.s.lpTok) 0
    · exact hb
    · rw [sendLocked_err t e dest amount (fun _ => hp) (by omega)] at h
      cases h
  · intro hb
    exact ⟨_, sendLocked_ok t e dest amount (fun _ => hp) hb⟩

/-- a concrete, non-trivial instance: 25 % of 1000 is locked, 750 go directly -/
def exLockedTx : Tx :=
  ⟨{ (default : State) with
      lpTok := 1, lockPct := 2500, unlockEpoch := 9, lockAddr := 77, bal := fun _ _ => 1000 }, {}, {}⟩
def exLockedEnv : Env := { caller := 5, round := 0, epoch := 3 }

example : exLockedTx.s.lockPct ≤ 10000 ∧
    1000 ≤ exLockedTx.s.bal (.esdt exLockedTx.s.lpTok) 0 ∧
    exLockedEnv.epoch < exLockedTx.s.unlockEpoch ∧ 0 < lockSplit 1000 exLockedTx.s.lockPct := by
  decide

example :
    (exLockedTx.sendLocked exLockedEnv 5 1000).toOption.map (fun t' => (t'.o.locks, t'.o.xfers,
      t'.s.bal (.esdt 1) 0)) =
    some ([(9, 5, 250)], [(77, ⟨.esdt 1, 0, 250⟩), (5, ⟨.esdt 1, 0, 750⟩)], 0) := by
  decide

end LP

#print axioms LP.lockSplit_props
#print axioms LP.sendLocked_success
#print axioms LP.sendLocked_conservation
#print axioms LP.sendLocked_locked_case
#print axioms LP.sendLocked_direct_case
#print axioms LP.sendLocked_failure
#print axioms LP.sendLocked_ok_iff
