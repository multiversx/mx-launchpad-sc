import LP.Proofs.ReachOf
/-
  C01 with the quantifier of the property: "in every launchpad variant and at every reachable state".

  Each variant family has its own reachable-state development (its own invariant and, for the v1
  allocation endpoint, its own restriction on allocation entries); `ReachOf` selects the relation of
  that family.  The NFT fees that sit in the payment-token slot (`nftFeesInPayToken`) are the "NFT
  fees accounted for in C14" of the property text.

  Restrictions on histories (the same in every family): a transaction carries EGLD or ESDT transfers,
  not both (`EnvOK`); allocation entries have at least one ticket (`CallOK` / `v1_CallOK`).
-/
namespace LP.Props.AllVariants
open LP LP.Props.C14reach

/-- **C01 for every variant**: at every reachable state of each of the eight contracts the
    payment-token holdings are exactly what is still owed — before all selection steps are complete
    the full payment of every confirmed ticket, afterwards the owner's not-yet-withdrawn proceeds
    plus the refund due to every participant who has not settled — plus the NFT fees of C14 where
    they use the same token. -/
theorem C01_every_variant (hash : List Nat → List Nat) (v : Variant) (s : State) (r : Nat)
    (h : ReachOf hash v s r) :
    ∃ L : List Nat, Covers s L ∧
      (¬ AllDone s → s.bal s.payTok 0 = s.price * sumOver s.confirmed L + nftFeesInPayToken v s) ∧
      (AllDone s →
        s.bal s.payTok 0 = s.claimablePayment + sumOver (refundDue s) L + nftFeesInPayToken v s) := by
  exact h.solvent rfl

/-- deployment is a reachable state of every variant (the relation is not empty) -/
theorem init_reachable (hash : List Nat → List Nat) (v : Variant) (a : InitArgs) (e : Env) (s : State)
    (h : init v a e = .ok s) : ReachOf hash v s e.round :=
  (initA_reachable hash v a e s h).toReachOf

end LP.Props.AllVariants

#print axioms LP.Props.AllVariants.C01_every_variant
#print axioms LP.Props.AllVariants.init_reachable
