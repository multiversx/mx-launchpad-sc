import LP.Proofs.NftDraw
import LP.Props.C09
import LP.Proofs.PayOut
import LP.Proofs.LoopOutcome
/-
  C14 — the NFT draw picks min(available, payers) distinct payers; fees reconcile.
  Built up from the unordered set, through one iteration, the loop and one call, to any
  sequence of `selectNftWinners` calls; then the fee's way in (`confirmNft`) and out
  (`claim`, `claimTicketPayment`), and `Recon`: balance and liability in fee tokens move
  together under `confirmNft`, `selectNft`, the fee refund of a blacklisting, and — when the fee
  token is neither the payment nor the launchpad token (`FeeTokenSeparate`) — under `claim` and
  `claimTicketPayment`.  The draw step of nftGuar (`secondary`) is not stated here; the fee ledger
  on reachable states is in LP/Props/C14reach.lean and C14reachG.lean.
-/
namespace LP.Props.C14
open LP
open LP.Props.C09

/-! ### The unordered set -/

theorem swapRemove_exact (l : List Nat) (a : Nat) (h : l.Nodup) :
    ((swapRemove l a).2 = true ↔ a ∈ l) ∧
    (a ∉ l → swapRemove l a = (l, false)) ∧
    (swapRemove l a).1.Perm (l.erase a) ∧
    (swapRemove l a).1.Nodup ∧
    (a ∈ l → (swapRemove l a).1.length = l.length - 1) ∧
    (∀ x, x ∈ (swapRemove l a).1 ↔ x ∈ l ∧ x ≠ a) :=
  ⟨swapRemove_snd l a, fun hn => swapRemove_not_mem hn, swapRemove_perm l a, swapRemove_nodup a h,
    fun hm => Nat.eq_sub_of_add_eq (swapRemove_length hm), fun x => mem_swapRemove a x h⟩

theorem setInsert_exact (l : List Nat) (a : Nat) :
    ((setInsert l a).2 = true ↔ a ∉ l) ∧
    (a ∉ l → setInsert l a = (l ++ [a], true)) ∧
    (a ∈ l → setInsert l a = (l, false)) ∧
    (l.Nodup → (setInsert l a).1.Nodup) ∧
    (∀ x, x ∈ (setInsert l a).1 ↔ x ∈ l ∨ x = a) :=
  ⟨setInsert_snd l a, fun h => setInsert_new h, fun h => setInsert_old h,
    fun h => setInsert_nodup a h, fun x => mem_setInsert l a x⟩

example : swapRemove [5, 7, 9, 11] 7 = ([5, 11, 9], true) ∧ swapRemove [5, 7] 7 = ([5], true) ∧
    swapRemove [5, 7] 8 = ([5, 7], false) ∧ setInsert [5, 7] 9 = ([5, 7, 9], true) ∧
    setInsert [5, 7] 5 = ([5, 7], false) := by decide +kernel

/-! ### One iteration -/

/-- On a consistent loop state the body never errors; a CONTINUE iteration moves exactly one
    element — the one at index `inRange raw 1 (usersLeft+1) - 1`, which is in bounds — from
    `payers` to the end of `winners`. -/
theorem nftBody_iteration (hash : List Nat → List Nat) (total : Nat) (x : NSt) (hx : DrawOk x) :
    (∃ r, nftBody hash total x = .ok r) ∧
    ∀ x', nftBody hash total x = .ok (x', true) →
      DrawOk x' ∧
      ∃ w, w ∈ x.payers ∧
        x.payers[inRange (x.tx.draw hash x.rng).1 1 (x.usersLeft + 1) - 1]? = some w ∧
        x'.payers.Perm (x.payers.erase w) ∧ x'.winners = x.winners ++ [w] ∧
        x'.payers.length + 1 = x.payers.length ∧ x'.winners.length = x.winners.length + 1 ∧
        (∀ a, (a ∈ x'.payers ∨ a ∈ x'.winners) ↔ (a ∈ x.payers ∨ a ∈ x.winners)) :=
  ⟨nftBody_no_error hash total x hx, fun x' h => by
    obtain ⟨h1, w, h2, h3, h4, h5, h6, h7, h8, _⟩ := nftBody_cont_ok hash total x x' hx h
    exact ⟨h1, w, h2, h3, h4, h5, h6, h7, h8⟩⟩

theorem nftBody_stops_iff (hash : List Nat → List Nat) (total : Nat) (x x' : NSt) (hx : DrawOk x) :
    nftBody hash total x = .ok (x', false) ↔ (x.usersLeft = 0 ∨ x.selected = total) ∧ x' = x :=
  nftBody_stop_iff hash total x x' hx

/-- Non-vacuity: three payers, two NFTs, scripted raw draws 0, 0; one iteration and a
    complete run. -/
def exTx : Tx := ⟨default, { script := [0, 0] }, {}⟩
def exNSt : NSt := ⟨[5, 7, 9], [], 3, 0, ⟨zeroSeed, 0⟩, exTx⟩

example : DrawOk exNSt :=
  ⟨by decide +kernel, by decide +kernel, by decide +kernel, by decide +kernel, by decide +kernel⟩

example : (match nftBody id 2 exNSt with
    | .ok (x, c) => (x.payers, x.winners, x.usersLeft, x.selected, c)
    | .error _ => ([], [], 0, 0, false)) = ([9, 7], [5], 2, 1, true) := by decide +kernel

example : (match runWhile (nftBody id 2) 5 none exNSt with
    | .ok (x, _, st) => (x.payers, x.winners, st)
    | .error _ => ([], [], .outOfFuel)) = ([7], [5, 9], .completed) := by decide +kernel

/-! ### The loop, one call, any number of calls -/

/-- A run of the draw loop that completes (any fuel, any budget), started from duplicate-free
    disjoint `P0`, `W0` with `W0.length ≤ total`, ends with exactly
    `min total (P0.length + W0.length)` distinct winners, all from `P0 ∪ W0`, keeping `W0`. -/
theorem draw_loop_completed (hash : List Nat → List Nat) (total : Nat) (P0 W0 : List Nat)
    (rng : Rng) (t : Tx) (f : Nat) (b : Option Nat) (x' : NSt) (b' : Option Nat)
    (hP : P0.Nodup) (hW : W0.Nodup) (hd : ∀ a, a ∈ P0 → a ∉ W0) (hle : W0.length ≤ total)
    (h : runWhile (nftBody hash total) f b ⟨P0, W0, P0.length, W0.length, rng, t⟩
          = .ok (x', b', .completed)) :
    x'.winners.length = min total (P0.length + W0.length) ∧
    x'.winners.Nodup ∧ x'.payers.Nodup ∧ (∀ a, a ∈ x'.payers → a ∉ x'.winners) ∧
    (∀ a ∈ x'.winners, a ∈ P0 ∨ a ∈ W0) ∧ W0 <+: x'.winners ∧
    x'.payers.length + x'.winners.length = P0.length + W0.length ∧
    (∀ a, (a ∈ x'.payers ∨ a ∈ x'.winners) ↔ (a ∈ P0 ∨ a ∈ W0)) := by
  have hr0 : DrawRel total P0 W0 t.s ⟨P0, W0, P0.length, W0.length, rng, t⟩ :=
    ⟨⟨hP, hW, hd, rfl, rfl⟩, hle, rfl, fun _ => Iff.rfl, List.prefix_refl _, rfl⟩
  obtain ⟨hr, hlen, hnd, hsub⟩ := draw_completed f b _ x' b' h hr0
  exact ⟨hlen, hnd, hr.ok.nodupP, hr.ok.disj, hsub, hr.pre, hr.sum, hr.union⟩

/-- One call of `nftSubstep` (used by `selectNft` and by `secondary`): `LP.nftSubstep_spec`,
    and on completion `claimableNft = fee * winners`. -/
theorem nftSubstep_exact {hash : List Nat → List Nat} {t t' : Tx} {rng rng' : Rng} {st : LoopStatus}
    (h : nftSubstep hash t rng = .ok (t', rng', st))
    (hok : NftOk t.s) (hle : t.s.nftWinners.length ≤ t.s.availNfts) :
    st ≠ .outOfFuel ∧ NftOk t'.s ∧ t'.s.nftWinners.length ≤ t.s.availNfts ∧
    t'.s.payers.length + t'.s.nftWinners.length = t.s.payers.length + t.s.nftWinners.length ∧
    (∀ a, (a ∈ t'.s.payers ∨ a ∈ t'.s.nftWinners) ↔ (a ∈ t.s.payers ∨ a ∈ t.s.nftWinners)) ∧
    t.s.nftWinners <+: t'.s.nftWinners ∧
    (st = .completed →
      t'.s.nftWinners.length = min t.s.availNfts (t.s.payers.length + t.s.nftWinners.length) ∧
      t'.s.claimableNft = t.s.nftCost.amount * t'.s.nftWinners.length ∧ t'.s.op = .none) := by
  obtain ⟨h1, h2, h3, h4, h5, h6, h7, h8⟩ := nftSubstep_spec h hok hle
  refine ⟨h1, h3, h4, h5, h6, h7, ?_⟩
  intro hc
  subst hc
  refine ⟨h8 rfl, ?_, ?_⟩
  · rw [h2]; rfl
  · rw [h2]; rfl

/-- One accepted `selectNftWinners` call. -/
theorem selectNft_call (hash : List Nat → List Nat) (s : State) (e : Env) (s' : State) (o : Out)
    (h : step hash s e .selectNft = .ok (s', o))
    (hok : NftOk s) (hle : s.nftWinners.length ≤ s.availNfts) :
    s.stage e = .winnerSelection ∧ s.flags.selected = true ∧ s.flags.additional = false ∧
    NftOk s' ∧ s'.nftWinners.length ≤ s'.availNfts ∧
    s'.availNfts = s.availNfts ∧ s'.nftCost = s.nftCost ∧
    s'.payers.length + s'.nftWinners.length = s.payers.length + s.nftWinners.length ∧
    (∀ a, (a ∈ s'.payers ∨ a ∈ s'.nftWinners) ↔ (a ∈ s.payers ∨ a ∈ s.nftWinners)) ∧
    s.nftWinners <+: s'.nftWinners ∧
    (s'.flags.additional = true ↔ o.ret = [0]) ∧
    (s'.flags.additional = true →
      s'.nftWinners.length = min s.availNfts (s.payers.length + s.nftWinners.length) ∧
      s'.claimableNft = s.nftCost.amount * s'.nftWinners.length) ∧
    s'.bal = s.bal := by
  have hiff := (step_loop_outcome rfl h).completed_iff
  obtain ⟨t, hx, rfl, rfl⟩ := step_np_out rfl h
  simp only [exec] at hx
  obtain ⟨hst, hsel, hadd, t0, rng, h0, htail⟩ := selectNft_tail hx
  simp only [rbTx_s] at hst hsel hadd h0
  obtain ⟨P, W, hokPW, hWle, hlen, hun, hpre, hcase⟩ := ng_tail_shape hok hle h0 htail
  have hok' : NftOk { s with payers := P, nftWinners := W } := hokPW
  refine ⟨hst, hsel, hadd, ?_⟩
  rcases hcase with ⟨hs', hret, hW⟩ | ⟨rng', hs', hret⟩
  · rw [hs', hret] at hiff ⊢
    exact ⟨⟨hok'.nodupP, hok'.nodupW, hok'.disj⟩, hWle, rfl, rfl, hlen, hun, hpre,
      hiff, fun _ => ⟨hW, rfl⟩, rfl⟩
  · rw [hs', hret] at hiff ⊢
    have hna : (nf_drawInt s P W rng').flags.additional = false := hadd
    exact ⟨⟨hok'.nodupP, hok'.nodupW, hok'.disj⟩, hWle, rfl, rfl, hlen, hun, hpre,
      hiff, fun hq => (by rw [hna] at hq; cases hq), rfl⟩

/-- a sequence of accepted `selectNftWinners` calls (each resuming where the previous stopped) -/
inductive DrawCalls (hash : List Nat → List Nat) : State → State → Prop
  | refl (s : State) : DrawCalls hash s s
  | step {s s1 s' : State} {e : Env} {o : Out} :
      LP.step hash s e .selectNft = .ok (s1, o) → DrawCalls hash s1 s' → DrawCalls hash s s'

theorem draw_total_gen (hash : List Nat → List Nat) (s s' : State) (h : DrawCalls hash s s') :
    NftOk s → s.nftWinners.length ≤ s.availNfts → s.flags.additional = false →
    s'.flags.additional = true →
    s'.nftWinners.length = min s.availNfts (s.payers.length + s.nftWinners.length) ∧
    s'.claimableNft = s.nftCost.amount * s'.nftWinners.length ∧
    NftOk s' ∧ (∀ a ∈ s'.nftWinners, a ∈ s.payers ∨ a ∈ s.nftWinners) ∧
    s.nftWinners <+: s'.nftWinners := by
  induction h with
  | refl s =>
    intro _ _ h1 h2
    rw [h1] at h2; cases h2
  | @step s s1 s' e o hstep hrest ih =>
    intro hok hle hadd hdone
    obtain ⟨_, _, _, hok1, hle1, hav, hcost, hsum, hun, hpre, _, hfin, _⟩ :=
      selectNft_call hash s e s1 o hstep hok hle
    cases hadd1 : s1.flags.additional
    · obtain ⟨a1, a2, a3, a4, a5⟩ := ih hok1 hle1 hadd1 hdone
      refine ⟨by rw [a1, hav, hsum], by rw [a2, hcost], a3, ?_, hpre.trans a5⟩
      intro a ha
      exact (hun a).mp (by rcases a4 a ha with h | h; exact Or.inl h; exact Or.inr h)
    · -- the draw completed with this call; no further call is accepted
      have hs' : s' = s1 := by
        cases hrest with
        | refl => rfl
        | step hstep2 _ =>
          obtain ⟨m, t, _, _, _, hx, _, _⟩ := step_ok_inv hstep2
          simp only [exec] at hx
          have := (g_selectNft_inv hx).2.2.1
          change s1.flags.additional = false at this
          rw [hadd1] at this
          cases this
      subst hs'
      obtain ⟨b1, b2⟩ := hfin hadd1
      refine ⟨b1, b2, hok1, ?_, hpre⟩
      intro a ha
      exact (hun a).mp (Or.inr ha)

/-- **C14, the whole draw**: from a state with duplicate-free `payers` and no winner yet, after
    any number of consecutive accepted `selectNftWinners` calls (any budget schedule), once the
    draw is complete (`flags.additional`) there are
    `min availNfts (#payers at the start)` winners, they are distinct payers, and
    `claimableNft = fee * winners`. -/
theorem draw_total (hash : List Nat → List Nat) (s s' : State) (h : DrawCalls hash s s')
    (hP : s.payers.Nodup) (hW : s.nftWinners = []) (hadd : s.flags.additional = false)
    (hdone : s'.flags.additional = true) :
    s'.nftWinners.length = min s.availNfts s.payers.length ∧
    s'.claimableNft = s.nftCost.amount * s'.nftWinners.length ∧
    s'.nftWinners.Nodup ∧ (∀ a ∈ s'.nftWinners, a ∈ s.payers) := by
  have hok : NftOk s := ⟨hP, by rw [hW]; exact List.nodup_nil, by rw [hW]; simp⟩
  obtain ⟨a1, a2, a3, a4, _⟩ := draw_total_gen hash s s' h hok (by rw [hW]; simp) hadd hdone
  refine ⟨by simpa [hW] using a1, a2, a3.nodupW, ?_⟩
  intro a ha
  rcases a4 a ha with h | h
  · exact h
  · rw [hW] at h; cases h

/-! ### `confirmNft` -/

/-- the conditions under which an NFT-fee confirmation is accepted -/
def ConfirmNftAccepts (s : State) (e : Env) : Prop :=
  s.variant.hasNft = true ∧ s.stage e = .confirm ∧
  (s.sftIssuedFlag = true ∧ s.sftCreated = true ∧ s.sftRole = true) ∧
  0 < s.confirmed e.caller ∧ e.caller ∉ s.payers ∧
  egldOrSingleEsdt e = .ok s.nftCost

theorem step_confirmNft_ok_iff (hash : List Nat → List Nat) (s : State) (e : Env) (s' : State) (o : Out) :
    step hash s e .confirmNft = .ok (s', o) ↔
      s.variant.hasNft = true ∧
      ∃ s1, confirmNft (creditPayments s e) e = .ok s1 ∧ s' = s1 ∧
        o.xfers = [] ∧ o.locks = [] ∧ o.sfts = [] ∧ o.events = [] ∧ o.ret = [] ∧ o.draws = [] := by
  constructor
  · intro h
    obtain ⟨m, t, hm, _, _, hx, rfl, rfl⟩ := step_ok_inv h
    have hn : s.variant.hasNft = true := endpointMeta_exposed hm
    simp only [exec, bind_ok_iff, pure_ok_iff] at hx
    obtain ⟨s1, h1, rfl⟩ := hx
    exact ⟨hn, s1, h1, rfl, rfl, rfl, rfl, rfl, rfl, rfl⟩
  · rintro ⟨hn, s1, h1, rfl, a1, a2, a3, a4, a5, a6⟩
    have hm : endpointMeta s.variant .confirmNft = some ⟨false, true⟩ := by
      simp only [endpointMeta, hn, if_true]
    have hx : exec hash (tx0 s e) e .confirmNft = .ok ((tx0 s e).setS s') := by
      simp only [exec, tx0, h1, bind, Except.bind, pure, Except.pure]
    rw [step_eq_of_meta hm (.inl rfl) nofun, hx]
    obtain ⟨r, ev, xf, lk, sf, dr⟩ := o
    dsimp only at a1 a2 a3 a4 a5 a6
    subst a1 a2 a3 a4 a5 a6
    rfl

theorem confirmNft_accepted_iff (hash : List Nat → List Nat) (s : State) (e : Env) :
    (∃ r, step hash s e .confirmNft = .ok r) ↔ ConfirmNftAccepts s e := by
  constructor
  · rintro ⟨⟨s', o⟩, h⟩
    obtain ⟨hn, s1, h1, _⟩ := (step_confirmNft_ok_iff hash s e s' o).mp h
    obtain ⟨a, b, c, d, f, _⟩ := (confirmNft_ok_iff _ e s1).mp h1
    exact ⟨hn, a, b, c, d, f⟩
  · rintro ⟨hn, a, b, c, d, f⟩
    refine ⟨({ creditPayments s e with payers := s.payers ++ [e.caller] }, {}), ?_⟩
    rw [step_confirmNft_ok_iff]
    exact ⟨hn, _, (confirmNft_ok_iff (creditPayments s e) e _).mpr ⟨a, b, c, d, f, rfl⟩, rfl,
      rfl, rfl, rfl, rfl, rfl, rfl⟩

/-- The caller is appended to `payers`, the holdings grow by the call value (one payment equal
    to `nftCost`); nothing else changes, nothing is sent. -/
theorem confirmNft_effect (hash : List Nat → List Nat) (s : State) (e : Env) (s' : State) (o : Out)
    (h : step hash s e .confirmNft = .ok (s', o)) :
    ConfirmNftAccepts s e ∧
    s' = { creditPayments s e with payers := s.payers ++ [e.caller] } ∧
    o.xfers = [] ∧ o.locks = [] ∧ o.sfts = [] ∧ o.events = [] := by
  obtain ⟨hn, s1, h1, rfl, a1, a2, a3, a4, _⟩ := (step_confirmNft_ok_iff hash s e s' o).mp h
  obtain ⟨a, b, c, d, f, g⟩ := (confirmNft_ok_iff _ e s').mp h1
  exact ⟨⟨hn, a, b, c, d, f⟩, g, a1, a2, a3, a4⟩

/-- The holdings of the fee token grow by exactly `nftCost.amount` (for a well-formed call
    value: EGLD or ESDT, not both). -/
theorem confirmNft_holdings (s : State) (e : Env) (hacc : ConfirmNftAccepts s e)
    (hwf : e.egld = 0 ∨ e.esdts = []) :
    (creditPayments s e).bal = s.bal.add s.nftCost.tok s.nftCost.nonce s.nftCost.amount := by
  obtain ⟨_, _, _, _, _, hpay⟩ := hacc
  unfold egldOrSingleEsdt at hpay
  unfold creditPayments
  cases hes : e.esdts with
  | nil =>
    simp only [hes, Except.ok.injEq] at hpay
    simp [← hpay]
  | cons p rest =>
    cases rest with
    | nil =>
      simp only [hes, Except.ok.injEq] at hpay
      have he : e.egld = 0 := by
        cases hwf with
        | inl h => exact h
        | inr h => simp [hes] at h
      subst hpay
      simp only [List.foldl_cons, List.foldl_nil, he]
      funext t k
      simp [Bal.add]
    | cons q rest' => simp [hes] at hpay

/-- **C14**: paying the NFT fee twice is rejected. -/
theorem confirmNft_twice_rejected (hash : List Nat → List Nat) (s : State) (e : Env)
    (h : e.caller ∈ s.payers) : ∃ err, step hash s e .confirmNft = .error err :=
  rejected_of_not_ok fun _ _ hs => ((confirmNft_accepted_iff hash s e).mp ⟨_, hs⟩).2.2.2.2.1 h

/-- After an accepted confirmation the caller is in `payers` (so `confirmNft_twice_rejected`
    applies in any later state in which the caller is still there), and `payers` stays
    duplicate-free. -/
theorem confirmNft_then_member (hash : List Nat → List Nat) (s : State) (e : Env) (s' : State) (o : Out)
    (h : step hash s e .confirmNft = .ok (s', o)) :
    e.caller ∈ s'.payers ∧ (s.payers.Nodup → s'.payers.Nodup) := by
  obtain ⟨hacc, hs', _⟩ := confirmNft_effect hash s e s' o h
  rw [hs']
  refine ⟨by simp, ?_⟩
  intro hnd
  show (s.payers ++ [e.caller]).Nodup
  have := setInsert_nodup e.caller hnd
  rw [setInsert_new hacc.2.2.2.2.1] at this
  exact this

example : ConfirmNftAccepts
    { variant := .nft, owner := 1, lpTok := 1, perTicket := 1, payTok := .egld, price := 10,
      nrWinning := 1, cfg := ⟨5, 10, 15⟩, flags := {}, support := 1,
      sftIssuedFlag := true, sftCreated := true, sftRole := true,
      confirmed := fun a => if a = 7 then 2 else 0, payers := [3, 4],
      nftCost := ⟨.esdt 9, 0, 500⟩ }
    { caller := 7, round := 6, esdts := [⟨.esdt 9, 0, 500⟩] } := by
  exact ⟨by decide +kernel, by decide +kernel, by decide +kernel, by decide +kernel,
    by decide +kernel, rfl⟩

/-! ### The NFT part of `claim` -/

theorem hasNft_props {v : Variant} (h : v.hasNft = true) : v.hasLock = false ∧ v.vested = false :=
  hasNft_flags h

theorem nftCategory_congr {s1 s2 : State} (a : Nat) (h1 : s1.nftWinners = s2.nftWinners)
    (h2 : s1.payers = s2.payers) : nftCategory s1 a = nftCategory s2 a := by
  unfold nftCategory; rw [h1, h2]

/-- The category of the SFT: 1 iff the caller won the draw, 2 iff the caller paid the fee and
    lost, 3 otherwise. -/
theorem nftCategory_exact (s : State) (a : Nat) (h : NftOk s) :
    (nftCategory s a = 1 ↔ a ∈ s.nftWinners) ∧
    (nftCategory s a = 2 ↔ a ∈ s.payers) ∧
    (nftCategory s a = 3 ↔ a ∉ s.nftWinners ∧ a ∉ s.payers) ∧
    (nftCategory s a = 1 ∨ nftCategory s a = 2 ∨ nftCategory s a = 3) := by
  refine ⟨(nftCategory_iff s a h).1, (nftCategory_iff s a h).2.1, (nftCategory_iff s a h).2.2, ?_⟩
  unfold nftCategory
  split
  · exact Or.inl rfl
  · split
    · exact Or.inr (Or.inl rfl)
    · exact Or.inr (Or.inr rfl)

/-- An accepted `claim` of a variant with the NFT hook, on the state: the settled state with the
    refund and the launchpad tokens deducted (`balAfterClaim`), the caller out of the NFT lists, the
    fee refunded for category 2.  (The transfers, SFTs and lock calls are `step_xfers`,
    `step_locks_sfts` in LP/Proofs/PayOut.lean.) -/
theorem claim_nft_state (hash : List Nat → List Nat) (s : State) (e : Env) (s' : State) (o : Out)
    (hn : s.variant.hasNft = true) (h : step hash s e .claim = .ok (s', o)) :
    ∃ r, ClaimAccepts s e r ∧ s.sftToken = true ∧
      (nftCategory s e.caller = 2 →
        s.nftCost.amount ≤ (balAfterClaim s e.caller) s.nftCost.tok s.nftCost.nonce) ∧
      s' = { settledState s e.caller r with
        nftWinners := (swapRemove s.nftWinners e.caller).1,
        payers := if nftCategory s e.caller = 2 then (swapRemove s.payers e.caller).1 else s.payers,
        bal := (balAfterClaim s e.caller).sub s.nftCost.tok s.nftCost.nonce
          (if nftCategory s e.caller = 2 then s.nftCost.amount else 0) } := by
  rw [step_claim_ok_iff, exec_claim_nonvested hash _ e (hasNft_flags hn).2] at h
  obtain ⟨h1, h2, t, hx, rfl, _⟩ := h
  obtain ⟨r, hpre, hle, hsft, hfee, hs'⟩ := claimBase_nft_state (t := txc s e) hn hx
  have hw : winCount s e.caller = countWinning s.status r.first (rangeLen r) :=
    winCount_of_range hpre.2.2.1
  rw [txc_s] at hle hsft hfee hs'
  unfold balAfterClaim
  rw [hw]
  exact ⟨r, (claimAccepts_iff s e r).mpr ⟨h1, h2, hpre, hle⟩, hsft, hfee, hs'⟩

/-- **C14 / C09 (NFT variants)**: an accepted `claim` refunds `price * (confirmed - winning)`
    payment tokens, delivers `winning * perTicket` launchpad tokens directly, hands out exactly
    one SFT `(caller, category)` and refunds the NFT fee in full exactly for category 2 (paid,
    not drawn).  The caller leaves the list it was in, so another `claimNft` would be
    category 3 (and `claim` is once-only by C09). -/
theorem claim_nft_effect (hash : List Nat → List Nat) (s : State) (e : Env) (s' : State) (o : Out)
    (hn : s.variant.hasNft = true)
    (h : step hash s e .claim = .ok (s', o)) :
    ∃ r, ClaimAccepts s e r ∧ s.sftToken = true ∧
      o.xfers = refundXfers s e.caller ++ tokenXfers s e.caller ++
        (if nftCategory s e.caller = 2 then [(e.caller, s.nftCost)] else []) ∧
      o.sfts = [(e.caller, nftCategory s e.caller)] ∧ o.locks = [] ∧
      s'.nftWinners = (swapRemove s.nftWinners e.caller).1 ∧
      s'.payers = (if nftCategory s e.caller = 2 then (swapRemove s.payers e.caller).1
                   else s.payers) ∧
      s'.claimed e.caller = true ∧ s'.claimableNft = s.claimableNft ∧
      (nftCategory s e.caller = 2 →
        s.nftCost.amount ≤ (balAfterClaim s e.caller) s.nftCost.tok s.nftCost.nonce ∧
        s'.bal = (balAfterClaim s e.caller).sub s.nftCost.tok s.nftCost.nonce s.nftCost.amount) ∧
      (nftCategory s e.caller ≠ 2 → s'.bal = balAfterClaim s e.caller) ∧
      (NftOk s → nftCategory s' e.caller = 3 ∧ NftOk s') ∧
      s'.flags = s.flags ∧ s'.nftCost = s.nftCost := by
  obtain ⟨r, hacc, hsft, hbal, hs'⟩ := claim_nft_state hash s e s' o hn h
  obtain ⟨hlk, hsf⟩ := step_locks_sfts h
  have hv : s.variant.vested = false := (hasNft_flags hn).2
  have hl : s.variant.hasLock = false := (hasNft_flags hn).1
  refine ⟨r, hacc, hsft, ?_, ?_, ?_, by rw [hs'], by rw [hs'], ?_, by rw [hs']; rfl, ?_, ?_, ?_,
    by rw [hs']; rfl, by rw [hs']; rfl⟩
  · rw [step_xfers h]
    show (if s.variant.vested = true then _ else claimXfers s e) = _
    rw [if_neg (by rw [hv]; nofun)]
    unfold claimXfers lpXfersN feeXfers tokenXfers
    simp only [hl, hn, Bool.false_eq_true, if_false, true_and]
  · rw [hsf]
    show (if s.variant.vested = true then _ else claimSfts s e.caller) = _
    rw [if_neg (by rw [hv]; nofun)]
    unfold claimSfts
    rw [if_pos hn]
  · rw [hlk]
    show (if s.variant.vested = true then _ else lpLocksN s e e.caller (winCount s e.caller)) = _
    rw [if_neg (by rw [hv]; nofun), lpLocksN_noLock hl]
  · rw [hs']; simp [settledState]
  · intro h2c
    refine ⟨hbal h2c, ?_⟩
    rw [hs']; simp [h2c]
  · intro h2c
    rw [hs']; simp [h2c, Bal.sub_zero]
  · intro hok
    -- `s'` is `claimNftResult` run on the storage the common claim leaves
    have hres : s' = (claimNftResult ((txc s e).setS
        { settledState s e.caller r with bal := balAfterClaim s e.caller }) e).s := by
      rw [hs', claimNftResult_state]; rfl
    rw [hres]
    exact claimNftResult_category _ e ⟨hok.nodupP, hok.nodupW, hok.disj⟩

/-! ### `claimNftPayment` -/

/-- **C14**: an accepted `claimTicketPayment` of an NFT variant (owner, claim stage) pays the
    owner, besides the transfers of the common part, exactly `claimableNft` of the fee token
    (one transfer, none if zero) and zeroes it; the participant lists are untouched.  With
    `draw_total`: NFT proceeds = fee × number of drawn participants. -/
theorem claimPayment_nft (hash : List Nat → List Nat) (s : State) (e : Env) (s' : State) (o : Out)
    (hn : s.variant.hasNft = true)
    (h : step hash s e .claimPayment = .ok (s', o)) :
    e.caller = s.owner ∧ s.stage e = .claim ∧
    s'.claimableNft = 0 ∧ s'.nftCost = s.nftCost ∧ s'.payers = s.payers ∧
    s'.nftWinners = s.nftWinners ∧ s'.claimed = s.claimed ∧
    ∃ l : List (Nat × Pay), (∀ x ∈ l, x.1 = s.owner) ∧
      o.xfers = l ++ (if s.claimableNft > 0
        then [(s.owner, { s.nftCost with amount := s.claimableNft })] else []) ∧
      o.sfts = [] ∧ o.locks = [] := by
  have howner := step_claimPayment_owner h
  obtain ⟨hlk, hsf⟩ := step_locks_sfts h
  have hxf := step_xfers h
  obtain ⟨t, hx, rfl, _⟩ := step_np_out rfl h
  obtain ⟨hok, hts, _⟩ := exec_claimPayment_out hx
  have hs2 : t.s = { fungibleState s with
      claimableNft := 0,
      bal := (fungibleState s).bal.sub s.nftCost.tok s.nftCost.nonce s.claimableNft } := by
    rw [hts, rbTx_s, paymentState, if_pos hn]
  refine ⟨howner, hok.stage, by rw [hs2], by rw [hs2]; rfl, by rw [hs2]; rfl, by rw [hs2]; rfl,
    by rw [hs2]; rfl,
    (if s.claimablePayment > 0 then [(e.caller, (⟨s.payTok, 0, s.claimablePayment⟩ : Pay))] else []) ++
      (if surplusOut s > 0 then [(e.caller, (⟨.esdt s.lpTok, 0, surplusOut s⟩ : Pay))] else []),
    fun x hx => (paymentXfers_mem (s := s) (List.mem_append_left _ hx)).trans howner, ?_, hsf, hlk⟩
  rw [hxf]
  show paymentXfers s e = _
  unfold paymentXfers
  simp only [hn, true_and, howner]

/-! ### Fee reconciliation -/

def feeBal (s : State) : Nat := s.bal s.nftCost.tok s.nftCost.nonce

/-- What the contract owes in fee tokens: before the draw is complete every participant's fee;
    afterwards the owner's proceeds plus the fees of those not drawn who have not yet collected
    their refund. -/
def feeHeld (s : State) : Nat :=
  if s.flags.additional then s.claimableNft + s.nftCost.amount * s.payers.length
  else s.nftCost.amount * (s.payers.length + s.nftWinners.length)

/-- `feeBal` and `feeHeld` move by the same (signed) amount. -/
def Recon (s s' : State) : Prop := feeBal s' + feeHeld s = feeBal s + feeHeld s'

def FeeTokenSeparate (s : State) : Prop :=
  ¬ (s.nftCost.tok = s.payTok ∧ s.nftCost.nonce = 0) ∧
  ¬ (s.nftCost.tok = .esdt s.lpTok ∧ s.nftCost.nonce = 0)

/-- **C14, reconciliation** under `confirmNft`, before the draw is complete (`hadd`) and for a
    call value that is EGLD or ESDT, not both (`hwf`): balance and liability both grow by the fee. -/
theorem confirmNft_recon (hash : List Nat → List Nat) (s : State) (e : Env) (s' : State) (o : Out)
    (h : step hash s e .confirmNft = .ok (s', o)) (hadd : s.flags.additional = false)
    (hwf : e.egld = 0 ∨ e.esdts = []) :
    Recon s s' ∧ feeBal s' = feeBal s + s.nftCost.amount ∧
    feeHeld s' = feeHeld s + s.nftCost.amount := by
  obtain ⟨hacc, hs', _⟩ := confirmNft_effect hash s e s' o h
  have hb := confirmNft_holdings s e hacc hwf
  have h1 : feeBal s' = feeBal s + s.nftCost.amount := by
    rw [hs']
    show (creditPayments s e).bal s.nftCost.tok s.nftCost.nonce = _
    rw [hb]; simp [feeBal, Bal.add]
  have h2 : feeHeld s' = feeHeld s + s.nftCost.amount := by
    rw [hs']
    simp only [feeHeld]
    show (if s.flags.additional = true then _ else _) = (if s.flags.additional = true then _ else _) + _
    simp only [hadd, Bool.false_eq_true, if_false]
    show s.nftCost.amount * ((s.payers ++ [e.caller]).length + s.nftWinners.length) = _
    rw [List.length_append, List.length_singleton]
    simp only [Nat.mul_add, Nat.mul_one]
    omega
  exact ⟨by unfold Recon; omega, h1, h2⟩

/-- A draw call moves no fee tokens and leaves the liability unchanged — also when it
    completes the draw: `claimableNft + fee × remaining payers = fee × all participants`. -/
theorem selectNft_recon (hash : List Nat → List Nat) (s : State) (e : Env) (s' : State) (o : Out)
    (h : step hash s e .selectNft = .ok (s', o))
    (hok : NftOk s) (hle : s.nftWinners.length ≤ s.availNfts) :
    Recon s s' ∧ feeBal s' = feeBal s ∧ feeHeld s' = feeHeld s := by
  obtain ⟨_, _, hadd, _, _, _, hcost, hsum, _, _, _, hfin, hbal⟩ :=
    selectNft_call hash s e s' o h hok hle
  have h1 : feeBal s' = feeBal s := by unfold feeBal; rw [hbal, hcost]
  have h2 : feeHeld s' = feeHeld s := by
    unfold feeHeld
    rw [hadd, hcost]
    simp only [Bool.false_eq_true, if_false]
    cases hadd' : s'.flags.additional
    · simp only [Bool.false_eq_true, if_false]; rw [hsum]
    · obtain ⟨_, hcl⟩ := hfin hadd'
      simp only [if_true]
      rw [hcl, ← hsum, Nat.mul_add]; omega
  exact ⟨by unfold Recon; omega, h1, h2⟩

/-- The NFT part of a claim pays out exactly what it removes from the liability: the full fee
    for a participant who was not drawn, nothing otherwise.  `hsep`: the refund and the launchpad
    tokens of the common part leave in other tokens. -/
theorem claim_nft_recon (hash : List Nat → List Nat) (s : State) (e : Env) (s' : State) (o : Out)
    (hn : s.variant.hasNft = true) (hsep : FeeTokenSeparate s) (hok : NftOk s)
    (h : step hash s e .claim = .ok (s', o)) :
    Recon s s' := by
  obtain ⟨r, hacc, _, _, _, _, hW, hP, _, hcN, hb2, hb3, _, hfl, hcost⟩ :=
    claim_nft_effect hash s e s' o hn h
  have hadd : s.flags.additional = true := (stage_claim_iff.mp hacc.2.2.1).1.2
  have hbase : (balAfterClaim s e.caller) s.nftCost.tok s.nftCost.nonce = feeBal s := by
    unfold balAfterClaim feeBal
    rw [Bal.sub_other_apply _ _ _ _ _ _ hsep.2, Bal.sub_other_apply _ _ _ _ _ _ hsep.1]
  unfold Recon feeHeld feeBal
  rw [hfl, hcost, hcN, hadd]
  simp only [if_true]
  by_cases h2 : nftCategory s e.caller = 2
  · obtain ⟨hle, hbal⟩ := hb2 h2
    have hmem : e.caller ∈ s.payers := ((nftCategory_iff s e.caller hok).2.1).mp h2
    have hlen : s'.payers.length = s.payers.length - 1 := by
      rw [hP]; simp only [h2, if_true]; exact Nat.eq_sub_of_add_eq (swapRemove_length hmem)
    have hpos : 0 < s.payers.length := List.length_pos_of_mem hmem
    rw [hbal, hlen, Bal.sub_at, hbase]
    rw [hbase] at hle
    have hm : s.nftCost.amount * s.payers.length
        = s.nftCost.amount * (s.payers.length - 1) + s.nftCost.amount := by
      rw [← Nat.mul_succ]; congr 1; omega
    unfold feeBal at hle ⊢
    omega
  · rw [hb3 h2, hP]
    simp only [h2, if_false]
    rw [hbase]
    rfl

theorem claimPayment_recon (hash : List Nat → List Nat) (s : State) (e : Env) (s' : State) (o : Out)
    (hn : s.variant.hasNft = true) (hsep : FeeTokenSeparate s)
    (h : step hash s e .claimPayment = .ok (s', o)) :
    Recon s s' ∧ feeBal s' + s.claimableNft = feeBal s := by
  obtain ⟨t, hx, rfl, _⟩ := step_np_out rfl h
  obtain ⟨hok, hts, _⟩ := exec_claimPayment_out hx
  rw [rbTx_s] at hok hts
  have hadd : s.flags.additional = true := (stage_claim_iff.mp hok.stage).1.2
  have hs2 : t.s = { fungibleState s with
      claimableNft := 0,
      bal := (fungibleState s).bal.sub s.nftCost.tok s.nftCost.nonce s.claimableNft } := by
    rw [hts, paymentState, if_pos hn]
  -- the fee slot is neither the payment slot nor the launchpad-token slot: the fungible part leaves it
  have hb1 : (fungibleState s).bal s.nftCost.tok s.nftCost.nonce = feeBal s := by
    show ((s.bal.sub s.payTok 0 _).sub (.esdt s.lpTok) 0 _) s.nftCost.tok s.nftCost.nonce = _
    rw [Bal.sub_other_apply _ _ _ _ _ _ hsep.2, Bal.sub_other_apply _ _ _ _ _ _ hsep.1]
    rfl
  have hle := hok.nft hn
  rw [hb1] at hle
  have hb2 : feeBal t.s = feeBal s - s.claimableNft := by
    unfold feeBal
    rw [(congrArg State.nftCost hs2 :), (congrArg State.bal hs2 :)]
    show ((fungibleState s).bal.sub s.nftCost.tok s.nftCost.nonce s.claimableNft)
      s.nftCost.tok s.nftCost.nonce = _
    rw [Bal.sub_at, hb1]
    rfl
  have hheld : feeHeld t.s + s.claimableNft = feeHeld s := by
    unfold feeHeld
    rw [(congrArg State.flags hs2 :), (congrArg State.claimableNft hs2 :), (congrArg State.nftCost hs2 :),
      (congrArg State.payers hs2 :)]
    dsimp only [fungibleState]
    simp only [hadd, if_true]
    omega
  unfold Recon
  exact ⟨by omega, by omega⟩

/-- `refundNftMany` (the NFT part of `addUsersToBlacklist`, possible only before the draw) pays
    back exactly the fee of every removed payer; `LP.refundNftMany_recon` is the statement on
    the transaction record. -/
theorem refundNftMany_recon' (l : List Nat) (t t' : Tx) (h : refundNftMany l t = .ok t')
    (hadd : t.s.flags.additional = false) : Recon t.s t'.s := by
  obtain ⟨a1, a2, a3, a4, a5, a6, _⟩ := refundNftMany_recon l h
  unfold Recon feeHeld feeBal
  rw [a3, a6, a4, hadd]
  simp only [Bool.false_eq_true, if_false, Nat.mul_add]
  omega

/-- The fee is fixed before anybody can pay it: `setNftCost` is accepted only in stage AddTickets
    and from the owner, `confirmNft` only in stage Confirm (`ConfirmNftAccepts`). -/
theorem setNftCost_only_addTickets (hash : List Nat → List Nat) (s : State) (e : Env) (c : Pay)
    (s' : State) (o : Out) (h : step hash s e (.setNftCost c) = .ok (s', o)) :
    s.stage e = .addTickets ∧ e.caller = s.owner := by
  obtain ⟨m, t, hm, _, hown, hx, _, _⟩ := step_ok_inv h
  have hmeta : m = ⟨true, false⟩ := by
    simp only [endpointMeta] at hm
    split at hm
    · exact (Option.some.inj hm).symm
    · cases hm
  subst hmeta
  simp only [exec, bind_ok_iff, req_ok_iff, requireStage, exists_const, beq_iff_eq] at hx
  exact ⟨hx.1, hown rfl⟩

end LP.Props.C14

#print axioms LP.Props.C14.swapRemove_exact
#print axioms LP.Props.C14.setInsert_exact
#print axioms LP.Props.C14.nftBody_iteration
#print axioms LP.Props.C14.nftBody_stops_iff
#print axioms LP.Props.C14.draw_loop_completed
#print axioms LP.Props.C14.nftSubstep_exact
#print axioms LP.Props.C14.selectNft_call
#print axioms LP.Props.C14.draw_total
#print axioms LP.Props.C14.confirmNft_accepted_iff
#print axioms LP.Props.C14.confirmNft_effect
#print axioms LP.Props.C14.confirmNft_holdings
#print axioms LP.Props.C14.confirmNft_twice_rejected
#print axioms LP.Props.C14.nftCategory_exact
#print axioms LP.Props.C14.claim_nft_effect
#print axioms LP.Props.C14.claimPayment_nft
#print axioms LP.Props.C14.confirmNft_recon
#print axioms LP.Props.C14.selectNft_recon
#print axioms LP.Props.C14.claim_nft_recon
#print axioms LP.Props.C14.claimPayment_recon
#print axioms LP.Props.C14.refundNftMany_recon'
#print axioms LP.Props.C14.setNftCost_only_addTickets

#print axioms LP.Props.C14.draw_total_gen
#print axioms LP.Props.C14.step_confirmNft_ok_iff
#print axioms LP.Props.C14.confirmNft_then_member
#print axioms LP.Props.C14.hasNft_props
#print axioms LP.Props.C14.nftCategory_congr
