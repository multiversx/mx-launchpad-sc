import LP.Proofs.Filter
import LP.Proofs.Reserve
import LP.Proofs.StepLemmas
/-
  C18 — Allocation gives each participant one fresh, disjoint, exact-size ticket range.
-/
namespace LP.Props.C18
open LP

/-- every existing range lies inside `1 .. lastTicketId` -/
def RangesBounded (s : State) : Prop :=
  ∀ a r, s.range a = some r → 1 ≤ r.first ∧ r.last ≤ s.lastTicketId

/-- `try_create_tickets`, exactly: accepted iff the buyer has no range yet (and the ticket space
    does not overflow); the new range is `[last+1, last+n]`, everything else is untouched -/
theorem tryCreateTickets_ok_iff (s : State) (buyer n : Nat) (s' : State) :
    tryCreateTickets s buyer n = .ok s' ↔
      s.range buyer = none ∧ s.lastTicketId + 1 < usizeMax - n ∧
      s' = { s with range := upd s.range buyer (some ⟨s.lastTicketId + 1, s.lastTicketId + 1 + n - 1⟩),
                    batch := upd s.batch (s.lastTicketId + 1) (some ⟨buyer, n⟩),
                    lastTicketId := s.lastTicketId + 1 + n - 1 } := by
  have hl : s.lastTicketId + 1 + n - 1 = s.lastTicketId + n := by omega
  rw [tryCreateTickets_iff, hl]
  exact ⟨fun ⟨h1, h2, h3⟩ => ⟨h1, by omega, h3⟩, fun ⟨h1, h2, h3⟩ => ⟨h1, by omega, h3⟩⟩

/-- for a request of `n ≥ 1` tickets the allocated range has exactly the requested size, starts
    immediately after the previously allocated tickets, and the total grows by exactly `n` -/
theorem fresh_exact_range (s : State) (buyer n : Nat) (s' : State) (hn : 1 ≤ n)
    (h : tryCreateTickets s buyer n = .ok s') :
    s'.range buyer = some ⟨s.lastTicketId + 1, s.lastTicketId + n⟩ ∧
    s'.lastTicketId = s.lastTicketId + n ∧
    ticketsFor s' buyer = .ok n ∧
    (∀ a, a ≠ buyer → s'.range a = s.range a) ∧
    s'.confirmed = s.confirmed := by
  obtain ⟨_, _, rfl⟩ := (tryCreateTickets_ok_iff s buyer n s').mp h
  refine ⟨?_, ?_, ?_, ?_, rfl⟩
  · simp only [upd_same, Option.some.injEq, Range.mk.injEq, true_and]; omega
  · show s.lastTicketId + 1 + n - 1 = s.lastTicketId + n; omega
  · have hle : s.lastTicketId + 1 ≤ s.lastTicketId + 1 + n - 1 := by omega
    simp only [ticketsFor, upd_same, csub, hle, ↓reduceIte, bind, Except.bind, pure, Except.pure]
    congr 1; omega
  · intro a ha; simp [upd, ha]

/-- ranges never overlap: a new range lies strictly above every existing one, and the bound
    invariant is preserved -/
theorem new_range_disjoint (s : State) (buyer n : Nat) (s' : State) (hn : 1 ≤ n)
    (hb : RangesBounded s) (h : tryCreateTickets s buyer n = .ok s') :
    RangesBounded s' ∧
    ∀ a r, a ≠ buyer → s.range a = some r → r.last < s.lastTicketId + 1 := by
  obtain ⟨hnone, _, rfl⟩ := (tryCreateTickets_ok_iff s buyer n s').mp h
  constructor
  · intro a r hr
    by_cases ha : a = buyer
    · subst ha
      simp only [upd_same, Option.some.injEq] at hr
      subst hr
      show 1 ≤ s.lastTicketId + 1 ∧ s.lastTicketId + 1 + n - 1 ≤ s.lastTicketId + 1 + n - 1
      omega
    · simp [upd, ha] at hr
      obtain ⟨h1, h2⟩ := hb a r hr
      show 1 ≤ r.first ∧ r.last ≤ s.lastTicketId + 1 + n - 1
      omega
  · intro a r _ hr
    have := (hb a r hr).2
    omega

/-- a participant can be allocated at most once (`tryCreateTickets_ok_iff`: the buyer has no range),
    also within one call: a batch that lists an address twice is rejected as a whole -/
theorem duplicate_in_batch_rejected (buyer n1 n2 : Nat) (pre mid post : List (Nat × Nat)) (s : State) :
    ∃ err, createMany (pre ++ (buyer, n1) :: mid ++ (buyer, n2) :: post) s = .error err := by
  cases hx : createMany (pre ++ (buyer, n1) :: mid ++ (buyer, n2) :: post) s with
  | error err => exact ⟨err, rfl⟩
  | ok s' =>
    -- an accepted batch lists each address once
    have hnd := ((createMany_ok_iff _ s).mp ⟨s', hx⟩).1
    rw [List.map_append, List.nodup_append] at hnd
    exact absurd rfl (hnd.2.2 buyer (by simp) buyer (by simp))

/-! ### v2 limits -/

/-- in an entry with a non-zero ticket count (zero-count entries are not looked at, `v2_zero_skipped`)
    v2 rejects more than 255 tickets, more than 10 guarantee entries, a guarantee above its
    confirmation threshold, contract accounts, and a reservation exceeding the base winners left -/
theorem v2_limits (e : Env) (buyer n : Nat) (infos : List (Nat × Nat)) (rest : List (Nat × Nat × List (Nat × Nat)))
    (s : State) (tw tg uc ta ga : Nat) (hn : n ≠ 0)
    (hbad : e.isContract buyer = true ∨ n > 255 ∨ infos.length > 10 ∨ (∃ i ∈ infos, i.1 > i.2) ∨
            (sumG infos > 0 ∧ tw < sumG infos)) :
    ∃ err, addV2Many e ((buyer, n, infos) :: rest) (s, tw, tg, uc, ta, ga) = .error err := by
  cases hx : addV2Many e ((buyer, n, infos) :: rest) (s, tw, tg, uc, ta, ga) with
  | error err => exact ⟨err, rfl⟩
  | ok acc' =>
    rw [addV2Many_cons, if_neg hn] at hx
    obtain ⟨h1, hx⟩ := ok_of_guard hx
    obtain ⟨h2, hx⟩ := ok_of_guard hx
    obtain ⟨h3, hx⟩ := ok_of_guard hx
    obtain ⟨s1, _, hx⟩ := (bind_ok_iff _ _ _).mp hx
    obtain ⟨h4, hx⟩ := ok_of_guard hx
    obtain ⟨h5, _⟩ := ok_of_guard hx
    rcases hbad with hb | hb | hb | ⟨i, hi, hgt⟩ | hb
    · exact absurd hb h1
    · exact absurd hb h2
    · exact absurd hb h3
    · exact absurd (List.any_eq_true.mpr ⟨i, hi, decide_eq_true hgt⟩) h4
    · exact absurd hb.2 h5

/-- v2 skips zero-count entries entirely -/
theorem v2_zero_skipped (e : Env) (buyer : Nat) (infos : List (Nat × Nat)) (rest : List (Nat × Nat × List (Nat × Nat)))
    (acc : State × Nat × Nat × Nat × Nat × Nat) :
    addV2Many e ((buyer, 0, infos) :: rest) acc = addV2Many e rest acc := by
  obtain ⟨s, tw, tg, uc, ta, ga⟩ := acc
  rw [addV2Many_cons, if_pos rfl]

/-- non-vacuity: allocating 3 tickets to address 7 on a fresh state gives [1,3] -/
example : ∃ s', tryCreateTickets { (default : State) with lastTicketId := 0, range := fun _ => none } 7 3 = .ok s' ∧
    s'.range 7 = some ⟨1, 3⟩ := by
  refine ⟨_, rfl, ?_⟩
  simp

end LP.Props.C18

#print axioms LP.Props.C18.tryCreateTickets_ok_iff
#print axioms LP.Props.C18.fresh_exact_range
#print axioms LP.Props.C18.new_range_disjoint
#print axioms LP.Props.C18.duplicate_in_batch_rejected
#print axioms LP.Props.C18.v2_limits
#print axioms LP.Props.C18.v2_zero_skipped
