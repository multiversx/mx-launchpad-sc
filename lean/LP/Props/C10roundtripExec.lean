import LP.Proofs.Events
import LP.Props.C10roundtrip
/-
  C10 — the v2 round trip on the endpoint bodies (`exec`): after an accepted `refundUserTickets [u]`
  a `removeGuaranteedUsersFromBlacklist [u]` from the same caller in the same block is accepted and
  restores the blacklist flag, the guarantee record, the base-winner count and the reserve (any
  state, no reachability assumption; the refunded confirmations stay refunded).
-/
namespace LP.Props.C10roundtripExec
open LP LP.Events LP.Props.C10roundtrip

theorem refund_then_unblacklist_exec (hash : List Nat → List Nat) (t t1 : Tx) (e : Env) (u : Nat)
    (hv : t.s.variant.isV2 = true)
    (h : exec hash t e (.refundUsers [u]) = .ok t1) (c' : Ctx) (o' : Out) :
    ∃ t2, exec hash ⟨t1.s, c', o'⟩ e (.unblacklist [u]) = .ok t2 ∧
      t2.s.blacklist u = false ∧
      t2.s.uts u = some ((t.s.uts u).getD {}) ∧ t2.s.blUts u = none ∧
      t2.s.nrWinning = t.s.nrWinning ∧ t2.s.totalGuaranteed = t.s.totalGuaranteed := by
  simp only [exec, bind_ok_iff, pure_ok_iff] at h
  obtain ⟨t1', h1, s1, h2, rfl⟩ := h
  obtain ⟨hperm, hstage, hnd, hall, _, rfl⟩ := (addUsersToBlacklist_ok_iff _ _ _ _).mp h1
  have hr : ((blTx t e [u]).s.range u).isSome = true := (hall u (by simp)).2
  obtain ⟨⟨wl, uu, bb, nw, tg, hs1⟩, _⟩ := clearGuaranteedV2_frame h2
  obtain ⟨s2, hres, hu, hb, hnw, htg, _⟩ :=
    clear_then_restore_v2 (blTx t e [u]).s s1 u hr h2 (unblState s1 [u]).blacklist
  have hrem : removeUsersFromBlacklist s1 e [u] = .ok (unblState s1 [u]) := by
    rw [removeUsersFromBlacklist_ok_iff]
    subst hs1
    refine ⟨hperm, hstage, by simp, ?_, rfl⟩
    intro a ha
    simp at ha; subst ha
    simp [blTx, blState]
  have hv1 : (unblState s1 [u]).variant.isV2 = true := by subst hs1; exact hv
  have hbl2 : s2.blacklist u = false := by
    obtain ⟨⟨wl2, u2, b2, nw2, tg2, hs2⟩, _⟩ := restoreGuaranteedV2_frame hres
    rw [hs2]; simp [unblState]
  refine ⟨((Tx.mk ((blTx t e [u]).setS s1).s c' o').setS s2).emit (unblacklistEv e [u]), ?_, ?_⟩
  · simp only [exec, Tx.setS]
    rw [hrem]
    simp only [bind, Except.bind, hv1, ↓reduceIte]
    have : restoreGuaranteedV2 (unblState s1 [u]) [u] = .ok s2 := hres
    rw [this]
    rfl
  · exact ⟨hbl2, hu, hb, hnw, htg⟩

end LP.Props.C10roundtripExec

#print axioms LP.Props.C10roundtripExec.refund_then_unblacklist_exec
