import LP.Generated
import LP.Rng
import LP.Guaranteed
import LP.Vesting
/-
  The constants of /repo that the properties depend on, regenerated on every run of a check
  (LP/Generated.lean, by tools/gen_constants.py), equal the ones the model uses.  A changed
  constant in the source breaks one of these.
-/
namespace LP.Props.Constants
open LP LP.Gen

/-- tickets are numbered from 1 (C03, C05, C08, C18) -/
theorem first_ticket_id : GEN_FIRST_TICKET_ID = 1 := rfl
/-- a raw draw is 4 bytes of a 32-byte seed (C05) -/
theorem usize_bytes : GEN_USIZE_BYTES = USIZE_BYTES := rfl
theorem hash_len : GEN_HASH_LEN = HASH_LEN := rfl
/-- v2 allocation limits (C18) -/
theorem max_tickets_allowance : GEN_MAX_TICKETS_ALLOWANCE = MAX_TICKETS_ALLOWANCE ∧ MAX_TICKETS_ALLOWANCE = 255 := ⟨rfl, rfl⟩
theorem max_guaranteed_entries : GEN_MAX_GUARANTEED_TICKETS_ENTRIES = MAX_GUARANTEED_TICKETS_ENTRIES ∧ MAX_GUARANTEED_TICKETS_ENTRIES = 10 := ⟨rfl, rfl⟩
/-- vesting constants (C13) -/
theorem v2_max_percentage : GEN_V2_MAX_PERCENTAGE = MAX_PERCENTAGE ∧ MAX_PERCENTAGE = 10000 := ⟨rfl, rfl⟩
theorem v1_max_percentage : GEN_V1_MAX_PERCENTAGE = MAX_PERCENTAGE := rfl
theorem max_milestones : GEN_MAX_UNLOCK_MILESTONES_ENTRIES = MAX_UNLOCK_MILESTONES_ENTRIES ∧ MAX_UNLOCK_MILESTONES_ENTRIES = 60 := ⟨rfl, rfl⟩
theorem max_release_round_diff : GEN_MAX_RELEASE_ROUND_DIFF = MAX_RELEASE_ROUND_DIFF ∧ MAX_RELEASE_ROUND_DIFF = 26280000 := ⟨rfl, rfl⟩
/-- lock split basis (C16) -/
theorem lock_max_percentage : GEN_LOCK_MAX_PERCENTAGE = 10000 := rfl
/-- v1 guarantees are one ticket each (C11, C12) -/
theorem v1_guarantee_sizes :
    GEN_STAKING_GUARANTEED_TICKETS_NO = 1 ∧ GEN_MIGRATION_GUARANTEED_TICKETS_NO = 1 ∧
    GEN_MIG_STAKING_GUARANTEED_TICKETS_NO = 1 ∧ GEN_MIG_MIGRATION_GUARANTEED_TICKETS_NO = 1 := ⟨rfl, rfl, rfl, rfl⟩
/-- one SFT per claimant (C14) -/
theorem nft_amount : GEN_NFT_AMOUNT = 1 := rfl

end LP.Props.Constants

#print axioms LP.Props.Constants.first_ticket_id
#print axioms LP.Props.Constants.usize_bytes
#print axioms LP.Props.Constants.hash_len
#print axioms LP.Props.Constants.max_tickets_allowance
#print axioms LP.Props.Constants.max_guaranteed_entries
#print axioms LP.Props.Constants.v2_max_percentage
#print axioms LP.Props.Constants.v1_max_percentage
#print axioms LP.Props.Constants.max_milestones
#print axioms LP.Props.Constants.max_release_round_diff
#print axioms LP.Props.Constants.lock_max_percentage
#print axioms LP.Props.Constants.v1_guarantee_sizes
#print axioms LP.Props.Constants.nft_amount
