import LP.Proofs.StepLemmas
/-
  C07 — Confirmation needs exact payment and never exceeds the allocation.
-/
namespace LP.Props.C07
open LP

/-- the event emitted by an accepted confirmation -/
def confirmEvent (s : State) (e : Env) (n total : Nat) : Ev :=
  ⟨"confirmTickets", [e.caller, e.round, e.epoch],
    [e.caller, e.round, e.epoch, n, s.confirmed e.caller + n, total, s.payTok.code, 0, s.price * n]⟩

/-- the conditions under which a confirmation of `n` tickets is accepted; the payment is EGLD
    or one fungible ESDT transfer, of the right token and the exact amount -/
def Accepts (s : State) (e : Env) (n total : Nat) : Prop :=
  s.paused = false ∧
  egldOrSingleFungible e = .ok (s.payTok, s.price * n) ∧
  s.stage e = .confirm ∧ s.deposited = true ∧ s.blacklist e.caller = false ∧
  ticketsFor s e.caller = .ok total ∧ s.confirmed e.caller + n ≤ total

theorem confirmTickets_ok_iff (t : Tx) (e : Env) (n : Nat) (t' : Tx) :
    confirmTickets t e n = .ok t' ↔
      ∃ total, Accepts t.s e n total ∧
        t' = (t.setS { t.s with confirmed := upd t.s.confirmed e.caller (t.s.confirmed e.caller + n) }).emit
                (confirmEvent t.s e n total) := by
  unfold confirmTickets Accepts confirmEvent
  simp only [bind_ok_iff, pure_ok_iff, req_ok_iff, requireStage, exists_const, Prod.exists,
    Bool.not_eq_true', beq_iff_eq, decide_eq_true_eq, topics]
  constructor
  · rintro ⟨hp, tok, amount, hpay, hst, hd, hb, total, htix, hle, htok, hamt, rfl⟩
    subst htok hamt
    exact ⟨total, ⟨hp, hpay, hst, hd, hb, htix, hle⟩, rfl⟩
  · rintro ⟨total, ⟨hp, hpay, hst, hd, hb, htix, hle⟩, rfl⟩
    exact ⟨hp, _, _, hpay, hst, hd, hb, total, htix, hle, rfl, rfl, rfl⟩

/-- the call value is credited before `confirmTickets` runs; `Accepts` reads the same on the
    credited storage -/
theorem step_confirm_iff (hash : List Nat → List Nat) (s : State) (e : Env) (n : Nat) (s' : State)
    (o : Out) :
    step hash s e (.confirm n) = .ok (s', o) ↔
      ∃ total, Accepts s e n total ∧
        s' = { creditPayments s e with
                confirmed := upd s.confirmed e.caller (s.confirmed e.caller + n) } ∧
        o = { events := [confirmEvent s e n total] } := by
  have hstep : step hash s e (.confirm n) =
      match confirmTickets (tx0 s e) e n with
      | .error err => .error err
      | .ok t => .ok (t.s, t.o) := by
    exact step_eq_of_meta (m := ⟨false, true⟩) rfl (.inl rfl) nofun
  have hacc : ∀ total, Accepts (tx0 s e).s e n total ↔ Accepts s e n total := fun _ => Iff.rfl
  rw [hstep]
  constructor
  · intro h
    cases hx : confirmTickets (tx0 s e) e n with
    | error err => rw [hx] at h; cases h
    | ok t =>
      rw [hx] at h
      cases h
      obtain ⟨total, ha, rfl⟩ := (confirmTickets_ok_iff _ e n t).mp hx
      exact ⟨total, (hacc total).mp ha, rfl, rfl⟩
  · rintro ⟨total, ha, rfl, rfl⟩
    rw [(confirmTickets_ok_iff (tx0 s e) e n _).mpr ⟨total, (hacc total).mpr ha, rfl⟩]
    rfl

/-- **C07, acceptance**: a confirmation is accepted exactly under `Accepts` -/
theorem confirm_accepted_iff (hash : List Nat → List Nat) (s : State) (e : Env) (n : Nat) :
    (∃ r, step hash s e (.confirm n) = .ok r) ↔ ∃ total, Accepts s e n total := by
  constructor
  · rintro ⟨⟨s', o⟩, h⟩
    obtain ⟨total, hacc, _⟩ := (step_confirm_iff hash s e n s' o).mp h
    exact ⟨total, hacc⟩
  · rintro ⟨total, hacc⟩
    exact ⟨_, (step_confirm_iff hash s e n _ _).mpr ⟨total, hacc, rfl, rfl⟩⟩

/-- **C07, effect**: on acceptance exactly `n` more tickets are recorded as confirmed for the
    caller, the holdings grow by the call value, nothing is sent out, one `confirmTickets` event
    is emitted; nothing else in the state changes -/
theorem confirm_effect (hash : List Nat → List Nat) (s : State) (e : Env) (n : Nat) (s' : State) (o : Out)
    (h : step hash s e (.confirm n) = .ok (s', o)) :
    ∃ total, Accepts s e n total ∧
      s' = { creditPayments s e with confirmed := upd s.confirmed e.caller (s.confirmed e.caller + n) } ∧
      o.xfers = [] ∧ o.locks = [] ∧ o.sfts = [] ∧ o.events = [confirmEvent s e n total] := by
  obtain ⟨total, hacc, rfl, rfl⟩ := (step_confirm_iff hash s e n s' o).mp h
  exact ⟨total, hacc, rfl, rfl, rfl, rfl, rfl⟩

/-- the holdings grow by exactly `price * n` of the payment token (`hwf`: a call value is EGLD
    or ESDT, not both) -/
theorem confirm_holdings (s : State) (e : Env) (n total : Nat) (hacc : Accepts s e n total)
    (hwf : e.egld = 0 ∨ e.esdts = []) :
    (creditPayments s e).bal = s.bal.add s.payTok 0 (s.price * n) := by
  obtain ⟨_, hpay, _⟩ := hacc
  unfold egldOrSingleFungible at hpay
  unfold creditPayments
  cases hes : e.esdts with
  | nil =>
    simp [hes] at hpay
    simp [hpay.1.symm, hpay.2]
  | cons p rest =>
    cases rest with
    | nil =>
      simp [hes] at hpay
      have he : e.egld = 0 := by
        cases hwf with
        | inl h => exact h
        | inr h => simp [hes] at h
      split at hpay
      · rename_i hn
        simp at hpay
        simp only [List.foldl_cons, List.foldl_nil, he]
        funext t k
        simp [Bal.add, hpay.1.symm, hpay.2.symm, hn]
      · simp at hpay
    | cons q rest' => simp [hes] at hpay

/-- any other payment (wrong token, one unit more or less, several transfers, a non-fungible
    nonce) is rejected — and a rejected call has no effect (`C15.rejected_is_noop`) -/
theorem confirm_wrong_payment_rejected (hash : List Nat → List Nat) (s : State) (e : Env) (n : Nat)
    (hbad : egldOrSingleFungible e ≠ .ok (s.payTok, s.price * n)) :
    ∃ err, step hash s e (.confirm n) = .error err := by
  refine rejected_of_not_ok fun _ _ h => ?_
  obtain ⟨total, hacc⟩ := (confirm_accepted_iff hash s e n).mp ⟨_, h⟩
  exact hbad hacc.2.1

/-- non-vacuity: user 7, allocated tickets 1..3, confirms 2 at price 10 with 20 EGLD -/
example : ∃ s : State, ∃ e : Env, Accepts s e 2 3 := by
  refine ⟨{ variant := .base, owner := 1, lpTok := 1, perTicket := 1, payTok := .egld, price := 10,
            nrWinning := 1, cfg := ⟨5, 10, 15⟩, flags := {}, support := 1, deposited := true,
            range := fun a => if a = 7 then some ⟨1, 3⟩ else none },
          { caller := 7, round := 6, egld := 20 }, ?_⟩
  simp [Accepts, egldOrSingleFungible, State.stage, stageOf, ticketsFor, csub, bind, Except.bind, pure, Except.pure]

end LP.Props.C07

#print axioms LP.Props.C07.step_confirm_iff
#print axioms LP.Props.C07.confirm_accepted_iff
#print axioms LP.Props.C07.confirm_effect
#print axioms LP.Props.C07.confirm_holdings
#print axioms LP.Props.C07.confirm_wrong_payment_rejected

#print axioms LP.Props.C07.confirmTickets_ok_iff
