import LP.Proofs.Filter
/-
  C08 — filtering keeps exactly the confirmed tickets; the ticket space stays consistent.

  Vocabulary (`LP/Proofs/Filter.lean`): an allocation history is `L : List (Nat × Nat)`
  (address, number of tickets); `ticketTotal L = Σ nᵢ`, `confSum conf L = Σ conf aᵢ`,
  `droppedSum conf L = Σ (nᵢ − conf aᵢ)`; `survivors conf L` keeps `(a, conf a)` where
  `conf a ≠ 0`; `Chain L first range batch`: the batches of `L` sit at the consecutive firsts
  `first, first + n₁, …` and `range aᵢ = [firstᵢ, firstᵢ + nᵢ − 1]`; `filterCalls cs t`:
  successive accepted `filterTickets` transactions, the i-th in environment `eᵢ` with
  iteration budget `kᵢ`.
-/
namespace LP.Props.C08
open LP

/-! ### Allocation -/

/-- **C08, allocation**: a successful allocation loop of `add_tickets` (`createMany`, without the
    endpoint's gates) on a contract without tickets leaves the chain of `L` from ticket 1 and
    `lastTicketId = Σ nᵢ`; only `range`, `batch`, `lastTicketId` change.  (`n ≥ 1` is needed for
    the chain: a zero-size entry would share its first id with the next batch, which overwrites
    it.) -/
theorem alloc_spec (L : List (Nat × Nat)) (s s' : State)
    (h0 : s.lastTicketId = 0) (hpos : ∀ p ∈ L, 1 ≤ p.2) (h : createMany L s = .ok s') :
    (L.map Prod.fst).Nodup ∧ (∀ a ∈ L.map Prod.fst, s.range a = none) ∧
    (L ≠ [] → ticketTotal L + 1 < usizeMax) ∧
    s'.lastTicketId = ticketTotal L ∧ Chain L 1 s'.range s'.batch ∧
    (∀ a, a ∉ L.map Prod.fst → s'.range a = s.range a) ∧
    (∃ r b l, s' = { s with range := r, batch := b, lastTicketId := l }) := by
  obtain ⟨h1, h2, h3, h4, h5, h6, _, h8⟩ := createMany_ok L s s' h
  rw [h0] at h3 h4 h5
  refine ⟨h1, h2, ?_, by omega, by simpa using h5 hpos, h6, h8⟩
  intro hne; have := h3 hne; omega

/-- No assumption on the sizes here. -/
theorem alloc_succeeds_iff (L : List (Nat × Nat)) (s : State) :
    (∃ s', createMany L s = .ok s') ↔
      (L.map Prod.fst).Nodup ∧ (∀ a ∈ L.map Prod.fst, s.range a = none) ∧
      (L ≠ [] → s.lastTicketId + ticketTotal L + 1 < usizeMax) :=
  createMany_ok_iff L s

/-- The allocated ranges are disjoint, have exactly `nᵢ` ids each and cover `1 .. Σ nᵢ`. -/
theorem alloc_partition (L : List (Nat × Nat)) (s s' : State)
    (h0 : s.lastTicketId = 0) (hpos : ∀ p ∈ L, 1 ≤ p.2) (h : createMany L s = .ok s') :
    (∀ p ∈ L, ∃ r, s'.range p.1 = some r ∧ 1 ≤ r.first ∧ r.first ≤ r.last ∧
        r.last < 1 + s'.lastTicketId ∧ r.last + 1 = r.first + p.2) ∧
    (∀ t, 1 ≤ t → t < 1 + s'.lastTicketId →
        ∃ p ∈ L, ∃ r, s'.range p.1 = some r ∧ r.first ≤ t ∧ t ≤ r.last) ∧
    (∀ p ∈ L, ∀ q ∈ L, p.1 ≠ q.1 → ∀ rp rq, s'.range p.1 = some rp → s'.range q.1 = some rq →
        rp.last < rq.first ∨ rq.last < rp.first) := by
  obtain ⟨_, _, _, h4, h5, _⟩ := alloc_spec L s s' h0 hpos h
  rw [h4]
  exact Chain_partition h5 hpos

/-! ### The filter loop -/

/-- **C08, the loop**: from the chain of `L`, with confirmations within the allocations, the
    unbudgeted filter loop (any fuel ≥ |L| + 1; the endpoint passes `last + 2`) never fails and
    leaves the chain of `survivors conf L`: each survivor owns exactly `conf a` tickets,
    unconfirmed addresses own nothing, other addresses are untouched. -/
theorem filter_spec (conf : Nat → Nat) (L : List (Nat × Nat)) (range : Nat → Option Range)
    (batch : Nat → Option Batch) (last fuel : Nat)
    (hnd : (L.map Prod.fst).Nodup) (hpos : ∀ p ∈ L, 1 ≤ p.2)
    (hconf : ∀ p ∈ L, conf p.1 ≤ p.2) (hch : Chain L 1 range batch)
    (hlast : last = ticketTotal L) (hfuel : L.length + 1 ≤ fuel) :
    ∃ f, runWhile (filterBody conf last) fuel none ⟨range, batch, 1, 0⟩
          = .ok (f, none, .completed) ∧
      f.first = last + 1 ∧ f.removed = droppedSum conf L ∧
      Chain (survivors conf L) 1 f.range f.batch ∧
      (∀ p ∈ L, conf p.1 = 0 → f.range p.1 = none) ∧
      (∀ a, a ∉ L.map Prod.fst → f.range a = range a) := by
  obtain ⟨f, h1, h2, h3, h4, h5, h6, _⟩ :=
    LP.filter_spec conf L range batch last fuel hnd hpos hconf hch hlast hfuel
  exact ⟨f, h1, h2, h3, h4, h5, h6⟩

/-- The fuel passed by the endpoint is enough. -/
theorem filter_spec_endpoint_fuel (L : List (Nat × Nat)) (hpos : ∀ p ∈ L, 1 ≤ p.2) :
    L.length + 1 ≤ ticketTotal L + 2 :=
  LP.filter_spec_endpoint_fuel L hpos

/-- After the filter the survivors' ranges are disjoint, of size `conf a` each, and cover
    `1 .. Σ conf aᵢ`. -/
theorem filter_partition (conf : Nat → Nat) (L : List (Nat × Nat)) (range : Nat → Option Range)
    (batch : Nat → Option Batch) (h : Chain (survivors conf L) 1 range batch) :
    (∀ q ∈ survivors conf L, ∃ r, range q.1 = some r ∧ 1 ≤ r.first ∧ r.first ≤ r.last ∧
        r.last < 1 + confSum conf L ∧ r.last + 1 = r.first + conf q.1) ∧
    (∀ t, 1 ≤ t → t < 1 + confSum conf L →
        ∃ q ∈ survivors conf L, ∃ r, range q.1 = some r ∧ r.first ≤ t ∧ t ≤ r.last) ∧
    (∀ p ∈ survivors conf L, ∀ q ∈ survivors conf L, p.1 ≠ q.1 → ∀ rp rq,
        range p.1 = some rp → range q.1 = some rq →
        rp.last < rq.first ∨ rq.last < rp.first) := by
  obtain ⟨h1, h2, h3⟩ := Chain_partition h (survivors_pos conf L)
  rw [ticketTotal_survivors] at h1 h2
  refine ⟨?_, h2, h3⟩
  intro q hq
  obtain ⟨r, hr, a, b, c, d⟩ := h1 q hq
  exact ⟨r, hr, a, b, c, by rw [d, (mem_survivors hq).2.1]⟩

theorem survivors_sound (conf : Nat → Nat) (L : List (Nat × Nat))
    (hnd : (L.map Prod.fst).Nodup) :
    ((survivors conf L).map Prod.fst).Nodup ∧
    ∀ q ∈ survivors conf L, q.1 ∈ L.map Prod.fst ∧ q.2 = conf q.1 ∧ conf q.1 ≠ 0 :=
  ⟨survivors_nodup conf L hnd, fun _ hq => mem_survivors hq⟩

theorem sums (conf : Nat → Nat) (L : List (Nat × Nat)) :
    ticketTotal L = (L.map (·.2)).sum ∧ confSum conf L = (L.map (fun p => conf p.1)).sum ∧
    droppedSum conf L = (L.map (fun p => p.2 - conf p.1)).sum ∧
    ticketTotal (survivors conf L) = confSum conf L :=
  ⟨ticketTotal_eq_sum L, confSum_eq_sum conf L, droppedSum_eq_sum conf L, ticketTotal_survivors conf L⟩

/-- The chunked loop never fails either (no body error, no fuel exhaustion), whatever the
    budgets: it is completed with the state of `filter_spec`, or still in progress. -/
theorem filter_chunks_no_error (conf : Nat → Nat) (L : List (Nat × Nat))
    (range : Nat → Option Range) (batch : Nat → Option Batch) (last : Nat) (ks : List Nat)
    (hnd : (L.map Prod.fst).Nodup) (hpos : ∀ p ∈ L, 1 ≤ p.2)
    (hconf : ∀ p ∈ L, conf p.1 ≤ p.2) (hch : Chain L 1 range batch) (hlast : last = ticketTotal L) :
    ∃ f, runWhile (filterBody conf last) (last + 2) none ⟨range, batch, 1, 0⟩
          = .ok (f, none, .completed) ∧
      (runCalls (filterBody conf last) (last + 2) ks ⟨range, batch, 1, 0⟩ = .ok (f, true) ∨
       ∃ f', runCalls (filterBody conf last) (last + 2) ks ⟨range, batch, 1, 0⟩
          = .ok (f', false)) := by
  obtain ⟨f, h1, _⟩ := LP.filter_spec conf L range batch last (last + 2) hnd hpos hconf hch hlast
    (by rw [hlast]; exact LP.filter_spec_endpoint_fuel L hpos)
  exact ⟨f, h1, runCalls_no_error _ _ ks _ _ f h1 (Nat.le_refl _)⟩

/-- It is completed as soon as the budgets allow `|L| + 1` iterations in total, in particular
    after `|L| + 1` calls. -/
theorem filter_chunks_complete (conf : Nat → Nat) (L : List (Nat × Nat))
    (range : Nat → Option Range) (batch : Nat → Option Batch) (last : Nat) (ks : List Nat)
    (hnd : (L.map Prod.fst).Nodup) (hpos : ∀ p ∈ L, 1 ≤ p.2)
    (hconf : ∀ p ∈ L, conf p.1 ≤ p.2) (hch : Chain L 1 range batch) (hlast : last = ticketTotal L)
    (hks : L.length + 1 ≤ budgetIters ks) :
    ∃ f, runWhile (filterBody conf last) (last + 2) none ⟨range, batch, 1, 0⟩
          = .ok (f, none, .completed) ∧
      runCalls (filterBody conf last) (last + 2) ks ⟨range, batch, 1, 0⟩ = .ok (f, true) := by
  have hfuel := LP.filter_spec_endpoint_fuel L hpos
  obtain ⟨f, h1, _⟩ := LP.filter_spec conf L range batch last (L.length + 1) hnd hpos hconf hch
    hlast (Nat.le_refl _)
  have h2 := runWhile_fuel_mono _ _ _ _ _ _ _ h1 (by decide) (last + 2) (by omega)
  exact ⟨f, h2, runCalls_completes_of_budgetIters _ _ ks _ _ f h1 (by omega) hks⟩

/-! ### The endpoint -/

/-- **C08, one call**: an unbudgeted `filterTickets` on a `FilterReady` storage whose gates pass
    (`FilterPre`) is accepted, reports completion, sets `lastTicketId' = Σ conf aᵢ`,
    `nrWinning' = min nrWinning lastTicketId'`, and leaves the chain of the survivors. -/
theorem filterTickets_single {L : List (Nat × Nat)} (t : Tx) (e : Env)
    (h : FilterReady L t.s) (hp : FilterPre t.s e) (hb : t.c.budget = none) :
    ∃ t' f, filterTickets t e = .ok t' ∧
      runWhile (filterBody t.s.confirmed t.s.lastTicketId) (t.s.lastTicketId + 2) none
        ⟨t.s.range, t.s.batch, 1, 0⟩ = .ok (f, none, .completed) ∧
      t'.s = filterFinal t.s f true ∧
      t'.s.lastTicketId = confSum t.s.confirmed L ∧
      t'.s.nrWinning = min t.s.nrWinning (confSum t.s.confirmed L) ∧
      Chain (survivors t.s.confirmed L) 1 t'.s.range t'.s.batch ∧
      (∀ p ∈ L, t.s.confirmed p.1 = 0 → t'.s.range p.1 = none) ∧
      (∀ a, a ∉ L.map Prod.fst → t'.s.range a = t.s.range a) ∧
      t'.s.flags.filtered = true ∧ t'.s.op = .none ∧ t'.o.ret = [0] := by
  obtain ⟨f, h1, h2, h3, h4, h5, h6, h7, h8⟩ := filter_ready_run h
  have hrun : runWhile (filterBody t.s.confirmed t.s.lastTicketId) (t.s.lastTicketId + 2)
      t.c.budget ⟨t.s.range, t.s.batch, 1, 0⟩ = .ok (f, none, .completed) := by
    rw [hb]; exact h1
  have hcall := filterTickets_completed t e _ f none hp (filStOf_ready h) hrun h4
  refine ⟨_, f, hcall, h1, ?_, ?_, ?_, h6, h7, h8, rfl, rfl, rfl⟩
  · show filterDone t.s _ f = _
    rw [filterDone_eq_final]; rfl
  · exact h5
  · show (filterDone t.s _ f).nrWinning = _
    rw [filterDone_eq_final, filterFinal_nrWinning, h5]

/-- An interrupted call saves `(first, removed)` in `op`, and the next call reloads exactly
    the loop state the previous one stopped in, with the same body and the same fuel: chunked
    endpoint calls compose like `runCalls`. -/
theorem filterTickets_save_reload (t : Tx) (e : Env) (x f : FilSt) (b : Option Nat)
    (hp : FilterPre t.s e) (hx : filStOf t.s = some x)
    (hrun : runWhile (filterBody t.s.confirmed t.s.lastTicketId) (t.s.lastTicketId + 2)
              t.c.budget x = .ok (f, b, .interrupted)) :
    ∃ t', filterTickets t e = .ok t' ∧ t'.o.ret = [1] ∧
      t'.s.op = .filter f.first f.removed ∧ filStOf t'.s = some f ∧
      t'.s.confirmed = t.s.confirmed ∧ t'.s.lastTicketId = t.s.lastTicketId ∧
      t'.s.nrWinning = t.s.nrWinning ∧ t'.s.flags.filtered = false :=
  ⟨_, filterTickets_interrupted t e x f b hp hx hrun, rfl, rfl, rfl, rfl, rfl, rfl, by
    show (filterFlags t.s x.first).filtered = false
    rw [filterFlags_filtered]; exact hp.notFiltered⟩

/-- An accepted call sequence that completes the step is a completing `runCalls` schedule of
    the filter loop, from whatever loop state the storage holds. -/
theorem filterCalls_runCalls (cs : List (Env × Nat)) (t t' : Tx) (x : FilSt)
    (hx : filStOf t.s = some x) (hnf : t.s.flags.filtered = false)
    (hc : filterCalls cs t = .ok t') (hf : t'.s.flags.filtered = true) :
    ∃ f st, runCalls (filterBody t.s.confirmed t.s.lastTicketId) (t.s.lastTicketId + 2)
              (cs.map Prod.snd) x = .ok (f, true) ∧
      f.removed ≤ t.s.lastTicketId ∧ t'.s = filterFinal t.s f st ∧
      ((x.first = 1 ∨ t.s.flags.started = true) → st = true) := by
  revert t t' x hx hnf hc hf
  induction cs with
  | nil =>
    intro t t' x _ hnf h hf
    simp only [filterCalls] at h
    injection h with h
    subst h
    rw [hnf] at hf; cases hf
  | cons c rest ih =>
    obtain ⟨e, k⟩ := c
    intro t t' x hx hnf h hf
    simp only [filterCalls] at h
    cases hcall : filterTickets (t.withBudget (some k)) e with
    | error err => rw [hcall] at h; cases h
    | ok t1 =>
      rw [hcall] at h
      simp only at h
      obtain ⟨_, x0, f1, b1, hx0, hcs⟩ := filterTickets_ok_cases _ _ _ hcall
      cases hx.symm.trans hx0
      simp only [List.map_cons]
      have hcs : (runWhile (filterBody t.s.confirmed t.s.lastTicketId) (t.s.lastTicketId + 2)
            (some k) x = .ok (f1, b1, .interrupted) ∧ t1.s = filterSaved t.s x f1) ∨
          (runWhile (filterBody t.s.confirmed t.s.lastTicketId) (t.s.lastTicketId + 2)
            (some k) x = .ok (f1, b1, .completed) ∧ f1.removed ≤ t.s.lastTicketId ∧
            t1.s = filterDone t.s x f1) := hcs
      rcases hcs with ⟨hrun, hs1⟩ | ⟨hrun, hle, hs1⟩
      · -- interrupted: the next call reloads `f1`
        have hnf1 : t1.s.flags.filtered = false := by
          rw [hs1]
          show (filterFlags t.s x.first).filtered = false
          rw [filterFlags_filtered]; exact hnf
        obtain ⟨f, st, hrc, hle, hfin, hst⟩ := ih t1 t' f1 (by rw [hs1]; rfl) hnf1 h hf
        rw [hs1] at hrc hle
        refine ⟨f, st, by rw [runCalls_cons_interrupted (b := b1) hrun]; exact hrc, hle, ?_, ?_⟩
        · rw [hfin, hs1]; exact filterFinal_saved t.s x f1 f st
        · intro hh
          apply hst
          right
          rw [hs1]
          exact filterFlags_started t.s x.first hh
      · -- completed: a further call would be rejected
        cases rest with
        | nil =>
          cases h
          exact ⟨f1, (filterFlags t.s x.first).started, runCalls_cons_completed (b := b1) hrun _,
            hle, by rw [hs1]; exact filterDone_eq_final t.s x f1,
            fun hh => filterFlags_started t.s x.first hh⟩
        | cons c2 rest2 =>
          simp only [filterCalls] at h
          cases hcall2 : filterTickets (t1.withBudget (some c2.2)) c2.1 with
          | error err => rw [hcall2] at h; cases h
          | ok t2 =>
            have h2 : t1.s.flags.filtered = false := (filterTickets_inv _ _ _ hcall2).1.notFiltered
            rw [hs1] at h2; cases h2

/-- **C08, any schedule**: any accepted sequence of calls (any callers, rounds, budgets) that
    completes the step yields the storage of the single call. -/
theorem filterCalls_spec {L : List (Nat × Nat)} (cs : List (Env × Nat)) (t t' : Tx)
    (h : FilterReady L t.s) (hc : filterCalls cs t = .ok t')
    (hf : t'.s.flags.filtered = true) :
    ∃ f, runWhile (filterBody t.s.confirmed t.s.lastTicketId) (t.s.lastTicketId + 2) none
            ⟨t.s.range, t.s.batch, 1, 0⟩ = .ok (f, none, .completed) ∧
      t'.s = filterFinal t.s f true ∧
      t'.s.lastTicketId = confSum t.s.confirmed L ∧
      t'.s.nrWinning = min t.s.nrWinning (confSum t.s.confirmed L) ∧
      Chain (survivors t.s.confirmed L) 1 t'.s.range t'.s.batch ∧
      (∀ p ∈ L, t.s.confirmed p.1 = 0 → t'.s.range p.1 = none) ∧
      (∀ a, a ∉ L.map Prod.fst → t'.s.range a = t.s.range a) := by
  obtain ⟨f, h1, h2, h3, h4, h5, h6, h7, h8⟩ := filter_ready_run h
  obtain ⟨f', st, hrc, _, hfin, hst⟩ :=
    filterCalls_runCalls cs t t' _ (filStOf_ready h) h.notFiltered hc hf
  have hst' : st = true := hst (Or.inl rfl)
  subst hst'
  have hsingle := runCalls_eq_single_fuel _ _ _ _ _ hrc
  have hff : f' = f := runWhile_completed_unique _ _ _ _ _ _ hsingle h1
  subst hff
  refine ⟨f', h1, hfin, ?_, ?_, ?_, ?_, ?_⟩
  · rw [hfin]; exact h5
  · rw [hfin, filterFinal_nrWinning, h5]
  · rw [hfin]; exact h6
  · intro p hp h0; rw [hfin]; exact h7 p hp h0
  · intro a ha; rw [hfin]; exact h8 a ha

theorem filterCalls_eq_single {L : List (Nat × Nat)} (cs : List (Env × Nat)) (t t' t1 : Tx)
    (e : Env) (h : FilterReady L t.s) (hc : filterCalls cs t = .ok t')
    (hf : t'.s.flags.filtered = true) (hb : t.c.budget = none)
    (h1 : filterTickets t e = .ok t1) : t'.s = t1.s := by
  obtain ⟨hp, _⟩ := filterTickets_inv t t1 e h1
  obtain ⟨t2, f2, hcall, hrun2, hs2, _⟩ := filterTickets_single t e h hp hb
  obtain ⟨f, hrun, hs, _⟩ := filterCalls_spec cs t t' h hc hf
  rw [h1] at hcall
  injection hcall with hcall
  subst hcall
  rw [hrun] at hrun2
  injection hrun2 with hrun2
  simp only [Prod.mk.injEq] at hrun2
  rw [hs, hs2, hrun2.1]

/-- Schedule independence without any assumption on the allocation. -/
theorem filterCalls_deterministic (cs cs' : List (Env × Nat)) (t t1 t2 : Tx)
    (hop : t.s.op = .none) (hnf : t.s.flags.filtered = false)
    (h1 : filterCalls cs t = .ok t1) (h2 : filterCalls cs' t = .ok t2)
    (hf1 : t1.s.flags.filtered = true) (hf2 : t2.s.flags.filtered = true) :
    t1.s = t2.s := by
  have hx : filStOf t.s = some ⟨t.s.range, t.s.batch, 1, 0⟩ := by simp only [filStOf, hop]
  obtain ⟨f1, st1, hrc1, _, hfin1, hst1⟩ := filterCalls_runCalls cs t t1 _ hx hnf h1 hf1
  obtain ⟨f2, st2, hrc2, _, hfin2, hst2⟩ := filterCalls_runCalls cs' t t2 _ hx hnf h2 hf2
  have e1 : st1 = true := hst1 (Or.inl rfl)
  have e2 : st2 = true := hst2 (Or.inl rfl)
  have e3 : f1 = f2 := runCalls_deterministic _ _ _ _ _ _ _ _ hrc1 hrc2
  rw [hfin1, hfin2, e1, e2, e3]

/-- The step cannot be left stuck: whatever the budgets (even all `0`), callers and rounds
    (inside the winner-selection stage, contract not paused), it is completed after at most
    `|L| + 1` calls. -/
theorem filterCalls_completes {L : List (Nat × Nat)} (cs : List (Env × Nat)) (t : Tx)
    (h : FilterReady L t.s) (hpa : t.s.paused = false)
    (hst : ∀ c ∈ cs, t.s.stage c.1 = .winnerSelection) (hlen : L.length + 1 ≤ cs.length) :
    ∃ cs1 cs2 t', cs = cs1 ++ cs2 ∧ filterCalls cs1 t = .ok t' ∧
      t'.s.flags.filtered = true := by
  obtain ⟨f, h1, _, h3, _⟩ :=
    LP.filter_spec t.s.confirmed L t.s.range t.s.batch t.s.lastTicketId (L.length + 1)
      h.nodup h.pos h.conf h.chain h.last (Nat.le_refl _)
  have hsum := confSum_add_droppedSum t.s.confirmed L h.conf
  have hl := h.last
  have hfuel := filter_spec_endpoint_fuel L h.pos
  exact filterCalls_completes_gen cs t _ f (L.length + 1) (filStOf_ready h) hpa h.notFiltered
    hst h1 (by omega) (by omega) hlen

/-- Allocation followed by confirmations gives a `FilterReady` storage. -/
theorem filterReady_of_alloc (L : List (Nat × Nat)) (s s' s2 : State)
    (h : createMany L s = .ok s') (h0 : s.lastTicketId = 0) (hpos : ∀ p ∈ L, 1 ≤ p.2)
    (hr : s2.range = s'.range) (hb : s2.batch = s'.batch)
    (hl : s2.lastTicketId = s'.lastTicketId) (hop : s2.op = .none)
    (hnf : s2.flags.filtered = false) (hc : ∀ p ∈ L, s2.confirmed p.1 ≤ p.2) :
    FilterReady L s2 := by
  obtain ⟨h1, _, _, h4, h5, _⟩ := createMany_ok L s s' h
  have hch := h5 hpos
  rw [h0] at hch h4
  exact ⟨h1, hpos, hc, by rw [hr, hb]; simpa using hch, by rw [hl, h4]; omega, hop, hnf⟩

/-- `step` dispatches `.filter` to `filterTickets`, for every variant and caller. -/
theorem step_filter (hash : List Nat → List Nat) (s : State) (e : Env)
    (h1 : e.egld = 0) (h2 : e.esdts = []) :
    step hash s e .filter =
      match filterTickets ⟨s, ⟨e.budget, e.seeds, e.script⟩, {}⟩ e with
      | .error err => .error err
      | .ok t => .ok (t.s, t.o) :=
  LP.step_filter hash s e h1 h2

/-! ### Non-vacuity: four addresses — one removed, one partially kept, two fully kept -/

def exL : List (Nat × Nat) := [(10, 2), (11, 3), (12, 1), (13, 2)]

def exConf (a : Nat) : Nat := if a = 10 then 1 else if a = 12 then 1 else if a = 13 then 2 else 0

def exRange (a : Nat) : Option Range :=
  if a = 10 then some ⟨1, 2⟩ else if a = 11 then some ⟨3, 5⟩
  else if a = 12 then some ⟨6, 6⟩ else if a = 13 then some ⟨7, 8⟩ else none

def exBatch (x : Nat) : Option Batch :=
  if x = 1 then some ⟨10, 2⟩ else if x = 3 then some ⟨11, 3⟩
  else if x = 6 then some ⟨12, 1⟩ else if x = 7 then some ⟨13, 2⟩ else none

example : (exL.map Prod.fst).Nodup := by decide +kernel
example : ∀ p ∈ exL, 1 ≤ p.2 := by decide +kernel
example : ∀ p ∈ exL, exConf p.1 ≤ p.2 := by decide +kernel
example : Chain exL 1 exRange exBatch := ⟨rfl, rfl, rfl, rfl, rfl, rfl, rfl, rfl, trivial⟩
example : ticketTotal exL = 8 ∧ confSum exConf exL = 4 ∧ droppedSum exConf exL = 4 := by decide +kernel
example : survivors exConf exL = [(10, 1), (12, 1), (13, 2)] := by decide +kernel

/-- survivors own [1,1], [2,2], [3,4]; 11 owns nothing -/
example :
    (match runWhile (filterBody exConf 8) 10 none ⟨exRange, exBatch, 1, 0⟩ with
     | .ok (f, _, st) => some (f.first, f.removed, f.range 10, f.range 11, f.range 12,
                               f.range 13, f.batch 1, f.batch 2, f.batch 3, f.batch 6, st)
     | .error _ => none)
    = some (9, 4, some ⟨1, 1⟩, none, some ⟨2, 2⟩, some ⟨3, 4⟩,
            some ⟨10, 1⟩, some ⟨12, 1⟩, some ⟨13, 2⟩, none, .completed) := by
  rfl

/-- the same in three chunks (budgets 0, 1, 5) -/
example :
    (match runCalls (filterBody exConf 8) 10 [0, 1, 5] ⟨exRange, exBatch, 1, 0⟩ with
     | .ok (f, done) => some (f.first, f.removed, f.range 10, f.range 11, f.range 12,
                              f.range 13, done)
     | .error _ => none)
    = some (9, 4, some ⟨1, 1⟩, none, some ⟨2, 2⟩, some ⟨3, 4⟩, true) := by
  rfl

/-- fresh contract, then `exL` allocated, then the confirmations -/
def exS0 : State :=
  { variant := .base, owner := 1, lpTok := 7, perTicket := 100, payTok := .egld, price := 10,
    nrWinning := 5, cfg := ⟨10, 20, 30⟩, flags := { additional := true }, support := 1 }

def exS : State :=
  { exS0 with range := exRange, batch := exBatch, lastTicketId := 8, confirmed := exConf }

def exEnv (caller round : Nat) : Env := { caller := caller, round := round }

example : (match createMany exL exS0 with
           | .ok s => some (s.lastTicketId, s.range 10, s.range 11, s.range 12, s.range 13,
                            s.batch 1, s.batch 3, s.batch 6, s.batch 7, s.batch 2)
           | .error _ => none)
    = some (8, exRange 10, exRange 11, exRange 12, exRange 13,
            exBatch 1, exBatch 3, exBatch 6, exBatch 7, none) := by rfl

example : FilterReady exL exS :=
  ⟨by decide, by decide, by decide, ⟨rfl, rfl, rfl, rfl, rfl, rfl, rfl, rfl, trivial⟩, rfl, rfl,
   rfl⟩

example : FilterPre exS (exEnv 99 25) := ⟨rfl, rfl, rfl⟩

/-- three calls by different callers in different rounds with budgets 0, 1, 5 -/
example :
    (match filterCalls [(exEnv 5 20, 0), (exEnv 6 22, 1), (exEnv 7 29, 5)] ⟨exS, {}, {}⟩ with
     | .ok t => some (t.s.lastTicketId, t.s.nrWinning, t.s.flags.filtered, t.s.range 10,
                      t.s.range 11, t.s.range 12, t.s.range 13, t.o.ret)
     | .error _ => none)
    = some (4, 4, true, some ⟨1, 1⟩, none, some ⟨2, 2⟩, some ⟨3, 4⟩, [0]) := by
  rfl

/-- the single call -/
example :
    (match filterTickets ⟨exS, {}, {}⟩ (exEnv 5 20) with
     | .ok t => some (t.s.lastTicketId, t.s.nrWinning, t.s.flags.filtered, t.s.range 10,
                      t.s.range 11, t.s.range 12, t.s.range 13, t.o.ret)
     | .error _ => none)
    = some (4, 4, true, some ⟨1, 1⟩, none, some ⟨2, 2⟩, some ⟨3, 4⟩, [0]) := by
  rfl

end LP.Props.C08

#print axioms LP.Props.C08.alloc_spec
#print axioms LP.Props.C08.alloc_succeeds_iff
#print axioms LP.Props.C08.alloc_partition
#print axioms LP.Props.C08.filter_spec
#print axioms LP.Props.C08.filter_spec_endpoint_fuel
#print axioms LP.Props.C08.filter_partition
#print axioms LP.Props.C08.survivors_sound
#print axioms LP.Props.C08.sums
#print axioms LP.Props.C08.filter_chunks_no_error
#print axioms LP.Props.C08.filter_chunks_complete
#print axioms LP.Props.C08.filterTickets_single
#print axioms LP.Props.C08.filterTickets_save_reload
#print axioms LP.Props.C08.filterCalls_runCalls
#print axioms LP.Props.C08.filterCalls_spec
#print axioms LP.Props.C08.filterCalls_eq_single
#print axioms LP.Props.C08.filterCalls_deterministic
#print axioms LP.Props.C08.filterCalls_completes
#print axioms LP.Props.C08.filterReady_of_alloc
#print axioms LP.Props.C08.step_filter
