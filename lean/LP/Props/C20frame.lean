import LP.Props.C20
/-
  C20 (completeness) — which endpoints emit, and the topics of everything that is emitted.

  `C20.emitting` lists eleven endpoints (confirm, setTicketPrice, filter, select, distribute, v2
  addTickets, blacklist, refundUsers, unblacklist, setSchedule2, claim); `pause` / `unpause` emit one
  topic-less event each.  Here:
  * `no_events_of_not_emitting`  the remaining eighteen endpoints (addTickets, addTicketsV1, deposit,
    setPerTicket, setConfStart, setSelStart, setClaimStart, setSupport, claimPayment, setSchedule1,
    confirmNft, selectNft, secondary, setNftCost, issueSft, createSfts, setTransferRole, sftSetup)
    emit nothing;
  * `pause_events`, `unpause_events`  the two pause events, exactly;
  * `all_events_indexed`  for every accepted call of every variant, every emitted event other than
    the two pause events carries the topics `[caller, round, epoch]` of the transaction.
  All four are read off the table `eventsOf` of `LP/Props/C20.lean` (`step_events`).
-/
namespace LP.Props.C20frame
open LP LP.Events LP.Props.C20

/-- **completeness of `emitting`**: an accepted call of any endpoint outside `emitting`, other than
    `pause`/`unpause`, emits no event -/
theorem no_events_of_not_emitting (hash : List Nat → List Nat) (s s' : State) (e : Env) (c : Call) (o : Out)
    (h : step hash s e c = .ok (s', o)) (hc : emitting c = false) (h1 : c ≠ .pause) (h2 : c ≠ .unpause) :
    o.events = [] := by
  rw [step_events h]
  cases c <;> first | rfl | (cases hc; done) | exact absurd rfl h1 | exact absurd rfl h2

/-- `pause` emits exactly the topic-less `pauseContract` event -/
theorem pause_events (hash : List Nat → List Nat) (s s' : State) (e : Env) (o : Out)
    (h : step hash s e .pause = .ok (s', o)) : o.events = [⟨"pauseContract", [], []⟩] :=
  step_events h

/-- `unpause` emits exactly the topic-less `unpauseContract` event -/
theorem unpause_events (hash : List Nat → List Nat) (s s' : State) (e : Env) (o : Out)
    (h : step hash s e .unpause = .ok (s', o)) : o.events = [⟨"unpauseContract", [], []⟩] :=
  step_events h

/-- **all events are indexed**: for every accepted call (every endpoint, every variant), every
    emitted event is one of the two topic-less pause events or has topics
    `[e.caller, e.round, e.epoch]` -/
theorem all_events_indexed (hash : List Nat → List Nat) (s s' : State) (e : Env) (c : Call) (o : Out)
    (h : step hash s e c = .ok (s', o)) :
    ∀ ev ∈ o.events,
      (c = .pause ∧ ev = ⟨"pauseContract", [], []⟩) ∨ (c = .unpause ∧ ev = ⟨"unpauseContract", [], []⟩) ∨
      ev.topics = [e.caller, e.round, e.epoch] :=
  fun ev hev => (eventsOf_shape s s' e c ev (step_events h ▸ hev)).2

/-! ### non-vacuity -/

/-- an accepted silent call (the owner deposits the launchpad tokens) -/
example : ∃ s' o, step (fun x => x)
      { variant := .base, owner := 1, lpTok := 1, perTicket := 1, payTok := .egld, price := 10,
        nrWinning := 1, cfg := ⟨5, 10, 15⟩, flags := {}, support := 2 }
      { caller := 1, round := 2, esdts := [⟨.esdt 1, 0, 1⟩] } .deposit = .ok (s', o) ∧
      emitting .deposit = false ∧ o.events = [] :=
  ⟨_, _, rfl, rfl, rfl⟩

end LP.Props.C20frame

#print axioms LP.Props.C20frame.no_events_of_not_emitting
#print axioms LP.Props.C20frame.pause_events
#print axioms LP.Props.C20frame.unpause_events
#print axioms LP.Props.C20frame.all_events_indexed
