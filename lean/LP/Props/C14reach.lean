import LP.Proofs.ReachNft
import LP.Proofs.ReachOf
import LP.Proofs.ReachOfLp
import LP.Props.C01reach
/-
  C14 / C01 on the reachable states of `Variant.nft`, launchpad-with-nft: `Reach hash .nft s r`
  (LP/Proofs/ReachPlain.lean), i.e. accepted transactions with non-decreasing rounds, each carrying
  EGLD or ESDT but not both (`EnvOK`), every `addTickets` entry allocating at least one ticket
  (`CallOK`); the SFT set-up is the environment action `sftSetup`; `filter`, `select`, `selectNft`
  may carry any budget, so interrupted and resumed calls are covered.
  Nothing is assumed about the tokens along the history: `setNftCost` / `setTicketPrice` may change
  the fee / payment token in the AddTickets stage (the contract then holds nothing but launchpad
  tokens, so nothing is mis-attributed).  A theorem has at most a hypothesis on the current state:
  `FeeTokenSeparate s` (configuration a) or `FeeInPayToken s` (configuration b, e.g. EGLD / EGLD);
  `C14_solvent_general` covers both.  That the two are exhaustive, because the fee token is never
  the launchpad token, is in LP/Props/C14feeLp.lean.
-/
namespace LP.Props.C14reach
open LP LP.FY LP.Props.C09 LP.Props.C14 LP.Props.C01reach LP.Props.AllVariants

/-! ### the payment-token ledger and the fee ledger, by configuration of the fee -/

theorem feeInPay_eq (s : State) : feeInPay s = (nf_side s).feeIn := rfl

/-- C14, general form: in every reachable state the payment-token holdings are exactly the ticket
    ledger plus the NFT fees held in the same slot -/
theorem C14_solvent_general (hash : List Nat → List Nat) (s : State) (r : Nat)
    (h : Reach hash .nft s r) :
    ∃ L : List Nat, Covers s L ∧
      (¬ AllDone s → s.bal s.payTok 0 = s.price * sumOver s.confirmed L + feeInPay s) ∧
      (AllDone s → s.bal s.payTok 0 = s.claimablePayment + sumOver (refundDue s) L + feeInPay s) :=
  (ReachOf.of_nft h).solvent rfl

/-- C14 (a), fee token separate: the ticket-payment ledger is that of the plain launchpad -/
theorem C14a_solvent_separate (hash : List Nat → List Nat) (s : State) (r : Nat)
    (h : Reach hash .nft s r) (hsep : FeeTokenSeparate s) :
    ∃ L : List Nat, Covers s L ∧ (¬ AllDone s → PayEqPre s L) ∧ (AllDone s → PayEqPost s L) :=
  (nf_reach_facts h).solvent_separate hsep

/-- C14 (a), the fee ledger: holdings of the fee token = fee × (payers + drawn) before the draw
    completes, = claimableNft + fee × remaining losing payers afterwards -/
theorem C14a_fee_ledger (hash : List Nat → List Nat) (s : State) (r : Nat)
    (h : Reach hash .nft s r) (hsep : FeeTokenSeparate s) : feeBal s = feeHeld s :=
  (nf_reach_facts h).fee_ledger hsep

/-- C14 (a): both tokens reconcile to zero after all claims and the owner's withdrawal -/
theorem C14a_nothing_left (hash : List Nat → List Nat) (s : State) (r : Nat)
    (h : Reach hash .nft s r) (hsep : FeeTokenSeparate s) (hd : AllDone s)
    (hall : ∀ a, s.range a = none) (hcp : s.claimablePayment = 0) (hcn : s.claimableNft = 0) :
    s.bal s.payTok 0 = 0 ∧ feeBal s = 0 := by
  obtain ⟨h1, h2⟩ := (nf_reach_facts h).nothing_left hd hall hcp hcn
  exact ⟨h1, h2 hsep.2⟩

/-- once the draw is complete the fee liability contains the owner's NFT proceeds and the refund of
    any one remaining payer -/
theorem feeHeld_payer {s : State} (hd : s.flags.additional = true) {a : Nat} (ha : a ∈ s.payers) :
    s.claimableNft + s.nftCost.amount ≤ feeHeld s := by
  unfold feeHeld
  rw [hd, if_pos rfl]
  have : 0 < s.payers.length := List.length_pos_of_mem ha
  have := Nat.mul_le_mul_left s.nftCost.amount this
  omega

/-- (a) the fee refund of a losing payer and the owner's NFT proceeds are covered -/
theorem fee_refund_covered_separate (hash : List Nat → List Nat) (s : State) (r : Nat)
    (h : Reach hash .nft s r) (hsep : FeeTokenSeparate s) (hd : AllDone s) (a : Nat)
    (ha : a ∈ s.payers) : s.claimableNft + s.nftCost.amount ≤ feeBal s :=
  C14a_fee_ledger hash s r h hsep ▸ feeHeld_payer hd.2 ha

/-- combined ledger before completion (configuration b) -/
def CombinedPre (s : State) (L : List Nat) : Prop :=
  s.bal s.payTok 0 = s.price * sumOver s.confirmed L +
    s.nftCost.amount * (s.payers.length + s.nftWinners.length)

/-- combined ledger after completion (configuration b) -/
def CombinedPost (s : State) (L : List Nat) : Prop :=
  s.bal s.payTok 0 = s.claimablePayment + sumOver (refundDue s) L +
    s.claimableNft + s.nftCost.amount * s.payers.length

/-- C14 (b), fee token = ticket-payment token: the combined ledger -/
theorem C14b_solvent_same (hash : List Nat → List Nat) (s : State) (r : Nat)
    (h : Reach hash .nft s r) (hsame : FeeInPayToken s) :
    ∃ L : List Nat, Covers s L ∧ (¬ AllDone s → CombinedPre s L) ∧ (AllDone s → CombinedPost s L) :=
  (nf_reach_facts h).solvent_same hsame

/-- C14 (b): nothing is left after all claims and the owner's withdrawal -/
theorem C14b_nothing_left (hash : List Nat → List Nat) (s : State) (r : Nat)
    (h : Reach hash .nft s r) (hsame : FeeInPayToken s) (hd : AllDone s)
    (hall : ∀ a, s.range a = none) (hcp : s.claimablePayment = 0) (hcn : s.claimableNft = 0) :
    s.bal s.payTok 0 = 0 :=
  ((nf_reach_facts h).nothing_left hd hall hcp hcn).1

/-! ### the NFT lists, the draw, the claim categories -/

/-- in every reachable state the two lists are duplicate-free and disjoint (`NftOk`), at most
    `availNfts` are drawn, every payer / drawn participant has confirmed tickets, nobody is drawn
    before the base lottery is complete, settled participants are in neither list, nobody has
    settled before the draw is complete -/
theorem nft_lists_reach (hash : List Nat → List Nat) (s : State) (r : Nat)
    (h : Reach hash .nft s r) :
    NftOk s ∧ s.nftWinners.length ≤ s.availNfts ∧
    (∀ a, a ∈ s.payers ∨ a ∈ s.nftWinners → 0 < s.confirmed a) ∧
    (s.flags.selected = false → s.nftWinners = []) ∧
    (∀ a, s.claimed a = true → a ∉ s.payers ∧ a ∉ s.nftWinners) ∧
    (s.flags.additional = false → ∀ a, s.claimed a = false) := by
  obtain ⟨T0, hwf⟩ := h.nf
  have hs := hwf.side
  exact ⟨⟨hs.nodupP, hs.nodupW, hs.disj⟩, hs.winLe, hs.conf, hs.noWin, hs.claimedOut, hs.fresh⟩

theorem claimed_not_listed (hash : List Nat → List Nat) (s : State) (r : Nat)
    (h : Reach hash .nft s r) (a : Nat) (hc : s.claimed a = true) :
    a ∉ s.payers ∧ a ∉ s.nftWinners :=
  (nft_lists_reach hash s r h).2.2.2.2.1 a hc

/-- the call that completes the draw, whatever interrupted calls came before: the winners are
    `min availNfts (participants)`, distinct, all participants, disjoint from the remaining
    payers, and `claimableNft = fee × winners` -/
theorem draw_completion_reach (hash : List Nat → List Nat) (s : State) (r : Nat)
    (h : Reach hash .nft s r) (e : Env) (s' : State) (o : Out)
    (hs : step hash s e .selectNft = .ok (s', o)) (hdone : s'.flags.additional = true) :
    s'.nftWinners.length = min s.availNfts (s.payers.length + s.nftWinners.length) ∧
    s'.claimableNft = s.nftCost.amount * s'.nftWinners.length ∧
    NftOk s' ∧ (∀ a, (a ∈ s'.payers ∨ a ∈ s'.nftWinners) ↔ (a ∈ s.payers ∨ a ∈ s.nftWinners)) ∧
    s.nftWinners <+: s'.nftWinners ∧ AllDone s' ∧ o.ret = [0] := by
  obtain ⟨hok, hle, _⟩ := nft_lists_reach hash s r h
  obtain ⟨_, hsel, _, hok', _, _, _, _, hun, hpre, hret, hfin, _⟩ :=
    selectNft_call hash s e s' o hs hok hle
  obtain ⟨f1, f2⟩ := hfin hdone
  exact ⟨f1, f2, hok', hun, hpre, ⟨(step_flags_gain hs).1 hsel, hdone⟩, hret.mp hdone⟩

/-- from the start of the filter until the draw completes, `payers ∪ nftWinners`, its size, the
    fee and `availNfts` are constant and drawn participants stay drawn -/
theorem participants_frozen (hash : List Nat → List Nat) (a0 : InitArgs) (s : State) (r : Nat)
    (h : ReachA hash .nft a0 s r) (hstd : s.flags.started = true) (s2 : State) (r2 : Nat)
    (hl : nf_Later hash s r s2 r2) (hna : s2.flags.additional = false) :
    nf_Frozen s s2 :=
  ((ReachOfA.later_frozen (v := .nft) rfl h hstd (nf_later_iff.mp hl)).2 hna).1

/-- C14, the draw end to end: `s` is a reachable state after the filter has started and before the
    base lottery is complete, so `s.payers` are the fee payers when the draw starts.  After any
    accepted calls (interrupted `filter` / `select` / `selectNft` with any budgets included) the
    `selectNft` call that completes the draw leaves `min availNfts (number of fee payers)`
    winners, distinct, all fee payers; the others remain in `payers`; the owner's NFT proceeds
    are fee × winners -/
theorem draw_end_to_end (hash : List Nat → List Nat) (a0 : InitArgs) (s : State) (r : Nat)
    (h : ReachA hash .nft a0 s r) (hstd : s.flags.started = true) (hns : s.flags.selected = false)
    (s1 : State) (r1 : Nat) (hl : nf_Later hash s r s1 r1)
    (e : Env) (s2 : State) (o : Out)
    (hs : step hash s1 e .selectNft = .ok (s2, o)) (hdone : s2.flags.additional = true) :
    s2.nftWinners.length = min s.availNfts s.payers.length ∧
    s2.claimableNft = s.nftCost.amount * s2.nftWinners.length ∧
    s2.nftWinners.Nodup ∧ s2.payers.Nodup ∧ (∀ a, a ∈ s2.payers → a ∉ s2.nftWinners) ∧
    (∀ a, (a ∈ s2.payers ∨ a ∈ s2.nftWinners) ↔ a ∈ s.payers) ∧
    s2.payers.length + s2.nftWinners.length = s.payers.length := by
  obtain ⟨hr1, hfz⟩ := ReachOfA.later_frozen (v := .nft) rfl h hstd (nf_later_iff.mp hl)
  have hreach1 : Reach hash .nft s1 r1 := Reach_iff.mpr ⟨a0, hr1⟩
  have hw0 : s.nftWinners = [] := (nf_reach_WF h).side.noWin hns
  obtain ⟨hok1, hle1, _⟩ := nft_lists_reach hash s1 r1 hreach1
  obtain ⟨_, _, hna1, hok2, _, _, _, hlen2, hun2, _, _, hfin, _⟩ :=
    selectNft_call hash s1 e s2 o hs hok1 hle1
  obtain ⟨hF, _⟩ := hfz hna1
  obtain ⟨f1, f2⟩ := hfin hdone
  exact hF.draw_end hw0 f1 f2 hok2 hun2 hlen2

/-- C14, claim categories: an accepted `claim` in a reachable state (which is then `AllDone`) hands
    out exactly one SFT: category 1 iff drawn, 2 iff paid the fee and not drawn (then, and only
    then, the full fee is refunded), 3 iff the caller never paid the fee; the caller leaves the
    list it was in -/
theorem claim_category_reach (hash : List Nat → List Nat) (s : State) (r : Nat)
    (h : Reach hash .nft s r) (e : Env) (s' : State) (o : Out)
    (hs : step hash s e .claim = .ok (s', o)) :
    AllDone s ∧ s.claimed e.caller = false ∧
    ∃ k, o.sfts = [(e.caller, k)] ∧
      (k = 1 ↔ e.caller ∈ s.nftWinners) ∧ (k = 2 ↔ e.caller ∈ s.payers) ∧
      (k = 3 ↔ e.caller ∉ s.nftWinners ∧ e.caller ∉ s.payers) ∧ (k = 1 ∨ k = 2 ∨ k = 3) ∧
      o.xfers = refundXfers s e.caller ++ tokenXfers s e.caller ++
        (if k = 2 then [(e.caller, s.nftCost)] else []) ∧
      e.caller ∉ s'.payers ∧ e.caller ∉ s'.nftWinners ∧ s'.claimed e.caller = true ∧ NftOk s' :=
  (nf_reach_facts h).claim_category hs

/-! ### tickets: the three counts, refunds covered, the number of winners -/

/-- C01, after completion: the winning tickets still held add up to `nrWinning`, nobody holds more
    winning than confirmed tickets, every range has exactly `confirmed` tickets -/
theorem three_counts_nft (hash : List Nat → List Nat) (s : State) (r : Nat)
    (h : Reach hash .nft s r) (hd : AllDone s) :
    ∃ L : List Nat, Covers s L ∧
      s.bal s.payTok 0 = s.claimablePayment + sumOver (refundDue s) L + feeInPay s ∧
      sumOver (winCountOf s) L = s.nrWinning ∧
      (∀ a, winCountOf s a ≤ s.confirmed a) ∧
      (∀ a rg, s.range a = some rg → a ∈ L ∧ rangeLen rg = s.confirmed a) :=
  (ReachOf.of_nft h).three_counts hd rfl

/-- after completion the payment-token holdings cover the owner's recorded proceeds, the ticket
    refund of any participant who still has a range, and all NFT fees held in the same slot -/
theorem claim_refund_covered_nft (hash : List Nat → List Nat) (s : State) (r : Nat)
    (h : Reach hash .nft s r) (hd : AllDone s) (a : Nat) (rg : Range) (hr : s.range a = some rg) :
    s.claimablePayment + s.price * (s.confirmed a - winCountOf s a) + feeInPay s
      ≤ s.bal s.payTok 0 :=
  (ReachOf.of_nft h).refund_covered hd hr rfl

/-- (b) with the fee in the payment token: ticket refund, the full fee refund of a losing payer
    and both of the owner's withdrawals are covered together -/
theorem claim_refund_covered_same (hash : List Nat → List Nat) (s : State) (r : Nat)
    (h : Reach hash .nft s r) (hsame : FeeInPayToken s) (hd : AllDone s) (a : Nat) (rg : Range)
    (hr : s.range a = some rg) (ha : a ∈ s.payers) :
    s.claimablePayment + s.price * (s.confirmed a - winCountOf s a) + s.claimableNft +
      s.nftCost.amount ≤ s.bal s.payTok 0 := by
  have h1 := claim_refund_covered_nft hash s r h hd a rg hr
  have h2 := feeHeld_payer hd.2 ha
  have hz : feeInPay s = feeHeld s := if_pos hsame
  omega

theorem three_counts_nft_separate (hash : List Nat → List Nat) (s : State) (r : Nat)
    (h : Reach hash .nft s r) (hd : AllDone s) (hsep : FeeTokenSeparate s) :
    ∃ L : List Nat, Covers s L ∧ PayEqPost s L ∧ sumOver (winCountOf s) L = s.nrWinning ∧
      (∀ a, winCountOf s a ≤ s.confirmed a) ∧
      (∀ a rg, s.range a = some rg → a ∈ L ∧ rangeLen rg = s.confirmed a) :=
  (nf_reach_facts h).three_counts_separate hd hsep

/-- C01, at the completion of the base lottery: winning flags = `nrWinning` =
    `min (configured winners) (confirmed tickets)`, proceeds = price × winners -/
theorem three_counts_at_completion_nft (hash : List Nat → List Nat) (a0 : InitArgs) (s : State)
    (r : Nat) (h : ReachA hash .nft a0 s r) (e : Env) (s' : State) (o : Out)
    (hs : step hash s e .select = .ok (s', o)) (hsel : s'.flags.selected = true) :
    countTrue s'.status s'.lastTicketId = s'.nrWinning ∧
    s'.nrWinning = min a0.nrWinning s'.lastTicketId ∧
    s'.claimablePayment = s'.price * s'.nrWinning ∧
    (∀ t, s'.status t = true → 1 ≤ t ∧ t ≤ s'.lastTicketId) :=
  nf_select_completion (nf_reach_WF h) hs hsel

/-- until the filter completes the winners count is the configured one -/
theorem winners_before_filter_nft (hash : List Nat → List Nat) (a0 : InitArgs) (s : State) (r : Nat)
    (h : ReachA hash .nft a0 s r) (hf : s.flags.filtered = false) : s.nrWinning = a0.nrWinning :=
  (nf_reach_WF h).nrw_before_filter hf

/-! Non-vacuity: a history through the whole lifecycle in configuration (b), EGLD / EGLD. -/

def nArgs : InitArgs :=
  { lpTok := 1, perTicket := 5, payTok := .egld, price := 10, nrWinning := 1, conf := 5, sel := 10,
    claim := 15, nftCost := ⟨.egld, 0, 3⟩, availNfts := 1 }

def n0 : State := match init .nft nArgs { caller := 1, round := 0 } with
  | .ok s => s
  | .error _ => default

def n1 : State := stOf (step id n0 { caller := 1, round := 1 } (.addTickets [(7, 2), (8, 1)])) n0
def n2 : State := stOf (step id n1 { caller := 1, round := 2, esdts := [⟨.esdt 1, 0, 5⟩] } .deposit) n1
def n3 : State := stOf (step id n2 { caller := 9, round := 3 } .sftSetup) n2
def n4 : State := stOf (step id n3 { caller := 7, round := 5, egld := 20 } (.confirm 2)) n3
def n5 : State := stOf (step id n4 { caller := 8, round := 6, egld := 10 } (.confirm 1)) n4
def n6 : State := stOf (step id n5 { caller := 7, round := 7, egld := 3 } .confirmNft) n5
def n7 : State := stOf (step id n6 { caller := 8, round := 8, egld := 3 } .confirmNft) n6
def n8 : State := stOf (step id n7 { caller := 9, round := 10, budget := some 0 } .filter) n7
def n9 : State := stOf (step id n8 { caller := 9, round := 11 } .filter) n8
def n10 : State := stOf (step id n9 { caller := 9, round := 12 } .select) n9
def n11 : State := stOf (step id n10 { caller := 9, round := 13, budget := some 0 } .selectNft) n10
def n12 : State := stOf (step id n11 { caller := 9, round := 14 } .selectNft) n11
def n13 : State := stOf (step id n12 { caller := 7, round := 15 } .claim) n12
def n14 : State := stOf (step id n13 { caller := 1, round := 16 } .claimPayment) n13
def n15 : State := stOf (step id n14 { caller := 8, round := 17 } .claim) n14

theorem n0_reach : Reach id .nft n0 0 := Reach.init nArgs { caller := 1, round := 0 } n0 rfl

theorem n7_reach : Reach id .nft n7 8 :=
  Reach.callOk { caller := 8, round := 8, egld := 3 } .confirmNft
    (Reach.callOk { caller := 7, round := 7, egld := 3 } .confirmNft
      (Reach.callOk { caller := 8, round := 6, egld := 10 } (.confirm 1)
        (Reach.callOk { caller := 7, round := 5, egld := 20 } (.confirm 2)
          (Reach.callOk { caller := 9, round := 3 } .sftSetup
            (Reach.callOk { caller := 1, round := 2, esdts := [⟨.esdt 1, 0, 5⟩] } .deposit
              (Reach.callOk { caller := 1, round := 1 } (.addTickets [(7, 2), (8, 1)])
                n0_reach (by decide) (Or.inl rfl) (by show ∀ p ∈ [(7, 2), (8, 1)], 1 ≤ p.2; decide)
                  (by decide +kernel))
              (by decide) (Or.inl rfl) trivial (by decide +kernel))
            (by decide) (Or.inl rfl) trivial (by decide +kernel))
          (by decide) (Or.inr rfl) trivial (by decide +kernel))
        (by decide) (Or.inr rfl) trivial (by decide +kernel))
      (by decide) (Or.inr rfl) trivial (by decide +kernel))
    (by decide) (Or.inr rfl) trivial (by decide +kernel)

theorem n9_reach : Reach id .nft n9 11 :=
  Reach.callOk { caller := 9, round := 11 } .filter
    (Reach.callOk { caller := 9, round := 10, budget := some 0 } .filter n7_reach
      (by decide) (Or.inl rfl) trivial (by decide +kernel))
    (by decide) (Or.inl rfl) trivial (by decide +kernel)

theorem n10_ok : isOk (step id n9 { caller := 9, round := 12 } .select) = true := by decide +kernel
theorem n11_ok : isOk (step id n10 { caller := 9, round := 13, budget := some 0 } .selectNft) = true := by
  decide +kernel
theorem n12_ok : isOk (step id n11 { caller := 9, round := 14 } .selectNft) = true := by decide +kernel

/-- `n10`: the base lottery is complete, the NFT draw has not started -/
theorem n10_reachable : Reach id .nft n10 12 :=
  Reach.callOk _ _ n9_reach (by decide) (Or.inl rfl) trivial n10_ok

/-- `n11`: the NFT draw is interrupted -/
theorem n11_reachable : Reach id .nft n11 13 :=
  Reach.callOk _ _ n10_reachable (by decide) (Or.inl rfl) trivial n11_ok

/-- two participants who both pay the fee, one NFT, an interrupted filter call, an interrupted and
    a completing draw call -/
theorem n12_reach : Reach id .nft n12 14 :=
  Reach.callOk _ _ n11_reachable (by decide) (Or.inl rfl) trivial n12_ok

theorem step_stOf {x : Res (State × Out)} (h : isOk x = true) (d : State) :
    ∃ o, x = .ok (stOf x d, o) :=
  LP.Props.C01reach.stOf_spec h d

/-- `draw_end_to_end` from `n9` (filter complete, base lottery not yet run) through `select`, an
    interrupted and a completing `selectNft` -/
example : n12.nftWinners.length = min n9.availNfts n9.payers.length ∧
    n12.claimableNft = n9.nftCost.amount * n12.nftWinners.length := by
  obtain ⟨a0, h⟩ := Reach_iff.mp n9_reach
  obtain ⟨o1, h1⟩ := step_stOf n10_ok n9
  obtain ⟨o2, h2⟩ := step_stOf n11_ok n10
  obtain ⟨o3, h3⟩ := step_stOf n12_ok n11
  have hl : nf_Later id n9 11 n11 13 :=
    nf_Later.call n10 12 { caller := 9, round := 13, budget := some 0 } .selectNft n11 o2
      (nf_Later.call n9 11 { caller := 9, round := 12 } .select n10 o1 nf_Later.refl
        (by decide) (Or.inl rfl) trivial h1)
      (by decide) (Or.inl rfl) trivial h2
  obtain ⟨e1, e2, _⟩ := draw_end_to_end id a0 n9 11 h (by decide +kernel) (by decide +kernel) n11 13 hl
    { caller := 9, round := 14 } n12 o3 h3 (by decide +kernel)
  exact ⟨e1, e2⟩

theorem n13_ok : isOk (step id n12 { caller := 7, round := 15 } .claim) = true := by decide +kernel
theorem n14_ok : isOk (step id n13 { caller := 1, round := 16 } .claimPayment) = true := by decide +kernel
theorem n15_ok : isOk (step id n14 { caller := 8, round := 17 } .claim) = true := by decide +kernel

theorem n13_reach : Reach id .nft n13 15 :=
  Reach.callOk _ _ n12_reach (by decide) (Or.inl rfl) trivial n13_ok

theorem n14_reach : Reach id .nft n14 16 :=
  Reach.callOk _ _ n13_reach (by decide) (Or.inl rfl) trivial n14_ok

theorem n15_reach : Reach id .nft n15 17 :=
  Reach.callOk _ _ n14_reach (by decide) (Or.inl rfl) trivial n15_ok

theorem n12_fee : FeeInPayToken n12 := by decide +kernel

theorem n12_done : AllDone n12 := by unfold AllDone; decide +kernel

example : FeeInPayToken n12 ∧ AllDone n12 := ⟨n12_fee, n12_done⟩

example : n7.bal .egld 0 = 36 ∧ n7.payers = [7, 8] ∧
    n11.flags.additional = false ∧ n11.payers = [8] ∧ n11.nftWinners = [7] ∧
    n12.nftWinners = [7] ∧ n12.claimableNft = 3 ∧ n12.bal .egld 0 = 36 := by decide +kernel

example : n13.bal .egld 0 = 26 ∧ n14.bal .egld 0 = 13 ∧ n15.bal .egld 0 = 0 ∧
    n15.payers = [] ∧ n15.nftWinners = [] := by decide +kernel

example : ∃ L : List Nat, Covers n12 L ∧ CombinedPost n12 L := by
  obtain ⟨L, h1, _, h3⟩ := C14b_solvent_same id n12 14 n12_reach n12_fee
  exact ⟨L, h1, h3 n12_done⟩

/-- a state in configuration (a) -/
example : FeeTokenSeparate
    { variant := .nft, owner := 1, lpTok := 1, perTicket := 1, payTok := .egld, price := 10,
      nrWinning := 1, cfg := ⟨5, 10, 15⟩, flags := {}, support := 1,
      nftCost := ⟨.esdt 9, 0, 500⟩ } := by
  constructor <;> decide

end LP.Props.C14reach

#print axioms LP.Props.C14reach.C14_solvent_general
#print axioms LP.Props.C14reach.C14a_solvent_separate
#print axioms LP.Props.C14reach.C14a_fee_ledger
#print axioms LP.Props.C14reach.C14a_nothing_left
#print axioms LP.Props.C14reach.feeHeld_payer
#print axioms LP.Props.C14reach.fee_refund_covered_separate
#print axioms LP.Props.C14reach.C14b_solvent_same
#print axioms LP.Props.C14reach.C14b_nothing_left
#print axioms LP.Props.C14reach.nft_lists_reach
#print axioms LP.Props.C14reach.claimed_not_listed
#print axioms LP.Props.C14reach.draw_completion_reach
#print axioms LP.Props.C14reach.participants_frozen
#print axioms LP.Props.C14reach.draw_end_to_end
#print axioms LP.Props.C14reach.claim_category_reach
#print axioms LP.Props.C14reach.three_counts_nft
#print axioms LP.Props.C14reach.three_counts_nft_separate
#print axioms LP.Props.C14reach.claim_refund_covered_nft
#print axioms LP.Props.C14reach.claim_refund_covered_same
#print axioms LP.Props.C14reach.three_counts_at_completion_nft
#print axioms LP.Props.C14reach.winners_before_filter_nft
#print axioms LP.Props.C14reach.n10_reachable
#print axioms LP.Props.C14reach.n11_reachable
#print axioms LP.Props.C14reach.n12_reach
#print axioms LP.Props.C14reach.n15_reach
#print axioms LP.Props.C14reach.feeInPay_eq
#print axioms LP.Props.C14reach.n0_reach
#print axioms LP.Props.C14reach.n7_reach
#print axioms LP.Props.C14reach.n9_reach
#print axioms LP.Props.C14reach.n13_reach
#print axioms LP.Props.C14reach.n14_reach
#print axioms LP.Props.C14reach.step_stOf
