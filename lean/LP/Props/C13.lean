import LP.Proofs.ClaimVested
/-
  C13 — vesting schedules (crates 4 = v1, 5 = v2): which schedules are accepted, how the
  unlocked percentage behaves, and that what a winner has received after any sequence of
  claims depends on the round of the last claim only.

  Percentages are basis points, `MAX_PERCENTAGE = 10000`; `entitled E p = E * p / 10000`.
  `26280000` is `MAX_RELEASE_ROUND_DIFF` and `60` is `MAX_UNLOCK_MILESTONES_ENTRIES`
  (launchpad-guaranteed-tickets-v2/src/token_release.rs:8, :7).
-/
namespace LP

/-! ## Acceptance of a v2 schedule -/

/-- `UnlockSchedule::validate`, characterised. -/
theorem v2_schedule_accepted_iff (now : Nat) (ms : List (Nat × Nat)) :
    validSchedule2 now ms = true ↔
      ms ≠ [] ∧
      (∀ m ∈ ms, m.2 ≤ 10000 ∧ now ≤ m.1 ∧ m.1 ≤ now + 26280000) ∧
      ms.Pairwise (fun a b => a.1 ≤ b.1) ∧
      (ms.map (·.2)).sum = 10000 :=
  validSchedule2_iff' now ms

example : validSchedule2 5 [(5, 2500), (5, 0), (100, 7500)] = true := by decide
example : validSchedule2 5 [(100, 2500), (50, 7500)] = false := by decide

/-- The endpoint: besides storing `ms` and emitting one event, nothing in the state changes. -/
theorem setSchedule2_accepted_iff (t t' : Tx) (e : Env) (ms : List (Nat × Nat)) :
    setSchedule2 t e ms = .ok t' ↔
      t.s.stage e = .addTickets ∧ ms.length ≤ 60 ∧ validSchedule2 e.round ms = true ∧
      t' = (t.setS { t.s with sched2 := some ms }).emit ⟨"setUnlockSchedule", topics e,
        [e.caller, e.round, e.epoch, ms.length] ++ flattenPairs ms⟩ :=
  setSchedule2_eq_ok t t' e ms

theorem setSchedule2_accepted {t t' : Tx} {e : Env} {ms : List (Nat × Nat)}
    (h : setSchedule2 t e ms = .ok t') :
    t.s.stage e = .addTickets ∧ ms.length ≤ 60 ∧
    (ms ≠ [] ∧ (∀ m ∈ ms, m.2 ≤ 10000 ∧ e.round ≤ m.1 ∧ m.1 ≤ e.round + 26280000) ∧
      ms.Pairwise (fun a b => a.1 ≤ b.1) ∧ (ms.map (·.2)).sum = 10000) ∧
    t'.s.sched2 = some ms ∧ t'.s = { t.s with sched2 := some ms } := by
  obtain ⟨h1, h2, h3, rfl⟩ := (setSchedule2_eq_ok t t' e ms).1 h
  exact ⟨h1, h2, (v2_schedule_accepted_iff _ _).1 h3, rfl, rfl⟩

/-! ## The v2 unlocked percentage -/

/-- For non-decreasing release rounds the early `break` of the Rust loop loses nothing: the
    result is the sum over ALL reached milestones.  (Monotonicity and the upper bound need no
    order, see `unlockedPct2_mono`, `unlockedPct2_le_sum`.) -/
theorem unlockedPct2_props (ms : List (Nat × Nat)) (hs : ms.Pairwise (fun a b => a.1 ≤ b.1)) :
    (∀ now now', now ≤ now' → unlockedPct2 now ms ≤ unlockedPct2 now' ms) ∧
    (∀ now, unlockedPct2 now ms = ((ms.filter (fun m => decide (m.1 ≤ now))).map (·.2)).sum) ∧
    (∀ now, unlockedPct2 now ms ≤ (ms.map (·.2)).sum) ∧
    (∀ now (hne : ms ≠ []), (ms.getLast hne).1 ≤ now → unlockedPct2 now ms = (ms.map (·.2)).sum) :=
  ⟨fun _ _ h => unlockedPct2_mono h ms,
   fun now => unlockedPct2_eq_reachedSum now ms hs,
   fun now => unlockedPct2_le_sum now ms,
   fun now hne h => unlockedPct2_after_last now ms hs hne h⟩

/-- An accepted schedule: never more than 100 %, exactly 100 % from the last release round
    on, 0 % before the first one. -/
theorem unlockedPct2_accepted {t0 : Nat} {ms : List (Nat × Nat)} (hv : validSchedule2 t0 ms = true) :
    (∀ now, unlockedPct2 now ms ≤ 10000) ∧
    (∀ now, (∀ m ∈ ms, m.1 ≤ now) → unlockedPct2 now ms = 10000) ∧
    (∃ hne : ms ≠ [], ∀ now, (ms.getLast hne).1 ≤ now → unlockedPct2 now ms = 10000) ∧
    (∃ hne : ms ≠ [], ∀ now, now < (ms.head hne).1 → unlockedPct2 now ms = 0) := by
  obtain ⟨hne, _, hs, hsum⟩ := (validSchedule2_iff' t0 ms).1 hv
  refine ⟨fun now => hsum ▸ unlockedPct2_le_sum now ms,
    fun now h => hsum ▸ unlockedPct2_all now ms h,
    ⟨hne, fun now h => hsum ▸ unlockedPct2_after_last now ms hs hne h⟩,
    ⟨hne, fun now h => ?_⟩⟩
  cases ms with
  | nil => exact absurd rfl hne
  | cons m rest => exact unlockedPct2_before_first now m rest h

/-- The default schedule `[(0, 10000)]` (no schedule stored) unlocks everything at once. -/
theorem unlockedPct2_default_props :
    (∀ now, unlockedPct2 now defaultSchedule2 = 10000) ∧
    defaultSchedule2.Pairwise (fun a b => a.1 ≤ b.1) ∧
    (defaultSchedule2.map (·.2)).sum = 10000 :=
  ⟨unlockedPct2_default, defaultSchedule2_sorted, defaultSchedule2_sum⟩

example : unlockedPct2 50 [(10, 1000), (50, 4000), (50, 2000), (90, 3000)] = 7000 := by decide

/-- the `break` does lose milestones when the rounds are NOT sorted — which is why
    `validate` insists on the order -/
example : unlockedPct2 50 [(90, 3000), (10, 7000)] = 0 ∧
    (([(90, 3000), (10, 7000)].filter (fun m => decide (m.1 ≤ 50))).map (·.2)).sum = 7000 := by
  decide

/-! ## Path independence of repeated claims -/

/-- C13, abstractly.  Entitlement `E`, a percentage `pct` monotone in the round, ANY
    non-empty non-decreasing list of claim rounds, nothing claimed at the start: the amount
    received is `E * pct(r_last) / 10000`, whatever the earlier claim rounds were; it never
    decreases, stays below `E` when `pct ≤ 10000`, and is `E` once `pct` reaches 100 %. -/
theorem claims_path_independent (E : Nat) (pct : Nat → Nat)
    (hmono : ∀ a b, a ≤ b → pct a ≤ pct b) (rs : List Nat) (hs : rs.Pairwise (· ≤ ·))
    (hne : rs ≠ []) :
    claimFold E pct rs 0 = E * pct (rs.getLast hne) / 10000 ∧
    (claimPayouts E pct rs 0).sum = E * pct (rs.getLast hne) / 10000 ∧
    (∀ r, claimFold E pct rs 0 ≤ claimFold E pct (rs ++ [r]) 0) ∧
    ((∀ r, pct r ≤ 10000) → claimFold E pct rs 0 ≤ E) ∧
    (pct (rs.getLast hne) = 10000 → claimFold E pct rs 0 = E) := by
  have h1 := claimFold_last E pct hmono rs hs hne 0 (Nat.zero_le _)
  have h2 := claimPayouts_sum E pct rs 0
  refine ⟨h1, by change _ = entitled E _; omega, fun r => ?_, fun hp => claimFold_le E pct hp rs 0 (Nat.zero_le _),
    fun hl => by rw [h1, hl]; exact entitled_full E⟩
  rw [claimFold_append]
  exact claimFold_ge E pct [r] _

/-- One claim at a percentage that covers what was already paid lands exactly on
    `E * pct / 10000`, regardless of the history. -/
theorem claimStep_props (E pct claimed : Nat) :
    claimed ≤ claimStep E pct claimed ∧
    (claimed ≤ E * pct / 10000 → claimStep E pct claimed = E * pct / 10000) ∧
    (pct ≤ 10000 → claimed ≤ E → claimStep E pct claimed ≤ E) ∧
    (claimed ≤ E → claimStep E 10000 claimed = E) := by
  refine ⟨claimStep_ge _ _ _, claimStep_eq, claimStep_le, fun h => ?_⟩
  rw [claimStep_eq (by rw [entitled_full]; exact h), entitled_full]

example : claimFold 1001 (fun r => unlockedPct2 r [(10, 3333), (20, 3333), (30, 3334)])
    [5, 10, 12, 25, 25, 31] 0 = 1001 ∧
    claimPayouts 1001 (fun r => unlockedPct2 r [(10, 3333), (20, 3333), (30, 3334)])
    [5, 10, 12, 25, 25, 31] 0 = [0, 333, 0, 334, 0, 334] := by decide

/-- `claimable2` of the model: if the amount already claimed is covered by the entitlement at
    some earlier round `r` (the previous claim round), the claim brings `userClaimed` to
    exactly the entitlement at the current round (`_hr` is not needed). -/
theorem claimable2_step {s : State} {e : Env} {a c r : Nat}
    (h : claimable2 s e a = .ok c) (_hr : r ≤ e.round)
    (hinv : s.userClaimed a ≤
      s.userTotal a * unlockedPct2 r (s.sched2.getD defaultSchedule2) / 10000) :
    s.userClaimed a + c =
      s.userTotal a * unlockedPct2 e.round (s.sched2.getD defaultSchedule2) / 10000 := by
  rw [claimable2_eq] at h
  show _ = entitled2 s a e.round
  split at h
  · rename_i h0
    cases h
    simp only [h0, Nat.zero_mul, Nat.zero_div, Nat.le_zero_eq] at hinv
    simp [hinv, entitled2, entitled, h0]
  · split at h
    · obtain ⟨h1, rfl⟩ := bsub_eq_ok.1 h
      omega
    · cases h

/-- Under the same invariant the subtraction in `claimable2` never fails; the only possible
    rejection is "Already claimed all tokens". -/
theorem claimable2_no_underflow (s : State) (e : Env) (a : Nat) {r : Nat} (hr : r ≤ e.round)
    (hinv : s.userClaimed a ≤
      s.userTotal a * unlockedPct2 r (s.sched2.getD defaultSchedule2) / 10000) :
    claimable2 s e a = .ok (entitled2 s a e.round - s.userClaimed a) ∨
    (claimable2 s e a = .error (.user "Already claimed all tokens") ∧
      0 < s.userTotal a ∧ s.userTotal a ≤ s.userClaimed a) := by
  have hle : s.userClaimed a ≤ entitled2 s a e.round :=
    Nat.le_trans hinv (entitled2_mono s a hr)
  rw [claimable2_eq]
  by_cases h0 : s.userTotal a = 0
  · left
    have : entitled2 s a e.round = 0 := by simp [entitled2, entitled, h0]
    simp [h0, this]
  · by_cases h1 : s.userClaimed a < s.userTotal a
    · left
      simp [h0, h1, bsub, hle]
    · right
      simp [h0, h1]
      omega

/-- When the schedule sums to at most 100 % (every accepted schedule and the default one),
    that rejection means the user holds the whole entitlement. -/
theorem claimable2_rejected_means_paid (s : State) (a : Nat) {r : Nat}
    (hsum : ((s.sched2.getD defaultSchedule2).map (·.2)).sum ≤ 10000)
    (hinv : s.userClaimed a ≤
      s.userTotal a * unlockedPct2 r (s.sched2.getD defaultSchedule2) / 10000)
    (hrej : s.userTotal a ≤ s.userClaimed a) : s.userClaimed a = s.userTotal a := by
  have : entitled (s.userTotal a) (unlockedPct2 r (s.sched2.getD defaultSchedule2)) ≤ s.userTotal a :=
    entitled_le _ (Nat.le_trans (unlockedPct2_le_sum _ _) hsum)
  have h2 : s.userClaimed a ≤ s.userTotal a := Nat.le_trans hinv this
  omega

/-- The endpoint, repeat claim (the caller has settled before): the invariant is
    re-established with equality at the current round; entitlement and schedule stay. -/
theorem claimVested_repeat_v2 {t t' : Tx} {e : Env} {r : Nat}
    (hv : t.s.variant.isV2 = true) (hcl : t.s.claimed e.caller = true)
    (h : claimVested t e = .ok t') (hr : r ≤ e.round)
    (hinv : t.s.userClaimed e.caller ≤ entitled2 t.s e.caller r) :
    t'.s.userClaimed e.caller = entitled2 t.s e.caller e.round ∧
    (∀ now, entitled2 t'.s e.caller now = entitled2 t.s e.caller now) ∧
    t.s.userClaimed e.caller ≤ t'.s.userClaimed e.caller ∧
    (∀ a, a ≠ e.caller → t'.s.userClaimed a = t.s.userClaimed a) := by
  obtain ⟨c, hc, h1, h2, h3, _, h5, _⟩ := claimVested_repeat hcl h
  simp only [claimableV, hv, if_true] at hc
  have := claimable2_step hc hr hinv
  refine ⟨by rw [h1]; exact this, fun now => ?_, by omega, h2⟩
  simp [entitled2, sched2Of, h3, h5]

/-! ## v1 schedules -/

/-- v1 `set_unlock_schedule` (with checked arithmetic), characterised. -/
theorem setSchedule1_accepted_iff (s s' : State) (e : Env) (start initial times pct period : Nat) :
    setSchedule1 s e start initial times pct period = .ok s' ↔
      (e.round < s.cfg.conf ∨ s.sched1 = none) ∧ start ≥ e.round ∧
      (period > 0 ∨ initial = 10000) ∧ initial + times * pct = 10000 ∧
      s' = { s with sched1 := some ⟨start, initial, times, pct, period⟩ } :=
  setSchedule1_eq_ok s s' e start initial times pct period

theorem setSchedule1_valid {s s' : State} {e : Env} {start initial times pct period : Nat}
    (h : setSchedule1 s e start initial times pct period = .ok s') :
    ∃ sc, s'.sched1 = some sc ∧ validSched1 sc ∧ e.round ≤ sc.start := by
  obtain ⟨_, h2, h3, h4, rfl⟩ := (setSchedule1_eq_ok ..).1 h
  exact ⟨_, rfl, ⟨h3, h4⟩, h2⟩

example : validSched1 ⟨100, 2500, 3, 2500, 10⟩ ∧ validSched1 ⟨100, 10000, 0, 0, 0⟩ := by
  simp [validSched1]

/-- An accepted v1 schedule: monotone, at most 100 %, 0 before `start`, 100 % from
    `start + times * period` on (at `start` already when `initial = 100 %`). -/
theorem unlockedPct1_props (sc : Sched1) (hv : validSched1 sc) :
    (∀ now now', now ≤ now' → unlockedPct1 now sc ≤ unlockedPct1 now' sc) ∧
    (∀ now, unlockedPct1 now sc ≤ 10000) ∧
    (∀ now, now < sc.start → unlockedPct1 now sc = 0) ∧
    (∀ now, sc.start + sc.times * sc.period ≤ now → unlockedPct1 now sc = 10000) ∧
    (sc.initial = 10000 → ∀ now, sc.start ≤ now → unlockedPct1 now sc = 10000) :=
  ⟨fun _ _ h => unlockedPct1_mono sc h, unlockedPct1_le sc hv,
   fun _ h => unlockedPct1_before sc h,
   fun _ h => unlockedPct1_full sc hv (.inl h),
   fun hi _ h => unlockedPct1_full sc hv (.inr ⟨hi, h⟩)⟩

example : (List.map (fun r => unlockedPct1 r ⟨100, 2500, 3, 2500, 10⟩) [99, 100, 109, 110, 125, 130, 500])
    = [0, 2500, 2500, 5000, 7500, 10000, 10000] := by decide

/-- The invariant the v1 claim needs.  `claimable1` has a special case: with
    `initial = 100 %` it returns the WHOLE total (not `total - claimed`), guarded only by
    `claimed < total`.  So "claimed ≤ entitlement at an earlier round" is not enough; what is
    needed (and what every claim re-establishes) is that the claimed amount is EXACTLY the
    entitlement at some earlier round, or nothing has been claimed yet. -/
def claimedExactly1 (s : State) (a now : Nat) : Prop :=
  s.userClaimed a = 0 ∨ ∃ r, r ≤ now ∧ s.userClaimed a = entitled1 s a r

/-- without that invariant the special case over-pays: total 100, already claimed 50,
    schedule "100 % at round 0" → another 100 are claimable -/
example :
    let s : State := { (default : State) with
      sched1 := some ⟨0, 10000, 0, 0, 0⟩, userTotal := fun _ => 100, userClaimed := fun _ => 50 }
    (claimable1 s { caller := 1, round := 7 } 1).toOption = some 100 := by decide

/-- Path independence for `claimable1`: under `claimedExactly1` a claim brings `userClaimed`
    to exactly the entitlement at the current round (which is 0 while no schedule is stored). -/
theorem claimable1_step {s : State} {e : Env} {a c : Nat}
    (h : claimable1 s e a = .ok c) (hinv : claimedExactly1 s a e.round) :
    s.userClaimed a + c = entitled1 s a e.round := by
  rw [claimable1_eq] at h
  -- where nothing is unlocked up to the current round, the invariant says nothing is booked
  have hz : (∀ r, r ≤ e.round → entitled1 s a r = 0) →
      s.userClaimed a + 0 = entitled1 s a e.round := by
    intro hz
    rw [hz _ (Nat.le_refl _)]
    rcases hinv with h | ⟨r, hr, h⟩
    · exact h
    · rw [h, hz r hr]
  split at h
  · rename_i h0
    cases h
    exact hz fun r _ => by simp [entitled1, entitled, h0]
  · split at h
    · rename_i h0 h1
      cases hs : s.sched1 with
      | none =>
        rw [hs] at h
        cases h
        exact hz fun r _ => by rw [entitled1, hs]; exact entitled_zero _
      | some sc =>
        rw [hs] at h
        simp only at h
        have he : ∀ r, entitled1 s a r = entitled (s.userTotal a) (unlockedPct1 r sc) :=
          fun r => by rw [entitled1, hs]; rfl
        split at h
        · rename_i hst
          cases h
          exact hz fun r hr => by
            rw [he, unlockedPct1_before sc (by omega)]; exact entitled_zero _
        · rename_i hst
          split at h
          · -- all or nothing: the whole total is paid, and nothing was booked before `start`
            rename_i hi
            cases h
            have he' : ∀ r, entitled1 s a r = if sc.start > r then 0 else s.userTotal a := by
              intro r
              rw [he, unlockedPct1_step sc hi]
              split
              · exact entitled_zero _
              · exact entitled_full _
            rw [he', if_neg hst]
            rcases hinv with h | ⟨r, hr, h⟩
            · rw [h, Nat.zero_add]
            · rw [he'] at h
              split at h
              · rw [h, Nat.zero_add]
              · omega
          · obtain ⟨_, rfl⟩ := bsub_eq_ok.1 h
            omega
    · cases h

/-- Under the invariant the subtraction in `claimable1` never fails. -/
theorem claimable1_no_underflow (s : State) (e : Env) (a : Nat)
    (hinv : claimedExactly1 s a e.round) :
    (∃ c, claimable1 s e a = .ok c) ∨
    (claimable1 s e a = .error (.user "Already claimed all tokens") ∧
      0 < s.userTotal a ∧ s.userTotal a ≤ s.userClaimed a) := by
  have hle : s.userClaimed a ≤ entitled1 s a e.round := by
    rcases hinv with h | ⟨r, hr, h⟩
    · omega
    · rw [h]; exact entitled1_mono s a hr
  rw [claimable1_eq]
  by_cases h0 : s.userTotal a = 0
  · left; exact ⟨0, by simp [h0]⟩
  · by_cases h1 : s.userClaimed a < s.userTotal a
    · left
      simp only [h0, h1, if_false, if_true]
      cases s.sched1 with
      | none => exact ⟨_, rfl⟩
      | some sc =>
        simp only
        split
        · exact ⟨_, rfl⟩
        · split
          · exact ⟨_, rfl⟩
          · exact ⟨entitled1 s a e.round - s.userClaimed a, by simp [bsub, hle]⟩
    · right
      simp [h0, h1]
      omega

/-- The endpoint, repeat claim of crate 4. -/
theorem claimVested_repeat_v1 {t t' : Tx} {e : Env}
    (hv : t.s.variant.isV2 = false) (hcl : t.s.claimed e.caller = true)
    (h : claimVested t e = .ok t') (hinv : claimedExactly1 t.s e.caller e.round) :
    t'.s.userClaimed e.caller = entitled1 t.s e.caller e.round ∧
    (∀ now, e.round ≤ now → claimedExactly1 t'.s e.caller now) ∧
    t.s.userClaimed e.caller ≤ t'.s.userClaimed e.caller := by
  obtain ⟨c, hc, h1, _, h3, h4, _, _⟩ := claimVested_repeat hcl h
  simp only [claimableV, hv, Bool.false_eq_true, if_false] at hc
  have := claimable1_step hc hinv
  exact ⟨by rw [h1]; exact this,
    fun now hn => .inr ⟨e.round, hn, by rw [h1, this]; simp [entitled1, h3, h4]⟩, by omega⟩

/-! ## The whole endpoint, first claim included -/

/-- C13 for v2, any successful claim (first or repeat).  If nothing is booked for the caller
    yet, or the caller has settled before and the booked amount is covered by the entitlement
    at an earlier round, then afterwards the booked amount is EXACTLY the entitlement at the
    current round (with the total fixed by the settle part of this call). -/
theorem claimVested_v2_exact {t t' : Tx} {e : Env}
    (hv : t.s.variant.isV2 = true) (h : claimVested t e = .ok t')
    (hinv : t.s.userClaimed e.caller = 0 ∨
      (t.s.claimed e.caller = true ∧
        ∃ r, r ≤ e.round ∧ t.s.userClaimed e.caller ≤ entitled2 t.s e.caller r)) :
    t'.s.userClaimed e.caller = entitled2 t'.s e.caller e.round ∧
    t.s.userClaimed e.caller ≤ t'.s.userClaimed e.caller ∧
    t'.s.sched2 = t.s.sched2 ∧
    (∀ a, a ≠ e.caller → t'.s.userClaimed a = t.s.userClaimed a) := by
  obtain ⟨t1, c, h1, hc, h2, h3, h4, _, h6, _⟩ := claimVested_inv h
  obtain ⟨f1, _, f3, _, _, _⟩ := claimSettle_frame h1
  simp only [hv, if_true] at hc
  obtain ⟨r, hr, hle⟩ : ∃ r, r ≤ e.round ∧ t1.s.userClaimed e.caller ≤ entitled2 t1.s e.caller r :=
    (claimSettle_carry h1 hinv
      (P := fun t => ∃ r, r ≤ e.round ∧ t.s.userClaimed e.caller ≤ entitled2 t.s e.caller r)).elim
      (fun h0 => ⟨e.round, Nat.le_refl _, h0 ▸ Nat.zero_le _⟩) id
  have := claimable2_step hc hr hle
  refine ⟨?_, by omega, h6, h3⟩
  rw [h2, ← f1, this]
  simp [entitled2, entitled, sched2Of, h4, h6, f3]

/-- C13 for v1, any successful claim, under the exact-amount invariant `claimedExactly1`. -/
theorem claimVested_v1_exact {t t' : Tx} {e : Env}
    (hv : t.s.variant.isV2 = false) (h : claimVested t e = .ok t')
    (hinv : t.s.userClaimed e.caller = 0 ∨
      (t.s.claimed e.caller = true ∧ claimedExactly1 t.s e.caller e.round)) :
    t'.s.userClaimed e.caller = entitled1 t'.s e.caller e.round ∧
    (∀ now, e.round ≤ now → claimedExactly1 t'.s e.caller now) ∧
    t.s.userClaimed e.caller ≤ t'.s.userClaimed e.caller ∧
    t'.s.sched1 = t.s.sched1 ∧
    (∀ a, a ≠ e.caller → t'.s.userClaimed a = t.s.userClaimed a) := by
  obtain ⟨t1, c, h1, hc, h2, h3, h4, h5, _, _⟩ := claimVested_inv h
  obtain ⟨f1, f2, _, _, _, _⟩ := claimSettle_frame h1
  simp only [hv, Bool.false_eq_true, if_false] at hc
  have hinv1 : claimedExactly1 t1.s e.caller e.round :=
    (claimSettle_carry h1 hinv (P := fun t => claimedExactly1 t.s e.caller e.round)).elim .inl id
  have hstep := claimable1_step hc hinv1
  have heq : t'.s.userClaimed e.caller = entitled1 t'.s e.caller e.round := by
    rw [h2, ← f1, hstep]
    simp [entitled1, h4, h5, f2]
  exact ⟨heq, fun now hn => .inr ⟨e.round, hn, heq⟩, by omega, h5, h3⟩

/-! ## The schedule is frozen once the sale runs -/

/-- The v2 schedule can be set only in stage AddTickets; the v1 schedule only before the
    confirmation start round or while none is stored.  Stated on the endpoint table `exec`. -/
theorem schedule_frozen (hash : List Nat → List Nat) (t t' : Tx) (e : Env) :
    (∀ ms, exec hash t e (.setSchedule2 ms) = .ok t' → t.s.stage e = .addTickets) ∧
    (∀ a b c d f, exec hash t e (.setSchedule1 a b c d f) = .ok t' →
      e.round < t.s.cfg.conf ∨ t.s.sched1 = none) := by
  constructor
  · intro ms h
    exact ((setSchedule2_eq_ok t t' e ms).1 h).1
  · intro a b c d f h
    simp only [exec, bind, Except.bind, pure, Except.pure] at h
    split at h
    · cases h
    · rename_i s' hs
      exact ((setSchedule1_eq_ok ..).1 hs).1

/-- Contrapositive: outside these windows the calls are rejected. -/
theorem schedule_frozen_rejects (hash : List Nat → List Nat) (t : Tx) (e : Env) :
    (t.s.stage e ≠ .addTickets → ∀ ms, ∃ err, exec hash t e (.setSchedule2 ms) = .error err) ∧
    (t.s.cfg.conf ≤ e.round → t.s.sched1 ≠ none →
      ∀ a b c d f, ∃ err, exec hash t e (.setSchedule1 a b c d f) = .error err) := by
  constructor
  · intro hst ms
    cases h : exec hash t e (.setSchedule2 ms) with
    | error err => exact ⟨err, rfl⟩
    | ok t' => exact absurd ((schedule_frozen hash t t' e).1 ms h) hst
  · intro h1 h2 a b c d f
    cases h : exec hash t e (.setSchedule1 a b c d f) with
    | error err => exact ⟨err, rfl⟩
    | ok t' =>
      rcases (schedule_frozen hash t t' e).2 a b c d f h with h' | h'
      · omega
      · exact absurd h' h2

end LP

#print axioms LP.v2_schedule_accepted_iff
#print axioms LP.setSchedule2_accepted_iff
#print axioms LP.setSchedule2_accepted
#print axioms LP.unlockedPct2_props
#print axioms LP.unlockedPct2_accepted
#print axioms LP.unlockedPct2_default_props
#print axioms LP.claims_path_independent
#print axioms LP.claimStep_props
#print axioms LP.claimable2_step
#print axioms LP.claimable2_no_underflow
#print axioms LP.claimable2_rejected_means_paid
#print axioms LP.claimVested_repeat_v2
#print axioms LP.setSchedule1_accepted_iff
#print axioms LP.setSchedule1_valid
#print axioms LP.unlockedPct1_props
#print axioms LP.claimable1_step
#print axioms LP.claimable1_no_underflow
#print axioms LP.claimVested_repeat_v1
#print axioms LP.claimVested_v2_exact
#print axioms LP.claimVested_v1_exact
#print axioms LP.schedule_frozen
#print axioms LP.schedule_frozen_rejects
