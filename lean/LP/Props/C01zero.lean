import LP.Proofs.ZeroAllocPlain
import LP.Props.C18reach
/-
  C01 (and the C02/C03/C09 headline theorems) for the PLAIN family WITHOUT the restriction `CallOK`.

  `ReachZ hash v s r` (LP/Proofs/ZeroAllocSim.lean) is `Reach hash v s r` without the premise
  `CallOK c`: `addTickets l` may contain entries `(a, 0)`.  The real contract accepts them:
  `a` gets the EMPTY range `[last+1, last]` and a zero-size batch at `last+1` which the next
  allocation overwrites (or which dangles above `lastTicketId`).

  What the model does with such an address:
    * its allocation view and every `confirm` (even `confirm 0`) PANIC (`z_ticketsFor_empty`,
      `empty_range_cannot_confirm`);
    * `blacklist [a]` is ACCEPTED and sets its flag (nothing to refund);
    * the filter never visits it; it keeps the stale empty range for ever — also when
      blacklisted (so "a blacklisted address has no record after the filter", C10reach, does NOT
      extend to zero-size entries; harmless);
    * in the claim phase it may `claim` exactly once; nothing is paid, no balance moves, but the
      batch slot at the stale first id — by then possibly ANOTHER participant's batch — is wiped
      (`empty_range_claim`); batches are not read any more at that point.

  Method: SIMULATION (`simulation`, from `z_sim`): every `ReachZ` state `s` is `ZSim`-related to a
  `Reach` state `z`: `z` is `s` with the empty ranges removed, the zero-size batches removed
  (until the filter has completed; afterwards `batch` is dead storage), `blacklist`/`claimed`
  below those of `s`, every other field equal.  `addTickets l` is matched by `addTickets (l
  without zero entries)`, `blacklist l` by `blacklist (l without empty-range addresses)`, a claim
  by an empty-range address by NO step, every other call by itself.  Each `_Z` theorem below is
  its `Reach` namesake read through this relation (`z_sim`, and `ledger_Z` for the payment ledger,
  LP/Proofs/ZeroAllocPlain.lean).
-/
namespace LP.Props.C01zero
open LP LP.FY LP.Props.C01reach LP.Props.C09 LP.PL
open LP.Props.C02 (LpCover)

/-- **SIMULATION**: a `ReachZ` state is, up to the erasure of empty ranges / zero-size batches,
    a `Reach` state -/
theorem simulation (hash : List Nat → List Nat) (v : Variant) (hv : Plain v) (s : State) (r : Nat)
    (h : ReachZ hash v s r) : ∃ z, Reach hash v z r ∧ ZSim s z :=
  z_sim_reach hv h

theorem reach_is_reachZ (hash : List Nat → List Nat) (v : Variant) (s : State) (r : Nat)
    (h : Reach hash v s r) : ReachZ hash v s r := h.toZ


/-- **C01 for every plain launchpad, zero-size entries allowed**: holdings = owed (same statement
    as `C01_solvent`; addresses with an empty range have no confirmed ticket and are owed nothing) -/
theorem C01_solvent_Z (hash : List Nat → List Nat) (v : Variant) (hv : Plain v) (s : State) (r : Nat)
    (h : ReachZ hash v s r) :
    ∃ L : List Nat, Covers s L ∧ (¬ AllDone s → PayEqPre s L) ∧ (AllDone s → PayEqPost s L) := by
  obtain ⟨L, h1, h2, h3⟩ := ledger_Z hv h
  exact ⟨L, h1, h2, fun hd => (h3 hd).1⟩

/-- after completion: the winners still held add up to `nrWinning`; nobody holds more winning
    than confirmed tickets; every range — empty or not — has exactly `confirmed` tickets, and the
    holders of NON-EMPTY ranges are in the covering list -/
theorem three_counts_Z (hash : List Nat → List Nat) (v : Variant) (hv : Plain v) (s : State) (r : Nat)
    (h : ReachZ hash v s r) (hd : AllDone s) :
    ∃ L : List Nat, Covers s L ∧ PayEqPost s L ∧ sumOver (winCountOf s) L = s.nrWinning ∧
      (∀ a, winCountOf s a ≤ s.confirmed a) ∧
      (∀ a rg, s.range a = some rg → rangeLen rg = s.confirmed a ∧ (rg.first ≤ rg.last → a ∈ L)) := by
  obtain ⟨L, h1, _, h3⟩ := ledger_Z hv h
  exact ⟨L, h1, h3 hd⟩

/-- C03 at the completion of `selectWinners` (`a0` = deployment arguments): flags = `nrWinning` =
    min (configured winners) (confirmed tickets); proceeds = `price × nrWinning` -/
theorem three_counts_at_completion_Z (hash : List Nat → List Nat) (v : Variant) (hv : Plain v)
    (a0 : InitArgs) (s : State) (r : Nat) (h : ReachZA hash v a0 s r) (e : Env) (s' : State) (o : Out)
    (hr : r ≤ e.round) (hok : EnvOK e)
    (hs : step hash s e .select = .ok (s', o)) (hsel : s'.flags.selected = true) :
    countTrue s'.status s'.lastTicketId = s'.nrWinning ∧
    s'.nrWinning = min a0.nrWinning s'.lastTicketId ∧
    s'.claimablePayment = s'.price * s'.nrWinning ∧
    (∀ t, s'.status t = true → 1 ≤ t ∧ t ≤ s'.lastTicketId) ∧ AllDone s' := by
  obtain ⟨z, hz, hsim, hd⟩ := z_sim hv h
  obtain ⟨z', _, hsim', _, hstep⟩ := z_sim_indep (c := .select) rfl hz hsim hd hr hok hs
  have hfl : z'.flags = s'.flags := hsim'.fields.2.1
  have := three_counts_at_completion hash v hv a0 z r hz e z' o hstep (by rw [hfl]; exact hsel)
  obtain ⟨R, B, K, C, rfl⟩ := hsim'.shape'
  exact this

/-- C02: from the deposit on, the launchpad tokens held cover everything still owed to winners -/
theorem lp_cover_Z (hash : List Nat → List Nat) (v : Variant) (hv : Plain v) (s : State) (r : Nat)
    (h : ReachZ hash v s r) (hd : s.deposited = true) : LpCover s := by
  obtain ⟨z, hz, hsim⟩ := z_sim_reach hv h
  have hdz : z.deposited = true := by
    have := congrArg State.deposited hsim.rest
    rw [this]; exact hd
  have := lp_cover_plain hash v hv z r hz hdz
  obtain ⟨R, B, K, C, rfl⟩ := hsim.shape'
  exact this

/-- C02, **nothing is left at the end**: once every participant with a NON-EMPTY range has settled
    (stale empty ranges may remain: they hold nothing), the owner's accepted `claimPayment`
    leaves no launchpad token -/
theorem lp_zero_at_end_Z (hash : List Nat → List Nat) (v : Variant) (hv : Plain v) (s : State)
    (r : Nat) (h : ReachZ hash v s r) (hd : AllDone s)
    (hall : ∀ a rg, s.range a = some rg → rg.last < rg.first)
    (e : Env) (s' : State) (o : Out) (hr : r ≤ e.round) (hok : EnvOK e)
    (hs : step hash s e .claimPayment = .ok (s', o)) :
    s.nrWinning = 0 ∧ s'.bal (.esdt s'.lpTok) 0 = 0 := by
  obtain ⟨a0, h⟩ := ReachZ_iff.mp h
  obtain ⟨z, hz, hsim, hdd⟩ := z_sim hv h
  obtain ⟨z', _, hsim', _, hstep⟩ := z_sim_indep (c := .claimPayment) rfl hz hsim hdd hr hok hs
  have hfl : z.flags = s.flags := hsim.fields.2.1
  have hallz : ∀ a, z.range a = none := hsim.esim.range_none hall
  have := lp_zero_at_end_plain hash v hv z r (Reach_iff.mpr ⟨a0, hz⟩)
    (hd.of_flags hfl) hallz e z' o hstep
  obtain ⟨R, B, K, C, rfl⟩ := hsim.shape'
  obtain ⟨R', B', K', C', rfl⟩ := hsim'.shape'
  exact this

/-- the owner's recorded proceeds are covered -/
theorem owner_withdrawal_covered_Z (hash : List Nat → List Nat) (v : Variant) (hv : Plain v)
    (s : State) (r : Nat) (h : ReachZ hash v s r) (hd : AllDone s) :
    s.claimablePayment ≤ s.bal s.payTok 0 := by
  obtain ⟨z, hz, hsim⟩ := z_sim_reach hv h
  have hfl : z.flags = s.flags := hsim.fields.2.1
  have := owner_withdrawal_covered hash v hv z r hz (hd.of_flags hfl)
  obtain ⟨R, B, K, C, rfl⟩ := hsim.shape'
  exact this

/-- the refund of ANY address holding a range (empty or not) is covered, together with the
    owner's proceeds -/
theorem claim_refund_covered_Z (hash : List Nat → List Nat) (v : Variant) (hv : Plain v) (s : State)
    (r : Nat) (h : ReachZ hash v s r) (hd : AllDone s) (a : Nat) (rg : Range)
    (hr : s.range a = some rg) :
    s.claimablePayment + s.price * (s.confirmed a - winCountOf s a) ≤ s.bal s.payTok 0 := by
  have hown := owner_withdrawal_covered_Z hash v hv s r h hd
  obtain ⟨a0, h⟩ := ReachZ_iff.mp h
  obtain ⟨z, hz, hsim, _⟩ := z_sim hv h
  have hfl : z.flags = s.flags := hsim.fields.2.1
  have hdz : AllDone z := hd.of_flags hfl
  have hwc := hsim.esim.winCountOf_eq a
  by_cases hne : rg.first ≤ rg.last
  · have hzr : z.range a = some rg := by rw [hsim.range]; exact z_eraseR_of_ne hr hne
    have := claim_refund_covered hash v hv z r (Reach_iff.mpr ⟨a0, hz⟩) hdz a rg hzr
    rw [← hwc] at this
    obtain ⟨R, B, K, C, rfl⟩ := hsim.shape'
    exact this
  · have hzr : z.range a = none := by rw [hsim.range]; exact z_eraseR_of_empty hr hne
    have hc : z.confirmed a = 0 := z_done_rngNone hv hz hdz.1 a hzr
    have hc' : s.confirmed a = 0 := by rw [← hsim.fields.2.2.2.2.1]; exact hc
    rw [hc']
    simpa using hown

/-- C02: the launchpad tokens of ANY address are covered -/
theorem winner_covered_Z (hash : List Nat → List Nat) (v : Variant) (hv : Plain v) (s : State)
    (r : Nat) (h : ReachZ hash v s r) (hd : AllDone s) (a : Nat) :
    s.perTicket * winCountOf s a ≤ s.bal (.esdt s.lpTok) 0 ∧ winCountOf s a ≤ s.nrWinning := by
  obtain ⟨z, hz, hsim⟩ := z_sim_reach hv h
  have hfl : z.flags = s.flags := hsim.fields.2.1
  have := winner_covered_plain hash v hv z r hz (hd.of_flags hfl) a
  rw [← hsim.esim.winCountOf_eq a] at this
  obtain ⟨R, B, K, C, rfl⟩ := hsim.shape'
  exact this

/-- **claims never starve**: in the claim stage, a claim (without call value) by any address
    that holds a range — empty or not — and has not claimed yet is ACCEPTED -/
theorem claim_never_starves_Z (hash : List Nat → List Nat) (v : Variant) (hv : Plain v) (s : State)
    (r : Nat) (h : ReachZ hash v s r) (e : Env) (rg : Range)
    (he1 : e.egld = 0) (he2 : e.esdts = []) (hst : s.stage e = .claim)
    (hcl : s.claimed e.caller = false) (hrg : s.range e.caller = some rg) :
    ∃ x, step hash s e .claim = .ok x := by
  obtain ⟨z, hz, hsim⟩ := z_sim_reach hv h
  obtain ⟨T0, hLp⟩ := pl_reach hv hz
  have hBz : pl_Base z := hLp.base
  have hBs : pl_Base s := by
    have h' := hsim.rest
    rw [h'] at hBz
    exact ⟨hBz.var, hBz.tokNe, hBz.perPos, hBz.pct⟩
  obtain ⟨a0, hz0⟩ := Reach_iff.mp hz
  have hadd : s.flags.additional = true := by rw [← hsim.fields.2.1]; exact (reach_WF hv hz0).add
  have hd : AllDone s := ⟨(stage_claim_iff.mp hst).1.1, hadd⟩
  obtain ⟨L, _, _, _, hle, _⟩ := three_counts_Z hash v hv s r h hd
  have hcov := claim_refund_covered_Z hash v hv s r h hd e.caller rg hrg
  obtain ⟨hw1, hw2⟩ := winner_covered_Z hash v hv s r h hd e.caller
  have hpay : s.price * (s.confirmed e.caller - winCountOf s e.caller) ≤ s.bal s.payTok 0 := by omega
  obtain ⟨f1, f2, _⟩ := rb_plain_flags hBs.var
  exact claim_accepts hash s e rg f1 hBs.pct
    (claimAccepts_of_cover he1 he2 hst hcl hrg hBs.tokNe hw2 (hle e.caller) hpay hw1)
    (fun hn => by rw [f2] at hn; cases hn)

/-! ### what an address with an empty range can do -/

/-- it cannot confirm (not even zero tickets): the allocation view panics -/
theorem empty_range_cannot_confirm (hash : List Nat → List Nat) (s : State) (e : Env) (n : Nat)
    (rg : Range) (hr : s.range e.caller = some rg) (he : rg.last < rg.first) :
    ∀ x, step hash s e (.confirm n) ≠ .ok x := by
  rintro ⟨s', o⟩ hs
  obtain ⟨total, hacc, _⟩ := LP.Props.C07.confirm_effect hash s e n s' o hs
  obtain ⟨err, herr⟩ := z_ticketsFor_empty hr he
  have := hacc.2.2.2.2.2.1
  rw [herr] at this; cases this

/-- its claim pays nothing: only the caller's `claimed` flag, its stale range and the batch slot
    at the range's first id change -/
theorem empty_range_claim (hash : List Nat → List Nat) (v : Variant) (hv : Plain v) (s : State)
    (r : Nat) (h : ReachZ hash v s r) (e : Env) (s' : State) (o : Out) (rg : Range)
    (hr : r ≤ e.round) (hok : EnvOK e)
    (hrg : s.range e.caller = some rg) (he : rg.last < rg.first)
    (hs : step hash s e .claim = .ok (s', o)) :
    s' = z_w s (upd s.range e.caller none) (upd s.batch rg.first none) s.blacklist
          (upd s.claimed e.caller true) ∧ s'.bal = s.bal ∧ s'.nrWinning = s.nrWinning ∧
    s'.confirmed = s.confirmed := by
  obtain ⟨a0, h0⟩ := ReachZ_iff.mp h
  obtain ⟨z, hz, hsim, _⟩ := z_sim hv h0
  have hvar : Plain s.variant := by rw [← hsim.fields.2.2.1]; exact (reach_WF hv hz).var
  obtain ⟨f1, f2, _⟩ := rb_plain_flags hvar
  have hd : AllDone s := by
    rcases LP.Props.C06.claim_gate hash s e _ hs with h1 | ⟨h1, _⟩
    · exact (stage_claim_iff.mp h1).1
    · rw [f1] at h1; cases h1
  obtain ⟨_, _, _, _, _, hrgs⟩ := three_counts_Z hash v hv s r h hd
  have hc0 : s.confirmed e.caller = 0 := by
    rw [← (hrgs e.caller rg hrg).1]; unfold rangeLen; omega
  have key := z_claim_stutter f1 f2 hs hrg he hc0
  exact ⟨key, by rw [key]; rfl, by rw [key]; rfl, by rw [key]; rfl⟩

/-! ### non-vacuity: `q*` = entries `(7,0),(8,2),(9,0)`, 8 confirms, 7 blacklisted, filter, select,
    7 claims; `p*` = the only entry is `(7,0)`, run to the owner's withdrawal -/

theorem ReachZ.callOk {hash : List Nat → List Nat} {v : Variant} {s : State} {r : Nat} (e : Env)
    (c : Call) (h : ReachZ hash v s r) (hr : r ≤ e.round) (hok : EnvOK e)
    (hs : isOk (step hash s e c) = true) : ReachZ hash v (stOf (step hash s e c) s) e.round :=
  let ⟨o, ho⟩ := stOf_spec hs s
  .call s r e c _ o h hr hok ho

def q1 : State := stOf (step id ex0 { caller := 1, round := 1 } (.addTickets [(7, 0), (8, 2)])) ex0
def q1b : State := stOf (step id q1 { caller := 1, round := 1 } (.addTickets [(9, 0)])) q1
def q2 : State := stOf (step id q1b { caller := 1, round := 2, esdts := [⟨.esdt 1, 0, 5⟩] } .deposit) q1b
def q3 : State := stOf (step id q2 { caller := 8, round := 6, egld := 20 } (.confirm 2)) q2
def q3b : State := stOf (step id q3 { caller := 1, round := 6 } (.blacklist [7])) q3
def q4 : State := stOf (step id q3b { caller := 9, round := 10 } .filter) q3b
def q5 : State := stOf (step id q4 { caller := 9, round := 11 } .select) q4
def q6 : State := stOf (step id q5 { caller := 7, round := 15 } .claim) q5

def p1 : State := stOf (step id ex0 { caller := 1, round := 1 } (.addTickets [(7, 0)])) ex0
def p2 : State := stOf (step id p1 { caller := 1, round := 2, esdts := [⟨.esdt 1, 0, 5⟩] } .deposit) p1
def p3 : State := stOf (step id p2 { caller := 9, round := 10 } .filter) p2
def p4 : State := stOf (step id p3 { caller := 9, round := 11 } .select) p3
def p5 : State := stOf (step id p4 { caller := 1, round := 16 } .claimPayment) p4

theorem q1_reachZ : ReachZ id .base q1 1 :=
  ReachZ.callOk { caller := 1, round := 1 } (.addTickets [(7, 0), (8, 2)]) ex0_reach.toZ
    (by decide) (Or.inl rfl) (by decide +kernel)

/-- the zero-size entry created an empty range and its batch slot was overwritten -/
example : q1.range 7 = some ⟨1, 0⟩ ∧ q1.range 8 = some ⟨1, 2⟩ ∧ q1.batch 1 = some ⟨8, 2⟩ ∧
    q1.lastTicketId = 2 ∧ q1b.range 9 = some ⟨3, 2⟩ ∧ q1b.batch 3 = some ⟨9, 0⟩ ∧
    q1b.lastTicketId = 2 := by
  decide +kernel

/-- **`q1` is a `ReachZ` state that is NOT a `Reach` state**: `Reach` states have no empty range -/
theorem q1_not_reach (hash : List Nat → List Nat) (r : Nat) : ¬ Reach hash .base q1 r := by
  intro h
  have := LP.Props.C18reach.ranges_bounded hash q1 r (.plain (Or.inl rfl) h) 7 ⟨1, 0⟩
    (by decide +kernel)
  exact absurd this.2.1 (by decide)

theorem q5_reachZ : ReachZ id .base q5 11 :=
  ReachZ.callOk { caller := 9, round := 11 } .select
    (ReachZ.callOk { caller := 9, round := 10 } .filter
      (ReachZ.callOk { caller := 1, round := 6 } (.blacklist [7])
        (ReachZ.callOk { caller := 8, round := 6, egld := 20 } (.confirm 2)
          (ReachZ.callOk { caller := 1, round := 2, esdts := [⟨.esdt 1, 0, 5⟩] } .deposit
            (ReachZ.callOk { caller := 1, round := 1 } (.addTickets [(9, 0)]) q1_reachZ
              (by decide) (Or.inl rfl) (by decide +kernel))
            (by decide) (Or.inl rfl) (by decide +kernel))
          (by decide) (Or.inr rfl) (by decide +kernel))
        (by decide) (Or.inl rfl) (by decide +kernel))
      (by decide) (Or.inl rfl) (by decide +kernel))
    (by decide) (Or.inl rfl) (by decide +kernel)

theorem q6_reachZ : ReachZ id .base q6 15 :=
  ReachZ.callOk { caller := 7, round := 15 } .claim q5_reachZ (by decide) (Or.inl rfl) (by decide +kernel)

theorem p4_reachZ : ReachZ id .base p4 11 :=
  ReachZ.callOk { caller := 9, round := 11 } .select
    (ReachZ.callOk { caller := 9, round := 10 } .filter
      (ReachZ.callOk { caller := 1, round := 2, esdts := [⟨.esdt 1, 0, 5⟩] } .deposit
        (ReachZ.callOk { caller := 1, round := 1 } (.addTickets [(7, 0)]) ex0_reach.toZ
          (by decide) (Or.inl rfl) (by decide +kernel))
        (by decide) (Or.inl rfl) (by decide +kernel))
      (by decide) (Or.inl rfl) (by decide +kernel))
    (by decide) (Or.inl rfl) (by decide +kernel)

/-- the stale empty ranges survive the filter (also the blacklisted one) -/
example : q4.flags.filtered = true ∧ q4.blacklist 7 = true ∧ q4.range 7 = some ⟨1, 0⟩ ∧
    q4.range 9 = some ⟨3, 2⟩ ∧ q4.batch 1 = some ⟨8, 2⟩ := by
  decide +kernel

example : AllDone q5 ∧ q5.nrWinning = 1 ∧ q5.claimablePayment = 10 := by
  unfold AllDone; decide +kernel

/-- the claim of 7 wipes the batch slot of 8 and pays nothing -/
example : q6.range 7 = none ∧ q6.claimed 7 = true ∧ q6.batch 1 = none ∧
    q6.bal .egld 0 = q5.bal .egld 0 ∧ q6.bal (.esdt 1) 0 = q5.bal (.esdt 1) 0 ∧
    q6.range 9 = some ⟨3, 2⟩ := by
  decide +kernel

/-- a stale empty range does not block the end -/
example : p4.range 7 = some ⟨1, 0⟩ ∧ p4.nrWinning = 0 ∧ p5.bal (.esdt 1) 0 = 0 ∧ p5.bal .egld 0 = 0 := by
  decide +kernel

example : p4.nrWinning = 0 ∧ p5.bal (.esdt p5.lpTok) 0 = 0 := by
  refine lp_zero_at_end_Z id .base (Or.inl rfl) p4 11 p4_reachZ
    (by unfold AllDone; decide +kernel) ?_
    { caller := 1, round := 16 } p5 _ (by decide) (Or.inl rfl) (stOf_spec (by decide +kernel) p4).choose_spec
  intro a rg h
  by_cases ha : a = 7
  · subst ha
    have : p4.range 7 = some ⟨1, 0⟩ := by decide +kernel
    rw [this] at h
    injection h with h
    subst h
    decide
  · have : p4.range a = none := by
      show (if a = 7 then _ else _) = none
      rw [if_neg ha]; rfl
    rw [this] at h; cases h

example : ∃ L : List Nat, Covers q5 L ∧ PayEqPost q5 L :=
  let ⟨L, h1, _, h3⟩ := C01_solvent_Z id .base (Or.inl rfl) q5 11 q5_reachZ
  ⟨L, h1, h3 (by unfold AllDone; decide +kernel)⟩

example : ∃ x, step id q5 { caller := 7, round := 15 } .claim = .ok x :=
  claim_never_starves_Z id .base (Or.inl rfl) q5 11 q5_reachZ { caller := 7, round := 15 } ⟨1, 0⟩
    rfl rfl (by decide +kernel) (by decide +kernel) (by decide +kernel)

example : ∃ x, step id q5 { caller := 9, round := 15 } .claim = .ok x :=
  claim_never_starves_Z id .base (Or.inl rfl) q5 11 q5_reachZ { caller := 9, round := 15 } ⟨3, 2⟩
    rfl rfl (by decide +kernel) (by decide +kernel) (by decide +kernel)

example : ∀ x, step id q2 { caller := 7, round := 5 } (.confirm 0) ≠ .ok x :=
  empty_range_cannot_confirm id q2 { caller := 7, round := 5 } 0 ⟨1, 0⟩ (by decide +kernel)
    (by decide)

end LP.Props.C01zero

#print axioms LP.Props.C01zero.simulation
#print axioms LP.Props.C01zero.reach_is_reachZ
#print axioms LP.Props.C01zero.C01_solvent_Z
#print axioms LP.Props.C01zero.three_counts_Z
#print axioms LP.Props.C01zero.three_counts_at_completion_Z
#print axioms LP.Props.C01zero.lp_cover_Z
#print axioms LP.Props.C01zero.lp_zero_at_end_Z
#print axioms LP.Props.C01zero.owner_withdrawal_covered_Z
#print axioms LP.Props.C01zero.claim_refund_covered_Z
#print axioms LP.Props.C01zero.winner_covered_Z
#print axioms LP.Props.C01zero.claim_never_starves_Z
#print axioms LP.Props.C01zero.empty_range_cannot_confirm
#print axioms LP.Props.C01zero.empty_range_claim
#print axioms LP.Props.C01zero.ReachZ.callOk
#print axioms LP.Props.C01zero.q1_reachZ
#print axioms LP.Props.C01zero.q1_not_reach
#print axioms LP.Props.C01zero.q5_reachZ
#print axioms LP.Props.C01zero.q6_reachZ
#print axioms LP.Props.C01zero.p4_reachZ
