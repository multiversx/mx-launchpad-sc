import LP.Proofs.Gaps
import LP.Props.AllVariants2
import LP.Props.C18reach
/-
  For all eight contracts (helpers `gp_…`: LP/Proofs/Gaps.lean, ProceedsFrame.lean,
  AllocReach.lean):
  * C03: until the owner withdraws, `claimablePayment / price` is the number of winning tickets,
    over reachable states `ReachOfA` (LP/Proofs/ReachOf.lean);
  * C18: the records partition the ticket space from the completed filter to the first claim,
    over covered states (`Covered = be_Covered`);
  * a participant's record is unchanged until the filter starts, i.e. while
    `filtered = false ∧ op = .none`; `op = .none` cannot be dropped
    (`interrupted_filter_rewrites`).
-/
namespace LP.Props.C03proceeds
open LP LP.FY LP.Props.AllVariants LP.Props.C18reach
open LP.Props.C17 (Hist RoundsFrom)

/-! ## C03: the proceeds until the owner withdraws -/

/-- C03, one call: once all selection steps are complete, every accepted call keeps the ticket
    price and the completion flags, and only the owner's `claimPayment` changes the recorded
    proceeds `claimablePayment`, setting them to 0. -/
theorem C03_proceeds_until_withdrawal_every_variant (hash : List Nat → List Nat) (v : Variant)
    (a0 : InitArgs) (s : State) (r : Nat) (h : ReachOfA hash v a0 s r) (hd : AllDone s)
    (e : Env) (c : Call) (s' : State) (o : Out) (hr : r ≤ e.round)
    (hs : step hash s e c = .ok (s', o)) :
    s'.price = s.price ∧ AllDone s' ∧
    (s'.claimablePayment = s.claimablePayment ∨ (c = .claimPayment ∧ s'.claimablePayment = 0)) :=
  proceeds_covered h.toReachOf.covered hd hr hs

/-- C03, launchpad-with-nft between the completed base lottery and the completed NFT draw: no
    accepted call changes the price or the recorded proceeds. -/
theorem C03_proceeds_nft_until_draw (hash : List Nat → List Nat) (a0 : InitArgs) (s : State) (r : Nat)
    (h : ReachOfA hash .nft a0 s r) (hsel : s.flags.selected = true)
    (hna : s.flags.additional = false) (e : Env) (c : Call) (s' : State) (o : Out)
    (hr : r ≤ e.round) (hs : step hash s e c = .ok (s', o)) :
    s'.price = s.price ∧ s'.flags.selected = true ∧ s'.claimablePayment = s.claimablePayment := by
  simp only [ReachOfA] at h
  exact gp_nf_proceeds_mid (nf_reach_WF h) hr hsel hna hs

/-- the two cases together: the selection of winning tickets is complete (`selected`, and
    `AllDone` unless the variant is `nft`, whose NFT draw may be pending) -/
theorem proceeds_step (hash : List Nat → List Nat) (v : Variant) (a0 : InitArgs) (s : State) (r : Nat)
    (h : ReachOfA hash v a0 s r) (hsel : s.flags.selected = true) (hdone : v ≠ .nft → AllDone s)
    (e : Env) (c : Call) (s' : State) (o : Out) (hr : r ≤ e.round)
    (hs : step hash s e c = .ok (s', o)) :
    s'.price = s.price ∧ s'.flags.selected = true ∧ (v ≠ .nft → AllDone s') ∧
    (s'.claimablePayment = s.claimablePayment ∨ (c = .claimPayment ∧ s'.claimablePayment = 0)) := by
  cases hadd : s.flags.additional with
  | true =>
    obtain ⟨k1, k2, k3⟩ :=
      C03_proceeds_until_withdrawal_every_variant hash v a0 s r h ⟨hsel, hadd⟩ e c s' o hr hs
    exact ⟨k1, k2.1, fun _ => k2, k3⟩
  | false =>
    by_cases hv : v = .nft
    · subst hv
      obtain ⟨k1, k2, k3⟩ := C03_proceeds_nft_until_draw hash a0 s r h hsel hadd e c s' o hr hs
      exact ⟨k1, k2, fun hq => absurd rfl hq, Or.inl k3⟩
    · have := (hdone hv).2
      rw [hadd] at this; cases this

/-- C03, along any admissible history without a `claimPayment` call: price and recorded
    proceeds are those of the start. -/
theorem C03_proceeds_constant_run (hash : List Nat → List Nat) (v : Variant) (a0 : InitArgs) :
    ∀ (p : Hist) (s : State) (r : Nat), ReachOfA hash v a0 s r → s.flags.selected = true →
      (v ≠ .nft → AllDone s) → RoundsFrom r p → (∀ x ∈ p, HistOKOf v x.1 x.2) →
      (∀ x ∈ p, x.2 ≠ .claimPayment) →
      (run hash s p).price = s.price ∧ (run hash s p).flags.selected = true ∧
      (v ≠ .nft → AllDone (run hash s p)) ∧
      (run hash s p).claimablePayment = s.claimablePayment := by
  intro p s r h hsel hdone hr hp hnw
  obtain ⟨r', hl, _⟩ := be_later_run (P := fun e c => HistOKOf v e c ∧ c ≠ .claimPayment) hash p s r hr
    (fun x hx => ⟨hp x hx, hnw x hx⟩)
  have hR := be_Later.closed
    (R := fun s1 r1 => ReachOfA hash v a0 s1 r1 ∧ s1.flags.selected = true ∧ (v ≠ .nft → AllDone s1) ∧
      s1.price = s.price ∧ s1.claimablePayment = s.claimablePayment)
    (fun s1 r1 e c s2 o ⟨hre, hsl, hdn, hpr, hcp⟩ hle ⟨hok, hc⟩ hst => by
      obtain ⟨k1, k2, k3, k4⟩ := proceeds_step hash v a0 s1 r1 hre hsl hdn e c s2 o hle hst
      exact ⟨hre.call e c s2 o hle hok.1 hok.2 hst, k2, k3, k1.trans hpr,
        (k4.resolve_right fun hh => hc hh.1).trans hcp⟩)
    (fun s1 r1 r2 h1 hle => ⟨h1.1.wait hle, h1.2⟩) ⟨h, hsel, hdone, rfl, rfl⟩ hl
  exact ⟨hR.2.2.2.1, hR.2.1, hR.2.2.1, hR.2.2.2.2⟩

/-- C03: the owner's proceeds divided by the price is the winners count until the owner
    withdraws.  `s'` is the state left by the call that completes the selection of winning tickets
    (as in `C03_every_variant`), `p` any admissible later history without a `claimPayment` call;
    the count is `min (winners configured at deployment) lastTicketId`. -/
theorem C03_proceeds_over_price_until_withdrawal (hash : List Nat → List Nat) (v : Variant)
    (a0 : InitArgs) (s : State) (r : Nat) (h : ReachOfA hash v a0 s r) (e : Env) (s' : State)
    (o : Out) (hr : r ≤ e.round) (hok : HistOKOf v e (completionCall v))
    (hs : step hash s e (completionCall v) = .ok (s', o)) (hc : Completed v s' o)
    (p : Hist) (hrp : RoundsFrom e.round p) (hp : ∀ x ∈ p, HistOKOf v x.1 x.2)
    (hnw : ∀ x ∈ p, x.2 ≠ .claimPayment) :
    let W := countTrue s'.status s'.lastTicketId
    W = min a0.nrWinning s'.lastTicketId ∧
    (run hash s' p).price = s'.price ∧ 0 < (run hash s' p).price ∧
    (run hash s' p).claimablePayment = (run hash s' p).price * W ∧
    (run hash s' p).claimablePayment / (run hash s' p).price = W := by
  intro W
  obtain ⟨k1, _, _, k4, k5, _, k7, k8, _⟩ := C03_every_variant hash v a0 s r h e s' o hr hs hc
  have h' : ReachOfA hash v a0 s' e.round := h.call e _ s' o hr hok.1 hok.2 hs
  obtain ⟨j1, _, _, j4⟩ := C03_proceeds_constant_run hash v a0 p s' e.round h' k7 k8 hrp hp hnw
  have hpos : 0 < (run hash s' p).price := by rw [j1]; exact k5
  have hcp : (run hash s' p).claimablePayment = (run hash s' p).price * W := by
    rw [j4, j1]; exact k4
  exact ⟨k1, j1, hpos, hcp, by rw [hcp]; exact Nat.mul_div_cancel_left _ hpos⟩

/-! ## C18: the partition of the ticket space from the completed filter to the first claim -/

/-- C18: once the filter has completed, only `claim` changes the ticket space.  The selection
    steps, `claimPayment` and the owner's endpoints do not touch it; allocation, confirmation and
    blacklist endpoints are closed; the filter cannot run again. -/
theorem ticket_space_frozen_after_filter (hash : List Nat → List Nat) (s : State) (r : Nat)
    (h : Covered hash s r) (hf : s.flags.filtered = true) (e : Env) (c : Call) (s' : State) (o : Out)
    (hr : r ≤ e.round) (hs : step hash s e c = .ok (s', o)) (hc : c ≠ .claim) :
    s'.range = s.range ∧ s'.batch = s.batch ∧ s'.lastTicketId = s.lastTicketId ∧
    s'.confirmed = s.confirmed := by
  obtain ⟨h1, h2⟩ := gp_step_tk_after_filter h hr hs hf hc
  exact ⟨tk_range h1, tk_batch h1, tk_last h1, h2⟩

theorem partition_kept (s s' : State) (hr : s'.range = s.range)
    (hl : s'.lastTicketId = s.lastTicketId) (h : Partition s) : Partition s' := by
  obtain ⟨h1, h2, h3, h4⟩ := h
  refine ⟨?_, ?_, ?_, ?_⟩
  · rw [hr, hl]; exact h1
  · rw [hr]; exact h2
  · rw [hr, hl]; exact h3
  · rw [hl]
    show ∃ H : List Nat, H.Nodup ∧ (∀ a, a ∈ H ↔ (s'.range a).isSome = true) ∧
      sumOver (ar_size s'.range) H = s.lastTicketId
    rw [hr]; exact h4

/-- `ticket_space_frozen_after_filter` along histories: in a later state in which nobody has
    claimed, nobody had claimed at the start either, and the ticket space is that of the start. -/
theorem ticket_space_frozen_until_claims (hash : List Nat → List Nat) (s : State) (r : Nat)
    (h : Covered hash s r) (hf : s.flags.filtered = true) (s' : State) (r' : Nat)
    (hl : Later hash s r s' r') (hcl : ∀ a, s'.claimed a = false) :
    (∀ a, s.claimed a = false) ∧ s'.flags.filtered = true ∧ s'.range = s.range ∧
    s'.batch = s.batch ∧ s'.lastTicketId = s.lastTicketId ∧ s'.confirmed = s.confirmed := by
  obtain ⟨h1, h2, h3, h4⟩ := gp_later_tk h hf hl hcl
  exact ⟨h1, h2, tk_range h3, tk_batch h3, tk_last h3, h4⟩

/-- C18: in every covered state in which the filter has completed and nobody has claimed,
    whatever selection steps have run since, complete or interrupted, the records partition
    `1..lastTicketId` and everybody holds exactly as many tickets as confirmed. -/
theorem ranges_partition_until_claims (hash : List Nat → List Nat) (s : State) (r : Nat)
    (h : Covered hash s r) (hf : s.flags.filtered = true) (hcl : ∀ a, s.claimed a = false) :
    Partition s ∧ ∀ a, s.confirmed a = size s a := by
  obtain ⟨L, hp, heq⟩ := gp_part_covered h hf hcl
  exact ⟨partition_of_part hp, fun a => (ar_confEq_of_part hp heq a).1⟩

theorem nobody_claims_before_completion (hash : List Nat → List Nat) (s : State) (r : Nat)
    (h : Covered hash s r) (hnd : ¬ AllDone s) (a : Nat) : s.claimed a = false := by
  apply be_unclaimed_covered h
  cases h1 : s.flags.selected with
  | false => exact Or.inl rfl
  | true =>
    cases h2 : s.flags.additional with
    | false => exact Or.inr rfl
    | true => exact absurd ⟨h1, h2⟩ hnd

/-- C18: the partition holds until the last selection step completes, in particular during the
    NFT draw of launchpad-with-nft and during `secondary` of
    launchpad-nft-and-guaranteed-tickets (beyond `ranges_partition_until_distributed` of
    LP/Props/C18reach.lean). -/
theorem ranges_partition_until_completion (hash : List Nat → List Nat) (s : State) (r : Nat)
    (h : Covered hash s r) (hf : s.flags.filtered = true) (hnd : ¬ AllDone s) :
    Partition s ∧ ∀ a, s.confirmed a = size s a :=
  ranges_partition_until_claims hash s r h hf (nobody_claims_before_completion hash s r h hnd)

/-- the same from any deployment, after any admissible history -/
theorem ranges_partition_until_claims_run (hash : List Nat → List Nat) (v : Variant) (a0 : InitArgs)
    (e0 : Env) (s0 : State) (hi : init v a0 e0 = .ok s0) (p : Hist) (hr : RoundsFrom e0.round p)
    (hp : ∀ x ∈ p, HistOK x.1 x.2) :
    let s := run hash s0 p
    s.flags.filtered = true → (∀ a, s.claimed a = false) →
      Partition s ∧ ∀ a, s.confirmed a = size s a := by
  intro s hf hcl
  obtain ⟨r', hc, _⟩ := be_covered_run (be_covered_init (hash := hash) hi) p hr hp
  exact ranges_partition_until_claims hash _ r' hc hf hcl

/-! ## records are kept until the filter starts (`range_kept` of C18reach in terms of flags) -/

theorem filter_not_started_iff (hash : List Nat → List Nat) (s : State) (r : Nat)
    (h : Covered hash s r) :
    s.flags.started = false ↔ (s.flags.filtered = false ∧ s.op = .none) :=
  gp_started_iff h

/-- C18: in every later state in which the filter has not started, `a` holds the record it held,
    and the filter had not started before either. -/
theorem range_kept_until_filter_starts (hash : List Nat → List Nat) (s : State) (r : Nat)
    (h : Covered hash s r) (s' : State) (r' : Nat) (hl : Later hash s r s' r')
    (hns : s'.flags.started = false) (a : Nat) (rg : Range) (hr : s.range a = some rg) :
    s'.range a = some rg ∧ s.flags.started = false :=
  ⟨(gp_later_keeps h hl hns).2 a rg hr, (gp_later_keeps h hl hns).1⟩

/-- the same in terms of the contract's storage: no completion flag, no saved operation.
    `filtered = false` alone is not enough (`interrupted_filter_rewrites`). -/
theorem range_kept_while_unfiltered (hash : List Nat → List Nat) (s : State) (r : Nat)
    (h : Covered hash s r) (s' : State) (r' : Nat) (hl : Later hash s r s' r')
    (hf : s'.flags.filtered = false) (hop : s'.op = .none) (a : Nat) (rg : Range)
    (hr : s.range a = some rg) :
    s'.range a = some rg ∧ s.flags.filtered = false ∧ s.op = .none := by
  have hc' : Covered hash s' r' := (be_family_all hash).later h hl
  have hns : s'.flags.started = false := (gp_started_iff hc').mpr ⟨hf, hop⟩
  obtain ⟨k1, k2⟩ := range_kept_until_filter_starts hash s r h s' r' hl hns a rg hr
  exact ⟨k1, (gp_started_iff h).mp k2⟩

section examples
open LP.Props.C14reach LP.Props.C14reachG LP.Props.C01reach LP.PL

/-- launchpad-with-nft: `n11` (base lottery complete, NFT draw interrupted) is reachable -/
theorem gp_n11_reach : Reach id .nft n11 13 := n11_reachable

/-- `ranges_partition_until_completion` at `n11`: 7 holds `[1,2]`, 8 holds `[3,3]`, total 3 -/
example : Covered id n11 13 ∧ n11.flags.filtered = true ∧ n11.flags.selected = true ∧
    n11.flags.additional = false ∧ n11.op ≠ .none ∧ n11.range 7 = some ⟨1, 2⟩ ∧
    n11.range 8 = some ⟨3, 3⟩ ∧ n11.lastTicketId = 3 ∧ Partition n11 ∧
    (∀ a, n11.confirmed a = size n11 a) := by
  have hc : Covered id n11 13 := .nft gp_n11_reach
  have hf : n11.flags.filtered = true := by decide +kernel
  have ha : n11.flags.additional = false := by decide +kernel
  obtain ⟨k1, k2⟩ := ranges_partition_until_completion id n11 13 hc hf
    fun hh => by rw [hh.2] at ha; cases ha
  exact ⟨hc, hf, by decide +kernel, ha, by decide +kernel,
    by decide +kernel, by decide +kernel, by decide +kernel, k1, k2⟩

/-- … on launchpad-nft-and-guaranteed-tickets in the middle of `secondary` (`g14`: three
    interrupted calls) and after its completion, before any claim (`g15`) -/
example : Covered id g14 14 ∧ g14.flags.filtered = true ∧ g14.flags.selected = true ∧
    g14.flags.additional = false ∧ Partition g14 ∧
    Covered id g15 14 ∧ AllDone g15 ∧ (∀ a, g15.claimed a = false) ∧ Partition g15 ∧
    g15.range 9 = some ⟨4, 5⟩ ∧ g15.lastTicketId = 5 := by
  have hc : Covered id g14 14 := .nftGuar (ng_Reach_iff.mpr ⟨_, g14_reach⟩)
  have hc' : Covered id g15 14 := .nftGuar (ng_Reach_iff.mpr ⟨_, g15_reach⟩)
  have hf : g14.flags.filtered = true := by decide +kernel
  have ha : g14.flags.additional = false := by decide +kernel
  have hnd : ¬ AllDone g14 := fun hh => by rw [hh.2] at ha; cases ha
  have hcl : ∀ a, g15.claimed a = false := fun a => by
    obtain ⟨o, ho', _⟩ := g15_step
    rcases step_claimed_cases ho' with ⟨_, h1⟩ | ⟨h1, _⟩
    · rw [h1]; exact nobody_claims_before_completion id g14 14 hc hnd a
    · cases h1
  exact ⟨hc, hf, by decide +kernel, ha,
    (ranges_partition_until_completion id g14 14 hc hf hnd).1,
    hc', by unfold AllDone; decide +kernel, hcl,
    (ranges_partition_until_claims id g15 14 hc' (by decide +kernel) hcl).1,
    by decide +kernel⟩

/-- `op = .none` cannot be dropped from `range_kept_while_unfiltered`: the interrupted `filter`
    call `g8 → g9` (budget 0) leaves `filtered = false` but has already compacted the record of
    participant 7 from `[1,3]` to `[1,2]` -/
theorem interrupted_filter_rewrites :
    Covered id g8 8 ∧ g8.flags.filtered = false ∧ g8.op = .none ∧ g8.flags.started = false ∧
    g8.range 7 = some ⟨1, 3⟩ ∧
    (∃ o, step id g8 { caller := 9, round := 10, budget := some 0 } .filter = .ok (g9, o)) ∧
    g9.flags.filtered = false ∧ g9.op = .filter 4 1 ∧ g9.flags.started = true ∧
    g9.range 7 = some ⟨1, 2⟩ := by
  refine ⟨.nftGuar (ng_Reach_iff.mpr ⟨_, g8_reach⟩), by decide +kernel, by decide +kernel,
    by decide +kernel, by decide +kernel, ?_, by decide +kernel⟩
  exact stOf_spec g9_ok g8

/-- `range_kept_until_filter_starts` from `ex1` (allocation made) to `ex2` (deposit made): the
    filter has not started in `ex2`, the record of 7 is kept -/
example : ex2.flags.started = false ∧ ex2.range 7 = some ⟨1, 2⟩ := by
  have h1 : Reach id .base ex1 1 :=
    Reach.callOk _ _ ex0_reach (by decide) (Or.inl rfl)
      (by show ∀ p ∈ [(7, 2), (8, 1)], 1 ≤ p.2; decide) ex1_ok
  obtain ⟨o, ho⟩ := stOf_spec ex2_ok ex1
  have hl : LP.Props.C18reach.Later id ex1 1 ex2 2 :=
    .call ex1 1 { caller := 1, round := 2, esdts := [⟨.esdt 1, 0, 5⟩] } .deposit ex2 o .refl
      (by decide) ⟨Or.inl rfl, trivial, trivial⟩ ho
  exact ⟨by decide +kernel, (range_kept_until_filter_starts id ex1 1 (.plain (Or.inl rfl) h1) ex2 2 hl
    (by decide +kernel) 7 ⟨1, 2⟩ (by decide +kernel)).1⟩

/-- hypotheses of `C03_proceeds_until_withdrawal_every_variant`: `x14` (guarV2), `n12` (nft),
    `g15` (nftGuar) are reachable with all selection steps complete; in `n12 → n13` (a claim) the
    proceeds stay 10, in `n13 → n14` (the owner's withdrawal) they drop to 0 -/
example : (∃ a0, ReachOfA id .guarV2 a0 LP.VV.x14 50 ∧ AllDone LP.VV.x14) ∧
    (∃ a0, ReachOfA id .nft a0 n12 14 ∧ AllDone n12) ∧
    (ReachOfA id .nftGuar gArgs g15 14 ∧ AllDone g15) ∧
    n12.claimablePayment = 10 ∧ n13.claimablePayment = 10 ∧ n14.claimablePayment = 0 := by
  refine ⟨?_, ?_, ⟨g15_reach, by unfold AllDone; decide +kernel⟩, by decide +kernel⟩
  · obtain ⟨a0, h⟩ := Reach_iff.mp LP.VV.x14_reach
    exact ⟨a0, h, by unfold AllDone; decide +kernel⟩
  · obtain ⟨a0, h⟩ := Reach_iff.mp n12_reach
    exact ⟨a0, h, n12_done⟩

/-- after the completing `select` (`n9 → n10`): an interrupted and a completing draw call, then
    the claim of participant 7 -/
def nftTail : Hist :=
  [({ caller := 9, round := 13, budget := some 0 }, .selectNft),
   ({ caller := 9, round := 14 }, .selectNft), ({ caller := 7, round := 15 }, .claim)]

/-- `C03_proceeds_over_price_until_withdrawal` along `nftTail`: `claimablePayment / price` is
    still the number of winning flags at completion, `10 / 10 = 1` -/
example : (run id n10 nftTail).claimablePayment / (run id n10 nftTail).price
      = countTrue n10.status n10.lastTicketId ∧
    countTrue n10.status n10.lastTicketId = 1 ∧ (run id n10 nftTail).claimablePayment = 10 ∧
    (run id n10 nftTail).claimed 7 = true := by
  obtain ⟨a0, h9⟩ := Reach_iff.mp n9_reach
  have h9 : ReachOfA id .nft a0 n9 11 := h9
  obtain ⟨o, ho'⟩ : ∃ o, step id n9 { caller := 9, round := 12 } (completionCall .nft) = .ok (n10, o) :=
    stOf_spec n10_ok n9
  have key := C03_proceeds_over_price_until_withdrawal id .nft a0 n9 11 h9
    { caller := 9, round := 12 } n10 o (by decide) ⟨Or.inl rfl, trivial⟩ ho'
    (show n10.flags.selected = true by decide +kernel) nftTail
    ⟨by decide, by decide, by decide, trivial⟩
    (by
      intro x hx
      simp only [nftTail, List.mem_cons, List.not_mem_nil, or_false] at hx
      rcases hx with rfl | rfl | rfl <;> exact ⟨Or.inl rfl, trivial⟩)
    (by
      intro x hx
      simp only [nftTail, List.mem_cons, List.not_mem_nil, or_false] at hx
      rcases hx with rfl | rfl | rfl <;> nofun)
  exact ⟨key.2.2.2.2, by decide +kernel⟩

end examples

end LP.Props.C03proceeds

#print axioms LP.Props.C03proceeds.C03_proceeds_until_withdrawal_every_variant
#print axioms LP.Props.C03proceeds.C03_proceeds_nft_until_draw
#print axioms LP.Props.C03proceeds.proceeds_step
#print axioms LP.Props.C03proceeds.C03_proceeds_constant_run
#print axioms LP.Props.C03proceeds.C03_proceeds_over_price_until_withdrawal
#print axioms LP.Props.C03proceeds.ticket_space_frozen_after_filter
#print axioms LP.Props.C03proceeds.partition_kept
#print axioms LP.Props.C03proceeds.ticket_space_frozen_until_claims
#print axioms LP.Props.C03proceeds.ranges_partition_until_claims
#print axioms LP.Props.C03proceeds.nobody_claims_before_completion
#print axioms LP.Props.C03proceeds.ranges_partition_until_completion
#print axioms LP.Props.C03proceeds.ranges_partition_until_claims_run
#print axioms LP.Props.C03proceeds.filter_not_started_iff
#print axioms LP.Props.C03proceeds.range_kept_until_filter_starts
#print axioms LP.Props.C03proceeds.range_kept_while_unfiltered
#print axioms LP.Props.C03proceeds.gp_n11_reach
#print axioms LP.Props.C03proceeds.interrupted_filter_rewrites
