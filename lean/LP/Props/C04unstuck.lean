import LP.Proofs.Unstuck2
import LP.Props.C02reach
import LP.Props.C13reachV2
import LP.Props.C14reach
/-
  C04 "every step reports completion after finitely many resumed calls and cannot be left stuck"
  and C19 "resuming an operation that was interrupted before the pause", on REACHABLE states:
  `be_Covered hash s r` = `s` is reachable (latest transaction at a round `≤ r`) in one of the eight
  launchpads; `Reach hash .nft s r` = in the launchpad with NFT draw.  `filter` and `select` for all
  eight, `selectNft`, and the mere acceptance of guarV2's `distribute` here; `distribute` /
  `secondary` with their measures in C04unstuck2 and C04unstuck3.
  In the names of these three files `_partial` marks a statement weaker than the property text:
  here (`distribute_v2_never_stuck_partial`) acceptance without the measure; in C04unstuck2 and
  C04unstuck3 progress or completion under a hypothesis on the draws of the v1 leftover loop (it
  does not spin; `us2_DrawsOK`, `us3_DrawsOKng`).

  Vocabulary (LP/Proofs/Unstuck.lean, `us_selLeft` and `us_nftLeft` in LP/Proofs/Resume.lean;
  `us_` = "never stuck"):
  * `us_NoPay e`    the call carries neither EGLD nor ESDT;
  * `us_filLeft s`  `lastTicketId + 1 - cursor`, cursor = saved `first` (1 when nothing is saved);
  * `us_selLeft s`  `nrWinning + 1 - pos`, pos = saved position (1 when nothing is saved);
  * `us_nftLeft s`  `min |payers| (availNfts - |nftWinners|)`;
  * `us_Outcome s' o e flag left s`   the call completed (`ret = [0]`, flag set, nothing saved) or —
                    only with a finite budget — was interrupted (`ret = [1]`, flag not set, an
                    operation saved, `left s' < left s`); `paused`, timeline, owner unchanged;
  * `us_hist c es`  the history that calls endpoint `c` once in each environment of `es`;
  * `us_Kept s s'`  same saved operation and loop data, same completion flags, same selection round.
-/
namespace LP.Props.C04unstuck
open LP LP.Props.C17

variable (hash : List Nat → List Nat)

/-- C04 for `filter`: in a reachable state with the filter not complete, from the selection round
    on and un-paused, a `filter` call without payment (any caller, any budget) is accepted whatever
    is saved — only `.none` or a filter cursor can be; it completes or, only with a finite budget,
    is interrupted having strictly decreased the `≤ lastTicketId` ids left. -/
theorem filter_never_stuck (s : State) (r : Nat) (e : Env) (hs : be_Covered hash s r)
    (hnf : s.flags.filtered = false) (hr : r ≤ e.round) (hsel : s.cfg.sel ≤ e.round)
    (hegld : e.egld = 0) (hesdt : e.esdts = []) (hp : s.paused = false) :
    (s.op = .none ∨ ∃ f rm, s.op = .filter f rm) ∧ us_filLeft s ≤ s.lastTicketId ∧
    ∃ s' o, step hash s e .filter = .ok (s', o) ∧ be_Covered hash s' e.round ∧
      s'.paused = false ∧ s'.cfg = s.cfg ∧
      ((o.ret = [0] ∧ s'.flags.filtered = true ∧ s'.op = .none) ∨
       (o.ret = [1] ∧ s'.flags.filtered = false ∧ (∃ f rm, s'.op = .filter f rm) ∧
          us_filLeft s' < us_filLeft s ∧ e.budget ≠ none)) ∧
      (e.budget = none → o.ret = [0] ∧ s'.flags.filtered = true ∧ s'.op = .none) := by
  obtain ⟨h1, h2, s', o, hst, hcov, hout⟩ :=
    us_filter_never_stuck hash hs hnf hr hsel ⟨hegld, hesdt⟩ hp
  refine ⟨h1, h2, s', o, hst, hcov, by rw [hout.paused]; exact hp, hout.cfg, ?_, hout.unlimited⟩
  rcases hout.cases with h | ⟨h3, h4, h5, h6, h7⟩
  · exact Or.inl h
  · refine Or.inr ⟨h3, h4, ?_, h6, h7⟩
    obtain ⟨_, f, rm, _, hop, _⟩ := (us_live_covered hcov).fil h4
    rcases hop with ⟨hop, _⟩ | hop
    · exact absurd hop h5
    · exact ⟨f, rm, hop⟩

/-- any `us_filLeft s + 1` successive `filter` calls, whatever their budgets, complete the filter
    (a call after completion is rejected) -/
theorem filter_completes (s : State) (r : Nat) (hs : be_Covered hash s r) (hsel : s.cfg.sel ≤ r)
    (hp : s.paused = false) (es : List Env) (hr : RoundsFrom r (us_hist .filter es))
    (hpay : ∀ e ∈ es, us_NoPay e) (hlen : us_filLeft s + 1 ≤ es.length) :
    (run hash s (us_hist .filter es)).flags.filtered = true := by
  refine us_outcome_completes hash .filter rfl (be_Covered hash) us_NoPay us_filLeft s ?_ es r hs hsel
    hr hpay hlen
  intro s1 r1 e hg hf hr1 hq
  exact (us_filter_never_stuck hash hg.reach hf hr1 (Nat.le_trans hg.sel hr1) hq
    (by rw [hg.paused, hp])).2.2

/-- the bound of the property text: `lastTicketId + 1` calls always suffice -/
theorem filter_completes_within_last (s : State) (r : Nat) (hs : be_Covered hash s r)
    (hsel : s.cfg.sel ≤ r) (hp : s.paused = false) (es : List Env)
    (hr : RoundsFrom r (us_hist .filter es)) (hpay : ∀ e ∈ es, us_NoPay e)
    (hlen : s.lastTicketId + 1 ≤ es.length) :
    (run hash s (us_hist .filter es)).flags.filtered = true :=
  us_completes_within hash .filter rfl us_filLeft s.lastTicketId es hr
    (fun hf e he hr1 =>
      (us_filter_never_stuck hash hs hf hr1 (Nat.le_trans hsel hr1) (hpay e he) hp).2.1)
    (filter_completes hash s r hs hsel hp es hr hpay) hlen

/-- C04 for `select`: filter complete, base lottery not, selection stage, un-paused: a `select`
    call by the owner or a non-contract account (no payment, any budget, ANY seeds — a seed is only
    read when `op = .none`, an absent one is replaced by the zero seed) is accepted; only `.none` or
    a `.select` cursor can be saved; it completes or strictly decreases the `≤ nrWinning` positions
    left. -/
theorem select_never_stuck (s : State) (r : Nat) (e : Env) (hs : be_Covered hash s r)
    (hf : s.flags.filtered = true) (hns : s.flags.selected = false) (hr : r ≤ e.round)
    (hsel : s.cfg.sel ≤ e.round) (hegld : e.egld = 0) (hesdt : e.esdts = [])
    (hp : s.paused = false) (hcaller : e.caller = s.owner ∨ e.callerIsContract = false) :
    (s.op = .none ∨ ∃ rg p, s.op = .select rg p) ∧ us_selLeft s ≤ s.nrWinning ∧
    ∃ s' o, step hash s e .select = .ok (s', o) ∧ be_Covered hash s' e.round ∧
      s'.paused = false ∧ s'.cfg = s.cfg ∧ s'.owner = s.owner ∧
      ((o.ret = [0] ∧ s'.flags.selected = true ∧ s'.op = .none) ∨
       (o.ret = [1] ∧ s'.flags.selected = false ∧ s'.op ≠ .none ∧
          us_selLeft s' < us_selLeft s ∧ e.budget ≠ none)) ∧
      (e.budget = none → o.ret = [0] ∧ s'.flags.selected = true ∧ s'.op = .none) := by
  obtain ⟨h1, h2, s', o, hst, hcov, _, hout⟩ :=
    us_select_never_stuck hash hs hf hns hr hsel ⟨hegld, hesdt⟩ hp hcaller
  exact ⟨h1, h2, s', o, hst, hcov, by rw [hout.paused]; exact hp, hout.cfg, hout.owner, hout.cases,
    hout.unlimited⟩

theorem select_completes (s : State) (r : Nat) (hs : be_Covered hash s r)
    (hf : s.flags.filtered = true) (hsel : s.cfg.sel ≤ r) (hp : s.paused = false) (es : List Env)
    (hr : RoundsFrom r (us_hist .select es))
    (hq : ∀ e ∈ es, us_NoPay e ∧ (e.caller = s.owner ∨ e.callerIsContract = false))
    (hlen : us_selLeft s + 1 ≤ es.length) :
    (run hash s (us_hist .select es)).flags.selected = true := by
  refine us_outcome_completes hash .select rfl
    (fun s1 r1 => be_Covered hash s1 r1 ∧ s1.flags.filtered = true)
    (fun e => us_NoPay e ∧ (e.caller = s.owner ∨ e.callerIsContract = false))
    us_selLeft s ?_ es r ⟨hs, hf⟩ hsel hr hq hlen
  intro s1 r1 e hg hns hr1 hq1
  obtain ⟨_, _, s', o, hst, hcov, hfil, hout⟩ := us_select_never_stuck hash hg.reach.1 hg.reach.2
    hns hr1 (Nat.le_trans hg.sel hr1) hq1.1 (by rw [hg.paused, hp]) (by rw [hg.owner]; exact hq1.2)
  exact ⟨s', o, hst, ⟨hcov, hfil⟩, hout⟩

theorem select_completes_within_nrWinning (s : State) (r : Nat) (hs : be_Covered hash s r)
    (hf : s.flags.filtered = true) (hsel : s.cfg.sel ≤ r) (hp : s.paused = false) (es : List Env)
    (hr : RoundsFrom r (us_hist .select es))
    (hq : ∀ e ∈ es, us_NoPay e ∧ (e.caller = s.owner ∨ e.callerIsContract = false))
    (hlen : s.nrWinning + 1 ≤ es.length) :
    (run hash s (us_hist .select es)).flags.selected = true :=
  us_completes_within hash .select rfl us_selLeft s.nrWinning es hr
    (fun hsd e he hr1 =>
      (us_select_never_stuck hash hs hf hsd hr1 (Nat.le_trans hsel hr1) (hq e he).1 hp
        (hq e he).2).2.1)
    (select_completes hash s r hs hf hsel hp es hr hq) hlen

/-- C04 for `selectNft` (launchpad with NFT draw; the endpoint has neither pause gate nor caller
    gate): lottery complete, draw not: accepted from the selection round on; only `.none` or an
    `.nft` cursor can be saved; it completes or strictly decreases `us_nftLeft ≤ availNfts` -/
theorem selectNft_never_stuck (s : State) (r : Nat) (e : Env) (hs : Reach hash .nft s r)
    (hsd : s.flags.selected = true) (hna : s.flags.additional = false) (hr : r ≤ e.round)
    (hsel : s.cfg.sel ≤ e.round) (hegld : e.egld = 0) (hesdt : e.esdts = []) :
    (s.op = .none ∨ ∃ rg, s.op = .additional (.nft rg)) ∧ us_nftLeft s ≤ s.availNfts ∧
    ∃ s' o, step hash s e .selectNft = .ok (s', o) ∧ Reach hash .nft s' e.round ∧
      s'.flags.selected = true ∧ s'.cfg = s.cfg ∧
      ((o.ret = [0] ∧ s'.flags.additional = true ∧ s'.op = .none) ∨
       (o.ret = [1] ∧ s'.flags.additional = false ∧ s'.op ≠ .none ∧
          us_nftLeft s' < us_nftLeft s ∧ e.budget ≠ none)) ∧
      (e.budget = none → o.ret = [0] ∧ s'.flags.additional = true ∧ s'.op = .none) := by
  obtain ⟨h1, h2, s', o, hst, hre, hsd', hout⟩ :=
    us_nft_never_stuck hash hs hsd hna hr hsel ⟨hegld, hesdt⟩
  exact ⟨h1, h2, s', o, hst, hre, hsd', hout.cfg, hout.cases, hout.unlimited⟩

theorem selectNft_completes (s : State) (r : Nat) (hs : Reach hash .nft s r)
    (hsd : s.flags.selected = true) (hsel : s.cfg.sel ≤ r) (es : List Env)
    (hr : RoundsFrom r (us_hist .selectNft es)) (hpay : ∀ e ∈ es, us_NoPay e)
    (hlen : us_nftLeft s + 1 ≤ es.length) :
    (run hash s (us_hist .selectNft es)).flags.additional = true := by
  refine us_outcome_completes hash .selectNft rfl
    (fun s1 r1 => Reach hash .nft s1 r1 ∧ s1.flags.selected = true) us_NoPay us_nftLeft s ?_
    es r ⟨hs, hsd⟩ hsel hr hpay hlen
  intro s1 r1 e hg hna hr1 hq
  obtain ⟨_, _, s', o, hst, hre', hsd', hout⟩ := us_nft_never_stuck hash hg.reach.1 hg.reach.2 hna
    hr1 (Nat.le_trans hg.sel hr1) hq
  exact ⟨s', o, hst, ⟨hre', hsd'⟩, hout⟩

/-- `C04unstuck2.distribute_v2_never_stuck` without its measure: a `distribute` call of guarV2 is
    accepted whatever is saved and whatever the budget -/
theorem distribute_v2_never_stuck_partial (s : State) (r : Nat) (e : Env)
    (hs : Reach hash .guarV2 s r) (hsd : s.flags.selected = true)
    (hna : s.flags.additional = false) (hr : r ≤ e.round) (hsel : s.cfg.sel ≤ e.round)
    (hegld : e.egld = 0) (hesdt : e.esdts = []) (hp : s.paused = false)
    (hcaller : e.caller = s.owner ∨ e.callerIsContract = false) :
    (s.op = .none ∨ ∃ g, s.op = .additional (.guar g)) ∧
    ∃ s' o, step hash s e .distribute = .ok (s', o) ∧ Reach hash .guarV2 s' e.round ∧
      s'.paused = false ∧ s'.cfg = s.cfg ∧
      ((o.ret = [0] ∧ s'.flags.additional = true) ∨
       (o.ret = [1] ∧ s'.flags.additional = false ∧ e.budget ≠ none)) := by
  obtain ⟨h1, _, s', o, hst, hre, _, hout⟩ :=
    us2_dist_v2_never_stuck hash hs hsd hna hr hsel ⟨hegld, hesdt⟩ hp hcaller
  exact ⟨h1, s', o, hst, hre, by rw [hout.paused]; exact hp, hout.cfg,
    hout.cases.imp (fun h => ⟨h.1, h.2.1⟩) (fun h => ⟨h.1, h.2.1, h.2.2.2.2⟩)⟩

/-! ## C19: a pause between the calls of an interrupted operation loses nothing -/

/-- C19: `pause`, then calls that are all rejected (as every `filter` / `select` / `confirm` call
    is while paused), then `unpause`: the state is EXACTLY the one before the pause -/
theorem pause_does_not_lose_progress (s : State) (e1 e2 : Env) (mid : Hist) (s1 s2 : State)
    (o1 o2 : Out) (hnp : s.paused = false) (h1 : step hash s e1 .pause = .ok (s1, o1))
    (hmid : ∀ ec ∈ mid, ∃ err, step hash s1 ec.1 ec.2 = .error err)
    (h2 : step hash s1 e2 .unpause = .ok (s2, o2)) :
    s1.op = s.op ∧ s1.cursor = s.cursor ∧ s1.flags = s.flags ∧
    (∀ e, ∃ err, step hash s1 e .filter = .error err) ∧
    (∀ e, ∃ err, step hash s1 e .select = .error err) ∧
    run hash s ((e1, Call.pause) :: mid ++ [(e2, Call.unpause)]) = s ∧
    ∀ e c, step hash (run hash s ((e1, Call.pause) :: mid ++ [(e2, Call.unpause)])) e c
      = step hash s e c := by
  have hs1 := (C19.pause_effect hash s e1 s1 o1 h1).1
  have hp1 : s1.paused = true := by rw [hs1]
  have hrt := C19frame.pause_roundtrip hash s e1 e2 mid s1 s2 o1 o2 hnp h1 hmid h2
  refine ⟨by rw [hs1], by rw [hs1]; rfl, by rw [hs1],
    fun e => C19.paused_rejects hash s1 e .filter hp1 (Or.inr (Or.inl rfl)),
    fun e => C19.paused_rejects hash s1 e .select hp1 (Or.inr (Or.inr rfl)), hrt, ?_⟩
  intro e c
  rw [hrt]

/-- C19, general frame: from a reachable state with a saved operation, in the selection stage, ANY
    history (pauses and un-pauses included) none of whose calls is the endpoint that resumes the
    saved operation keeps cursor, loop data, completion flags and selection round -/
theorem saved_operation_survives (s : State) (r : Nat) (hs : be_Covered hash s r)
    (hop : s.op ≠ .none) (hfl : (s.flags.selected && s.flags.additional) = false)
    (hsel : s.cfg.sel ≤ r) (h : Hist) (hr : RoundsFrom r h) (hok : ∀ p ∈ h, be_HistOK p.1 p.2)
    (hres : ∀ p ∈ h, p.2.resumes s.op = false) :
    us_Kept s (run hash s h) ∧
    ∃ r', be_Covered hash (run hash s h) r' ∧ r ≤ r' ∧
      ∀ q : Hist, RoundsFrom r (h ++ q) → RoundsFrom r' q := by
  have hg := (be_family_all hash).good hs
  obtain ⟨hc1, _⟩ := (validPeriods_iff _).mp hg.valid
  have hround : ∀ p ∈ h, s.cfg.sel ≤ p.1.round :=
    fun p hp => Nat.le_trans hsel (us_roundsFrom_mem hr p hp)
  obtain ⟨h1, h2⟩ := cursor_frame_run hash h s hop hfl (by omega) hround hres
  obtain ⟨_, h3, _⟩ := be_frozen_run hash h s s r ⟨hg.valid, rfl, hsel, rfl⟩ hround
  obtain ⟨r', hl, hq⟩ := be_later_run (P := be_HistOK) hash h s r hr hok
  exact ⟨⟨h1, h2, h3⟩, r', (be_family_all hash).later hs hl, hl.round_le, hq⟩

/-- C19 for an interrupted filter followed by anything but `filter`: once un-paused, the next
    `filter` call is accepted and continues from the saved cursor (`us_filLeft` unchanged) -/
theorem filter_resumes_after_pause (s : State) (r : Nat) (hs : be_Covered hash s r) (f rm : Nat)
    (hop : s.op = .filter f rm) (hsel : s.cfg.sel ≤ r) (h : Hist) (hr : RoundsFrom r h)
    (hok : ∀ p ∈ h, be_HistOK p.1 p.2) (hnf : ∀ p ∈ h, p.2 ≠ .filter)
    (hp : (run hash s h).paused = false) (e : Env)
    (hre : RoundsFrom r (h ++ [(e, .filter)])) (hpay : us_NoPay e) :
    us_Kept s (run hash s h) ∧ us_filLeft (run hash s h) = us_filLeft s ∧
    ∃ s' o, step hash (run hash s h) e .filter = .ok (s', o) ∧ be_Covered hash s' e.round ∧
      us_Outcome s' o e (fun s => s.flags.filtered) us_filLeft (run hash s h) := by
  obtain ⟨hm1, hm2, _⟩ := ((be_family_all hash).good hs).mid_filter hop
  obtain ⟨hk, r', hcov, hrr, hq⟩ := saved_operation_survives hash s r hs (by rw [hop]; exact nofun)
    (by rw [hm2]; rfl) hsel h hr hok
    (fun p hp => by
      rw [hop]
      have := hnf p hp
      cases hc : p.2 <;> first | rfl | exact absurd hc this)
  have hre' : r' ≤ e.round := (hq _ hre).1
  obtain ⟨_, _, hst⟩ := us_filter_never_stuck hash hcov (by rw [hk.flags]; exact hm1) hre'
    (by rw [hk.sel]; omega) hpay hp
  exact ⟨hk, us_filLeft_of_cursor hk.cursor, hst⟩

theorem select_resumes_after_pause (s : State) (r : Nat) (hs : be_Covered hash s r) (rg : Rng)
    (pos : Nat) (hop : s.op = .select rg pos) (hf : s.flags.filtered = true)
    (hns : s.flags.selected = false) (hsel : s.cfg.sel ≤ r) (h : Hist) (hr : RoundsFrom r h)
    (hok : ∀ p ∈ h, be_HistOK p.1 p.2) (hnf : ∀ p ∈ h, p.2 ≠ .select)
    (hp : (run hash s h).paused = false) (e : Env)
    (hre : RoundsFrom r (h ++ [(e, .select)])) (hpay : us_NoPay e)
    (hcaller : e.caller = (run hash s h).owner ∨ e.callerIsContract = false) :
    us_Kept s (run hash s h) ∧ us_selLeft (run hash s h) = us_selLeft s ∧
    ∃ s' o, step hash (run hash s h) e .select = .ok (s', o) ∧ be_Covered hash s' e.round ∧
      us_Outcome s' o e (fun s => s.flags.selected) us_selLeft (run hash s h) := by
  obtain ⟨hk, r', hcov, hrr, hq⟩ := saved_operation_survives hash s r hs (by rw [hop]; exact nofun)
    (by rw [hns]; rfl) hsel h hr hok
    (fun p hp => by
      rw [hop]
      have := hnf p hp
      cases hc : p.2 <;> first | rfl | exact absurd hc this)
  have hre' : r' ≤ e.round := (hq _ hre).1
  obtain ⟨_, _, s', o, hst, hcov', _, hout⟩ := us_select_never_stuck hash hcov
    (by rw [hk.flags]; exact hf) (by rw [hk.flags]; exact hns) hre' (by rw [hk.sel]; omega) hpay hp
    hcaller
  exact ⟨hk, us_selLeft_of_cursor hk.cursor, s', o, hst, hcov', hout⟩

/-! ## non-vacuity: the history `ex0 … ex7` of `C01reach` (base launchpad, participants 7 and 8
    confirm 2 + 1 tickets; `ex4` = before the filter, `ex5` = after an interrupted `filter` call
    with budget 0, `ex6` = filtered) -/

open LP.Props.C01reach LP.PL

theorem ex4_reach : Reach id .base ex4 6 :=
  Reach.callOk _ _ (Reach.callOk _ _ ex2_reach (by decide) (Or.inr rfl) trivial ex3_ok)
    (by decide) (Or.inr rfl) trivial ex4_ok

theorem ex5_reach : Reach id .base ex5 10 :=
  Reach.callOk _ _ ex4_reach (by decide) (Or.inl rfl) trivial ex5_ok

theorem ex6_reach : Reach id .base ex6 11 :=
  Reach.callOk _ _ ex5_reach (by decide) (Or.inl rfl) trivial ex6_ok

/-- the hypotheses of `filter_never_stuck` on `ex4` and `ex5`, of `select_never_stuck` on `ex6` -/
example : be_Covered id ex4 6 ∧ ex4.flags.filtered = false ∧ ex4.cfg.sel ≤ 10 ∧ ex4.paused = false ∧
    ex4.op = .none ∧ us_filLeft ex4 = 3 :=
  ⟨.plain (Or.inl rfl) ex4_reach, by decide +kernel⟩

example : be_Covered id ex5 10 ∧ ex5.flags.filtered = false ∧ ex5.cfg.sel ≤ 10 ∧
    ex5.paused = false ∧ ex5.op = .filter 3 0 ∧ us_filLeft ex5 = 1 ∧ ex5.lastTicketId = 3 :=
  ⟨.plain (Or.inl rfl) ex5_reach, by decide +kernel⟩

example : be_Covered id ex6 11 ∧ ex6.flags.filtered = true ∧ ex6.flags.selected = false ∧
    ex6.paused = false ∧ ex6.op = .none ∧ us_selLeft ex6 = 1 :=
  ⟨.plain (Or.inl rfl) ex6_reach, by decide +kernel⟩

/-- budget 0 from `ex4` is interrupted with progress, the unlimited call from `ex5` completes -/
example :
    (match step id ex4 { caller := 9, round := 10, budget := some 0 } .filter with
     | .ok (s', o) => some (o.ret, s'.flags.filtered, us_filLeft s')
     | .error _ => none) = some ([1], false, 1) ∧
    (match step id ex5 { caller := 3, round := 12 } .filter with
     | .ok (s', o) => some (o.ret, s'.flags.filtered, decide (s'.op = .none))
     | .error _ => none) = some ([0], true, true) := by
  decide +kernel

/-- after the interrupted filter the owner pauses, changes the support address and un-pauses: the
    saved cursor is intact (and a `filter` call made while paused is rejected) -/
def exPauseHist : Hist :=
  [({ caller := 1, round := 10 }, .pause), ({ caller := 1, round := 11 }, .setSupport 4),
   ({ caller := 1, round := 12 }, .unpause)]

example : RoundsFrom 10 exPauseHist ∧ (∀ p ∈ exPauseHist, be_HistOK p.1 p.2) ∧
    (∀ p ∈ exPauseHist, p.2 ≠ .filter) ∧ (run id ex5 exPauseHist).paused = false ∧
    (run id ex5 exPauseHist).op = ex5.op ∧ (run id ex5 exPauseHist).support = 4 := by
  refine ⟨⟨by decide, by decide, by decide, trivial⟩, ?_, ?_, by decide +kernel⟩
  · intro p hp
    simp only [exPauseHist, List.mem_cons, List.mem_nil_iff, or_false] at hp
    rcases hp with rfl | rfl | rfl <;> exact ⟨Or.inl rfl, trivial, trivial⟩
  · intro p hp
    simp only [exPauseHist, List.mem_cons, List.mem_nil_iff, or_false] at hp
    rcases hp with rfl | rfl | rfl <;> exact nofun

example :
    (match step id ex5 { caller := 1, round := 10 } .pause with
     | .ok (s1, _) =>
       (match step id s1 { caller := 9, round := 11 } .filter with
        | .ok _ => none
        | .error _ => some (decide (s1.op = ex5.op)))
     | .error _ => none) = some true := by decide +kernel

/-! `n10` / `n11` (launchpad with NFT draw: lottery complete; after an interrupted draw call) and
    `x7` (guarV2: lottery complete, distribution not started) -/

open LP.Props.C14reach LP.VV

theorem n11_reach : Reach id .nft n11 13 := n11_reachable

example : n10.flags.selected = true ∧ n10.flags.additional = false ∧ n10.cfg.sel ≤ 13 ∧
    n10.op = .none ∧ us_nftLeft n10 = 1 := by decide +kernel

example : n11.flags.selected = true ∧ n11.flags.additional = false ∧
    (∃ rg, n11.op = .additional (.nft rg)) ∧ us_nftLeft n11 = 0 :=
  ⟨by decide +kernel, by decide +kernel, ⟨⟨List.replicate 32 0, 4⟩, by decide +kernel⟩,
    by decide +kernel⟩

theorem x7_reach : Reach id .guarV2 x7 11 :=
  Reach.callOk _ _ (Reach.callOk _ _ x5_reach (by decide) (Or.inl rfl) trivial x6_ok)
    (by decide) (Or.inl rfl) trivial x7_ok

example : x7.flags.selected = true ∧ x7.flags.additional = false ∧ x7.paused = false ∧
    x7.cfg.sel ≤ 12 ∧ x7.op = .none ∧
    (match step id x7 { caller := 9, round := 12, budget := some 0 } .distribute with
     | .ok (s', o) => some (o.ret, s'.flags.additional)
     | .error _ => none) = some ([1], false) :=
  by decide +kernel

end LP.Props.C04unstuck

#print axioms LP.Props.C04unstuck.filter_never_stuck
#print axioms LP.Props.C04unstuck.filter_completes
#print axioms LP.Props.C04unstuck.filter_completes_within_last
#print axioms LP.Props.C04unstuck.select_never_stuck
#print axioms LP.Props.C04unstuck.select_completes
#print axioms LP.Props.C04unstuck.select_completes_within_nrWinning
#print axioms LP.Props.C04unstuck.selectNft_never_stuck
#print axioms LP.Props.C04unstuck.selectNft_completes
#print axioms LP.Props.C04unstuck.distribute_v2_never_stuck_partial
#print axioms LP.Props.C04unstuck.pause_does_not_lose_progress
#print axioms LP.Props.C04unstuck.saved_operation_survives
#print axioms LP.Props.C04unstuck.filter_resumes_after_pause
#print axioms LP.Props.C04unstuck.select_resumes_after_pause
#print axioms LP.Props.C04unstuck.ex4_reach
#print axioms LP.Props.C04unstuck.ex5_reach
#print axioms LP.Props.C04unstuck.ex6_reach
#print axioms LP.Props.C04unstuck.n11_reach
#print axioms LP.Props.C04unstuck.x7_reach
