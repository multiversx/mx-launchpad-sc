import LP.Proofs.ReachBEAll
/-
  C10 end to end — "Blacklisting … ensures they hold no ticket in the draw and can claim nothing;
  un-blacklisting … without altering anyone else's tickets, confirmations or entitlements" — over
  reachable states and whole histories of all EIGHT launchpads.

  `Covered hash s r` (= `be_Covered`, LP/Proofs/ReachBEAll.lean): `s` is reachable, latest
  transaction at a round `≤ r`, in one of the eight variants, each through its own reachability
  predicate and invariant.  Reachable = from ANY deployment, by accepted transactions with
  non-decreasing rounds (any budgets: filter / selection / distribution may be interrupted
  anywhere); rounds may pass without a transaction.  `HistOK e c`: the transaction carries EGLD or
  ESDT but not both, and every entry of an `addTickets` / `addTicketsV1` call allocates at least one
  ticket.  `Later hash s r s' r'` (= `be_Later HistOK`): `s'` is reached from `s` by such transactions.

  The theorems about `Covered` are read off `be_family_all` (LP/Proofs/ReachBEAll.lean); for the two
  vesting variants (guarV1, guarV2), where `claim` also releases vested tokens to an already settled
  participant, it rests on one more inductive fact: a blacklisted participant has never settled
  (`be_nc_covered`).
-/
namespace LP.Props.C10reach
open LP LP.Events LP.Props.C17

abbrev Covered := be_Covered
abbrev HistOK := be_HistOK
abbrev Later := be_Later HistOK

/-- **C10, no ticket.** In every reachable state a blacklisted participant `a` has nothing
    confirmed, no winning ticket and an empty winner view; once the filter has completed they have
    no allocation record at all (no ticket id belongs to them). -/
theorem blacklisted_holds_no_ticket (hash : List Nat → List Nat) (s : State) (r : Nat)
    (h : Covered hash s r) (a : Nat) (hb : s.blacklist a = true) :
    s.confirmed a = 0 ∧ winCountOf s a = 0 ∧ viewWinningIds s a = [] ∧
    (s.flags.filtered = true → s.range a = none) :=
  (be_family_all hash).holds_no_ticket h hb

/-- **interrupted filter.** While a filter operation is saved (`op = .filter f rm`: the loop has
    processed the ticket ids below `f`) the record of a blacklisted participant — if still present —
    starts at an id the loop has not reached (so the loop will still delete it), and every `claim`,
    by anybody, is rejected. -/
theorem blacklisted_during_interrupted_filter (hash : List Nat → List Nat) (s : State) (r : Nat)
    (h : Covered hash s r) (f rm : Nat) (hop : s.op = .filter f rm) :
    s.flags.filtered = false ∧ s.flags.selected = false ∧
    (∀ a rg, s.blacklist a = true → s.range a = some rg → f ≤ rg.first) ∧
    (∀ e, ∃ err, step hash s e .claim = .error err) :=
  (be_family_all hash).mid_filter h hop

theorem no_claim_before_filter_completes (hash : List Nat → List Nat) (s : State) (r : Nat)
    (h : Covered hash s r) (hf : s.flags.filtered = false) (e : Env) :
    ∃ err, step hash s e .claim = .error err :=
  ((be_family_all hash).good h).no_claim_before_filter hash e hf

/-- **C10, frozen.** ANY variant, any state with a valid timeline (`conf < sel ≤ claim`; holds in
    every state reachable from a deployment: `be_validPeriods_run`, `be_validPeriods_reach`): once
    the selection start round has been reached, in every later state of any history (`P` arbitrary)
    the blacklist and the selection start round are unchanged. -/
theorem blacklist_frozen_from_selection (P : Env → Call → Prop) (hash : List Nat → List Nat)
    (s : State) (r : Nat) (hv : validPeriods s.cfg = true) (hsel : s.cfg.sel ≤ r)
    (s' : State) (r' : Nat) (hl : be_Later P hash s r s' r') :
    s'.blacklist = s.blacklist ∧ s'.cfg.sel = s.cfg.sel ∧ s.cfg.sel ≤ r' := by
  have := be_frozen_later hv hsel hl
  exact ⟨this.bl, this.sel, this.reached⟩

/-- **frozen, `run` form.** From any deployment, after any history `h1`: if every transaction of
    the continuation `h2` (accepted or not) happens at a round `≥ sel`, the blacklist after `h2` is
    the blacklist after `h1`. -/
theorem blacklist_frozen_from_selection_run (hash : List Nat → List Nat) (v : Variant) (a : InitArgs)
    (e0 : Env) (s0 : State) (hi : init v a e0 = .ok s0) (h1 h2 : Hist)
    (hr : ∀ p ∈ h2, (run hash s0 h1).cfg.sel ≤ p.1.round) :
    (run hash s0 (h1 ++ h2)).blacklist = (run hash s0 h1).blacklist ∧
    (run hash s0 (h1 ++ h2)).cfg.sel = (run hash s0 h1).cfg.sel := by
  rw [run_append]
  have hv := be_validPeriods_run hash s0 h1 (be_validPeriods_init hi)
  have := be_frozen_run hash h2 (run hash s0 h1) (run hash s0 h1) (run hash s0 h1).cfg.sel
    ⟨hv, rfl, Nat.le_refl _, rfl⟩ hr
  exact ⟨this.1, this.2.1⟩

theorem blacklisted_claim_rejected (hash : List Nat → List Nat) (s : State) (r : Nat)
    (h : Covered hash s r) (e : Env) (hb : s.blacklist e.caller = true) :
    ∃ err, step hash s e .claim = .error err :=
  ((be_family_all hash).good h).claim_rejected hash e hb

/-- **C10, claims nothing.** From a reachable state in which `a` is blacklisted and winner
    selection has started: in EVERY later state of ANY history, every `claim` by `a` is rejected. -/
theorem blacklisted_claims_nothing (hash : List Nat → List Nat) (s : State) (r : Nat)
    (h : Covered hash s r) (a : Nat) (hb : s.blacklist a = true) (hsel : s.cfg.sel ≤ r)
    (s' : State) (r' : Nat) (hl : Later hash s r s' r') (e : Env) (he : e.caller = a) :
    ∃ err, step hash s' e .claim = .error err :=
  (be_family_all hash).claims_nothing h hb hsel hl e he

/-- **claims nothing, `run` form**: rejected transactions allowed in the history `p`. -/
theorem blacklisted_claims_nothing_run (hash : List Nat → List Nat) (s : State) (r : Nat)
    (h : Covered hash s r) (a : Nat) (hb : s.blacklist a = true) (hsel : s.cfg.sel ≤ r)
    (p : Hist) (hr : RoundsFrom r p) (hp : ∀ x ∈ p, HistOK x.1 x.2) (e : Env) (he : e.caller = a) :
    ∃ err, step hash (run hash s p) e .claim = .error err :=
  (be_family_all hash).claims_nothing_run h hb hsel p hr hp e he

/-- **variants without an un-blacklist endpoint** (base, locked, nft, lockedGuar, nftGuar): the flag
    is permanent — from ANY state, reachable or not, in every later state of any history. -/
theorem blacklist_permanent_without_unblacklist (P : Env → Call → Prop) (hash : List Nat → List Nat)
    (s : State) (r : Nat) (hv : s.variant.hasUnblacklist = false) (s' : State) (r' : Nat)
    (hl : be_Later P hash s r s' r') (a : Nat) (hb : s.blacklist a = true) :
    s'.blacklist a = true :=
  (be_blacklist_permanent hv hl hb).2

/-- **variants without an un-blacklist endpoint**: from the moment `a` is blacklisted — whatever
    the stage — every `claim` by `a` in every later state of any history is rejected. -/
theorem blacklisted_claims_nothing_ever (hash : List Nat → List Nat) (s : State) (r : Nat)
    (h : Covered hash s r) (hv : s.variant.hasUnblacklist = false) (a : Nat)
    (hb : s.blacklist a = true) (s' : State) (r' : Nat) (hl : Later hash s r s' r') (e : Env)
    (he : e.caller = a) : ∃ err, step hash s' e .claim = .error err :=
  (be_family_all hash).claims_nothing_ever h hv hb hl e he

/-- **C10, never wins.** In every reachable state (every phase: base lottery, interrupted or
    completed guaranteed-ticket distribution / top-up, NFT draw, claims) no ticket flagged winning
    lies in a range owned by a blacklisted participant. -/
theorem blacklisted_never_wins (hash : List Nat → List Nat) (s : State) (r : Nat)
    (h : Covered hash s r) (a : Nat) (hb : s.blacklist a = true) (rg : Range)
    (hr : s.range a = some rg) (id : Nat) (h1 : rg.first ≤ id) (h2 : id ≤ rg.last) :
    s.status id = false :=
  (be_family_all hash).never_wins h hb hr id

/-- **nft.** A blacklisted participant is neither waiting for the NFT draw nor drawn. -/
theorem blacklisted_not_in_nft_lists (hash : List Nat → List Nat) (s : State) (r : Nat)
    (h : Reach hash .nft s r) (a : Nat) (hb : s.blacklist a = true) :
    a ∉ s.payers ∧ a ∉ s.nftWinners := by
  obtain ⟨a0, ha⟩ := Reach_iff.mp h
  exact be_side_not_listed (nf_reach_WF ha).side (be_BlZero_reach h a hb)

theorem blacklisted_not_in_nft_lists_nftGuar (hash : List Nat → List Nat) (s : State) (r : Nat)
    (h : ng_Reach hash s r) (a : Nat) (hb : s.blacklist a = true) :
    a ∉ s.payers ∧ a ∉ s.nftWinners := by
  obtain ⟨a0, ha⟩ := ng_Reach_iff.mp h
  exact be_side_not_listed (ng_reach_WF ha).side ((be_BV_covered (.nftGuar h)).1 a hb)

/-- **C10, un-blacklisting** (guarV2, guarV1, migration expose the endpoint). An accepted
    un-blacklisting in a reachable state leads to a reachable state, moves no token, changes nobody's
    confirmations, allocation records or winning flags; outside the list the blacklist flags and
    guaranteed-ticket records are unchanged; the listed participants were blacklisted and come back
    with nothing confirmed. -/
theorem unblacklist_touches_nobody_else (hash : List Nat → List Nat) (s : State) (r : Nat)
    (h : Covered hash s r) (e : Env) (l : List Nat) (s' : State) (o : Out) (hr : r ≤ e.round)
    (hok : EnvOK e) (hst : step hash s e (.unblacklist l) = .ok (s', o)) :
    Covered hash s' e.round ∧ o.xfers = [] ∧
    (∀ a, s'.confirmed a = s.confirmed a ∧ s'.range a = s.range a ∧ s'.status a = s.status a) ∧
    (∀ a, a ∉ l → s'.blacklist a = s.blacklist a ∧ s'.uts a = s.uts a ∧ s'.blUts a = s.blUts a) ∧
    (∀ u ∈ l, s.blacklist u = true ∧ s'.blacklist u = false ∧ s'.confirmed u = 0) :=
  (be_family_all hash).unblacklist_others h hr ⟨hok, trivial, trivial⟩ hst

/-! ## the whole property in terms of `init`, `run`, `step` only -/

/-- **C10 end to end, from deployment.**  Deploy any of the eight launchpads, run any history `h1`
    and then any history `h2` (rounds non-decreasing over `h1 ++ h2`, every transaction satisfying
    `HistOK`; rejected transactions leave no trace).  If `a` is blacklisted after `h1` and every
    transaction of `h2` happens at or after the selection start round, then after `h2`: `a` is still
    blacklisted, has nothing confirmed, no winning ticket, an empty winner view, no flagged ticket,
    no allocation record once the filter has completed, and every `claim` by `a` (at any round,
    with any payment) is rejected. -/
theorem blacklisted_end_to_end (hash : List Nat → List Nat) (v : Variant)
    (args : InitArgs) (e0 : Env) (s0 : State) (hi : init v args e0 = .ok s0) (h1 h2 : Hist)
    (hr : RoundsFrom e0.round (h1 ++ h2)) (hp : ∀ x ∈ h1 ++ h2, HistOK x.1 x.2) (a : Nat)
    (hb : (run hash s0 h1).blacklist a = true)
    (hsel : ∀ x ∈ h2, (run hash s0 h1).cfg.sel ≤ x.1.round) :
    let s := run hash s0 (h1 ++ h2)
    s.blacklist a = true ∧ s.confirmed a = 0 ∧ winCountOf s a = 0 ∧ viewWinningIds s a = [] ∧
    (∀ rg id, s.range a = some rg → s.status id = false) ∧
    (s.flags.filtered = true → s.range a = none) ∧
    (∀ e, e.caller = a → ∃ err, step hash s e .claim = .error err) := by
  intro s
  obtain ⟨r, hc, _⟩ := be_covered_run (be_covered_init (hash := hash) hi) (h1 ++ h2) hr hp
  have hbl := (blacklist_frozen_from_selection_run hash v args e0 s0 hi h1 h2 hsel).1
  have hb' : s.blacklist a = true := by show (run hash s0 (h1 ++ h2)).blacklist a = true; rw [hbl]; exact hb
  have hg := (be_family_all hash).good hc
  exact ⟨hb', hg.conf_zero hb', hg.winCount_zero hb', hg.view_nil hb',
    fun rg id hrg => hg.never_wins hb' hrg id, fun hf => hg.no_range hf hb',
    fun e he => hg.claim_rejected hash e (by rw [he]; exact hb')⟩

/-! ## non-vacuity

  base: participant 7 is blacklisted after confirming and refunded, the lottery runs, 7's claim is
  rejected -/

def be_args : InitArgs :=
  { lpTok := 1, perTicket := 5, payTok := .egld, price := 10, nrWinning := 1, conf := 5, sel := 10, claim := 15 }

def be_stOf (x : Res (State × Out)) (d : State) : State :=
  match x with
  | .ok (s, _) => s
  | .error _ => d

def be_isOk {α : Type} (x : Res α) : Bool :=
  match x with
  | .ok _ => true
  | .error _ => false

def be_outOf (x : Res (State × Out)) : Out :=
  match x with
  | .ok (_, o) => o
  | .error _ => {}

theorem be_step_eq {x : Res (State × Out)} (h : be_isOk x = true) (d : State) :
    x = .ok (be_stOf x d, be_outOf x) := by
  cases x with
  | error err => cases h
  | ok q => rfl

theorem be_callOk {hash : List Nat → List Nat} {v : Variant} {s : State} {r : Nat} (e : Env) (c : Call)
    (h : Reach hash v s r) (hr : r ≤ e.round) (hok : EnvOK e) (hc : CallOK c)
    (hs : be_isOk (step hash s e c) = true) : Reach hash v (be_stOf (step hash s e c) s) e.round :=
  .call s r e c _ _ h hr hok hc (be_step_eq hs s)

def be_x0 : State := match init .base be_args { caller := 1, round := 0 } with
  | .ok s => s
  | .error _ => default

def be_x1 : State := be_stOf (step id be_x0 { caller := 1, round := 1 } (.addTickets [(7, 2), (8, 1)])) be_x0
def be_x2 : State := be_stOf (step id be_x1 { caller := 1, round := 2, esdts := [⟨.esdt 1, 0, 5⟩] } .deposit) be_x1
def be_x3 : State := be_stOf (step id be_x2 { caller := 7, round := 5, egld := 20 } (.confirm 2)) be_x2
def be_x4 : State := be_stOf (step id be_x3 { caller := 8, round := 6, egld := 10 } (.confirm 1)) be_x3
def be_x5 : State := be_stOf (step id be_x4 { caller := 1, round := 7 } (.blacklist [7])) be_x4
def be_x6 : State := be_stOf (step id be_x5 { caller := 9, round := 10 } .filter) be_x5
def be_x7 : State := be_stOf (step id be_x6 { caller := 9, round := 11 } .select) be_x6

theorem be_x1_ok : be_isOk (step id be_x0 { caller := 1, round := 1 } (.addTickets [(7, 2), (8, 1)])) = true := by
  decide +kernel
theorem be_x2_ok : be_isOk (step id be_x1 { caller := 1, round := 2, esdts := [⟨.esdt 1, 0, 5⟩] } .deposit) = true := by
  decide +kernel
theorem be_x3_ok : be_isOk (step id be_x2 { caller := 7, round := 5, egld := 20 } (.confirm 2)) = true := by
  decide +kernel
theorem be_x4_ok : be_isOk (step id be_x3 { caller := 8, round := 6, egld := 10 } (.confirm 1)) = true := by
  decide +kernel
theorem be_x5_ok : be_isOk (step id be_x4 { caller := 1, round := 7 } (.blacklist [7])) = true := by
  decide +kernel
theorem be_x6_ok : be_isOk (step id be_x5 { caller := 9, round := 10 } .filter) = true := by
  decide +kernel
theorem be_x7_ok : be_isOk (step id be_x6 { caller := 9, round := 11 } .select) = true := by
  decide +kernel

theorem be_x0_reach : Reach id .base be_x0 0 := Reach.init be_args { caller := 1, round := 0 } be_x0 rfl

theorem be_x5_reach : Reach id .base be_x5 7 :=
  be_callOk _ _
    (be_callOk _ _
      (be_callOk _ _
        (be_callOk _ _
          (be_callOk _ _
            be_x0_reach (by decide) (Or.inl rfl) (by show ∀ p ∈ [(7, 2), (8, 1)], 1 ≤ p.2; decide) be_x1_ok)
          (by decide) (Or.inl rfl) trivial be_x2_ok)
        (by decide) (Or.inr rfl) trivial be_x3_ok)
      (by decide) (Or.inr rfl) trivial be_x4_ok)
    (by decide) (Or.inl rfl) trivial be_x5_ok

theorem be_x7_reach : Reach id .base be_x7 11 :=
  be_callOk _ _ (be_callOk _ _ be_x5_reach (by decide) (Or.inl rfl) trivial be_x6_ok)
    (by decide) (Or.inl rfl) trivial be_x7_ok

/-- the blacklisting refunds participant 7 in full (one transfer of 20 EGLD) -/
example : ∃ s' o, step id be_x4 { caller := 1, round := 7 } (.blacklist [7]) = .ok (s', o) ∧
    o.xfers = [(7, ⟨.egld, 0, 20⟩)] ∧ s' = be_x5 ∧ s'.blacklist 7 = true ∧ s'.confirmed 7 = 0 ∧
    s'.bal .egld 0 = 10 ∧ be_x4.bal .egld 0 = 30 :=
  ⟨_, _, be_step_eq be_x5_ok be_x4, by decide +kernel, rfl, by decide +kernel⟩

/-- after the lottery: 7 has no record, 8 owns ticket 1 and wins; 7's claim is rejected, 8's is accepted -/
example : be_x7.flags.filtered = true ∧ be_x7.flags.selected = true ∧ be_x7.blacklist 7 = true ∧
    be_x7.range 7 = none ∧ be_x7.range 8 = some ⟨1, 1⟩ ∧ be_x7.status 1 = true ∧
    be_x5.range 7 = some ⟨1, 2⟩ ∧
    be_isOk (step id be_x7 { caller := 7, round := 15 } .claim) = false ∧
    be_isOk (step id be_x7 { caller := 8, round := 15 } .claim) = true := by
  decide +kernel

example : ∃ err, step id be_x7 { caller := 7, round := 15 } .claim = .error err :=
  blacklisted_claim_rejected id be_x7 11 (.plain (Or.inl rfl) be_x7_reach) { caller := 7, round := 15 }
    (by decide +kernel)

/-- along ANY continuation of the history from `be_x7` the claim of 7 stays rejected -/
example (p : Hist) (hr : RoundsFrom 11 p) (hp : ∀ x ∈ p, HistOK x.1 x.2) (e : Env) (he : e.caller = 7) :
    ∃ err, step id (run id be_x7 p) e .claim = .error err :=
  blacklisted_claims_nothing_run id be_x7 11 (.plain (Or.inl rfl) be_x7_reach) 7 (by decide +kernel)
    (by decide +kernel) p hr hp e he

example : be_x7.confirmed 7 = 0 ∧ winCountOf be_x7 7 = 0 ∧ viewWinningIds be_x7 7 = [] ∧
    (be_x7.flags.filtered = true → be_x7.range 7 = none) :=
  blacklisted_holds_no_ticket id be_x7 11 (.plain (Or.inl rfl) be_x7_reach) 7 (by decide +kernel)

/-- an interrupted filter on the same history: the loop stops after the first batch (that of the
    blacklisted participant 7, already deleted) -/
example : (be_stOf (step id be_x5 { caller := 9, round := 10, budget := some 0 } .filter) be_x5).op = .filter 3 2 := by
  decide +kernel

/-- `be_x5` (7 blacklisted) seen at round 10 = `sel`; the lottery runs -/
theorem be_x5_later_x7 : Later id be_x5 10 be_x7 11 := by
  exact .call be_x6 10 { caller := 9, round := 11 } .select be_x7 _
    (.call be_x5 10 { caller := 9, round := 10 } .filter be_x6 _ .refl (by decide)
      ⟨Or.inl rfl, trivial, trivial⟩ (be_step_eq be_x6_ok be_x5))
    (by decide) ⟨Or.inl rfl, trivial, trivial⟩ (be_step_eq be_x7_ok be_x6)

example : ∃ err, step id be_x7 { caller := 7, round := 15 } .claim = .error err :=
  blacklisted_claims_nothing id be_x5 10 (.plain (Or.inl rfl) (.wait _ 7 10 be_x5_reach (by decide)))
    7 (by decide +kernel) (by decide +kernel) be_x7 11 be_x5_later_x7 { caller := 7, round := 15 } rfl

example : be_x7.blacklist = be_x5.blacklist ∧ be_x7.cfg.sel = be_x5.cfg.sel ∧ be_x5.cfg.sel ≤ 11 :=
  blacklist_frozen_from_selection HistOK id be_x5 10 (by decide +kernel) (by decide +kernel) be_x7 11 be_x5_later_x7

/-- the same without the hypothesis that the selection start round has been reached (base has no
    un-blacklist endpoint) -/
example : ∃ err, step id be_x7 { caller := 7, round := 15 } .claim = .error err :=
  blacklisted_claims_nothing_ever id be_x5 10 (.plain (Or.inl rfl) (.wait _ 7 10 be_x5_reach (by decide)))
    (by decide +kernel) 7 (by decide +kernel) be_x7 11 be_x5_later_x7 { caller := 7, round := 15 } rfl

/-- the same history as two lists for `run`, with a REJECTED transaction (7 tries to confirm again
    after being blacklisted) at the end of `be_h1` -/
def be_h1 : Hist :=
  [({ caller := 1, round := 1 }, .addTickets [(7, 2), (8, 1)]),
   ({ caller := 1, round := 2, esdts := [⟨.esdt 1, 0, 5⟩] }, .deposit),
   ({ caller := 7, round := 5, egld := 20 }, .confirm 2),
   ({ caller := 8, round := 6, egld := 10 }, .confirm 1),
   ({ caller := 1, round := 7 }, .blacklist [7]),
   ({ caller := 7, round := 8, egld := 10 }, .confirm 1)]

def be_h2 : Hist := [({ caller := 9, round := 10 }, .filter), ({ caller := 9, round := 11 }, .select)]

theorem be_h1_run : run id be_x0 be_h1 = be_x5 := by
  have h6 : step id be_x5 { caller := 7, round := 8, egld := 10 } (.confirm 1)
      = .error (.user "You have been put into the blacklist and may not confirm tickets") := rfl
  unfold be_h1
  rw [run_cons_ok (s' := be_x1) (be_step_eq be_x1_ok be_x0), run_cons_ok (s' := be_x2) (be_step_eq be_x2_ok be_x1),
    run_cons_ok (s' := be_x3) (be_step_eq be_x3_ok be_x2), run_cons_ok (s' := be_x4) (be_step_eq be_x4_ok be_x3),
    run_cons_ok (s' := be_x5) (be_step_eq be_x5_ok be_x4), run_cons_err h6]
  rfl

theorem be_h12_ok : ∀ x ∈ be_h1 ++ be_h2, HistOK x.1 x.2 := by
  intro x hx
  simp only [be_h1, be_h2, List.cons_append, List.nil_append, List.mem_cons, List.not_mem_nil,
    or_false] at hx
  rcases hx with rfl | rfl | rfl | rfl | rfl | rfl | rfl | rfl
  · exact ⟨Or.inl rfl, by show ∀ p ∈ [(7, 2), (8, 1)], 1 ≤ p.2; decide, trivial⟩
  · exact ⟨Or.inl rfl, trivial, trivial⟩
  · exact ⟨Or.inr rfl, trivial, trivial⟩
  · exact ⟨Or.inr rfl, trivial, trivial⟩
  · exact ⟨Or.inl rfl, trivial, trivial⟩
  · exact ⟨Or.inr rfl, trivial, trivial⟩
  · exact ⟨Or.inl rfl, trivial, trivial⟩
  · exact ⟨Or.inl rfl, trivial, trivial⟩

example : ∀ e : Env, e.caller = 7 →
    ∃ err, step id (run id be_x0 (be_h1 ++ be_h2)) e .claim = .error err := by
  refine (blacklisted_end_to_end id .base be_args { caller := 1, round := 0 } be_x0 rfl
    be_h1 be_h2 (by simp [be_h1, be_h2, RoundsFrom]) be_h12_ok 7 (by rw [be_h1_run]; decide +kernel) ?_).2.2.2.2.2.2
  intro x hx
  rw [be_h1_run]
  simp only [be_h2, List.mem_cons, List.not_mem_nil, or_false] at hx
  rcases hx with rfl | rfl <;> decide +kernel

/-! ### guarV2 (vesting): blacklist, un-blacklist, blacklist again, lottery, distribution -/

def be_gArgs : InitArgs :=
  { lpTok := 1, perTicket := 5, payTok := .egld, price := 10, nrWinning := 2, conf := 5, sel := 10, claim := 15 }

def be_g0 : State := match init .guarV2 be_gArgs { caller := 1, round := 0 } with
  | .ok s => s
  | .error _ => default

def be_g1 : State := be_stOf (step id be_g0 { caller := 1, round := 1 } (.addTicketsV2 [(7, 3, [(1, 1)]), (8, 1, [])])) be_g0
def be_g2 : State := be_stOf (step id be_g1 { caller := 1, round := 2, esdts := [⟨.esdt 1, 0, 10⟩] } .deposit) be_g1
def be_g3 : State := be_stOf (step id be_g2 { caller := 7, round := 5, egld := 20 } (.confirm 2)) be_g2
def be_g4 : State := be_stOf (step id be_g3 { caller := 8, round := 6, egld := 10 } (.confirm 1)) be_g3
def be_g5 : State := be_stOf (step id be_g4 { caller := 1, round := 7 } (.blacklist [7])) be_g4
def be_g6 : State := be_stOf (step id be_g5 { caller := 1, round := 8 } (.unblacklist [7])) be_g5
def be_g7 : State := be_stOf (step id be_g6 { caller := 1, round := 9 } (.blacklist [7])) be_g6
def be_g8 : State := be_stOf (step id be_g7 { caller := 9, round := 10 } .filter) be_g7
def be_g9 : State := be_stOf (step id be_g8 { caller := 9, round := 11 } .select) be_g8
def be_g10 : State := be_stOf (step id be_g9 { caller := 9, round := 12 } .distribute) be_g9

theorem be_g0_reach : Reach id .guarV2 be_g0 0 := Reach.init be_gArgs { caller := 1, round := 0 } be_g0 rfl

theorem be_g5_reach : Reach id .guarV2 be_g5 7 :=
  be_callOk { caller := 1, round := 7 } (.blacklist [7])
    (be_callOk { caller := 8, round := 6, egld := 10 } (.confirm 1)
      (be_callOk { caller := 7, round := 5, egld := 20 } (.confirm 2)
        (be_callOk { caller := 1, round := 2, esdts := [⟨.esdt 1, 0, 10⟩] } .deposit
          (be_callOk { caller := 1, round := 1 } (.addTicketsV2 [(7, 3, [(1, 1)]), (8, 1, [])])
            be_g0_reach (by decide) (Or.inl rfl) trivial (by decide +kernel))
          (by decide) (Or.inl rfl) trivial (by decide +kernel))
        (by decide) (Or.inr rfl) trivial (by decide +kernel))
      (by decide) (Or.inr rfl) trivial (by decide +kernel))
    (by decide) (Or.inl rfl) trivial (by decide +kernel)

theorem be_g6_ok : be_isOk (step id be_g5 { caller := 1, round := 8 } (.unblacklist [7])) = true := by
  decide +kernel

theorem be_g10_reach : Reach id .guarV2 be_g10 12 :=
  be_callOk { caller := 9, round := 12 } .distribute
    (be_callOk { caller := 9, round := 11 } .select
      (be_callOk { caller := 9, round := 10 } .filter
        (be_callOk { caller := 1, round := 9 } (.blacklist [7])
          (be_callOk _ _ be_g5_reach (by decide) (Or.inl rfl) trivial be_g6_ok)
          (by decide) (Or.inl rfl) trivial (by decide +kernel))
        (by decide) (Or.inl rfl) trivial (by decide +kernel))
      (by decide) (Or.inl rfl) trivial (by decide +kernel))
    (by decide) (Or.inl rfl) trivial (by decide +kernel)

/-- 7 (guaranteed ticket, 2 confirmed, refunded 20 EGLD by the blacklisting) is un-blacklisted at
    round 8; the reserve `totalGuaranteed` goes 1 → 0 → 1, participant 8 is untouched -/
example : ∃ s' o, step id be_g5 { caller := 1, round := 8 } (.unblacklist [7]) = .ok (s', o) ∧ s' = be_g6 ∧
    be_g5.blacklist 7 = true ∧ be_g6.blacklist 7 = false ∧ be_g6.confirmed 7 = 0 ∧ be_g6.confirmed 8 = 1 ∧
    be_g4.totalGuaranteed = 1 ∧ be_g5.totalGuaranteed = 0 ∧ be_g6.totalGuaranteed = 1 :=
  ⟨_, _, be_step_eq be_g6_ok be_g5, rfl, by decide +kernel⟩

example : Covered id be_g6 8 ∧ be_g6.confirmed 8 = be_g5.confirmed 8 := by
  obtain ⟨h1, _, h3, _⟩ := unblacklist_touches_nobody_else id be_g5 7 (.guarV2 be_g5_reach)
    { caller := 1, round := 8 } [7] be_g6 _ (by decide) (Or.inl rfl) (be_step_eq be_g6_ok be_g5)
  exact ⟨h1, (h3 8).1⟩

/-- after the distribution the blacklisted 7 has no record and their claim is rejected, 8 claims -/
example : be_g10.flags.additional = true ∧ be_g10.blacklist 7 = true ∧ be_g10.range 7 = none ∧
    be_g10.range 8 = some ⟨1, 1⟩ ∧
    be_isOk (step id be_g10 { caller := 7, round := 15 } .claim) = false ∧
    be_isOk (step id be_g10 { caller := 8, round := 15 } .claim) = true := by
  decide +kernel

example : ∃ err, step id be_g10 { caller := 7, round := 15 } .claim = .error err :=
  blacklisted_claim_rejected id be_g10 12 (.guarV2 be_g10_reach) { caller := 7, round := 15 }
    (by decide +kernel)

/-! ### nftGuar: a participant who paid the NFT fee is blacklisted (tickets and fee refunded) and
    leaves the NFT list; the lottery and the NFT draw run; their claim is rejected -/

def be_nArgs : InitArgs :=
  { lpTok := 1, perTicket := 5, payTok := .egld, price := 10, nrWinning := 2, conf := 5, sel := 10, claim := 15,
    minConfirmed := 2, nftCost := ⟨.egld, 0, 3⟩, availNfts := 1 }

def be_n0 : State := match init .nftGuar be_nArgs { caller := 1, round := 0 } with
  | .ok s => s
  | .error _ => default

def be_n1 : State := be_stOf (step id be_n0 { caller := 1, round := 1 } (.addTicketsV1 [(7, 2, 1, false), (8, 1, 0, false)])) be_n0
def be_n2 : State := be_stOf (step id be_n1 { caller := 1, round := 2, esdts := [⟨.esdt 1, 0, 10⟩] } .deposit) be_n1
def be_n3 : State := be_stOf (step id be_n2 { caller := 9, round := 3 } .sftSetup) be_n2
def be_n4 : State := be_stOf (step id be_n3 { caller := 7, round := 5, egld := 20 } (.confirm 2)) be_n3
def be_n5 : State := be_stOf (step id be_n4 { caller := 8, round := 6, egld := 10 } (.confirm 1)) be_n4
def be_n6 : State := be_stOf (step id be_n5 { caller := 7, round := 7, egld := 3 } .confirmNft) be_n5
def be_n7 : State := be_stOf (step id be_n6 { caller := 1, round := 8 } (.blacklist [7])) be_n6
def be_n8 : State := be_stOf (step id be_n7 { caller := 9, round := 10 } .filter) be_n7
def be_n9 : State := be_stOf (step id be_n8 { caller := 9, round := 11 } .select) be_n8
def be_n10 : State := be_stOf (step id be_n9 { caller := 9, round := 12 } .secondary) be_n9

theorem be_ng_callOk {hash : List Nat → List Nat} {s : State} {r : Nat} (e : Env) (c : Call)
    (h : ng_Reach hash s r) (hr : r ≤ e.round) (hok : EnvOK e) (hc : v1_CallOK c)
    (hs : be_isOk (step hash s e c) = true) : ng_Reach hash (be_stOf (step hash s e c) s) e.round :=
  .call s r e c _ _ h hr hok hc (be_step_eq hs s)

theorem be_n6_reach : ng_Reach id be_n6 7 :=
  be_ng_callOk { caller := 7, round := 7, egld := 3 } .confirmNft
    (be_ng_callOk { caller := 8, round := 6, egld := 10 } (.confirm 1)
      (be_ng_callOk { caller := 7, round := 5, egld := 20 } (.confirm 2)
        (be_ng_callOk { caller := 9, round := 3 } .sftSetup
          (be_ng_callOk { caller := 1, round := 2, esdts := [⟨.esdt 1, 0, 10⟩] } .deposit
            (be_ng_callOk { caller := 1, round := 1 } (.addTicketsV1 [(7, 2, 1, false), (8, 1, 0, false)])
              (.init be_nArgs { caller := 1, round := 0 } be_n0 rfl) (by decide) (Or.inl rfl)
              (by show ∀ q ∈ [(7, 2, 1, false), (8, 1, 0, false)], 1 ≤ q.2.1 + q.2.2.1; decide) (by decide +kernel))
            (by decide) (Or.inl rfl) trivial (by decide +kernel))
          (by decide) (Or.inl rfl) trivial (by decide +kernel))
        (by decide) (Or.inr rfl) trivial (by decide +kernel))
      (by decide) (Or.inr rfl) trivial (by decide +kernel))
    (by decide) (Or.inr rfl) trivial (by decide +kernel)

/- from the blacklisting on, `decide +kernel`: the elaborator's `rfl` does not get through
   `clearGuaranteedV1` / `refundNftMany` -/
theorem be_n7_reach : ng_Reach id be_n7 8 :=
  be_ng_callOk { caller := 1, round := 8 } (.blacklist [7]) be_n6_reach (by decide) (Or.inl rfl) trivial
    (by decide +kernel)

theorem be_n10_reach : ng_Reach id be_n10 12 :=
  be_ng_callOk { caller := 9, round := 12 } .secondary
    (be_ng_callOk { caller := 9, round := 11 } .select
      (be_ng_callOk { caller := 9, round := 10 } .filter be_n7_reach (by decide) (Or.inl rfl) trivial
        (by decide +kernel))
      (by decide) (Or.inl rfl) trivial (by decide +kernel))
    (by decide) (Or.inl rfl) trivial (by decide +kernel)

/-- the blacklisting refunds both the tickets (20) and the NFT fee (3) and removes 7 from `payers` -/
example : (be_outOf (step id be_n6 { caller := 1, round := 8 } (.blacklist [7]))).xfers
      = [(7, ⟨.egld, 0, 20⟩), (7, ⟨.egld, 0, 3⟩)] ∧
    be_n6.payers = [7] ∧ be_n7.payers = [] ∧ be_n7.blacklist 7 = true := by
  decide +kernel

example : be_n10.flags.additional = true ∧ be_n10.range 7 = none ∧ be_n10.range 8 = some ⟨1, 1⟩ ∧
    be_isOk (step id be_n10 { caller := 7, round := 15 } .claim) = false ∧
    be_isOk (step id be_n10 { caller := 8, round := 15 } .claim) = true := by
  decide +kernel

example : ∃ err, step id be_n10 { caller := 7, round := 15 } .claim = .error err :=
  blacklisted_claim_rejected id be_n10 12 (.nftGuar be_n10_reach) { caller := 7, round := 15 }
    (by decide +kernel)

example : 7 ∉ be_n7.payers ∧ 7 ∉ be_n7.nftWinners :=
  blacklisted_not_in_nft_lists_nftGuar id be_n7 8 be_n7_reach 7 (by decide +kernel)

end LP.Props.C10reach

#print axioms LP.Props.C10reach.blacklisted_end_to_end
#print axioms LP.Props.C10reach.blacklisted_holds_no_ticket
#print axioms LP.Props.C10reach.blacklisted_during_interrupted_filter
#print axioms LP.Props.C10reach.no_claim_before_filter_completes
#print axioms LP.Props.C10reach.blacklist_frozen_from_selection
#print axioms LP.Props.C10reach.blacklist_frozen_from_selection_run
#print axioms LP.Props.C10reach.blacklisted_claim_rejected
#print axioms LP.Props.C10reach.blacklisted_claims_nothing
#print axioms LP.Props.C10reach.blacklisted_claims_nothing_run
#print axioms LP.Props.C10reach.blacklist_permanent_without_unblacklist
#print axioms LP.Props.C10reach.blacklisted_claims_nothing_ever
#print axioms LP.Props.C10reach.blacklisted_never_wins
#print axioms LP.Props.C10reach.blacklisted_not_in_nft_lists
#print axioms LP.Props.C10reach.blacklisted_not_in_nft_lists_nftGuar
#print axioms LP.Props.C10reach.unblacklist_touches_nobody_else

#print axioms LP.Props.C10reach.be_callOk
#print axioms LP.Props.C10reach.be_x0_reach
#print axioms LP.Props.C10reach.be_x5_reach
#print axioms LP.Props.C10reach.be_x7_reach
#print axioms LP.Props.C10reach.be_x5_later_x7
#print axioms LP.Props.C10reach.be_h1_run
#print axioms LP.Props.C10reach.be_h12_ok
#print axioms LP.Props.C10reach.be_g0_reach
#print axioms LP.Props.C10reach.be_g5_reach
#print axioms LP.Props.C10reach.be_g10_reach
#print axioms LP.Props.C10reach.be_ng_callOk
#print axioms LP.Props.C10reach.be_n6_reach
#print axioms LP.Props.C10reach.be_n7_reach
#print axioms LP.Props.C10reach.be_n10_reach
