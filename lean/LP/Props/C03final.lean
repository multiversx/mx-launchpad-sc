import LP.Proofs.Leftover
import LP.Proofs.GuarLoop
import LP.Proofs.Frame
import LP.Proofs.StepLemmas
import LP.Proofs.Resume
import LP.Proofs.ReserveSeq
/-
  C03 (final count) / C12 ("one random draw each") for the leftover re-draw loop of the
  distribution step (`leftoverBody`, second loop of `guaranteedSubstep`), then, with the first loop
  (C11), for `guaranteedSubstep` and the `distribute` endpoint.

  `last` = lastTicketId, `nrOrig` = nrWinning when the distribution starts (number of lottery
  winners), `x : LSt` the loop state, `LInv` (LP/Proofs/Leftover.lean) the loop invariant.
-/
namespace LP
open LP.FY

/-! ### the invariant (both versions) -/

/-- C03: the state left by the base lottery (`R`) and the top-up (extra flags inside `1..last`,
    counted by `additional`) satisfies the loop invariant. -/
theorem C03_leftover_inv_init {last nrOrig additional : Nat} {st0 status : Nat → Bool}
    {posToId : Nat → Nat} {arr : List Nat} (hR : R last (nrOrig + 1) st0 posToId arr)
    (hsup : ∀ t, st0 t = true → status t = true)
    (hin : ∀ t, status t = true → 1 ≤ t ∧ t ≤ last)
    (hc : countTrue status last = nrOrig + additional) (rng : Rng) (leftover : Nat) (tx : Tx) :
    LInv last nrOrig ⟨status, posToId, rng, leftover, 1, additional, tx⟩ :=
  LInv_init hR hsup hin hc rng leftover tx

/-- C03/C12: one iteration never fails and keeps the invariant; only an `ok` iteration changes
    the flags, marking one previously non-winning ticket, and it logs exactly one raw draw. -/
theorem C03_leftover_step (hash : List Nat → List Nat) (v2 : Bool) (nrOrig last : Nat) (x : LSt)
    (h : LInv last nrOrig x) :
    ∃ x', leftoverBody hash v2 nrOrig last x =
        .ok (x', decide (lKind hash nrOrig last x ≠ .stop)) ∧
      LInv last nrOrig x' ∧
      countTrue x'.status last = countTrue x.status last + (lKind hash nrOrig last x).hands ∧
      x'.tx.o.draws.length = x.tx.o.draws.length + (lKind hash nrOrig last x).draws ∧
      x'.additional = x.additional + (lKind hash nrOrig last x).hands ∧
      (lKind hash nrOrig last x ≠ .ok → x'.status = x.status) ∧
      (lKind hash nrOrig last x = .ok →
        x'.leftover + 1 = x.leftover ∧ x'.offset = x.offset + 1 ∧
        x'.tx.o.draws = x.tx.o.draws ++ [(x.tx.draw hash x.rng).1] ∧
        ∃ t, 1 ≤ t ∧ t ≤ last ∧ x.status t = false ∧ x'.status = upd x.status t true) ∧
      (lKind hash nrOrig last x ≠ .stop →
        nrOrig + x.offset ≤ last ∧
        ((v2 = true ∨ lKind hash nrOrig last x ≠ .redraw) → x'.offset = x.offset + 1)) := by
  obtain ⟨x', hb, hinv, hd, ha, h1, h2, h3, h4⟩ := leftoverBody_spec hash v2 nrOrig last x h
  refine ⟨x', hb, hinv, by rw [hinv.count, h.count, ha]; omega, hd, ha, ?_, ?_, ?_⟩
  · intro hk
    cases hkind : lKind hash nrOrig last x with
    | stop => rw [(h1 hkind).2]
    | skip => rw [(h2 hkind).2.2.2]
    | redraw => exact (h3 hkind).2.2.2.1
    | ok => exact absurd hkind hk
  · intro hk
    obtain ⟨_, _, a, b, c, d⟩ := h4 hk
    exact ⟨a, b, c, d⟩
  · intro hk
    obtain ⟨y, hy, _, _, _, hc, _, _, _, _, ho, _⟩ := leftoverBody_cont hash v2 nrOrig last x h hk
    rw [decide_eq_true hk, hy] at hb
    cases hb
    exact ⟨hc, ho⟩

/-! ### v2: termination within the model's fuel, and the final count -/

/-- C03: the v2 loop cannot be left stuck.  Whatever the draws, the fuel `last + 2` of
    `guaranteedSubstep` suffices, and every reserved ticket goes to a not-yet-winning ticket
    unless all tickets already win. -/
theorem C03_leftover_v2_terminates (hash : List Nat → List Nat) (nrOrig last : Nat) (x : LSt)
    (h : LInv last nrOrig x) :
    ∃ x', runWhile (leftoverBody hash true nrOrig last) (last + 2) none x
        = .ok (x', none, .completed) ∧
      LInv last nrOrig x' ∧ x'.leftover = 0 ∧
      x'.additional = min (x.additional + x.leftover) (last - nrOrig) ∧
      countTrue x'.status last = nrOrig + x'.additional ∧
      (∀ t, x.status t = true → x'.status t = true) ∧
      (∀ t, x'.status t = true → 1 ≤ t ∧ t ≤ last) :=
  leftover_v2_terminates hash nrOrig last x h

/-- C03: at most `last - nrOrig + 1` iterations (final stop included) from `offset = 1`. -/
theorem C03_leftover_v2_iterations (hash : List Nat → List Nat) (nrOrig last n : Nat) (x : LSt)
    (h : LInv last nrOrig x) (hn : last + 1 - (nrOrig + x.offset) < n) :
    ∃ x', runWhile (leftoverBody hash true nrOrig last) n none x = .ok (x', none, .completed) := by
  obtain ⟨x', hr, _⟩ := leftover_v2_run hash nrOrig last n x h hn
  exact ⟨x', hr⟩

/-- C03, final count.  `hg` is what the top-up loop leaves (`C11_guarLoop_total`), `hT` is
    reserve conservation (C12): the completed v2 distribution has `min T last` winning tickets. -/
theorem final_winners_v2 (hash : List Nat → List Nat) (nrOrig last totalG T : Nat) (x : LSt)
    (h : LInv last nrOrig x) (hg : x.leftover + x.additional = totalG)
    (hT : nrOrig + totalG = T) :
    ∃ x', runWhile (leftoverBody hash true nrOrig last) (last + 2) none x
        = .ok (x', none, .completed) ∧
      countTrue x'.status last = min (nrOrig + totalG) last ∧
      countTrue x'.status last = min T last ∧
      x'.additional = min totalG (last - nrOrig) ∧
      (∀ t, x'.status t = true → 1 ≤ t ∧ t ≤ last) := by
  obtain ⟨x', hr, _, _, ha, hc, _, hin⟩ := leftover_v2_terminates hash nrOrig last x h
  obtain ⟨e1, e2⟩ := h.final_count ha hg
  exact ⟨x', hr, hc.trans e1, by rw [hc, e1, hT], e2, hin⟩

/-- the same from the state left by the lottery and the top-up -/
theorem final_winners_v2_from_lottery (hash : List Nat → List Nat)
    {last nrOrig additional leftover totalG : Nat} {st0 status : Nat → Bool}
    {posToId : Nat → Nat} {arr : List Nat} (hR : R last (nrOrig + 1) st0 posToId arr)
    (hsup : ∀ t, st0 t = true → status t = true)
    (hin : ∀ t, status t = true → 1 ≤ t ∧ t ≤ last)
    (hc : countTrue status last = nrOrig + additional)
    (hg : leftover + additional = totalG) (rng : Rng) (tx : Tx) :
    ∃ x', runWhile (leftoverBody hash true nrOrig last) (last + 2) none
        ⟨status, posToId, rng, leftover, 1, additional, tx⟩ = .ok (x', none, .completed) ∧
      countTrue x'.status last = min (nrOrig + totalG) last ∧
      (∀ t, status t = true → x'.status t = true) := by
  have h := LInv_init hR hsup hin hc rng leftover tx
  obtain ⟨x', hr, _, _, ha, hc', hm, _⟩ := leftover_v2_terminates hash nrOrig last _ h
  exact ⟨x', hr, hc'.trans (h.final_count ha hg).1, hm⟩

/-- C12, "one random draw each": along the completed v2 run every `redraw` or `ok` iteration
    logs one raw draw, every `ok` iteration hands out one ticket, and there is at most one draw
    per unconsumed position. -/
theorem C12_leftover_v2_draws (hash : List Nat → List Nat) (nrOrig last : Nat) (x : LSt)
    (h : LInv last nrOrig x) :
    ∃ x', runWhile (leftoverBody hash true nrOrig last) (last + 2) none x
        = .ok (x', none, .completed) ∧
      x'.tx.o.draws.length = x.tx.o.draws.length
        + lCount hash true nrOrig last LKind.draws (last + 2) x ∧
      x'.additional = x.additional + lCount hash true nrOrig last LKind.hands (last + 2) x ∧
      x'.offset = x.offset + lCount hash true nrOrig last LKind.skips (last + 2) x
        + lCount hash true nrOrig last LKind.draws (last + 2) x ∧
      lCount hash true nrOrig last LKind.draws (last + 2) x =
        lCount hash true nrOrig last LKind.hands (last + 2) x
        + lCount hash true nrOrig last LKind.redraws (last + 2) x ∧
      lCount hash true nrOrig last LKind.draws (last + 2) x ≤ last + 1 - (nrOrig + x.offset) := by
  obtain ⟨x', hr, hinv, _, _, _, hd, ha, ho⟩ :=
    leftover_v2_run hash nrOrig last (last + 2) x h (by omega)
  refine ⟨x', hr, hd, ha, ho, ?_, ?_⟩
  · exact lCount_draws hash true nrOrig last _ x
  · have := hinv.pinv.bound
    omega

/-! ### interrupted and chunked execution (v2) -/

/-- C03 under a gas budget: the loop never fails or runs out of fuel; an interrupted call stops
    in a state satisfying the invariant, from which the same final state is reached. -/
theorem C03_leftover_v2_call (hash : List Nat → List Nat) (nrOrig last : Nat) (x : LSt)
    (h : LInv last nrOrig x) (b : Option Nat) :
    ∃ xf, runWhile (leftoverBody hash true nrOrig last) (last + 2) none x
        = .ok (xf, none, .completed) ∧
      ((∃ b', runWhile (leftoverBody hash true nrOrig last) (last + 2) b x
          = .ok (xf, b', .completed)) ∨
       (∃ x1 b', runWhile (leftoverBody hash true nrOrig last) (last + 2) b x
          = .ok (x1, b', .interrupted) ∧ LInv last nrOrig x1 ∧
          runWhile (leftoverBody hash true nrOrig last) (last + 2) none x1
            = .ok (xf, none, .completed))) :=
  leftover_v2_call hash nrOrig last x h b

/-- C03 over several calls: any schedule of budgets allowing `last + 2` iterations in total
    completes with the final state of the single run; a shorter one is in progress, never an
    error. -/
theorem C03_leftover_v2_chunked (hash : List Nat → List Nat) (nrOrig last : Nat) (x : LSt)
    (h : LInv last nrOrig x) :
    ∃ xf, runWhile (leftoverBody hash true nrOrig last) (last + 2) none x
        = .ok (xf, none, .completed) ∧
      (∀ ks, last + 2 ≤ budgetIters ks →
        runCalls (leftoverBody hash true nrOrig last) (last + 2) ks x = .ok (xf, true)) ∧
      (∀ ks, last + 2 ≤ ks.length →
        runCalls (leftoverBody hash true nrOrig last) (last + 2) ks x = .ok (xf, true)) ∧
      (∀ ks, runCalls (leftoverBody hash true nrOrig last) (last + 2) ks x = .ok (xf, true) ∨
        ∃ s', runCalls (leftoverBody hash true nrOrig last) (last + 2) ks x = .ok (s', false)) ∧
      (∀ fuel ks sf, runCalls (leftoverBody hash true nrOrig last) fuel ks x = .ok (sf, true) →
        sf = xf) := by
  obtain ⟨xf, hr, _⟩ := leftover_v2_terminates hash nrOrig last x h
  obtain ⟨k1, k2, k3, k4⟩ := runCalls_of_completed _ _ x xf hr
  exact ⟨xf, hr, fun ks => k1 _ ks (Nat.le_refl _), fun ks => k2 _ ks (Nat.le_refl _),
    fun ks => k3 _ ks (Nat.le_refl _), k4⟩

/-! ### v1 (`v2 = false`): termination only up to the draws

    No fuel bound independent of the draws makes the v1 loop complete
    (`C03_leftover_v1_may_spin`). -/

/-- C03, either version: the run completes once the fuel exceeds the unconsumed positions plus
    the number of `redraw` iterations ("NewlySelectedAlreadyWinning") met.  Final facts as for
    v2. -/
theorem C03_leftover_run_partial (hash : List Nat → List Nat) (v2 : Bool) (nrOrig last n : Nat)
    (x : LSt) (h : LInv last nrOrig x)
    (hn : last + 1 - (nrOrig + x.offset) + lCount hash v2 nrOrig last LKind.redraws n x < n) :
    ∃ x', runWhile (leftoverBody hash v2 nrOrig last) n none x = .ok (x', none, .completed) ∧
      LInv last nrOrig x' ∧ x'.leftover = 0 ∧
      x'.additional = min (x.additional + x.leftover) (last - nrOrig) ∧
      countTrue x'.status last = nrOrig + x'.additional ∧
      (∀ t, x.status t = true → x'.status t = true) ∧
      x'.tx.o.draws.length = x.tx.o.draws.length + lCount hash v2 nrOrig last LKind.draws n x ∧
      x'.additional = x.additional + lCount hash v2 nrOrig last LKind.hands n x := by
  obtain ⟨x', hr, hinv, hl, ha, hm, hd, hh⟩ := leftover_run_partial hash v2 nrOrig last n x h hn
  exact ⟨x', hr, hinv, hl, ha, hinv.count, hm, hd, hh⟩

/-- C03, either version, no dead state: under the invariant the raw draw `0` makes the next
    iteration stop the loop or advance `offset`. -/
theorem C03_leftover_no_dead_state_partial (hash : List Nat → List Nat) (v2 : Bool)
    (nrOrig last : Nat) (x : LSt) (h : LInv last nrOrig x) :
    ∃ raw, ∀ rest, ∃ x' b,
      leftoverBody hash v2 nrOrig last (x.withScript (raw :: rest)) = .ok (x', b) ∧
      LInv last nrOrig x' ∧
      ((b = false ∧ (lFull nrOrig last x ∨ x.leftover = 0)) ∨
       (b = true ∧ x'.offset = x.offset + 1)) := by
  refine ⟨0, fun rest => ?_⟩
  have hy := h.withScript (0 :: rest)
  have hnr := lKind_script_zero hash nrOrig last x rest
  by_cases hk : lKind hash nrOrig last (x.withScript (0 :: rest)) = .stop
  · obtain ⟨x', hb, hinv, _, _, h1, _⟩ := leftoverBody_spec hash v2 nrOrig last _ hy
    rw [hk] at hb
    exact ⟨x', false, hb, hinv, Or.inl ⟨rfl, (h1 hk).1⟩⟩
  · obtain ⟨x', hb, hinv, _, _, _, _, _, _, _, ho, _⟩ := leftoverBody_cont hash v2 nrOrig last _ hy hk
    exact ⟨x', true, hb, hinv, Or.inr ⟨rfl, ho (Or.inr hnr)⟩⟩

/-- For every fuel bound some scripted draws make the v1 loop exhaust it from a state satisfying
    the invariant: v1 termination is only probabilistic. -/
theorem C03_leftover_v1_may_spin (hash : List Nat → List Nat) (n : Nat) :
    LInv 3 1 (spinState n) ∧
    ∃ x', runWhile (leftoverBody hash false 1 3) n none (spinState n)
      = .ok (x', none, .outOfFuel) := by
  refine ⟨spinState_LInv n, ?_⟩
  suffices H : ∀ (n : Nat) (x : LSt), (x.status = fun t => t == 1 || t == 3) →
      (x.posToId = fun _ => 0) → x.leftover = 1 → x.offset = 1 → x.additional = 1 →
      x.tx.c.script = List.replicate n 1 →
      ∃ x', runWhile (leftoverBody hash false 1 3) n none x = .ok (x', none, .outOfFuel) from
    H n (spinState n) rfl rfl rfl rfl rfl rfl
  intro n
  induction n with
  | zero => intro x _ _ _ _ _ _; exact ⟨x, rfl⟩
  | succ n ih =>
    intro x h1 h2 h3 h4 h5 h6
    obtain ⟨x1, hb, e1, e2, e3, e4, e5, e6⟩ := spin_step hash x n h1 h2 h3 h4 h5 h6
    rw [runWhile_cont_none hb]
    exact ih x1 (e1.trans h1) (e2.trans h2) e3 e4 e5 e6

/-! ### both loops together: `guaranteedSubstep` and the endpoint (v2) -/

/-- the hypothesis `R` of the theorems below is what a successful uninterrupted `selectWinners`
    leaves behind (cf. `LP.FY.fy_refines_textbook`, C03base) -/
theorem C03_selectWinners_R (hash : List Nat → List Nat) (t : Tx) (e : Env) (t' : Tx)
    (hop : t.s.op = .none) (hb : t.c.budget = none) (hscr : t.c.script = [])
    (hst : t.s.status = fun _ => false) (hpi : t.s.posToId = fun _ => 0)
    (hle : t.s.nrWinning ≤ t.s.lastTicketId)
    (hok : selectWinners hash t e = .ok t') :
    R t'.s.lastTicketId (t'.s.nrWinning + 1) t'.s.status t'.s.posToId
      (tbRun t.s.lastTicketId (draws hash t.freshRng.1 t.s.nrWinning)) := by
  obtain ⟨h1, _, h3, h4⟩ := selectWinners_fy hash t e t' hop hb hscr hok
  rw [hst, hpi] at h1
  have hlen : (draws hash t.freshRng.1 t.s.nrWinning).length = t.s.nrWinning := length_draws _ _ _
  have hR := R_steps (n := t.s.lastTicketId) (draws hash t.freshRng.1 t.s.nrWinning) (i := 1)
    (s := (fun _ => false, fun _ => 0)) (Nat.le_refl 1) (by rw [hlen]; omega)
    (R_init t.s.lastTicketId)
  rw [← h1, hlen] at hR
  rw [h3, h4, Nat.add_comm]
  exact hR

/-- C03 (v2): after the base lottery, under the reserve invariant `GuarInv` (C12), with every
    whitelisted user's range inside `1..lastTicketId` and without gas interruption,
    `guaranteedSubstep` completes and leaves exactly
    `min (nrWinning + totalGuaranteed) lastTicketId` winning tickets. -/
theorem C03_guaranteedSubstep_v2_final (hash : List Nat → List Nat) (t : Tx) (rng : Rng)
    (arr : List Nat) (hv : t.s.variant.isV2 = true) (hb : t.c.budget = none)
    (hle : t.s.nrWinning ≤ t.s.lastTicketId)
    (hR : R t.s.lastTicketId (t.s.nrWinning + 1) t.s.status t.s.posToId arr)
    (hranges : ∀ u ∈ t.s.whitelist, ∀ r, t.s.range u = some r → RangeIn t.s.lastTicketId r)
    (hG : GuarInv t.s.variant.isV2 t.s) :
    ∃ t' g', guaranteedSubstep hash t { rng := rng } = .ok (t', g', .completed) ∧
      countTrue t'.s.status t.s.lastTicketId =
        min (t.s.nrWinning + t.s.totalGuaranteed) t.s.lastTicketId ∧
      g'.additional = min t.s.totalGuaranteed (t.s.lastTicketId - t.s.nrWinning) ∧
      g'.leftover = 0 ∧
      FlagsIn t.s.lastTicketId t'.s.status ∧
      (∀ id, t.s.status id = true → t'.s.status id = true) ∧
      t'.s = { t.s with whitelist := t'.s.whitelist, status := t'.s.status,
                        posToId := t'.s.posToId, op := .none } := by
  obtain ⟨x, h1, _, hsum, hout, hmono, _, hcount⟩ := guarLoop_run t.s t.s.whitelist.length
    ⟨t.s.whitelist, t.s.whitelist.length, t.s.status, 0, 0⟩ (t.s.whitelist.length + 2) rfl rfl
    (by omega)
  replace hcount := hcount t.s.lastTicketId hranges
  have hflags : FlagsIn t.s.lastTicketId x.status :=
    FlagsIn.frame (fun r => ∃ u ∈ t.s.whitelist, t.s.range u = some r)
      (fun r ⟨u, hu, hr⟩ => hranges u hu r hr)
      (fun id hid => hout id fun u hu r hr => hid r ⟨u, hu, hr⟩) hR.flagsIn
  simp only at hsum hcount hmono
  have htot : x.leftover + x.additional = t.s.totalGuaranteed := by
    rw [hsum, hG.total]; simp
  have hc0 := hR.count hle
  have hc : countTrue x.status t.s.lastTicketId = t.s.nrWinning + x.additional := by omega
  have key : ∀ tx r, runWhile (leftoverBody hash true t.s.nrWinning t.s.lastTicketId)
      (t.s.lastTicketId + 2) none
      ⟨x.status, t.s.posToId, rng, x.leftover, 1, x.additional, tx⟩ = r →
      ∃ y, r = .ok (y, none, .completed) ∧
        countTrue y.status t.s.lastTicketId =
          min (t.s.nrWinning + t.s.totalGuaranteed) t.s.lastTicketId ∧
        y.additional = min t.s.totalGuaranteed (t.s.lastTicketId - t.s.nrWinning) ∧
        y.leftover = 0 ∧ FlagsIn t.s.lastTicketId y.status ∧
        (∀ id, x.status id = true → y.status id = true) ∧ y.tx.s = tx.s := by
    intro tx r hr
    have hinv := LInv_init hR hmono hflags hc rng x.leftover tx
    obtain ⟨y, hy, _, hl, ha, hcy, hm, hin⟩ :=
      leftover_v2_terminates hash t.s.nrWinning t.s.lastTicketId _ hinv
    have hfr := runWhile_leftoverBody_tx_s hy
    rw [hy] at hr
    obtain ⟨e1, e2⟩ := hinv.final_count ha htot
    exact ⟨y, hr.symm, hcy.trans e1, e2, hl, hin, hm, hfr⟩
  unfold guaranteedSubstep
  simp only [hb, h1, bind, Except.bind, Tx.setS, hv, if_true]
  split
  · next e heq =>
    obtain ⟨y, hy, _⟩ := key _ _ heq
    cases hy
  · next v heq =>
    obtain ⟨y, hy, p1, p2, p3, p4, p5, p6⟩ := key _ _ heq
    cases hy
    refine ⟨_, _, rfl, p1, p2, p3, p4, fun id hid => p5 id (hmono id hid), ?_⟩
    simp only [p6]

/-- C03 (v2), the `distribute` endpoint, for an accepted uninterrupted call that starts the step
    under the hypotheses of `C03_guaranteedSubstep_v2_final`: stored `nrWinning` = number of
    winning flags = `min (nrWinning + totalGuaranteed) lastTicketId` -/
theorem C03_distribute_v2_final (hash : List Nat → List Nat) (t t' : Tx) (e : Env)
    (arr : List Nat)
    (hv : t.s.variant.isV2 = true) (hb : t.c.budget = none) (hop : t.s.op = .none)
    (hle : t.s.nrWinning ≤ t.s.lastTicketId)
    (hR : R t.s.lastTicketId (t.s.nrWinning + 1) t.s.status t.s.posToId arr)
    (hranges : ∀ u ∈ t.s.whitelist, ∀ r, t.s.range u = some r → RangeIn t.s.lastTicketId r)
    (hG : GuarInv t.s.variant.isV2 t.s)
    (h : distribute hash t e = .ok t') :
    t'.s.nrWinning = min (t.s.nrWinning + t.s.totalGuaranteed) t.s.lastTicketId ∧
    countTrue t'.s.status t.s.lastTicketId = t'.s.nrWinning ∧
    FlagsIn t.s.lastTicketId t'.s.status ∧
    (∀ id, t.s.status id = true → t'.s.status id = true) ∧
    t'.s.flags.additional = true ∧ t'.s.op = .none ∧ t'.o.ret = [0] := by
  obtain ⟨_, g, hg, h⟩ := (distribute_iff hash t t' e).mp h
  simp only [guarOpOf, hop, Option.some.injEq] at hg
  subst hg
  simp only [selTxOf, hop] at h
  obtain ⟨⟨a, g1, st⟩, hsub, hrest⟩ := (bind_ok_iff _ _ _).mp h
  have f2 := Tx.freshRng_budget t
  have f3 := Tx.freshRng_s t
  obtain ⟨a', g', hs', q1, q2, q3, q4, q5, q6⟩ := C03_guaranteedSubstep_v2_final hash t.freshRng.2
    t.freshRng.1 arr (by rw [f3]; exact hv) (by rw [f2]; exact hb) (by rw [f3]; exact hle)
    (by rw [f3]; exact hR) (by rw [f3]; exact hranges) (by rw [f3]; exact hG)
  rw [hs'] at hsub
  cases hsub
  rw [f3] at q1 q2 q4 q5 q6
  obtain ⟨hs, _, ho⟩ := distFinish_completed hrest
  have hret := congrArg Out.ret ho
  have hnr : a.s.nrWinning = t.s.nrWinning := by rw [q6]
  rw [hs]
  refine ⟨?_, ?_, q4, q5, rfl, ?_, hret⟩
  · show a.s.nrWinning + g1.additional = _
    rw [hnr, q2]; omega
  · show countTrue a.s.status _ = a.s.nrWinning + g1.additional
    rw [q1, hnr, q2]; omega
  · show a.s.op = .none
    rw [q6]

/-- the endpoint is not rejected when its guards hold -/
theorem C03_distribute_v2_succeeds (hash : List Nat → List Nat) (t : Tx) (e : Env)
    (arr : List Nat)
    (hv : t.s.variant.isV2 = true) (hb : t.c.budget = none) (hop : t.s.op = .none)
    (hle : t.s.nrWinning ≤ t.s.lastTicketId)
    (hR : R t.s.lastTicketId (t.s.nrWinning + 1) t.s.status t.s.posToId arr)
    (hranges : ∀ u ∈ t.s.whitelist, ∀ r, t.s.range u = some r → RangeIn t.s.lastTicketId r)
    (hG : GuarInv t.s.variant.isV2 t.s)
    (hp : t.s.paused = false)
    (hst : requireStage t.s e .winnerSelection "Not in winner selection period" = .ok ())
    (hou : ownerOrUser t.s e = .ok ())
    (hsel : t.s.flags.selected = true) (hadd : t.s.flags.additional = false) :
    ∃ t', distribute hash t e = .ok t' := by
  have f2 := Tx.freshRng_budget t
  have f3 := Tx.freshRng_s t
  obtain ⟨a', g', hs', q1, q2, q3, q4, q5, q6⟩ := C03_guaranteedSubstep_v2_final hash t.freshRng.2
    t.freshRng.1 arr (by rw [f3]; exact hv) (by rw [f2]; exact hb) (by rw [f3]; exact hle)
    (by rw [f3]; exact hR) (by rw [f3]; exact hranges) (by rw [f3]; exact hG)
  have hpre : DistPre t.s e :=
    ⟨fun _ => hp, by simpa [requireStage] using hst, fun _ => by simpa [ownerOrUser] using hou, hsel,
      hadd⟩
  have hfin : ∃ t', distFinish e (a', g', .completed) = .ok t' := by
    simp only [distFinish]
    split <;> exact ⟨_, rfl⟩
  obtain ⟨t', ht'⟩ := hfin
  refine ⟨t', (distribute_iff hash t t' e).mpr ⟨hpre, { rng := t.freshRng.1 }, by simp only [guarOpOf, hop], ?_⟩⟩
  simp only [selTxOf, hop]
  rw [hs']
  exact ht'

/-- `sEx` = `sLive` (user 7 holds tickets 1..3 and a guarantee of 2, not confirmed) with no
    lottery winner: both reserved tickets go to the re-draw, 2 of the 3 tickets win -/
example : ∃ t' g', guaranteedSubstep id ⟨sEx, {}, {}⟩ { rng := default } = .ok (t', g', .completed) ∧
    countTrue t'.s.status 3 = 2 ∧ g'.additional = 2 := by
  obtain ⟨t', g', h, h1, h2, _⟩ := C03_guaranteedSubstep_v2_final id ⟨sEx, {}, {}⟩ default
    (List.range' 1 3) rfl rfl (by decide) (R_init 3)
    (by
      intro u hu r hr
      have : u = 7 := by simpa [sEx, sLive] using hu
      subst this
      have : r = ⟨1, 3⟩ := by
        have : sEx.range 7 = some ⟨1, 3⟩ := rfl
        rw [this] at hr; injection hr with hr; exact hr.symm
      subst this
      exact ⟨by decide, by decide⟩)
    sLive_inv
  exact ⟨t', g', h, h1, h2⟩

/-- 3 tickets, no lottery winner (`nrOrig = 0`, identity placement), top-up marked ticket 2 -/
example : LInv 3 0 ⟨fun t => t == 2, fun _ => 0, default, 1, 1, 1, default⟩ :=
  LInv_init (st0 := fun _ => false) (R_init 3) (by simp)
    (by intro t ht; simp only [beq_iff_eq] at ht; omega) (by decide) _ _ _

/-- 3 tickets, ticket 1 won the lottery, ticket 3 topped up, one reserved ticket left -/
example : LInv 3 1 (spinState 0) := spinState_LInv 0

/-- `final_winners_v2` on that state: 1 winner + 2 reserved tickets, 3 tickets: all 3 win -/
example : ∃ x', runWhile (leftoverBody id true 1 3) (3 + 2) none (spinState 0)
      = .ok (x', none, .completed) ∧ countTrue x'.status 3 = min 3 3 := by
  obtain ⟨x', h1, _, h2, _⟩ := final_winners_v2 id 1 3 2 3 (spinState 0) (spinState_LInv 0) rfl rfl
  exact ⟨x', h1, h2⟩

end LP

#print axioms LP.C03_leftover_inv_init
#print axioms LP.C03_leftover_step
#print axioms LP.C03_leftover_v2_terminates
#print axioms LP.C03_leftover_v2_iterations
#print axioms LP.final_winners_v2
#print axioms LP.final_winners_v2_from_lottery
#print axioms LP.C12_leftover_v2_draws
#print axioms LP.C03_leftover_v2_call
#print axioms LP.C03_leftover_v2_chunked
#print axioms LP.C03_leftover_run_partial
#print axioms LP.C03_leftover_no_dead_state_partial
#print axioms LP.C03_leftover_v1_may_spin
#print axioms LP.C03_selectWinners_R
#print axioms LP.C03_guaranteedSubstep_v2_final
#print axioms LP.C03_distribute_v2_final
#print axioms LP.C03_distribute_v2_succeeds
