import LP.Proofs.FieldFrames
import LP.Props.C06gates
import LP.Props.C07
import LP.Props.C08
import LP.Props.C20
import LP.Proofs.ClaimVested
/-
  C10 — blacklisting refunds in full and excludes; un-blacklisting restores.
  Exclusion rests on the invariant `BlZero` (blacklisted ⇒ nothing confirmed): the filter then
  drops the user's allocation record, and without a record a claim fails.
-/
namespace LP.Props.C10
open LP LP.Events LP.Props.C20

/-- **C10, refund in full**: an accepted `addUsersToBlacklist` (any variant) comes from owner or
    support in stage AddTickets or Confirm, on a duplicate-free list of users with an allocation
    record and not yet blacklisted.  Every listed user ends blacklisted with zero confirmations;
    the ticket refunds `l.filterMap (blXfer s)` send each of them `price * confirmed_before` of the
    payment token (one transfer, none if nothing was confirmed) and are all the transfers unless
    the variant has the NFT hook (then transfers `xf` follow that the statement leaves open: the
    fee refunds of `refundNft_exact`); other addresses keep `confirmed` and `blacklist`; all
    allocation records (`range`) stay — also those of the listed users. -/
theorem blacklist_effect (hash : List Nat → List Nat) (s : State) (e : Env) (l : List Nat)
    (s' : State) (o : Out) (h : step hash s e (.blacklist l) = .ok (s', o)) :
    (e.caller = s.owner ∨ e.caller = s.support) ∧
    (s.stage e = .addTickets ∨ s.stage e = .confirm) ∧
    l.Nodup ∧
    (∀ u ∈ l, (s.range u).isSome = true ∧ s.blacklist u = false) ∧
    (∀ u ∈ l, s'.blacklist u = true ∧ s'.confirmed u = 0) ∧
    (∃ xf, o.xfers = l.filterMap (blXfer s) ++ xf ∧ (s.variant.hasNft = false → xf = []) ∧
      ∀ u ∈ l, (l.filterMap (blXfer s)).filter (fun x => x.1 = u) =
        if s.confirmed u > 0 then [(u, ⟨s.payTok, 0, s.price * s.confirmed u⟩)] else []) ∧
    (∀ a, a ∉ l → s'.confirmed a = s.confirmed a ∧ s'.blacklist a = s.blacklist a) ∧
    (∀ a, s'.range a = s.range a) ∧
    s.price * blConfSum s l ≤ s.bal s.payTok 0 ∧
    (s.variant.hasNft = false → s'.bal = s.bal.sub s.payTok 0 (s.price * blConfSum s l)) := by
  obtain ⟨t, hx, rfl, rfl⟩ := step_np_out rfl h
  obtain ⟨hadd, _, hxf, _, _, _, s1, py, bal, hg, hs, hpb⟩ := exec_blacklist_out hx
  obtain ⟨xf, hxfe⟩ : ∃ xf, xf = (if s.variant.hasNft = true
      then (l.filter (fun x => decide (x ∈ s.payers))).map (fun u => (u, s.nftCost))
      else ([] : List (Nat × Pay))) := ⟨_, rfl⟩
  have hnft : s.variant.hasNft = false → xf = [] := fun hn => by
    rw [hxfe, if_neg (by rw [hn]; nofun)]
  have hxf : t.o.xfers = (rbTx s e).o.xfers ++ l.filterMap (blXfer s) ++ xf := by rw [hxfe]; exact hxf
  obtain ⟨hperm, hstage, hnd, hall, hle, _⟩ := (addUsersToBlacklist_ok_iff _ _ _ _).mp hadd
  obtain ⟨⟨wl, uu, bb, nw, tg, rfl⟩, _⟩ := hg
  refine ⟨hperm, hstage, hnd, fun u hu => ⟨(hall u hu).2, (hall u hu).1⟩, ?_, ⟨xf, ?_, hnft, ?_⟩,
    ?_, ?_, hle, ?_⟩
  · intro u hu
    rw [hs]
    simp [blState, rbTx, hu]
  · rw [hxf]; exact congrArg (· ++ _) (List.nil_append _)
  · intro u hu
    have := blXfer_filter s u l hnd hu
    rw [this]
    unfold blXfer refundPay
    split <;> rfl
  · intro a ha
    rw [hs]
    simp [blState, rbTx, ha]
  · intro a
    rw [hs]; rfl
  · intro hn
    rw [hs, (hpb hn).2]; rfl

/-- Batch atomicity: one listed user already blacklisted or without allocation record, or a
    duplicate in the list, fails the whole call. -/
theorem blacklist_atomic (hash : List Nat → List Nat) (s : State) (e : Env) (l : List Nat)
    (hbad : (∃ u ∈ l, s.blacklist u = true ∨ s.range u = none) ∨ ¬ l.Nodup) :
    ∃ err, step hash s e (.blacklist l) = .error err := by
  refine rejected_of_not_ok fun s' o h => ?_
  obtain ⟨_, _, hnd, hall, _⟩ := blacklist_effect hash s e l s' o h
  rcases hbad with ⟨u, hu, hb | hr⟩ | hd
  · have := (hall u hu).2; rw [hb] at this; cases this
  · have := (hall u hu).1; rw [hr] at this; cases this
  · exact absurd hnd hd

theorem blacklist_stage (hash : List Nat → List Nat) (s : State) (e : Env) (l : List Nat) (r : State × Out)
    (h : step hash s e (.blacklist l) = .ok r) : s.stage e = .addTickets ∨ s.stage e = .confirm :=
  C06.blacklist_only_before_selection hash s e _ r (Or.inl ⟨l, rfl⟩) h

/-- **C10**: a blacklisted user cannot confirm. -/
theorem blacklisted_cannot_confirm (hash : List Nat → List Nat) (s : State) (e : Env) (n : Nat)
    (hb : s.blacklist e.caller = true) : ∃ err, step hash s e (.confirm n) = .error err := by
  refine rejected_of_not_ok fun _ _ h => ?_
  obtain ⟨total, hacc⟩ := (C07.confirm_accepted_iff hash s e n).mp ⟨_, h⟩
  have := hacc.2.2.2.2.1
  rw [hb] at this; cases this

/-! ## Blacklisted users hold no ticket in the draw and can claim nothing

  `BlZero s` : every blacklisted user has `confirmed = 0`.  Blacklisting establishes it, and it
  is preserved: only `confirm` raises `confirmed`, and it is rejected for blacklisted callers.
  With `confirmed u = 0` the filter removes `u`'s allocation record
  (`C08.filter_spec`: `conf p.1 = 0 → f.range p.1 = none`), and with `range u = none` the
  settlement fails with "You have no tickets" (`no_range_cannot_claim`). -/

/-- Only a hypothesis of `blacklisted_confirmed_zero`; `blZero_step` holds for every call. -/
def covered : Call → Bool
  | .confirm _ | .blacklist _ | .refundUsers _ | .unblacklist _
  | .addTickets _ | .addTicketsV1 _ | .addTicketsV2 _ | .setTicketPrice _ _ | .setSchedule2 _
  | .pause | .unpause | .setSupport _ => true
  | _ => false

/-- **C10, the invariant** is preserved by every accepted call: `cbAfter` gives `confirmed` and
    `blacklist` after the call, and the one call that raises `confirmed` is rejected for a
    blacklisted caller. -/
theorem blZero_step {hash : List Nat → List Nat} {s s' : State} {e : Env} {c : Call} {o : Out}
    (hz : BlZero s) (h : step hash s e c = .ok (s', o)) : BlZero s' := by
  have hcb := step_cb h
  have hc : s'.confirmed = (cbAfter s e c).confirmed := congrArg CB.confirmed hcb
  have hb : s'.blacklist = (cbAfter s e c).blacklist := congrArg CB.blacklist hcb
  intro u hu
  rw [hc]
  rw [hb] at hu
  cases c
  case confirm n =>
    have hne : u ≠ e.caller := by
      rintro rfl
      obtain ⟨err, herr⟩ := blacklisted_cannot_confirm hash s e n hu
      rw [herr] at h; cases h
    exact (upd_other _ _ _ _ hne).trans (hz u hu)
  case blacklist l | refundUsers l =>
    simp only [cbAfter] at hu ⊢
    by_cases hm : u ∈ l
    · simp [hm]
    · simp only [hm, if_false] at hu ⊢; exact hz u hu
  case unblacklist l =>
    simp only [cbAfter] at hu
    by_cases hm : u ∈ l
    · simp [hm] at hu
    · simp only [hm, if_false] at hu; exact hz u hu
  case claim =>
    simp only [cbAfter] at hu ⊢
    split
    · exact hz u hu
    · by_cases hne : u = e.caller
      · rw [hne, upd_same]
      · rw [upd_other _ _ _ _ hne]; exact hz u hu
  all_goals exact hz u hu

/-- `blZero_step` restricted to the calls in `covered`; `hc` is not used
    (`C10frame.blacklisted_confirmed_zero_all` is the statement without it). -/
theorem blacklisted_confirmed_zero (hash : List Nat → List Nat) (s : State) (e : Env) (c : Call)
    (s' : State) (o : Out) (hc : covered c = true) (hz : BlZero s)
    (h : step hash s e c = .ok (s', o)) : BlZero s' :=
  blZero_step hz h

/-- Blacklisting establishes the invariant for the listed users whatever held before. -/
theorem blacklist_establishes (hash : List Nat → List Nat) (s : State) (e : Env) (l : List Nat)
    (s' : State) (o : Out) (h : step hash s e (.blacklist l) = .ok (s', o)) :
    ∀ u ∈ l, s'.blacklist u = true ∧ s'.confirmed u = 0 :=
  (blacklist_effect hash s e l s' o h).2.2.2.2.1

/-- **C10, nothing to claim**: without an allocation record a `claim` fails, unless the variant
    is a vesting one and the caller has already settled (then the call only releases vested
    tokens). -/
theorem no_range_cannot_claim (hash : List Nat → List Nat) (s : State) (e : Env) (r : State × Out)
    (hr : s.range e.caller = none) (h : step hash s e .claim = .ok r) :
    s.variant.vested = true ∧ s.claimed e.caller = true :=
  (step_claim_who (s' := r.1) (o := r.2) h).resolve_right fun ⟨_, rg, hrg⟩ => by rw [hr] at hrg; cases hrg

/-- **C10, un-blacklisting**: an accepted `removeUsersFromBlacklist` (guarV1, guarV2, migration)
    comes from owner or support in stage AddTickets or Confirm, on a duplicate-free list of
    blacklisted users.  The flag is cleared for exactly the listed users; nobody's confirmations,
    allocation records or winning flags change; outside the list the guaranteed-ticket records
    `uts` / `blUts` stay; besides `blacklist` only `whitelist`, `uts`, `blUts`, `nrWinning`,
    `totalGuaranteed` may differ. -/
theorem unblacklist_effect (hash : List Nat → List Nat) (s : State) (e : Env) (l : List Nat)
    (s' : State) (o : Out) (h : step hash s e (.unblacklist l) = .ok (s', o)) :
    s.variant.hasUnblacklist = true ∧
    (e.caller = s.owner ∨ e.caller = s.support) ∧
    (s.stage e = .addTickets ∨ s.stage e = .confirm) ∧
    l.Nodup ∧ (∀ u ∈ l, s.blacklist u = true) ∧
    (∀ a, s'.blacklist a = if a ∈ l then false else s.blacklist a) ∧
    (∀ a, s'.confirmed a = s.confirmed a ∧ s'.range a = s.range a ∧ s'.status a = s.status a) ∧
    (∀ a, a ∉ l → s'.uts a = s.uts a ∧ s'.blUts a = s.blUts a) ∧
    (∃ wl u b nw tg, s' = { s with blacklist := fun a => if a ∈ l then false else s.blacklist a,
                                   whitelist := wl, uts := u, blUts := b, nrWinning := nw,
                                   totalGuaranteed := tg }) ∧
    o.xfers = [] := by
  have hvar : s.variant.hasUnblacklist = true := step_exposed h
  obtain ⟨t, hx, rfl, rfl⟩ := step_np_out rfl h
  obtain ⟨hrem, hg, _, ho, _⟩ := exec_unblacklist_out hx
  obtain ⟨hperm, hstage, hnd, hall, _⟩ := (removeUsersFromBlacklist_ok_iff _ _ _ _).mp hrem
  obtain ⟨⟨wl, uu, bb, nw, tg, hs⟩, hout⟩ := hg
  refine ⟨hvar, hperm, hstage, hnd, hall, ?_, ?_, ?_, ⟨wl, uu, bb, nw, tg, ?_⟩, ?_⟩
  · intro a; rw [hs]; rfl
  · intro a; rw [hs]; exact ⟨rfl, rfl, rfl⟩
  · intro a ha; exact hout a ha
  · rw [hs]; rfl
  · rw [ho]; rfl

/-- guarV2 restores: a listed user with an allocation record whose guaranteed-ticket record was
    parked in `blUts` by the blacklisting gets it back in `uts`; the parked copy is cleared. -/
theorem unblacklist_restores_v2 (hash : List Nat → List Nat) (s : State) (e : Env) (l : List Nat)
    (s' : State) (o : Out) (hv : s.variant = .guarV2)
    (h : step hash s e (.unblacklist l) = .ok (s', o))
    (u : Nat) (hu : u ∈ l) (hr : (s.range u).isSome = true) (st : UTS) (hst : s.blUts u = some st) :
    s'.uts u = some st ∧ s'.blUts u = none := by
  obtain ⟨t, hx, rfl, rfl⟩ := step_np_out rfl h
  obtain ⟨hrem, _, _, _, hres⟩ := exec_unblacklist_out hx
  obtain ⟨_, _, hnd, _, _⟩ := (removeUsersFromBlacklist_ok_iff _ _ _ _).mp hrem
  have hv2 : (rbTx s e).s.variant.isV2 = true := by simp [rbTx, hv, Variant.isV2]
  simp only [hv2, ↓reduceIte] at hres
  have := restoreGuaranteedV2_moves hres hnd u hu hr
  have hb : (unblState (rbTx s e).s l).blUts u = some st := hst
  rw [hb] at this
  simpa using this

/-! ## NFT variants: the fee goes back to exactly the listed payers -/

/-- `refund_nft_cost_after_blacklist`: with duplicate-free `payers` (the set mapper's invariant)
    and a duplicate-free list (guaranteed by the blacklisting loop that runs first), the NFT fee
    goes to exactly the listed users that were in `payers`, in list order, and exactly those
    leave `payers`. -/
theorem refundNft_exact (l : List Nat) (t t' : Tx) (hp : t.s.payers.Nodup) (hl : l.Nodup)
    (h : refundNftMany l t = .ok t') :
    t'.o.xfers = t.o.xfers ++ (l.filter (fun u => decide (u ∈ t.s.payers))).map (fun u => (u, t.s.nftCost)) ∧
    t'.s.payers.Nodup ∧ (∀ x, x ∈ t'.s.payers ↔ x ∈ t.s.payers ∧ x ∉ l) ∧
    t'.s.nftCost = t.s.nftCost ∧
    (∃ py bal, t'.s = { t.s with payers := py, bal := bal }) ∧ t'.o.events = t.o.events := by
  obtain ⟨h1, h2, h3, h4⟩ := refundNftMany_exact l t t' hp hl h
  obtain ⟨hs, _, xf, ho⟩ := refundNftMany_frame l t t' h
  exact ⟨h1, h2, h3, h4, hs, by rw [ho]⟩

/-- non-vacuity: support blacklists user 7 (2 confirmed tickets at price 10) and user 8 (nothing
    confirmed) during the confirmation window -/
def exS : State :=
  { variant := .base, owner := 1, lpTok := 1, perTicket := 1, payTok := .egld, price := 10,
    nrWinning := 1, cfg := ⟨5, 10, 15⟩, flags := {}, support := 2, deposited := true,
    range := fun a => if a = 7 then some ⟨1, 3⟩ else if a = 8 then some ⟨4, 4⟩ else none,
    confirmed := fun a => if a = 7 then 2 else 0,
    bal := fun t _ => if t = .egld then 20 else 0 }

def exE : Env := { caller := 2, round := 6 }

example : ∃ s' o, step (fun x => x) exS exE (.blacklist [7, 8]) = .ok (s', o) ∧
    o.xfers = [(7, ⟨.egld, 0, 20⟩)] ∧ o.events.length = 1 ∧
    s'.blacklist 7 = true ∧ s'.blacklist 8 = true ∧ s'.confirmed 7 = 0 ∧ s'.bal .egld 0 = 0 := by
  refine ⟨_, _, rfl, ?_⟩
  decide

example : BlZero { exS with blacklist := fun a => a == 8 } := by
  intro u hu
  have : u = 8 := by simpa [exS] using hu
  subst this; rfl

end LP.Props.C10

#print axioms LP.Props.C10.blacklist_effect
#print axioms LP.Props.C10.blacklist_atomic
#print axioms LP.Props.C10.blacklist_stage
#print axioms LP.Props.C10.blacklisted_cannot_confirm
#print axioms LP.Props.C10.blacklisted_confirmed_zero
#print axioms LP.Props.C10.blacklist_establishes
#print axioms LP.Props.C10.no_range_cannot_claim
#print axioms LP.Props.C10.unblacklist_effect
#print axioms LP.Props.C10.unblacklist_restores_v2
#print axioms LP.Props.C10.refundNft_exact
