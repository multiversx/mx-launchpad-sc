import LP.Proofs.Frame
import LP.Props.C06gates
import LP.Props.C06stage
/-
  C17 — Sale terms are frozen once participants can commit funds.

  C17.1 outside the AddTickets stage no accepted call changes the sale terms (price, payment token,
  tokens per ticket, NFT fee, …) or the v2 schedule (`sched1_frozen`: nor the v1 schedule once it is
  set — an unset one can still be set, token_release.rs:55-58 of launchpad-guaranteed-tickets); C17.2 the
  tokens per ticket are frozen from the deposit on; C17.3 zero terms are never accepted; C17.4
  refunds use the current price; C17.5 along histories with non-decreasing rounds the stage never
  returns to AddTickets.
-/
namespace LP.Props.C17
open LP

/-! ### 1. frozen after confirmation starts -/

/-- the stage is past AddTickets exactly when the confirmation start round has been reached -/
theorem stage_ne_addTickets_iff (s : State) (e : Env) : s.stage e ≠ .addTickets ↔ s.cfg.conf ≤ e.round := by
  constructor
  · exact fun h => Nat.le_of_not_lt fun h1 => h (stageOf_addTickets s.flags h1)
  · intro h hst
    have hsp := stageOf_spec e.round s.cfg s.flags
    rw [show stageOf e.round s.cfg s.flags = .addTickets from hst] at hsp
    exact Nat.not_le.mpr hsp h

/-- **C17.1** once the stage (seen by the call) is not AddTickets, no accepted call changes the
    sale terms or the v2 unlock schedule -/
theorem terms_frozen_after_confirmation_starts_all {hash : List Nat → List Nat} {s s' : State} {e : Env}
    {c : Call} {o : Out} (h : step hash s e c = .ok (s', o)) (hst : s.stage e ≠ .addTickets) :
    s'.terms = s.terms ∧ s'.sched2 = s.sched2 := by
  have key : ((∃ a b, c = .setTicketPrice a b) ∨ (∃ a, c = .setPerTicket a) ∨ (∃ a, c = .setNftCost a) ∨
      (∃ l, c = .setSchedule2 l)) → False :=
    fun hc => hst (C06.terms_only_in_addTickets hash s e c (s', o) hc h)
  exact ⟨terms_frame h (fun a b hc => key (Or.inl ⟨a, b, hc⟩)) (fun a hc => key (Or.inr (Or.inl ⟨a, hc⟩)))
      (fun a hc => key (Or.inr (Or.inr (Or.inl ⟨a, hc⟩)))),
    sched2_frame h (fun l hc => key (Or.inr (Or.inr (Or.inr ⟨l, hc⟩))))⟩

/-- **C17.1**, in components: price, payment token, NFT fee and the v2 schedule (and the tokens
    per ticket) are unchanged by any accepted call outside the AddTickets stage -/
theorem terms_frozen_after_confirmation_starts {hash : List Nat → List Nat} {s s' : State} {e : Env}
    {c : Call} {o : Out} (h : step hash s e c = .ok (s', o)) (hst : s.stage e ≠ .addTickets) :
    s'.price = s.price ∧ s'.payTok = s.payTok ∧ s'.nftCost = s.nftCost ∧ s'.sched2 = s.sched2 ∧
    s'.perTicket = s.perTicket := by
  obtain ⟨ht, h2⟩ := terms_frozen_after_confirmation_starts_all h hst
  exact ⟨terms_price ht, terms_payTok ht, terms_nftCost ht, h2, terms_perTicket ht⟩

/-- the v1 schedule: once set, it is frozen from the confirmation start round on -/
theorem sched1_frozen {hash : List Nat → List Nat} {s s' : State} {e : Env}
    {c : Call} {o : Out} (h : step hash s e c = .ok (s', o)) (hst : s.stage e ≠ .addTickets)
    (hset : s.sched1 ≠ none) : s'.sched1 = s.sched1 := by
  refine sched1_frame h (fun a b c' d f hc => ?_)
  subst hc
  rcases C06.schedule1_gate hash s e a b c' d f (s', o) h with h1 | h1
  · have := (stage_ne_addTickets_iff s e).1 hst
    omega
  · exact hset h1

/-! ### 2. tokens per ticket frozen after the deposit -/

/-- **C17.2** after the launchpad tokens are deposited the amount per winning ticket cannot change -/
theorem perTicket_frozen_after_deposit {hash : List Nat → List Nat} {s s' : State} {e : Env}
    {c : Call} {o : Out} (h : step hash s e c = .ok (s', o)) (hd : s.deposited = true) :
    s'.perTicket = s.perTicket := by
  refine perTicket_frame h (fun a hc => ?_)
  subst hc
  have := (setPerTicket_terms h).2.2.2.1
  rw [hd] at this
  cases this

/-- **C17.2** `deposited` never goes back to false -/
theorem deposited_never_reset {hash : List Nat → List Nat} {s s' : State} {e : Env}
    {c : Call} {o : Out} (h : step hash s e c = .ok (s', o)) (hd : s.deposited = true) :
    s'.deposited = true := deposited_mono h hd

/-! ### 3. zero is never accepted -/

/-- inversion of an accepted deployment -/
theorem init_ok_inv {v : Variant} {a : InitArgs} {e : Env} {s : State} (h : init v a e = .ok s) :
    0 < a.price ∧ 0 < a.perTicket ∧ 0 < a.nrWinning ∧
    s.price = a.price ∧ s.perTicket = a.perTicket ∧ s.payTok = a.payTok ∧ s.nrWinning = a.nrWinning := by
  obtain ⟨hok, rfl⟩ := init_ok h
  exact ⟨hok.price, hok.perTicket, hok.nrWinning, rfl, rfl, rfl, rfl⟩

/-- **C17.3** a zero price, a zero amount per ticket, a zero number of winning tickets are rejected
    at deployment; a zero price, a zero amount per ticket, a zero NFT fee are rejected by the setters -/
theorem zero_never_accepted (hash : List Nat → List Nat) :
    (∀ v a e, (a.price = 0 ∨ a.perTicket = 0 ∨ a.nrWinning = 0) → ∃ err, init v a e = .error err) ∧
    (∀ s e tok, ∃ err, step hash s e (.setTicketPrice tok 0) = .error err) ∧
    (∀ s e, ∃ err, step hash s e (.setPerTicket 0) = .error err) ∧
    (∀ s e p, p.amount = 0 → ∃ err, step hash s e (.setNftCost p) = .error err) := by
  refine ⟨fun v a e hz => ?_, fun s e tok => ?_, fun s e => ?_, fun s e p hp => ?_⟩
  · cases h : init v a e with
    | error err => exact ⟨err, rfl⟩
    | ok s =>
      obtain ⟨h1, h2, h3, _⟩ := init_ok_inv h
      omega
  · exact rejected_of_not_ok fun s' o h => by have := (setTicketPrice_terms h).2.2.2.1; omega
  · exact rejected_of_not_ok fun s' o h => by have := (setPerTicket_terms h).2.2.2.2; omega
  · exact rejected_of_not_ok fun s' o h => by have := (setNftCost_terms h).2.2.2; omega

/-- the invariant: price and tokens per ticket are positive -/
def PosTerms (s : State) : Prop := 0 < s.price ∧ 0 < s.perTicket

theorem init_posTerms {v : Variant} {a : InitArgs} {e : Env} {s : State} (h : init v a e = .ok s) :
    PosTerms s := by
  obtain ⟨h1, h2, _, h4, h5, _⟩ := init_ok_inv h
  exact ⟨by omega, by omega⟩

theorem step_posTerms {hash : List Nat → List Nat} {s s' : State} {e : Env} {c : Call} {o : Out}
    (h : step hash s e c = .ok (s', o)) (hp : PosTerms s) : PosTerms s' := by
  constructor
  · by_cases hc : ∃ tok a, c = .setTicketPrice tok a
    · obtain ⟨tok, a, rfl⟩ := hc
      obtain ⟨_, h1, _, h3, _⟩ := setTicketPrice_terms h
      rw [h1]; exact h3
    · rw [(price_frame h (fun tok a hh => hc ⟨tok, a, hh⟩)).1]; exact hp.1
  · by_cases hc : ∃ a, c = .setPerTicket a
    · obtain ⟨a, rfl⟩ := hc
      obtain ⟨_, h1, _, _, h3⟩ := setPerTicket_terms h
      rw [h1]; exact h3
    · rw [perTicket_frame h (fun a hh => hc ⟨a, hh⟩)]; exact hp.2

/-- every history keeps the invariant; by `init_posTerms` it holds after an accepted deployment -/
theorem run_posTerms (hash : List Nat → List Nat) : ∀ (l : List (Env × Call)) (s : State),
    PosTerms s → PosTerms (run hash s l) :=
  run_induct hash PosTerms fun _ _ _ _ _ hp h => step_posTerms h hp

/-! ### 4. refunds use the current price -/

/-- **C17.4** a refund of `n > 0` tickets sends and reports `price * n` of the current payment
    token; a refund of 0 tickets does nothing -/
theorem refund_uses_current_price {t t' : Tx} {e : Env} {a n : Nat} (h : t.refund e a n = .ok t') :
    (n > 0 →
      t'.o.xfers = t.o.xfers ++ [(a, ⟨t.s.payTok, 0, t.s.price * n⟩)] ∧
      t'.o.events = t.o.events ++ [⟨"refundTicketPayment", topics e,
        [e.caller, e.round, e.epoch, n, t.s.payTok.code, 0, t.s.price * n]⟩]) ∧
    (n = 0 → t' = t) := by
  constructor
  · intro hn
    obtain ⟨_, h1, h2, _⟩ := Tx.refund_pos h hn
    exact ⟨h1, h2⟩
  · rintro rfl
    exact Tx.refund_zero h

/-! ### 5. histories -/

abbrev Hist := List (Env × Call)

/-- the rounds of the history are non-decreasing and all `≥ r` -/
def RoundsFrom : Nat → Hist → Prop
  | _, [] => True
  | r, (e, _) :: rest => r ≤ e.round ∧ RoundsFrom e.round rest

theorem RoundsFrom.mono {r r' : Nat} (hr : r' ≤ r) : ∀ {h : Hist}, RoundsFrom r h → RoundsFrom r' h
  | [], _ => trivial
  | (_, _) :: _, ⟨h1, h2⟩ => ⟨Nat.le_trans hr h1, h2⟩

theorem RoundsFrom.append_left {r : Nat} : ∀ {p q : Hist}, RoundsFrom r (p ++ q) → RoundsFrom r p
  | [], _, _ => trivial
  | (_, _) :: _, _, ⟨h1, h2⟩ => ⟨h1, RoundsFrom.append_left h2⟩

theorem RoundsFrom.append_right {r : Nat} : ∀ {p q : Hist}, RoundsFrom r (p ++ q) → RoundsFrom r q
  | [], _, h => h
  | (_, _) :: _, _, ⟨h1, h2⟩ => RoundsFrom.mono h1 (RoundsFrom.append_right h2)

theorem run_append (hash : List Nat → List Nat) : ∀ (p q : Hist) (s : State),
    run hash s (p ++ q) = run hash (run hash s p) q
  | [], _, _ => rfl
  | (e, c) :: rest, q, s => by
    simp only [List.cons_append, run]
    cases step hash s e c with
    | error err => exact run_append hash rest q s
    | ok r => exact run_append hash rest q r.1

/-- **C17.5, core**: if the confirmation start round has been reached (`conf ≤ r`) and all later
    transactions happen at rounds `≥ r` in non-decreasing order, then the final state has the same
    sale terms, the same v2 schedule and the same confirmation start round — hence the stage never
    returns to AddTickets -/
theorem terms_frozen_along_history (hash : List Nat → List Nat) : ∀ (h : Hist) (s : State) (r : Nat),
    s.cfg.conf ≤ r → RoundsFrom r h →
    (run hash s h).terms = s.terms ∧ (run hash s h).sched2 = s.sched2 ∧
    (run hash s h).cfg.conf = s.cfg.conf
  | [], _, _, _, _ => ⟨rfl, rfl, rfl⟩
  | (e, c) :: rest, s, r, hr, ⟨h1, h2⟩ => by
    unfold run
    cases h : step hash s e c with
    | error err => exact terms_frozen_along_history hash rest s e.round (by omega) h2
    | ok p =>
      obtain ⟨s', o⟩ := p
      have hst : s.stage e ≠ .addTickets := (stage_ne_addTickets_iff s e).2 (by omega)
      obtain ⟨ht, hs2⟩ := terms_frozen_after_confirmation_starts_all h hst
      have hconf : s'.cfg.conf = s.cfg.conf := conf_frozen_once_reached h (by omega)
      obtain ⟨i1, i2, i3⟩ := terms_frozen_along_history hash rest s' e.round (by omega) h2
      exact ⟨i1.trans ht, i2.trans hs2, i3.trans hconf⟩

/-- **C17.5** over a history with non-decreasing rounds: if some transaction `(e, c)` of the history
    finds the contract past the AddTickets stage, then *every later state* of the history (after
    `(e, c)` and any number `q` of further transactions) has the same sale terms — in particular the
    same price and payment token — and the same v2 schedule as the state that transaction started
    from, and every later transaction again sees a stage other than AddTickets. -/
theorem terms_frozen_in_history (hash : List Nat → List Nat) (s : State) (r0 : Nat)
    (p q rest : Hist) (e : Env) (c : Call)
    (hr : RoundsFrom r0 (p ++ (e, c) :: (q ++ rest)))
    (hst : (run hash s p).stage e ≠ .addTickets) :
    let s1 := run hash s p
    let s2 := run hash s (p ++ (e, c) :: q)
    s2.terms = s1.terms ∧ s2.price = s1.price ∧ s2.payTok = s1.payTok ∧ s2.sched2 = s1.sched2 ∧
    (∀ e' c' rest', rest = (e', c') :: rest' → s2.stage e' ≠ .addTickets) := by
  intro s1 s2
  have hr1 : RoundsFrom r0 ((e, c) :: (q ++ rest)) := RoundsFrom.append_right hr
  have hconf : s1.cfg.conf ≤ e.round := (stage_ne_addTickets_iff s1 e).1 hst
  have hr2 : RoundsFrom e.round ((e, c) :: q) :=
    ⟨Nat.le_refl _, RoundsFrom.append_left hr1.2⟩
  have hs2 : s2 = run hash s1 ((e, c) :: q) := run_append hash p ((e, c) :: q) s
  obtain ⟨i1, i2, i3⟩ := terms_frozen_along_history hash ((e, c) :: q) s1 e.round hconf hr2
  rw [← hs2] at i1 i2 i3
  refine ⟨i1, terms_price i1, terms_payTok i1, i2, ?_⟩
  rintro e' c' rest' rfl
  rw [stage_ne_addTickets_iff, i3]
  -- e'.round ≥ e.round: rounds are non-decreasing along `(e, c) :: q ++ (e', c') :: rest'`
  have h3 : RoundsFrom e.round (q ++ (e', c') :: rest') := hr1.2
  have h4 : RoundsFrom e.round ((e', c') :: rest') := RoundsFrom.append_right h3
  exact Nat.le_trans hconf h4.1

/-! ### non-vacuity -/

/-- a state past AddTickets and an accepted call on it (hypotheses of C17.1 are satisfiable) -/
example : ∃ s' o, step (fun x => x) { frameDemoState with deposited := true } { caller := 1, round := 6 } (.setSupport 7) = .ok (s', o) ∧
    ({ frameDemoState with deposited := true } : State).stage { caller := 1, round := 6 } ≠ .addTickets ∧
    ({ frameDemoState with deposited := true } : State).deposited = true :=
  ⟨_, _, rfl, by decide, rfl⟩

/-- a price change is still possible before the confirmation start (so the hypothesis matters) -/
example : ∃ s' o, step (fun x => x) frameDemoState { caller := 1, round := 2 } (.setTicketPrice .egld 11) = .ok (s', o) ∧
    s'.price ≠ frameDemoState.price := ⟨_, _, rfl, by decide⟩

/-- the invariant is satisfiable -/
example : PosTerms frameDemoState := ⟨by decide, by decide⟩

/-- a history with non-decreasing rounds -/
example : RoundsFrom 0 [(({ caller := 1, round := 2 } : Env), Call.pause), ({ caller := 1, round := 6 }, Call.unpause)] := by
  simp [RoundsFrom]

/-- a refund of 2 tickets at price 10 -/
example : ∃ t', (⟨{ frameDemoState with bal := fun _ _ => 100 }, {}, {}⟩ : Tx).refund { caller := 1, round := 6 } 9 2 = .ok t' ∧
    t'.o.xfers = [(9, ⟨.egld, 0, 20⟩)] := ⟨_, rfl, rfl⟩

end LP.Props.C17

#print axioms LP.Props.C17.terms_frozen_after_confirmation_starts_all
#print axioms LP.Props.C17.terms_frozen_after_confirmation_starts
#print axioms LP.Props.C17.sched1_frozen
#print axioms LP.Props.C17.perTicket_frozen_after_deposit
#print axioms LP.Props.C17.deposited_never_reset
#print axioms LP.Props.C17.init_ok_inv
#print axioms LP.Props.C17.zero_never_accepted
#print axioms LP.Props.C17.init_posTerms
#print axioms LP.Props.C17.step_posTerms
#print axioms LP.Props.C17.run_posTerms
#print axioms LP.Props.C17.refund_uses_current_price
#print axioms LP.Props.C17.terms_frozen_along_history
#print axioms LP.Props.C17.terms_frozen_in_history
#print axioms LP.terms_frame
#print axioms LP.static_frame
#print axioms LP.setTicketPrice_terms
#print axioms LP.setPerTicket_terms
#print axioms LP.setNftCost_terms
#print axioms LP.sched1_frame
#print axioms LP.sched2_frame

#print axioms LP.Props.C17.stage_ne_addTickets_iff
#print axioms LP.Props.C17.RoundsFrom.mono
#print axioms LP.Props.C17.RoundsFrom.append_left
#print axioms LP.Props.C17.RoundsFrom.append_right
#print axioms LP.Props.C17.run_append
