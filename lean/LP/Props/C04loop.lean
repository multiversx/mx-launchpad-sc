import LP.Proofs.Loop
/-
  C04 "interrupted operations resume to the same result", for EVERY loop body
  `body : σ → Res (σ × Bool)`: `runWhile body fuel budget s` models `run_while_it_has_gas`,
  `runCalls body fuel ks s` (LP/Proofs/Loop.lean) performs successive endpoint calls with budgets
  `ks`, each resuming from the state the previous call left.
-/
namespace LP.Props.C04loop
open LP

variable {σ : Type}

/-- fuel is only a totality device -/
theorem fuel_mono (body : σ → Res (σ × Bool)) (f f' : Nat) (b b' : Option Nat) (s s' : σ)
    (st : LoopStatus) (h : runWhile body f b s = .ok (s', b', st)) (hst : st ≠ .outOfFuel)
    (hf : f ≤ f') : runWhile body f' b s = .ok (s', b', st) :=
  runWhile_fuel_mono body f b s s' b' st h hst f' hf

theorem completed_budget_irrelevant (body : σ → Res (σ × Bool)) (f k : Nat) (s s' : σ)
    (b' : Option Nat) (h : runWhile body f (some k) s = .ok (s', b', .completed)) :
    runWhile body f none s = .ok (s', none, .completed) :=
  runWhile_completed_any_budget body f (some k) s s' b' h

/-- an interrupted call, then a completing call from the saved state = one unbudgeted call -/
theorem resume (body : σ → Res (σ × Bool)) (f f2 k : Nat) (s s1 sf : σ) (b1 : Option Nat)
    (h1 : runWhile body f (some k) s = .ok (s1, b1, .interrupted))
    (h2 : runWhile body f2 none s1 = .ok (sf, none, .completed)) :
    ∃ f3, runWhile body f3 none s = .ok (sf, none, .completed) :=
  ⟨f + f2, runWhile_resume body f f2 (some k) s s1 sf b1 h1 h2⟩

/-- C04: any completing schedule of chunked calls computes the state of the single call -/
theorem runCalls_eq_single (body : σ → Res (σ × Bool)) (fuel : Nat) (ks : List Nat) (s sf : σ)
    (h : runCalls body fuel ks s = .ok (sf, true)) :
    ∃ f, runWhile body f none s = .ok (sf, none, .completed) :=
  LP.runCalls_eq_single body fuel ks s sf h

theorem runCalls_eq_single_fuel (body : σ → Res (σ × Bool)) (fuel : Nat) (ks : List Nat)
    (s sf : σ) (h : runCalls body fuel ks s = .ok (sf, true)) :
    runWhile body (fuel * ks.length) none s = .ok (sf, none, .completed) :=
  LP.runCalls_eq_single_fuel body fuel ks s sf h

theorem runCalls_deterministic (body : σ → Res (σ × Bool)) (fuel fuel' : Nat)
    (ks ks' : List Nat) (s sf sf' : σ)
    (h : runCalls body fuel ks s = .ok (sf, true))
    (h' : runCalls body fuel' ks' s = .ok (sf', true)) : sf = sf' :=
  LP.runCalls_deterministic body fuel fuel' ks ks' s sf sf' h h'

/-- an interrupted call with budget `k` performed exactly `k + 1 ≥ 1` iterations -/
theorem interrupted_progress (body : σ → Res (σ × Bool)) (f k : Nat) (s s1 : σ)
    (b1 : Option Nat) (h : runWhile body f (some k) s = .ok (s1, b1, .interrupted)) :
    loopIter body (k+1) s = some s1 ∧ b1 = some 0 ∧ k + 1 ≤ f := by
  revert k s s1 b1 h
  induction f with
  | zero => intro k s s1 b1 h; cases h
  | succ f ih =>
    intro k s s1 b1 h
    cases hb : body s with
    | error e => rw [runWhile_err hb] at h; cases h
    | ok p =>
      obtain ⟨s', c⟩ := p
      cases c with
      | false => rw [runWhile_stop hb] at h; cases h
      | true =>
        rw [loopIter_cont hb]
        cases k with
        | zero => rw [runWhile_cont_zero hb] at h; cases h; exact ⟨rfl, rfl, by omega⟩
        | succ k =>
          rw [runWhile_cont_succ hb] at h
          obtain ⟨h1, h2, h3⟩ := ih _ _ _ _ h
          exact ⟨h1, h2, by omega⟩

/-- C04 "cannot be left stuck": if the single run completes within `N` iterations, any `N` calls
    complete, with the same state, whatever their budgets -/
theorem completes_within (body : σ → Res (σ × Bool)) (fuel : Nat) (ks : List Nat) (N : Nat)
    (s sf : σ) (h : runWhile body N none s = .ok (sf, none, .completed)) (hf : N ≤ fuel)
    (hN : N ≤ ks.length) : runCalls body fuel ks s = .ok (sf, true) :=
  runCalls_completes_of_length body fuel ks N s sf h hf hN

/-- it is enough that the budgets allow `N` iterations in total (`budgetIters ks = Σ (kᵢ + 1)`) -/
theorem completes_within_iters (body : σ → Res (σ × Bool)) (fuel : Nat) (ks : List Nat)
    (N : Nat) (s sf : σ) (h : runWhile body N none s = .ok (sf, none, .completed))
    (hf : N ≤ fuel) (hN : N ≤ budgetIters ks) : runCalls body fuel ks s = .ok (sf, true) :=
  runCalls_completes_of_budgetIters body fuel ks N s sf h hf hN

theorem completed_iff_loopIter (body : σ → Res (σ × Bool)) (f : Nat) (s sf : σ) :
    runWhile body f none s = .ok (sf, none, .completed) ↔
    ∃ n, n < f ∧ ∃ s', loopIter body n s = some s' ∧ body s' = .ok (sf, false) := by
  revert s sf
  induction f with
  | zero =>
    intro s sf
    exact ⟨fun h => (by cases h), fun ⟨n, hn, _⟩ => by omega⟩
  | succ f ih =>
    intro s sf
    -- the right-hand side, split on whether any iteration is made
    have hsplit : (∃ n, n < f + 1 ∧ ∃ s', loopIter body n s = some s' ∧ body s' = .ok (sf, false)) ↔
        body s = .ok (sf, false) ∨
        ∃ n, n < f ∧ ∃ s', loopIter body (n + 1) s = some s' ∧ body s' = .ok (sf, false) := by
      constructor
      · rintro ⟨n, hn, s', hi, hs⟩
        cases n with
        | zero => cases hi; exact Or.inl hs
        | succ n => exact Or.inr ⟨n, by omega, s', hi, hs⟩
      · rintro (hs | ⟨n, hn, s', hi, hs⟩)
        · exact ⟨0, by omega, s, rfl, hs⟩
        · exact ⟨n + 1, by omega, s', hi, hs⟩
    rw [hsplit]
    cases hb : body s with
    | error e =>
      rw [runWhile_err hb]
      simp only [loopIter, hb, reduceCtorEq, false_and, exists_false, and_false, or_self]
    | ok p =>
      obtain ⟨s1, c⟩ := p
      cases c with
      | false =>
        rw [runWhile_stop hb]
        simp only [loopIter, hb, reduceCtorEq, false_and, exists_false, and_false, or_false,
          Except.ok.injEq, Prod.mk.injEq, and_true]
      | true =>
        rw [runWhile_cont_none hb, ih]
        simp only [loopIter_cont hb, Except.ok.injEq, Prod.mk.injEq, Bool.true_eq_false, and_false,
          false_or]

theorem resume_error (body : σ → Res (σ × Bool)) (f f2 k : Nat) (s s1 : σ) (b1 : Option Nat)
    (e : Err) (h1 : runWhile body f (some k) s = .ok (s1, b1, .interrupted))
    (h2 : runWhile body f2 none s1 = .error e) :
    runWhile body (f + f2) none s = .error e :=
  runWhile_resume_gen body f2 _ (fun _ _ h => by cases h) f (some k) s s1 b1 h1 h2

theorem error_budget_irrelevant (body : σ → Res (σ × Bool)) (f : Nat) (b : Option Nat) (s : σ)
    (e : Err) (h : runWhile body f b s = .error e) : runWhile body f none s = .error e := by
  revert e h
  induction f, b, s using runWhile.induct body with
  | case1 b s => intro e h; cases h
  | case2 f b s e' hb => intro e h; rw [runWhile_err hb] at h ⊢; exact h
  | case3 f b s s1 hb => intro e h; rw [runWhile_stop hb] at h; cases h
  | case4 f s s1 hb ih => intro e h; exact h
  | case5 f s s1 hb => intro e h; rw [runWhile_cont_zero hb] at h; cases h
  | case6 f s s1 hb k ih =>
    intro e h
    rw [runWhile_cont_succ hb] at h; rw [runWhile_cont_none hb]; exact ih _ h

/-- a failing chunked schedule fails as the single run does, unless a call-local fuel bound was
    hit -/
theorem runCalls_error (body : σ → Res (σ × Bool)) (fuel : Nat) (ks : List Nat) (s : σ)
    (e : Err) (h : runCalls body fuel ks s = .error e) :
    runWhile body (fuel * ks.length) none s = .error e ∨ e = outOfGas := by
  revert s e h
  induction ks with
  | nil => intro s e h; cases h
  | cons k ks ih =>
    intro s e h
    rw [List.length_cons, Nat.mul_succ, Nat.add_comm]
    cases hr : runWhile body fuel (some k) s with
    | error e' =>
      rw [runCalls_cons_error hr] at h
      cases h
      exact Or.inl (runWhile_error_mono body fuel none s e
        (error_budget_irrelevant body fuel _ s e hr) _ (by omega))
    | ok q =>
      obtain ⟨s1, b1, st⟩ := q
      cases st with
      | completed => rw [runCalls_cons_completed hr] at h; cases h
      | interrupted =>
        rw [runCalls_cons_interrupted hr] at h
        exact (ih _ _ h).imp_left (resume_error body fuel _ k s s1 b1 e hr)
      | outOfFuel =>
        rw [runCalls_cons_outOfFuel hr] at h
        cases h
        exact Or.inr rfl

/-- a run that completes unbudgeted never fails when chunked -/
theorem chunked_no_error (body : σ → Res (σ × Bool)) (fuel : Nat) (ks : List Nat) (N : Nat)
    (s sf : σ) (h : runWhile body N none s = .ok (sf, none, .completed)) (hf : N ≤ fuel) :
    runCalls body fuel ks s = .ok (sf, true) ∨ ∃ s', runCalls body fuel ks s = .ok (s', false) :=
  runCalls_no_error body fuel ks N s sf h hf

/-! ### non-vacuity -/

/-- count up to 5, fail on 7 -/
def demo (n : Nat) : Res (Nat × Bool) :=
  if n = 7 then .error (.user "seven") else if n = 5 then .ok (n, false) else .ok (n + 1, true)

example : runWhile demo 7 none 0 = .ok (5, none, .completed) := rfl
example : runWhile demo 7 (some 1) 0 = .ok (2, some 0, .interrupted) := rfl
example : runWhile demo 7 none 2 = .ok (5, none, .completed) := rfl
example : runWhile demo 7 (some 9) 0 = .ok (5, some 4, .completed) := rfl
example : runCalls demo 7 [1, 0, 3] 0 = .ok (5, true) := rfl
example : runCalls demo 7 [0, 0, 0, 0, 0, 0] 0 = .ok (5, true) := rfl
example : runCalls demo 7 [0, 0] 0 = .ok (2, false) := rfl
example : loopIter demo 2 0 = some 2 := by decide
example : runWhile demo 3 (some 0) 6 = .ok (7, some 0, .interrupted) := rfl
example : runWhile demo 3 none 7 = .error (.user "seven") := rfl
example : runWhile demo 6 none 6 = .error (.user "seven") := rfl

end LP.Props.C04loop

#print axioms LP.Props.C04loop.fuel_mono
#print axioms LP.Props.C04loop.completed_budget_irrelevant
#print axioms LP.Props.C04loop.resume
#print axioms LP.Props.C04loop.runCalls_eq_single
#print axioms LP.Props.C04loop.runCalls_eq_single_fuel
#print axioms LP.Props.C04loop.runCalls_deterministic
#print axioms LP.Props.C04loop.interrupted_progress
#print axioms LP.Props.C04loop.completes_within
#print axioms LP.Props.C04loop.completes_within_iters
#print axioms LP.Props.C04loop.completed_iff_loopIter
#print axioms LP.Props.C04loop.resume_error
#print axioms LP.Props.C04loop.error_budget_irrelevant
#print axioms LP.Props.C04loop.runCalls_error
#print axioms LP.Props.C04loop.chunked_no_error
