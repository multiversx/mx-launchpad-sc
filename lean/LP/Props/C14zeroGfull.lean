import LP.Proofs.ZeroAllocNGFull
import LP.Props.C14zeroG
/-
  C14 / C01 / C02 / C03 / C11 / C12 for `Variant.nftGuar` (launchpad-nft-and-guaranteed-tickets)
  with no restriction on the allocation entries.

  `ng_ReachZ` / `ng_ReachZA` (LP/Proofs/ZeroAllocNG.lean) are `ng_Reach` / `ng_ReachA` without the
  premise `v1_CallOK c`: an `addTicketsV1` entry may be `(a, 0, 0, m)` for either value of the
  migration flag `m`; `EnvOK` is kept.  `m = true` gives a GHOST GUARANTEE: `a` is whitelisted, one
  ticket moves from `nrWinning` to `totalGuaranteed`, but `a` owns no ticket and can never confirm.
  Erasing the entry, which handles `m = false` (LP/Props/C14zeroG.lean), cannot simulate that.

  Method (`zk_` lemmas, LP/Proofs/ZeroAllocNGFull.lean, as for the v1 family in
  LP/Props/C01zeroV1.lean): `zk_Inv T0 s r` holds in every `ng_ReachZA` state (`simulation`).
    * Before the first `filter` call (`zk_PA`): the shadow `zv_sh s U BU N TG` — `s` with empty
      ranges / zero-size batches erased and the guarantee bookkeeping (whitelist, records, reserve)
      replaced by a guarantee-free one — satisfies `ng_WF` and takes real steps
      (`addTicketsV1 (zv_lst l)`: zero-size entries dropped, guarantees stripped; `blacklist`
      restricted to the holders of non-empty ranges, the NFT-fee refunds being the same); the
      reserve part is `GuarInvX s` (C12) on the real state plus
      `nrWinning + totalGuaranteed = T0`.
    * From the first `filter` call on: `s` is `ZSim`-related, with equal guarantee records (ghosts
      kept), to a state `z` satisfying `ng_WF`; `z` takes the same step as `s`, except that a claim
      by an empty-range address is matched by no step.
  With ghosts `z` is in general not an `ng_Reach` state (a whitelisted address without allocation
  history); the inductive invariant `ng_WF` is all the theorems of LP/Props/C14reachG.lean need.
  Not transferred (false here): the two clauses of `ng_nft_lists` on the `claimed` flags; not stated:
  `ng_claim_category`, `ng_three_counts_separate`.  "All ranges settled" becomes "all remaining ranges
  are empty": stale empty ranges of addresses that never claim remain.
-/
namespace LP.Props.C14zeroGfull
open LP LP.FY LP.Props.C09 LP.Props.C14 LP.Props.C01reach LP.Props.C14reach LP.Props.C14reachG
open LP.Props.C14zeroG

theorem simulation (hash : List Nat → List Nat) (a0 : InitArgs) (s : State) (r : Nat)
    (h : ng_ReachZA hash a0 s r) : zk_Inv a0.nrWinning s r :=
  zk_sim h

/-- before the first `filter` call the shadow (no empty range, no zero-size batch, no guarantee)
    is well formed; the C12 reserve invariant and reserve conservation hold on the real state -/
theorem simulation_before_filter (hash : List Nat → List Nat) (a0 : InitArgs) (s : State) (r : Nat)
    (h : ng_ReachZA hash a0 s r) (hns : s.flags.started = false) :
    (∃ U BU N TG, ng_WF a0.nrWinning (zv_sh s U BU N TG) r) ∧ GuarInvX s ∧
    s.nrWinning + s.totalGuaranteed = a0.nrWinning := by
  rcases zk_sim h with h1 | ⟨h1, _⟩
  · obtain ⟨U, BU, N, TG, hwf, _⟩ := h1.sh
    exact ⟨⟨U, BU, N, TG, hwf⟩, h1.gx, h1.sum⟩
  · rw [hns] at h1; cases h1

/-- from the first `filter` call on only empty ranges / zero-size batches are erased and the two
    address flags (`blacklist`, `claimed`) lie below those of `s`: every other field, the guarantee
    bookkeeping with its ghosts included, is equal -/
theorem simulation_after_filter (hash : List Nat → List Nat) (a0 : InitArgs) (s : State) (r : Nat)
    (h : ng_ReachZA hash a0 s r) (hst : s.flags.started = true) :
    ∃ z, ng_WF a0.nrWinning z r ∧ ZSim s z := by
  obtain ⟨z, hz, hsim, hu⟩ := zk_Inv_started (zk_sim h) hst
  refine ⟨z, hz, ?_, hsim.range, hsim.batch, hsim.bl, hsim.cl⟩
  have := hsim.rest
  rw [hu] at this
  exact this

theorem reach_is_reachZ (hash : List Nat → List Nat) (s : State) (r : Nat) (h : ng_Reach hash s r) :
    ng_ReachZ hash s r := h.toG.toZ

/-- the additional step cannot be complete before the lottery is -/
theorem additional_implies_selected_Z (hash : List Nat → List Nat) (s : State) (r : Nat)
    (h : ng_ReachZ hash s r) (ha : s.flags.additional = true) : s.flags.selected = true := by
  obtain ⟨a0, h⟩ := ng_ReachZ_iff.mp h
  exact (zk_Inv_done_of_add (zk_sim h) ha).1

/-! ### ticket-payment solvency and the fee ledger -/

/-- same statement as `ng_solvent_general` -/
theorem ng_solvent_general_Z (hash : List Nat → List Nat) (s : State) (r : Nat)
    (h : ng_ReachZ hash s r) :
    ∃ L : List Nat, Covers s L ∧
      (¬ AllDone s → s.bal s.payTok 0 = s.price * sumOver s.confirmed L + feeInPay s) ∧
      (AllDone s → s.bal s.payTok 0 = s.claimablePayment + sumOver (refundDue s) L + feeInPay s) := by
  obtain ⟨T0, hi⟩ := h.inv
  exact zk_Inv_solvent_general hi

theorem ng_solvent_separate_Z (hash : List Nat → List Nat) (s : State) (r : Nat)
    (h : ng_ReachZ hash s r) (hsep : FeeTokenSeparate s) :
    ∃ L : List Nat, Covers s L ∧ (¬ AllDone s → PayEqPre s L) ∧ (AllDone s → PayEqPost s L) := by
  obtain ⟨T0, hi⟩ := h.inv
  exact zk_Inv_solvent_separate hi hsep

theorem ng_fee_ledger_Z (hash : List Nat → List Nat) (s : State) (r : Nat)
    (h : ng_ReachZ hash s r) (hsep : FeeTokenSeparate s) : feeBal s = feeHeld s := by
  obtain ⟨T0, hi⟩ := h.inv
  exact zk_Inv_fee_ledger hi hsep

theorem ng_solvent_same_Z (hash : List Nat → List Nat) (s : State) (r : Nat)
    (h : ng_ReachZ hash s r) (hsame : FeeInPayToken s) :
    ∃ L : List Nat, Covers s L ∧ (¬ AllDone s → CombinedPre s L) ∧ (AllDone s → CombinedPost s L) := by
  obtain ⟨T0, hi⟩ := h.inv
  exact zk_Inv_solvent_same hi hsame

/-- after completion: the winners still held add up to `nrWinning`; nobody holds more winning than
    confirmed tickets; every range — empty or not — has exactly `confirmed` tickets, and the
    holders of NON-EMPTY ranges are in the covering list -/
theorem ng_three_counts_Z (hash : List Nat → List Nat) (s : State) (r : Nat)
    (h : ng_ReachZ hash s r) (hd : AllDone s) :
    ∃ L : List Nat, Covers s L ∧
      s.bal s.payTok 0 = s.claimablePayment + sumOver (refundDue s) L + feeInPay s ∧
      sumOver (winCountOf s) L = s.nrWinning ∧
      (∀ a, winCountOf s a ≤ s.confirmed a) ∧
      (∀ a rg, s.range a = some rg → rangeLen rg = s.confirmed a ∧ (rg.first ≤ rg.last → a ∈ L)) := by
  obtain ⟨T0, hi⟩ := h.inv
  exact zk_Inv_three_counts hi hd

/-- after completion the payment-token holdings cover the owner's proceeds, the ticket refund of
    ANY holder of a range (empty or not), and all NFT fees held in the same slot -/
theorem ng_claim_refund_covered_Z (hash : List Nat → List Nat) (s : State) (r : Nat)
    (h : ng_ReachZ hash s r) (hd : AllDone s) (a : Nat) (rg : Range) (hr : s.range a = some rg) :
    s.claimablePayment + s.price * (s.confirmed a - winCountOf s a) + feeInPay s
      ≤ s.bal s.payTok 0 := by
  obtain ⟨T0, hi⟩ := h.inv
  exact zk_Inv_refund_covered hi hd hr

/-! ### the completed additional step (conditional on the call having completed, as in
  LP/Props/C14reachG.lean: the v1 leftover loop may spin) -/

/-- **final ticket winners** (same statement as `ng_final_winners_partial`): the reserve tickets
    of the ghost guarantees are re-drawn as leftovers, nothing of the reserve is lost -/
theorem ng_final_winners_Z (hash : List Nat → List Nat) (a0 : InitArgs) (s : State) (r : Nat)
    (h : ng_ReachZA hash a0 s r) (e : Env) (s' : State) (o : Out) (hr : r ≤ e.round) (hok : EnvOK e)
    (hs : step hash s e .secondary = .ok (s', o)) (hret : o.ret = [0]) :
    AllDone s' ∧
    countTrue s'.status s'.lastTicketId = s'.nrWinning ∧
    s'.nrWinning = min a0.nrWinning s'.lastTicketId ∧
    s'.claimablePayment = s'.price * s'.nrWinning ∧
    (∀ t, s'.status t = true → 1 ≤ t ∧ t ≤ s'.lastTicketId) ∧
    (∀ t, s.status t = true → s'.status t = true) :=
  zk_Inv_final_winners (zk_sim h) hr hs hret

/-- **guarantees honoured** (same statement as `ng_guarantee_honoured`): for a ghost record
    `{0,0,0,1}` the bound is `min 1 0 = 0` -/
theorem ng_guarantee_honoured_Z (hash : List Nat → List Nat) (a0 : InitArgs) (s : State) (r : Nat)
    (h : ng_ReachZA hash a0 s r) (e : Env) (s' : State) (o : Out) (hr : r ≤ e.round) (hok : EnvOK e)
    (hs : step hash s e .secondary = .ok (s', o)) (hret : o.ret = [0]) :
    (∀ u st, s'.uts u = some st →
      min (calcV1 st (s'.confirmed u) s'.minConfirmed).1 (s'.confirmed u) ≤ winCountOf s' u) ∧
    (∀ t, s'.status t = true → 1 ≤ t ∧ t ≤ s'.lastTicketId) :=
  zk_Inv_guarantee_honoured (zk_sim h) hr hs hret

/-- **the NFT draw at completion** (same statement as `ng_draw_completion`) -/
theorem ng_draw_completion_Z (hash : List Nat → List Nat) (a0 : InitArgs) (s : State) (r : Nat)
    (h : ng_ReachZA hash a0 s r) (e : Env) (s' : State) (o : Out) (hr : r ≤ e.round) (hok : EnvOK e)
    (hs : step hash s e .secondary = .ok (s', o)) (hret : o.ret = [0]) :
    s'.nftWinners.length = min s.availNfts (s.payers.length + s.nftWinners.length) ∧
    s'.claimableNft = s.nftCost.amount * s'.nftWinners.length ∧
    NftOk s' ∧ (∀ a, (a ∈ s'.payers ∨ a ∈ s'.nftWinners) ↔ (a ∈ s.payers ∨ a ∈ s.nftWinners)) ∧
    s.nftWinners <+: s'.nftWinners ∧ AllDone s' :=
  zk_Inv_draw_completion (zk_sim h) hr hs hret

/-- an accepted `secondary` call returns `[0]` exactly when it completes the additional step -/
theorem ng_secondary_ret_Z (hash : List Nat → List Nat) (a0 : InitArgs) (s : State) (r : Nat)
    (h : ng_ReachZA hash a0 s r) (e : Env) (s' : State) (o : Out) (hr : r ≤ e.round) (hok : EnvOK e)
    (hs : step hash s e .secondary = .ok (s', o)) :
    (o.ret = [0] ∧ s'.flags.additional = true) ∨ (o.ret = [1] ∧ s'.flags.additional = false) :=
  (step_loop_outcome rfl hs).ret

/-- during the additional step the number of winning flags is between the stored winners and
    `min T0 lastTicketId`, and every flag lies in `1..lastTicketId` -/
theorem ng_winners_bound_Z (hash : List Nat → List Nat) (a0 : InitArgs) (s : State) (r : Nat)
    (h : ng_ReachZA hash a0 s r) (hsel : s.flags.selected = true) (hna : s.flags.additional = false) :
    s.nrWinning ≤ countTrue s.status s.lastTicketId ∧
    countTrue s.status s.lastTicketId ≤ min a0.nrWinning s.lastTicketId ∧
    (∀ t, s.status t = true → 1 ≤ t ∧ t ≤ s.lastTicketId) := by
  obtain ⟨z, hz, hsim, _⟩ := zk_Inv_selected (zk_sim h) hsel
  have hfl : z.flags = s.flags := hsim.fields.2.1
  have := ng_winners_bound hz (by rw [hfl]; exact hsel) (by rw [hfl]; exact hna)
  obtain ⟨R, B, K, C, U, rfl⟩ := hsim.shape'
  exact this

/-- the two NFT lists (the `claimed` clauses of `ng_nft_lists` fail: an empty-range address may
    have "claimed") -/
theorem ng_nft_lists_Z (hash : List Nat → List Nat) (s : State) (r : Nat)
    (h : ng_ReachZ hash s r) :
    NftOk s ∧ s.nftWinners.length ≤ s.availNfts ∧
    (∀ a, a ∈ s.payers ∨ a ∈ s.nftWinners → 0 < s.confirmed a) ∧
    (s.flags.selected = false → s.nftWinners = []) ∧
    (s.flags.additional = false → (∀ rg, s.op ≠ .additional (.nft rg)) → s.nftWinners = []) := by
  obtain ⟨T0, hi⟩ := h.inv
  exact zk_Inv_nft_lists hi

/-- until the guaranteed-ticket sub-step of `secondary` is complete nobody is drawn; hence a
    `secondary` call that starts the draw and completes it in the same call leaves exactly
    `min availNfts (number of fee payers)` winners, all of them fee payers (same statement as
    `ng_draw_from_start`) -/
theorem ng_draw_from_start_Z (hash : List Nat → List Nat) (a0 : InitArgs) (s : State) (r : Nat)
    (h : ng_ReachZA hash a0 s r) (hop : ∀ rg, s.op ≠ .additional (.nft rg)) (e : Env) (s' : State)
    (o : Out) (hr : r ≤ e.round) (hok : EnvOK e)
    (hs : step hash s e .secondary = .ok (s', o)) (hret : o.ret = [0]) :
    s.nftWinners = [] ∧
    s'.nftWinners.length = min s.availNfts s.payers.length ∧
    (∀ a, (a ∈ s'.payers ∨ a ∈ s'.nftWinners) ↔ a ∈ s.payers) ∧
    s'.payers.length + s'.nftWinners.length = s.payers.length := by
  have hna := (LP.Props.C06.additional_gate hash s e .secondary _ (Or.inr (Or.inr rfl)) hs).2.2
  obtain ⟨hok0, _, _, _, hnw⟩ := ng_nft_lists_Z hash s r (ng_ReachZ_iff.mpr ⟨a0, h⟩)
  have hw0 : s.nftWinners = [] := hnw hna hop
  obtain ⟨h1, _, h3, h4, _, _⟩ := ng_draw_completion_Z hash a0 s r h e s' o hr hok hs hret
  have hlen := ng_len_of_union (P := s.payers) (W := s.nftWinners) hok0.nodupP hok0.nodupW hok0.disj
    h3.nodupP h3.nodupW h3.disj h4
  rw [hw0] at h1 h4 hlen
  simp only [List.length_nil, Nat.add_zero, List.not_mem_nil, or_false] at h1 h4 hlen
  exact ⟨hw0, h1, h4, hlen⟩

/-- from the start of the filter until the additional step completes the NFT participants cannot
    change along any accepted calls: `payers ∪ nftWinners`, its size, the fee and `availNfts` are
    constant and already drawn participants stay drawn -/
theorem ng_participants_frozen_Z (hash : List Nat → List Nat) (a0 : InitArgs) (s : State) (r : Nat)
    (h : ng_ReachZA hash a0 s r) (hstd : s.flags.started = true) (s2 : State) (r2 : Nat)
    (hl : ng_LaterZ hash s r s2 r2) (hna : s2.flags.additional = false) :
    nf_Frozen s s2 :=
  ((zk_later_frozen h hstd hl).2 hna).1

/-- **the NFT draw end to end** (same statement as `ng_draw_end_to_end`): `s` is any reachable
    state after the filter has started and before the base lottery is complete.  After any accepted
    calls, the `secondary` call that returns `[0]` leaves exactly
    `min availNfts (number of fee payers)` NFT winners, all distinct, all fee payers; the others
    remain in `payers`; the owner's NFT proceeds are fee × winners -/
theorem ng_draw_end_to_end_Z (hash : List Nat → List Nat) (a0 : InitArgs) (s : State) (r : Nat)
    (h : ng_ReachZA hash a0 s r) (hstd : s.flags.started = true) (hns : s.flags.selected = false)
    (s1 : State) (r1 : Nat) (hl : ng_LaterZ hash s r s1 r1)
    (e : Env) (s2 : State) (o : Out) (hr1 : r1 ≤ e.round) (hok : EnvOK e)
    (hs : step hash s1 e .secondary = .ok (s2, o)) (hret : o.ret = [0]) :
    s2.nftWinners.length = min s.availNfts s.payers.length ∧
    s2.claimableNft = s.nftCost.amount * s2.nftWinners.length ∧
    s2.nftWinners.Nodup ∧ s2.payers.Nodup ∧ (∀ a, a ∈ s2.payers → a ∉ s2.nftWinners) ∧
    (∀ a, (a ∈ s2.payers ∨ a ∈ s2.nftWinners) ↔ a ∈ s.payers) ∧
    s2.payers.length + s2.nftWinners.length = s.payers.length := by
  obtain ⟨hr1', hfz⟩ := zk_later_frozen h hstd hl
  have hw0 : s.nftWinners = [] :=
    (ng_nft_lists_Z hash s r (ng_ReachZ_iff.mpr ⟨a0, h⟩)).2.2.2.1 hns
  have hna1 := (LP.Props.C06.additional_gate hash s1 e .secondary _ (Or.inr (Or.inr rfl)) hs).2.2
  obtain ⟨hF, _⟩ := hfz hna1
  obtain ⟨hok1, _⟩ := ng_nft_lists_Z hash s1 r1 (ng_ReachZ_iff.mpr ⟨a0, hr1'⟩)
  obtain ⟨f1, f2, hok2, hun2, _, _⟩ := ng_draw_completion_Z hash a0 s1 r1 hr1' e s2 o hr1 hok hs hret
  have hlen2 := ng_len_of_union (P := s1.payers) (W := s1.nftWinners) hok1.nodupP hok1.nodupW
    hok1.disj hok2.nodupP hok2.nodupW hok2.disj hun2
  have hlen : s1.payers.length + s1.nftWinners.length = s.payers.length := by
    rw [hF.len, hw0]; simp
  refine ⟨by rw [f1, hF.avail, hlen], by rw [f2, hF.cost], hok2.nodupW, hok2.nodupP, hok2.disj, ?_,
    by rw [hlen2, hlen]⟩
  intro a
  rw [hun2 a, hF.mem a, hw0]
  simp

/-- after completion, once every holder of a NON-EMPTY range has settled, nobody has confirmed
    tickets, hence both NFT lists are empty -/
theorem ng_all_settled_lists_empty_Z (hash : List Nat → List Nat) (s : State) (r : Nat)
    (h : ng_ReachZ hash s r) (hd : AllDone s)
    (hall : ∀ a rg, s.range a = some rg → rg.last < rg.first) :
    (∀ a, s.confirmed a = 0) ∧ s.payers = [] ∧ s.nftWinners = [] := by
  obtain ⟨_, _, hconf, _⟩ := ng_nft_lists_Z hash s r h
  obtain ⟨a0, h0⟩ := ng_ReachZ_iff.mp h
  obtain ⟨z, hz, hsim, _⟩ := zk_Inv_selected (zk_sim h0) hd.1
  have hdz : AllDone z := (allDone_iff hsim).mpr hd
  have hcf : z.confirmed = s.confirmed := hsim.fields.2.2.2.2.1
  have hzc : ∀ a, s.confirmed a = 0 := by
    intro a
    rw [← hcf]
    apply (ng_phase_D hz.phase hdz.2).rngNone a
    show z.range a = none
    rw [hsim.range]
    cases hra : s.range a with
    | none => exact z_eraseR_of_none hra
    | some rg => exact z_eraseR_of_empty hra (by have := hall a rg hra; omega)
  refine ⟨hzc, ?_, ?_⟩
  · cases hp : s.payers with
    | nil => rfl
    | cons a rest =>
      have := hconf a (Or.inl (by rw [hp]; simp))
      rw [hzc a] at this; cases this
  · cases hp : s.nftWinners with
    | nil => rfl
    | cons a rest =>
      have := hconf a (Or.inr (by rw [hp]; simp))
      rw [hzc a] at this; cases this

/-- **nothing is left** (cf. `ng_nothing_left_separate`, `ng_nothing_left_same`): after all claims
    of the holders of non-empty ranges and the owner's withdrawal the payment-token slot is empty,
    and with a separate fee token so is the fee slot -/
theorem ng_nothing_left_Z (hash : List Nat → List Nat) (s : State) (r : Nat)
    (h : ng_ReachZ hash s r) (hd : AllDone s)
    (hall : ∀ a rg, s.range a = some rg → rg.last < rg.first)
    (hcp : s.claimablePayment = 0) (hcn : s.claimableNft = 0) :
    s.bal s.payTok 0 = 0 ∧ (FeeTokenSeparate s → feeBal s = 0) := by
  obtain ⟨hzc, hp, _⟩ := ng_all_settled_lists_empty_Z hash s r h hd hall
  have hheld : feeHeld s = 0 := by
    unfold feeHeld
    rw [hd.2, hcn, hp]; simp
  obtain ⟨L, _, _, h3⟩ := ng_solvent_general_Z hash s r h
  have hfee : feeInPay s = 0 := by
    unfold feeInPay
    split
    · exact hheld
    · rfl
  have hsum : sumOver (refundDue s) L = 0 := by
    apply sumOver_zero
    intro a _
    unfold refundDue
    cases s.range a with
    | none => rfl
    | some rg => simp [hzc a]
  refine ⟨by rw [h3 hd, hcp, hsum, hfee], fun hsep => ?_⟩
  rw [ng_fee_ledger_Z hash s r h hsep]
  exact hheld

/-! ### the launchpad-token side and the reserve -/

/-- same statement as `ng_lp_cover`: until the guaranteed-ticket sub-step is complete the
    launchpad tokens cover the whole reserve, ghost guarantees included -/
theorem ng_lp_cover_Z (hash : List Nat → List Nat) (s : State) (r : Nat)
    (h : ng_ReachZ hash s r) (hd : s.deposited = true) (hnl : ¬ FeeInLpToken s) :
    LP.Props.C02.LpCover s ∧
    (s.flags.additional = false → (∀ rg, s.op ≠ .additional (.nft rg)) →
      s.perTicket * (s.nrWinning + s.totalGuaranteed) ≤ s.bal (.esdt s.lpTok) 0) := by
  obtain ⟨T0, hi⟩ := h.inv
  exact zk_Inv_lp_cover hi hd hnl

/-- same statement as `ng_reserve`: `nrWinning + totalGuaranteed` is the configured number of
    winners until the filter completes — ghost guarantees included — and at most that afterwards -/
theorem ng_reserve_Z (hash : List Nat → List Nat) (a0 : InitArgs) (s : State) (r : Nat)
    (h : ng_ReachZA hash a0 s r) :
    (s.flags.filtered = false → s.nrWinning + s.totalGuaranteed = a0.nrWinning) ∧
    (s.flags.additional = false → (∀ rg, s.op ≠ .additional (.nft rg)) →
      s.nrWinning + s.totalGuaranteed ≤ a0.nrWinning) ∧
    (s.flags.additional = false → s.nrWinning ≤ a0.nrWinning) :=
  zk_Inv_reserve_bounds (zk_sim h)

/-- until the first `secondary` call is accepted the whitelist is exactly the set of holders of a
    positive guarantee — a ghost `{0,0,0,1}` IS whitelisted -/
theorem ng_whitelisted_iff_Z (hash : List Nat → List Nat) (s : State) (r : Nat)
    (h : ng_ReachZ hash s r) (hna : s.flags.additional = false)
    (hop : s.flags.selected = true → s.op = .none) (u : Nat) :
    u ∈ s.whitelist ↔ ∃ st, s.uts u = some st ∧ st.c + st.d > 0 := by
  obtain ⟨T0, hi⟩ := h.inv
  exact zk_Inv_whitelist hi hna hop u

/-- the owner can withdraw only the surplus (same statement as `ng_owner_surplus_reach`) -/
theorem ng_owner_surplus_Z (hash : List Nat → List Nat) (s : State) (r : Nat)
    (h : ng_ReachZ hash s r) (hnl : ¬ FeeInLpToken s) (e : Env) (s' : State) (o : Out)
    (hr : r ≤ e.round) (hok : EnvOK e)
    (hs : step hash s e .claimPayment = .ok (s', o)) :
    s'.bal (.esdt s'.lpTok) 0 = s'.perTicket * s'.nrWinning ∧ s'.nrWinning = s.nrWinning ∧
    s'.claimablePayment = 0 ∧ s'.claimableNft = 0 := by
  obtain ⟨T0, hi⟩ := h.inv
  exact zk_Inv_owner_surplus hi hnl hs

/-- all steps complete and every holder of a non-empty range settled (stale empty ranges may
    remain: they hold nothing): the owner's accepted `claimPayment` leaves no launchpad token -/
theorem ng_lp_zero_at_end_Z (hash : List Nat → List Nat) (s : State) (r : Nat)
    (h : ng_ReachZ hash s r) (hnl : ¬ FeeInLpToken s) (hd : AllDone s)
    (hall : ∀ a rg, s.range a = some rg → rg.last < rg.first)
    (e : Env) (s' : State) (o : Out) (hr : r ≤ e.round) (hok : EnvOK e)
    (hs : step hash s e .claimPayment = .ok (s', o)) :
    s.nrWinning = 0 ∧ s'.bal (.esdt s'.lpTok) 0 = 0 := by
  obtain ⟨T0, hi⟩ := h.inv
  exact zk_Inv_lp_zero_at_end hi hnl hd hall hs

/-! ### addresses with an empty range (ghost or not) -/

/-- their accepted claim pays nothing and moves no balance: only the caller's `claimed` flag, its
    stale range and the batch slot at the range's first id change; the "not confirmed" SFT
    (category 3) is handed out -/
theorem empty_range_claim_Z (hash : List Nat → List Nat) (s : State)
    (r : Nat) (h : ng_ReachZ hash s r) (e : Env) (s' : State) (o : Out) (rg : Range)
    (hr : r ≤ e.round) (hok : EnvOK e)
    (hrg : s.range e.caller = some rg) (he : rg.last < rg.first)
    (hs : step hash s e .claim = .ok (s', o)) :
    s' = zc_w s (upd s.range e.caller none) (upd s.batch rg.first none) s.blacklist
          (upd s.claimed e.caller true) s.uts ∧ s'.bal = s.bal ∧ s'.nrWinning = s.nrWinning ∧
    o.xfers = [] ∧ o.sfts = [(e.caller, 3)] ∧ o.locks = [] := by
  obtain ⟨T0, hi⟩ := h.inv
  exact zk_Inv_empty_range_claim hi hrg he hs

/-- **claims never starve**: in the claim stage, a claim without call value by any address that
    holds a range — empty or not, ghost or not — and has not claimed is accepted, provided the SFT
    collection is set up, the launchpad tokens were deposited, the fee is not kept in the
    launchpad-token slot and — only for a fee payer that was not drawn (category 2) — the contract
    still holds his fee in the fee-token slot after his ticket settlement -/
theorem claim_never_starves_Z (hash : List Nat → List Nat) (s : State) (r : Nat)
    (h : ng_ReachZ hash s r) (e : Env) (rg : Range)
    (he1 : e.egld = 0) (he2 : e.esdts = []) (hst : s.stage e = .claim)
    (hcl : s.claimed e.caller = false) (hrg : s.range e.caller = some rg)
    (hsft : s.sftToken = true) (hdep : s.deposited = true) (hnl : ¬ FeeInLpToken s)
    (hfee : nftCategory s e.caller = 2 →
      s.nftCost.amount ≤ (balAfterClaim s e.caller) s.nftCost.tok s.nftCost.nonce) :
    ∃ x, step hash s e .claim = .ok x := by
  obtain ⟨T0, hi⟩ := h.inv
  exact zk_Inv_claim_accepted hi he1 he2 hst hcl hrg hsft hdep hnl hfee

/-! ### non-vacuity: the history `m1 … m12` of LP/Props/C14zeroG.lean (allocation
  `[(5, 0, 0, true), (7, 2, 1, false), (8, 1, 0, false), (9, 0, 2, false)]`, `T0 = 3`: address 5 is
  a ghost), extended by the ghost's claim `m13` -/

def m13 : State := stOf (step id m12 { caller := 5, round := 15 } .claim) m12

theorem m10_reachZ : ng_ReachZA id gArgs m10 11 :=
  callOkZ _ _ m6_reachZ (by decide) (Or.inl rfl) m10_ok

theorem m11_reachZ : ng_ReachZA id gArgs m11 12 :=
  callOkZ _ _ m10_reachZ (by decide) (Or.inl rfl) m11_ok

theorem m13_ok : isOk (step id m12 { caller := 5, round := 15 } .claim) = true := by decide +kernel

theorem m13_reachZ : ng_ReachZA id gArgs m13 15 :=
  callOkZ _ _ m12_reachZ (by decide) (Or.inl rfl) m13_ok

/-- the ghost in `m6` (before the filter): empty range, whitelisted, record `{0,0,0,1}`, one
    reserve ticket moved -/
example : m6.range 5 = some ⟨1, 0⟩ ∧ m6.whitelist = [5, 7, 8] ∧
    m6.uts 5 = some { a := 0, b := 0, c := 0, d := 1 } ∧ m6.nrWinning = 0 ∧ m6.totalGuaranteed = 3 ∧
    m6.flags.started = false := by
  decide +kernel

example : (∃ U BU N TG, ng_WF 3 (zv_sh m6 U BU N TG) 6) ∧ GuarInvX m6 ∧
    m6.nrWinning + m6.totalGuaranteed = 3 :=
  simulation_before_filter id gArgs m6 6 m6_reachZ (by decide +kernel)

/-- after the filter the ghost is still whitelisted -/
example : m10.whitelist = [5, 7, 8] ∧ ∃ z, ng_WF 3 z 11 ∧ ZSim m10 z :=
  ⟨by decide +kernel, simulation_after_filter id gArgs m10 11 m10_reachZ (by decide +kernel)⟩

example : 5 ∈ m6.whitelist :=
  (ng_whitelisted_iff_Z id m6 6 (ng_ReachZ_iff.mpr ⟨_, m6_reachZ⟩) (by decide +kernel)
    (fun h => absurd h (by decide +kernel)) 5).mpr ⟨{ a := 0, b := 0, c := 0, d := 1 }, by decide +kernel⟩

example : ∃ L : List Nat, Covers m12 L ∧ CombinedPost m12 L :=
  let ⟨L, k1, _, k3⟩ := ng_solvent_same_Z id m12 13 (ng_ReachZ_iff.mpr ⟨_, m12_reachZ⟩)
    (by decide +kernel)
  ⟨L, k1, k3 (by unfold AllDone; decide +kernel)⟩

/-- the completing `secondary` call `m11 → m12`: three winners `= min 3 5` although `nrWinning`
    was `0` after the filter (the ghost's reserve ticket is re-drawn), every guarantee honoured -/
example : ∃ s' o, step id m11 { caller := 9, round := 13 } .secondary = .ok (s', o) ∧
    o.ret = [0] ∧ s'.nrWinning = min gArgs.nrWinning s'.lastTicketId ∧ s'.nrWinning = 3 ∧
    (∀ u st, s'.uts u = some st →
      min (calcV1 st (s'.confirmed u) s'.minConfirmed).1 (s'.confirmed u) ≤ winCountOf s' u) := by
  obtain ⟨o, hs, hret⟩ := step_ret (x := step id m11 { caller := 9, round := 13 } .secondary)
    (l := [0]) m11 (by decide +kernel)
  exact ⟨m12, o, hs, hret,
    (ng_final_winners_Z id gArgs m11 12 m11_reachZ
      { caller := 9, round := 13 } m12 o (by decide) (Or.inl rfl) hs hret).2.2.1,
    by decide +kernel,
    (ng_guarantee_honoured_Z id gArgs m11 12 m11_reachZ
      { caller := 9, round := 13 } m12 o (by decide) (Or.inl rfl) hs hret).1⟩

example : ∃ x, step id m12 { caller := 5, round := 15 } .claim = .ok x :=
  claim_never_starves_Z id m12 13 (ng_ReachZ_iff.mpr ⟨_, m12_reachZ⟩) { caller := 5, round := 15 }
    ⟨1, 0⟩ rfl rfl (by decide +kernel) (by decide +kernel) (by decide +kernel) (by decide +kernel)
    (by decide +kernel) (by decide +kernel) (by decide +kernel)

example : m13 = zc_w m12 (upd m12.range 5 none) (upd m12.batch 1 none) m12.blacklist
    (upd m12.claimed 5 true) m12.uts :=
  (empty_range_claim_Z id m12 13 (ng_ReachZ_iff.mpr ⟨_, m12_reachZ⟩) { caller := 5, round := 15 }
    m13 _ ⟨1, 0⟩ (by decide) (Or.inl rfl) (by decide +kernel) (by decide)
    (step_stOf m13_ok m12).choose_spec).1

/-- from `m10` (filter complete) through `select` to the completing `secondary` call; nobody paid
    the NFT fee in this history, so nobody is drawn -/
example : m12.nftWinners.length = min m10.availNfts m10.payers.length ∧
    m12.payers.length + m12.nftWinners.length = m10.payers.length := by
  have hl : ng_LaterZ id m10 11 m11 12 :=
    .call m10 11 { caller := 9, round := 12 } .select m11 _ .refl (by decide) (Or.inl rfl)
      (step_stOf m11_ok m10).choose_spec
  obtain ⟨o, ho'⟩ := step_stOf m12_ok m11
  have hret : o.ret = [0] := by
    rcases ng_secondary_ret_Z id gArgs m11 12 m11_reachZ _ m12 o (by decide) (Or.inl rfl) ho' with
      ⟨h1, _⟩ | ⟨_, h2⟩
    · exact h1
    · have : m12.flags.additional = true := by decide +kernel
      rw [this] at h2; cases h2
  obtain ⟨k1, _, _, _, _, _, k7⟩ := ng_draw_end_to_end_Z id gArgs m10 11 m10_reachZ (by decide +kernel)
    (by decide +kernel) m11 12 hl
    { caller := 9, round := 13 } m12 o (by decide) (Or.inl rfl) ho' hret
  exact ⟨k1, k7⟩

/-- the ghost blacklisted before the filter: its reserve ticket goes back to `nrWinning`,
    `1 + 2 = 3` -/
def mb : State := stOf (step id m6 { caller := 1, round := 8 } (.blacklist [5])) m6

theorem mb_reachZ : ng_ReachZA id gArgs mb 8 :=
  callOkZ { caller := 1, round := 8 } (.blacklist [5]) m6_reachZ (by decide) (Or.inl rfl) (by decide +kernel)

example : mb.blacklist 5 = true ∧ mb.whitelist = [8, 7] ∧ mb.nrWinning = 1 ∧ mb.totalGuaranteed = 2 ∧
    mb.range 5 = some ⟨1, 0⟩ := by
  decide +kernel

example : mb.nrWinning + mb.totalGuaranteed = gArgs.nrWinning :=
  (ng_reserve_Z id gArgs mb 8 mb_reachZ).1 (by decide +kernel)

end LP.Props.C14zeroGfull

#print axioms LP.Props.C14zeroGfull.simulation
#print axioms LP.Props.C14zeroGfull.simulation_before_filter
#print axioms LP.Props.C14zeroGfull.simulation_after_filter
#print axioms LP.Props.C14zeroGfull.reach_is_reachZ
#print axioms LP.Props.C14zeroGfull.additional_implies_selected_Z
#print axioms LP.Props.C14zeroGfull.ng_solvent_general_Z
#print axioms LP.Props.C14zeroGfull.ng_solvent_separate_Z
#print axioms LP.Props.C14zeroGfull.ng_fee_ledger_Z
#print axioms LP.Props.C14zeroGfull.ng_solvent_same_Z
#print axioms LP.Props.C14zeroGfull.ng_three_counts_Z
#print axioms LP.Props.C14zeroGfull.ng_claim_refund_covered_Z
#print axioms LP.Props.C14zeroGfull.ng_all_settled_lists_empty_Z
#print axioms LP.Props.C14zeroGfull.ng_nothing_left_Z
#print axioms LP.Props.C14zeroGfull.ng_final_winners_Z
#print axioms LP.Props.C14zeroGfull.ng_guarantee_honoured_Z
#print axioms LP.Props.C14zeroGfull.ng_draw_completion_Z
#print axioms LP.Props.C14zeroGfull.ng_secondary_ret_Z
#print axioms LP.Props.C14zeroGfull.ng_winners_bound_Z
#print axioms LP.Props.C14zeroGfull.ng_nft_lists_Z
#print axioms LP.Props.C14zeroGfull.ng_draw_from_start_Z
#print axioms LP.Props.C14zeroGfull.ng_participants_frozen_Z
#print axioms LP.Props.C14zeroGfull.ng_draw_end_to_end_Z
#print axioms LP.Props.C14zeroGfull.ng_lp_cover_Z
#print axioms LP.Props.C14zeroGfull.ng_reserve_Z
#print axioms LP.Props.C14zeroGfull.ng_whitelisted_iff_Z
#print axioms LP.Props.C14zeroGfull.ng_owner_surplus_Z
#print axioms LP.Props.C14zeroGfull.ng_lp_zero_at_end_Z
#print axioms LP.Props.C14zeroGfull.empty_range_claim_Z
#print axioms LP.Props.C14zeroGfull.claim_never_starves_Z
#print axioms LP.Props.C14zeroGfull.m10_reachZ
#print axioms LP.Props.C14zeroGfull.m11_reachZ
#print axioms LP.Props.C14zeroGfull.m13_reachZ
#print axioms LP.Props.C14zeroGfull.mb_reachZ
