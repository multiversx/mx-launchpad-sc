import LP.Proofs.Recipients
import LP.Proofs.ReachOfVest
import LP.Props.C10reach
import LP.Props.C02reach
/-
  C09 "an account without surviving tickets can obtain nothing", C10 "a blacklisted participant
  can claim nothing", C01 "nobody receives more than owed" — the RECIPIENTS FRAME: who can be the
  addressee of anything a transaction sends out (direct transfers `o.xfers`, SFT hand-outs `o.sfts`,
  lock calls `o.locks`).  The one-call statements hold in ANY state of any of the eight variants;
  the history statements start from a reachable state (or any state with the filter completed) in
  which winner selection has started.

  Which hypotheses on the address `a` are needed.  "Has not claimed" and "not in the NFT payer /
  winner lists" are NOT: a `claim` (the only endpoint that hands out SFTs / NFT-fee refunds) needs
  an allocation record unless the variant is a vesting one and the caller has settled — and then it
  only releases `userTotal`-based amounts, so `userTotal a = 0` suffices; the NFT refunds of
  `blacklist` go to listed users, who must have a record.  What cannot be dropped: `a ≠ owner` (the
  owner receives the proceeds), `a ≠ lockAddr` in the locking variants (the lock contract receives
  the locked share of every claim), `userTotal a = 0` in the vesting variants.
-/
namespace LP.Props.C09nothing
open LP LP.Events LP.Props.C17

abbrev Covered := be_Covered
abbrev HistOK := be_HistOK

/-! ## who can receive anything from one transaction -/

/-- **recipients of one transaction** — any state, any variant, no reachability: a transfer goes
    to the caller (`claim`; `claimPayment`, whose caller is the owner), to a listed user of
    `blacklist` / `refundUsers` who has an allocation record and was not blacklisted, or to the lock
    contract (`claim` of a locking variant); SFTs and lock destinations: the caller of a `claim`. -/
theorem xfers_recipients (hash : List Nat → List Nat) (s : State) (e : Env) (c : Call) (s' : State)
    (o : Out) (h : step hash s e c = .ok (s', o)) :
    (∀ p ∈ o.xfers,
      (p.1 = e.caller ∧ (c = .claim ∨ (c = .claimPayment ∧ e.caller = s.owner))) ∨
      (∃ l, (c = .blacklist l ∨ c = .refundUsers l) ∧ p.1 ∈ l ∧
        (s.range p.1).isSome = true ∧ s.blacklist p.1 = false) ∨
      (p.1 = s.lockAddr ∧ s.variant.hasLock = true ∧ c = .claim)) ∧
    (∀ p ∈ o.sfts, p.1 = e.caller ∧ c = .claim ∧ s.variant.hasNft = true) ∧
    (∀ p ∈ o.locks, p.2.1 = e.caller ∧ c = .claim ∧ s.variant.hasLock = true) := by
  obtain ⟨h1, h2, h3⟩ := step_recipients h
  refine ⟨?_, ?_, ?_⟩
  · intro p hp
    have hx := h1 p hp
    cases c <;> try exact hx.elim
    case claim =>
      rcases hx with hx | ⟨hx, hk⟩
      · exact Or.inl ⟨hx, Or.inl rfl⟩
      · exact Or.inr (Or.inr ⟨hx, hk, rfl⟩)
    case claimPayment => exact Or.inl ⟨hx, Or.inr ⟨rfl, step_claimPayment_owner h⟩⟩
    case blacklist l => exact Or.inr (Or.inl ⟨l, Or.inl rfl, hx⟩)
    case refundUsers l => exact Or.inr (Or.inl ⟨l, Or.inr rfl, hx⟩)
  · intro p hp
    have hx := h2 p hp
    cases c <;> try exact hx.elim
    case claim => exact ⟨hx.1, rfl, hx.2⟩
  · intro p hp
    have hx := h3 p hp
    cases c <;> try exact hx.elim
    case claim => exact ⟨hx.1, rfl, hx.2⟩

/-- only `claim`, `claimPayment`, `blacklist` and `refundUsers` can move anything out of the
    contract -/
theorem only_four_endpoints_pay (hash : List Nat → List Nat) (s : State) (e : Env) (c : Call)
    (s' : State) (o : Out) (h : step hash s e c = .ok (s', o))
    (hc : c ≠ .claim ∧ c ≠ .claimPayment ∧ (∀ l, c ≠ .blacklist l) ∧ (∀ l, c ≠ .refundUsers l)) :
    o.xfers = [] ∧ o.sfts = [] ∧ o.locks = [] := by
  refine step_quiet h ?_
  obtain ⟨c1, c2, c3, c4⟩ := hc
  cases c <;>
    first
      | rfl
      | exact absurd rfl c1
      | exact absurd rfl c2
      | exact absurd rfl (c3 _)
      | exact absurd rfl (c4 _)

/-- SFTs are handed out only by a `claim` of an NFT variant (nft, nftGuar), to the caller. -/
theorem sfts_only_nft_claim (hash : List Nat → List Nat) (s : State) (e : Env) (c : Call)
    (s' : State) (o : Out) (h : step hash s e c = .ok (s', o))
    (hc : c ≠ .claim ∨ s.variant.hasNft = false) : o.sfts = [] := by
  apply List.eq_nil_iff_forall_not_mem.mpr
  intro p hp
  obtain ⟨_, h1, h2⟩ := (xfers_recipients hash s e c s' o h).2.1 p hp
  rcases hc with hc | hc
  · exact hc h1
  · rw [hc] at h2; cases h2

/-- lock calls are made only by a `claim` of a locking variant (locked, lockedGuar), for the caller. -/
theorem locks_only_locked_claim (hash : List Nat → List Nat) (s : State) (e : Env) (c : Call)
    (s' : State) (o : Out) (h : step hash s e c = .ok (s', o))
    (hc : c ≠ .claim ∨ s.variant.hasLock = false) : o.locks = [] := by
  apply List.eq_nil_iff_forall_not_mem.mpr
  intro p hp
  obtain ⟨_, h1, h2⟩ := (xfers_recipients hash s e c s' o h).2.2 p hp
  rcases hc with hc | hc
  · exact hc h1
  · rw [hc] at h2; cases h2

/-- `refundUsers` exists only in guarV2. -/
theorem refundUsers_only_v2 (hash : List Nat → List Nat) (s : State) (e : Env) (l : List Nat)
    (s' : State) (o : Out) (h : step hash s e (.refundUsers l) = .ok (s', o)) :
    s.variant = .guarV2 := by
  have hx : s.variant.isV2 = true := step_exposed h
  cases hv : s.variant <;> first | rfl | (rw [hv] at hx; cases hx)

/-! ## the proceeds go to the owner only -/

/-- **`claimPayment`**: accepted only from the owner; every transfer goes to the owner; no SFT, no
    lock call. -/
theorem owner_only_proceeds (hash : List Nat → List Nat) (s : State) (e : Env) (s' : State) (o : Out)
    (h : step hash s e .claimPayment = .ok (s', o)) :
    e.caller = s.owner ∧ (∀ p ∈ o.xfers, p.1 = s.owner) ∧ o.sfts = [] ∧ o.locks = [] := by
  have ho := step_claimPayment_owner h
  refine ⟨ho, ?_, sfts_only_nft_claim hash s e _ s' o h (Or.inl nofun),
    locks_only_locked_claim hash s e _ s' o h (Or.inl nofun)⟩
  intro p hp
  have hx : p.1 = e.caller := (step_recipients h).1 p hp
  exact hx.trans ho

/-! ## an account without surviving tickets obtains nothing -/

/-- **one call, ANY state of ANY variant.**  If `a` has no allocation record, is not the owner, is
    not the lock contract (locking variants) and has no vesting record (vesting variants), then
    nothing an accepted call — by anybody, of any endpoint — sends out is addressed to `a`. -/
theorem out_of_sale_obtains_nothing (hash : List Nat → List Nat) (s : State) (a : Nat)
    (hr : s.range a = none) (ho : a ≠ s.owner)
    (hl : s.variant.hasLock = true → a ≠ s.lockAddr)
    (hv : s.variant.vested = true → s.userTotal a = 0)
    (e : Env) (c : Call) (s' : State) (o : Out) (h : step hash s e c = .ok (s', o)) :
    (∀ p ∈ o.xfers, p.1 ≠ a) ∧ (∀ p ∈ o.sfts, p.1 ≠ a) ∧ (∀ p ∈ o.locks, p.2.1 ≠ a) :=
  (rc_Out.mk hr ho hl hv).nothing h

/-- **permanence, ANY state of ANY variant with a valid timeline.**  An accepted call at a round
    `≥ sel` keeps such an address out of the sale, provided the filter has completed or no batch
    record names `a` (in reachable states the latter follows from `range a = none`:
    `rc_bo_covered`). -/
theorem out_of_sale_is_permanent (hash : List Nat → List Nat) (s : State) (a : Nat)
    (hvp : validPeriods s.cfg = true)
    (hr : s.range a = none) (ho : a ≠ s.owner)
    (hl : s.variant.hasLock = true → a ≠ s.lockAddr)
    (hv : s.variant.vested = true → s.userTotal a = 0)
    (hb : s.flags.filtered = true ∨ ∀ id b, s.batch id = some b → b.addr ≠ a)
    (e : Env) (c : Call) (s' : State) (o : Out) (hsel : s.cfg.sel ≤ e.round)
    (h : step hash s e c = .ok (s', o)) :
    s'.range a = none ∧ a ≠ s'.owner ∧ (s'.variant.hasLock = true → a ≠ s'.lockAddr) ∧
    (s'.variant.vested = true → s'.userTotal a = 0) ∧
    (s'.flags.filtered = true ∨ ∀ id b, s'.batch id = some b → b.addr ≠ a) := by
  have := (rc_Gone.mk (rc_Out.mk hr ho hl hv) hb).step hvp hsel h
  exact ⟨this.out.range, this.out.owner, this.out.lock, this.out.vest, this.batch⟩

/-- **C09, history level, all eight contracts.**  `s` reachable, winner selection has started,
    `a` has no allocation record, is not the owner, not the lock contract, has no vesting record.
    Then in EVERY later state `s1` of ANY history (`P` arbitrary) EVERY accepted call, by ANYBODY (no
    side condition on `e`, `c`), sends nothing to `a` — no transfer, no SFT, no lock call — and `a`
    is still out of the sale in `s1`. -/
theorem nothing_ever (P : Env → Call → Prop) (hash : List Nat → List Nat) (s : State) (r : Nat)
    (h : Covered hash s r) (hsel : s.cfg.sel ≤ r) (a : Nat)
    (hr : s.range a = none) (ho : a ≠ s.owner)
    (hl : s.variant.hasLock = true → a ≠ s.lockAddr)
    (hv : s.variant.vested = true → s.userTotal a = 0)
    (s1 : State) (r1 : Nat) (hlat : be_Later P hash s r s1 r1) :
    s1.range a = none ∧
    ∀ (e : Env) (c : Call) (s2 : State) (o : Out), step hash s1 e c = .ok (s2, o) →
      (∀ p ∈ o.xfers, p.1 ≠ a) ∧ (∀ p ∈ o.sfts, p.1 ≠ a) ∧ (∀ p ∈ o.locks, p.2.1 ≠ a) := by
  have hvp := ((be_family_all hash).good h).valid
  have hg := (rc_gone_later hvp hsel ((rc_Out.mk hr ho hl hv).gone h) hlat).1
  exact ⟨hg.out.range, fun e c s2 o hst => hg.out.nothing hst⟩

/-- **the `run` form**: rejected transactions allowed, no side conditions on the transactions.
    Applied to the prefixes of a history this covers every transaction of the history. -/
theorem nothing_ever_run (hash : List Nat → List Nat) (s : State) (r : Nat)
    (h : Covered hash s r) (hsel : s.cfg.sel ≤ r) (a : Nat)
    (hr : s.range a = none) (ho : a ≠ s.owner)
    (hl : s.variant.hasLock = true → a ≠ s.lockAddr)
    (hv : s.variant.vested = true → s.userTotal a = 0)
    (p : Hist) (hp : RoundsFrom r p) :
    (run hash s p).range a = none ∧
    ∀ (e : Env) (c : Call) (s2 : State) (o : Out), step hash (run hash s p) e c = .ok (s2, o) →
      (∀ q ∈ o.xfers, q.1 ≠ a) ∧ (∀ q ∈ o.sfts, q.1 ≠ a) ∧ (∀ q ∈ o.locks, q.2.1 ≠ a) := by
  obtain ⟨r', hlat, _⟩ := be_later_run (P := fun _ _ => True) hash p s r hp (fun _ _ => trivial)
  exact nothing_ever _ hash s r h hsel a hr ho hl hv _ r' hlat

/-- **once the filter has completed — ANY state of ANY variant** (not necessarily reachable; valid
    timeline, selection start reached): the same conclusion. -/
theorem nothing_ever_after_filter (P : Env → Call → Prop) (hash : List Nat → List Nat) (s : State)
    (r : Nat) (hvp : validPeriods s.cfg = true) (hsel : s.cfg.sel ≤ r)
    (hf : s.flags.filtered = true) (a : Nat)
    (hr : s.range a = none) (ho : a ≠ s.owner)
    (hl : s.variant.hasLock = true → a ≠ s.lockAddr)
    (hv : s.variant.vested = true → s.userTotal a = 0)
    (s1 : State) (r1 : Nat) (hlat : be_Later P hash s r s1 r1) :
    s1.range a = none ∧
    ∀ (e : Env) (c : Call) (s2 : State) (o : Out), step hash s1 e c = .ok (s2, o) →
      (∀ p ∈ o.xfers, p.1 ≠ a) ∧ (∀ p ∈ o.sfts, p.1 ≠ a) ∧ (∀ p ∈ o.locks, p.2.1 ≠ a) := by
  have hg := (rc_gone_later hvp hsel (rc_Gone.mk (rc_Out.mk hr ho hl hv) (Or.inl hf)) hlat).1
  exact ⟨hg.out.range, fun e c s2 o hst => hg.out.nothing hst⟩

theorem nothing_ever_after_filter_run (hash : List Nat → List Nat) (s : State)
    (r : Nat) (hvp : validPeriods s.cfg = true) (hsel : s.cfg.sel ≤ r)
    (hf : s.flags.filtered = true) (a : Nat)
    (hr : s.range a = none) (ho : a ≠ s.owner)
    (hl : s.variant.hasLock = true → a ≠ s.lockAddr)
    (hv : s.variant.vested = true → s.userTotal a = 0)
    (p : Hist) (hp : RoundsFrom r p) :
    (run hash s p).range a = none ∧
    ∀ (e : Env) (c : Call) (s2 : State) (o : Out), step hash (run hash s p) e c = .ok (s2, o) →
      (∀ q ∈ o.xfers, q.1 ≠ a) ∧ (∀ q ∈ o.sfts, q.1 ≠ a) ∧ (∀ q ∈ o.locks, q.2.1 ≠ a) := by
  obtain ⟨r', hlat, _⟩ := be_later_run (P := fun _ _ => True) hash p s r hp (fun _ _ => trivial)
  exact nothing_ever_after_filter _ hash s r hvp hsel hf a hr ho hl hv _ r' hlat

/-- **"has not claimed" in place of "no vesting record"**: in a reachable state of a vesting
    variant an unsettled participant has no vesting record (`Vest.unsettled`) -/
theorem nothing_ever_unclaimed (P : Env → Call → Prop) (hash : List Nat → List Nat) (s : State)
    (r : Nat) (h : Covered hash s r) (hsel : s.cfg.sel ≤ r) (a : Nat)
    (hr : s.range a = none) (hc : s.claimed a = false) (ho : a ≠ s.owner)
    (hl : s.variant.hasLock = true → a ≠ s.lockAddr)
    (s1 : State) (r1 : Nat) (hlat : be_Later P hash s r s1 r1) :
    s1.range a = none ∧
    ∀ (e : Env) (c : Call) (s2 : State) (o : Out), step hash s1 e c = .ok (s2, o) →
      (∀ p ∈ o.xfers, p.1 ≠ a) ∧ (∀ p ∈ o.sfts, p.1 ≠ a) ∧ (∀ p ∈ o.locks, p.2.1 ≠ a) :=
  nothing_ever P hash s r h hsel a hr ho hl (fun hv => ((h.reachOf.vest hv).unsettled a hc).1) s1 r1 hlat

/-- **from deployment, in terms of `init`, `run`, `step` only.**  Deploy any of the eight
    launchpads, run any history `h1` (rounds non-decreasing, transactions satisfying `HistOK`), then
    any history `h2` all of whose transactions happen at or after the selection start round (no side
    conditions on them).  If after `h1` the address `a` has no allocation record, has not claimed, is
    not the owner and not the lock contract, then after `h2` every accepted call by anybody sends
    nothing to `a`. -/
theorem nothing_ever_from_deployment (hash : List Nat → List Nat) (v : Variant) (args : InitArgs)
    (e0 : Env) (s0 : State) (hi : init v args e0 = .ok s0) (h1 h2 : Hist)
    (hr : RoundsFrom e0.round (h1 ++ h2)) (hp : ∀ x ∈ h1, HistOK x.1 x.2) (a : Nat)
    (hra : (run hash s0 h1).range a = none) (hc : (run hash s0 h1).claimed a = false)
    (ho : a ≠ (run hash s0 h1).owner)
    (hl : (run hash s0 h1).variant.hasLock = true → a ≠ (run hash s0 h1).lockAddr)
    (hsel : ∀ x ∈ h2, (run hash s0 h1).cfg.sel ≤ x.1.round) :
    (run hash s0 (h1 ++ h2)).range a = none ∧
    ∀ (e : Env) (c : Call) (s2 : State) (o : Out),
      step hash (run hash s0 (h1 ++ h2)) e c = .ok (s2, o) →
      (∀ p ∈ o.xfers, p.1 ≠ a) ∧ (∀ p ∈ o.sfts, p.1 ≠ a) ∧ (∀ p ∈ o.locks, p.2.1 ≠ a) := by
  obtain ⟨r', hcov, hq⟩ := be_covered_run (be_covered_init (hash := hash) hi) h1
    (RoundsFrom.append_left hr) hp
  have hr2 : RoundsFrom r' h2 := hq h2 hr
  have hcov' : Covered hash (run hash s0 h1) (max r' (run hash s0 h1).cfg.sel) :=
    (be_family_all hash).wait hcov (Nat.le_max_left _ _)
  have hr2' := rc_roundsFrom_max hr2 hsel
  obtain ⟨r'', hlat, _⟩ := be_later_run (P := fun _ _ => True) hash h2 (run hash s0 h1) _ hr2'
    (fun _ _ => trivial)
  rw [run_append]
  exact nothing_ever_unclaimed _ hash _ _ hcov' (Nat.le_max_right _ _) a hra hc ho hl _ r'' hlat

/-! ## C10: a blacklisted participant receives nothing -/

/-- **every reachable state**: an accepted call by ANYBODY sends nothing to a blacklisted
    participant `a` (not the owner, not the lock contract) — whatever the stage, whether or not `a`
    still has an allocation record (before the filter it has one, with nothing confirmed). -/
theorem blacklisted_receives_nothing (hash : List Nat → List Nat) (s : State) (r : Nat)
    (h : Covered hash s r) (a : Nat) (hb : s.blacklist a = true) (ho : a ≠ s.owner)
    (hl : s.variant.hasLock = true → a ≠ s.lockAddr)
    (e : Env) (c : Call) (s' : State) (o : Out) (hst : step hash s e c = .ok (s', o)) :
    (∀ p ∈ o.xfers, p.1 ≠ a) ∧ (∀ p ∈ o.sfts, p.1 ≠ a) ∧ (∀ p ∈ o.locks, p.2.1 ≠ a) :=
  rc_blacklisted_nothing ((be_family_all hash).good h) hb ho hl hst

/-- **C10, history level.**  `a` blacklisted in a reachable state in which winner selection has
    started: in EVERY later state of ANY history every accepted call by ANYBODY sends nothing to
    `a`, who is still blacklisted and holds no ticket. -/
theorem blacklisted_receives_nothing_ever (hash : List Nat → List Nat) (s : State) (r : Nat)
    (h : Covered hash s r) (a : Nat) (hb : s.blacklist a = true) (hsel : s.cfg.sel ≤ r)
    (ho : a ≠ s.owner) (hl : s.variant.hasLock = true → a ≠ s.lockAddr)
    (s1 : State) (r1 : Nat) (hlat : be_Later HistOK hash s r s1 r1) :
    s1.blacklist a = true ∧ s1.confirmed a = 0 ∧ (s1.flags.filtered = true → s1.range a = none) ∧
    ∀ (e : Env) (c : Call) (s2 : State) (o : Out), step hash s1 e c = .ok (s2, o) →
      (∀ p ∈ o.xfers, p.1 ≠ a) ∧ (∀ p ∈ o.sfts, p.1 ≠ a) ∧ (∀ p ∈ o.locks, p.2.1 ≠ a) := by
  have hb1 : s1.blacklist a = true := by
    rw [(C10reach.blacklist_frozen_from_selection HistOK hash s r
      ((be_family_all hash).good h).valid hsel s1 r1 hlat).1]; exact hb
  have hc1 := (be_family_all hash).later h hlat
  obtain ⟨k1, _, _, k4⟩ := C10reach.blacklisted_holds_no_ticket hash s1 r1 hc1 a hb1
  exact ⟨hb1, k1, k4, fun e c s2 o hst => rc_blacklisted_nothing_later h hb hsel ho hl hlat hst⟩

theorem blacklisted_receives_nothing_run (hash : List Nat → List Nat) (s : State) (r : Nat)
    (h : Covered hash s r) (a : Nat) (hb : s.blacklist a = true) (hsel : s.cfg.sel ≤ r)
    (ho : a ≠ s.owner) (hl : s.variant.hasLock = true → a ≠ s.lockAddr)
    (p : Hist) (hr : RoundsFrom r p) (hp : ∀ x ∈ p, HistOK x.1 x.2) :
    (run hash s p).blacklist a = true ∧
    ∀ (e : Env) (c : Call) (s2 : State) (o : Out), step hash (run hash s p) e c = .ok (s2, o) →
      (∀ q ∈ o.xfers, q.1 ≠ a) ∧ (∀ q ∈ o.sfts, q.1 ≠ a) ∧ (∀ q ∈ o.locks, q.2.1 ≠ a) := by
  obtain ⟨r', hlat, _⟩ := be_later_run (P := HistOK) hash p s r hr hp
  have := blacklisted_receives_nothing_ever hash s r h a hb hsel ho hl _ r' hlat
  exact ⟨this.1, this.2.2.2⟩

/-! ## non-vacuity -/

open LP.Props.C10reach in
/-- base launchpad, state `be_x7` of C10reach (round 11: filtered and selected; 7 was blacklisted
    and filtered out, 8 owns the winning ticket, 9 was never allocated, 1 is the owner) -/
example : be_x7.cfg.sel ≤ 11 ∧ be_x7.range 7 = none ∧ be_x7.range 9 = none ∧ be_x7.owner = 1 ∧
    be_x7.variant.hasLock = false ∧ be_x7.variant.vested = false ∧ be_x7.range 8 = some ⟨1, 1⟩ ∧
    be_x7.flags.filtered = true := by
  decide +kernel

open LP.Props.C10reach in
/-- whatever happens after `be_x7`, along ANY continuation `p`, nothing is ever sent to 7 -/
example (p : Hist) (hp : RoundsFrom 11 p) (e : Env) (c : Call) (s2 : State) (o : Out)
    (h : step id (run id be_x7 p) e c = .ok (s2, o)) : ∀ q ∈ o.xfers, q.1 ≠ 7 :=
  ((nothing_ever_run id be_x7 11 (.plain (Or.inl rfl) be_x7_reach) (by decide +kernel) 7
    (by decide +kernel) (by decide +kernel) (by decide +kernel) (by decide +kernel) p hp).2 e c s2 o h).1

open LP.Props.C10reach in
/-- nor to the never-allocated 9; the winner 8 does receive (the conclusion is not true of
    everybody): 8's claim at round 15 pays 8 -/
example : (∀ (p : Hist), RoundsFrom 11 p → ∀ e c s2 o, step id (run id be_x7 p) e c = .ok (s2, o) →
      (∀ q ∈ o.xfers, q.1 ≠ 9) ∧ (∀ q ∈ o.sfts, q.1 ≠ 9) ∧ (∀ q ∈ o.locks, q.2.1 ≠ 9)) ∧
    (be_outOf (step id be_x7 { caller := 8, round := 15 } .claim)).xfers = [(8, ⟨.esdt 1, 0, 5⟩)] :=
  ⟨fun p hp => (nothing_ever_run id be_x7 11 (.plain (Or.inl rfl) be_x7_reach) (by decide +kernel) 9
      (by decide +kernel) (by decide +kernel) (by decide +kernel) (by decide +kernel) p hp).2,
    by decide +kernel⟩

open LP.Props.C10reach in
/-- the same state through the reachability-free theorem (`filtered = true`) -/
example (s1 : State) (r1 : Nat) (hl : be_Later HistOK id be_x7 11 s1 r1) : s1.range 7 = none :=
  (nothing_ever_after_filter HistOK id be_x7 11 (by decide +kernel) (by decide +kernel)
    (by decide +kernel) 7 (by decide +kernel) (by decide +kernel) (by decide +kernel)
    (by decide +kernel) s1 r1 hl).1

/-- locked launchpad, state `l5` of C02reach (round 11, lottery done; participant 8 confirmed
    nothing and was filtered out; lock contract 77): the claim of 7 pays 7 AND the lock contract —
    `a ≠ lockAddr` cannot be dropped — and nothing goes to 8 -/
example : LP.PL.l5.range 8 = none ∧ LP.PL.l5.lockAddr = 77 ∧ LP.PL.l5.variant.hasLock = true ∧
    (C10reach.be_outOf (step id LP.PL.l5 { caller := 7, round := 15, epoch := 3 } .claim)).xfers
      = [(77, ⟨.esdt 1, 0, 500⟩), (7, ⟨.esdt 1, 0, 1500⟩)] := by
  decide +kernel

example (p : Hist) (hp : RoundsFrom 11 p) (e : Env) (c : Call) (s2 : State) (o : Out)
    (h : step id (run id LP.PL.l5 p) e c = .ok (s2, o)) :
    (∀ q ∈ o.xfers, q.1 ≠ 8) ∧ (∀ q ∈ o.sfts, q.1 ≠ 8) ∧ (∀ q ∈ o.locks, q.2.1 ≠ 8) :=
  (nothing_ever_run id LP.PL.l5 11 (.plain (Or.inr rfl) (Reach_iff.mpr ⟨_, LP.PL.l5_reachA⟩))
    (by decide +kernel) 8 (by decide +kernel) (by decide +kernel) (by decide +kernel)
    (by decide +kernel) p hp).2 e c s2 o h

open LP.Props.C10reach in
/-- guarV2 (vesting), state `be_g10` of C10reach (round 12, distribution complete; 7 was
    blacklisted and filtered out and has no vesting record) -/
example : be_g10.range 7 = none ∧ be_g10.userTotal 7 = 0 ∧ be_g10.variant.vested = true ∧
    be_g10.owner = 1 ∧ be_g10.cfg.sel ≤ 12 := by
  decide +kernel

open LP.Props.C10reach in
example (p : Hist) (hp : RoundsFrom 12 p) (e : Env) (c : Call) (s2 : State) (o : Out)
    (h : step id (run id be_g10 p) e c = .ok (s2, o)) :
    (∀ q ∈ o.xfers, q.1 ≠ 7) ∧ (∀ q ∈ o.sfts, q.1 ≠ 7) ∧ (∀ q ∈ o.locks, q.2.1 ≠ 7) :=
  (nothing_ever_run id be_g10 12 (.guarV2 be_g10_reach) (by decide +kernel) 7 (by decide +kernel)
    (by decide +kernel) (by decide +kernel) (by decide +kernel) p hp).2 e c s2 o h

open LP.Props.C10reach in
/-- in `be_x5` (seen at the selection start, round 10) participant 7 is blacklisted and STILL has
    the record `[1, 2]` (the filter has not run): `nothing_ever` does not apply, the blacklist
    corollary does -/
example : be_x5.blacklist 7 = true ∧ be_x5.range 7 = some ⟨1, 2⟩ ∧
    (∀ e c s2 o, step id be_x7 e c = .ok (s2, o) →
      (∀ q ∈ o.xfers, q.1 ≠ 7) ∧ (∀ q ∈ o.sfts, q.1 ≠ 7) ∧ (∀ q ∈ o.locks, q.2.1 ≠ 7)) :=
  ⟨by decide +kernel, by decide +kernel, (blacklisted_receives_nothing_ever id be_x5 10
    (.plain (Or.inl rfl) (.wait _ 7 10 be_x5_reach (by decide))) 7 (by decide +kernel)
    (by decide +kernel) (by decide +kernel) (by decide +kernel) be_x7 11 be_x5_later_x7).2.2.2⟩

open LP.Props.C10reach in
/-- the blacklisting itself (`be_x4 → be_x5`) DID pay 7: the refund of 20 EGLD to a listed user -/
example : (be_outOf (step id be_x4 { caller := 1, round := 7 } (.blacklist [7]))).xfers
    = [(7, ⟨.egld, 0, 20⟩)] := by decide +kernel

/-- locked launchpad: `l6 → l7` pays the owner 1 only -/
example : ∃ o, step id LP.PL.l6 { caller := 1, round := 16, epoch := 3 } .claimPayment = .ok (LP.PL.l7, o) ∧
    (∀ p ∈ o.xfers, p.1 = 1) ∧ o.sfts = [] ∧ o.locks = [] := by
  obtain ⟨o, ho'⟩ := LP.Props.C01reach.stOf_spec LP.PL.l7_ok LP.PL.l6
  obtain ⟨h1, h2⟩ := owner_only_proceeds id _ _ _ o ho'
  rw [← h1] at h2
  exact ⟨o, ho', h2⟩

end LP.Props.C09nothing

#print axioms LP.Props.C09nothing.xfers_recipients
#print axioms LP.Props.C09nothing.only_four_endpoints_pay
#print axioms LP.Props.C09nothing.sfts_only_nft_claim
#print axioms LP.Props.C09nothing.locks_only_locked_claim
#print axioms LP.Props.C09nothing.refundUsers_only_v2
#print axioms LP.Props.C09nothing.owner_only_proceeds
#print axioms LP.Props.C09nothing.out_of_sale_obtains_nothing
#print axioms LP.Props.C09nothing.out_of_sale_is_permanent
#print axioms LP.Props.C09nothing.nothing_ever
#print axioms LP.Props.C09nothing.nothing_ever_run
#print axioms LP.Props.C09nothing.nothing_ever_after_filter
#print axioms LP.Props.C09nothing.nothing_ever_after_filter_run
#print axioms LP.Props.C09nothing.nothing_ever_unclaimed
#print axioms LP.Props.C09nothing.nothing_ever_from_deployment
#print axioms LP.Props.C09nothing.blacklisted_receives_nothing
#print axioms LP.Props.C09nothing.blacklisted_receives_nothing_ever
#print axioms LP.Props.C09nothing.blacklisted_receives_nothing_run
