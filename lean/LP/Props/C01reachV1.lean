import LP.Proofs.ReachV1Final
import LP.Proofs.ReachOf
import LP.Proofs.ReachOfLp
import LP.Props.C01reach
/-
  C01 / C02 / C03 / C11 on the reachable states of the v1 guaranteed-ticket launchpads with the
  common claim path: `Variant.migration` (launchpad-migration-guaranteed-tickets) and
  `Variant.lockedGuar` (launchpad-locked-tokens-and-guaranteed-tickets; `v1_Fam v`).  Prefix `v1_`
  = this family.

  `v1_Reach hash v s r` (LP/Proofs/ReachV1Final.lean): `s` is reached by the launchpad `v` from
  some deployment by accepted transactions with non-decreasing rounds, `r` = round of the latest
  one, or later (`wait`).  Every transaction carries EGLD or ESDT, not both (`EnvOK`), and every
  entry of an `addTicketsV1` call allocates at least one ticket, `1 ≤ staking + energy`
  (`v1_CallOK`): a zero-size entry `(a, 0, 0, m)` creates the empty range `[f, f-1]` and a batch
  slot that the next allocation overwrites; histories with such entries: LP/Props/C01zeroV1.lean.
  `filter`, `select` and `distribute` may be interrupted by any iteration budget, any number of
  times, in either loop of `distribute`; draws may be scripted.  What holds of every contract is
  quoted from LP/Proofs/ReachOf.lean through `ReachOf.of_v1`; the rest is read off the invariant
  `v1_WF` of reachable states (`v1_reach_WF`, LP/Proofs/ReachV1Final.lean).
-/
namespace LP.Props.C01reachV1
open LP LP.FY LP.Props.AllVariants

/-- **C01 for the v1 guaranteed-ticket launchpads on the common claim path**: in every reachable
    state — including the middle of interrupted `filter` / `select` / `distribute` calls — the
    contract holds, in the ticket-payment token, exactly the full payment of every confirmed
    ticket until ALL selection steps (lottery and distribution) are complete, and afterwards
    exactly the owner's not-yet-withdrawn proceeds plus `price × (confirmed − winning)` for every
    participant who has not settled -/
theorem C01_solvent_v1 (hash : List Nat → List Nat) (v : Variant) (hv : v1_Fam v) (s : State)
    (r : Nat) (h : v1_Reach hash v s r) :
    ∃ L : List Nat, Covers s L ∧ (¬ AllDone s → PayEqPre s L) ∧ (AllDone s → PayEqPost s L) :=
  (ReachOf.of_v1 hv h).solvent (nftFees_noNft (v1_fam_flags hv).2.1)

/-- **C01, launchpad-migration-guaranteed-tickets** -/
theorem C01_solvent_migration (hash : List Nat → List Nat) (s : State) (r : Nat)
    (h : v1_Reach hash .migration s r) :
    ∃ L : List Nat, Covers s L ∧ (¬ AllDone s → PayEqPre s L) ∧ (AllDone s → PayEqPost s L) :=
  C01_solvent_v1 hash .migration (Or.inl rfl) s r h

/-- **C01, launchpad-locked-tokens-and-guaranteed-tickets** -/
theorem C01_solvent_lockedGuar (hash : List Nat → List Nat) (s : State) (r : Nat)
    (h : v1_Reach hash .lockedGuar s r) :
    ∃ L : List Nat, Covers s L ∧ (¬ AllDone s → PayEqPre s L) ∧ (AllDone s → PayEqPost s L) :=
  C01_solvent_v1 hash .lockedGuar (Or.inr rfl) s r h

/-- after completion: the winning tickets still held add up to `nrWinning`; nobody holds more
    winning than confirmed tickets; a range has exactly `confirmed` tickets -/
theorem three_counts_v1 (hash : List Nat → List Nat) (v : Variant) (hv : v1_Fam v) (s : State)
    (r : Nat) (h : v1_Reach hash v s r) (hd : AllDone s) :
    ∃ L : List Nat, Covers s L ∧ PayEqPost s L ∧ sumOver (winCountOf s) L = s.nrWinning ∧
      (∀ a, winCountOf s a ≤ s.confirmed a) ∧
      (∀ a rg, s.range a = some rg → a ∈ L ∧ rangeLen rg = s.confirmed a) :=
  (ReachOf.of_v1 hv h).three_counts hd (nftFees_noNft (v1_fam_flags hv).2.1)

/-- a participant's refund and the owner's proceeds are covered together -/
theorem claim_refund_covered_v1 (hash : List Nat → List Nat) (v : Variant) (hv : v1_Fam v)
    (s : State) (r : Nat) (h : v1_Reach hash v s r) (hd : AllDone s) (a : Nat) (rg : Range)
    (hr : s.range a = some rg) :
    s.claimablePayment + s.price * (s.confirmed a - winCountOf s a) ≤ s.bal s.payTok 0 :=
  (ReachOf.of_v1 hv h).refund_covered hd hr (nftFees_noNft (v1_fam_flags hv).2.1)

/-- once every participant has settled and the owner has withdrawn, no payment token is left -/
theorem all_settled_nothing_left_v1 (hash : List Nat → List Nat) (v : Variant) (hv : v1_Fam v)
    (s : State) (r : Nat) (h : v1_Reach hash v s r) (hd : AllDone s)
    (hall : ∀ a, s.range a = none) (hcp : s.claimablePayment = 0) : s.bal s.payTok 0 = 0 :=
  (ReachOf.of_v1 hv h).nothing_left hd hall hcp (nftFees_noNft (v1_fam_flags hv).2.1)

/-! ### the final number of winners

  NOT A THEOREM: "every `distribute` call sequence completes".  The v1 leftover loop re-draws
  without consuming a position when it hits an already winning ticket, so for adversarial draw
  streams it spins until the fuel/gas runs out (`C03_leftover_v1_may_spin`, LP/Props/C03final.lean);
  such a call is rejected and leaves no trace.  Hence the statement is conditional on the call
  having completed — which is exactly what an accepted call with `ret = [0]` is. -/

/-- **C03, final winner count (v1)**; `_partial` = conditional on completion, i.e. on the accepted
    `distribute` call returning `[0]` (whatever interruptions happened before): both completion
    flags are set, the number of winning flags equals the stored `nrWinning`, which is
    `min (configured winners) (confirmed tickets)` — the v1 leftover loop stops only when the
    reserve is used up or all tickets win —, the owner's proceeds are `price × nrWinning`, every
    flag lies in `1..lastTicketId`, and no winner of the lottery / an earlier call lost its flag -/
theorem final_winners_v1_partial (hash : List Nat → List Nat) (v : Variant) (hv : v1_Fam v)
    (a0 : InitArgs) (s : State) (r : Nat) (h : v1_ReachA hash v a0 s r) (e : Env) (s' : State)
    (o : Out) (hs : step hash s e .distribute = .ok (s', o)) (hret : o.ret = [0]) :
    AllDone s' ∧
    countTrue s'.status s'.lastTicketId = s'.nrWinning ∧
    s'.nrWinning ≤ min a0.nrWinning s'.lastTicketId ∧
    s'.nrWinning = min a0.nrWinning s'.lastTicketId ∧
    s'.claimablePayment = s'.price * s'.nrWinning ∧
    (∀ t, s'.status t = true → 1 ≤ t ∧ t ≤ s'.lastTicketId) ∧
    (∀ t, s.status t = true → s'.status t = true) := by
  obtain ⟨h1, h2, _, _, h5, h6, h7, h8, h9, _⟩ :=
    v1_distribute_completion (v1_reach_WF hv h).toInv hs hret
  exact ⟨⟨h1, h2⟩, h5, by omega, h6, h7, h8, h9⟩

/-- during the distribution (lottery complete, distribution not): the number of winning flags is
    between the lottery winners and `min T0 lastTicketId` -/
theorem winners_bound_v1 (hash : List Nat → List Nat) (v : Variant) (hv : v1_Fam v) (a0 : InitArgs)
    (s : State) (r : Nat) (h : v1_ReachA hash v a0 s r) (hsel : s.flags.selected = true)
    (hna : s.flags.additional = false) :
    s.nrWinning ≤ countTrue s.status s.lastTicketId ∧
    countTrue s.status s.lastTicketId ≤ min a0.nrWinning s.lastTicketId ∧
    (∀ t, s.status t = true → 1 ≤ t ∧ t ≤ s.lastTicketId) :=
  v1_phase_winners_bound (v1_reach_WF hv h).phase hsel hna

/-- after completion the recorded proceeds and the price are frozen until the owner withdraws -/
theorem proceeds_until_withdrawal_v1 (hash : List Nat → List Nat) (v : Variant) (hv : v1_Fam v)
    (s : State) (r : Nat) (h : v1_Reach hash v s r) (hd : AllDone s) (e : Env) (c : Call)
    (s' : State) (o : Out) (hr : r ≤ e.round) (hs : step hash s e c = .ok (s', o)) :
    s'.price = s.price ∧ AllDone s' ∧
    (s'.claimablePayment = s.claimablePayment ∨ (c = .claimPayment ∧ s'.claimablePayment = 0)) :=
  (ReachOf.of_v1 hv h).proceeds hd hr hs

/-- `s2` (at round `r2`) is reached from `s` (at round `r`) by accepted `v1_CallOK` calls none of
    which is the owner's withdrawal `claimPayment`, and by the passing of time -/
inductive Later (hash : List Nat → List Nat) (s : State) (r : Nat) : State → Nat → Prop
  | refl : Later hash s r s r
  | call (s1 : State) (r1 : Nat) (e : Env) (c : Call) (s2 : State) (o : Out) :
      Later hash s r s1 r1 → r1 ≤ e.round → EnvOK e → v1_CallOK c → c ≠ .claimPayment →
      step hash s1 e c = .ok (s2, o) → Later hash s r s2 e.round
  | wait (s1 : State) (r1 r2 : Nat) : Later hash s r s1 r1 → r1 ≤ r2 → Later hash s r s1 r2

theorem later_iff_be {hash : List Nat → List Nat} {s s2 : State} {r r2 : Nat} :
    Later hash s r s2 r2 ↔
      be_Later (fun e c => EnvOK e ∧ v1_CallOK c ∧ c ≠ .claimPayment) hash s r s2 r2 := by
  constructor <;> intro h
  · induction h with
    | refl => exact .refl
    | call s1 r1 e c s2 o _ h1 h2 h3 h4 h5 ih => exact .call s1 r1 e c s2 o ih h1 ⟨h2, h3, h4⟩ h5
    | wait s1 r1 r2 _ h1 ih => exact .wait s1 r1 r2 ih h1
  · induction h with
    | refl => exact .refl
    | call s1 r1 e c s2 o _ h1 h2 h3 ih => exact .call s1 r1 e c s2 o ih h1 h2.1 h2.2.1 h2.2.2 h3
    | wait s1 r1 r2 _ h1 ih => exact .wait s1 r1 r2 ih h1

/-- **until the owner has withdrawn, `claimablePayment = price × (winners at completion)`**: `s'`
    is the state in which the distribution completed (`ret = [0]`), whatever participants claim
    afterwards -/
theorem proceeds_are_price_times_winners_v1 (hash : List Nat → List Nat) (v : Variant)
    (hv : v1_Fam v) (a0 : InitArgs) (s : State) (r : Nat) (h : v1_ReachA hash v a0 s r) (e : Env)
    (s' : State) (o : Out) (hr : r ≤ e.round) (hok : EnvOK e)
    (hs : step hash s e .distribute = .ok (s', o)) (hret : o.ret = [0])
    (s2 : State) (r2 : Nat) (hl : Later hash s' e.round s2 r2) :
    v1_Reach hash v s2 r2 ∧ AllDone s2 ∧
    s2.claimablePayment = s2.price * countTrue s'.status s'.lastTicketId ∧
    countTrue s'.status s'.lastTicketId = min a0.nrWinning s'.lastTicketId := by
  obtain ⟨hd, h1, _, h2, h3, _, _⟩ := final_winners_v1_partial hash v hv a0 s r h e s' o hs hret
  have hreach' : v1_Reach hash v s' e.round :=
    v1_Reach_iff.mpr ⟨a0, .call s r e .distribute s' o h hr hok trivial hs⟩
  have key : v1_Reach hash v s2 r2 ∧ AllDone s2 ∧ s2.price = s'.price ∧
      s2.claimablePayment = s'.claimablePayment := by
    rcases hv with rfl | rfl
    · exact ReachOf.proceeds_constant (v := .migration) hreach' hd (fun _ _ hp => hp) (later_iff_be.mp hl)
    · exact ReachOf.proceeds_constant (v := .lockedGuar) hreach' hd (fun _ _ hp => hp) (later_iff_be.mp hl)
  obtain ⟨k1, k2, k3, k4⟩ := key
  exact ⟨k1, k2, by rw [k4, k3, h3, h1], by rw [h1, h2]⟩

/-- after an interrupted `distribute` call the ledger equation of the selection phase still holds
    (`C01_solvent_v1` at the successor) -/
theorem interrupted_distribute_keeps_pre (hash : List Nat → List Nat) (v : Variant) (hv : v1_Fam v)
    (s : State) (r : Nat) (h : v1_Reach hash v s r) (e : Env) (s' : State) (o : Out)
    (hr : r ≤ e.round) (hok : EnvOK e)
    (hs : step hash s e .distribute = .ok (s', o)) (hnd : ¬ AllDone s') :
    ∃ L : List Nat, Covers s' L ∧ PayEqPre s' L := by
  have h' : v1_Reach hash v s' e.round := .call s r e .distribute s' o h hr hok trivial hs
  obtain ⟨L, h1, h2, _⟩ := C01_solvent_v1 hash v hv s' e.round h'
  exact ⟨L, h1, h2 hnd⟩

/-- until the first `distribute` call is accepted (`additional = false`, and `op = none` once the
    lottery is complete) the whitelist is exactly the set of holders of a positive guarantee -/
theorem whitelisted_iff_v1 (hash : List Nat → List Nat) (v : Variant) (hv : v1_Fam v) (s : State)
    (r : Nat) (h : v1_Reach hash v s r) (hna : s.flags.additional = false)
    (hop : s.flags.selected = true → s.op = .none) (u : Nat) :
    u ∈ s.whitelist ↔ ∃ st, s.uts u = some st ∧ st.c + st.d > 0 := by
  obtain ⟨T0, hwf⟩ := h.wf hv
  exact v1_phase_whitelist_intact hwf.phase hna hop u

/-- **C11, guarantees honoured (v1)**: when the distribution completes, every holder `u` of a
    guarantee record `st` (in particular every user whitelisted when the distribution started:
    by `whitelisted_iff_v1` those are exactly the holders of a record with `c + d > 0`, and
    `distribute` writes neither `uts` nor `confirmed`) owns at least
    `min (qualified guarantee) (confirmed tickets)` winning tickets, where the qualified
    guarantee is `(calcV1 st confirmed minConfirmed).1`; and no flag lies outside
    `1..lastTicketId` (the top-up marks only inside the holder's range) -/
theorem guarantee_honoured_v1 (hash : List Nat → List Nat) (v : Variant) (hv : v1_Fam v)
    (a0 : InitArgs) (s : State) (r : Nat) (h : v1_ReachA hash v a0 s r) (e : Env) (s' : State)
    (o : Out) (hs : step hash s e .distribute = .ok (s', o)) (hret : o.ret = [0]) :
    (∀ u st, s'.uts u = some st →
      min (calcV1 st (s'.confirmed u) s'.minConfirmed).1 (s'.confirmed u) ≤ winCountOf s' u) ∧
    (∀ t, s'.status t = true → 1 ≤ t ∧ t ≤ s'.lastTicketId) := by
  obtain ⟨_, _, _, _, _, _, _, h8, _, h10⟩ :=
    v1_distribute_completion (v1_reach_WF hv h).toInv hs hret
  exact ⟨h10, h8⟩

/-- **C02, `LpCover` holds from the deposit on**: the launchpad tokens held cover every
    outstanding winner; until the distribution is complete they even cover the whole reserve -/
theorem lp_cover_v1 (hash : List Nat → List Nat) (v : Variant) (hv : v1_Fam v) (s : State)
    (r : Nat) (h : v1_Reach hash v s r) (hd : s.deposited = true) :
    LP.Props.C02.LpCover s ∧
    (s.flags.additional = false →
      s.perTicket * (s.nrWinning + s.totalGuaranteed) ≤ s.bal (.esdt s.lpTok) 0) := by
  obtain ⟨T0, hwf⟩ := h.wf hv
  have L := hwf.lpSide hv
  exact ⟨L.cover hd, fun hna =>
    L.pre_guar (v1_fam_flags hv).2.2.2.2.1 hd hna (by rcases hv with rfl | rfl <;> nofun)⟩

theorem reserve_v1 (hash : List Nat → List Nat) (v : Variant) (hv : v1_Fam v) (a0 : InitArgs)
    (s : State) (r : Nat) (h : v1_ReachA hash v a0 s r) :
    (s.flags.filtered = false → s.nrWinning + s.totalGuaranteed = a0.nrWinning) ∧
    (s.flags.additional = false → s.nrWinning + s.totalGuaranteed ≤ a0.nrWinning) :=
  have L := (ReachOfA.of_v1 hv h).lpSide
  have hg := (v1_fam_flags hv).2.2.2.2.1
  ⟨L.res_guar hg, fun hna => L.owedLe hg hna (by rcases hv with rfl | rfl <;> nofun)⟩

/-- **the deposit**: an accepted deposit made before the filter has completed (`confirm` requires
    the deposit, so a launch with confirmations has made it by then) is exactly
    `perTicket × (nrWinning + totalGuaranteed) = perTicket × T0` launchpad tokens -/
theorem deposit_is_perTicket_times_T0 (hash : List Nat → List Nat) (v : Variant) (hv : v1_Fam v)
    (a0 : InitArgs) (s : State) (r : Nat) (h : v1_ReachA hash v a0 s r) (e : Env) (s' : State)
    (o : Out) (hf : s.flags.filtered = false) (hs : step hash s e .deposit = .ok (s', o)) :
    s'.totalDeposited = s.perTicket * a0.nrWinning ∧ s'.deposited = true ∧
    singleFungible e = .ok (.esdt s.lpTok, s.perTicket * a0.nrWinning) := by
  have hwf := v1_reach_WF hv h
  exact v1_phase_deposit_exact (Or.inl hwf.var) hwf.phase hf hs

/-- **C02, the owner can withdraw only the surplus**: after an accepted `claimPayment` the
    contract holds exactly the outstanding winners' launchpad tokens -/
theorem owner_surplus_v1 (hash : List Nat → List Nat) (v : Variant) (hv : v1_Fam v) (s : State)
    (r : Nat) (h : v1_Reach hash v s r) (e : Env) (s' : State) (o : Out)
    (hs : step hash s e .claimPayment = .ok (s', o)) :
    s'.bal (.esdt s'.lpTok) 0 = s'.perTicket * s'.nrWinning ∧ s'.nrWinning = s.nrWinning ∧
    s'.claimablePayment = 0 :=
  have ⟨k1, k2, k3, _⟩ := (ReachOf.of_v1 hv h).owner_surplus (v1_fam_flags hv).1 hs
  ⟨k1, k2, k3⟩

/-- **C02, nothing is left at the end**: once every participant has settled, no winner is
    outstanding, and the owner's withdrawal leaves no launchpad token in the contract -/
theorem lp_zero_at_end_v1 (hash : List Nat → List Nat) (v : Variant) (hv : v1_Fam v) (s : State)
    (r : Nat) (h : v1_Reach hash v s r) (hd : AllDone s) (hall : ∀ a, s.range a = none)
    (e : Env) (s' : State) (o : Out) (hs : step hash s e .claimPayment = .ok (s', o)) :
    s.nrWinning = 0 ∧ s'.bal (.esdt s'.lpTok) 0 = 0 :=
  (ReachOf.of_v1 hv h).lp_zero_at_end (v1_fam_flags hv).1 hd hall hs

/-! ### non-vacuity

  Three participants (7: staking guarantee; 8: staking + migration guarantee, one ticket
  confirmed only; 9: no guarantee), `T0 = 4`, an interrupted `filter`, and THREE `distribute`
  calls: interrupted in the top-up loop, interrupted in the leftover loop, completed.
  `stOf x d` = the state of an accepted step `x` (else `d`); `callOk` extends `v1_ReachA` by a
  step on which `isOk` evaluates to `true`. -/

def exArgs : InitArgs :=
  { lpTok := 1, perTicket := 5, payTok := .egld, price := 10, nrWinning := 4, conf := 5, sel := 10, claim := 15 }

def stOf (x : Res (State × Out)) (d : State) : State :=
  match x with
  | .ok (s, _) => s
  | .error _ => d

def isOk {α : Type} (x : Res α) : Bool :=
  match x with
  | .ok _ => true
  | .error _ => false

theorem stOf_spec {x : Res (State × Out)} (h : isOk x = true) (d : State) :
    ∃ o, x = .ok (stOf x d, o) :=
  LP.Props.C01reach.stOf_spec h d

theorem callOk {hash : List Nat → List Nat} {v : Variant} {a0 : InitArgs} {s : State} {r : Nat}
    (e : Env) (c : Call)
    (h : v1_ReachA hash v a0 s r) (hr : r ≤ e.round) (hok : EnvOK e) (hc : v1_CallOK c)
    (hs : isOk (step hash s e c) = true) :
    v1_ReachA hash v a0 (stOf (step hash s e c) s) e.round :=
  let ⟨o, ho⟩ := stOf_spec hs s
  .call s r e c _ o h hr hok hc ho

def ex0 : State := match init .migration exArgs { caller := 1, round := 0 } with
  | .ok s => s
  | .error _ => default

def exAlloc : List (Nat × Nat × Nat × Bool) := [(7, 2, 1, false), (8, 1, 0, true), (9, 0, 2, false)]

def ex1 : State := stOf (step id ex0 { caller := 1, round := 1 } (.addTicketsV1 exAlloc)) ex0
def ex2 : State := stOf (step id ex1 { caller := 1, round := 2, esdts := [⟨.esdt 1, 0, 20⟩] } .deposit) ex1
def ex3 : State := stOf (step id ex2 { caller := 7, round := 5, egld := 20 } (.confirm 2)) ex2
def ex4 : State := stOf (step id ex3 { caller := 8, round := 6, egld := 10 } (.confirm 1)) ex3
def ex5 : State := stOf (step id ex4 { caller := 9, round := 6, egld := 20 } (.confirm 2)) ex4
def ex6 : State := stOf (step id ex5 { caller := 9, round := 10, budget := some 0 } .filter) ex5
def ex7 : State := stOf (step id ex6 { caller := 9, round := 11 } .filter) ex6
def ex8 : State := stOf (step id ex7 { caller := 9, round := 12 } .select) ex7
def ex9 : State := stOf (step id ex8 { caller := 9, round := 13, budget := some 0 } .distribute) ex8
def ex10 : State := stOf (step id ex9 { caller := 9, round := 13, budget := some 1 } .distribute) ex9
def ex11 : State := stOf (step id ex10 { caller := 9, round := 14 } .distribute) ex10

theorem ex0_reach : v1_ReachA id .migration exArgs ex0 0 :=
  v1_ReachA.init { caller := 1, round := 0 } ex0 rfl

theorem ex5_reach : v1_ReachA id .migration exArgs ex5 6 :=
  callOk { caller := 9, round := 6, egld := 20 } (.confirm 2)
    (callOk { caller := 8, round := 6, egld := 10 } (.confirm 1)
      (callOk { caller := 7, round := 5, egld := 20 } (.confirm 2)
        (callOk { caller := 1, round := 2, esdts := [⟨.esdt 1, 0, 20⟩] } .deposit
          (callOk { caller := 1, round := 1 } (.addTicketsV1 exAlloc)
            ex0_reach (by decide) (Or.inl rfl)
            (by show ∀ q ∈ exAlloc, 1 ≤ q.2.1 + q.2.2.1; decide) (by decide +kernel))
          (by decide) (Or.inl rfl) trivial (by decide +kernel))
        (by decide) (Or.inr rfl) trivial (by decide +kernel))
      (by decide) (Or.inr rfl) trivial (by decide +kernel))
    (by decide) (Or.inr rfl) trivial (by decide +kernel)

theorem ex8_reach : v1_ReachA id .migration exArgs ex8 12 :=
  callOk { caller := 9, round := 12 } .select
    (callOk { caller := 9, round := 11 } .filter
      (callOk { caller := 9, round := 10, budget := some 0 } .filter ex5_reach
        (by decide) (Or.inl rfl) trivial (by decide +kernel))
      (by decide) (Or.inl rfl) trivial (by decide +kernel))
    (by decide) (Or.inl rfl) trivial (by decide +kernel)

theorem ex9_ok : isOk (step id ex8 { caller := 9, round := 13, budget := some 0 } .distribute) = true := by
  decide +kernel
theorem ex11_ok : isOk (step id ex10 { caller := 9, round := 14 } .distribute) = true := by decide +kernel

theorem ex10_reach : v1_ReachA id .migration exArgs ex10 13 :=
  callOk { caller := 9, round := 13, budget := some 1 } .distribute
    (callOk _ _ ex8_reach (by decide) (Or.inl rfl) trivial ex9_ok)
    (by decide) (Or.inl rfl) trivial (by decide +kernel)

theorem ex11_reach : v1_ReachA id .migration exArgs ex11 14 :=
  callOk _ _ ex10_reach (by decide) (Or.inl rfl) trivial ex11_ok

/-- the third `distribute` call is accepted with `ret = [0]`; 4 = min 4 5 tickets win; holder 8
    (qualified guarantee 2, one confirmed ticket) wins with his only ticket, holder 7 with both -/
example : ∃ s' o, step id ex10 { caller := 9, round := 14 } .distribute = .ok (s', o) ∧
    o.ret = [0] ∧ s'.nrWinning = min exArgs.nrWinning s'.lastTicketId ∧ s'.nrWinning = 4 ∧
    winCountOf s' 7 = 2 ∧ winCountOf s' 8 = 1 ∧ winCountOf s' 9 = 1 := by
  obtain ⟨o, ho⟩ := stOf_spec ex11_ok ex10
  have hret : (step id ex10 { caller := 9, round := 14 } .distribute).toOption.map (·.2.ret)
      = some [0] := by decide +kernel
  rw [ho] at hret
  refine ⟨ex11, o, ho, Option.some.inj hret, ?_, by decide +kernel⟩
  exact (final_winners_v1_partial id .migration (Or.inl rfl) exArgs ex10 13 ex10_reach
    { caller := 9, round := 14 } ex11 o ho (Option.some.inj hret)).2.2.2.1

example : ex1.nrWinning = 1 ∧ ex1.totalGuaranteed = 3 ∧ ex1.whitelist = [7, 8] ∧
    ex6.op = .filter 4 1 ∧ ex8.nrWinning = 1 ∧ ex8.claimablePayment = 10 ∧
    ex9.whitelist = [8] ∧ ex10.whitelist = [] ∧ ¬ AllDone ex10 ∧
    AllDone ex11 ∧ ex11.nrWinning = 4 ∧ ex11.lastTicketId = 5 ∧ ex11.claimablePayment = 40 ∧
    ex11.bal .egld 0 = 50 ∧ ex11.bal (.esdt 1) 0 = 20 := by
  unfold AllDone; decide +kernel

/-- C01 in the middle of the distribution and after it -/
example : (∃ L : List Nat, Covers ex10 L ∧ PayEqPre ex10 L) ∧
    (∃ L : List Nat, Covers ex11 L ∧ PayEqPost ex11 L) := by
  obtain ⟨L, h1, h2, _⟩ := C01_solvent_migration id ex10 13 (v1_Reach_iff.mpr ⟨_, ex10_reach⟩)
  obtain ⟨L', k1, _, k3⟩ := C01_solvent_migration id ex11 14 (v1_Reach_iff.mpr ⟨_, ex11_reach⟩)
  exact ⟨⟨L, h1, h2 (by unfold AllDone; decide +kernel)⟩,
    ⟨L', k1, k3 (by unfold AllDone; decide +kernel)⟩⟩

example : ∃ s, v1_Reach id .lockedGuar s 0 ∧ s.lockPct = 5000 :=
  ⟨_, v1_Reach.init { exArgs with lockPct := 5000, unlockEpoch := 10, lockAddr := 99 }
    { caller := 1, round := 0, isContract := fun a => a == 99 } _ rfl, rfl⟩

/-- participant 7 settles, the owner withdraws (proceeds and launchpad-token surplus),
    participant 8 settles; what is left is exactly participant 9's refund and winning ticket -/
def ex12 : State := stOf (step id ex11 { caller := 7, round := 15 } .claim) ex11
def ex13 : State := stOf (step id ex12 { caller := 1, round := 16 } .claimPayment) ex12
def ex14 : State := stOf (step id ex13 { caller := 8, round := 17 } .claim) ex13

theorem ex13_reach : v1_ReachA id .migration exArgs ex13 16 :=
  callOk { caller := 1, round := 16 } .claimPayment
    (callOk { caller := 7, round := 15 } .claim ex11_reach
      (by decide) (Or.inl rfl) trivial (by decide +kernel))
    (by decide) (Or.inl rfl) trivial (by decide +kernel)

theorem ex14_reach : v1_ReachA id .migration exArgs ex14 17 :=
  callOk { caller := 8, round := 17 } .claim ex13_reach (by decide) (Or.inl rfl) trivial (by decide +kernel)

example : ex12.bal .egld 0 = 50 ∧ ex12.bal (.esdt 1) 0 = 10 ∧ ex12.nrWinning = 2 ∧
    ex13.bal .egld 0 = 10 ∧ ex13.bal (.esdt 1) 0 = 10 ∧ ex13.claimablePayment = 0 ∧
    ex14.bal .egld 0 = 10 ∧ ex14.bal (.esdt 1) 0 = 5 ∧ ex14.nrWinning = 1 ∧ ex14.range 7 = none := by
  decide +kernel

end LP.Props.C01reachV1

#print axioms LP.Props.C01reachV1.C01_solvent_v1
#print axioms LP.Props.C01reachV1.C01_solvent_migration
#print axioms LP.Props.C01reachV1.C01_solvent_lockedGuar
#print axioms LP.Props.C01reachV1.three_counts_v1
#print axioms LP.Props.C01reachV1.claim_refund_covered_v1
#print axioms LP.Props.C01reachV1.all_settled_nothing_left_v1
#print axioms LP.Props.C01reachV1.final_winners_v1_partial
#print axioms LP.Props.C01reachV1.interrupted_distribute_keeps_pre
#print axioms LP.Props.C01reachV1.winners_bound_v1
#print axioms LP.Props.C01reachV1.proceeds_until_withdrawal_v1
#print axioms LP.Props.C01reachV1.proceeds_are_price_times_winners_v1
#print axioms LP.Props.C01reachV1.guarantee_honoured_v1
#print axioms LP.Props.C01reachV1.whitelisted_iff_v1
#print axioms LP.Props.C01reachV1.lp_cover_v1
#print axioms LP.Props.C01reachV1.reserve_v1
#print axioms LP.Props.C01reachV1.deposit_is_perTicket_times_T0
#print axioms LP.Props.C01reachV1.owner_surplus_v1
#print axioms LP.Props.C01reachV1.lp_zero_at_end_v1
#print axioms LP.Props.C01reachV1.ex11_reach
#print axioms LP.Props.C01reachV1.ex14_reach

#print axioms LP.Props.C01reachV1.callOk
#print axioms LP.Props.C01reachV1.ex0_reach
#print axioms LP.Props.C01reachV1.ex5_reach
#print axioms LP.Props.C01reachV1.ex8_reach
#print axioms LP.Props.C01reachV1.ex10_reach
#print axioms LP.Props.C01reachV1.ex13_reach
