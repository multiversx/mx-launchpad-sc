import LP.Proofs.Events
import LP.Props.C13
import LP.Props.C07
import LP.Props.C06gates
import LP.Proofs.FieldFrames
import LP.Proofs.ClaimVested
import LP.Proofs.PayOut
/-
  C20 — emitted events carry exactly the quantities that changed.

  Per endpoint: rejected calls emit nothing; a refund is one event plus one transfer per refunded
  user; beside its refunds an emitting endpoint emits one event with the listed payload, or none (an
  interrupted selection step, a claim that releases nothing, the v2-only events in the other
  variants); every event of these endpoints has the topics `[caller, round, epoch]` of its
  transaction.  Event payloads are the numeric fields of `Ev.data`; helper definitions (`refundEv`,
  `blEvent`, `blXfer`, `filterDoneEv`, …) are in `LP/Proofs/Events.lean`.  The per-endpoint lists are
  collected in one function `eventsOf s s' e c` of the state a call ran in and the state it left
  (`step_events`; the counterpart for events of `xfersOf` in `LP/Proofs/PayOut.lean`); identifiers
  and topics of the events are then facts about that list (`eventsOf_shape`).
-/
namespace LP

/-- the identifiers of the events a call can emit -/
def el_namesOf : Call → List String
  | .confirm _ => ["confirmTickets"]
  | .setTicketPrice _ _ => ["setTicketPrice"]
  | .filter => ["filterTicketsCompleted"]
  | .select => ["selectWinnersCompleted"]
  | .distribute => ["distributeGuaranteedTicketsCompleted"]
  | .addTicketsV2 _ => ["addTickets"]
  | .blacklist _ => ["refundTicketPayment", "addUsersToBlacklist"]
  | .refundUsers _ => ["refundTicketPayment"]
  | .unblacklist _ => ["removeGuaranteedUsersFromBlacklist"]
  | .setSchedule2 _ => ["setUnlockSchedule"]
  | .claim => ["refundTicketPayment", "claimLaunchpadTokens"]
  | .pause => ["pauseContract"]
  | .unpause => ["unpauseContract"]
  | _ => []

end LP

namespace LP.Props.C20
open LP LP.Events

/-! ## step inversion for endpoints that take no payment -/

/-- an accepted call of an endpoint that is not payable ran on `rbTx s e`, the initial record
    without call value -/
theorem step_nopay_inv {hash : List Nat → List Nat} {s : State} {e : Env} {c : Call} {s' : State} {o : Out}
    (hnp : ∀ m, endpointMeta s.variant c = some m → m.payable = false)
    (h : step hash s e c = .ok (s', o)) :
    ∃ t, exec hash (rbTx s e) e c = .ok t ∧ s' = t.s ∧ o = t.o := by
  obtain ⟨m, t, hm, hpay, _, hx, hs, ho⟩ := step_ok_inv h
  have hp := hnp m hm
  rcases hpay with hpay | ⟨h1, h2⟩
  · rw [hp] at hpay; cases hpay
  · refine ⟨t, ?_, hs, ho⟩
    unfold tx0 at hx
    rw [creditPayments_nopay s e h1 h2] at hx
    exact hx

/-! ## rejected calls emit nothing -/

/-- the events an observer sees for a call -/
def observedEvents (hash : List Nat → List Nat) (s : State) (e : Env) (c : Call) : List Ev :=
  match step hash s e c with
  | .ok (_, o) => o.events
  | .error _ => []

/-- a rejected call emits nothing -/
theorem observedEvents_rejected (hash : List Nat → List Nat) (s : State) (e : Env) (c : Call) (err : Err)
    (h : step hash s e c = .error err) : observedEvents hash s e c = [] := by
  simp [observedEvents, h]

/-- the only way to observe an event is an accepted step -/
theorem observedEvents_mem (hash : List Nat → List Nat) (s : State) (e : Env) (c : Call) (ev : Ev)
    (h : ev ∈ observedEvents hash s e c) :
    ∃ s' o, step hash s e c = .ok (s', o) ∧ ev ∈ o.events := by
  unfold observedEvents at h
  cases hst : step hash s e c with
  | error err => simp [hst] at h
  | ok r => obtain ⟨s', o⟩ := r; simp only [hst] at h; exact ⟨s', o, rfl, h⟩

/-! ## refunds -/

/-- `refund_ticket_payment`: for `n > 0` exactly one `refundTicketPayment` event with payload
    `[caller, round, epoch, n, payTok.code, 0, price * n]` and exactly one transfer of `price * n`
    of the payment token to the refunded address; for `n = 0` nothing at all. -/
theorem refund_exact {t t' : Tx} {e : Env} {addr n : Nat} (h : t.refund e addr n = .ok t') :
    (n = 0 → t' = t) ∧
    (0 < n →
      t'.o.events = t.o.events ++
        [⟨"refundTicketPayment", [e.caller, e.round, e.epoch],
          [e.caller, e.round, e.epoch, n, t.s.payTok.code, 0, t.s.price * n]⟩] ∧
      t'.o.xfers = t.o.xfers ++ [(addr, ⟨t.s.payTok, 0, t.s.price * n⟩)] ∧
      t.s.price * n ≤ t.s.bal t.s.payTok 0 ∧
      t'.s = { t.s with bal := t.s.bal.sub t.s.payTok 0 (t.s.price * n) }) := by
  obtain ⟨hle, rfl⟩ := (refund_ok_iff t e addr n t').mp h
  unfold refundResult
  constructor
  · rintro rfl; rfl
  · intro hn
    rw [if_neg (Nat.ne_of_gt hn)]
    exact ⟨rfl, rfl, hle, rfl⟩

/-- a refund that the contract cannot pay fails (the whole transaction reverts) -/
theorem refund_insufficient {t : Tx} {e : Env} {addr n : Nat} (hn : 0 < n)
    (hlt : t.s.bal t.s.payTok 0 < t.s.price * n) : ∃ err, t.refund e addr n = .error err := by
  cases h : t.refund e addr n with
  | error err => exact ⟨err, rfl⟩
  | ok t' =>
    obtain ⟨hle, _⟩ := (refund_ok_iff t e addr n t').mp h
    omega

/-- **blacklisting loop, exact**: accepted iff the list has no duplicates, every listed user is
    not blacklisted and has an allocation record, and the total refund is covered; then one refund
    event and one transfer per listed user with `confirmed > 0`, in list order, each with that
    user's confirmed count against the *initial* confirmations (`blEvent`, `blXfer`), and the
    resulting storage is `blState`. -/
theorem blacklistMany_exact (e : Env) (l : List Nat) (t t' : Tx) :
    blacklistMany e l t = .ok t' ↔
      l.Nodup ∧ (∀ u ∈ l, t.s.blacklist u = false ∧ (t.s.range u).isSome = true) ∧
      t.s.price * blConfSum t.s l ≤ t.s.bal t.s.payTok 0 ∧
      t' = { s := blState t.s l, c := t.c,
             o := { t.o with events := t.o.events ++ l.filterMap (blEvent t.s e),
                             xfers := t.o.xfers ++ l.filterMap (blXfer t.s) } } :=
  blacklistMany_ok_iff e l t t'

/-- what `blEvent` / `blXfer` are: the refund event / transfer of a user with `confirmed > 0` -/
theorem blEvent_eq (s : State) (e : Env) (u : Nat) :
    blEvent s e u = if s.confirmed u > 0 then
      some ⟨"refundTicketPayment", [e.caller, e.round, e.epoch],
        [e.caller, e.round, e.epoch, s.confirmed u, s.payTok.code, 0, s.price * s.confirmed u]⟩
      else none := rfl

theorem blXfer_eq (s : State) (u : Nat) :
    blXfer s u = if s.confirmed u > 0 then some (u, ⟨s.payTok, 0, s.price * s.confirmed u⟩) else none := rfl

theorem mem_filterMap_blEvent_name {s : State} {e : Env} {l : List Nat} {ev : Ev}
    (h : ev ∈ l.filterMap (blEvent s e)) : ev.name = "refundTicketPayment" := by
  obtain ⟨u, _, hu⟩ := List.mem_filterMap.mp h
  unfold blEvent at hu
  split at hu
  · injection hu with hu; subst hu; rfl
  · cases hu

theorem mem_filterMap_blEvent_topics {s : State} {e : Env} {l : List Nat} {ev : Ev}
    (h : ev ∈ l.filterMap (blEvent s e)) : ev.topics = [e.caller, e.round, e.epoch] := by
  obtain ⟨u, _, hu⟩ := List.mem_filterMap.mp h
  unfold blEvent at hu
  split at hu
  · injection hu with hu; subst hu; rfl
  · cases hu

/-- duplicates in the list are rejected -/
theorem blacklistMany_duplicates_rejected (e : Env) (l : List Nat) (t : Tx) (hd : ¬ l.Nodup) :
    ∃ err, blacklistMany e l t = .error err := by
  cases h : blacklistMany e l t with
  | error err => exact ⟨err, rfl⟩
  | ok t' => exact absurd ((blacklistMany_ok_iff e l t t').mp h).1 hd

/-! ## setTicketPrice -/

theorem setTicketPrice_exact (hash : List Nat → List Nat) (s : State) (e : Env) (tok : Token) (a : Nat)
    (s' : State) (o : Out) (h : step hash s e (.setTicketPrice tok a) = .ok (s', o)) :
    o.events = [⟨"setTicketPrice", [e.caller, e.round, e.epoch],
                 [e.caller, e.round, e.epoch, tok.code, 0, a]⟩] ∧
    s'.payTok = tok ∧ s'.price = a ∧ s' = { s with payTok := tok, price := a } ∧
    o.xfers = [] ∧ s.stage e = .addTickets ∧ 0 < a := by
  obtain ⟨t, hx, rfl, rfl⟩ := step_np_out rfl h
  obtain ⟨hst, _, _, ha, rfl⟩ := (exec_setTicketPrice_ok_iff hash _ _ e tok a).mp hx
  exact ⟨rfl, rfl, rfl, rfl, rfl, hst, ha⟩

/-! ## the selection steps -/

/-- `filterTickets`: a completed call (`ret = [0]`) emits exactly one `filterTicketsCompleted`
    event carrying the new `lastTicketId`; an interrupted call (`ret = [1]`) emits nothing -/
theorem filter_event (hash : List Nat → List Nat) (s : State) (e : Env) (s' : State) (o : Out)
    (h : step hash s e .filter = .ok (s', o)) :
    (o.ret = [0] ∨ o.ret = [1]) ∧
    (o.ret = [0] → o.events = [⟨"filterTicketsCompleted", [e.caller, e.round, e.epoch],
                                 [e.caller, e.round, e.epoch, s'.lastTicketId]⟩] ∧
                   s'.flags.filtered = true) ∧
    (o.ret = [1] → o.events = [] ∧ s'.flags.filtered = false ∧ s'.lastTicketId = s.lastTicketId) ∧
    o.xfers = [] := by
  have hxf := (step_quiet h rfl).1
  obtain ⟨t, hx, rfl, rfl⟩ := step_np_out rfl h
  simp only [exec] at hx
  rcases filterTickets_out hx with ⟨hr, hev, hf, _⟩ | ⟨hr, hev, hf, hl, _⟩
  · refine ⟨Or.inl hr, fun _ => ⟨by simpa [rbTx, filterDoneEv] using hev, hf⟩, ?_, hxf⟩
    intro h1; rw [hr] at h1; simp at h1
  · refine ⟨Or.inr hr, ?_, fun _ => ⟨by simpa [rbTx] using hev, hf, hl⟩, hxf⟩
    intro h0; rw [hr] at h0; simp at h0

/-- `selectWinners`: a completed call emits exactly one `selectWinnersCompleted` event carrying
    `nrWinning`, and books `claimablePayment = price * nrWinning`; an interrupted call emits nothing -/
theorem select_event (hash : List Nat → List Nat) (s : State) (e : Env) (s' : State) (o : Out)
    (h : step hash s e .select = .ok (s', o)) :
    (o.ret = [0] ∨ o.ret = [1]) ∧
    (o.ret = [0] → o.events = [⟨"selectWinnersCompleted", [e.caller, e.round, e.epoch],
                                 [e.caller, e.round, e.epoch, s.nrWinning]⟩] ∧
                   s'.claimablePayment = s.price * s.nrWinning ∧ s'.flags.selected = true) ∧
    (o.ret = [1] → o.events = [] ∧ s'.claimablePayment = s.claimablePayment ∧ s'.flags = s.flags) ∧
    s'.nrWinning = s.nrWinning ∧ s'.price = s.price ∧ o.xfers = [] := by
  have hxf := (step_quiet h rfl).1
  obtain ⟨t, hx, rfl, rfl⟩ := step_np_out rfl h
  simp only [exec] at hx
  obtain ⟨hp, hn, hcase⟩ := selectWinners_out hx
  rcases hcase with ⟨hr, hev, hc, hf, _⟩ | ⟨hr, hev, hf, hc, _⟩
  · refine ⟨Or.inl hr, fun _ => ⟨by simpa [rbTx, selectDoneEv] using hev, hc, hf⟩, ?_, hn, hp, hxf⟩
    intro h1; rw [hr] at h1; simp at h1
  · refine ⟨Or.inr hr, ?_, fun _ => ⟨by simpa [rbTx] using hev, hc, hf⟩, hn, hp, hxf⟩
    intro h0; rw [hr] at h0; simp at h0

/-- `distributeGuaranteedTickets`: a completed call credits `add` additional winning tickets
    (`nrWinning' = nrWinning + add`, `claimablePayment' = claimablePayment + price * add`) and, in
    v2, emits exactly one `distributeGuaranteedTicketsCompleted` event carrying `add` (the other
    variants have no such event); an interrupted call emits nothing and credits nothing -/
theorem distribute_event (hash : List Nat → List Nat) (s : State) (e : Env) (s' : State) (o : Out)
    (h : step hash s e .distribute = .ok (s', o)) :
    (o.ret = [0] ∨ o.ret = [1]) ∧
    (o.ret = [0] → ∃ add, s'.nrWinning = s.nrWinning + add ∧
        s'.claimablePayment = s.claimablePayment + s.price * add ∧ s'.flags.additional = true ∧
        o.events = if s.variant.isV2 then
          [⟨"distributeGuaranteedTicketsCompleted", [e.caller, e.round, e.epoch],
            [e.caller, e.round, e.epoch, add]⟩] else []) ∧
    (o.ret = [1] → o.events = [] ∧ s'.nrWinning = s.nrWinning ∧
        s'.claimablePayment = s.claimablePayment ∧ s'.flags = s.flags) ∧
    s'.price = s.price ∧ o.xfers = [] := by
  have hxf := (step_quiet h rfl).1
  obtain ⟨t, hx, rfl, rfl⟩ := step_np_out rfl h
  simp only [exec] at hx
  obtain ⟨hp, hcase⟩ := distribute_out hx
  rcases hcase with ⟨hr, hf, _, add, hn, hc, hev⟩ | ⟨hr, hev, hf, hn, hc, _⟩
  · refine ⟨Or.inl hr, fun _ => ⟨add, hn, hc, hf, ?_⟩, ?_, hp, hxf⟩
    · rw [hev]; exact List.nil_append _
    · intro h1; rw [hr] at h1; simp at h1
  · refine ⟨Or.inr hr, ?_, fun _ => ⟨by simpa [rbTx] using hev, hn, hc, hf⟩, hp, hxf⟩
    intro h0; rw [hr] at h0; simp at h0

/-! ## v2 `addTickets` -/

/-- the accumulators of the v2 allocation loop are exact: users = entries with a non-zero
    allowance, tickets = growth of `lastTicketId`, guaranteed = growth of the guaranteed total
    (= reduction of the open winning tickets) -/
theorem addV2Many_accumulators (e : Env) (l : List (Nat × Nat × List (Nat × Nat)))
    (s : State) (tw tg uc ta ga : Nat) (s' : State) (tw' tg' uc' ta' ga' : Nat)
    (h : addV2Many e l (s, tw, tg, uc, ta, ga) = .ok (s', tw', tg', uc', ta', ga')) :
    ta' - ta = s'.lastTicketId - s.lastTicketId ∧ ga' - ga = tg' - tg ∧ ga' - ga = tw - tw' ∧
    uc' - uc = (l.filter (fun p => p.2.1 ≠ 0)).length ∧
    s.lastTicketId ≤ s'.lastTicketId ∧ tg ≤ tg' ∧ tw' ≤ tw := by
  obtain ⟨h1, h2, h3, h4, h5, h6⟩ := addV2Many_acc e l s tw tg uc ta ga s' tw' tg' uc' ta' ga' h
  unfold v2Users at h4
  refine ⟨by omega, by omega, by omega, by omega, by omega, by omega, by omega⟩

/-- v2 `addTickets`: exactly one `addTickets` event with (users, tickets added, guaranteed added),
    where tickets added = `lastTicketId' - lastTicketId` and guaranteed added =
    `totalGuaranteed' - totalGuaranteed` -/
theorem addTicketsV2_event (hash : List Nat → List Nat) (s : State) (e : Env)
    (l : List (Nat × Nat × List (Nat × Nat))) (s' : State) (o : Out)
    (h : step hash s e (.addTicketsV2 l) = .ok (s', o)) :
    o.events = [⟨"addTickets", [e.caller, e.round, e.epoch],
      [e.caller, e.round, e.epoch, (l.filter (fun p => p.2.1 ≠ 0)).length,
        s'.lastTicketId - s.lastTicketId, s'.totalGuaranteed - s.totalGuaranteed]⟩] ∧
    s.lastTicketId ≤ s'.lastTicketId ∧ s.totalGuaranteed ≤ s'.totalGuaranteed ∧
    s'.nrWinning + (s'.totalGuaranteed - s.totalGuaranteed) = s.nrWinning ∧ o.xfers = [] := by
  have hxf := (step_quiet h rfl).1
  obtain ⟨t, hx, rfl, rfl⟩ := step_np_out rfl h
  simp only [exec] at hx
  obtain ⟨hev, h1, h2, h3⟩ := addTicketsV2_out hx
  exact ⟨by simpa [rbTx, addTicketsEv, v2Users] using hev, h1, h2, h3, hxf⟩

/-! ## blacklist, refundUsers, unblacklist, schedule, vesting claim -/

/-- `addUsersToBlacklist` (all variants): the refund events of the listed users with
    `confirmed > 0` in list order, then — v2 only — `addUsersToBlacklist` with payload
    `[caller, round, epoch, l.length] ++ l`; the transfers are the refunds, followed (NFT variants
    only) by NFT-fee refunds -/
theorem blacklist_events (hash : List Nat → List Nat) (s : State) (e : Env) (l : List Nat)
    (s' : State) (o : Out) (h : step hash s e (.blacklist l) = .ok (s', o)) :
    o.events = l.filterMap (blEvent s e) ++
      (if s.variant.isV2 then
        [⟨"addUsersToBlacklist", [e.caller, e.round, e.epoch],
          [e.caller, e.round, e.epoch, l.length] ++ l⟩] else []) ∧
    (∃ xf, o.xfers = l.filterMap (blXfer s) ++ xf ∧ (s.variant.hasNft = false → xf = [])) ∧
    l.Nodup := by
  obtain ⟨t, hx, rfl, rfl⟩ := step_np_out rfl h
  obtain ⟨hadd, hev, hxf, _⟩ := exec_blacklist_out hx
  obtain ⟨_, _, hnd, _⟩ := (addUsersToBlacklist_ok_iff _ _ _ _).mp hadd
  refine ⟨?_, ⟨if s.variant.hasNft = true
      then (l.filter (fun x => decide (x ∈ s.payers))).map (fun u => (u, s.nftCost)) else [], ?_,
    fun hn => if_neg (by rw [hn]; nofun)⟩, hnd⟩
  · rw [hev]; exact congrArg (· ++ _) (List.nil_append _)
  · rw [hxf]; exact congrArg (· ++ _) (List.nil_append _)

/-- v2 `refundUsers`: only the refund events (no `addUsersToBlacklist` event) -/
theorem refundUsers_events (hash : List Nat → List Nat) (s : State) (e : Env) (l : List Nat)
    (s' : State) (o : Out) (h : step hash s e (.refundUsers l) = .ok (s', o)) :
    o.events = l.filterMap (blEvent s e) ∧ o.xfers = l.filterMap (blXfer s) ∧ l.Nodup := by
  obtain ⟨t, hx, rfl, rfl⟩ := step_np_out rfl h
  obtain ⟨hadd, ho, _, _⟩ := exec_refundUsers_out hx
  obtain ⟨_, _, hnd, _⟩ := (addUsersToBlacklist_ok_iff _ _ _ _).mp hadd
  rw [ho]
  exact ⟨by simp [blTx, rbTx], by simp [blTx, rbTx], hnd⟩

/-- `removeUsersFromBlacklist`: v2 emits `removeGuaranteedUsersFromBlacklist` with payload
    `[caller, round, epoch, l.length] ++ l`; the other variants emit nothing; no transfers -/
theorem unblacklist_events (hash : List Nat → List Nat) (s : State) (e : Env) (l : List Nat)
    (s' : State) (o : Out) (h : step hash s e (.unblacklist l) = .ok (s', o)) :
    o.events = (if s.variant.isV2 then
        [⟨"removeGuaranteedUsersFromBlacklist", [e.caller, e.round, e.epoch],
          [e.caller, e.round, e.epoch, l.length] ++ l⟩] else []) ∧
    o.xfers = [] := by
  obtain ⟨t, hx, rfl, rfl⟩ := step_np_out rfl h
  obtain ⟨_, _, _, ho, _⟩ := exec_unblacklist_out hx
  rw [ho]
  exact ⟨List.nil_append _, rfl⟩

/-- v2 `setUnlockSchedule` (`LP.setSchedule2_accepted_iff` of `LP/Props/C13.lean`): one
    `setUnlockSchedule` event with the milestones flattened behind their count -/
theorem setSchedule2_accepted_iff (t t' : Tx) (e : Env) (ms : List (Nat × Nat)) :
    setSchedule2 t e ms = .ok t' ↔
      t.s.stage e = .addTickets ∧ ms.length ≤ 60 ∧ validSchedule2 e.round ms = true ∧
      t' = (t.setS { t.s with sched2 := some ms }).emit ⟨"setUnlockSchedule", topics e,
        [e.caller, e.round, e.epoch, ms.length] ++ flattenPairs ms⟩ :=
  LP.setSchedule2_accepted_iff t t' e ms

theorem setSchedule2_event (hash : List Nat → List Nat) (s : State) (e : Env) (ms : List (Nat × Nat))
    (s' : State) (o : Out) (h : step hash s e (.setSchedule2 ms) = .ok (s', o)) :
    o.events = [⟨"setUnlockSchedule", [e.caller, e.round, e.epoch],
      [e.caller, e.round, e.epoch, ms.length] ++ flattenPairs ms⟩] ∧
    s' = { s with sched2 := some ms } ∧ o.xfers = [] := by
  obtain ⟨t, hx, rfl, rfl⟩ := step_np_out rfl h
  simp only [exec] at hx
  obtain ⟨_, _, _, rfl⟩ := (LP.setSchedule2_accepted_iff _ _ e ms).mp hx
  exact ⟨rfl, rfl, rfl⟩

/-- the vesting claim of an already settled participant (crates 4 and 5): with `c` the claimable
    amount, `c > 0` gives exactly one transfer of `c` launchpad tokens to the caller and — in v2 —
    exactly one `claimLaunchpadTokens` event `[caller, round, epoch, lpTok+1, 0, c]`; `c = 0`
    gives neither -/
theorem claimVested_settled_events {t t' : Tx} {e : Env} (hcl : t.s.claimed e.caller = true)
    (h : claimVested t e = .ok t') :
    ∃ c, (if t.s.variant.isV2 then claimable2 t.s e e.caller else claimable1 t.s e e.caller) = .ok c ∧
      t'.o.events = t.o.events ++ (if c > 0 ∧ t.s.variant.isV2 = true then
        [⟨"claimLaunchpadTokens", [e.caller, e.round, e.epoch],
          [e.caller, e.round, e.epoch, t.s.lpTok + 1, 0, c]⟩] else []) ∧
      t'.o.xfers = t.o.xfers ++ (if c > 0 then [(e.caller, (⟨.esdt t.s.lpTok, 0, c⟩ : Pay))] else []) := by
  obtain ⟨t1, c, h1, hc, huc, _, _, _, _, hxf⟩ := claimVested_inv h
  obtain rfl := (claimSettle_frame h1).2.2.2.2.1 hcl
  have hinc : t'.s.userClaimed e.caller - t1.s.userClaimed e.caller = c := by omega
  refine ⟨c, hc, ?_, hxf⟩
  rw [claimVested_events h, claimEvents, if_neg (by rw [hcl]; nofun), releaseEvents, hinc]
  rfl

/-- the first vesting claim: settlement, one refund event/transfer for the `rf` losing confirmed
    tickets (if any), then the release as above, computed on the settled state -/
theorem claimVested_first_events {t t' : Tx} {e : Env} (hcl : t.s.claimed e.caller = false)
    (h : claimVested t e = .ok t') :
    ∃ s1 redeem rf t1 c, settle t.s e = .ok (s1, redeem, rf) ∧
      (t.setS s1).refund e e.caller rf = .ok t1 ∧
      (if t.s.variant.isV2 then claimable2 else claimable1)
        (if redeem > 0 then
          { t1.s with userTotal := upd t1.s.userTotal e.caller (redeem * t1.s.perTicket) } else t1.s)
        e e.caller = .ok c ∧
      t'.o.events = t.o.events ++ (if rf > 0 then [refundEv t.s e rf] else []) ++
        (if c > 0 ∧ t.s.variant.isV2 = true then [claimEv t.s e c] else []) ∧
      t'.o.xfers = t.o.xfers ++ (if rf > 0 then [(e.caller, refundPay t.s rf)] else []) ++
        (if c > 0 then [(e.caller, (⟨.esdt t.s.lpTok, 0, c⟩ : Pay))] else []) := by
  obtain ⟨t1, c, h1, hc, huc, _, _, _, _, hxf⟩ := claimVested_inv h
  have hinc : t'.s.userClaimed e.caller - t.s.userClaimed e.caller = c := by omega
  have hev := claimVested_events h
  unfold claimSettle at h1
  simp only [hcl, Bool.false_eq_true, if_false] at h1
  obtain ⟨⟨s1, rd, rf⟩, hset, h1⟩ := (bind_ok_iff ..).1 h1
  obtain ⟨t2, href, h1⟩ := (bind_ok_iff ..).1 h1
  cases h1
  obtain ⟨_, hrf, hlp, hpt, hpr⟩ := settle_refund hset
  obtain ⟨_, hx2, hs2, _⟩ := refund_out href
  have hrp : refundPay (t.setS s1).s rf = refundPay t.s rf := by simp only [refundPay, Tx.setS, hpt, hpr]
  refine ⟨s1, rd, rf, t2, c, hset, href, ?_, ?_, ?_⟩
  · have hX : ∀ Y : State, (if rd > 0 then t2.setS Y else t2).s = (if rd > 0 then Y else t2.s) :=
      fun Y => by split <;> rfl
    rw [hX] at hc
    cases hvv : t.s.variant.isV2 <;> rw [hvv] at hc <;> exact hc
  · rw [hev, claimEvents, if_pos hcl, refundEvents, ← hrf, releaseEvents, hinc, List.append_assoc]
  · have h2 : (if rd > 0 then t2.setS { t2.s with userTotal := upd t2.s.userTotal e.caller (rd * t2.s.perTicket) }
        else t2).s.lpTok = t.s.lpTok := by
      split <;> (show t2.s.lpTok = _; rw [hs2]; exact hlp)
    rw [hxf, h2]
    congr 1
    have : (if rd > 0 then t2.setS { t2.s with userTotal := upd t2.s.userTotal e.caller (rd * t2.s.perTicket) }
        else t2).o.xfers = t2.o.xfers := by split <;> rfl
    rw [this, hx2, hrp]
    rfl

/-- v2, step level: a settled participant's `claim` emits one `claimLaunchpadTokens` event and one
    transfer iff something is claimable -/
theorem claim_v2_settled_event (hash : List Nat → List Nat) (s : State) (e : Env) (s' : State) (o : Out)
    (hv : s.variant = .guarV2) (hcl : s.claimed e.caller = true)
    (h : step hash s e .claim = .ok (s', o)) :
    ∃ c, claimable2 s e e.caller = .ok c ∧
      (0 < c → o.events = [⟨"claimLaunchpadTokens", [e.caller, e.round, e.epoch],
                            [e.caller, e.round, e.epoch, s.lpTok + 1, 0, c]⟩] ∧
               o.xfers = [(e.caller, ⟨.esdt s.lpTok, 0, c⟩)]) ∧
      (c = 0 → o.events = [] ∧ o.xfers = []) := by
  obtain ⟨t, hx, rfl, rfl⟩ := step_np_out rfl h
  have hvest : (rbTx s e).s.variant.vested = true := by simp [rbTx, hv, Variant.vested]
  simp only [exec, hvest, ↓reduceIte] at hx
  obtain ⟨c, hc, hev, hxf⟩ := claimVested_settled_events (t := rbTx s e) hcl hx
  have hv2 : (rbTx s e).s.variant.isV2 = true := by simp [rbTx, hv, Variant.isV2]
  simp only [hv2, ↓reduceIte, and_true] at hc hev
  refine ⟨c, hc, ?_, ?_⟩
  · intro hpos
    simp only [hpos, ↓reduceIte] at hev hxf
    exact ⟨by simpa [rbTx, claimEv] using hev, by simpa [rbTx] using hxf⟩
  · rintro rfl
    simp only [Nat.lt_irrefl, ↓reduceIte, List.append_nil] at hev hxf
    exact ⟨by simpa [rbTx] using hev, by simpa [rbTx] using hxf⟩

/-- the plain (non-vesting) claim: the only event is the refund of the `rf` losing confirmed
    tickets, `rf` being the third component of the settlement -/
theorem claim_plain_events (hash : List Nat → List Nat) (s : State) (e : Env) (s' : State) (o : Out)
    (hv : s.variant.vested = false) (h : step hash s e .claim = .ok (s', o)) :
    ∃ s1 redeem rf, settle s e = .ok (s1, redeem, rf) ∧
      o.events = if rf > 0 then
        [⟨"refundTicketPayment", [e.caller, e.round, e.epoch],
          [e.caller, e.round, e.epoch, rf, s.payTok.code, 0, s.price * rf]⟩] else [] := by
  obtain ⟨t, hx, rfl, rfl⟩ := step_np_out rfl h
  obtain ⟨s1, redeem, rf, hset, hev⟩ := exec_claim_plain_events (t := rbTx s e) hv hx
  refine ⟨s1, redeem, rf, hset, ?_⟩
  rw [hev]
  exact List.nil_append _

/-! ## the pause events, the emitting endpoints -/

/-- `pause` / `unpause` emit exactly the framework's event, which has neither topics nor data (that no
    other event lacks the topics is `eventsOf_shape`) -/
theorem pause_events (hash : List Nat → List Nat) (s : State) (e : Env) (s' : State) (o : Out) :
    (step hash s e .pause = .ok (s', o) → o.events = [⟨"pauseContract", [], []⟩]) ∧
    (step hash s e .unpause = .ok (s', o) → o.events = [⟨"unpauseContract", [], []⟩]) := by
  constructor
  · intro h
    obtain ⟨t, hx, rfl, rfl⟩ := step_np_out rfl h
    simp only [exec, pure_ok_iff] at hx; subst hx; rfl
  · intro h
    obtain ⟨t, hx, rfl, rfl⟩ := step_np_out rfl h
    simp only [exec, pure_ok_iff] at hx; subst hx; rfl

/-- the calls that emit contract events -/
def emitting : Call → Bool
  | .confirm _ | .setTicketPrice _ _ | .filter | .select | .distribute | .addTicketsV2 _
  | .blacklist _ | .refundUsers _ | .unblacklist _ | .setSchedule2 _ | .claim => true
  | _ => false

end LP.Props.C20

/-! ## the events of an accepted call as a function of the state it ran in and the state it left -/

namespace LP
open LP.Events LP.Props LP.Props.C20

theorem exec_claim_events {hash : List Nat → List Nat} {t t' : Tx} {e : Env}
    (h : exec hash t e .claim = .ok t') : t'.o.events = t.o.events ++ claimEvents t.s t'.s e := by
  cases hv : t.s.variant.vested
  · obtain ⟨s1, rd, rf, hset, hev⟩ := exec_claim_plain_events hv h
    obtain ⟨hcl, hrf, _⟩ := settle_refund hset
    have hv2 : t.s.variant.isV2 = false := by
      cases hvv : t.s.variant <;> first | rfl | (rw [hvv] at hv; cases hv)
    rw [hev, claimEvents, releaseEvents, if_pos hcl, refundEvents, ← hrf, hv2]
    simp
  · rw [exec_claim_vested hash t e hv] at h
    exact claimVested_events h

/-- the size of `a`'s allocation record (`ticketsFor` without the error case) -/
def allotted (s : State) (a : Nat) : Nat :=
  match s.range a with
  | none => 0
  | some r => r.last - r.first + 1

/-- the events of an accepted call, in the order they are emitted, as a function of the state it ran
    in and (completion of a selection step, sizes of an allocation, released amount) the state it left -/
def eventsOf (s s' : State) (e : Env) : Call → List Ev
  | .confirm n => [C07.confirmEvent s e n (allotted s e.caller)]
  | .setTicketPrice tok a => [setPriceEv e tok a]
  | .filter => if s'.flags.filtered = true then [filterDoneEv e s'.lastTicketId] else []
  | .select => if s'.flags.selected = true then [selectDoneEv e s.nrWinning] else []
  | .distribute =>
    if s'.flags.additional = true ∧ s.variant.isV2 = true
      then [distributeDoneEv e (s'.nrWinning - s.nrWinning)] else []
  | .addTicketsV2 l =>
    [addTicketsEv e (v2Users l) (s'.lastTicketId - s.lastTicketId) (s'.totalGuaranteed - s.totalGuaranteed)]
  | .blacklist l => l.filterMap (blEvent s e) ++ (if s.variant.isV2 = true then [blacklistEv e l] else [])
  | .refundUsers l => l.filterMap (blEvent s e)
  | .unblacklist l => if s.variant.isV2 = true then [unblacklistEv e l] else []
  | .setSchedule2 ms =>
    [⟨"setUnlockSchedule", [e.caller, e.round, e.epoch],
      [e.caller, e.round, e.epoch, ms.length] ++ flattenPairs ms⟩]
  | .claim => claimEvents s s' e
  | .pause => [⟨"pauseContract", [], []⟩]
  | .unpause => [⟨"unpauseContract", [], []⟩]
  | _ => []

theorem ticketsFor_allotted {s : State} {a total : Nat} (h : ticketsFor s a = .ok total) :
    total = allotted s a := by
  unfold ticketsFor at h
  unfold allotted
  split at h
  · cases h; simp [*]
  · rename_i r hr
    simp only [bind_ok_iff, pure_ok_iff] at h
    obtain ⟨d, hd, rfl⟩ := h
    rw [hr]
    unfold csub at hd
    split at hd <;> cases hd
    rfl

theorem step_events {hash : List Nat → List Nat} {s s' : State} {e : Env} {c : Call} {o : Out}
    (h : step hash s e c = .ok (s', o)) : o.events = eventsOf s s' e c := by
  cases c with
  | confirm n =>
    obtain ⟨total, hacc, _, _, _, _, hE⟩ := C07.confirm_effect hash s e n s' o h
    rw [hE, ticketsFor_allotted hacc.2.2.2.2.2.1]; rfl
  | setTicketPrice tok a => exact (setTicketPrice_exact hash s e tok a s' o h).1
  | filter =>
    obtain ⟨hr, h0, h1, _⟩ := filter_event hash s e s' o h
    rcases hr with hr | hr
    · rw [(h0 hr).1, eventsOf, if_pos (h0 hr).2]; rfl
    · rw [(h1 hr).1, eventsOf, if_neg (by rw [(h1 hr).2.1]; exact Bool.false_ne_true)]
  | select =>
    obtain ⟨hr, h0, h1, _⟩ := select_event hash s e s' o h
    rcases hr with hr | hr
    · rw [(h0 hr).1, eventsOf, if_pos (h0 hr).2.2]; rfl
    · rw [(h1 hr).1, eventsOf, if_neg]
      rw [(h1 hr).2.2, (C06.select_gate hash s e _ h).2.2]
      exact Bool.false_ne_true
  | distribute =>
    obtain ⟨hr, h0, h1, _⟩ := distribute_event hash s e s' o h
    rcases hr with hr | hr
    · obtain ⟨add, hn, _, hf, hE⟩ := h0 hr
      have : s'.nrWinning - s.nrWinning = add := by omega
      rw [hE, eventsOf, this]
      cases s.variant.isV2 <;> simp [hf, distributeDoneEv]
    · rw [(h1 hr).1, eventsOf, if_neg]
      rw [(h1 hr).2.2.2, (C06.additional_gate hash s e _ _ (.inl rfl) h).2.2]
      exact fun hh => Bool.false_ne_true hh.1
  | addTicketsV2 l => exact (addTicketsV2_event hash s e l s' o h).1
  | blacklist l => exact (blacklist_events hash s e l s' o h).1
  | refundUsers l => exact (refundUsers_events hash s e l s' o h).1
  | unblacklist l => exact (unblacklist_events hash s e l s' o h).1
  | setSchedule2 ms => exact (setSchedule2_event hash s e ms s' o h).1
  | claim =>
    obtain ⟨t, hx, rfl, rfl⟩ := step_np_out rfl h
    exact (exec_claim_events hx).trans (List.nil_append _)
  | pause => exact (pause_events hash s e s' o).1 h
  | unpause => exact (pause_events hash s e s' o).2 h
  | _ =>
    obtain ⟨m, t, _, _, _, hx, _, rfl⟩ := step_ok_inv h
    exact exec_no_events rfl hx

theorem mem_claimEvents {s s' : State} {e : Env} {ev : Ev} (h : ev ∈ claimEvents s s' e) :
    (ev.name = "refundTicketPayment" ∨ ev.name = "claimLaunchpadTokens") ∧
    ev.topics = [e.caller, e.round, e.epoch] := by
  unfold claimEvents refundEvents releaseEvents at h
  rcases List.mem_append.mp h with h | h
  · split at h
    · split at h
      · cases List.mem_singleton.mp h; exact ⟨.inl rfl, rfl⟩
      · cases h
    · cases h
  · split at h
    · cases List.mem_singleton.mp h; exact ⟨.inr rfl, rfl⟩
    · cases h

/-- an event is one of the framework's two topic-less pause events or carries the topics of its
    transaction -/
def Indexed (e : Env) (c : Call) (ev : Ev) : Prop :=
  (c = .pause ∧ ev = ⟨"pauseContract", [], []⟩) ∨ (c = .unpause ∧ ev = ⟨"unpauseContract", [], []⟩) ∨
    ev.topics = [e.caller, e.round, e.epoch]

theorem eventsOf_shape (s s' : State) (e : Env) (c : Call) : ∀ ev ∈ eventsOf s s' e c,
    ev.name ∈ el_namesOf c ∧ Indexed e c ev := by
  have bl : ∀ {l : List Nat} {ns : List String}, "refundTicketPayment" ∈ ns →
      ∀ ev ∈ l.filterMap (blEvent s e), ev.name ∈ ns ∧ Indexed e c ev :=
    fun hn _ hev =>
      ⟨mem_filterMap_blEvent_name hev ▸ hn, .inr (.inr (mem_filterMap_blEvent_topics hev))⟩
  cases c <;> unfold eventsOf
  case confirm n => exact all_one ⟨.head _, .inr (.inr rfl)⟩
  case setTicketPrice tok a => exact all_one ⟨.head _, .inr (.inr rfl)⟩
  case filter => exact all_opt ⟨.head _, .inr (.inr rfl)⟩
  case select => exact all_opt ⟨.head _, .inr (.inr rfl)⟩
  case distribute => exact all_opt ⟨.head _, .inr (.inr rfl)⟩
  case addTicketsV2 l => exact all_one ⟨.head _, .inr (.inr rfl)⟩
  case blacklist l => exact all_append (bl (.head _)) (all_opt ⟨.tail _ (.head _), .inr (.inr rfl)⟩)
  case refundUsers l => exact bl (.head _)
  case unblacklist l => exact all_opt ⟨.head _, .inr (.inr rfl)⟩
  case setSchedule2 ms => exact all_one ⟨.head _, .inr (.inr rfl)⟩
  case claim =>
    intro ev hev
    obtain ⟨h1, h2⟩ := mem_claimEvents hev
    exact ⟨by rcases h1 with h1 | h1 <;> rw [h1] <;> simp [el_namesOf], .inr (.inr h2)⟩
  case pause => exact all_one ⟨.head _, .inl ⟨rfl, rfl⟩⟩
  case unpause => exact all_one ⟨.head _, .inr (.inl ⟨rfl, rfl⟩)⟩
  all_goals exact all_nil

end LP

namespace LP.Props.C20
open LP LP.Events

/-! ## topics -/

/-- **topics**: every event emitted by any of the emitting endpoints has topics
    `[caller, round, epoch]` of the emitting transaction -/
theorem topics_of_emitted (hash : List Nat → List Nat) (s : State) (e : Env) (c : Call)
    (s' : State) (o : Out) (hc : emitting c = true) (h : step hash s e c = .ok (s', o)) :
    ∀ ev ∈ o.events, ev.topics = [e.caller, e.round, e.epoch] := by
  intro ev hev
  rcases (eventsOf_shape s s' e c ev (step_events h ▸ hev)).2 with ⟨rfl, _⟩ | ⟨rfl, _⟩ | h3
  · cases hc
  · cases hc
  · exact h3

/-! ## non-vacuity -/

/-- a v2 contract in the confirmation window: user 7 has confirmed 2 of 3 tickets at price 10,
    user 8 has an allocation and nothing confirmed -/
def exS : State :=
  { variant := .guarV2, owner := 1, lpTok := 1, perTicket := 1, payTok := .egld, price := 10,
    nrWinning := 1, cfg := ⟨5, 10, 15⟩, flags := {}, support := 2, deposited := true,
    range := fun a => if a = 7 then some ⟨1, 3⟩ else if a = 8 then some ⟨4, 4⟩ else none,
    confirmed := fun a => if a = 7 then 2 else 0,
    bal := fun t _ => if t = .egld then 20 else 0 }

def exE : Env := { caller := 2, round := 6, epoch := 3 }

/-- blacklisting [8, 7]: one refund event (user 7 only), then the v2 `addUsersToBlacklist` event;
    one transfer of 20 -/
example : ∃ s' o, step (fun x => x) exS exE (.blacklist [8, 7]) = .ok (s', o) ∧
    o.events = [⟨"refundTicketPayment", [2, 6, 3], [2, 6, 3, 2, 0, 0, 20]⟩,
                ⟨"addUsersToBlacklist", [2, 6, 3], [2, 6, 3, 2, 8, 7]⟩] ∧
    o.xfers = [(7, ⟨.egld, 0, 20⟩)] := by
  refine ⟨_, _, rfl, ?_⟩
  decide +kernel

/-- a duplicate in the list is rejected -/
example : ∃ err, step (fun x => x) exS exE (.blacklist [7, 7]) = .error err := ⟨_, rfl⟩

/-- an accepted price change before the confirmation window -/
example : ∃ s' o, step (fun x => x) exS { caller := 1, round := 2 } (.setTicketPrice (.esdt 5) 7) = .ok (s', o) ∧
    o.events = [⟨"setTicketPrice", [1, 2, 0], [1, 2, 0, 6, 0, 7]⟩] ∧ s'.price = 7 := by
  refine ⟨_, _, rfl, ?_⟩
  decide +kernel

/-- a completed filter on an empty allocation emits `filterTicketsCompleted` with 0 -/
example : ∃ s' o, step (fun x => x) { exS with range := fun _ => none, confirmed := fun _ => 0 }
      { caller := 9, round := 11 } .filter = .ok (s', o) ∧
    o.ret = [0] ∧ o.events = [⟨"filterTicketsCompleted", [9, 11, 0], [9, 11, 0, 0]⟩] := by
  refine ⟨_, _, rfl, ?_⟩
  decide +kernel

example : emitting (.blacklist [1]) = true ∧ emitting .deposit = false := by decide +kernel

end LP.Props.C20

#print axioms LP.Props.C20.observedEvents_rejected
#print axioms LP.Props.C20.observedEvents_mem
#print axioms LP.Props.C20.refund_exact
#print axioms LP.Props.C20.refund_insufficient
#print axioms LP.Props.C20.blacklistMany_exact
#print axioms LP.Props.C20.blacklistMany_duplicates_rejected
#print axioms LP.Props.C20.setTicketPrice_exact
#print axioms LP.Props.C20.filter_event
#print axioms LP.Props.C20.select_event
#print axioms LP.Props.C20.distribute_event
#print axioms LP.Props.C20.addV2Many_accumulators
#print axioms LP.Props.C20.addTicketsV2_event
#print axioms LP.Props.C20.blacklist_events
#print axioms LP.Props.C20.refundUsers_events
#print axioms LP.Props.C20.unblacklist_events
#print axioms LP.Props.C20.setSchedule2_accepted_iff
#print axioms LP.Props.C20.setSchedule2_event
#print axioms LP.Props.C20.claimVested_settled_events
#print axioms LP.Props.C20.claimVested_first_events
#print axioms LP.Props.C20.claim_v2_settled_event
#print axioms LP.Props.C20.claim_plain_events
#print axioms LP.Props.C20.pause_events
#print axioms LP.Props.C20.topics_of_emitted

#print axioms LP.Props.C20.step_nopay_inv
#print axioms LP.Props.C20.blEvent_eq
#print axioms LP.Props.C20.blXfer_eq
#print axioms LP.Props.C20.mem_filterMap_blEvent_topics
#print axioms LP.step_events
#print axioms LP.eventsOf_shape
