import LP.Guaranteed
/-
  C10 — "where un-blacklisting is offered it restores": the v2 round trip on the two bookkeeping
  functions behind `refundUserTickets` / `addUsersToBlacklist` and
  `removeGuaranteedUsersFromBlacklist` (`clear_users_with_guaranteed_ticket_after_blacklist`,
  `remove_guaranteed_tickets_from_blacklist`, guaranteed_tickets_init.rs:126,152).
  In any state (no reachability assumption), once parking a holder's guarantee record is accepted,
  restoring it cannot be refused for lack of base winners: the parked tickets were just moved there.
-/
namespace LP.Props.C10roundtrip
open LP

theorem restoreV2Many_one (s : State) (u nw tg : Nat) (hr : (s.range u).isNone = false)
    (hle : sumG ((s.blUts u).getD {}).infos ≤ nw) :
    restoreV2Many [u] (s, nw, tg) =
      .ok ({ s with
             whitelist := if sumG ((s.blUts u).getD {}).infos > 0 then (setInsert s.whitelist u).1
                          else s.whitelist,
             blUts := upd s.blUts u none, uts := upd s.uts u (some ((s.blUts u).getD {})) },
           nw - sumG ((s.blUts u).getD {}).infos, tg + sumG ((s.blUts u).getD {}).infos) := by
  have hng : ¬ sumG ((s.blUts u).getD {}).infos > nw := Nat.not_lt.mpr hle
  by_cases hpos : sumG ((s.blUts u).getD {}).infos > 0
  · simp only [restoreV2Many, hr, hpos, hng, Bool.false_eq_true, ↓reduceIte]
  · simp only [restoreV2Many, hr, hpos, Bool.false_eq_true, ↓reduceIte]
    rw [Nat.eq_zero_of_not_pos hpos]
    rfl

/-- **C10 round trip, v2** (one holder with an allocation record, any state): the restore is
    accepted and gives back the record (the empty record if there was none), the base-winner count
    and the reserve of before.  `bl`: the blacklist flags may change
    in between, as `remove_users_from_blacklist` does. -/
theorem clear_then_restore_v2 (s s1 : State) (u : Nat) (hr : (s.range u).isSome = true)
    (h : clearGuaranteedV2 s [u] = .ok s1) (bl : Nat → Bool) :
    ∃ s2, restoreGuaranteedV2 { s1 with blacklist := bl } [u] = .ok s2 ∧
      s2.uts u = some ((s.uts u).getD {}) ∧ s2.blUts u = none ∧
      s2.nrWinning = s.nrWinning ∧ s2.totalGuaranteed = s.totalGuaranteed ∧
      (∀ a, a ≠ u → s2.uts a = s.uts a ∧ s2.blUts a = s.blUts a) ∧
      s2.range = s.range ∧ s2.confirmed = s.confirmed ∧ s2.status = s.status := by
  have hr' : (s.range u).isNone = false := by
    cases hx : s.range u with
    | none => rw [hx] at hr; cases hr
    | some r => rfl
  by_cases hle : sumG ((s.uts u).getD {}).infos ≤ s.totalGuaranteed
  · simp only [clearGuaranteedV2, clearV2Many, csub, hle, ↓reduceIte, bind, Except.bind, pure,
      Except.pure] at h
    injection h with h
    subst h
    refine ⟨?s2, ?hres, ?_⟩
    case hres =>
      -- the parked record is read back from `blUts u`; its tickets were just added to `nrWinning`
      rw [restoreGuaranteedV2, restoreV2Many_one]
      · rfl
      · exact hr'
      · simp only [upd_same, Option.getD_some]
        exact Nat.le_add_left _ _
    · simp only [upd_same, Option.getD_some]
      refine ⟨trivial, trivial, Nat.add_sub_cancel _ _, Nat.sub_add_cancel hle, fun a ha => ?_,
        trivial, trivial, trivial⟩
      simp only [upd_other _ _ _ _ ha, and_self]
  · simp only [clearGuaranteedV2, clearV2Many, csub, hle, ↓reduceIte, bind, Except.bind] at h
    cases h

/-- non-vacuity: holder 8 (allocation 4..6, guarantee "1 ticket if 2 confirmed"; one reserved
    ticket, two base winners) is parked and restored -/
def rtS : State :=
  { variant := .guarV2, owner := 1, lpTok := 1, perTicket := 1, payTok := .egld, price := 10,
    nrWinning := 2, totalGuaranteed := 1, cfg := ⟨5, 10, 15⟩, flags := {}, support := 2,
    range := fun a => if a = 7 then some ⟨1, 3⟩ else if a = 8 then some ⟨4, 6⟩ else none,
    whitelist := [8], uts := fun a => if a = 8 then some { a := 3, infos := [(1, 2)] } else none,
    bal := fun _ _ => 0 }

example : (rtS.range 8).isSome = true ∧ ∃ s1, clearGuaranteedV2 rtS [8] = .ok s1 ∧
    s1.nrWinning = 3 ∧ s1.totalGuaranteed = 0 ∧ s1.uts 8 = none ∧
    ∃ s2, restoreGuaranteedV2 { s1 with blacklist := fun _ => false } [8] = .ok s2 ∧
      s2.nrWinning = 2 ∧ s2.totalGuaranteed = 1 ∧ s2.uts 8 = some { a := 3, infos := [(1, 2)] } :=
  ⟨rfl, _, rfl, rfl, rfl, rfl, _, rfl, rfl, rfl, rfl⟩

end LP.Props.C10roundtrip

#print axioms LP.Props.C10roundtrip.clear_then_restore_v2
