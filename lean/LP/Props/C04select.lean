import LP.Proofs.Resume
import LP.Proofs.ResumeFrame
/-
  C04 "interrupted operations resume to the same result; the seed is fixed by the first call", at
  endpoint level, for `selectWinners`, `selectNft`, `distribute` (`filterTickets` is in C08); for
  `secondary` only which call takes which seed (no chunked = single theorem); and the frame
  between the calls of an interrupted operation.  The loops and the schedules of calls are
  analysed in LP/Proofs/Resume.lean, the frame in LP/Proofs/ResumeFrame.lean.

  Vocabulary (LP/Proofs/EndpointDef.lean, NftDraw.lean, Resume.lean, ResumeFrame.lean):
  * `callTx s e b`     the transaction record of a fresh call on storage `s` in environment `e`
                       (its seeds and script) with iteration budget `b`, empty output;
  * `firstRng seeds`   the generator `Random::default()` makes from the first seed;
  * `DCtx`             the two components of a transaction record that `Tx.draw` touches (hook
                       script, draw log); the loops are analysed on *cores* (`SelCore`, `NCore`,
                       `LCore`) = loop state with a `DCtx` instead of the transaction record;
  * `selCoreAt s e` / `nftCoreAt s e` / `guarOpOf (callTx s e b)`   the loop state / cursor a call
                       in environment `e` starts from: reloaded from `s.op` when an operation is
                       saved (then `e.seeds` is irrelevant), fresh from `firstRng e.seeds` otherwise;
  * `selectCalls`, `nftCalls`, `distCalls hash cs s`   successive accepted calls, call `i` in its
                       own environment with its own budget; result = final storage and the
                       concatenation of the calls' draw logs;
  * `SelectPre`, `NftPre`, `DistPre s e`   the gates of the endpoint pass in environment `e`;
  * `NftReady s`       `payers` has no duplicates and is disjoint from `nftWinners`;
  * `State.cursor`, `Call.resumes`   the saved cursor + everything the loops work on; the endpoint
                       that continues a given saved operation.
-/
namespace LP.Props.C04select
open LP

variable (hash : List Nat → List Nat)

/-! ## `selectWinners` -/

/-- an interrupted call stores `op := .select rng pos` with the two updated maps, returns `[1]`,
    and changes nothing else -/
theorem select_interrupted (t : Tx) (e : Env) (y y' : SelCore) (b : Option Nat)
    (hp : SelectPre t.s e) (hy : selCoreOf t = some y)
    (hrun : runWhile (selCoreBody hash t.s.nrWinning t.s.lastTicketId) (t.s.nrWinning + 2)
              t.c.budget y = .ok (y', b, .interrupted)) :
    ∃ t', selectWinners hash t e = .ok t' ∧
      t'.s = { t.s with status := y'.status, posToId := y'.posToId,
                        op := .select y'.rng y'.pos } ∧
      t'.o.ret = [1] ∧ t'.o.events = t.o.events ∧ t'.o.xfers = t.o.xfers ∧
      t'.o.locks = t.o.locks ∧ t'.o.sfts = t.o.sfts ∧ t'.o.draws = y'.d.log := by
  refine ⟨selectTxInt t y' b, ?_, rfl, rfl, ?_, ?_, ?_, ?_, rfl⟩
  · rw [selectWinners_eq hash t e y hp hy, hrun]; rfl
  all_goals simp only [selectTxInt, Tx.withDctx, selTxOf_o]

/-- the same on the model's own loop (`SelSt`, `selectBody`) instead of the core -/
theorem select_interrupted_model (t : Tx) (e : Env) (x x' : SelSt) (b : Option Nat)
    (hp : SelectPre t.s e) (hx : selStOf t = some x)
    (hrun : runWhile (selectBody hash t.s.nrWinning t.s.lastTicketId) (t.s.nrWinning + 2)
              t.c.budget x = .ok (x', b, .interrupted)) :
    ∃ t', selectWinners hash t e = .ok t' ∧
      t'.s = { t.s with status := x'.status, posToId := x'.posToId,
                        op := .select x'.rng x'.pos } ∧
      t'.o.ret = [1] ∧ t'.o.events = t.o.events ∧ t'.o.xfers = t.o.xfers ∧
      t'.o.draws = x'.tx.o.draws := by
  obtain ⟨y, hy, rfl⟩ := selStOf_some t x hx
  rw [runWhile_map _ _ _ (selectBody_lift hash _ _ _)] at hrun
  cases hr : runWhile (selCoreBody hash t.s.nrWinning t.s.lastTicketId) (t.s.nrWinning + 2)
      t.c.budget y with
  | error err => rw [hr] at hrun; cases hrun
  | ok q =>
    obtain ⟨y', b', st⟩ := q
    rw [hr] at hrun
    simp only [Except.map, Except.ok.injEq, Prod.mk.injEq] at hrun
    obtain ⟨rfl, rfl, rfl⟩ := hrun
    obtain ⟨t', h1, h2, h3, h4, h5, _, _, h8⟩ :=
      select_interrupted hash t e y y' b' hp hy hr
    exact ⟨t', h1, h2, h3, h4, h5, h8⟩

theorem select_eq (t : Tx) (e : Env) (y : SelCore) (hp : SelectPre t.s e)
    (hy : selCoreOf t = some y) :
    selectWinners hash t e =
      selectOutcome t e (runWhile (selCoreBody hash t.s.nrWinning t.s.lastTicketId)
        (t.s.nrWinning + 2) t.c.budget y) :=
  selectWinners_eq hash t e y hp hy

/-- a resumed call leaves the seeds of its transaction untouched; a call that starts the operation
    pops exactly one -/
theorem select_seeds (t t' : Tx) (e : Env) (h : selectWinners hash t e = .ok t') :
    t'.c.seeds = (match t.s.op with | .none => t.c.seeds.tail | _ => t.c.seeds) := by
  obtain ⟨_, y, y', b, hy, hc⟩ := selectWinners_ok_cases hash t t' e h
  have : t'.c.seeds = (selTxOf t).c.seeds := by
    rcases hc with ⟨_, rfl⟩ | ⟨_, rfl⟩ <;> rfl
  rw [this]
  exact selTxOf_seeds t

/-- a resumed call does not depend on its environment's seeds (nor on caller, round, epoch, as long
    as the gates pass): later callers or block seeds cannot re-roll the draw -/
theorem select_resumed_env_irrelevant (s : State) (r : Rng) (p : Nat)
    (hop : s.op = .select r p) (e e' : Env) (b : Option Nat) (hscr : e.script = e'.script)
    (hp : SelectPre s e) (hp' : SelectPre s e') :
    (selectWinners hash (callTx s e b) e).map (fun t => (t.s, t.o.ret, t.o.draws)) =
    (selectWinners hash (callTx s e' b) e').map (fun t => (t.s, t.o.ret, t.o.draws)) := by
  have hy := selCoreOf_resumed (callTx s e b) r p hop
  have hy' := selCoreOf_resumed (callTx s e' b) r p hop
  rw [selectWinners_eq hash _ e _ hp hy, selectWinners_eq hash _ e' _ hp' hy']
  have hd : (callTx s e b).dctx = (callTx s e' b).dctx := by
    simp only [callTx, Tx.dctx, hscr]
  rw [hd]
  have key : ∀ q : Res (SelCore × Option Nat × LoopStatus),
      (selectOutcome (callTx s e b) e q).map (fun t => (t.s, t.o.ret, t.o.draws)) =
      (selectOutcome (callTx s e' b) e' q).map (fun t => (t.s, t.o.ret, t.o.draws)) := by
    intro q
    cases q with
    | error err => rfl
    | ok q =>
      obtain ⟨y', b', st⟩ := q
      cases st
      · simp only [selectOutcome, selectTxDone, Except.map, Tx.emit, selTxOf, callTx, hop, Tx.withDctx,
          selectDone]
      · simp only [selectOutcome, selectTxInt, Except.map, selTxOf, callTx, hop, Tx.withDctx,
          selectSaved]
      · rfl
  exact key _

/-- chunked = single, from whatever cursor the storage holds: the WHOLE final storage and the
    concatenated draw log are those of one unbudgeted call starting from the same loop state -/
theorem selectCalls_eq_single (e0 : Env) (b0 : Option Nat) (rest : List (Env × Option Nat))
    (s s' : State) (ds : List Nat) (e1 : Env) (t1 : Tx)
    (hscr0 : e0.script = []) (hrest : ∀ c ∈ rest, c.1.script = [])
    (hc : selectCalls hash ((e0, b0) :: rest) s = .ok (s', ds))
    (hsel : s'.flags.selected = true) (hsame : selCoreAt s e1 = selCoreAt s e0)
    (h1 : selectWinners hash (callTx s e1 none) e1 = .ok t1) :
    s' = t1.s ∧ ds = t1.o.draws :=
  (selectR hash).calls_eq_single (selectR_inv hscr0) hrest (by rw [← selectCalls_eq]; exact hc) hsel
    hsame h1

/-- in the property's form: a completing schedule of accepted calls (arbitrary budgets, callers,
    rounds, later seeds; no scripted draws) ends in exactly the storage, with the same draws, of
    ONE unbudgeted call carrying the FIRST call's first seed -/
theorem selectCalls_eq_single_fresh (e0 : Env) (b0 : Option Nat)
    (rest : List (Env × Option Nat)) (s s' : State) (ds : List Nat) (e1 : Env) (t1 : Tx)
    (hscr0 : e0.script = []) (hrest : ∀ c ∈ rest, c.1.script = [])
    (hscr1 : e1.script = [])
    (hc : selectCalls hash ((e0, b0) :: rest) s = .ok (s', ds))
    (hsel : s'.flags.selected = true) (hseed : e1.seeds.head? = e0.seeds.head?)
    (h1 : selectWinners hash (callTx s e1 none) e1 = .ok t1) :
    s' = t1.s ∧ ds = t1.o.draws := by
  refine selectCalls_eq_single hash e0 b0 rest s s' ds e1 t1 hscr0 hrest hc hsel ?_ h1
  apply selCoreAt_eq_of_first
  · intro _
    unfold firstRng
    cases h0 : e0.seeds <;> cases h1 : e1.seeds <;> simp_all
  · rw [hscr0, hscr1]

/-- when no operation is saved, that single call is accepted as soon as its gates pass -/
theorem select_single_accepted (s : State) (e : Env) (hop : s.op = .none) (hp : SelectPre s e) :
    ∃ t yf, selectWinners hash (callTx s e none) e = .ok t ∧ t.s = selectDone s yf ∧
      t.o.ret = [0] ∧ t.s.flags.selected = true ∧ t.s.op = .none := by
  obtain ⟨_, t, hc, hout⟩ := selectWinners_progress hash none (Or.inl hop) hp
  rcases hout with ⟨hr, y, hs⟩ | ⟨_, hb, _⟩
  · exact ⟨t, y, hc, hs, hr, by rw [hs]; rfl, by rw [hs]; rfl⟩
  · exact absurd rfl hb

theorem selectCalls_deterministic (e0 e0' : Env) (b0 b0' : Option Nat)
    (rest rest' : List (Env × Option Nat)) (s s1 s2 : State) (ds1 ds2 : List Nat)
    (hscr0 : e0.script = []) (hrest : ∀ c ∈ rest, c.1.script = [])
    (hscr0' : e0'.script = []) (hrest' : ∀ c ∈ rest', c.1.script = [])
    (hc : selectCalls hash ((e0, b0) :: rest) s = .ok (s1, ds1))
    (hc' : selectCalls hash ((e0', b0') :: rest') s = .ok (s2, ds2))
    (hsel : s1.flags.selected = true) (hsel' : s2.flags.selected = true)
    (hseed : s.op = .none → firstRng e0'.seeds = firstRng e0.seeds) :
    s1 = s2 ∧ ds1 = ds2 :=
  (selectR hash).calls_deterministic (selectR_inv hscr0) hrest hrest'
    (by rw [← selectCalls_eq]; exact hc) (by rw [← selectCalls_eq]; exact hc') hsel hsel'
    (selCoreAt_eq_of_first s e0 e0' hseed (by rw [hscr0, hscr0']))

/-- from a state without saved operation, `nrWinning + 1` calls that pass the gates complete the
    selection (each call makes at least one iteration); `cs2` = the calls after completion -/
theorem selectCalls_completes (cs : List (Env × Option Nat)) (s : State) (hop : s.op = .none)
    (hpre : ∀ c ∈ cs, SelectPre s c.1) (hscr : ∀ c ∈ cs, c.1.script = [])
    (hlen : s.nrWinning + 1 ≤ cs.length) :
    ∃ cs1 cs2 s' ds, cs = cs1 ++ cs2 ∧ selectCalls hash cs1 s = .ok (s', ds) ∧
      s'.flags.selected = true := by
  have hleft : us_selLeft s = s.nrWinning := by simp only [us_selLeft, us_selCursor, hop]; omega
  obtain ⟨cs1, cs2, s', ds, h1, h2, h3⟩ := callsOf_completes (selectR hash).ep
    (fun s1 => SelCursorOK s1 ∧ ∀ c ∈ cs, SelectPre s1 c.1) (fun e => ∃ b, (e, b) ∈ cs)
    (fun s1 => s1.flags.selected) us_selLeft
    (fun s1 e b hg _ hq => by
      obtain ⟨b0, hmem⟩ := hq
      obtain ⟨_, t', hcall, hout⟩ := selectWinners_progress hash b hg.1 (hg.2 _ hmem)
      refine ⟨t', hcall, ?_⟩
      rcases hout with ⟨_, y, hs⟩ | ⟨_, _, y, hs, hlt, hle⟩
      · rw [hs]; exact Or.inl rfl
      · rw [hs]
        refine Or.inr ⟨⟨Or.inr ⟨y.rng, y.pos, rfl, by omega, hle⟩,
          fun c hc => SelectPre_saved s1 y c.1 (hg.2 c hc)⟩, ?_⟩
        show s1.nrWinning + 1 - y.pos < s1.nrWinning + 1 - us_selCursor s1
        omega)
    cs s ⟨Or.inl hop, hpre⟩ (fun c hc => ⟨c.2, hc⟩) (by rw [hleft]; exact hlen)
  exact ⟨cs1, cs2, s', ds, h1, by rw [selectCalls_eq]; exact h2, h3⟩

theorem step_select (s : State) (e : Env) (h1 : e.egld = 0) (h2 : e.esdts = []) :
    step hash s e .select =
      match selectWinners hash (callTx s e e.budget) e with
      | .error err => .error err
      | .ok t => .ok (t.s, t.o) :=
  LP.step_select hash s e h1 h2

/-! ## the NFT draw (`selectNft`) -/

/-- an interrupted call saves the generator in `op := .additional (.nft rng)` and the updated
    `payers` / `nftWinners`, returns `[1]`, and changes nothing else -/
theorem nft_interrupted (t : Tx) (e : Env) (r : Rng) (y : NCore) (b : Option Nat)
    (hp : NftPre t.s e) (hr : nftRngOf t = some r)
    (hrun : runWhile (nftCoreBody hash t.s.availNfts) (t.s.payers.length + 2) t.c.budget
              (nftCoreOf t r) = .ok (y, b, .interrupted)) :
    ∃ t', selectNft hash t e = .ok t' ∧
      t'.s = { t.s with payers := y.payers, nftWinners := y.winners,
                        op := .additional (.nft y.rng) } ∧
      t'.o.ret = [1] ∧ t'.o.events = t.o.events ∧ t'.o.xfers = t.o.xfers ∧
      t'.o.draws = y.d.log := by
  refine ⟨nftTxInt t y b, by rw [selectNft_eq hash t e r hp hr, hrun]; rfl, rfl, rfl, ?_, ?_, rfl⟩
  all_goals simp only [nftTxInt, Tx.withDctx, selTxOf_o]

theorem nft_seeds (t t' : Tx) (e : Env) (h : selectNft hash t e = .ok t') :
    t'.c.seeds = (match t.s.op with | .none => t.c.seeds.tail | _ => t.c.seeds) := by
  obtain ⟨_, r, y, b, _, hc⟩ := selectNft_ok_cases hash t t' e h
  have : t'.c.seeds = (selTxOf t).c.seeds := by
    rcases hc with ⟨_, _, _, _, _, h⟩ | ⟨_, _, _, _, _, h⟩ <;> exact h
  rw [this]
  exact selTxOf_seeds t

theorem nft_resumed_env_irrelevant (s : State) (r : Rng) (hop : s.op = .additional (.nft r))
    (e e' : Env) (b : Option Nat) (hscr : e.script = e'.script) (hp : NftPre s e)
    (hp' : NftPre s e') :
    (selectNft hash (callTx s e b) e).map (fun t => (t.s, t.o.ret, t.o.draws, t.o.events)) =
    (selectNft hash (callTx s e' b) e').map (fun t => (t.s, t.o.ret, t.o.draws, t.o.events)) := by
  have hr : nftRngOf (callTx s e b) = some r := by simp only [nftRngOf, callTx, hop]
  have hr' : nftRngOf (callTx s e' b) = some r := by simp only [nftRngOf, callTx, hop]
  rw [selectNft_eq hash _ e r hp hr, selectNft_eq hash _ e' r hp' hr']
  have hd : nftCoreOf (callTx s e b) r = nftCoreOf (callTx s e' b) r := by
    simp only [nftCoreOf, callTx, Tx.dctx, hscr]
  rw [hd]
  have key : ∀ q : Res (NCore × Option Nat × LoopStatus),
      (selectNftOutcome (callTx s e b) q).map (fun t => (t.s, t.o.ret, t.o.draws, t.o.events)) =
      (selectNftOutcome (callTx s e' b) q).map
        (fun t => (t.s, t.o.ret, t.o.draws, t.o.events)) := by
    intro q
    cases q with
    | error err => rfl
    | ok q =>
      obtain ⟨y', b', st⟩ := q
      cases st
      · simp only [selectNftOutcome, nftTxDone, Except.map, selTxOf, callTx, hop, Tx.withDctx, nftDone]
      · simp only [selectNftOutcome, nftTxInt, Except.map, selTxOf, callTx, hop, Tx.withDctx, nftSaved]
      · rfl
  exact key _

/-- chunked = single.  `NftReady` is what makes reloading the two counters from the list lengths on
    resumption harmless. -/
theorem nftCalls_eq_single (e0 : Env) (b0 : Option Nat) (rest : List (Env × Option Nat))
    (s s' : State) (ds : List Nat) (e1 : Env) (t1 : Tx) (hrdy : NftReady s)
    (hscr0 : e0.script = []) (hrest : ∀ c ∈ rest, c.1.script = [])
    (hc : nftCalls hash ((e0, b0) :: rest) s = .ok (s', ds))
    (hsel : s'.flags.additional = true) (hsame : nftCoreAt s e1 = nftCoreAt s e0)
    (h1 : selectNft hash (callTx s e1 none) e1 = .ok t1) :
    s' = t1.s ∧ ds = t1.o.draws :=
  (nftR hash).calls_eq_single
    (fun y hy => have ⟨hi, hd⟩ := nftCoreAt_inv s e0 y hy hrdy; ⟨hi, by rw [hd]; exact hscr0⟩)
    hrest (by rw [← nftCalls_eq]; exact hc) hsel hsame h1

/-- `hsame` holds when the single call carries the first call's first seed -/
theorem nftCoreAt_same (s : State) (e0 e1 : Env)
    (hseed : s.op = .none → firstRng e1.seeds = firstRng e0.seeds)
    (hscr : e1.script = e0.script) : nftCoreAt s e1 = nftCoreAt s e0 := by
  unfold nftCoreAt nftRngOf nftCoreOf
  rcases hop : s.op with _ | _ | _ | (g | r)
  · simp only [callTx, hop, Tx.freshRng_fst, Tx.dctx, hscr, hseed hop]
  all_goals simp only [callTx, hop, Tx.dctx, hscr]

theorem nftCalls_completes (cs : List (Env × Option Nat)) (s : State) (hop : s.op = .none)
    (hrdy : NftReady s) (hpre : ∀ c ∈ cs, NftPre s c.1) (hscr : ∀ c ∈ cs, c.1.script = [])
    (hw : s.nftWinners.length ≤ s.availNfts)
    (hlen : min s.availNfts s.payers.length + 1 ≤ cs.length) :
    ∃ cs1 cs2 s' ds, cs = cs1 ++ cs2 ∧ nftCalls hash cs1 s = .ok (s', ds) ∧
      s'.flags.additional = true := by
  obtain ⟨cs1, cs2, s', ds, h1, h2, h3⟩ := callsOf_completes (nftR hash).ep
    (fun s1 => (s1.op = .none ∨ ∃ rg, s1.op = .additional (.nft rg)) ∧ NftReady s1 ∧
      s1.nftWinners.length ≤ s1.availNfts ∧ ∀ c ∈ cs, NftPre s1 c.1)
    (fun e => ∃ b, (e, b) ∈ cs) (fun s1 => s1.flags.additional) us_nftLeft
    (fun s1 e b hg _ hq => by
      obtain ⟨b0, hmem⟩ := hq
      obtain ⟨t', hcall, hout⟩ := selectNft_progress hash b hg.1 hg.2.1 hg.2.2.1 (hg.2.2.2 _ hmem)
      refine ⟨t', hcall, ?_⟩
      rcases hout with ⟨_, y, hs⟩ | ⟨_, _, y, hs, hr, hw', hlt⟩
      · rw [hs]; exact Or.inl rfl
      · rw [hs]
        exact Or.inr ⟨⟨Or.inr ⟨y.rng, rfl⟩, hr, hw',
          fun c hc => NftPre_saved s1 y c.1 (hg.2.2.2 c hc)⟩, hlt⟩)
    cs s ⟨Or.inl hop, hrdy, hw, hpre⟩ (fun c hc => ⟨c.2, hc⟩) (by unfold us_nftLeft; omega)
  exact ⟨cs1, cs2, s', ds, h1, by rw [nftCalls_eq]; exact h2, h3⟩

/-! ## `distribute` -/

/-- an accepted call that does not complete the step saves a `.guar` cursor, returns `[1]`, and
    writes only `whitelist`, `status`, `posToId` and the cursor -/
theorem dist_interrupted_saves (t t' : Tx) (e : Env) (h : distribute hash t e = .ok t')
    (hnd : t'.s.flags.additional = false) :
    ∃ g', t'.s.op = .additional (.guar g') ∧ t'.o.ret = [1] ∧ t'.o.events = t.o.events ∧
      { t'.s with whitelist := t.s.whitelist, status := t.s.status, posToId := t.s.posToId,
                  op := t.s.op } = t.s := by
  obtain ⟨_, g, x, b1, _, _, hcs⟩ := distribute_ok_cases hash _ _ _ h
  rcases hcs with ⟨_, hs1, hr, _, hev⟩ | ⟨_, z, b2, ⟨_, hs1, hr, _, hev⟩ | ⟨_, hs1, _⟩⟩
  · exact ⟨_, by rw [hs1]; rfl, hr, hev, by rw [hs1]; exact distSaved1_restore t.s g x⟩
  · exact ⟨_, by rw [hs1]; rfl, hr, hev, by rw [hs1]; exact distSaved2_restore t.s x z⟩
  · rw [hs1] at hnd; cases hnd

/-- the three ways a call is accepted, with the exact storage written in each: `distSaved1` =
    interrupted in the first loop (shorter whitelist stored, counters in the `GuarOp`), `distSaved2`
    = interrupted in the leftover loop, `distDone` -/
theorem dist_ok_cases (t t' : Tx) (e : Env) (h : distribute hash t e = .ok t') :
    DistPre t.s e ∧ ∃ g x b1, guarOpOf t = some g ∧ t'.c.seeds = (selTxOf t).c.seeds ∧
      ((runWhile (guarBody t.s) (t.s.whitelist.length + 2) t.c.budget (guarX t.s g)
          = .ok (x, b1, .interrupted) ∧ t'.s = distSaved1 t.s g x ∧ t'.o.ret = [1] ∧
          t'.o.draws = t.o.draws ∧ t'.o.events = t.o.events) ∨
       (runWhile (guarBody t.s) (t.s.whitelist.length + 2) t.c.budget (guarX t.s g)
          = .ok (x, b1, .completed) ∧ ∃ z b2,
          ((runWhile (leftCoreBody hash t.s.variant.isV2 t.s.nrWinning t.s.lastTicketId)
              (leftFuel t.s) b1 (leftZ (guarS1 t.s x) (guarG1 g x) t.dctx)
              = .ok (z, b2, .interrupted) ∧ t'.s = distSaved2 t.s x z ∧ t'.o.ret = [1] ∧
              t'.o.draws = z.d.log ∧ t'.o.events = t.o.events) ∨
           (runWhile (leftCoreBody hash t.s.variant.isV2 t.s.nrWinning t.s.lastTicketId)
              (leftFuel t.s) b1 (leftZ (guarS1 t.s x) (guarG1 g x) t.dctx)
              = .ok (z, b2, .completed) ∧ t'.s = distDone t.s x z ∧ t'.o.ret = [0] ∧
              t'.o.draws = z.d.log)))) :=
  distribute_ok_cases hash t t' e h

/-- resumed after the first loop had completed (stored whitelist empty), that loop stops at once -/
theorem dist_first_loop_skipped (s : State) (x : GSt) (fuel : Nat) (b : Option Nat)
    (h : x.usersLeft = 0) : runWhile (guarBody s) (fuel + 1) b x = .ok (x, b, .completed) :=
  guarRun_nil s x fuel b h

theorem dist_first_loop_done_nil (s : State) (fuel : Nat) (b b' : Option Nat) (g : GuarOp)
    (x' : GSt) (h : runWhile (guarBody s) fuel b (guarX s g) = .ok (x', b', .completed)) :
    x'.usersLeft = 0 ∧ x'.whitelist = [] :=
  guarRun_completed_nil s fuel b b' (guarX s g) x' h rfl

theorem dist_seeds (t t' : Tx) (e : Env) (h : distribute hash t e = .ok t') :
    t'.c.seeds = (match t.s.op with | .none => t.c.seeds.tail | _ => t.c.seeds) := by
  obtain ⟨_, g, x, b1, _, hseeds, _⟩ := distribute_ok_cases hash _ _ _ h
  rw [hseeds]
  exact selTxOf_seeds t

theorem dist_resumed_env_irrelevant (s : State) (g : GuarOp)
    (hop : s.op = .additional (.guar g)) (e e' : Env) (b : Option Nat)
    (hscr : e.script = e'.script) (hp : DistPre s e) (hp' : DistPre s e') :
    (distribute hash (callTx s e b) e).map (fun t => (t.s, t.o.ret, t.o.draws)) =
    (distribute hash (callTx s e' b) e').map (fun t => (t.s, t.o.ret, t.o.draws)) := by
  have hg : guarOpOf (callTx s e b) = some g := by simp only [guarOpOf, callTx, hop]
  have hg' : guarOpOf (callTx s e' b) = some g := by simp only [guarOpOf, callTx, hop]
  have h1 : selTxOf (callTx s e b) = callTx s e b := by simp only [selTxOf, callTx, hop]
  have h1' : selTxOf (callTx s e' b) = callTx s e' b := by simp only [selTxOf, callTx, hop]
  have hd : (callTx s e b).dctx = (callTx s e' b).dctx := by simp only [callTx, Tx.dctx, hscr]
  rw [distribute_eq hash _ e g hp hg, distribute_eq hash _ e' g hp' hg', h1, h1',
    guaranteedSubstep_eq, guaranteedSubstep_eq]
  have hcs : ∀ e, (callTx s e b).s = s := fun _ => rfl
  have hcb : ∀ e, (callTx s e b).c.budget = b := fun _ => rfl
  simp only [hcs, hcb]
  generalize runWhile (guarBody s) _ _ _ = R1
  rcases R1 with err | ⟨x, b1, _ | _ | _⟩
  · rfl
  · simp only [guarSubOutcome, hcs, hd]
    generalize runWhile (leftCoreBody hash _ _ _) _ _ _ = R2
    rcases R2 with err | ⟨z, b2, _ | _ | _⟩
    · rfl
    · cases hv : s.variant.isV2 <;>
        simp [guarSubOutcome2, distFinish, bind, Except.bind, Except.map, pure, Except.pure,
          leftTx, creditAdditional, guarS1, hv, Tx.emit, callTx, Tx.withDctx, leftG]
    · rfl
    · rfl
  · rfl
  · rfl

/-- a completing schedule = ONE unbudgeted run of the first loop followed by ONE unbudgeted run of
    the leftover loop from the state the first left -/
theorem distCalls_run (rest : List (Env × Option Nat)) (e0 : Env) (b0 : Option Nat)
    (s s' : State) (ds : List Nat) (g : GuarOp)
    (hg : guarOpOf (callTx s e0 b0) = some g) (hscr0 : e0.script = [])
    (hrest : ∀ c ∈ rest, c.1.script = [])
    (hc : distCalls hash ((e0, b0) :: rest) s = .ok (s', ds))
    (hsel : s'.flags.additional = true) :
    ∃ xf zf f1 f2,
      runWhile (guarBody s) f1 none (guarX s g) = .ok (xf, none, .completed) ∧
      runWhile (leftCoreBody hash s.variant.isV2 s.nrWinning s.lastTicketId) f2 none
        (leftZ (guarS1 s xf) (guarG1 g xf) ⟨[], []⟩) = .ok (zf, none, .completed) ∧
      s' = distDone s xf zf ∧ zf.d.log = ds :=
  LP.distCalls_run hash rest e0 b0 s s' ds g hg hscr0 hrest hc hsel

theorem distCalls_eq_single (e0 : Env) (b0 : Option Nat) (rest : List (Env × Option Nat))
    (s s' : State) (ds : List Nat) (e1 : Env) (t1 : Tx)
    (hscr0 : e0.script = []) (hrest : ∀ c ∈ rest, c.1.script = []) (hscr1 : e1.script = [])
    (hc : distCalls hash ((e0, b0) :: rest) s = .ok (s', ds))
    (hsel : s'.flags.additional = true)
    (hsame : guarOpOf (callTx s e1 none) = guarOpOf (callTx s e0 b0))
    (h1 : distribute hash (callTx s e1 none) e1 = .ok t1) :
    s' = t1.s ∧ ds = t1.o.draws := by
  obtain ⟨_, g, x, b1, hg, _, hcs⟩ := distribute_ok_cases hash _ _ _ h1
  obtain ⟨xf, zf, f1, f2, hr1, hr2, hfin, hlog⟩ :=
    distCalls_run hash rest e0 b0 s s' ds g (by rw [← hsame]; exact hg) hscr0 hrest hc hsel
  have hd1 : (callTx s e1 none).dctx = ⟨[], []⟩ := by simp only [callTx, Tx.dctx, hscr1]
  rcases hcs with ⟨hR1, _⟩ | ⟨hR1, z, b2, hz⟩
  · obtain ⟨k, hk⟩ := runWhile_interrupted_budget hR1
    cases hk
  · have hb1 : b1 = none := (runWhile_none_budget _ _ _ _ _ _ hR1).1
    subst hb1
    have hxx : xf = x := runWhile_completed_unique _ _ _ _ _ _ hr1 hR1
    subst hxx
    rw [hd1] at hz
    rcases hz with ⟨hR2, _⟩ | ⟨hR2, hs1, _, hdr⟩
    · obtain ⟨k, hk⟩ := runWhile_interrupted_budget hR2
      cases hk
    · have hR2' := runWhile_completed_any_budget _ _ _ _ _ _ hR2
      have hzz : zf = z := runWhile_completed_unique _ _ _ _ _ _ hr2 hR2'
      subst hzz
      exact ⟨by rw [hfin, hs1]; rfl, by rw [← hlog, hdr]⟩

/-- `hsame` holds when the single call carries the first call's first seed -/
theorem guarOpOf_same (s : State) (e0 e1 : Env) (b0 : Option Nat)
    (hseed : s.op = .none → firstRng e1.seeds = firstRng e0.seeds) :
    guarOpOf (callTx s e1 none) = guarOpOf (callTx s e0 b0) := by
  unfold guarOpOf
  rcases hop : s.op with _ | _ | _ | (g | r)
  · simp only [callTx, hop, Tx.freshRng_fst, hseed hop]
  all_goals simp only [callTx, hop]

theorem dist_whitelist_progress (t t' : Tx) (e : Env) (h : distribute hash t e = .ok t') :
    t'.s.whitelist = [] ∨ t'.s.whitelist.length < t.s.whitelist.length :=
  distribute_whitelist_progress hash t t' e h

theorem dist_first_loop_completes (cs : List (Env × Option Nat)) (s s' : State) (ds : List Nat)
    (h : distCalls hash cs s = .ok (s', ds)) (hlen : s.whitelist.length + 1 ≤ cs.length) :
    s'.whitelist = [] := by
  rcases distCalls_whitelist_progress hash cs s s' ds h with h1 | ⟨_, h1⟩
  · omega
  · exact h1

theorem dist_first_loop_total (s : State) (g : GuarOp) (b : Option Nat) :
    ∃ x b' st, runWhile (guarBody s) (s.whitelist.length + 2) b (guarX s g) = .ok (x, b', st) ∧
      st ≠ .outOfFuel :=
  guarRun_total s g b

/-! ## `secondary` -/

/-- one seed is taken when the call starts the operation, one more — for the NFT generator —
    exactly in the call in which the guaranteed sub-step completes, none after -/
theorem secondary_seeds (t t' : Tx) (e : Env) (h : secondary hash t e = .ok t') :
    match t.s.op with
    | .none =>
      (t'.s.op.isGuar = true ∧ t'.c.seeds = t.c.seeds.tail) ∨
      (t'.s.op.isGuar = false ∧ t'.c.seeds = t.c.seeds.tail.tail)
    | .additional (.guar _) =>
      (t'.s.op.isGuar = true ∧ t'.c.seeds = t.c.seeds) ∨
      (t'.s.op.isGuar = false ∧ t'.c.seeds = t.c.seeds.tail)
    | .additional (.nft _) => t'.s.op.isGuar = false ∧ t'.c.seeds = t.c.seeds
    | _ => False := by
  obtain ⟨_, cur, hl, h⟩ := (secondary_iff hash t t' e).mp h
  obtain ⟨_, hc⟩ := (secLoadTx_ok_iff t cur _).mp hl
  obtain ⟨r1, h1, h2⟩ := (bind_ok_iff _ _ _).mp h
  have hs0 := selTxOf_seeds t
  have hguar : ∀ g, cur = .guar g →
      (t'.s.op.isGuar = true ∧ t'.c.seeds = (selTxOf t).c.seeds) ∨
      (t'.s.op.isGuar = false ∧ t'.c.seeds = (selTxOf t).c.seeds.tail) := by
    rintro g rfl
    rcases secStage1_guar_seeds h1 with ⟨t1, rfl, hg, hs⟩ | ⟨t1, r, rfl, hs⟩
    · cases h2; exact Or.inl ⟨hg, hs⟩
    · obtain ⟨hg, hs'⟩ := secStage2_inr_seeds h2
      exact Or.inr ⟨hg, hs'.trans hs⟩
  rcases hop : t.s.op with _ | _ | _ | (g0 | r0) <;> rw [hop] at hs0 <;>
    simp only [guarOpOf, hop, Option.some.injEq, reduceCtorEq, and_false, exists_false, or_false,
      false_or, Op.additional.injEq, AddData.nft.injEq] at hc
  · obtain ⟨g, hcur, _⟩ := hc
    have k := hguar g hcur
    rw [hs0] at k; exact k
  · obtain ⟨g, hcur, _⟩ := hc
    have k := hguar g hcur
    rw [hs0] at k; exact k
  · obtain ⟨r, rfl, _⟩ := hc
    cases h1
    have k := secStage2_inr_seeds h2
    rw [hs0] at k; exact k

theorem secondary_nft_phase_no_seed (t t' : Tx) (e : Env) (r : Rng)
    (hop : t.s.op = .additional (.nft r)) (h : secondary hash t e = .ok t') :
    t'.c.seeds = t.c.seeds ∧ t'.s.op.isGuar = false := by
  have := secondary_seeds hash t t' e h
  rw [hop] at this
  exact ⟨this.2, this.1⟩

theorem secondary_guar_phase_no_seed (t t' : Tx) (e : Env) (g : GuarOp)
    (hop : t.s.op = .additional (.guar g)) (h : secondary hash t e = .ok t')
    (hstill : t'.s.op.isGuar = true) : t'.c.seeds = t.c.seeds := by
  have := secondary_seeds hash t t' e h
  rw [hop] at this
  rcases this with h1 | h1
  · exact h1.2
  · rw [hstill] at h1; cases h1.1

/-- the NFT generator is made in the call in which the guaranteed sub-step completes, from the
    first seed that call has not used yet -/
theorem secondary_nft_rng (t : Tx) (e : Env) (g g1 : GuarOp) (t1 : Tx) (hp : NftPre t.s e)
    (hg : guarOpOf t = some g)
    (hsub : guaranteedSubstep hash (selTxOf t) g = .ok (t1, g1, .completed)) :
    secondary hash t e =
      (nftSubstep hash (t1.setS (creditAdditional t1.s g1.additional)).freshRng.2
        (firstRng (selTxOf t).c.seeds) >>= secNftFinish) := by
  have hfr : (t1.setS (creditAdditional t1.s g1.additional)).freshRng.1 =
      firstRng (selTxOf t).c.seeds := by
    rw [Tx.freshRng_fst, ← guaranteedSubstep_seeds hash _ _ _ _ _ hsub]; rfl
  rw [secondary_eq_guar hash t e g hp hg, hsub, ← hfr]
  rfl

/-! ## frame between the calls of an interrupted operation -/

/-- while an operation is saved, a transaction accepted in the winner-selection stage either is
    the endpoint that resumes it or leaves the cursor (`op`, `status`, `posToId`, `whitelist`,
    `payers`, `nftWinners`, `range`, `batch`, `confirmed`, `lastTicketId`, `nrWinning`) alone -/
theorem cursor_frame {s s' : State} {e : Env} {c : Call} {o : Out}
    (h : step hash s e c = .ok (s', o)) (hop : s.op ≠ .none)
    (hst : s.stage e = .winnerSelection) :
    c.resumes s.op = true ∨ s'.cursor = s.cursor :=
  LP.cursor_frame h hop hst

/-- … and the completion flags as well: a mismatching selection endpoint is rejected -/
theorem flags_frame_saved {s s' : State} {e : Env} {c : Call} {o : Out}
    (h : step hash s e c = .ok (s', o)) (hop : s.op ≠ .none) (hres : c.resumes s.op = false) :
    s'.flags = s.flags :=
  LP.flags_frame_saved h hop hres

/-- along a whole history from the selection round on, none of whose calls is the endpoint resuming
    the saved operation -/
theorem cursor_frame_run (txs : List (Env × Call)) (s : State) (hop : s.op ≠ .none)
    (hfl : (s.flags.selected && s.flags.additional) = false) (hconf : s.cfg.conf ≤ s.cfg.sel)
    (hround : ∀ p ∈ txs, s.cfg.sel ≤ p.1.round) (hres : ∀ p ∈ txs, p.2.resumes s.op = false) :
    (run hash s txs).cursor = s.cursor ∧ (run hash s txs).flags = s.flags :=
  LP.cursor_frame_run hash txs s hop hfl hconf hround hres

/-- from the selection round on, a contract whose two completion flags are not both set is in the
    winner-selection stage: the `hst` of `cursor_frame`.  (A saved cursor comes with `hfl` — filter /
    select cursors with `selected = false`, additional-step cursors with `additional = false` — but
    that implication is not part of this statement, which does not mention `op`.) -/
theorem stage_of_incomplete (s : State) (e : Env) (hconf : s.cfg.conf ≤ s.cfg.sel)
    (hsel : s.cfg.sel ≤ e.round) (hfl : (s.flags.selected && s.flags.additional) = false) :
    s.stage e = .winnerSelection :=
  stage_of_incomplete' s e hconf hsel hfl

/-! ## from the model's loop bodies to the cores -/

theorem selectBody_run_core (nr last fuel : Nat) (b : Option Nat) (t0 : Tx) (y : SelCore) :
    runWhile (selectBody hash nr last) fuel b (SelCore.lift t0 y) =
      (runWhile (selCoreBody hash nr last) fuel b y).map
        (fun r => (SelCore.lift t0 r.1, r.2.1, r.2.2)) :=
  runWhile_map (SelCore.lift t0) _ _ (selectBody_lift hash nr last t0) fuel b y

theorem nftBody_run_core (total fuel : Nat) (b : Option Nat) (t0 : Tx) (y : NCore) :
    runWhile (nftBody hash total) fuel b (NCore.lift t0 y) =
      (runWhile (nftCoreBody hash total) fuel b y).map
        (fun r => (NCore.lift t0 r.1, r.2.1, r.2.2)) :=
  runWhile_map (NCore.lift t0) _ _ (nftBody_lift hash total t0) fuel b y

theorem leftoverBody_run_core (v2 : Bool) (nrOrig last fuel : Nat) (b : Option Nat) (t0 : Tx)
    (z : LCore) :
    runWhile (leftoverBody hash v2 nrOrig last) fuel b (LCore.lift t0 z) =
      (runWhile (leftCoreBody hash v2 nrOrig last) fuel b z).map
        (fun r => (LCore.lift t0 r.1, r.2.1, r.2.2)) :=
  runWhile_map (LCore.lift t0) _ _ (leftoverBody_lift hash v2 nrOrig last t0) fuel b z

theorem selStOf_cases (t : Tx) :
    selStOf t =
      match t.s.op with
      | .none => some ⟨t.s.status, t.s.posToId, firstRng t.c.seeds, 1, t.freshRng.2⟩
      | .select r p => some ⟨t.s.status, t.s.posToId, r, p, t⟩
      | _ => none := by
  unfold selStOf selCoreOf selTxOf
  rcases hop : t.s.op with _ | _ | _ | _
  · show some (SelCore.lift t.freshRng.2 ⟨t.s.status, t.s.posToId, t.freshRng.1, 1, t.dctx⟩) = _
    rw [← Tx.freshRng_dctx t, Tx.freshRng_fst]
    rfl
  · rfl
  · rfl
  · rfl

/-! ## non-vacuity -/

def exHash (l : List Nat) : List Nat := l.map (fun x => (x * 7 + 3) % 256)
def exSeed (k : Nat) : List Nat := (List.range 32).map (fun i => (i * 37 + k) % 256)
def exEnv (caller round : Nat) (seeds : List (List Nat)) : Env :=
  { caller := caller, round := round, seeds := seeds }

/-- filtered, 6 tickets, 3 winners to draw -/
def exSel : State :=
  { variant := .base, owner := 1, lpTok := 7, perTicket := 100, payTok := .egld, price := 10,
    nrWinning := 3, cfg := ⟨10, 20, 30⟩,
    flags := { started := true, filtered := true, additional := true }, support := 1,
    lastTicketId := 6 }

example : SelectPre exSel (exEnv 5 20 [exSeed 1]) := ⟨rfl, rfl, rfl, rfl, rfl⟩
example : SelectPre exSel (exEnv 9 29 []) := ⟨rfl, rfl, rfl, rfl, rfl⟩

def selView (s : State) : List Bool × List Nat × Bool × Bool × Nat :=
  ((List.range 7).map s.status, (List.range 7).map s.posToId, s.flags.selected,
   decide (s.op = .none), s.claimablePayment)

/-- three calls by different callers in different rounds with different seeds, budgets 0, 0,
    unlimited, against one call with the first seed … -/
example :
    (match selectCalls exHash [(exEnv 5 20 [exSeed 1], some 0), (exEnv 6 22 [exSeed 2], some 0),
        (exEnv 7 25 [exSeed 3], none)] exSel with
     | .ok (s, ds) => some (selView s, ds)
     | .error _ => none) =
    (match selectWinners exHash (callTx exSel (exEnv 9 21 [exSeed 1, exSeed 9]) none)
        (exEnv 9 21 [exSeed 1, exSeed 9]) with
     | .ok t => some (selView t.s, t.o.draws)
     | .error _ => none) := by decide +kernel

/-- … and the common value is a completed selection of 3 tickets -/
example :
    (match selectWinners exHash (callTx exSel (exEnv 9 21 [exSeed 1]) none) (exEnv 9 21 [exSeed 1]) with
     | .ok t => some (t.s.flags.selected, t.o.ret, t.o.draws.length,
                      ((List.range 7).map t.s.status).count true)
     | .error _ => none) = some (true, [0], 3, 3) := by decide +kernel

/-- an interrupted call: cursor saved, `[1]` returned -/
example :
    (match selectWinners exHash (callTx exSel (exEnv 5 20 [exSeed 1]) (some 0)) (exEnv 5 20 [exSeed 1]) with
     | .ok t => some (t.o.ret, (match t.s.op with | .select _ p => p | _ => 0), t.s.flags.selected,
                      t.c.seeds.length)
     | .error _ => none) = some ([1], 2, false, 0) := by decide +kernel

/-- NFT draw: 4 fee payers, 2 NFTs -/
def exNft : State :=
  { variant := .nft, owner := 1, lpTok := 7, perTicket := 100, payTok := .egld, price := 10,
    nrWinning := 3, cfg := ⟨10, 20, 30⟩,
    flags := { started := true, filtered := true, selected := true }, support := 1,
    lastTicketId := 6, availNfts := 2, payers := [11, 12, 13, 14], nftCost := ⟨.egld, 0, 5⟩ }

example : NftPre exNft (exEnv 5 20 [exSeed 1]) := ⟨rfl, rfl, rfl⟩
example : NftReady exNft := ⟨by decide, by decide⟩

def nftView (s : State) : List Nat × List Nat × Bool × Bool × Nat :=
  (s.payers, s.nftWinners, s.flags.additional, decide (s.op = .none), s.claimableNft)

example :
    (match nftCalls exHash [(exEnv 5 20 [exSeed 4], some 0), (exEnv 6 22 [exSeed 2], some 0),
        (exEnv 7 25 [], some 3)] exNft with
     | .ok (s, ds) => some (nftView s, ds)
     | .error _ => none) =
    (match selectNft exHash (callTx exNft (exEnv 9 21 [exSeed 4]) none) (exEnv 9 21 [exSeed 4]) with
     | .ok t => some (nftView t.s, t.o.draws)
     | .error _ => none) := by decide +kernel

example :
    (match selectNft exHash (callTx exNft (exEnv 9 21 [exSeed 4]) none) (exEnv 9 21 [exSeed 4]) with
     | .ok t => some (t.s.nftWinners.length, t.s.payers.length, t.s.flags.additional, t.s.claimableNft)
     | .error _ => none) = some (2, 2, true, 10) := by decide +kernel

/-- distribution step (v2): two whitelisted users with 2 confirmed tickets each; user 21 holds
    tickets 1-2 and two guarantees of one ticket (thresholds 1 and 5: only the first is met),
    user 22 tickets 3-4 and one guarantee of one ticket; tickets 3 and 5 already win -/
def exDist : State :=
  { variant := .guarV2, owner := 1, lpTok := 7, perTicket := 100, payTok := .egld, price := 10,
    nrWinning := 2, cfg := ⟨10, 20, 30⟩,
    flags := { started := true, filtered := true, selected := true }, support := 1,
    lastTicketId := 6, whitelist := [21, 22], totalGuaranteed := 3,
    uts := fun a => if a = 21 then some { a := 2, infos := [(1, 1), (1, 5)] }
                    else if a = 22 then some { a := 2, infos := [(1, 1)] } else none,
    confirmed := fun a => if a = 21 then 2 else if a = 22 then 2 else 0,
    range := fun a => if a = 21 then some ⟨1, 2⟩ else if a = 22 then some ⟨3, 4⟩ else none,
    status := fun i => i = 3 || i = 5 }

example : DistPre exDist (exEnv 5 20 [exSeed 1]) := ⟨fun _ => rfl, rfl, fun _ => rfl, rfl, rfl⟩

def distView (s : State) : List Nat × List Bool × List Nat × Bool × Bool × Nat × Nat :=
  (s.whitelist, (List.range 8).map s.status, (List.range 8).map s.posToId, s.flags.additional,
   decide (s.op = .none), s.nrWinning, s.claimablePayment)

/-- four calls (budgets 0, 0, 0, unlimited; different callers, rounds, seeds): two interrupted
    in the first loop, one in the leftover loop … -/
example :
    (match distCalls exHash [(exEnv 5 20 [exSeed 1], some 0), (exEnv 6 22 [exSeed 2], some 0),
        (exEnv 7 23 [exSeed 3], some 0), (exEnv 8 25 [], none)] exDist with
     | .ok (s, ds) => some (distView s, ds)
     | .error _ => none) =
    some (([], [false, true, false, true, true, true, true, false], [0, 0, 0, 0, 5, 4, 6, 0],
           true, true, 5, 30), [19286896, 2512051972, 693007256]) := by rfl

/-- … give the storage and the draws of the single call with the first call's seed -/
example :
    (match distribute exHash (callTx exDist (exEnv 9 21 [exSeed 1]) none) (exEnv 9 21 [exSeed 1]) with
     | .ok t => some (distView t.s, t.o.draws, t.o.ret)
     | .error _ => none) =
    some (([], [false, true, false, true, true, true, true, false], [0, 0, 0, 0, 5, 4, 6, 0],
           true, true, 5, 30), [19286896, 2512051972, 693007256], [0]) := by rfl

/-- after the first three calls the whitelist is empty and a `.guar` cursor is saved -/
example :
    (match distCalls exHash [(exEnv 5 20 [exSeed 1], some 0), (exEnv 6 22 [exSeed 2], some 0),
        (exEnv 7 23 [exSeed 3], some 0)] exDist with
     | .ok (s, _) => some (s.whitelist, s.op.isGuar, s.flags.additional)
     | .error _ => none) = some ([], true, false) := by decide +kernel

/-- `secondary` (nftGuar): guaranteed step then NFT draw -/
def exSec : State :=
  { variant := .nftGuar, owner := 1, lpTok := 7, perTicket := 100, payTok := .egld, price := 10,
    nrWinning := 2, cfg := ⟨10, 20, 30⟩,
    flags := { started := true, filtered := true, selected := true }, support := 1,
    lastTicketId := 6, whitelist := [21, 22], totalGuaranteed := 2, minConfirmed := 1,
    uts := fun a => if a = 21 then some { a := 2, b := 0, c := 1, d := 0 }
                    else if a = 22 then some { a := 2, b := 0, c := 1, d := 0 } else none,
    confirmed := fun a => if a = 21 then 2 else 0,
    range := fun a => if a = 21 then some ⟨1, 2⟩ else if a = 22 then some ⟨3, 4⟩ else none,
    status := fun i => i = 3 || i = 5,
    availNfts := 1, payers := [21, 23], nftCost := ⟨.egld, 0, 5⟩ }

/-- one unlimited call offered three seeds: one for the guaranteed cursor, one for the NFT
    generator (the guaranteed sub-step completes in this call), the third stays unused -/
example :
    (match secondary exHash (callTx exSec (exEnv 9 21 [exSeed 1, exSeed 2, exSeed 3]) none)
        (exEnv 9 21 []) with
     | .ok t => some (t.s.whitelist, t.s.flags.additional, t.s.nftWinners.length, t.c.seeds.length,
                      t.o.ret)
     | .error _ => none) = some ([], true, 1, 1, [0]) := by decide +kernel

/-- an interrupted first call takes only the guaranteed cursor's seed -/
example :
    (match secondary exHash (callTx exSec (exEnv 9 21 [exSeed 1, exSeed 2, exSeed 3]) (some 0))
        (exEnv 9 21 []) with
     | .ok t => some (t.s.whitelist, t.s.op.isGuar, t.c.seeds.length, t.o.ret)
     | .error _ => none) = some ([22], true, 2, [1]) := by decide +kernel

/-- the frame: a saved `.select` cursor, `pause` is accepted and leaves the cursor alone;
    `filter` is not the matching endpoint and is rejected -/
def exSaved : State := { exSel with op := .select ⟨exSeed 1, 4⟩ 2 }

example : exSaved.op ≠ .none := by decide
example : exSaved.stage (exEnv 1 20 []) = .winnerSelection := rfl
example : (match step exHash exSaved (exEnv 1 20 []) .pause with
           | .ok (s', _) => some (decide (s'.op = exSaved.op), s'.paused)
           | .error _ => none) = some (true, true) := by decide +kernel
example : (match step exHash exSaved (exEnv 1 20 []) .filter with
           | .ok _ => true
           | .error _ => false) = false := by decide +kernel
/-- `cursor_frame_run`: pause, a foreign filter attempt, a setter, unpause — the cursor survives -/
example : (exSaved.flags.selected && exSaved.flags.additional) = false := rfl
example : ∀ p ∈ [(exEnv 1 20 [], Call.pause), (exEnv 8 21 [], Call.filter),
      (exEnv 1 22 [], Call.setSupport 4), (exEnv 1 23 [], Call.unpause)],
    Call.resumes p.2 exSaved.op = false := by decide
example : (match (run exHash exSaved [(exEnv 1 20 [], Call.pause), (exEnv 8 21 [], Call.filter),
      (exEnv 1 22 [], Call.setSupport 4), (exEnv 1 23 [], Call.unpause)]) with
    | s' => (decide (s'.op = exSaved.op), s'.paused, s'.support)) = (true, false, 4) := by decide +kernel
example : Call.resumes .select exSaved.op = true := rfl

end LP.Props.C04select

#print axioms LP.Props.C04select.select_interrupted
#print axioms LP.Props.C04select.select_eq
#print axioms LP.Props.C04select.select_seeds
#print axioms LP.Props.C04select.select_resumed_env_irrelevant
#print axioms LP.Props.C04select.selectCalls_eq_single
#print axioms LP.Props.C04select.selectCalls_eq_single_fresh
#print axioms LP.Props.C04select.select_single_accepted
#print axioms LP.Props.C04select.selectCalls_deterministic
#print axioms LP.Props.C04select.selectCalls_completes
#print axioms LP.Props.C04select.step_select
#print axioms LP.Props.C04select.nft_interrupted
#print axioms LP.Props.C04select.nft_seeds
#print axioms LP.Props.C04select.nft_resumed_env_irrelevant
#print axioms LP.Props.C04select.nftCalls_eq_single
#print axioms LP.Props.C04select.nftCoreAt_same
#print axioms LP.Props.C04select.nftCalls_completes
#print axioms LP.Props.C04select.dist_interrupted_saves
#print axioms LP.Props.C04select.dist_ok_cases
#print axioms LP.Props.C04select.dist_first_loop_skipped
#print axioms LP.Props.C04select.dist_first_loop_done_nil
#print axioms LP.Props.C04select.dist_seeds
#print axioms LP.Props.C04select.dist_resumed_env_irrelevant
#print axioms LP.Props.C04select.distCalls_run
#print axioms LP.Props.C04select.distCalls_eq_single
#print axioms LP.Props.C04select.guarOpOf_same
#print axioms LP.Props.C04select.dist_whitelist_progress
#print axioms LP.Props.C04select.dist_first_loop_completes
#print axioms LP.Props.C04select.dist_first_loop_total
#print axioms LP.Props.C04select.secondary_seeds
#print axioms LP.Props.C04select.secondary_nft_phase_no_seed
#print axioms LP.Props.C04select.secondary_guar_phase_no_seed
#print axioms LP.Props.C04select.secondary_nft_rng
#print axioms LP.Props.C04select.cursor_frame
#print axioms LP.Props.C04select.stage_of_incomplete
#print axioms LP.Props.C04select.selectBody_run_core
#print axioms LP.Props.C04select.nftBody_run_core
#print axioms LP.Props.C04select.leftoverBody_run_core
#print axioms LP.Props.C04select.selStOf_cases
#print axioms LP.Props.C04select.flags_frame_saved
#print axioms LP.Props.C04select.cursor_frame_run
#print axioms LP.Props.C04select.select_interrupted_model
