import LP.Proofs.FY
/-
  C03 (base count): the base lottery (`shuffleStep` iterated from the all-identity state)
  refines the textbook partial Fisher–Yates shuffle, and therefore marks exactly `k`
  distinct tickets of `1..n` after `k` steps.
-/
namespace LP.FY

/-- What C03 and C05 (fairness, LP/Props/C05.lean) rest on: the sparse representation
    (`status`, `posToId`) refines the textbook array.  `R` holds initially, one `shuffleStep` is one textbook swap, hence `R` holds after any `k ≤ n` steps. -/
theorem fy_refines_textbook (n : Nat) :
    R n 1 (fun _ => false) (fun _ => 0) (List.range' 1 n) ∧
    (∀ (i : Nat) (st : Nat → Bool) (pi : Nat → Nat) (arr : List Nat) (raw : Nat),
      1 ≤ i → i ≤ n → R n i st pi arr →
      R n (i + 1) (shuffleStep n st pi i raw).1 (shuffleStep n st pi i raw).2
        (swapAt arr (i - 1) (i + raw % (n - i + 1) - 1))) ∧
    (∀ raws : List Nat, raws.length ≤ n →
      R n (raws.length + 1) (fySteps n (fun _ => false, fun _ => 0) 1 raws).1
        (fySteps n (fun _ => false, fun _ => 0) 1 raws).2 (tbRun n raws)) := by
  refine ⟨R_init n, ?_, ?_⟩
  · intro i st pi arr raw h1 h2 h
    exact R_step raw h1 h2 h
  · intro raws hk
    have := R_steps (n := n) raws (i := 1) (s := (fun _ => false, fun _ => 0))
      (Nat.le_refl 1) (by omega) (R_init n)
    rw [Nat.add_comm] at this
    exact this

/-- C03, base count: after `k ≤ n` steps the winners are exactly the textbook selection
    `tbSel n raws`: `k` distinct tickets of `1..n`, nothing marked outside. -/
theorem base_lottery_winners (n : Nat) (raws : List Nat) (hk : raws.length ≤ n) :
    let st := (fySteps n (fun _ => false, fun _ => 0) 1 raws).1
    (∀ t, st t = true ↔ t ∈ tbSel n raws) ∧
    (tbSel n raws).Nodup ∧ (tbSel n raws).length = raws.length ∧
    (∀ t ∈ tbSel n raws, 1 ≤ t ∧ t ≤ n) ∧
    (∀ t, st t = true → 1 ≤ t ∧ t ≤ n) ∧
    countTrue st n = raws.length := by
  intro st
  have h := (fy_refines_textbook n).2.2 raws hk
  obtain ⟨hlen, hnd, hrange⟩ : IsSel n raws.length (tbSel n raws) := take_isSel h.perm hk
  exact ⟨h.stat, hnd, hlen, hrange, h.inside, h.count hk⟩

/-- the same for `k = min nr n` draws (`filterTickets` caps `nr_winning_tickets` at the number of
    tickets, winner_selection.rs:85-87) -/
theorem base_lottery_count_min (n nr : Nat) (raws : List Nat) (hk : raws.length = min nr n) :
    let st := (fySteps n (fun _ => false, fun _ => 0) 1 raws).1
    countTrue st n = min nr n ∧ (∀ t, st t = true → 1 ≤ t ∧ t ≤ n) ∧
    (∀ m, n ≤ m → countTrue st m = min nr n) := by
  intro st
  have h := base_lottery_winners n raws (by omega)
  refine ⟨by rw [← hk]; exact h.2.2.2.2.2, h.2.2.2.2.1, ?_⟩
  intro m hm
  rw [← hk]
  exact countTrue_eq_length st m (tbSel n raws) h.2.1
    (fun t ht => by have := h.2.2.2.1 t ht; omega)
    (fun t _ _ => h.1 t) |>.trans h.2.2.1

/-- 5 tickets, raw draws 7, 11, 1: winners 3, 5, 4 -/
example : tbSel 5 [7, 11, 1] = [3, 5, 4] ∧
    ((List.range' 1 5).filter (fySteps 5 (fun _ => false, fun _ => 0) 1 [7, 11, 1]).1) = [3, 4, 5] := by
  decide

/-- The endpoint's loop is `fySteps` on the first `nr` raw draws of the generator: uninterrupted
    and without scripted draws it completes with any `fuel ≥ nr+1` (the endpoint passes `nr+2`). -/
theorem select_loop_is_fy (hash : List Nat → List Nat) (nr last fuel : Nat) (x : SelSt)
    (hs : x.tx.c.script = []) (hp : x.pos = 1) (hf : nr + 1 ≤ fuel) :
    ∃ x', runWhile (selectBody hash nr last) fuel none x = .ok (x', none, .completed) ∧
      (x'.status, x'.posToId) = fySteps last (x.status, x.posToId) 1 (draws hash x.rng nr) ∧
      (draws hash x.rng nr).length = nr := by
  -- the loop on `x` is the image of the loop on the core of `x`, analysed in `selCore_run`
  rw [← x.lift_core, runWhile_map _ _ _ (selectBody_lift hash nr last x.tx)]
  by_cases h0 : nr = 0
  · obtain ⟨f, rfl⟩ : ∃ f, fuel = f + 1 := ⟨fuel - 1, by omega⟩
    rw [runWhile, selCoreBody_eq, if_pos h0]
    exact ⟨_, rfl, by rw [h0]; rfl, length_draws hash nr x.rng⟩
  · have hp' : x.core.pos = 1 := hp
    obtain ⟨y', hrun, _, hfy⟩ := selCore_run hash nr last fuel x.core (by omega) (by omega) (by omega)
    obtain ⟨k1, _, _⟩ := hfy hs
    rw [hp', show nr - 1 + 1 = nr by omega] at k1
    rw [hrun]
    exact ⟨_, rfl, k1, length_draws hash nr x.rng⟩

/-- C03, base count, for the loop started on cleared maps with `nr ≤ last` -/
theorem select_loop_count (hash : List Nat → List Nat) (nr last fuel : Nat) (x : SelSt)
    (hs : x.tx.c.script = []) (hp : x.pos = 1) (hf : nr + 1 ≤ fuel)
    (hst : x.status = fun _ => false) (hpi : x.posToId = fun _ => 0) (hle : nr ≤ last) :
    ∃ x', runWhile (selectBody hash nr last) fuel none x = .ok (x', none, .completed) ∧
      countTrue x'.status last = nr ∧
      (∀ t, x'.status t = true → 1 ≤ t ∧ t ≤ last) ∧
      (∀ t, x'.status t = true ↔ t ∈ tbSel last (draws hash x.rng nr)) := by
  obtain ⟨x', h1, h2, h3⟩ := select_loop_is_fy hash nr last fuel x hs hp hf
  have hb := base_lottery_winners last (draws hash x.rng nr) (by rw [h3]; exact hle)
  rw [hst, hpi] at h2
  have e : x'.status = (fySteps last (fun _ => false, fun _ => 0) 1 (draws hash x.rng nr)).1 :=
    congrArg Prod.fst h2
  rw [← e, h3] at hb
  exact ⟨x', h1, hb.2.2.2.2.2, hb.2.2.2.2.1, hb.1⟩

/-- C03, base count, at the endpoint: an uninterrupted successful `selectWinners` that starts the
    operation (none saved, no scripted draws) on cleared ticket maps with
    `nrWinning ≤ lastTicketId` (established by `filterTickets`) sets `selected` and marks exactly
    `nrWinning` distinct tickets, all in `1..lastTicketId`: the textbook selection over the fresh
    generator's draws. -/
theorem selectWinners_count (hash : List Nat → List Nat) (t : Tx) (e : Env) (t' : Tx)
    (hop : t.s.op = .none) (hb : t.c.budget = none) (hscr : t.c.script = [])
    (hst : t.s.status = fun _ => false) (hpi : t.s.posToId = fun _ => 0)
    (hle : t.s.nrWinning ≤ t.s.lastTicketId)
    (hok : selectWinners hash t e = .ok t') :
    t'.s.flags.selected = true ∧
    countTrue t'.s.status t.s.lastTicketId = t.s.nrWinning ∧
    (∀ id, t'.s.status id = true → 1 ≤ id ∧ id ≤ t.s.lastTicketId) ∧
    (∀ id, t'.s.status id = true ↔
      id ∈ tbSel t.s.lastTicketId (draws hash t.freshRng.1 t.s.nrWinning)) := by
  obtain ⟨h1, h2, _, _⟩ := selectWinners_fy hash t e t' hop hb hscr hok
  have h3 := length_draws hash t.s.nrWinning t.freshRng.1
  have hbw := base_lottery_winners t.s.lastTicketId (draws hash t.freshRng.1 t.s.nrWinning)
    (by rw [h3]; exact hle)
  rw [hst, hpi] at h1
  have e' : t'.s.status =
      (fySteps t.s.lastTicketId (fun _ => false, fun _ => 0) 1
        (draws hash t.freshRng.1 t.s.nrWinning)).1 := congrArg Prod.fst h1
  rw [← e', h3] at hbw
  exact ⟨h2, hbw.2.2.2.2.2, hbw.2.2.2.2.1, hbw.1⟩

/-- `selectWinners` on 5 tickets, 2 winners, identity "hash", all-zero seed: every draw is 0, so
    tickets 1 and 2 win -/
example :
    let t : Tx := { s := { variant := .base, owner := 1, lpTok := 2, perTicket := 1, payTok := .egld,
                           price := 1, nrWinning := 2, cfg := ⟨1, 2, 3⟩, flags := { filtered := true },
                           support := 0, lastTicketId := 5 }, c := {} }
    let e : Env := { caller := 1, round := 2 }
    (match selectWinners id t e with
     | .ok t' => (t'.s.flags.selected, (List.range' 1 7).filter t'.s.status)
     | .error _ => (false, [])) = (true, [1, 2]) := by
  decide

end LP.FY

#print axioms LP.FY.fy_refines_textbook
#print axioms LP.FY.base_lottery_winners
#print axioms LP.FY.base_lottery_count_min
#print axioms LP.FY.select_loop_is_fy
#print axioms LP.FY.select_loop_count
#print axioms LP.FY.selectWinners_count
