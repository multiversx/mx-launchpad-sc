import LP.Proofs.ReachNGFinal
import LP.Props.C14reach
import LP.Proofs.ReachOfLp
/-
  C14 / C01 / C02 / C03 / C11 for `Variant.nftGuar` (launchpad-nft-and-guaranteed-tickets) along
  reachable histories.  `ng_Reach hash s r` (LP/Proofs/ReachNGFinal.lean): `s` is reachable from some
  deployment by accepted transactions with non-decreasing rounds, each carrying EGLD or ESDT but not
  both (`EnvOK`).  The one restriction on histories is `v1_CallOK`, as for the other v1
  guaranteed-ticket launchpads (LP/Props/C01reachV1.lean): every entry of an `addTicketsV1` call
  allocates at least one ticket.  `filter`, `select` and `secondary` may be interrupted by ANY
  budget, any number of times — `secondary` in its top-up loop, its leftover loop or its NFT draw;
  draws may be scripted.  The SFT set-up is the environment action `sftSetup`; this variant has no
  un-blacklist endpoint.

  Nothing is assumed about the history of the tokens (`setNftCost` / `setTicketPrice` may change
  the fee / payment token in the AddTickets stage); hypotheses are on the CURRENT state only:
  `FeeTokenSeparate s` (configuration a), `FeeInPayToken s` (configuration b).  The launchpad-token
  theorems are stated under `¬ FeeInLpToken s`; it holds after any history, since `init` and
  `setNftCost` reject a fee in the launchpad token (LP/Props/C14feeLp.lean, which drops it).
-/
namespace LP.Props.C14reachG
open LP LP.FY LP.Props.C09 LP.Props.C14 LP.Props.C01reach LP.Props.C14reach LP.Props.AllVariants

def FeeInLpToken (s : State) : Prop := s.nftCost.tok = .esdt s.lpTok ∧ s.nftCost.nonce = 0

instance (s : State) : Decidable (FeeInLpToken s) := by unfold FeeInLpToken; infer_instance

/-- **general form**: in every reachable state — the middle of interrupted `filter` / `select` /
    `secondary` calls included — the payment-token holdings are exactly the ticket ledger plus the
    NFT fees held in the same slot -/
theorem ng_solvent_general (hash : List Nat → List Nat) (s : State) (r : Nat)
    (h : ng_Reach hash s r) :
    ∃ L : List Nat, Covers s L ∧
      (¬ AllDone s → s.bal s.payTok 0 = s.price * sumOver s.confirmed L + feeInPay s) ∧
      (AllDone s → s.bal s.payTok 0 = s.claimablePayment + sumOver (refundDue s) L + feeInPay s) :=
  (ReachOf.of_nftGuar h).solvent rfl

/-- **(a) fee token separate**: the ticket-payment ledger is exactly that of the plain launchpad -/
theorem ng_solvent_separate (hash : List Nat → List Nat) (s : State) (r : Nat)
    (h : ng_Reach hash s r) (hsep : FeeTokenSeparate s) :
    ∃ L : List Nat, Covers s L ∧ (¬ AllDone s → PayEqPre s L) ∧ (AllDone s → PayEqPost s L) :=
  (ng_reach_facts h).solvent_separate hsep

/-- **(a) the fee ledger**: holdings of the fee token = fee × (payers + drawn) before the draw
    completes, = claimableNft + fee × remaining losing payers afterwards -/
theorem ng_fee_ledger (hash : List Nat → List Nat) (s : State) (r : Nat)
    (h : ng_Reach hash s r) (hsep : FeeTokenSeparate s) : feeBal s = feeHeld s :=
  (ng_reach_facts h).fee_ledger hsep

/-- **(a) both tokens reconcile to zero** after all claims and the owner's withdrawal -/
theorem ng_nothing_left_separate (hash : List Nat → List Nat) (s : State) (r : Nat)
    (h : ng_Reach hash s r) (hsep : FeeTokenSeparate s) (hd : AllDone s)
    (hall : ∀ a, s.range a = none) (hcp : s.claimablePayment = 0) (hcn : s.claimableNft = 0) :
    s.bal s.payTok 0 = 0 ∧ feeBal s = 0 := by
  obtain ⟨h1, h2⟩ := (ng_reach_facts h).nothing_left hd hall hcp hcn
  exact ⟨h1, h2 hsep.2⟩

/-- **(b) fee token = ticket-payment token** (EGLD/EGLD): the combined ledger -/
theorem ng_solvent_same (hash : List Nat → List Nat) (s : State) (r : Nat)
    (h : ng_Reach hash s r) (hsame : FeeInPayToken s) :
    ∃ L : List Nat, Covers s L ∧ (¬ AllDone s → CombinedPre s L) ∧ (AllDone s → CombinedPost s L) :=
  (ng_reach_facts h).solvent_same hsame

/-- **(b) nothing is left** after all claims and the owner's withdrawal -/
theorem ng_nothing_left_same (hash : List Nat → List Nat) (s : State) (r : Nat)
    (h : ng_Reach hash s r) (hsame : FeeInPayToken s) (hd : AllDone s)
    (hall : ∀ a, s.range a = none) (hcp : s.claimablePayment = 0) (hcn : s.claimableNft = 0) :
    s.bal s.payTok 0 = 0 :=
  ((ng_reach_facts h).nothing_left hd hall hcp hcn).1

/-- after completion: the winning tickets still held add up to `nrWinning`, nobody holds more
    winning than confirmed tickets, every range has exactly `confirmed` tickets -/
theorem ng_three_counts (hash : List Nat → List Nat) (s : State) (r : Nat)
    (h : ng_Reach hash s r) (hd : AllDone s) :
    ∃ L : List Nat, Covers s L ∧
      s.bal s.payTok 0 = s.claimablePayment + sumOver (refundDue s) L + feeInPay s ∧
      sumOver (winCountOf s) L = s.nrWinning ∧
      (∀ a, winCountOf s a ≤ s.confirmed a) ∧
      (∀ a rg, s.range a = some rg → a ∈ L ∧ rangeLen rg = s.confirmed a) :=
  (ReachOf.of_nftGuar h).three_counts hd rfl

/-- with a separate fee token the ledger of `ng_three_counts` is `PayEqPost` -/
theorem ng_three_counts_separate (hash : List Nat → List Nat) (s : State) (r : Nat)
    (h : ng_Reach hash s r) (hd : AllDone s) (hsep : FeeTokenSeparate s) :
    ∃ L : List Nat, Covers s L ∧ PayEqPost s L ∧ sumOver (winCountOf s) L = s.nrWinning ∧
      (∀ a, winCountOf s a ≤ s.confirmed a) ∧
      (∀ a rg, s.range a = some rg → a ∈ L ∧ rangeLen rg = s.confirmed a) :=
  (ng_reach_facts h).three_counts_separate hd hsep

/-- after completion, whatever claims and withdrawals happened: the payment-token holdings cover
    the owner's recorded proceeds, the ticket refund of any participant who still has a range, and
    all NFT fees held in the same slot -/
theorem ng_claim_refund_covered (hash : List Nat → List Nat) (s : State) (r : Nat)
    (h : ng_Reach hash s r) (hd : AllDone s) (a : Nat) (rg : Range) (hr : s.range a = some rg) :
    s.claimablePayment + s.price * (s.confirmed a - winCountOf s a) + feeInPay s
      ≤ s.bal s.payTok 0 :=
  (ReachOf.of_nftGuar h).refund_covered hd hr rfl

/-! ### the completed additional step

  NOT A THEOREM: "every `secondary` call sequence completes".  The v1 leftover loop re-draws
  without consuming a position when it hits an already winning ticket, so for adversarial draw
  streams it spins until the fuel/gas runs out (`C03_leftover_v1_may_spin`, LP/Props/C03final.lean);
  such a call is rejected and leaves no trace.  Hence the statements are conditional on the call
  having completed, which is what an accepted call with `ret = [0]` is; completion under the
  no-spin hypothesis is in LP/Props/C04unstuck3.lean. -/

/-- an accepted `secondary` call returns `[0]` exactly when it completes the additional step
    (`flags.additional` set), `[1]` otherwise -/
theorem ng_secondary_ret (hash : List Nat → List Nat) (a0 : InitArgs) (s : State) (r : Nat)
    (h : ng_ReachA hash a0 s r) (e : Env) (s' : State) (o : Out) (hr : r ≤ e.round)
    (hs : step hash s e .secondary = .ok (s', o)) :
    (o.ret = [0] ∧ s'.flags.additional = true) ∨ (o.ret = [1] ∧ s'.flags.additional = false) :=
  (step_loop_outcome rfl hs).ret

/-- **final ticket winners** (conditional in the sense above): after the accepted `secondary` call
    that returns `[0]`, from any reachable state of a launchpad deployed with `a0.nrWinning` winners
    and whatever interruptions happened before: both completion flags are set, the number of winning
    flags is the stored `nrWinning` = `min (configured winners) (confirmed tickets)`, the owner's
    proceeds are `price × nrWinning`, every flag lies in `1..lastTicketId`, and no earlier winner
    lost its flag -/
theorem ng_final_winners_partial (hash : List Nat → List Nat) (a0 : InitArgs) (s : State) (r : Nat)
    (h : ng_ReachA hash a0 s r) (e : Env) (s' : State) (o : Out) (hr : r ≤ e.round)
    (hs : step hash s e .secondary = .ok (s', o)) (hret : o.ret = [0]) :
    AllDone s' ∧
    countTrue s'.status s'.lastTicketId = s'.nrWinning ∧
    s'.nrWinning = min a0.nrWinning s'.lastTicketId ∧
    s'.claimablePayment = s'.price * s'.nrWinning ∧
    (∀ t, s'.status t = true → 1 ≤ t ∧ t ≤ s'.lastTicketId) ∧
    (∀ t, s.status t = true → s'.status t = true) := by
  obtain ⟨h1, h2, _, _, h5, h6, h7, h8, h9, _⟩ :=
    ng_secondary_completion (ng_reach_WF h) hr hs hret
  exact ⟨⟨h1, h2⟩, h5, h6, h7, h8, h9⟩

/-- **guarantees honoured**: when the additional step completes, every holder `u` of a guarantee
    record `st` owns at least `min (qualified guarantee) (confirmed tickets)` winning tickets, the
    qualified guarantee being `(calcV1 st confirmed minConfirmed).1` -/
theorem ng_guarantee_honoured (hash : List Nat → List Nat) (a0 : InitArgs) (s : State) (r : Nat)
    (h : ng_ReachA hash a0 s r) (e : Env) (s' : State) (o : Out) (hr : r ≤ e.round)
    (hs : step hash s e .secondary = .ok (s', o)) (hret : o.ret = [0]) :
    (∀ u st, s'.uts u = some st →
      min (calcV1 st (s'.confirmed u) s'.minConfirmed).1 (s'.confirmed u) ≤ winCountOf s' u) ∧
    (∀ t, s'.status t = true → 1 ≤ t ∧ t ≤ s'.lastTicketId) := by
  obtain ⟨_, _, _, _, _, _, _, h8, _, h10, _⟩ :=
    ng_secondary_completion (ng_reach_WF h) hr hs hret
  exact ⟨h10, h8⟩

/-- **the NFT draw at completion**: the `secondary` call that returns `[0]` leaves
    `min availNfts (participants)` NFT winners — distinct, all fee payers, disjoint from the payers
    that remain —, keeps earlier winners, and records fee × winners as the owner's NFT proceeds -/
theorem ng_draw_completion (hash : List Nat → List Nat) (a0 : InitArgs) (s : State) (r : Nat)
    (h : ng_ReachA hash a0 s r) (e : Env) (s' : State) (o : Out) (hr : r ≤ e.round)
    (hs : step hash s e .secondary = .ok (s', o)) (hret : o.ret = [0]) :
    s'.nftWinners.length = min s.availNfts (s.payers.length + s.nftWinners.length) ∧
    s'.claimableNft = s.nftCost.amount * s'.nftWinners.length ∧
    NftOk s' ∧ (∀ a, (a ∈ s'.payers ∨ a ∈ s'.nftWinners) ↔ (a ∈ s.payers ∨ a ∈ s.nftWinners)) ∧
    s.nftWinners <+: s'.nftWinners ∧ AllDone s' := by
  obtain ⟨h1, h2, _, _, _, _, _, _, _, _, h11, h12, h13, h14, h15⟩ :=
    ng_secondary_completion (ng_reach_WF h) hr hs hret
  exact ⟨h11, h12, h13, h14, h15, ⟨h1, h2⟩⟩

theorem ng_len_of_union {P W P' W' : List Nat} (h1 : P.Nodup) (h2 : W.Nodup)
    (h3 : ∀ a, a ∈ P → a ∉ W) (k1 : P'.Nodup) (k2 : W'.Nodup) (k3 : ∀ a, a ∈ P' → a ∉ W')
    (hun : ∀ a, (a ∈ P' ∨ a ∈ W') ↔ (a ∈ P ∨ a ∈ W)) :
    P'.length + W'.length = P.length + W.length := by
  have hnd : (P ++ W).Nodup := by
    rw [List.nodup_append]
    exact ⟨h1, h2, fun a ha b hb hab => h3 a ha (hab ▸ hb)⟩
  have hnd' : (P' ++ W').Nodup := by
    rw [List.nodup_append]
    exact ⟨k1, k2, fun a ha b hb hab => k3 a ha (hab ▸ hb)⟩
  have hperm : (P' ++ W').Perm (P ++ W) := by
    rw [List.perm_ext_iff_of_nodup hnd' hnd]
    intro a
    rw [List.mem_append, List.mem_append]
    exact hun a
  have := hperm.length_eq
  rw [List.length_append, List.length_append] at this
  exact this

/-- until the guaranteed-ticket sub-step of `secondary` is complete (no `nft` cursor saved) nobody
    is drawn; so a `secondary` call that starts and completes the draw leaves exactly
    `min availNfts (number of fee payers)` winners -/
theorem ng_draw_from_start (hash : List Nat → List Nat) (a0 : InitArgs) (s : State) (r : Nat)
    (h : ng_ReachA hash a0 s r) (hop : ∀ rg, s.op ≠ .additional (.nft rg)) (e : Env) (s' : State)
    (o : Out) (hr : r ≤ e.round)
    (hs : step hash s e .secondary = .ok (s', o)) (hret : o.ret = [0]) :
    s.nftWinners = [] ∧
    s'.nftWinners.length = min s.availNfts s.payers.length ∧
    (∀ a, (a ∈ s'.payers ∨ a ∈ s'.nftWinners) ↔ a ∈ s.payers) ∧
    s'.payers.length + s'.nftWinners.length = s.payers.length := by
  have hwf := ng_reach_WF h
  obtain ⟨t, hx, _, _⟩ := ng_secondary_exec hs
  obtain ⟨hsel, hna, _⟩ := ng_secondary_split hwf hr hx
  have hw0 : s.nftWinners = [] := hwf.noWinE hna hop
  obtain ⟨h1, _, _, h4, _, _⟩ := ng_draw_completion hash a0 s r h e s' o hr hs hret
  have hlen := (ng_call_frozen hwf hr (ng_started_of_selected hwf.phase hsel) hna hs).1.len
  rw [hw0] at h1 h4 hlen
  simp only [List.length_nil, Nat.add_zero, List.not_mem_nil, or_false] at h1 h4 hlen
  exact ⟨hw0, h1, h4, hlen⟩

/-- from the start of the filter until the additional step completes the NFT participants cannot
    change: along ANY accepted calls `payers ∪ nftWinners`, its size, the fee and `availNfts` are
    constant, and whoever is drawn stays drawn -/
theorem ng_participants_frozen (hash : List Nat → List Nat) (a0 : InitArgs) (s : State) (r : Nat)
    (h : ng_ReachA hash a0 s r) (hstd : s.flags.started = true) (s2 : State) (r2 : Nat)
    (hl : ng_Later hash s r s2 r2) (hna : s2.flags.additional = false) :
    nf_Frozen s s2 :=
  ((ReachOfA.later_frozen (v := .nftGuar) rfl h hstd (ng_later_iff.mp hl)).2 hna).1

/-- **the NFT draw end to end**: `s` is any reachable state after the filter has started and before
    the base lottery is complete, so `s.payers` are the fee payers when the selection starts.  After
    ANY accepted calls (interrupted `filter` / `select` / `secondary` with any budgets, in any loop;
    anything else), the `secondary` call that returns `[0]` leaves exactly
    `min availNfts (number of fee payers)` NFT winners, distinct, all fee payers; the others remain
    in `payers`; the owner's NFT proceeds are fee × winners -/
theorem ng_draw_end_to_end (hash : List Nat → List Nat) (a0 : InitArgs) (s : State) (r : Nat)
    (h : ng_ReachA hash a0 s r) (hstd : s.flags.started = true) (hns : s.flags.selected = false)
    (s1 : State) (r1 : Nat) (hl : ng_Later hash s r s1 r1)
    (e : Env) (s2 : State) (o : Out) (hr1 : r1 ≤ e.round)
    (hs : step hash s1 e .secondary = .ok (s2, o)) (hret : o.ret = [0]) :
    s2.nftWinners.length = min s.availNfts s.payers.length ∧
    s2.claimableNft = s.nftCost.amount * s2.nftWinners.length ∧
    s2.nftWinners.Nodup ∧ s2.payers.Nodup ∧ (∀ a, a ∈ s2.payers → a ∉ s2.nftWinners) ∧
    (∀ a, (a ∈ s2.payers ∨ a ∈ s2.nftWinners) ↔ a ∈ s.payers) ∧
    s2.payers.length + s2.nftWinners.length = s.payers.length := by
  obtain ⟨hr1', hfz⟩ := ReachOfA.later_frozen (v := .nftGuar) rfl h hstd (ng_later_iff.mp hl)
  have hwf1 := ng_reach_WF hr1'
  have hw0 : s.nftWinners = [] := (ng_reach_WF h).side.noWin hns
  have hna1 : s1.flags.additional = false := (step_loop_outcome rfl hs).before
  obtain ⟨hF, hstd1⟩ := hfz hna1
  obtain ⟨f1, f2, hok2, hun2, _, _⟩ := ng_draw_completion hash a0 s1 r1 hr1' e s2 o hr1 hs hret
  exact hF.draw_end hw0 f1 f2 hok2 hun2 (ng_call_frozen hwf1 hr1 hstd1 hna1 hs).1.len

/-- during the additional step, however interrupted: the number of winning flags is between the
    stored winners and `min T0 lastTicketId` -/
theorem ng_winners_bound_reach (hash : List Nat → List Nat) (a0 : InitArgs) (s : State) (r : Nat)
    (h : ng_ReachA hash a0 s r) (hsel : s.flags.selected = true) (hna : s.flags.additional = false) :
    s.nrWinning ≤ countTrue s.status s.lastTicketId ∧
    countTrue s.status s.lastTicketId ≤ min a0.nrWinning s.lastTicketId ∧
    (∀ t, s.status t = true → 1 ≤ t ∧ t ≤ s.lastTicketId) :=
  ng_winners_bound (ng_reach_WF h) hsel hna

/-- until the first `secondary` call is accepted the whitelist is exactly the set of holders of a
    positive guarantee -/
theorem ng_whitelisted_iff (hash : List Nat → List Nat) (s : State) (r : Nat)
    (h : ng_Reach hash s r) (hna : s.flags.additional = false)
    (hop : s.flags.selected = true → s.op = .none) (u : Nat) :
    u ∈ s.whitelist ↔ ∃ st, s.uts u = some st ∧ st.c + st.d > 0 := by
  obtain ⟨T0, hwf⟩ := h.wf
  exact ng_whitelist_intact hwf hna hop u

/-- in every reachable state: the two NFT lists are duplicate-free and disjoint, at most
    `availNfts` are drawn, every payer / drawn participant has confirmed tickets, nobody is drawn
    before the base lottery and the guaranteed-ticket sub-step are complete, settled participants
    are in neither list -/
theorem ng_nft_lists (hash : List Nat → List Nat) (s : State) (r : Nat)
    (h : ng_Reach hash s r) :
    NftOk s ∧ s.nftWinners.length ≤ s.availNfts ∧
    (∀ a, a ∈ s.payers ∨ a ∈ s.nftWinners → 0 < s.confirmed a) ∧
    (s.flags.selected = false → s.nftWinners = []) ∧
    (s.flags.additional = false → (∀ rg, s.op ≠ .additional (.nft rg)) → s.nftWinners = []) ∧
    (∀ a, s.claimed a = true → a ∉ s.payers ∧ a ∉ s.nftWinners) ∧
    (s.flags.additional = false → ∀ a, s.claimed a = false) := by
  obtain ⟨a0, h⟩ := ng_Reach_iff.mp h
  have hwf := ng_reach_WF h
  have hs := hwf.side
  exact ⟨⟨hs.nodupP, hs.nodupW, hs.disj⟩, hs.winLe, hs.conf, hs.noWin, hwf.noWinE, hs.claimedOut,
    hs.fresh⟩

/-- **`LpCover` is an invariant from the deposit on** (fee not kept in the launchpad-token slot):
    the launchpad tokens held cover every outstanding winner; until the guaranteed-ticket sub-step
    is complete they even cover the whole reserve -/
theorem ng_lp_cover (hash : List Nat → List Nat) (s : State) (r : Nat)
    (h : ng_Reach hash s r) (hd : s.deposited = true) (hnl : ¬ FeeInLpToken s) :
    LP.Props.C02.LpCover s ∧
    (s.flags.additional = false → (∀ rg, s.op ≠ .additional (.nft rg)) →
      s.perTicket * (s.nrWinning + s.totalGuaranteed) ≤ s.bal (.esdt s.lpTok) 0) := by
  obtain ⟨T0, hwf⟩ := h.wf
  have L := hwf.lpSide hnl
  exact ⟨L.cover hd, fun hna hop => L.pre_guar rfl hd hna fun _ => hop⟩

/-- `nrWinning + totalGuaranteed` is the configured `T0` until the filter completes and at most `T0`
    until the guaranteed-ticket sub-step of `secondary` completes; `nrWinning ≤ T0` until the whole
    additional step does -/
theorem ng_reserve (hash : List Nat → List Nat) (a0 : InitArgs) (s : State) (r : Nat)
    (h : ng_ReachA hash a0 s r) :
    (s.flags.filtered = false → s.nrWinning + s.totalGuaranteed = a0.nrWinning) ∧
    (s.flags.additional = false → (∀ rg, s.op ≠ .additional (.nft rg)) →
      s.nrWinning + s.totalGuaranteed ≤ a0.nrWinning) ∧
    (s.flags.additional = false → s.nrWinning ≤ a0.nrWinning) :=
  have L := (ReachOfA.lpSide (v := .nftGuar) h)
  ⟨L.res_guar rfl, fun hna hop => L.owedLe rfl hna fun _ => hop, L.nrwLe rfl⟩

/-- **the owner can withdraw only the surplus**: after an accepted `claimPayment` the contract
    holds exactly the outstanding winners' launchpad tokens; both recorded proceeds are zero.  The
    hypothesis `hnl` is not used (`owner_surplus_nftGuar`, LP/Props/C14feeLp.lean, is the statement
    without it) -/
theorem ng_owner_surplus_reach (hash : List Nat → List Nat) (s : State) (r : Nat)
    (h : ng_Reach hash s r) (hnl : ¬ FeeInLpToken s) (e : Env) (s' : State) (o : Out)
    (hs : step hash s e .claimPayment = .ok (s', o)) :
    s'.bal (.esdt s'.lpTok) 0 = s'.perTicket * s'.nrWinning ∧ s'.nrWinning = s.nrWinning ∧
    s'.claimablePayment = 0 ∧ s'.claimableNft = 0 :=
  have ⟨k1, k2, k3, k4⟩ := (ReachOf.of_nftGuar h).owner_surplus rfl hs
  ⟨k1, k2, k3, k4 rfl⟩

/-- **nothing is left at the end**: once every participant has settled no winner is outstanding,
    and the owner's withdrawal leaves no launchpad token in the contract (`hnl` is not used:
    `lp_zero_at_end_nftGuar`, LP/Props/C14feeLp.lean) -/
theorem ng_lp_zero_at_end (hash : List Nat → List Nat) (s : State) (r : Nat)
    (h : ng_Reach hash s r) (hnl : ¬ FeeInLpToken s) (hd : AllDone s)
    (hall : ∀ a, s.range a = none)
    (e : Env) (s' : State) (o : Out) (hs : step hash s e .claimPayment = .ok (s', o)) :
    s.nrWinning = 0 ∧ s'.bal (.esdt s'.lpTok) 0 = 0 :=
  (ReachOf.of_nftGuar h).lp_zero_at_end rfl hd hall hs

/-- **claim categories**: an accepted `claim` in a reachable state (which is then `AllDone`) hands
    out exactly one SFT whose category is determined by membership — 1 iff drawn, 2 iff paid the
    fee and not drawn (then, and only then, the full fee is refunded), 3 iff the caller never paid
    the fee — and removes the caller from the list it was in -/
theorem ng_claim_category (hash : List Nat → List Nat) (s : State) (r : Nat)
    (h : ng_Reach hash s r) (e : Env) (s' : State) (o : Out)
    (hs : step hash s e .claim = .ok (s', o)) :
    AllDone s ∧ s.claimed e.caller = false ∧
    ∃ k, o.sfts = [(e.caller, k)] ∧
      (k = 1 ↔ e.caller ∈ s.nftWinners) ∧ (k = 2 ↔ e.caller ∈ s.payers) ∧
      (k = 3 ↔ e.caller ∉ s.nftWinners ∧ e.caller ∉ s.payers) ∧ (k = 1 ∨ k = 2 ∨ k = 3) ∧
      o.xfers = refundXfers s e.caller ++ tokenXfers s e.caller ++
        (if k = 2 then [(e.caller, s.nftCost)] else []) ∧
      e.caller ∉ s'.payers ∧ e.caller ∉ s'.nftWinners ∧ s'.claimed e.caller = true ∧ NftOk s' :=
  (ng_reach_facts h).claim_category hs

/-! ### non-vacuity

  Configuration (b), EGLD/EGLD, through the whole lifecycle: participants 7 (staking guarantee,
  2 of 3 tickets confirmed, pays the NFT fee), 8 (staking guarantee, 1 ticket), 9 (no guarantee,
  2 tickets, pays the NFT fee), `T0 = 3`, one NFT; an interrupted `filter` and FOUR `secondary`
  calls: interrupted in the top-up loop, in the leftover loop, in the NFT draw, completed. -/

theorem callOk {hash : List Nat → List Nat} {a0 : InitArgs} {s : State} {r : Nat}
    (e : Env) (c : Call)
    (h : ng_ReachA hash a0 s r) (hr : r ≤ e.round) (hok : EnvOK e) (hc : v1_CallOK c)
    (hs : isOk (step hash s e c) = true) :
    ng_ReachA hash a0 (stOf (step hash s e c) s) e.round :=
  let ⟨o, ho⟩ := stOf_spec hs s
  .call s r e c _ o h hr hok hc ho

def gArgs : InitArgs :=
  { lpTok := 1, perTicket := 5, payTok := .egld, price := 10, nrWinning := 3, conf := 5, sel := 10,
    claim := 15, minConfirmed := 1, nftCost := ⟨.egld, 0, 3⟩, availNfts := 1 }

def g0 : State := match init .nftGuar gArgs { caller := 1, round := 0 } with
  | .ok s => s
  | .error _ => default

def gAlloc : List (Nat × Nat × Nat × Bool) := [(7, 2, 1, false), (8, 1, 0, false), (9, 0, 2, false)]

def g1 : State := stOf (step id g0 { caller := 1, round := 1 } (.addTicketsV1 gAlloc)) g0
def g2 : State := stOf (step id g1 { caller := 1, round := 2, esdts := [⟨.esdt 1, 0, 15⟩] } .deposit) g1
def g3 : State := stOf (step id g2 { caller := 9, round := 3 } .sftSetup) g2
def g4 : State := stOf (step id g3 { caller := 7, round := 5, egld := 20 } (.confirm 2)) g3
def g5 : State := stOf (step id g4 { caller := 8, round := 6, egld := 10 } (.confirm 1)) g4
def g6 : State := stOf (step id g5 { caller := 9, round := 6, egld := 20 } (.confirm 2)) g5
def g7 : State := stOf (step id g6 { caller := 7, round := 7, egld := 3 } .confirmNft) g6
def g8 : State := stOf (step id g7 { caller := 9, round := 8, egld := 3 } .confirmNft) g7
def g9 : State := stOf (step id g8 { caller := 9, round := 10, budget := some 0 } .filter) g8
def g10 : State := stOf (step id g9 { caller := 9, round := 11 } .filter) g9
def g11 : State := stOf (step id g10 { caller := 9, round := 12 } .select) g10
def g12 : State := stOf (step id g11 { caller := 9, round := 13, budget := some 0 } .secondary) g11
def g13 : State := stOf (step id g12 { caller := 9, round := 13, budget := some 1 } .secondary) g12
def g14 : State := stOf (step id g13 { caller := 9, round := 14, budget := some 0 } .secondary) g13
def g15 : State := stOf (step id g14 { caller := 9, round := 14 } .secondary) g14
def g16 : State := stOf (step id g15 { caller := 7, round := 15 } .claim) g15
def g17 : State := stOf (step id g16 { caller := 1, round := 16 } .claimPayment) g16
def g18 : State := stOf (step id g17 { caller := 9, round := 17 } .claim) g17

theorem g9_ok : isOk (step id g8 { caller := 9, round := 10, budget := some 0 } .filter) = true := by
  decide +kernel
theorem g11_ok : isOk (step id g10 { caller := 9, round := 12 } .select) = true := by decide +kernel
theorem g12_ok : isOk (step id g11 { caller := 9, round := 13, budget := some 0 } .secondary) = true := by
  decide +kernel
theorem g13_ok : isOk (step id g12 { caller := 9, round := 13, budget := some 1 } .secondary) = true := by
  decide +kernel
theorem g14_ok : isOk (step id g13 { caller := 9, round := 14, budget := some 0 } .secondary) = true := by
  decide +kernel
theorem g15_ok : isOk (step id g14 { caller := 9, round := 14 } .secondary) = true := by decide +kernel

theorem g0_reach : ng_ReachA id gArgs g0 0 := ng_ReachA.init { caller := 1, round := 0 } g0 rfl

theorem g3_reach : ng_ReachA id gArgs g3 3 :=
  callOk { caller := 9, round := 3 } .sftSetup
    (callOk { caller := 1, round := 2, esdts := [⟨.esdt 1, 0, 15⟩] } .deposit
      (callOk { caller := 1, round := 1 } (.addTicketsV1 gAlloc)
        g0_reach (by decide) (Or.inl rfl)
        (by show ∀ q ∈ gAlloc, 1 ≤ q.2.1 + q.2.2.1; decide) (by decide +kernel))
      (by decide) (Or.inl rfl) trivial (by decide +kernel))
    (by decide) (Or.inl rfl) trivial (by decide +kernel)

theorem g8_reach : ng_ReachA id gArgs g8 8 :=
  callOk { caller := 9, round := 8, egld := 3 } .confirmNft
    (callOk { caller := 7, round := 7, egld := 3 } .confirmNft
      (callOk { caller := 9, round := 6, egld := 20 } (.confirm 2)
        (callOk { caller := 8, round := 6, egld := 10 } (.confirm 1)
          (callOk { caller := 7, round := 5, egld := 20 } (.confirm 2) g3_reach
            (by decide) (Or.inr rfl) trivial (by decide +kernel))
          (by decide) (Or.inr rfl) trivial (by decide +kernel))
        (by decide) (Or.inr rfl) trivial (by decide +kernel))
      (by decide) (Or.inr rfl) trivial (by decide +kernel))
    (by decide) (Or.inr rfl) trivial (by decide +kernel)

theorem g10_reach : ng_ReachA id gArgs g10 11 :=
  callOk { caller := 9, round := 11 } .filter
    (callOk _ _ g8_reach (by decide) (Or.inl rfl) trivial g9_ok)
    (by decide) (Or.inl rfl) trivial (by decide +kernel)

theorem g11_reach : ng_ReachA id gArgs g11 12 :=
  callOk _ _ g10_reach (by decide) (Or.inl rfl) trivial g11_ok

theorem g14_reach : ng_ReachA id gArgs g14 14 :=
  callOk _ _
    (callOk _ _ (callOk _ _ g11_reach (by decide) (Or.inl rfl) trivial g12_ok)
      (by decide) (Or.inl rfl) trivial g13_ok)
    (by decide) (Or.inl rfl) trivial g14_ok

theorem g15_reach : ng_ReachA id gArgs g15 14 :=
  callOk _ _ g14_reach (by decide) (Or.inl rfl) trivial g15_ok

/-- where each call stopped -/
example : g1.nrWinning = 1 ∧ g1.totalGuaranteed = 2 ∧ g1.whitelist = [7, 8] ∧
    g8.payers = [7, 9] ∧ g8.bal .egld 0 = 56 ∧
    g11.flags.selected = true ∧ g11.nrWinning = 1 ∧ g11.op = .none ∧
    g12.whitelist = [8] ∧ g13.whitelist = [] ∧ g13.flags.additional = false ∧
    g14.flags.additional = false ∧ g14.nrWinning = 3 ∧ g14.nftWinners = [7] ∧ g14.payers = [9] ∧
    AllDone g15 ∧ g15.nrWinning = 3 ∧ g15.lastTicketId = 5 ∧ g15.claimablePayment = 30 ∧
    g15.nftWinners = [7] ∧ g15.claimableNft = 3 ∧ g15.bal .egld 0 = 56 ∧ g15.bal (.esdt 1) 0 = 15 := by
  unfold AllDone; decide +kernel

example : (∃ g, g12.op = .additional (.guar g)) ∧ (∃ g, g13.op = .additional (.guar g)) ∧
    (∃ rg, g14.op = .additional (.nft rg)) ∧ g15.op = .none :=
  ⟨⟨_, rfl⟩, ⟨_, rfl⟩, ⟨_, rfl⟩, by decide +kernel⟩

theorem g15_step :
    ∃ o, step id g14 { caller := 9, round := 14 } .secondary = .ok (g15, o) ∧ o.ret = [0] := by
  obtain ⟨o, ho⟩ := step_stOf g15_ok g14
  have hret : (step id g14 { caller := 9, round := 14 } .secondary).toOption.map (·.2.ret)
      = some [0] := by decide +kernel
  rw [ho] at hret
  exact ⟨o, ho, Option.some.inj hret⟩

/-- the fourth `secondary` call is accepted with `ret = [0]`; 3 = min 3 5 tickets win; holders 7
    and 8 win with their guaranteed ticket; 1 = min 1 2 NFT winners -/
example : ∃ s' o, step id g14 { caller := 9, round := 14 } .secondary = .ok (s', o) ∧
    o.ret = [0] ∧ s'.nrWinning = min gArgs.nrWinning s'.lastTicketId ∧ s'.nrWinning = 3 ∧
    1 ≤ winCountOf s' 7 ∧ 1 ≤ winCountOf s' 8 ∧
    s'.nftWinners.length = min g14.availNfts (g14.payers.length + g14.nftWinners.length) := by
  obtain ⟨o, ho, hret⟩ := g15_step
  refine ⟨g15, o, ho, hret, ?_, by decide +kernel, by decide +kernel, by decide +kernel, ?_⟩
  · exact (ng_final_winners_partial id gArgs g14 14 g14_reach
      { caller := 9, round := 14 } g15 o (by decide) ho hret).2.2.1
  · exact (ng_draw_completion id gArgs g14 14 g14_reach
      { caller := 9, round := 14 } g15 o (by decide) ho hret).1

/-- `ng_draw_end_to_end` from `g10` (filter complete, base lottery not run) through `select`, three
    interrupted `secondary` calls and the completing one -/
example : g15.nftWinners.length = min g10.availNfts g10.payers.length ∧
    g15.claimableNft = g10.nftCost.amount * g15.nftWinners.length := by
  obtain ⟨o1, h1⟩ := step_stOf g11_ok g10
  obtain ⟨o2, h2⟩ := step_stOf g12_ok g11
  obtain ⟨o3, h3⟩ := step_stOf g13_ok g12
  obtain ⟨o4, h4⟩ := step_stOf g14_ok g13
  obtain ⟨o5, h5, hret⟩ := g15_step
  have hl : ng_Later id g10 11 g14 14 :=
    ng_Later.call g13 13 { caller := 9, round := 14, budget := some 0 } .secondary g14 o4
      (ng_Later.call g12 13 { caller := 9, round := 13, budget := some 1 } .secondary g13 o3
        (ng_Later.call g11 12 { caller := 9, round := 13, budget := some 0 } .secondary g12 o2
          (ng_Later.call g10 11 { caller := 9, round := 12 } .select g11 o1 ng_Later.refl
            (by decide) (Or.inl rfl) trivial h1)
          (by decide) (Or.inl rfl) trivial h2)
        (by decide) (Or.inl rfl) trivial h3)
      (by decide) (Or.inl rfl) trivial h4
  obtain ⟨e1, e2, _⟩ := ng_draw_end_to_end id gArgs g10 11 g10_reach (by decide +kernel)
    (by decide +kernel) g14 14 hl { caller := 9, round := 14 } g15 o5 (by decide) h5 hret
  exact ⟨e1, e2⟩

/-- the combined ledger (b) in the middle of the NFT draw and after completion -/
example : FeeInPayToken g14 ∧ (∃ L : List Nat, Covers g14 L ∧ CombinedPre g14 L) ∧
    (∃ L : List Nat, Covers g15 L ∧ CombinedPost g15 L) := by
  have hf : FeeInPayToken g14 := by decide +kernel
  obtain ⟨L, h1, h2, _⟩ := ng_solvent_same id g14 14 (ng_Reach_iff.mpr ⟨_, g14_reach⟩) hf
  obtain ⟨L', k1, _, k3⟩ := ng_solvent_same id g15 14 (ng_Reach_iff.mpr ⟨_, g15_reach⟩)
    (by decide +kernel)
  exact ⟨hf, ⟨L, h1, h2 (by unfold AllDone; decide +kernel)⟩,
    ⟨L', k1, k3 (by unfold AllDone; decide +kernel)⟩⟩

/-- participant 7 (NFT winner) settles, the owner withdraws (ticket proceeds, NFT proceeds and
    launchpad-token surplus), participant 9 (fee payer, not drawn) settles and gets the fee back -/
theorem g16_ok : isOk (step id g15 { caller := 7, round := 15 } .claim) = true := by decide +kernel
theorem g17_ok : isOk (step id g16 { caller := 1, round := 16 } .claimPayment) = true := by decide +kernel

theorem g17_reach : ng_ReachA id gArgs g17 16 :=
  callOk _ _ (callOk _ _ g15_reach (by decide) (Or.inl rfl) trivial g16_ok)
    (by decide) (Or.inl rfl) trivial g17_ok

theorem g18_reach : ng_ReachA id gArgs g18 17 :=
  callOk { caller := 9, round := 17 } .claim g17_reach (by decide) (Or.inl rfl) trivial
    (by decide +kernel)

example : g16.bal .egld 0 = 56 ∧ g16.bal (.esdt 1) 0 = 5 ∧ g16.nrWinning = 1 ∧
    g17.bal .egld 0 = 23 ∧ g17.bal (.esdt 1) 0 = 5 ∧ g17.claimablePayment = 0 ∧
    g17.claimableNft = 0 ∧ g17.payers = [9] := by decide +kernel

/-- a separate fee token (configuration a) is accepted by deployment as well -/
example : ∃ s, ng_Reach id s 0 ∧ FeeTokenSeparate s ∧ ¬ FeeInLpToken s :=
  ⟨_, ng_Reach.init { gArgs with nftCost := ⟨.esdt 9, 0, 500⟩ } { caller := 1, round := 0 } _ rfl,
    by constructor <;> decide, by decide⟩

end LP.Props.C14reachG

#print axioms LP.Props.C14reachG.ng_solvent_general
#print axioms LP.Props.C14reachG.ng_solvent_separate
#print axioms LP.Props.C14reachG.ng_fee_ledger
#print axioms LP.Props.C14reachG.ng_nothing_left_separate
#print axioms LP.Props.C14reachG.ng_solvent_same
#print axioms LP.Props.C14reachG.ng_nothing_left_same
#print axioms LP.Props.C14reachG.ng_three_counts
#print axioms LP.Props.C14reachG.ng_three_counts_separate
#print axioms LP.Props.C14reachG.ng_claim_refund_covered
#print axioms LP.Props.C14reachG.ng_secondary_ret
#print axioms LP.Props.C14reachG.ng_final_winners_partial
#print axioms LP.Props.C14reachG.ng_guarantee_honoured
#print axioms LP.Props.C14reachG.ng_draw_completion
#print axioms LP.Props.C14reachG.ng_len_of_union
#print axioms LP.Props.C14reachG.ng_draw_from_start
#print axioms LP.Props.C14reachG.ng_participants_frozen
#print axioms LP.Props.C14reachG.ng_draw_end_to_end
#print axioms LP.Props.C14reachG.ng_winners_bound_reach
#print axioms LP.Props.C14reachG.ng_whitelisted_iff
#print axioms LP.Props.C14reachG.ng_nft_lists
#print axioms LP.Props.C14reachG.ng_lp_cover
#print axioms LP.Props.C14reachG.ng_reserve
#print axioms LP.Props.C14reachG.ng_owner_surplus_reach
#print axioms LP.Props.C14reachG.ng_lp_zero_at_end
#print axioms LP.Props.C14reachG.ng_claim_category
#print axioms LP.Props.C14reachG.callOk
#print axioms LP.Props.C14reachG.g0_reach
#print axioms LP.Props.C14reachG.g3_reach
#print axioms LP.Props.C14reachG.g8_reach
#print axioms LP.Props.C14reachG.g10_reach
#print axioms LP.Props.C14reachG.g11_reach
#print axioms LP.Props.C14reachG.g14_reach
#print axioms LP.Props.C14reachG.g15_reach
#print axioms LP.Props.C14reachG.g17_reach
#print axioms LP.Props.C14reachG.g18_reach
#print axioms LP.ng_init_WF
#print axioms LP.ng_call_WF
#print axioms LP.ng_wait_WF
#print axioms LP.ng_reach_WF
#print axioms LP.ng_secondary_completion
#print axioms LP.ng_secondary_split
#print axioms LP.ng_tail_WF
#print axioms LP.ng_secondary_cases
