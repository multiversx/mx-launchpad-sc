import LP.Proofs.ReachG1
import LP.Proofs.ReachOf
import LP.Proofs.ReachOfLp
import LP.Proofs.ReachOfVest
import LP.Props.C01reach
/-
  C01 / C02 / C03 / C11 / C12 / C13 / C17 on the reachable states of `Variant.guarV1`
  (launchpad-guaranteed-tickets): allocation, blacklist and distribution as in `Variant.migration`,
  but claims are vested by the v1 unlock schedule `Sched1` stored by `setSchedule1` (repeated claims
  release further parts) and the owner withdraws through `claimPaymentOwn`.

  `g1_Reach hash s r` (LP/Proofs/ReachG1.lean): `s` is reached from some deployment by accepted
  transactions with non-decreasing rounds, `r` = round of the latest one, or later (`wait`).  Every
  transaction carries EGLD or ESDT, not both (`EnvOK`), and every entry of an `addTicketsV1` call
  allocates at least one ticket (`v1_CallOK`, as in LP/Props/C01reachV1.lean; histories without this
  restriction: LP/Props/C01zeroG1full.lean).  Interruptions of `filter` / `select` / `distribute`,
  the draws, and the order of `setSchedule1`, claims and the owner's withdrawal are arbitrary.
-/
namespace LP.Props.C01reachG1
open LP LP.FY LP.Props.AllVariants

/-- **C01 for launchpad-guaranteed-tickets**: in every reachable state the contract holds, in the
    ticket-payment token, exactly the full payment of every confirmed ticket until all selection
    steps are complete, and afterwards exactly the owner's not-yet-withdrawn proceeds plus
    `price × (confirmed − winning)` for every participant who has not settled. -/
theorem C01_solvent_guarV1 (hash : List Nat → List Nat) (s : State) (r : Nat)
    (h : g1_Reach hash s r) :
    ∃ L : List Nat, Covers s L ∧ (¬ AllDone s → PayEqPre s L) ∧ (AllDone s → PayEqPost s L) :=
  (ReachOf.of_guarV1 h).solvent rfl

/-- after completion the winning tickets still held by participants add up to `nrWinning` -/
theorem three_counts_guarV1 (hash : List Nat → List Nat) (s : State) (r : Nat)
    (h : g1_Reach hash s r) (hd : AllDone s) :
    ∃ L : List Nat, Covers s L ∧ PayEqPost s L ∧ sumOver (winCountOf s) L = s.nrWinning ∧
      (∀ a, winCountOf s a ≤ s.confirmed a) ∧
      (∀ a rg, s.range a = some rg → a ∈ L ∧ rangeLen rg = s.confirmed a) :=
  (ReachOf.of_guarV1 h).three_counts hd rfl

/-- a participant's refund and the owner's proceeds are covered together -/
theorem claim_refund_covered_guarV1 (hash : List Nat → List Nat) (s : State) (r : Nat)
    (h : g1_Reach hash s r) (hd : AllDone s) (a : Nat) (rg : Range) (hr : s.range a = some rg) :
    s.claimablePayment + s.price * (s.confirmed a - winCountOf s a) ≤ s.bal s.payTok 0 :=
  (ReachOf.of_guarV1 h).refund_covered hd hr rfl

/-- once every participant has settled and the owner has withdrawn, no payment token is left -/
theorem all_settled_nothing_left_guarV1 (hash : List Nat → List Nat) (s : State) (r : Nat)
    (h : g1_Reach hash s r) (hd : AllDone s) (hall : ∀ a, s.range a = none)
    (hcp : s.claimablePayment = 0) : s.bal s.payTok 0 = 0 :=
  (ReachOf.of_guarV1 h).nothing_left hd hall hcp rfl

/-! ### the final number of winners, the guarantees

  "Every `distribute` call sequence completes" is not a theorem: the v1 leftover loop re-draws
  without consuming a position when it hits an already winning ticket
  (`C03_leftover_v1_may_spin`, LP/Props/C03final.lean); such a call is rejected and leaves no
  trace.  Hence the statements are conditional on the call having completed (`ret = [0]`). -/

/-- **final winner count (C03, guarV1)**, `_partial` = conditional on completion as above: after
    the `distribute` call that returns `[0]`, from any reachable state of a launchpad deployed with
    `a0.nrWinning` winners, the number of winning flags equals the stored
    `nrWinning = min (configured winners) (confirmed tickets)`, the owner's proceeds are
    `price × nrWinning`, and no earlier winner lost its flag -/
theorem final_winners_guarV1_partial (hash : List Nat → List Nat)
    (a0 : InitArgs) (s : State) (r : Nat) (h : g1_ReachA hash a0 s r) (e : Env) (s' : State)
    (o : Out) (hs : step hash s e .distribute = .ok (s', o)) (hret : o.ret = [0]) :
    AllDone s' ∧
    countTrue s'.status s'.lastTicketId = s'.nrWinning ∧
    s'.nrWinning ≤ min a0.nrWinning s'.lastTicketId ∧
    s'.nrWinning = min a0.nrWinning s'.lastTicketId ∧
    s'.claimablePayment = s'.price * s'.nrWinning ∧
    (∀ t, s'.status t = true → 1 ≤ t ∧ t ≤ s'.lastTicketId) ∧
    (∀ t, s.status t = true → s'.status t = true) := by
  obtain ⟨h1, h2, _, _, h5, h6, h7, h8, h9, _⟩ :=
    v1_distribute_completion (g1_reach_WF h).toInv hs hret
  exact ⟨⟨h1, h2⟩, h5, by omega, h6, h7, h8, h9⟩

/-- between the lottery and the end of the distribution the number of winning flags lies between
    the lottery winners and `min T0 lastTicketId` -/
theorem winners_bound_guarV1 (hash : List Nat → List Nat) (a0 : InitArgs)
    (s : State) (r : Nat) (h : g1_ReachA hash a0 s r) (hsel : s.flags.selected = true)
    (hna : s.flags.additional = false) :
    s.nrWinning ≤ countTrue s.status s.lastTicketId ∧
    countTrue s.status s.lastTicketId ≤ min a0.nrWinning s.lastTicketId ∧
    (∀ t, s.status t = true → 1 ≤ t ∧ t ≤ s.lastTicketId) :=
  v1_phase_winners_bound (g1_reach_WF h).phase hsel hna

/-- after completion the recorded proceeds and the price are frozen until the owner withdraws -/
theorem proceeds_until_withdrawal_guarV1 (hash : List Nat → List Nat)
    (s : State) (r : Nat) (h : g1_Reach hash s r) (hd : AllDone s) (e : Env) (c : Call)
    (s' : State) (o : Out) (hr : r ≤ e.round) (hs : step hash s e c = .ok (s', o)) :
    s'.price = s.price ∧ AllDone s' ∧
    (s'.claimablePayment = s.claimablePayment ∨ (c = .claimPayment ∧ s'.claimablePayment = 0)) :=
  (ReachOf.of_guarV1 h).proceeds hd hr hs

theorem interrupted_distribute_keeps_pre_guarV1 (hash : List Nat → List Nat)
    (s : State) (r : Nat) (h : g1_Reach hash s r) (e : Env) (s' : State) (o : Out)
    (hr : r ≤ e.round) (hok : EnvOK e)
    (hs : step hash s e .distribute = .ok (s', o)) (hnd : ¬ AllDone s') :
    ∃ L : List Nat, Covers s' L ∧ PayEqPre s' L := by
  have h' : g1_Reach hash s' e.round := .call s r e .distribute s' o h hr hok trivial hs
  obtain ⟨L, h1, h2, _⟩ := C01_solvent_guarV1 hash s' e.round h'
  exact ⟨L, h1, h2 hnd⟩

/-- until the first `distribute` call is accepted the whitelist is exactly the set of holders of a
    positive guarantee -/
theorem whitelisted_iff_guarV1 (hash : List Nat → List Nat) (s : State)
    (r : Nat) (h : g1_Reach hash s r) (hna : s.flags.additional = false)
    (hop : s.flags.selected = true → s.op = .none) (u : Nat) :
    u ∈ s.whitelist ↔ ∃ st, s.uts u = some st ∧ st.c + st.d > 0 := by
  obtain ⟨T0, hwf⟩ := h.wf
  exact v1_phase_whitelist_intact hwf.phase hna hop u

/-- **guarantees honoured (C11, guarV1)**: when the distribution completes, every holder of a
    guarantee record `st` owns at least `min (qualified guarantee) (confirmed tickets)` winning
    tickets, the qualified guarantee being `(calcV1 st confirmed minConfirmed).1` -/
theorem guarantee_honoured_guarV1 (hash : List Nat → List Nat)
    (a0 : InitArgs) (s : State) (r : Nat) (h : g1_ReachA hash a0 s r) (e : Env) (s' : State)
    (o : Out) (hs : step hash s e .distribute = .ok (s', o)) (hret : o.ret = [0]) :
    (∀ u st, s'.uts u = some st →
      min (calcV1 st (s'.confirmed u) s'.minConfirmed).1 (s'.confirmed u) ≤ winCountOf s' u) ∧
    (∀ t, s'.status t = true → 1 ≤ t ∧ t ≤ s'.lastTicketId) := by
  obtain ⟨_, _, _, _, _, _, _, h8, _, h10⟩ :=
    v1_distribute_completion (g1_reach_WF h).toInv hs hret
  exact ⟨h10, h8⟩

/-- **C12**: base winners plus reserve are the configured winners until the filter completes, and
    at most that until the distribution completes -/
theorem reserve_guarV1 (hash : List Nat → List Nat) (a0 : InitArgs)
    (s : State) (r : Nat) (h : g1_ReachA hash a0 s r) :
    (s.flags.filtered = false → s.nrWinning + s.totalGuaranteed = a0.nrWinning) ∧
    (s.flags.additional = false → s.nrWinning + s.totalGuaranteed ≤ a0.nrWinning) :=
  have L := ReachOfA.lpSide (v := .guarV1) h
  ⟨L.res_guar rfl, fun hna => L.owedLe rfl hna nofun⟩

/-- before the distribution completes nobody has settled or claimed, and a deposit made so far is
    intact and covers `perTicket × (base winners + reserve)` -/
theorem lp_before_distribution_guarV1 (hash : List Nat → List Nat) (s : State) (r : Nat)
    (h : g1_Reach hash s r) (hd : s.flags.additional = false) :
    (∀ a, s.userTotal a = 0 ∧ s.userClaimed a = 0 ∧ s.claimed a = false) ∧
    (s.deposited = true → s.bal (.esdt s.lpTok) 0 = s.totalDeposited ∧
      s.perTicket * (s.nrWinning + s.totalGuaranteed) ≤ s.totalDeposited) ∧
    (s.deposited = false → s.bal (.esdt s.lpTok) 0 = 0 ∧ ∀ a, s.confirmed a = 0) := by
  obtain ⟨T0, hwf⟩ := h.wf
  exact hwf.vs.lp.before_distribution hd

/-- a participant who has not settled has no vesting record; nobody is booked more than his
    entitlement -/
theorem unsettled_no_record_guarV1 (hash : List Nat → List Nat) (s : State) (r : Nat)
    (h : g1_Reach hash s r) :
    (∀ a, s.claimed a = false → s.userTotal a = 0 ∧ s.userClaimed a = 0) ∧
    (∀ a, s.userClaimed a ≤ s.userTotal a) :=
  have V := (ReachOf.of_guarV1 h).vest rfl
  ⟨V.unsettled, V.le⟩

/-- **launchpad-token ledger** after the distribution: over a duplicate-free list `L` of everybody
    with a vesting record, either (the owner has not withdrawn) `balance + Σ paid out =
    totalDeposited` and the recorded proceeds are `price × W` with `W × perTicket = perTicket ×
    nrWinning + Σ userTotal ≤ totalDeposited`, or (he has) `totalDeposited = 0`, the proceeds are
    `0`, and `balance + Σ paid out = perTicket × nrWinning + Σ userTotal`. -/
theorem lp_ledger_guarV1 (hash : List Nat → List Nat) (s : State) (r : Nat)
    (h : g1_Reach hash s r) (hd : AllDone s) :
    ∃ L : List Nat, L.Nodup ∧ (∀ a, a ∉ L → s.userTotal a = 0 ∧ s.userClaimed a = 0) ∧
      ((s.bal (.esdt s.lpTok) 0 + sumOver s.userClaimed L = s.totalDeposited ∧
        ∃ W, s.claimablePayment = s.price * W ∧
          W * s.perTicket = s.perTicket * s.nrWinning + sumOver s.userTotal L ∧
          W * s.perTicket ≤ s.totalDeposited) ∨
       (s.totalDeposited = 0 ∧ s.claimablePayment = 0 ∧
        s.bal (.esdt s.lpTok) 0 + sumOver s.userClaimed L
          = s.perTicket * s.nrWinning + sumOver s.userTotal L)) := by
  obtain ⟨T0, hwf⟩ := h.wf
  exact (hwf.vs.lp.post hd.2).led

/-- **the launchpad-token balance in closed form** (C02), once every selection step is complete:

      balance = the owner's not yet withdrawn surplus `ownSurplus`
              + perTicket × winning tickets of the participants who have not settled (`nrWinning`,
                            which is `Σ winCountOf` by `three_counts_guarV1`)
              + Σ over the settled participants (userTotal − userClaimed). -/
theorem lp_exact_guarV1 (hash : List Nat → List Nat) (s : State) (r : Nat)
    (h : g1_Reach hash s r) (hd : AllDone s) :
    ∃ L : List Nat, L.Nodup ∧ (∀ a, a ∉ L → s.userTotal a = 0 ∧ s.userClaimed a = 0) ∧
      s.bal (.esdt s.lpTok) 0 = ownSurplus s + s.perTicket * s.nrWinning
        + sumOver (fun a => s.userTotal a - s.userClaimed a) L :=
  (ReachOf.of_guarV1 h).lp_exact rfl hd

/-- the closed form with `nrWinning` spelled out as `Σ winCountOf` over the range holders `Lw` -/
theorem lp_exact_unsettled_guarV1 (hash : List Nat → List Nat) (s : State) (r : Nat)
    (h : g1_Reach hash s r) (hd : AllDone s) :
    ∃ Lw L : List Nat, Covers s Lw ∧ (∀ a rg, s.range a = some rg → a ∈ Lw) ∧
      L.Nodup ∧ (∀ a, a ∉ L → s.userTotal a = 0 ∧ s.userClaimed a = 0) ∧
      s.bal (.esdt s.lpTok) 0 = ownSurplus s + s.perTicket * sumOver (winCountOf s) Lw
        + sumOver (fun a => s.userTotal a - s.userClaimed a) L := by
  obtain ⟨Lw, h1, _, hwin, _, hrg⟩ := three_counts_guarV1 hash s r h hd
  obtain ⟨L, k1, k2, k3⟩ := lp_exact_guarV1 hash s r h hd
  exact ⟨Lw, L, h1, fun a rg hr => (hrg a rg hr).1, k1, k2, by rw [hwin]; exact k3⟩

/-- **C02 `LpCover`**: after the distribution the launchpad tokens held cover every outstanding
    winner (no hypothesis on the deposit); before it a deposit covers the whole reserve as well -/
theorem lp_cover_guarV1 (hash : List Nat → List Nat) (s : State) (r : Nat)
    (h : g1_Reach hash s r) :
    (s.flags.additional = true → LP.Props.C02.LpCover s) ∧
    (s.flags.additional = false → s.deposited = true →
      s.perTicket * (s.nrWinning + s.totalGuaranteed) ≤ s.bal (.esdt s.lpTok) 0) := by
  obtain ⟨a0, h0⟩ := g1_Reach_iff.mp h
  have L := (g1_reach_WF h0).lpSide
  refine ⟨fun ha => ?_, fun ha hdp => L.pre_guar rfl hdp ha nofun⟩
  obtain ⟨L', _, _, heq⟩ := lp_exact_guarV1 hash s r h ⟨(v1_phase_D (g1_reach_WF h0).phase ha).selected, ha⟩
  exact lpCover_of_exact heq

/-- **the owner's withdrawal**: an accepted `claimPayment` from a reachable state pays the recorded
    proceeds and exactly `ownSurplus` launchpad tokens, clears both records, and leaves in the
    contract exactly the unsettled winners' tokens plus everything still owed to the settled -/
theorem owner_withdrawal_guarV1 (hash : List Nat → List Nat) (s : State) (r : Nat)
    (h : g1_Reach hash s r) (e : Env) (s' : State) (o : Out) (hr : r ≤ e.round) (hok : EnvOK e)
    (hs : step hash s e .claimPayment = .ok (s', o)) :
    AllDone s ∧ s'.claimablePayment = 0 ∧ s'.totalDeposited = 0 ∧ s'.nrWinning = s.nrWinning ∧
    s'.bal (.esdt s.lpTok) 0 + ownSurplus s = s.bal (.esdt s.lpTok) 0 ∧
    s'.bal s.payTok 0 + s.claimablePayment = s.bal s.payTok 0 ∧
    ∃ L : List Nat, L.Nodup ∧ (∀ a, a ∉ L → s'.userTotal a = 0 ∧ s'.userClaimed a = 0) ∧
      s'.bal (.esdt s'.lpTok) 0 = s'.perTicket * s'.nrWinning
        + sumOver (fun a => s'.userTotal a - s'.userClaimed a) L :=
  (ReachOf.of_guarV1 h).owner_withdrawal rfl hr hok hs

/-- **every vested claim is covered**: the balance covers the owner's surplus, all winning tickets
    not yet settled, and everything still owed to a settled participant (`userTotal a −
    userClaimed a` bounds every instalment `claimable1` can compute) -/
theorem vested_claim_covered_guarV1 (hash : List Nat → List Nat) (s : State) (r : Nat)
    (h : g1_Reach hash s r) (hd : AllDone s) (a : Nat) :
    ownSurplus s + s.perTicket * s.nrWinning + (s.userTotal a - s.userClaimed a)
      ≤ s.bal (.esdt s.lpTok) 0 :=
  (ReachOf.of_guarV1 h).vested_claim_covered rfl hd a

theorem unsettled_winner_covered_guarV1 (hash : List Nat → List Nat) (s : State) (r : Nat)
    (h : g1_Reach hash s r) (hd : AllDone s) (a : Nat) (rg : Range) (hr : s.range a = some rg) :
    s.perTicket * winCountOf s a ≤ s.bal (.esdt s.lpTok) 0 :=
  (ReachOf.of_guarV1 h).unsettled_winner_covered rfl hd hr

/-- **C13 `claimedExactly1` on reachable states**: `userClaimed` is `0` or exactly the schedule's
    released amount `userTotal × pct1 r' sched1 / 10000` at some round `r' ≤ r`; a stored schedule
    is valid, so the released percentage is at most 100 % -/
theorem released_exact_guarV1 (hash : List Nat → List Nat) (s : State) (r : Nat)
    (h : g1_Reach hash s r) :
    (∀ a, claimedExactly1 s a r) ∧ (∀ sc, s.sched1 = some sc → validSched1 sc) ∧
    (∀ now, pct1 now s.sched1 ≤ 10000) := by
  obtain ⟨T0, hwf⟩ := h.wf
  have hvs := hwf.vs
  exact ⟨hvs.exact, hvs.sch, g1_pct1_le hvs.sch⟩

/-- **one vested claim, first or repeat (C13)**: afterwards the caller's cumulative received
    amount `userClaimed` is exactly the schedule's released part of his entitlement at the round of
    the call, whatever he claimed before; it equals the entitlement once the schedule has fully
    released (`start + times × period ≤ round`, or `initial = 100 %` and `start ≤ round`); the
    contract pays exactly the increment and touches nobody else's record; the entitlement is
    `winning tickets × perTicket` on the first claim and unchanged on a repeat. -/
theorem claim_releases_exactly_guarV1 (hash : List Nat → List Nat) (s : State) (r : Nat)
    (h : g1_Reach hash s r) (e : Env) (s' : State) (o : Out) (hr : r ≤ e.round)
    (hs : step hash s e .claim = .ok (s', o)) :
    s'.sched1 = s.sched1 ∧
    s'.userClaimed e.caller = entitled (s'.userTotal e.caller) (pct1 e.round s.sched1) ∧
    s.userClaimed e.caller ≤ s'.userClaimed e.caller ∧
    s'.userClaimed e.caller ≤ s'.userTotal e.caller ∧
    (∀ sc, s.sched1 = some sc →
      (sc.start + sc.times * sc.period ≤ e.round ∨ (sc.initial = 10000 ∧ sc.start ≤ e.round)) →
      s'.userClaimed e.caller = s'.userTotal e.caller) ∧
    s'.bal (.esdt s.lpTok) 0 + (s'.userClaimed e.caller - s.userClaimed e.caller)
      = s.bal (.esdt s.lpTok) 0 ∧
    (∀ a, a ≠ e.caller → s'.userClaimed a = s.userClaimed a ∧ s'.userTotal a = s.userTotal a) ∧
    (s.claimed e.caller = true → s'.userTotal e.caller = s.userTotal e.caller) ∧
    (s.claimed e.caller = false →
      s'.userTotal e.caller = winCountOf s e.caller * s.perTicket ∧ s.userClaimed e.caller = 0) := by
  obtain ⟨a0, h⟩ := g1_Reach_iff.mp h
  have hwf := g1_reach_WF h
  have j := hwf.claimVested hr hs
  have j5 := j.booked
  rw [pctOf_v1 (g1_flags hwf.var).2.2.1] at j5
  refine ⟨(claim_static hs).1, j5, j.mono, ?_, ?_, j.paid,
    fun a ha => ⟨(j.others a ha).1, (j.others a ha).2.1⟩, j.again, j.first⟩
  · rw [j5]; exact entitled_le _ (g1_pct1_le hwf.vs.sch _)
  · intro sc hsc hfull
    rw [j5, hsc]
    show entitled _ (unlockedPct1 e.round sc) = _
    rw [unlockedPct1_full sc (hwf.vs.sch sc hsc) hfull]
    exact entitled_full _

/-- **path independence along histories**: let `a` have settled in a reachable state `s` in which
    the confirmation period has started and a schedule `sc` is stored.  Whatever accepted calls and
    waiting follow (`g1_Later`), after an accepted claim of `a` at round `e.round` his cumulative
    received amount is exactly `userTotal a × unlockedPct1 e.round sc / 10000` for the entitlement
    fixed at his settlement; it equals the entitlement once `sc` has fully released. -/
theorem vesting_path_independent_guarV1 (hash : List Nat → List Nat) (s : State) (r : Nat)
    (h : g1_Reach hash s r) (sc : Sched1) (hconf : s.cfg.conf ≤ r) (hsc : s.sched1 = some sc)
    (e : Env) (hcl : s.claimed e.caller = true)
    (s1 : State) (r1 : Nat) (hl : g1_Later hash s r s1 r1)
    (s2 : State) (o : Out) (hr : r1 ≤ e.round) (hs : step hash s1 e .claim = .ok (s2, o)) :
    s2.userTotal e.caller = s.userTotal e.caller ∧ s2.sched1 = some sc ∧
    s2.userClaimed e.caller = entitled (s.userTotal e.caller) (unlockedPct1 e.round sc) ∧
    s.userClaimed e.caller ≤ s2.userClaimed e.caller ∧
    s2.userClaimed e.caller ≤ s.userTotal e.caller ∧
    ((sc.start + sc.times * sc.period ≤ e.round ∨ (sc.initial = 10000 ∧ sc.start ≤ e.round)) →
      s2.userClaimed e.caller = s.userTotal e.caller) :=
  (vestFam hash (v := .guarV1) rfl).path_independent_v1 (fun h => by rw [h.variant]; rfl)
    (fun h => (released_exact_guarV1 hash _ _ h).2.1) (ReachOf.of_guarV1 h) hconf hsc hcl
    (g1_later_iff.mp hl) hr trivial hs

/-- at every later state, not only right after a claim of `a`: entitlement and schedule are those
    of `s`, and the received amount is `0` or the released amount at some round `r' ≤ r2` -/
theorem later_amount_guarV1 (hash : List Nat → List Nat) (s : State) (r : Nat)
    (h : g1_Reach hash s r) (sc : Sched1) (hconf : s.cfg.conf ≤ r) (hsc : s.sched1 = some sc)
    (a : Nat) (hcl : s.claimed a = true) (s2 : State) (r2 : Nat) (hl : g1_Later hash s r s2 r2) :
    s2.userTotal a = s.userTotal a ∧ s2.sched1 = some sc ∧
    s.userClaimed a ≤ s2.userClaimed a ∧ s2.userClaimed a ≤ s.userTotal a ∧
    (s2.userClaimed a = 0 ∨
      ∃ r', r' ≤ r2 ∧ s2.userClaimed a = entitled (s.userTotal a) (unlockedPct1 r' sc)) :=
  (vestFam hash (v := .guarV1) rfl).later_amount_v1 (fun h => by rw [h.variant]; rfl)
    (ReachOf.of_guarV1 h) hconf hsc hcl (g1_later_iff.mp hl)

/-- once everybody has settled and claimed everything and the owner has withdrawn
    (`totalDeposited` cleared), the contract holds no launchpad tokens -/
theorem lp_nothing_left_guarV1 (hash : List Nat → List Nat) (s : State) (r : Nat)
    (h : g1_Reach hash s r) (hd : AllDone s) (hall : ∀ a, s.range a = none)
    (hclaimed : ∀ a, s.userClaimed a = s.userTotal a) (hown : s.totalDeposited = 0) :
    s.bal (.esdt s.lpTok) 0 = 0 :=
  (ReachOf.of_guarV1 h).lp_nothing_left rfl hd hall hclaimed hown

/-- a deposit accepted before the filter has completed is exactly `perTicket × T0` launchpad
    tokens, `T0 = nrWinning + totalGuaranteed` being the configured winners -/
theorem deposit_is_perTicket_times_T0_guarV1 (hash : List Nat → List Nat)
    (a0 : InitArgs) (s : State) (r : Nat) (h : g1_ReachA hash a0 s r) (e : Env) (s' : State)
    (o : Out) (hf : s.flags.filtered = false) (hs : step hash s e .deposit = .ok (s', o)) :
    s'.totalDeposited = s.perTicket * a0.nrWinning ∧ s'.deposited = true ∧
    singleFungible e = .ok (.esdt s.lpTok, s.perTicket * a0.nrWinning) := by
  have hwf := g1_reach_WF h
  exact v1_phase_deposit_exact (Or.inr hwf.var) hwf.phase hf hs

/-- **C17 / C13 `schedule_frozen` along histories**: from any state, reachable or not, in which
    the confirmation start round has been reached and a schedule is stored, no sequence of accepted
    calls changes the schedule or the confirmation start round -/
theorem schedule_frozen_guarV1 (hash : List Nat → List Nat) (s : State) (r : Nat) (sc : Sched1)
    (hconf : s.cfg.conf ≤ r) (hsc : s.sched1 = some sc) (s2 : State) (r2 : Nat)
    (hl : g1_Later hash s r s2 r2) : s2.sched1 = some sc ∧ s2.cfg.conf = s.cfg.conf :=
  have f := be_later_sched_frozen hconf (g1_later_iff.mp hl)
  ⟨f.2.1 sc hsc, f.2.2.1⟩

/-- an accepted `setSchedule1` (possible only before the confirmation period or when no schedule
    is stored) finds `userClaimed = 0` for everybody -/
theorem setSchedule1_only_before_release_guarV1 (hash : List Nat → List Nat) (s : State) (r : Nat)
    (h : g1_Reach hash s r) (e : Env) (a b c d f : Nat) (s' : State) (o : Out) (hr : r ≤ e.round)
    (hs : step hash s e (.setSchedule1 a b c d f) = .ok (s', o)) :
    (∀ u, s.userClaimed u = 0) ∧ s'.sched1 = some ⟨a, b, c, d, f⟩ ∧
    validSched1 ⟨a, b, c, d, f⟩ := by
  obtain ⟨a0, h⟩ := g1_Reach_iff.mp h
  have hwf := g1_reach_WF h
  have hwf' := g1_setSchedule1 hwf hr hs
  have hsc : s'.sched1 = some ⟨a, b, c, d, f⟩ := by rw [setSchedule1_sched1 hs]
  refine ⟨fun u => ?_, hsc, hwf'.vs.sch _ hsc⟩
  rcases LP.Props.C06.schedule1_gate hash s e a b c d f (s', o) hs with hlt | hnone
  · have hns : s.flags.started = false := notStarted_of_lt hwf.tlStarted hr (Or.inl hlt)
    obtain ⟨hna, _⟩ := v1_phase_notStarted hwf.phase hns
    exact (hwf.vs.fresh hna u).2.1
  · rcases hwf.vs.exact u with h0 | ⟨r', _, h0⟩
    · exact h0
    · have h0' : s.userClaimed u = entitled (s.userTotal u) (pct1 r' s.sched1) := h0
      rw [h0', hnone]
      simp [pct1, entitled]

/-! ### non-vacuity: a guarV1 history through the whole lifecycle with a vesting schedule

  Two participants (7: staking guarantee, two tickets confirmed; 8: no guarantee, one of two tickets
  confirmed), `T0 = 2`, `perTicket = 20`, schedule "25 % at round 16, then 3 × 25 % every 10 rounds".
  7 wins both tickets (entitlement 40) and claims at rounds 16 (→ 10), 26 (→ 20 in total) and 50
  (→ 40 in total); the owner withdraws at round 17; a later `setSchedule1` is rejected. -/

open LP.Props.C01reach (stOf isOk stOf_spec)

def wArgs : InitArgs :=
  { lpTok := 1, perTicket := 20, payTok := .egld, price := 10, nrWinning := 2, conf := 5, sel := 10, claim := 15 }

theorem g1_callOk {hash : List Nat → List Nat} {a0 : InitArgs} {s : State} {r : Nat}
    (e : Env) (c : Call)
    (h : g1_ReachA hash a0 s r) (hr : r ≤ e.round) (hok : EnvOK e) (hc : v1_CallOK c)
    (hs : isOk (step hash s e c) = true) :
    g1_ReachA hash a0 (stOf (step hash s e c) s) e.round :=
  let ⟨o, ho⟩ := stOf_spec hs s
  .call s r e c _ o h hr hok hc ho

def w0 : State := match init .guarV1 wArgs { caller := 1, round := 0 } with
  | .ok s => s
  | .error _ => default

def wAlloc : List (Nat × Nat × Nat × Bool) := [(7, 2, 0, false), (8, 0, 2, false)]
def wSched : Sched1 := ⟨16, 2500, 3, 2500, 10⟩

def w1 : State := stOf (step id w0 { caller := 1, round := 1 } (.addTicketsV1 wAlloc)) w0
def w2 : State := stOf (step id w1 { caller := 1, round := 1 } (.setSchedule1 16 2500 3 2500 10)) w1
def w3 : State := stOf (step id w2 { caller := 1, round := 2, esdts := [⟨.esdt 1, 0, 40⟩] } .deposit) w2
def w4 : State := stOf (step id w3 { caller := 7, round := 5, egld := 20 } (.confirm 2)) w3
def w5 : State := stOf (step id w4 { caller := 8, round := 6, egld := 10 } (.confirm 1)) w4
def w6 : State := stOf (step id w5 { caller := 9, round := 10 } .filter) w5
def w7 : State := stOf (step id w6 { caller := 9, round := 11 } .select) w6
def w8 : State := stOf (step id w7 { caller := 9, round := 12 } .distribute) w7
def w9 : State := stOf (step id w8 { caller := 7, round := 16 } .claim) w8
def w10 : State := stOf (step id w9 { caller := 1, round := 17 } .claimPayment) w9
def w11 : State := stOf (step id w10 { caller := 7, round := 26 } .claim) w10
def w12 : State := stOf (step id w11 { caller := 7, round := 50 } .claim) w11

theorem w6_ok : isOk (step id w5 { caller := 9, round := 10 } .filter) = true := by decide +kernel
theorem w7_ok : isOk (step id w6 { caller := 9, round := 11 } .select) = true := by decide +kernel
theorem w10_ok : isOk (step id w9 { caller := 1, round := 17 } .claimPayment) = true := by decide +kernel
theorem w11_ok : isOk (step id w10 { caller := 7, round := 26 } .claim) = true := by decide +kernel
theorem w12_ok : isOk (step id w11 { caller := 7, round := 50 } .claim) = true := by decide +kernel

theorem w0_reach : g1_ReachA id wArgs w0 0 :=
  g1_ReachA.init { caller := 1, round := 0 } w0 rfl

theorem w5_reach : g1_ReachA id wArgs w5 6 :=
  g1_callOk { caller := 8, round := 6, egld := 10 } (.confirm 1)
    (g1_callOk { caller := 7, round := 5, egld := 20 } (.confirm 2)
      (g1_callOk { caller := 1, round := 2, esdts := [⟨.esdt 1, 0, 40⟩] } .deposit
        (g1_callOk { caller := 1, round := 1 } (.setSchedule1 16 2500 3 2500 10)
          (g1_callOk { caller := 1, round := 1 } (.addTicketsV1 wAlloc)
            w0_reach (by decide) (Or.inl rfl)
            (by show ∀ q ∈ wAlloc, 1 ≤ q.2.1 + q.2.2.1; decide) (by decide +kernel))
          (by decide) (Or.inl rfl) trivial (by decide +kernel))
        (by decide) (Or.inl rfl) trivial (by decide +kernel))
      (by decide) (Or.inr rfl) trivial (by decide +kernel))
    (by decide) (Or.inr rfl) trivial (by decide +kernel)

theorem w8_reach : g1_ReachA id wArgs w8 12 :=
  g1_callOk { caller := 9, round := 12 } .distribute
    (g1_callOk _ _ (g1_callOk _ _ w5_reach (by decide) (Or.inl rfl) trivial w6_ok)
      (by decide) (Or.inl rfl) trivial w7_ok)
    (by decide) (Or.inl rfl) trivial (by decide +kernel)

theorem w9_reach : g1_ReachA id wArgs w9 16 :=
  g1_callOk { caller := 7, round := 16 } .claim w8_reach (by decide) (Or.inl rfl) trivial (by decide +kernel)

theorem w10_reach : g1_ReachA id wArgs w10 17 :=
  g1_callOk _ _ w9_reach (by decide) (Or.inl rfl) trivial w10_ok

theorem w12_reach : g1_ReachA id wArgs w12 50 :=
  g1_callOk _ _ (g1_callOk _ _ w10_reach (by decide) (Or.inl rfl) trivial w11_ok)
    (by decide) (Or.inl rfl) trivial w12_ok

/-- the owner's surplus is 0 (deposit 40 = 2 winners × 20); at the end no launchpad token is left
    and the payment-token balance is 8's refund -/
example : w2.sched1 = some wSched ∧ w8.nrWinning = 2 ∧ AllDone w8 ∧ winCountOf w8 7 = 2 ∧
    w8.bal (.esdt 1) 0 = 40 ∧ w8.claimablePayment = 20 ∧
    w9.userTotal 7 = 40 ∧ w9.userClaimed 7 = 10 ∧ w9.bal (.esdt 1) 0 = 30 ∧ w9.nrWinning = 0 ∧
    ownSurplus w9 = 0 ∧ w10.totalDeposited = 0 ∧ w10.claimablePayment = 0 ∧ w10.bal (.esdt 1) 0 = 30 ∧
    w11.userClaimed 7 = 20 ∧ w11.bal (.esdt 1) 0 = 20 ∧
    w12.userClaimed 7 = 40 ∧ w12.bal (.esdt 1) 0 = 0 ∧ w12.bal .egld 0 = 10 := by
  unfold AllDone; decide +kernel

/-- `claim_releases_exactly_guarV1`: the repeat claim at round 26 books `40 × 50 % = 20` -/
example : w11.userClaimed 7 = entitled (w11.userTotal 7) (pct1 26 w10.sched1) ∧
    entitled 40 (unlockedPct1 26 wSched) = 20 := by
  obtain ⟨o, ho⟩ := stOf_spec w11_ok w10
  have h := (claim_releases_exactly_guarV1 id w10 17 (g1_Reach_iff.mpr ⟨_, w10_reach⟩)
    { caller := 7, round := 26 } w11 o (by decide) ho).2.1
  dsimp only at h
  exact ⟨h, by decide⟩

/-- `vesting_path_independent_guarV1` from `w9`: after the owner's withdrawal and the claim at
    round 26, the claim at round 50 (`start + 3 × 10 = 46 ≤ 50`) releases everything -/
example : w12.userClaimed 7 = w9.userTotal 7 ∧ w12.sched1 = some wSched := by
  obtain ⟨o10, h10⟩ := stOf_spec w10_ok w9
  obtain ⟨o11, h11⟩ := stOf_spec w11_ok w10
  obtain ⟨o12, h12⟩ := stOf_spec w12_ok w11
  have hl : g1_Later id w9 16 w11 26 :=
    .call w10 17 { caller := 7, round := 26 } .claim w11 o11
      (.call w9 16 { caller := 1, round := 17 } .claimPayment w10 o10 .refl (by decide) (Or.inl rfl) trivial h10)
      (by decide) (Or.inl rfl) trivial h11
  have h := vesting_path_independent_guarV1 id w9 16 (g1_Reach_iff.mpr ⟨_, w9_reach⟩) wSched
    (by decide +kernel) (by decide +kernel) { caller := 7, round := 50 } (by decide +kernel)
    w11 26 hl w12 o12 (by decide) h12
  dsimp only at h
  exact ⟨h.2.2.2.2.2 (Or.inl (by decide)), h.2.1⟩

/-- replacing the schedule after the confirmation period has started is rejected -/
example : isOk (step id w10 { caller := 1, round := 27 } (.setSchedule1 30 10000 0 0 0)) = false := by
  decide +kernel

example : (∃ L : List Nat, Covers w12 L ∧ PayEqPost w12 L) ∧
    (∃ L : List Nat, L.Nodup ∧ w9.bal (.esdt w9.lpTok) 0 = ownSurplus w9 + w9.perTicket * w9.nrWinning
        + sumOver (fun a => w9.userTotal a - w9.userClaimed a) L) := by
  obtain ⟨L, h1, _, h3⟩ := C01_solvent_guarV1 id w12 50 (g1_Reach_iff.mpr ⟨_, w12_reach⟩)
  obtain ⟨L', k1, _, k3⟩ := lp_exact_guarV1 id w9 16 (g1_Reach_iff.mpr ⟨_, w9_reach⟩)
    (by unfold AllDone; decide +kernel)
  exact ⟨⟨L, h1, h3 (by unfold AllDone; decide +kernel)⟩, ⟨L', k1, k3⟩⟩

end LP.Props.C01reachG1

#print axioms LP.Props.C01reachG1.C01_solvent_guarV1
#print axioms LP.Props.C01reachG1.three_counts_guarV1
#print axioms LP.Props.C01reachG1.claim_refund_covered_guarV1
#print axioms LP.Props.C01reachG1.all_settled_nothing_left_guarV1
#print axioms LP.Props.C01reachG1.final_winners_guarV1_partial
#print axioms LP.Props.C01reachG1.winners_bound_guarV1
#print axioms LP.Props.C01reachG1.proceeds_until_withdrawal_guarV1
#print axioms LP.Props.C01reachG1.interrupted_distribute_keeps_pre_guarV1
#print axioms LP.Props.C01reachG1.whitelisted_iff_guarV1
#print axioms LP.Props.C01reachG1.guarantee_honoured_guarV1
#print axioms LP.Props.C01reachG1.reserve_guarV1
#print axioms LP.Props.C01reachG1.lp_before_distribution_guarV1
#print axioms LP.Props.C01reachG1.unsettled_no_record_guarV1
#print axioms LP.Props.C01reachG1.lp_ledger_guarV1
#print axioms LP.Props.C01reachG1.lp_exact_guarV1
#print axioms LP.Props.C01reachG1.lp_exact_unsettled_guarV1
#print axioms LP.Props.C01reachG1.lp_cover_guarV1
#print axioms LP.Props.C01reachG1.owner_withdrawal_guarV1
#print axioms LP.Props.C01reachG1.vested_claim_covered_guarV1
#print axioms LP.Props.C01reachG1.unsettled_winner_covered_guarV1
#print axioms LP.Props.C01reachG1.released_exact_guarV1
#print axioms LP.Props.C01reachG1.claim_releases_exactly_guarV1
#print axioms LP.Props.C01reachG1.vesting_path_independent_guarV1
#print axioms LP.Props.C01reachG1.later_amount_guarV1
#print axioms LP.Props.C01reachG1.lp_nothing_left_guarV1
#print axioms LP.Props.C01reachG1.deposit_is_perTicket_times_T0_guarV1
#print axioms LP.Props.C01reachG1.schedule_frozen_guarV1
#print axioms LP.Props.C01reachG1.setSchedule1_only_before_release_guarV1
#print axioms LP.Props.C01reachG1.g1_callOk
#print axioms LP.Props.C01reachG1.w0_reach
#print axioms LP.Props.C01reachG1.w5_reach
#print axioms LP.Props.C01reachG1.w8_reach
#print axioms LP.Props.C01reachG1.w9_reach
#print axioms LP.Props.C01reachG1.w12_reach
