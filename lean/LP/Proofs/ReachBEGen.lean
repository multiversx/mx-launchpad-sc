import LP.Props.C10frame
import LP.Props.C17
import LP.Proofs.ReachPlain
import LP.Proofs.Later
/-
  Prefix `be_`: statements over all eight variants at once.  What is true of any state of any
  variant along a history `be_Later P` (`Later`): the timeline `conf < sel ≤ claim` stays valid and
  the variant never changes; an accepted call at a round `≥ cfg.sel` changes neither `cfg.sel`
  (`sel_frozen_once_reached`, Frame) nor the blacklist (the three blacklist endpoints are
  stage-gated), which `be_Frozen` carries along a history and along `run`; where the variant has no `unblacklist`,
  a blacklisted address stays blacklisted.
-/
namespace LP
open LP.Props LP.Events LP.Props.C17

theorem be_validPeriods_init {v : Variant} {a : InitArgs} {e : Env} {s : State}
    (h : init v a e = .ok s) : validPeriods s.cfg = true := by
  obtain ⟨hok, rfl⟩ := init_ok h
  exact hok.periods

theorem be_validPeriods_step {hash : List Nat → List Nat} {s s' : State} {e : Env} {c : Call} {o : Out}
    (h : step hash s e c = .ok (s', o)) (hv : validPeriods s.cfg = true) :
    validPeriods s'.cfg = true := by
  by_cases hc : (∃ r, c = .setConfStart r) ∨ (∃ r, c = .setSelStart r) ∨ (∃ r, c = .setClaimStart r)
  · obtain ⟨m, t, _, _, _, hx, rfl, _⟩ := step_ok_inv h
    rcases hc with ⟨r, rfl⟩ | ⟨r, rfl⟩ | ⟨r, rfl⟩
    · obtain ⟨_, h2, rfl⟩ := exec_setConfStart_ok hx; exact h2
    · obtain ⟨_, h2, rfl⟩ := exec_setSelStart_ok hx; exact h2
    · obtain ⟨_, h2, rfl⟩ := exec_setClaimStart_ok hx; exact h2
  · rw [cfg_frame h ⟨fun r hr => hc (.inl ⟨r, hr⟩), fun r hr => hc (.inr (.inl ⟨r, hr⟩)),
      fun r hr => hc (.inr (.inr ⟨r, hr⟩))⟩]
    exact hv

theorem be_stage_late {s : State} {e : Env} (hv : validPeriods s.cfg = true) (hr : s.cfg.sel ≤ e.round) :
    s.stage e ≠ .addTickets ∧ s.stage e ≠ .confirm := by
  obtain ⟨h1, _⟩ := (validPeriods_iff _).mp hv
  constructor
  · intro h; have := rb_stage_addTickets h; omega
  · intro h; have := (rb_stage_confirm h).2; omega

theorem be_blacklist_frozen_step {hash : List Nat → List Nat} {s s' : State} {e : Env} {c : Call} {o : Out}
    (h : step hash s e c = .ok (s', o)) (hv : validPeriods s.cfg = true) (hr : s.cfg.sel ≤ e.round) :
    s'.blacklist = s.blacklist := by
  have hst := be_stage_late hv hr
  have gate : ((∃ l, c = .blacklist l) ∨ (∃ l, c = .refundUsers l) ∨ (∃ l, c = .unblacklist l)) → False := by
    intro hc
    rcases C06.blacklist_only_before_selection hash s e c _ hc h with h1 | h1
    · exact hst.1 h1
    · exact hst.2 h1
  exact C10frame.blacklist_frame hash s s' e c o h
    (fun l hc => gate (Or.inl ⟨l, hc⟩)) (fun l hc => gate (Or.inr (Or.inl ⟨l, hc⟩)))
    (fun l hc => gate (Or.inr (Or.inr ⟨l, hc⟩)))

/-- what is carried along a history once selection has started -/
structure be_Frozen (s0 s : State) (r : Nat) : Prop where
  valid : validPeriods s.cfg = true
  sel : s.cfg.sel = s0.cfg.sel
  reached : s0.cfg.sel ≤ r
  bl : s.blacklist = s0.blacklist

theorem be_Frozen.step {hash : List Nat → List Nat} {s0 s s' : State} {r : Nat} {e : Env} {c : Call} {o : Out}
    (hf : be_Frozen s0 s r) (hr : r ≤ e.round) (h : step hash s e c = .ok (s', o)) :
    be_Frozen s0 s' e.round := by
  have h1 : s.cfg.sel ≤ e.round := by rw [hf.sel]; exact Nat.le_trans hf.reached hr
  exact ⟨be_validPeriods_step h hf.valid, by rw [sel_frozen_once_reached h h1, hf.sel],
    Nat.le_trans hf.reached hr, by rw [be_blacklist_frozen_step h hf.valid h1, hf.bl]⟩

theorem be_Frozen.wait {s0 s : State} {r r' : Nat} (hf : be_Frozen s0 s r) (hr : r ≤ r') :
    be_Frozen s0 s r' := ⟨hf.valid, hf.sel, Nat.le_trans hf.reached hr, hf.bl⟩

theorem be_frozen_later {P : Env → Call → Prop} {hash : List Nat → List Nat} {s s' : State} {r r' : Nat}
    (hv : validPeriods s.cfg = true) (hsel : s.cfg.sel ≤ r) (h : be_Later P hash s r s' r') :
    be_Frozen s s' r' := by
  induction h with
  | refl => exact ⟨hv, rfl, hsel, rfl⟩
  | call s1 r1 e c s2 o _ h1 _ h3 ih => exact ih.step h1 h3
  | wait s1 r1 r2 _ h1 ih => exact ih.wait h1


theorem be_Frozen.restart {s0 s : State} {r : Nat} (hf : be_Frozen s0 s r) :
    be_Frozen s0 s s0.cfg.sel := ⟨hf.valid, hf.sel, Nat.le_refl _, hf.bl⟩

/-- the `run` form: a history all of whose transactions happen at rounds `≥ sel` (in any order) -/
theorem be_frozen_run (hash : List Nat → List Nat) (h : List (Env × Call)) (s0 s : State) (r : Nat)
    (hf : be_Frozen s0 s r) (hall : ∀ p ∈ h, s0.cfg.sel ≤ p.1.round) :
    (run hash s h).blacklist = s0.blacklist ∧ (run hash s h).cfg.sel = s0.cfg.sel ∧
    validPeriods (run hash s h).cfg = true := by
  revert hall
  refine run_rec hash (M := fun s h => be_Frozen s0 s s0.cfg.sel → (∀ p ∈ h, s0.cfg.sel ≤ p.1.round) →
    (run hash s h).blacklist = s0.blacklist ∧ (run hash s h).cfg.sel = s0.cfg.sel ∧
    validPeriods (run hash s h).cfg = true) ?_ ?_ ?_ h s hf.restart
  · exact fun s hf _ => ⟨hf.bl, hf.sel, hf.valid⟩
  · intro s e c rest er hst ih hf hall
    rw [run_cons_err hst]
    exact ih hf fun x hx => hall x (List.mem_cons_of_mem _ hx)
  · intro s e c rest s' o hst ih hf hall
    rw [run_cons_ok hst]
    exact ih (hf.step (hall _ (List.mem_cons_self ..)) hst).restart
      fun x hx => hall x (List.mem_cons_of_mem _ hx)

theorem be_validPeriods_run (hash : List Nat → List Nat) (s : State) (h : List (Env × Call))
    (hv : validPeriods s.cfg = true) : validPeriods (run hash s h).cfg = true :=
  run_induct hash (fun s => validPeriods s.cfg = true)
    (fun _ _ _ _ _ hp hst => be_validPeriods_step hst hp) h s hv

theorem be_Later.variant {P : Env → Call → Prop} {hash : List Nat → List Nat} {s s' : State}
    {r r' : Nat} (h : be_Later P hash s r s' r') : s'.variant = s.variant :=
  h.invariant (Q := fun x => x.variant = s.variant)
    (fun _ _ _ _ _ hq hst => (step_variant hst).trans hq) rfl

theorem be_blacklist_mono_step {hash : List Nat → List Nat} {s s' : State} {e : Env} {c : Call} {o : Out}
    (h : step hash s e c = .ok (s', o)) (hv : s.variant.hasUnblacklist = false) {a : Nat}
    (hb : s.blacklist a = true) : s'.blacklist a = true := by
  by_cases h1 : ∃ l, c = .blacklist l
  · obtain ⟨l, rfl⟩ := h1
    rw [C10frame.blacklist_after_blacklist hash s s' e l o h]
    by_cases hm : a ∈ l <;> simp [hm, hb]
  by_cases h2 : ∃ l, c = .refundUsers l
  · obtain ⟨l, rfl⟩ := h2
    rw [C10frame.blacklist_after_refundUsers hash s s' e l o h]
    by_cases hm : a ∈ l <;> simp [hm, hb]
  by_cases h3 : ∃ l, c = .unblacklist l
  · obtain ⟨l, rfl⟩ := h3
    have := (C10.unblacklist_effect hash s e l s' o h).1
    rw [hv] at this; cases this
  · rw [C10frame.blacklist_frame hash s s' e c o h (fun l hc => h1 ⟨l, hc⟩) (fun l hc => h2 ⟨l, hc⟩)
      (fun l hc => h3 ⟨l, hc⟩)]
    exact hb

theorem be_blacklist_permanent {P : Env → Call → Prop} {hash : List Nat → List Nat} {s s' : State}
    {r r' : Nat} (hv : s.variant.hasUnblacklist = false) (h : be_Later P hash s r s' r') {a : Nat}
    (hb : s.blacklist a = true) : s'.variant = s.variant ∧ s'.blacklist a = true :=
  h.invariant (Q := fun x => x.variant = s.variant ∧ x.blacklist a = true)
    (fun _ _ _ _ _ hq hst => ⟨by rw [step_variant hst, hq.1],
      be_blacklist_mono_step hst (by rw [hq.1]; exact hv) hq.2⟩) ⟨rfl, hb⟩

end LP
