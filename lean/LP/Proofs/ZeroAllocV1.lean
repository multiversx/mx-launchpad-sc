import LP.Proofs.ZeroAllocShadow
/-
  v1 guaranteed family without the restriction `v1_CallOK` (`v1_ReachZ`: `addTicketsV1` entries may
  have zero tickets).  The first `filter` call hands over from the shadow (`zv_PA`) to the erased
  state `zv_z s`, which satisfies `v1_WF` from then on and takes the same steps as the real state,
  except that a claim by a holder of an empty range is matched by no step.  `zv_sim`: the invariant
  `zv_Inv a0.nrWinning` holds in every `v1_ReachZA` state; the last section reads the properties off it.
-/
namespace LP
open LP.FY LP.Events

/-! ### before the first `filter` call: the family's instance of `PAFam` -/

/-- `PAof v1PA` (`zv_PA_iff`) -/
structure zv_PA (T0 : Nat) (s : State) (r : Nat) : Prop where
  sh : ∃ U BU N TG, v1_WF T0 (zv_sh s U BU N TG) r ∧
    (∀ u, (z_eraseR s.range u).isSome = true → (U u).isSome = true)
  gx : GuarInvX s
  sum : s.nrWinning + s.totalGuaranteed = T0
  hd : z_Hd s
  ns : s.flags.started = false

def v1PA : PAFam where
  WF := v1_WF
  call_WF := v1_call_WF
  wait_WF := v1_wait_WF
  flags h := by
    obtain ⟨_, _, f3, f4, f5, _⟩ := v1_fam_flags h.var
    exact ⟨f3, f4, f5⟩
  minConf h := h.static.1
  sum h hns := by
    obtain ⟨_, htg, L0, hp, hA, _⟩ := v1_phase_notStarted h.phase hns
    exact (zv_notStarted_facts htg hp hA).1
  noConf h hns := by
    obtain ⟨_, htg, L0, hp, hA, _⟩ := v1_phase_notStarted h.phase hns
    exact (zv_notStarted_facts htg hp hA).2
  noPay h _ hn := absurd ((v1_fam_flags h.var).2.1.symm.trans hn) nofun

theorem zv_PA_iff {T0 : Nat} {s : State} {r : Nat} : zv_PA T0 s r ↔ PAof v1PA T0 s r :=
  ⟨fun h => ⟨h.sh, h.gx, h.sum, h.hd, h.ns⟩, fun h => ⟨h.sh, h.gx, h.sum, h.hd, h.ns⟩⟩

theorem zv_sh_sum {T0 : Nat} {s : State} {U BU : Nat → Option UTS} {N TG r : Nat}
    (h : v1_WF T0 (zv_sh s U BU N TG) r) (hns : s.flags.started = false) : N + TG = T0 :=
  v1PA.sum h hns

/-! ### the first `filter` call: the erased state `zv_z s` takes it and lands in `v1_WF` -/

/-- `v1_WF` before the first filter call with the reserve invariant cut down to its range-free
    clauses (which is all `filter` needs) -/
structure zv_WFA (T0 : Nat) (s : State) (r : Nat) : Prop where
  var : v1_Fam s.variant
  pricePos : 0 < s.price
  tokNe : s.payTok ≠ .esdt s.lpTok
  static : 0 < s.minConfirmed ∧ s.lockPct ≤ 10000
  balOther : ∀ t, t ≠ s.payTok → t ≠ .esdt s.lpTok → s.bal t 0 = 0
  tlConf : r < s.cfg.conf → ∀ a, s.confirmed a = 0
  tlStarted : s.flags.started = true → s.cfg.conf ≤ r ∧ s.cfg.sel ≤ r
  lp : s.deposited = true → s.perTicket * v1_owed s ≤ s.bal (.esdt s.lpTok) 0
  add : s.flags.additional = false
  tg : s.totalGuaranteed ≤ T0
  pre : ∃ L0, Pre (T0 - s.totalGuaranteed) s.core L0 ∧ PhA s.core L0
  gw : v1_GW (v1_gv s)

theorem zv_filter_weak {T0 : Nat} {hash : List Nat → List Nat} {s s' : State} {e : Env} {o : Out}
    {r : Nat} (h : zv_WFA T0 s r) (_hr : r ≤ e.round)
    (hs : step hash s e .filter = .ok (s', o)) : v1_WF T0 s' e.round ∧ s'.flags.started = true := by
  obtain ⟨t, hx, rfl⟩ := step_np rfl hs
  obtain ⟨L0, hp, ha⟩ := h.pre
  obtain ⟨hpre, R, B, fl, op, nw, last, hs', hst, _, hfa, hnw, hph⟩ :=
    v1_filter_first (pb := s.core.payBal) (rbTx_s s e) h.add h.tg hp (Or.inl ha) h.gw hx
  have hc := rb_stage_winnerSelection hpre.stage
  rw [hs'] at hph ⊢
  refine ⟨⟨h.var, h.pricePos, h.tokNe, h.static, h.balOther, fun hlt => absurd hc.1 (Nat.not_le.mpr hlt),
    fun _ => hc, fun hd => Nat.le_trans (Nat.mul_le_mul_left _ ?_) (h.lp hd), hph⟩, hst⟩
  show nw + (if fl.additional = true then 0 else s.totalGuaranteed) ≤
    s.nrWinning + (if s.flags.additional = true then 0 else s.totalGuaranteed)
  rw [hfa]
  exact Nat.add_le_add_right hnw _

theorem zv_WFA_of_PA {T0 : Nat} {s : State} {r : Nat} (h : zv_PA T0 s r) : zv_WFA T0 (zv_z s) r := by
  obtain ⟨U, BU, N, TG, hwf, _⟩ := h.sh
  obtain ⟨hadd, htg, L0, hp, ha, _⟩ := v1_phase_notStarted hwf.phase h.ns
  have hsum := zv_sh_sum hwf h.ns
  have hs := h.sum
  have hiv2 : s.variant.isV2 = false := (v1_fam_flags hwf.var).2.2.1
  have hadd' : s.flags.additional = false := hadd
  refine ⟨hwf.var, hwf.pricePos, hwf.tokNe, hwf.static, hwf.balOther, hwf.tlConf, hwf.tlStarted, ?_,
    hadd, by show s.totalGuaranteed ≤ T0; omega, ⟨L0, ?_, ⟨ha.notStarted, ha.op, ha.chain, ha.last⟩⟩, ?_⟩
  · intro hd
    have h0 := hwf.lp hd
    have e1 : v1_owed (zv_sh s U BU N TG) = T0 := by
      show N + (if s.flags.additional = true then 0 else TG) = T0
      rw [hadd']; simpa using hsum
    have e2 : v1_owed (zv_z s) = T0 := by
      show s.nrWinning + (if s.flags.additional = true then 0 else s.totalGuaranteed) = T0
      rw [hadd']; simpa using hs
    rw [e1] at h0
    rw [e2]
    exact h0
  · exact ⟨hp.notFiltered, hp.notSelected, by show s.nrWinning = T0 - s.totalGuaranteed; omega,
      hp.status0, hp.pos0, hp.ok, hp.outC, hp.outR, hp.pay⟩
  · have hb := h.gx.base
    rw [hiv2] at hb
    exact ⟨hb.total, hb.mem_of_pos, hb.pos_of_mem⟩

/-- the first `filter` call: the real state is `ZSim`-related to its own erasure (`zv_ZSim_z`), which
    takes the same step and lands in `v1_WF` -/
theorem zv_PA_filter {T0 : Nat} {hash : List Nat → List Nat} {s s' : State} {e : Env}
    {o : Out} {r : Nat} (h : zv_PA T0 s r) (hr : r ≤ e.round)
    (hs : step hash s e .filter = .ok (s', o)) :
    ∃ z', v1_WF T0 z' e.round ∧ ZSim s' z' ∧ s'.flags.started = true ∧
      step hash (zv_z s) e .filter = .ok (z', o) := by
  have hwfa := zv_WFA_of_PA h
  obtain ⟨L0, hp, ha⟩ := hwfa.pre
  obtain ⟨z', h1, _, h3⟩ := z_core_filter (zv_ZSim_z s)
    (fun _ => ⟨L0, z_filter_facts hp (Or.inl ha) rfl rfl rfl rfl rfl⟩) hs
  obtain ⟨hwf', hst'⟩ := zv_filter_weak hwfa hr h3
  exact ⟨z', hwf', h1, by rw [← h1.fields.2.1]; exact hst', h3⟩

/-! ### the histories, the invariant, the calls before the first `filter` call -/

/-- states reachable from a deployment with arguments `a0` by ANY accepted calls (no `v1_CallOK`:
    `addTicketsV1` entries may have zero tickets).  As a relation it coincides with `ReachZA` of
    LP/Proofs/ZeroAllocSim.lean (both are `be_From (be_OK fun _ => True)`), under the family's name. -/
inductive v1_ReachZA (hash : List Nat → List Nat) (v : Variant) (a0 : InitArgs) : State → Nat → Prop
  | init (e : Env) (s : State) : init v a0 e = .ok s → v1_ReachZA hash v a0 s e.round
  | call (s : State) (r : Nat) (e : Env) (c : Call) (s' : State) (o : Out) :
      v1_ReachZA hash v a0 s r → r ≤ e.round → EnvOK e →
      step hash s e c = .ok (s', o) → v1_ReachZA hash v a0 s' e.round
  | wait (s : State) (r r' : Nat) : v1_ReachZA hash v a0 s r → r ≤ r' → v1_ReachZA hash v a0 s r'

/-- `v1_Reach` without the `v1_CallOK` premise -/
inductive v1_ReachZ (hash : List Nat → List Nat) (v : Variant) : State → Nat → Prop
  | init (a : InitArgs) (e : Env) (s : State) : init v a e = .ok s → v1_ReachZ hash v s e.round
  | call (s : State) (r : Nat) (e : Env) (c : Call) (s' : State) (o : Out) :
      v1_ReachZ hash v s r → r ≤ e.round → EnvOK e →
      step hash s e c = .ok (s', o) → v1_ReachZ hash v s' e.round
  | wait (s : State) (r r' : Nat) : v1_ReachZ hash v s r → r ≤ r' → v1_ReachZ hash v s r'

theorem v1_reachZA_iff_later {hash : List Nat → List Nat} {v : Variant} {a0 : InitArgs} {s : State} {r : Nat} :
    v1_ReachZA hash v a0 s r ↔ be_From (be_OK (fun _ => True)) hash v a0 s r := by
  constructor <;> intro h
  · induction h with
    | init e s h => exact .init h
    | call _ _ _ _ _ _ _ h1 h2 h3 ih => exact ih.call h1 ⟨h2, trivial⟩ h3
    | wait _ _ _ _ h1 ih => exact ih.wait h1
  · exact h.induct .init (fun s r e c s' o ih h1 h2 h3 => .call s r e c s' o ih h1 h2.1 h3)
      fun s r r' ih h1 => .wait s r r' ih h1

theorem v1_reachZ_iff_later {hash : List Nat → List Nat} {v : Variant} {s : State} {r : Nat} :
    v1_ReachZ hash v s r ↔ ∃ a0, be_From (be_OK (fun _ => True)) hash v a0 s r := by
  constructor
  · intro h
    induction h with
    | init a e s h => exact ⟨a, .init h⟩
    | call _ _ _ _ _ _ _ h1 h2 h3 ih => exact ih.imp fun _ ih => ih.call h1 ⟨h2, trivial⟩ h3
    | wait _ _ _ _ h1 ih => exact ih.imp fun _ ih => ih.wait h1
  · rintro ⟨a0, h⟩
    exact h.induct (.init a0) (fun s r e c s' o ih h1 h2 h3 => .call s r e c s' o ih h1 h2.1 h3)
      fun s r r' ih h1 => .wait s r r' ih h1

theorem v1_ReachZ_iff {hash : List Nat → List Nat} {v : Variant} {s : State} {r : Nat} :
    v1_ReachZ hash v s r ↔ ∃ a0, v1_ReachZA hash v a0 s r :=
  v1_reachZ_iff_later.trans (exists_congr fun _ => v1_reachZA_iff_later.symm)
theorem v1_ReachA.toZ {hash : List Nat → List Nat} {v : Variant} {a0 : InitArgs} {s : State} {r : Nat}
    (h : v1_ReachA hash v a0 s r) : v1_ReachZA hash v a0 s r :=
  v1_reachZA_iff_later.mpr ((v1_reachA_iff_later.mp h).mono fun _ _ => trivial)

theorem v1_Reach.toZ {hash : List Nat → List Nat} {v : Variant} {s : State} {r : Nat}
    (h : v1_Reach hash v s r) : v1_ReachZ hash v s r :=
  v1_reachZ_iff_later.mpr ((v1_reach_iff_later.mp h).imp fun _ h => h.mono fun _ _ => trivial)
/-- before the first `filter` call the shadow invariant, afterwards `ZSim`-related to a `v1_WF` state -/
def zv_Inv (T0 : Nat) (s : State) (r : Nat) : Prop :=
  zv_PA T0 s r ∨ (s.flags.started = true ∧ ∃ z, v1_WF T0 z r ∧ ZSim s z)

theorem zv_PA_flags {T0 : Nat} {s : State} {r : Nat} (h : zv_PA T0 s r) :
    s.flags.filtered = false ∧ s.flags.selected = false ∧ s.flags.additional = false ∧
    v1_Fam s.variant := by
  obtain ⟨U, BU, N, TG, hwf, _⟩ := h.sh
  obtain ⟨hadd, _, L0, hp, _, _⟩ := v1_phase_notStarted hwf.phase h.ns
  exact ⟨hp.notFiltered, hp.notSelected, hadd, hwf.var⟩

theorem zv_PA_step {T0 : Nat} {hash : List Nat → List Nat} {s s' : State} {e : Env} {c : Call}
    {o : Out} {r : Nat} (h : zv_PA T0 s r) (hr : r ≤ e.round) (hok : EnvOK e)
    (hs : step hash s e c = .ok (s', o)) : zv_Inv T0 s' e.round := by
  obtain ⟨hnf, hnsel, _, hfam⟩ := zv_PA_flags h
  have hex := v1_exposed hfam hs
  cases c with
  | filter =>
    obtain ⟨z', h1, h2, h3, _⟩ := zv_PA_filter h hr hs
    exact Or.inr ⟨h3, z', h1, h2⟩
  | claim =>
    rcases LP.Props.C06.claim_gate hash s e _ hs with h1 | ⟨h1, _⟩
    · have := (stage_claim_iff.mp h1).1.1
      rw [hnsel] at this; cases this
    · rw [(v1_fam_flags hfam).1] at h1; cases h1
  | addTicketsV1 _ | confirm _ | blacklist _ | unblacklist _ | select | distribute | claimPayment
  | deposit | setTicketPrice _ _ | setPerTicket _ | setConfStart _ | setSelStart _ | setClaimStart _
  | setSupport _ | pause | unpause =>
    exact Or.inl (zv_PA_iff.2 (PAof_call rfl hnf hnsel (zv_PA_iff.1 h) hr hok hs))
  | _ => exact (Bool.false_ne_true hex).elim

/-! ### after the first `filter` call: the erased state takes real steps (`zv_PB_match`); `zv_sim` -/

theorem zv_fam_of_sim {T0 : Nat} {s z : State} {r : Nat} (hz : v1_WF T0 z r) (hsim : ZSim s z) :
    v1_Fam s.variant := by
  rw [← hsim.fields.2.2.1]; exact hz.var

/-- after the first `filter` call every accepted call of the real state is matched by the SAME call on
    the erased state, which stays in `v1_WF`, except that a claim by the holder of an empty range is
    matched by no step -/
theorem zv_PB_match {T0 : Nat} {hash : List Nat → List Nat} {s z s' : State} {e : Env} {c : Call}
    {o : Out} {r : Nat} (hst : s.flags.started = true) (hz : v1_WF T0 z r) (hsim : ZSim s z)
    (hr : r ≤ e.round) (hok : EnvOK e) (hs : step hash s e c = .ok (s', o)) :
    ∃ z', v1_WF T0 z' e.round ∧ ZSim s' z' ∧ (step hash z e c = .ok (z', o) ∨ (c = .claim ∧ z' = z)) := by
  have hfam := zv_fam_of_sim hz hsim
  have hex := v1_exposed hfam hs
  obtain ⟨hcfg, hfl, _, _, hcf, _, _⟩ := hsim.fields
  have htl := hz.tlStarted (by rw [hfl]; exact hst)
  rw [hcfg] at htl
  have hearly : ¬ (s.stage e = .addTickets ∨ s.stage e = .confirm) := by
    rintro (h1 | h1)
    · have := rb_stage_addTickets h1; omega
    · have := (rb_stage_confirm h1).2; omega
  cases c with
  | addTicketsV1 l =>
    exact absurd (Or.inl (LP.Props.C06.alloc_only_in_addTickets hash s e _ _
      (Or.inr (Or.inl ⟨l, rfl⟩)) hs)) hearly
  | blacklist l =>
    exact absurd (LP.Props.C06.blacklist_only_before_selection hash s e _ _ (Or.inl ⟨l, rfl⟩) hs) hearly
  | unblacklist l =>
    exact absurd (LP.Props.C06.blacklist_only_before_selection hash s e _ _
      (Or.inr (Or.inr ⟨l, rfl⟩)) hs) hearly
  | confirm n =>
    obtain ⟨z', hsim', _, hstep⟩ := z_core_confirm hsim hs
    exact ⟨z', v1_call_WF (c := .confirm n) hz hr hok trivial hstep, hsim', Or.inl hstep⟩
  | filter =>
    -- a resumed call (`hst`); the not-started disjunct of the phase cannot occur and is passed along
    obtain ⟨z', hsim', _, hstep⟩ := z_core_filter hsim (fun hnf => by
      obtain ⟨_, _, L0, hp, hab⟩ := v1_phase_notFiltered hz.phase hnf
      exact ⟨L0, z_filter_facts hp (hab.imp And.left And.left) rfl rfl rfl rfl rfl⟩) hs
    exact ⟨z', v1_call_WF (c := .filter) hz hr hok trivial hstep, hsim', Or.inl hstep⟩
  | distribute =>
    obtain ⟨h1, hof, h3⟩ := hsim.esim.distribute (v1_fam_flags hfam).2.2.1 hs
    exact ⟨_, v1_call_WF (c := .distribute) hz hr hok trivial h3,
      h1.zsim ((congrArg State.uts hsim.rest :).trans (congrArg Ov.U hof).symm), Or.inl h3⟩
  | claim =>
    obtain ⟨f1, f2, _⟩ := v1_fam_flags hfam
    obtain ⟨_, _, t, hx, rfl, rfl⟩ := (LP.Props.C09.step_claim_ok_iff ..).mp hs
    have hx1 := hx
    rw [exec_claim_nonvested hash _ e (by exact f1)] at hx1
    obtain ⟨rg, ⟨hstg, hncl, hrg, _⟩, _, hts⟩ := claimBase_state (by exact f2)
      (fun _ => by have := hz.static.2; rw [hsim.rest] at this; exact this) hx1
    have hD : PhD z.core := v1_phase_D hz.phase
      (by show z.flags.additional = true; rw [hfl]; exact (stage_claim_iff.mp hstg).1.2)
    obtain ⟨z', h1, h2⟩ := z_core_claim (rg := rg) hsim f1 f2 hs (by rw [← hfl]; exact hD.filtered) hrg hncl
      (by rw [hts]; rfl) (by rw [hts]; rfl) (fun hzn => by rw [← hcf]; exact hD.rngNone _ hzn)
    rcases h2 with h2 | ⟨rfl, _⟩
    · exact ⟨z', v1_call_WF (c := .claim) hz hr hok trivial h2, h1, Or.inl h2⟩
    · exact ⟨z', v1_wait_WF hz hr, h1, Or.inr ⟨rfl, rfl⟩⟩
  | deposit | setTicketPrice _ _ | setPerTicket _ | setConfStart _ | setSelStart _ | setClaimStart _
  | setSupport _ | pause | unpause | select | claimPayment =>
    obtain ⟨z', hsim', _, hstep⟩ := z_core_indep rfl hsim hs
    exact ⟨z', v1_call_WF hz hr hok (z_indep_v1_CallOK rfl) hstep, hsim', Or.inl hstep⟩
  | _ => exact (Bool.false_ne_true hex).elim

theorem zv_Inv_step {T0 : Nat} {hash : List Nat → List Nat} {s s' : State} {e : Env} {c : Call}
    {o : Out} {r : Nat} (h : zv_Inv T0 s r) (hr : r ≤ e.round) (hok : EnvOK e)
    (hs : step hash s e c = .ok (s', o)) : zv_Inv T0 s' e.round := by
  rcases h with h | ⟨hst, z, hz, hsim⟩
  · exact zv_PA_step h hr hok hs
  · obtain ⟨z', h1, h2, _⟩ := zv_PB_match hst hz hsim hr hok hs
    exact Or.inr ⟨(step_flags_gain4 hs).1 hst, z', h1, h2⟩

theorem zv_Inv_wait {T0 : Nat} {s : State} {r r' : Nat} (h : zv_Inv T0 s r) (hr : r ≤ r') :
    zv_Inv T0 s r' := by
  rcases h with h | ⟨hst, z, hz, hsim⟩
  · exact Or.inl (zv_PA_iff.2 (PAof_wait (zv_PA_iff.1 h) hr))
  · exact Or.inr ⟨hst, z, v1_wait_WF hz hr, hsim⟩

theorem zv_Inv_init {v : Variant} (hv : v1_Fam v) {a : InitArgs} {e : Env} {s : State}
    (h : init v a e = .ok s) : zv_Inv a.nrWinning s e.round := by
  have hwf := v1_init_WF hv h
  obtain ⟨h1, h2, h3, h4, h5, h6, h7, h8, h9, h10, h11, h12, h13, h14, h15, h16, h17, h18,
    h19, h20, h21, h22, h23, h24, h25⟩ := v1_init_inv hv h
  exact Or.inl (zv_PA_iff.2 (PAof_init (W := v1PA) hwf h20 h21 h22 h14 h15 h23 h8 (by rw [h9])))

theorem zv_sim {hash : List Nat → List Nat} {v : Variant} (hv : v1_Fam v) {a0 : InitArgs}
    {s : State} {r : Nat} (h : v1_ReachZA hash v a0 s r) : zv_Inv a0.nrWinning s r := by
  induction h with
  | init e s h => exact zv_Inv_init hv h
  | call s r e c s' o _ h1 h2 h3 ih => exact zv_Inv_step ih h1 h2 h3
  | wait s r r' _ h1 ih => exact zv_Inv_wait ih h1

/-! ### what the invariant gives on the REAL state -/

/-- the ledger (C01), the three counts and the ranges -/
theorem zv_Inv_ledger {T0 : Nat} {s : State} {r : Nat} (h : zv_Inv T0 s r) :
    ∃ L : List Nat, Covers s L ∧ (¬ AllDone s → PayEqPre s L) ∧
      (AllDone s → PayEqPost s L ∧ sumOver (winCountOf s) L = s.nrWinning ∧
        (∀ a, winCountOf s a ≤ s.confirmed a) ∧
        (∀ a rg, s.range a = some rg → rangeLen rg = s.confirmed a ∧ (rg.first ≤ rg.last → a ∈ L))) :=
  zv_phase_ledger (W := v1PA) v1_WF.phase
    (h.imp zv_PA_iff.1 (fun ⟨_, z, hz, hsim⟩ => ⟨z, hz.phase, hsim.esim⟩))

theorem zv_Inv_lp {T0 : Nat} {s : State} {r : Nat} (h : zv_Inv T0 s r) (hd : s.deposited = true) :
    s.perTicket * v1_owed s ≤ s.bal (.esdt s.lpTok) 0 := by
  rcases h with h | ⟨_, z, hz, hsim⟩
  · exact (zv_WFA_of_PA h).lp hd
  · have hdz : z.deposited = true := by
      have := congrArg State.deposited hsim.rest
      rw [this]; exact hd
    have := hz.lp hdz
    obtain ⟨R, B, K, C, rfl⟩ := hsim.shape'
    exact this

theorem zv_Inv_reserve {T0 : Nat} {s : State} {r : Nat} (h : zv_Inv T0 s r) :
    (s.flags.filtered = false → s.nrWinning + s.totalGuaranteed = T0) ∧
    (s.flags.additional = false → s.nrWinning + s.totalGuaranteed ≤ T0) :=
  zv_phase_reserve (W := v1PA) (h.imp zv_PA_iff.1 (fun ⟨_, z, hz, hsim⟩ => ⟨z, hz.phase, hsim.esim⟩))

theorem zv_Inv_distribute {T0 : Nat} {hash : List Nat → List Nat} {s s' : State} {e : Env}
    {o : Out} {r : Nat} (h : zv_Inv T0 s r) (hr : r ≤ e.round) (hok : EnvOK e)
    (hs : step hash s e .distribute = .ok (s', o)) :
    ∃ z z', v1_WF T0 z r ∧ ZSim s z ∧ ZSim s' z' ∧ step hash z e .distribute = .ok (z', o) := by
  rcases h with h | ⟨hst, z, hz, hsim⟩
  · exfalso
    have := (LP.Props.C06.additional_gate hash s e .distribute _ (Or.inl rfl) hs).2.1
    rw [(zv_PA_flags h).2.1] at this; cases this
  · obtain ⟨z', _, h2, h3 | ⟨hc, _⟩⟩ := zv_PB_match hst hz hsim hr hok hs
    · exact ⟨z, z', hz, hsim, h2, h3⟩
    · cases hc

theorem zv_Inv_selected {T0 : Nat} {s : State} {r : Nat} (h : zv_Inv T0 s r)
    (hsel : s.flags.selected = true) : ∃ z, v1_WF T0 z r ∧ ZSim s z := by
  rcases h with h | ⟨_, z, hz, hsim⟩
  · have := (zv_PA_flags h).2.1
    rw [hsel] at this; cases this
  · exact ⟨z, hz, hsim⟩

end LP

#print axioms LP.zv_sim
