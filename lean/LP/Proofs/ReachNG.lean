import LP.Proofs.ReachV1Final
import LP.Proofs.ReachNft
/-
  The inductive invariant `ng_WF T0 s r` of `Variant.nftGuar` (launchpad-nft-and-guaranteed-tickets;
  prefix `ng_`), with its phase-extraction, build and frame lemmas, deployment and the passing of
  time; then its preservation by every endpoint up to the completion of `secondary`, in the order
  of a launch (`claim`, `claimPayment` and the induction are in ReachNGFinal).  It combines the v1
  and the NFT invariants:
  * ticket space, reserve and ticket-payment ledger are the v1 phases `v1_PhaseC` (ReachV1), but
    over the projection `nf_core s` (ReachNftWF), whose `payBal` is the ticket part of the
    payment-token holdings (`bal payTok 0` minus the NFT fees held in the same slot), so that one
    invariant covers every token configuration;
  * one more phase `ng_PhF` between the completion of the guaranteed-ticket sub-step of `secondary`
    (`creditAdditional` has run: `PhD` holds up to the saved operation) and the completion of the
    NFT draw: `op = additional (nft rng)`, `flags.additional = false`, both ledger equations hold,
    the ticket side is final;
  * fee ledger and the two NFT lists: `nf_SideInv (nf_side s)`, unchanged;
  * `noWinE`: nobody is drawn before the guaranteed-ticket sub-step is complete;
  * the launchpad-token coverage `lp` (`ng_owed`) holds as long as the NFT fee is not kept in the
    launchpad-token slot (`ng_LpSep`).  With the fee in that slot `claimPayment` sends the
    "surplus" — fees included — to the owner, so nothing can be claimed there.  (No reachable
    state has the fee in that slot: `fl_run_fee_ne_lp` in ReachFL, which this module does not
    import; LP/Props/C14feeLp.lean puts the two together.)
-/
namespace LP
open LP.FY LP.Props.C14

theorem ng_flags {v : Variant} (hv : v = .nftGuar) :
    v.vested = false ∧ v.hasNft = true ∧ v.isV2 = false ∧ v.v1Alloc = true ∧ v.hasLock = false ∧
    v.hasGuaranteed = true ∧ v.hasUnblacklist = false ∧ v.noAdditionalStep = false := by
  subst hv; exact ⟨rfl, rfl, rfl, rfl, rfl, rfl, rfl, rfl⟩

/-- phase F: the guaranteed-ticket sub-step is complete (winners and proceeds credited), the NFT
    draw is not; nothing has moved a token, so both ledger equations hold -/
structure ng_PhF (T0 : Nat) (c : Core) (g : v1_G) : Prop where
  notDone : c.flags.additional = false
  post : PhD { c with op := .none }
  pre : ∃ L : List Nat, L.Nodup ∧ (∀ a, c.confirmed a ≠ 0 → a ∈ L) ∧ PayPre c L
  /-- the ticket side is final: winners, their number, the proceeds, honoured guarantees -/
  nrw : c.nrWinning = min T0 c.lastTicketId
  count : countTrue c.status c.lastTicketId = c.nrWinning
  claimable : c.claimable = c.price * c.nrWinning
  inside : ∀ t, c.status t = true → 1 ≤ t ∧ t ≤ c.lastTicketId
  hon : ∀ u st, g.uts u = some st → v1_Hon c g u st

def ng_Phase (T0 : Nat) (c : Core) (g : v1_G) : Prop :=
  v1_PhaseC T0 c g ∨ (ng_PhF T0 c g ∧ ∃ r, c.op = .additional (.nft r))

/-- the launchpad-token ledger is separate from the fee ledger: the fee slot is not the
    launchpad-token slot, or the confirmation period has not begun (nobody has paid a fee) -/
def ng_LpSep (s : State) (r : Nat) : Prop := ¬ (nf_side s).isLp ∨ r < s.cfg.conf

/-- as `v1_owed`; once the draw's generator is saved the reserve has been turned into winners -/
def ng_owed (s : State) : Nat :=
  match s.op with
  | .additional (.nft _) => s.nrWinning
  | _ => v1_owed s

theorem ng_owed_of_not {s : State} (hop : ∀ rg, s.op ≠ .additional (.nft rg)) :
    ng_owed s = v1_owed s := by
  unfold ng_owed
  split
  · rename_i rg h; exact absurd h (hop rg)
  · rfl

theorem ng_owed_nft {s : State} {rg : Rng} (hop : s.op = .additional (.nft rg)) :
    ng_owed s = s.nrWinning := by
  unfold ng_owed; rw [hop]

theorem ng_owed_le (s : State) : ng_owed s ≤ v1_owed s := by
  unfold ng_owed
  split
  · exact Nat.le_add_right _ _
  · exact Nat.le_refl _

theorem ng_owed_congr {s s' : State} (h1 : s'.op = s.op) (h2 : s'.nrWinning = s.nrWinning)
    (h3 : s'.flags = s.flags) (h4 : s'.totalGuaranteed = s.totalGuaranteed) :
    ng_owed s' = ng_owed s := by
  unfold ng_owed v1_owed; rw [h1, h2, h3, h4]

/-- the inductive invariant of `Variant.nftGuar`; `T0` = winners configured at deployment, `r` =
    round of the latest transaction -/
structure ng_WF (T0 : Nat) (s : State) (r : Nat) : Prop where
  var : s.variant = .nftGuar
  pricePos : 0 < s.price
  tokNe : s.payTok ≠ .esdt s.lpTok
  static : 0 < s.minConfirmed
  tlConf : r < s.cfg.conf → ∀ a, s.confirmed a = 0
  tlStarted : s.flags.started = true → s.cfg.conf ≤ r ∧ s.cfg.sel ≤ r
  lp : ng_LpSep s r → s.deposited = true → s.perTicket * ng_owed s ≤ s.bal (.esdt s.lpTok) 0
  noWinE : s.flags.additional = false → (∀ rg, s.op ≠ .additional (.nft rg)) → s.nftWinners = []
  phase : ng_Phase T0 (nf_core s) (v1_gv s)
  side : nf_SideInv (nf_side s)

theorem ng_phase_notStarted {T0 : Nat} {c : Core} {g : v1_G} (h : ng_Phase T0 c g)
    (hs : c.flags.started = false) :
    c.flags.additional = false ∧ g.tg ≤ T0 ∧ ∃ L0, Pre (T0 - g.tg) c L0 ∧ PhA c L0 ∧ v1_GX c g := by
  rcases h with h | ⟨hF, _⟩
  · exact v1_phase_notStarted h hs
  · have : c.flags.started = true := hF.post.started
    rw [hs] at this; cases this

theorem ng_phase_notFiltered {T0 : Nat} {c : Core} {g : v1_G} (h : ng_Phase T0 c g)
    (hs : c.flags.filtered = false) :
    c.flags.additional = false ∧ g.tg ≤ T0 ∧
      ∃ L0, Pre (T0 - g.tg) c L0 ∧ ((PhA c L0 ∧ v1_GX c g) ∨ (PhB c L0 ∧ v1_GW g)) := by
  rcases h with h | ⟨hF, _⟩
  · exact v1_phase_notFiltered h hs
  · have : c.flags.filtered = true := hF.post.filtered
    rw [hs] at this; cases this

theorem ng_phase_C {T0 : Nat} {c : Core} {g : v1_G} (h : ng_Phase T0 c g)
    (hf : c.flags.filtered = true) (hs : c.flags.selected = false) :
    c.flags.additional = false ∧ g.tg ≤ T0 ∧ PhC (T0 - g.tg) c ∧ v1_GW g := by
  rcases h with h | ⟨hF, _⟩
  · exact v1_phase_C h hf hs
  · have : c.flags.selected = true := hF.post.selected
    rw [hs] at this; cases this

theorem ng_phase_sel {T0 : Nat} {c : Core} {g : v1_G} (h : ng_Phase T0 c g)
    (hs : c.flags.selected = true) (ha : c.flags.additional = false) :
    (g.tg ≤ T0 ∧ v1_PhE T0 c g) ∨ (ng_PhF T0 c g ∧ ∃ r, c.op = .additional (.nft r)) := by
  rcases h with h | hF
  · exact Or.inl (v1_phase_E h hs ha)
  · exact Or.inr hF

theorem ng_phase_D {T0 : Nat} {c : Core} {g : v1_G} (h : ng_Phase T0 c g)
    (ha : c.flags.additional = true) : PhD c := by
  rcases h with h | ⟨hF, _⟩
  · exact v1_phase_D h ha
  · rw [hF.notDone] at ha; cases ha

/-- in phase E the saved operation is none or the guaranteed-ticket cursor -/
theorem ng_PhE_op {T0 : Nat} {c : Core} {g : v1_G} (hE : v1_PhE T0 c g) (r : Rng) :
    c.op ≠ .additional (.nft r) := by
  obtain ⟨lo, off, add, hop, _⟩ := hE.dist
  rcases hop with ⟨h0, _⟩ | ⟨rng, h0⟩ <;> (rw [h0]; intro hh; cases hh)

theorem ng_early_side {T0 : Nat} {s : State} {r : Nat} (h : ng_WF T0 s r)
    (hns : s.flags.started = false) :
    s.flags.additional = false ∧ s.flags.selected = false ∧ s.nftWinners = [] := by
  obtain ⟨h1, _, L0, hp, _⟩ := ng_phase_notStarted h.phase hns
  exact ⟨h1, hp.notSelected, h.side.noWin hp.notSelected⟩

theorem ng_op_not_nft {T0 : Nat} {c : Core} {g : v1_G} (h : v1_PhaseC T0 c g) (rg : Rng) :
    c.op ≠ .additional (.nft rg) := by
  rcases h with ⟨_, _, ⟨L0, _, ⟨hA, _⟩ | ⟨hB, _⟩⟩ | ⟨hC, _⟩ | hE⟩ | ⟨_, hD⟩
  · rw [hA.op]; nofun
  · obtain ⟨f, rm, hop, _⟩ := hB.mid
    rw [hop]; nofun
  · rcases hC.sel with ⟨hop, _⟩ | ⟨rng, pos, arr, hop, _⟩ <;> (rw [hop]; nofun)
  · exact ng_PhE_op hE rg
  · rw [hD.op]; nofun

theorem ng_lp_of_notSel {T0 : Nat} {s : State} {r : Nat} (h : ng_WF T0 s r)
    (hns : s.flags.selected = false) :
    ng_LpSep s r → s.deposited = true → s.perTicket * v1_owed s ≤ s.bal (.esdt s.lpTok) 0 := by
  intro h1 h2
  have hop : ∀ rg, s.op ≠ .additional (.nft rg) := by
    rcases h.phase with hp | ⟨hF, _⟩
    · exact ng_op_not_nft hp
    · have : s.flags.selected = true := hF.post.selected
      rw [hns] at this; cases this
  rw [← ng_owed_of_not hop]
  exact h.lp h1 h2

/-- the invariant from its parts, with the side projection given explicitly -/
theorem ng_WF_buildF {T0 : Nat} {s' : State} {r' : Nat} (p : nf_Side) (hside : nf_side s' = p)
    (hinv : nf_SideInv p) (hv : s'.variant = .nftGuar) (hprice : 0 < s'.price)
    (htok : s'.payTok ≠ .esdt s'.lpTok) (hst : 0 < s'.minConfirmed)
    (tl1 : r' < s'.cfg.conf → ∀ a, s'.confirmed a = 0)
    (tl2 : s'.flags.started = true → s'.cfg.conf ≤ r' ∧ s'.cfg.sel ≤ r')
    (hlp : ng_LpSep s' r' → s'.deposited = true →
      s'.perTicket * ng_owed s' ≤ s'.bal (.esdt s'.lpTok) 0)
    (hnw : s'.flags.additional = false → (∀ rg, s'.op ≠ .additional (.nft rg)) → s'.nftWinners = [])
    (hphase : ng_Phase T0 { s'.core with payBal := p.tix } (v1_gv s')) : ng_WF T0 s' r' :=
  ⟨hv, hprice, htok, hst, tl1, tl2, hlp, hnw, by unfold nf_core; rw [hside]; exact hphase,
    by rw [hside]; exact hinv⟩

/-- the same with the coverage given in the (stronger) `v1_owed` form -/
theorem ng_WF_build {T0 : Nat} {s' : State} {r' : Nat} (p : nf_Side) (hside : nf_side s' = p)
    (hinv : nf_SideInv p) (hv : s'.variant = .nftGuar) (hprice : 0 < s'.price)
    (htok : s'.payTok ≠ .esdt s'.lpTok) (hst : 0 < s'.minConfirmed)
    (tl1 : r' < s'.cfg.conf → ∀ a, s'.confirmed a = 0)
    (tl2 : s'.flags.started = true → s'.cfg.conf ≤ r' ∧ s'.cfg.sel ≤ r')
    (hlp : ng_LpSep s' r' → s'.deposited = true →
      s'.perTicket * v1_owed s' ≤ s'.bal (.esdt s'.lpTok) 0)
    (hnw : s'.flags.additional = false → (∀ rg, s'.op ≠ .additional (.nft rg)) → s'.nftWinners = [])
    (hphase : ng_Phase T0 { s'.core with payBal := p.tix } (v1_gv s')) : ng_WF T0 s' r' :=
  ng_WF_buildF p hside hinv hv hprice htok hst tl1 tl2
    (fun h1 h2 => Nat.le_trans (Nat.mul_le_mul_left _ (ng_owed_le s')) (hlp h1 h2)) hnw hphase

/-- a later state with the same three projections, in which the timeline has not reopened a
    period; `hlp`: the launchpad-token clause (the deposit flag and the amount per ticket are in
    none of the projections) -/
theorem ng_WF.frame {T0 : Nat} {s s' : State} {r r' : Nat} (h : ng_WF T0 s r)
    (hcore : s'.core = s.core) (hside : nf_side s' = nf_side s) (hgv : v1_gv s' = v1_gv s)
    (hv : s'.variant = s.variant) (hcfg : CfgMono s.cfg s'.cfg r') (hr : r ≤ r')
    (hlp : ng_LpSep s r → s'.deposited = true →
      s'.perTicket * ng_owed s ≤ s.bal (.esdt s.lpTok) 0) : ng_WF T0 s' r' := by
  have hprice : s'.price = s.price := congrArg Core.price hcore
  have hflags : s'.flags = s.flags := congrArg Core.flags hcore
  have hconf : s'.confirmed = s.confirmed := congrArg Core.confirmed hcore
  have hnrw : s'.nrWinning = s.nrWinning := congrArg Core.nrWinning hcore
  have hop : s'.op = s.op := congrArg Core.op hcore
  have hp : s'.payTok = s.payTok := congrArg nf_Side.payTok hside
  have hl : s'.lpTok = s.lpTok := congrArg nf_Side.lpTok hside
  have hb : s'.bal = s.bal := congrArg nf_Side.bal hside
  have hw : s'.nftWinners = s.nftWinners := congrArg nf_Side.winners hside
  have hmc : s'.minConfirmed = s.minConfirmed := congrArg v1_G.minConfirmed hgv
  have htg : s'.totalGuaranteed = s.totalGuaranteed := congrArg v1_G.tg hgv
  have hnc : nf_core s' = nf_core s := by unfold nf_core; rw [hcore, hside]
  refine ⟨by rw [hv]; exact h.var, by rw [hprice]; exact h.pricePos, by rw [hp, hl]; exact h.tokNe,
    by rw [hmc]; exact h.static, ?_, ?_, ?_, ?_, by rw [hnc, hgv]; exact h.phase,
    by rw [hside]; exact h.side⟩
  · intro h1
    rw [hconf]
    exact h.tlConf (Nat.lt_of_le_of_lt hr (hcfg.confLt h1))
  · intro h1
    obtain ⟨h2, h3⟩ := h.tlStarted (hflags ▸ h1)
    exact ⟨hcfg.conf (Nat.le_trans h2 hr), hcfg.sel (Nat.le_trans h3 hr)⟩
  · intro h1 hd
    rw [ng_owed_congr hop hnrw hflags htg, hl, hb]
    refine hlp (h1.imp (fun h2 => by rw [hside] at h2; exact h2) fun h2 => ?_) hd
    exact Nat.lt_of_le_of_lt hr (hcfg.confLt h2)
  · rw [hflags, hop, hw]; exact h.noWinE

def ng_initState (a : InitArgs) (e : Env) : State :=
  { variant := .nftGuar, owner := e.caller, lpTok := a.lpTok, perTicket := a.perTicket,
    payTok := a.payTok, price := a.price, nrWinning := a.nrWinning,
    cfg := ⟨a.conf, a.sel, a.claim⟩, flags := { additional := false }, support := e.caller,
    minConfirmed := a.minConfirmed, nftCost := a.nftCost, availNfts := a.availNfts }

theorem ng_init_inv {a : InitArgs} {e : Env} {s : State} (h : init .nftGuar a e = .ok s) :
    0 < a.price ∧ 0 < a.nrWinning ∧ a.payTok ≠ .esdt a.lpTok ∧ 0 < a.availNfts ∧
    0 < a.minConfirmed ∧ s = ng_initState a e := by
  obtain ⟨hok, rfl⟩ := init_ok h
  exact ⟨hok.price, hok.nrWinning, hok.tokNe, (hok.nft rfl).1, hok.minConfirmed rfl, rfl⟩

theorem ng_init_WF {a : InitArgs} {e : Env} {s : State} (h : init .nftGuar a e = .ok s) :
    ng_WF a.nrWinning s e.round := by
  obtain ⟨h1, h2, h3, h4, h5, rfl⟩ := ng_init_inv h
  have hheld : (nf_side (ng_initState a e)).held = 0 := by
    simp [nf_Side.held, nf_side, ng_initState]
  have hfee : (nf_side (ng_initState a e)).feeIn = 0 := nf_feeIn_zero hheld
  refine ⟨rfl, h1, h3, h5, fun _ _ => rfl, nofun, nofun, fun _ _ => rfl, ?_, ?_⟩
  · left; left
    refine ⟨rfl, Nat.zero_le _, Or.inl ⟨[], ⟨rfl, rfl, rfl, rfl, rfl, ⟨List.nodup_nil, nofun, nofun⟩,
      fun _ _ => rfl, fun _ _ => rfl, ?_⟩, Or.inl ⟨⟨rfl, rfl, trivial, rfl⟩, ?_, nofun⟩⟩⟩
    · show (nf_side (ng_initState a e)).tix = a.price * sumOver (fun _ => 0) []
      unfold nf_Side.tix
      rw [hfee]
      simp [sumOver, nf_side, ng_initState]
    · exact (GuarInvX_initial (ng_initState a e) rfl rfl rfl rfl rfl).base
  · refine ⟨fun _ _ _ _ _ => rfl, fun _ => by rw [hheld]; exact Nat.zero_le _,
      fun _ _ => by rw [hheld]; rfl, List.nodup_nil, List.nodup_nil, nofun, Nat.zero_le _, ?_,
      fun _ _ => rfl, nofun, fun _ => rfl⟩
    intro a ha
    rcases ha with ha | ha <;> cases ha

theorem ng_wait_WF {T0 : Nat} {s : State} {r r' : Nat} (h : ng_WF T0 s r) (hr : r ≤ r') :
    ng_WF T0 s r' :=
  h.frame rfl rfl rfl rfl (CfgMono.refl _ _) hr h.lp

end LP

/-
  `ng_WF` is preserved by the endpoints of `Variant.nftGuar` that neither loop over tickets nor
  claim: the setters, `sftSetup`, `deposit`, `setTicketPrice`, `setNftCost`, `confirm`,
  `confirmNft` (`addTicketsV1`, `blacklist` follow below).
-/
namespace LP
open LP.FY LP.Events LP.Props.C14

theorem ng_addTickets_bal0 {T0 : Nat} {s : State} {r : Nat} (h : ng_WF T0 s r) {n : Nat} (hr : r ≤ n)
    (hlt : n < s.cfg.conf) :
    (nf_side s).held = 0 ∧ ∀ t k, ¬ (t = .esdt s.lpTok ∧ k = 0) → s.bal t k = 0 := by
  have hns : s.flags.started = false := notStarted_of_lt h.tlStarted hr (Or.inl hlt)
  obtain ⟨hna, _, L0, hp, _⟩ := ng_phase_notStarted h.phase hns
  exact nf_side_empty h.side hna (h.tlConf (by omega)) hp.pay

theorem ng_admin {T0 : Nat} {hash : List Nat → List Nat} {s s' : State} {e : Env} {c : Call} {o : Out}
    {r : Nat} (hc : c.isAdmin = true) (h : ng_WF T0 s r) (hr : r ≤ e.round)
    (hs : step hash s e c = .ok (s', o)) : ng_WF T0 s' e.round := by
  obtain ⟨cfg', p, su, rfl, hcfg⟩ := step_admin hc hs
  exact h.frame rfl rfl rfl rfl hcfg hr h.lp

theorem ng_sftSetup {T0 : Nat} {hash : List Nat → List Nat} {s s' : State} {e : Env} {o : Out}
    {r : Nat} (h : ng_WF T0 s r) (hr : r ≤ e.round)
    (hs : step hash s e .sftSetup = .ok (s', o)) : ng_WF T0 s' e.round := by
  obtain ⟨t, hx, rfl⟩ := step_np rfl hs
  simp only [exec, pure_ok_iff] at hx
  subst hx
  exact h.frame rfl rfl rfl rfl (CfgMono.refl _ _) hr h.lp

/-- the amount per ticket is set before the deposit only -/
theorem ng_setPerTicket {T0 : Nat} {hash : List Nat → List Nat} {s s' : State} {e : Env} {o : Out}
    {r a : Nat} (h : ng_WF T0 s r) (hr : r ≤ e.round)
    (hs : step hash s e (.setPerTicket a) = .ok (s', o)) : ng_WF T0 s' e.round := by
  obtain ⟨t, hx, rfl⟩ := step_np rfl hs
  obtain ⟨h1, _, h3, _⟩ := exec_setPerTicket_s hx
  rw [h1]
  refine h.frame rfl rfl rfl rfl (CfgMono.refl _ _) hr (fun _ hd => ?_)
  have h3' : s.deposited = false := h3
  have hd' : s.deposited = true := hd
  rw [h3'] at hd'; cases hd'

/-- a call accepted before the winner selection finds the launchpad in phase A, no NFT drawn -/
theorem ng_WF.phaseA {T0 : Nat} {s : State} {e : Env} {r : Nat} (h : ng_WF T0 s r) (hr : r ≤ e.round)
    (hst : s.stage e = .addTickets ∨ s.stage e = .confirm) :
    s.flags.started = false ∧ s.flags.additional = false ∧ s.flags.selected = false ∧
    s.nftWinners = [] ∧ s.totalGuaranteed ≤ T0 ∧
    ∃ L0, Pre (T0 - s.totalGuaranteed) (nf_core s) L0 ∧ PhA (nf_core s) L0 ∧
      v1_GX (nf_core s) (v1_gv s) := by
  have hns : s.flags.started = false := notStarted_of_stage h.tlStarted hr hst
  obtain ⟨hna, hnsel, hw0⟩ := ng_early_side h hns
  obtain ⟨_, htg, hL⟩ := ng_phase_notStarted h.phase hns
  exact ⟨hns, hna, hnsel, hw0, htg, hL⟩

theorem ng_deposit {T0 : Nat} {hash : List Nat → List Nat} {s s' : State} {e : Env} {o : Out}
    {r : Nat} (h : ng_WF T0 s r) (hr : r ≤ e.round) (hok : EnvOK e)
    (hs : step hash s e .deposit = .ok (s', o)) : ng_WF T0 s' e.round := by
  obtain ⟨_, rfl⟩ := step_deposit hok hs
  rw [show reservedForDeposit s = s.totalGuaranteed from if_pos (ng_flags h.var).2.2.2.2.2.1]
  have hbal : ∀ t n, ¬ (t = .esdt s.lpTok ∧ n = 0) →
      (s.bal.add (.esdt s.lpTok) 0 (s.perTicket * (s.nrWinning + s.totalGuaranteed))) t n = s.bal t n := by
    intro t n ht; simp [Bal.add, ht]
  have hside := nf_SideInv_lpBal h.side h.tokNe
    (s.bal.add (.esdt s.lpTok) 0 (s.perTicket * (s.nrWinning + s.totalGuaranteed))) hbal
  have hw := ng_wait_WF h hr
  refine ng_WF_build _ rfl hside h.var h.pricePos h.tokNe h.static hw.tlConf hw.tlStarted ?_
    h.noWinE ?_
  · intro _ _
    show s.perTicket * v1_owed s ≤
      (s.bal.add (.esdt s.lpTok) 0 (s.perTicket * (s.nrWinning + s.totalGuaranteed))) (.esdt s.lpTok) 0
    rw [Bal.add_at]
    exact Nat.le_trans (Nat.mul_le_mul_left s.perTicket (v1_owed_le_add s)) (Nat.le_add_left _ _)
  · show ng_Phase T0 ({ s.core with
        payBal := (s.bal.add (.esdt s.lpTok) 0 (s.perTicket * (s.nrWinning + s.totalGuaranteed)))
          s.payTok 0 - (nf_side s).feeIn } : Core) (v1_gv s)
    rw [hbal _ _ (by intro hh; exact h.tokNe hh.1)]
    exact h.phase

/-- as `nf_setTerms` -/
theorem ng_setTerms {T0 : Nat} {s : State} {e : Env} {r : Nat} (h : ng_WF T0 s r) (hr : r ≤ e.round)
    (hst : s.stage e = .addTickets) {tok : Token} {a : Nat} (c : Pay) (ha : 0 < a)
    (hne : tok ≠ .esdt s.lpTok) :
    ng_WF T0 { s with payTok := tok, price := a, nftCost := c } e.round := by
  have hlt : e.round < s.cfg.conf := rb_stage_addTickets hst
  have hz : ∀ a, s.confirmed a = 0 := h.tlConf (by omega)
  obtain ⟨hns, hna, _, _, htg, L0, hp, hA, hg⟩ := h.phaseA hr (Or.inl hst)
  obtain ⟨_, hb0⟩ := ng_addTickets_bal0 h hr hlt
  obtain ⟨hside, htix⟩ := nf_SideInv_terms
    (q := nf_side { s with payTok := tok, price := a, nftCost := c }) h.side hna hz hb0 hne rfl
  refine ng_WF_build _ rfl hside h.var ha hne h.static (fun _ => hz) ?_ ?_ h.noWinE ?_
  · exact (ng_wait_WF h hr).tlStarted
  · intro _ hd
    exact ng_lp_of_notSel (s := s) h hp.notSelected (Or.inr (by omega)) hd
  · refine Or.inl (v1_mk_phaseA hna htg (L0 := L0) ?_ hA.setLedger ⟨hg.gi, hg.bl_range⟩)
    rw [htix]
    exact hp.setPrice hz a

theorem ng_setTicketPrice {T0 : Nat} {hash : List Nat → List Nat} {s s' : State} {e : Env} {o : Out}
    {r a : Nat} {tok : Token} (h : ng_WF T0 s r) (hr : r ≤ e.round)
    (hs : step hash s e (.setTicketPrice tok a) = .ok (s', o)) : ng_WF T0 s' e.round := by
  obtain ⟨t, hx, rfl⟩ := step_np rfl hs
  obtain ⟨h1, h2, h3, _, h5⟩ := exec_setTicketPrice_s hx
  rw [h1]
  exact ng_setTerms h hr h2 s.nftCost h3 h5

theorem ng_setNftCost {T0 : Nat} {hash : List Nat → List Nat} {s s' : State} {e : Env} {o : Out}
    {r : Nat} {c : Pay} (h : ng_WF T0 s r) (hr : r ≤ e.round)
    (hs : step hash s e (.setNftCost c) = .ok (s', o)) : ng_WF T0 s' e.round := by
  obtain ⟨t, hx, rfl⟩ := step_np rfl hs
  obtain ⟨h1, h2, _⟩ := exec_setNftCost_s hx
  rw [h1]
  exact ng_setTerms h hr h2 c h.pricePos h.tokNe

theorem ng_confirm {T0 : Nat} {hash : List Nat → List Nat} {s s' : State} {e : Env} {o : Out}
    {r n : Nat} (h : ng_WF T0 s r) (hr : r ≤ e.round) (hok : EnvOK e)
    (hs : step hash s e (.confirm n) = .ok (s', o)) : ng_WF T0 s' e.round := by
  obtain ⟨total, ⟨_, _, hst, hdep, _, htix, hle⟩, rfl⟩ := step_confirm hok hs
  obtain ⟨hc1, hc2⟩ := rb_stage_confirm hst
  obtain ⟨hns, hna, _, _, htg, L0, hp, ha, hg⟩ := h.phaseA hr (Or.inr hst)
  obtain ⟨hin, hout⟩ := hp.confirm_bound ha rfl rfl htix hle
  obtain ⟨hside, htx⟩ := nf_SideInv_payIn h.side (Y := s.price * n) e.caller n rfl
  refine ng_WF_build _ rfl hside h.var h.pricePos h.tokNe h.static ?_ ?_ ?_ h.noWinE ?_
  · intro hlt; exfalso; have : e.round < s.cfg.conf := hlt; omega
  · exact (ng_wait_WF h hr).tlStarted
  · intro hq hd
    show s.perTicket * v1_owed s ≤ (s.bal.add s.payTok 0 (s.price * n)) (.esdt s.lpTok) 0
    rw [Bal.add_apply, if_neg (fun hh => h.tokNe hh.1.symm), Nat.add_zero]
    refine ng_lp_of_notSel (s := s) h hp.notSelected (hq.imp id (fun hq' => ?_)) hd
    have : e.round < s.cfg.conf := hq'
    omega
  · refine Or.inl (v1_mk_phaseA hna htg (L0 := L0) ?_ ha.setLedger ⟨hg.gi, hg.bl_range⟩)
    have := hp.confirm hin hout
    rw [show (nf_core s).payBal + (nf_core s).price * n = _ from htx.symm] at this
    exact this

theorem ng_confirmNft {T0 : Nat} {hash : List Nat → List Nat} {s s' : State} {e : Env} {o : Out}
    {r : Nat} (h : ng_WF T0 s r) (hr : r ≤ e.round) (hok : EnvOK e)
    (hs : step hash s e .confirmNft = .ok (s', o)) : ng_WF T0 s' e.round := by
  have hearly := fun hlt : e.round < s.cfg.sel =>
    ng_early_side h (notStarted_of_lt h.tlStarted hr (Or.inr hlt))
  obtain ⟨⟨hc1, hc2⟩, rfl, hside, hcore⟩ :=
    nf_confirmNft_side h.side (fun hlt => ⟨(hearly hlt).1, (hearly hlt).2.2⟩) hok hs
  obtain ⟨_, hnsel, hw0⟩ := hearly hc2
  have hph : ng_Phase T0 (nf_core (nf_cnState s e.caller)) (v1_gv s) := by rw [hcore]; exact h.phase
  refine ng_WF_build _ rfl hside h.var h.pricePos h.tokNe h.static ?_ ?_ ?_ (fun _ _ => hw0) hph
  · intro hlt; exfalso; have : e.round < s.cfg.conf := hlt; omega
  · exact (ng_wait_WF h hr).tlStarted
  · -- the fee arrives in the fee slot, which is not the launchpad-token slot
    intro hq hd
    have hnl : ¬ (nf_side s).isLp := hq.resolve_right (Nat.not_lt.mpr hc1)
    show s.perTicket * v1_owed s ≤
      (s.bal.add s.nftCost.tok s.nftCost.nonce s.nftCost.amount) (.esdt s.lpTok) 0
    rw [Bal.add_apply, if_neg (fun hh => hnl ⟨hh.1.symm, hh.2.symm⟩), Nat.add_zero]
    exact ng_lp_of_notSel (s := s) h hnsel (Or.inl hnl) hd

end LP

/-
  `ng_WF` is preserved by the two endpoints of `Variant.nftGuar` that move the guaranteed-ticket
  reserve before the selection: `addTicketsV1` and `blacklist` (ticket refund + v1 clear hook +
  NFT-fee refund).  There is no un-blacklist endpoint in this variant
  (`Variant.hasUnblacklist .nftGuar = false`).  The reserve part is `v1_guar_move` (ReachV1: the
  reserve theorem `step_guar` of property C12 in the terms of phase A); the fee part is
  `nf_blacklist_side` (ReachNft).
-/
namespace LP
open LP.FY LP.Events LP.Props.C14

theorem ng_addTicketsV1 {T0 : Nat} {hash : List Nat → List Nat} {s s' : State} {e : Env} {o : Out}
    {r : Nat} {l : List (Nat × Nat × Nat × Bool)} (h : ng_WF T0 s r) (hr : r ≤ e.round)
    (hpos : ∀ q ∈ l, 1 ≤ q.2.1 + q.2.2.1)
    (hs : step hash s e (.addTicketsV1 l) = .ok (s', o)) : ng_WF T0 s' e.round := by
  have hiv2 : s.variant.isV2 = false := (ng_flags h.var).2.2.1
  obtain ⟨t, hx, rfl⟩ := step_np rfl hs
  simp only [exec, bind_ok_iff, pure_ok_iff] at hx
  obtain ⟨s1, hat, rfl⟩ := hx
  have hat' : addTicketsV1 s e l = .ok s1 := hat
  obtain ⟨hst, s0', hcm, hrg, hbt, hlt1, wl, u, tw, tg, heq⟩ := v1_addTicketsV1_inv hat'
  have hlt : e.round < s.cfg.conf := rb_stage_addTickets hst
  have hz : ∀ a, s.confirmed a = 0 := h.tlConf (by omega)
  obtain ⟨hns, hadd, hnsel, _, htg, L0, hp, ha, hg⟩ := h.phaseA hr (Or.inl hst)
  -- the reserve: C12
  obtain ⟨hcons, htg', hnw, hg'⟩ :=
    v1_guar_move (c := .addTicketsV1 l) hiv2 rfl htg hp.nrw ⟨hg.gi, hg.bl_range⟩ hs
  have hs1v : (Tx.setS (rbTx s e) s1).s = s1 := rfl
  rw [hs1v] at hcons htg' hnw hg' ⊢
  rw [hrg, hbt, hlt1] at heq
  subst heq
  have hcons' : tw + tg = s.nrWinning + s.totalGuaranteed := hcons
  -- the ticket space: `createMany` on the projected list
  have hpos' : ∀ p ∈ v1_proj l, 1 ≤ p.2 := by
    intro p hp1
    obtain ⟨q, hq, rfl⟩ := List.mem_map.mp hp1
    exact hpos q hq
  obtain ⟨hp', ha'⟩ := hp.createMany (T' := T0 - tg) (nw := tw) ha rfl rfl rfl hz hpos' hcm hnw
  refine ng_WF_build (nf_side s) rfl h.side h.var h.pricePos h.tokNe h.static (fun _ => hz) ?_ ?_
    h.noWinE (Or.inl (v1_mk_phaseA hadd htg' hp' ha' ⟨hg'.gi, hg'.bl_range⟩))
  · exact (ng_wait_WF h hr).tlStarted
  · intro _ hd
    have h0 := ng_lp_of_notSel (s := s) h hnsel (Or.inr (by omega)) hd
    rw [v1_owed_open hadd, ← hcons'] at h0
    rw [v1_owed_open]
    · exact h0
    · exact hadd

/-- storage after an accepted `blacklist` call of the variant: ticket refunds (`blState`), the v1
    clear hook (`wl`, `uu`, `bb`, `nw`, `tg`), the fee refunds (`P`, `B`) -/
def ng_blState (s : State) (l : List Nat) (wl : List Nat) (uu bb : Nat → Option UTS) (nw tg : Nat)
    (P : List Nat) (B : Bal) : State :=
  { blState s l with whitelist := wl, uts := uu, blUts := bb, nrWinning := nw, totalGuaranteed := tg,
                     payers := P, bal := B }

/-- storage after the ticket refunds and the v1 clear hook -/
def ng_clState (s : State) (l : List Nat) (wl : List Nat) (uu bb : Nat → Option UTS) (nw tg : Nat) :
    State :=
  { blState s l with whitelist := wl, uts := uu, blUts := bb, nrWinning := nw, totalGuaranteed := tg }

theorem ng_blacklist_shape {hash : List Nat → List Nat} {s : State} {e : Env} {l : List Nat} {t : Tx}
    (hv : s.variant = .nftGuar) (hx : exec hash (rbTx s e) e (.blacklist l) = .ok t) :
    (s.stage e = .addTickets ∨ s.stage e = .confirm) ∧ l.Nodup ∧
    (∀ u ∈ l, s.blacklist u = false ∧ (s.range u).isSome = true) ∧
    s.price * blConfSum s l ≤ s.bal s.payTok 0 ∧
    ∃ wl uu bb nw tg t2 t3, t2.s = ng_clState s l wl uu bb nw tg ∧
      refundNftMany l t2 = .ok t3 ∧ t.s = t3.s := by
  obtain ⟨h1, t2, t3, ⟨⟨wl, uu, bb, nw, tg, ht2⟩, _⟩, _, h2, ht3⟩ :=
    exec_blacklist_nft (t := rbTx s e) (ng_flags hv).2.1 hx
  obtain ⟨_, hstage, hnd, hall, hle, _⟩ := (addUsersToBlacklist_ok_iff _ _ _ _).mp h1
  exact ⟨hstage, hnd, hall, hle, wl, uu, bb, nw, tg, t2, t3, ht2, h2, ht3⟩

theorem ng_blacklist {T0 : Nat} {hash : List Nat → List Nat} {s s' : State} {e : Env} {o : Out}
    {r : Nat} {l : List Nat} (h : ng_WF T0 s r) (hr : r ≤ e.round)
    (hs : step hash s e (.blacklist l) = .ok (s', o)) : ng_WF T0 s' e.round := by
  have hiv2 : s.variant.isV2 = false := (ng_flags h.var).2.2.1
  obtain ⟨t, hx, hs't⟩ := step_np rfl hs
  obtain ⟨hstage, hnd, hall, hle, wl, uu, bb, nw, tg, t2, t3, ht2, h2, ht3⟩ :=
    ng_blacklist_shape h.var hx
  obtain ⟨hns, hna, hnsel, hw0, htg, L0, hp, ha, hg⟩ := h.phaseA hr hstage
  have hall' := fun u hu => (hall u hu).2
  obtain ⟨P, B, hshape, hside, htix, hBall⟩ :=
    nf_blacklist_side h.side h.tokNe hna hw0 hnd (hp.blacklist_le hnd hall') (by rw [ht2]; rfl) h2
  have hs'eq : s' = ng_blState s l wl uu bb nw tg P B := by
    rw [hs't, ht3, hshape, ht2]; rfl
  -- the reserve: C12
  obtain ⟨hcons, htg', hnw, hg'⟩ :=
    v1_guar_move (c := .blacklist l) hiv2 rfl htg hp.nrw ⟨hg.gi, hg.bl_range⟩ hs
  subst hs'eq
  have hcons' : nw + tg = s.nrWinning + s.totalGuaranteed := hcons
  have hnw : nw = T0 - tg := hnw
  refine ng_WF_build _ rfl hside h.var h.pricePos h.tokNe h.static ?_ ?_ ?_ (fun _ _ => hw0) ?_
  · intro hlt2
    exact ite_mem_zero (h.tlConf (by have : e.round < s.cfg.conf := hlt2; omega))
  · exact (ng_wait_WF h hr).tlStarted
  · intro hq hd
    have hne : Token.esdt s.lpTok ≠ s.payTok := fun hh => h.tokNe hh.symm
    -- the launchpad-token slot is untouched: it is not the fee slot, or nobody has paid a fee
    have hB0 := hBall (.esdt s.lpTok) 0
    rw [if_neg (fun hh => hne hh.1)] at hB0
    have hBlp : B (.esdt s.lpTok) 0 = s.bal (.esdt s.lpTok) 0 ∧ ng_LpSep s r := by
      rcases hq with hq | hq
      · have hq' : ¬ (nf_side s).isLp := hq
        rw [if_neg (fun hh => hq' ⟨hh.1.symm, hh.2.symm⟩)] at hB0
        exact ⟨hB0, Or.inl hq'⟩
      · have hq' : e.round < s.cfg.conf := hq
        have hp0 : s.payers = [] := (h.side.lists_nil (h.tlConf (by omega))).1
        rw [hp0] at hB0
        simp only [List.length_nil, Nat.mul_zero, Nat.zero_sub, ite_self, Nat.sub_zero] at hB0
        exact ⟨hB0, Or.inr (by omega)⟩
    have h0 := ng_lp_of_notSel (s := s) h hnsel hBlp.2 hd
    rw [v1_owed_open hna, ← hcons', ← hBlp.1] at h0
    rw [v1_owed_open]
    · exact h0
    · exact hna
  · refine Or.inl (v1_mk_phaseA hna htg' (L0 := L0) ?_
      ⟨ha.notStarted, ha.op, ha.chain, ha.last⟩ ⟨hg'.gi, hg'.bl_range⟩)
    have := (hp.blacklist hnd hall').set_nrw (n := nw) rfl
    rw [show (nf_core s).payBal - (nf_core s).price * (l.map (nf_core s).confirmed).sum = _
      from htix.symm] at this
    show Pre (T0 - tg) _ L0
    rw [← hnw]
    exact this

end LP

/-
  `ng_WF` is preserved by `filterTickets` and by the base lottery `selectWinners` of
  `Variant.nftGuar` (each interrupted or completed, from a fresh or a saved loop state).  The
  arguments are those of `v1_filter` / `v1_select` (ReachV1), over the ticket part of the holdings;
  the fee ledger is not touched.
-/
namespace LP
open LP.FY LP.Props.C14

/-- a step in the selection stage that leaves balances, fee data and deposit data alone keeps the
    launchpad-token coverage if it does not increase what is owed -/
theorem ng_lp_sel {T0 : Nat} {s s' : State} {r : Nat} {e : Env} (h : ng_WF T0 s r)
    (hns : s.flags.selected = false) (hc1 : s.cfg.conf ≤ e.round)
    (hcfg : s'.cfg = s.cfg) (hcost : s'.nftCost = s.nftCost) (hl : s'.lpTok = s.lpTok)
    (hbal : s'.bal = s.bal) (hdep : s'.deposited = s.deposited) (hpt : s'.perTicket = s.perTicket)
    (howed : v1_owed s' ≤ v1_owed s) :
    ng_LpSep s' e.round → s'.deposited = true →
      s'.perTicket * v1_owed s' ≤ s'.bal (.esdt s'.lpTok) 0 := by
  intro hq hd
  have hnl : ¬ (nf_side s).isLp := by
    rcases hq with hq | hq
    · intro hh
      apply hq
      have hh' : s.nftCost.tok = .esdt s.lpTok ∧ s.nftCost.nonce = 0 := hh
      show s'.nftCost.tok = .esdt s'.lpTok ∧ s'.nftCost.nonce = 0
      rw [hcost, hl]; exact hh'
    · exfalso; rw [hcfg] at hq; omega
  rw [hdep] at hd
  have h0 := ng_lp_of_notSel h hns (Or.inl hnl) hd
  rw [hpt, hbal, hl]
  exact Nat.le_trans (Nat.mul_le_mul_left _ howed) h0

theorem ng_filter {T0 : Nat} {hash : List Nat → List Nat} {s s' : State} {e : Env} {o : Out}
    {r : Nat} (h : ng_WF T0 s r)
    (hs : step hash s e .filter = .ok (s', o)) : ng_WF T0 s' e.round := by
  obtain ⟨t, hx, rfl⟩ := step_np rfl hs
  have hnf : s.flags.filtered = false := (filterTickets_inv _ _ _ hx).1.notFiltered
  obtain ⟨hadd, htg, L0, hp, hab⟩ := ng_phase_notFiltered h.phase hnf
  have hnsel0 : s.flags.selected = false := hp.notSelected
  have hgw : v1_GW (v1_gv s) := hab.elim (fun hA => hA.2.toGW) (fun hB => hB.2)
  obtain ⟨hpre, R, B, fl, op, nw, last, hs', _, hfs, hfa, hnw, hph⟩ :=
    v1_filter_first (pb := (nf_side s).tix) (rbTx_s s e) hadd htg hp (hab.imp And.left And.left) hgw hx
  obtain ⟨hc1, hc2⟩ := rb_stage_winnerSelection hpre.stage
  rw [hs'] at hph ⊢
  -- the filter writes no field of the fee ledger but the (unchanged) flags
  have hside : ({ nf_side s with additional := fl.additional, selected := fl.selected } : nf_Side)
      = nf_side s := by rw [hfa, hfs]; rfl
  refine ng_WF_build (nf_side s) hside h.side h.var h.pricePos h.tokNe h.static
    (fun hlt => absurd hc1 (Nat.not_le.mpr hlt)) (fun _ => ⟨hc1, hc2⟩) ?_
    (fun _ _ => h.side.noWin hnsel0) (Or.inl hph)
  refine ng_lp_sel h hnsel0 hc1 rfl rfl rfl rfl rfl rfl ?_
  rw [v1_owed_open (hfa.trans hadd), v1_owed_open hadd]
  exact Nat.add_le_add_right hnw _

theorem ng_select {T0 : Nat} {hash : List Nat → List Nat} {s s' : State} {e : Env} {o : Out}
    {r : Nat} (h : ng_WF T0 s r)
    (hs : step hash s e .select = .ok (s', o)) : ng_WF T0 s' e.round := by
  obtain ⟨t, hx, rfl⟩ := step_np rfl hs
  obtain ⟨hstage, hfil, hnsel, _⟩ := rb_selectWinners_cases hx
  obtain ⟨hadd, htg, hC, hgw⟩ := ng_phase_C h.phase hfil hnsel
  obtain ⟨x, hcase⟩ := select_cases (rbTx_s s e) hC.nrw_le hC.sel hx
  have hw0 : s.nftWinners = [] := h.side.noWin hnsel
  obtain ⟨hc1, hc2⟩ := rb_stage_winnerSelection (s := s) hstage
  rcases hcase with ⟨hs', p1, p2, arr, hR⟩ | ⟨hs', arr, hR⟩
  · rw [hs']
    refine ng_WF_build (nf_side s) rfl h.side h.var h.pricePos h.tokNe h.static ?_ ?_ ?_
      (fun _ _ => hw0) ?_
    · intro hlt; exfalso; have : e.round < s.cfg.conf := hlt; omega
    · intro _; exact ⟨hc1, hc2⟩
    · exact ng_lp_sel h hnsel hc1 rfl rfl rfl rfl rfl rfl (Nat.le_refl _)
    · exact Or.inl (Or.inl ⟨hadd, htg, Or.inr (Or.inl ⟨hC.selInt p1 p2 hR, hgw⟩)⟩)
  · rw [hs']
    have hcount : countTrue x.status s.lastTicketId = s.nrWinning := hR.count hC.nrw_le
    have hinv := LInv_init (additional := 0) hR (fun _ ht => ht) hR.flagsIn (by rw [hcount]; rfl)
      default 0 default
    refine ng_WF_build ({ nf_side s with selected := true }) rfl (nf_SideInv_selected h.side)
      h.var h.pricePos h.tokNe h.static ?_ ?_ ?_ (fun _ _ => hw0) ?_
    · intro hlt; exfalso; have : e.round < s.cfg.conf := hlt; omega
    · intro _; exact ⟨hc1, hc2⟩
    · exact ng_lp_sel h hnsel hc1 rfl rfl rfl rfl rfl rfl (Nat.le_refl _)
    · left; left
      refine ⟨hadd, htg, Or.inr (Or.inr ⟨hC.started, hC.filtered, rfl, hC.nrw, rfl, hC.alloc,
        fun _ => hgw, 0, 1, 0, Or.inl ⟨rfl, rfl, rfl, rfl⟩, hinv.pinv, hcount, ?_, ?_⟩)⟩
      · have := hgw.total
        show 0 + 0 + gSum false s.uts s.whitelist = s.totalGuaranteed
        have h2 : s.totalGuaranteed = gSum false s.uts s.whitelist := this
        omega
      · intro u st hu hpos
        exact Or.inl (hgw.mem_of_pos u st hu hpos)

end LP

/-
  Preservation of `ng_WF` by `secondary` (`secondarySelectionStep` of
  launchpad-nft-and-guaranteed-tickets), for any budget and from a fresh or a saved operation.  An
  accepted call (`ng_secondary_cases`, the counterpart of `distribute_ok_cases` in Resume) is
  interrupted in the v1 top-up or leftover loop (`distSaved1`/`distSaved2`, cursor `guar` saved);
  or completes the guaranteed sub-step and then the NFT draw is interrupted (cursor `nft` saved,
  phase F) or completes; or resumes in the NFT draw.  The two loops of the guaranteed sub-step are
  read off `dist_runs` (DistLoops, over the cursor invariant `DCur`), the draw off `ng_tail_shape`
  (NftDraw).
-/
namespace LP
open LP.FY LP.Props.C14

/-- storage after the guaranteed-ticket sub-step of `secondary` completed (loops ended in `x`,
    `z`; winners and proceeds credited; the saved operation cleared; the draw not yet started) -/
def ng_midState (s : State) (x : GSt) (z : LCore) : State :=
  { guarS1 s x with status := z.status, posToId := z.posToId, op := .none,
                    claimablePayment := s.claimablePayment + s.price * z.additional,
                    nrWinning := s.nrWinning + z.additional }

/-- the guaranteed-ticket part of an accepted `secondary` call from storage `s` and cursor `g` -/
def ng_GuarPart (hash : List Nat → List Nat) (s : State) (g : GuarOp) (t' : Tx) : Prop :=
  ∃ (b0 : Option Nat) (d0 : DCtx) (x : GSt) (b1 : Option Nat),
    (runWhile (guarBody s) (s.whitelist.length + 2) b0 (guarX s g) = .ok (x, b1, .interrupted) ∧
      t'.s = distSaved1 s g x ∧ t'.o.ret = [1]) ∨
    (runWhile (guarBody s) (s.whitelist.length + 2) b0 (guarX s g) = .ok (x, b1, .completed) ∧
      ∃ z b2,
        (runWhile (leftCoreBody hash s.variant.isV2 s.nrWinning s.lastTicketId) (leftFuel s) b1
            (leftZ (guarS1 s x) (guarG1 g x) d0) = .ok (z, b2, .interrupted) ∧
          t'.s = distSaved2 s x z ∧ t'.o.ret = [1]) ∨
        (runWhile (leftCoreBody hash s.variant.isV2 s.nrWinning s.lastTicketId) (leftFuel s) b1
            (leftZ (guarS1 s x) (guarG1 g x) d0) = .ok (z, b2, .completed) ∧
          ∃ t2 rng, t2.s = ng_midState s x z ∧ ng_NftTail hash t2 rng t'))

theorem ng_guarSub_cases (hash : List Nat → List Nat) (t0 : Tx) (g : GuarOp) (a : Tx) (a1 : GuarOp)
    (b : LoopStatus) (h : guaranteedSubstep hash t0 g = .ok (a, a1, b)) :
    ∃ x b1,
      (runWhile (guarBody t0.s) (t0.s.whitelist.length + 2) t0.c.budget (guarX t0.s g)
          = .ok (x, b1, .interrupted) ∧ b = .interrupted ∧ a.s = guarS1 t0.s x ∧ a1 = guarG1 g x) ∨
      (runWhile (guarBody t0.s) (t0.s.whitelist.length + 2) t0.c.budget (guarX t0.s g)
          = .ok (x, b1, .completed) ∧ ∃ z b2,
        (runWhile (leftCoreBody hash t0.s.variant.isV2 t0.s.nrWinning t0.s.lastTicketId)
            (leftFuel t0.s) b1 (leftZ (guarS1 t0.s x) (guarG1 g x) t0.dctx) = .ok (z, b2, .interrupted) ∧
          b = .interrupted ∧ a = leftTx t0 (guarS1 t0.s x) z b2 ∧ a1 = leftG z) ∨
        (runWhile (leftCoreBody hash t0.s.variant.isV2 t0.s.nrWinning t0.s.lastTicketId)
            (leftFuel t0.s) b1 (leftZ (guarS1 t0.s x) (guarG1 g x) t0.dctx) = .ok (z, b2, .completed) ∧
          b = .completed ∧ a = leftTx t0 (guarS1 t0.s x) z b2 ∧ a1 = leftG z)) := by
  rcases guaranteedSubstep_cases hash t0 g with ⟨x, b1, hR1, hsub⟩ | ⟨x, b1, hR1, hsub⟩ <;>
    rw [hsub] at h
  · simp only [Except.ok.injEq, Prod.mk.injEq] at h
    obtain ⟨rfl, rfl, rfl⟩ := h
    exact ⟨x, b1, Or.inl ⟨hR1, rfl, rfl, rfl⟩⟩
  · cases hR2 : runWhile (leftCoreBody hash t0.s.variant.isV2 t0.s.nrWinning t0.s.lastTicketId)
        (leftFuel t0.s) b1 (leftZ (guarS1 t0.s x) (guarG1 g x) t0.dctx) with
    | error err => rw [hR2] at h; cases h
    | ok q2 =>
      obtain ⟨z, b2, st2⟩ := q2
      rw [hR2] at h
      cases st2 with
      | outOfFuel => cases h
      | interrupted =>
        simp only [guarSubOutcome2, Except.ok.injEq, Prod.mk.injEq] at h
        obtain ⟨rfl, rfl, rfl⟩ := h
        exact ⟨x, b1, Or.inr ⟨hR1, z, b2, Or.inl ⟨hR2, rfl, rfl, rfl⟩⟩⟩
      | completed =>
        simp only [guarSubOutcome2, Except.ok.injEq, Prod.mk.injEq] at h
        obtain ⟨rfl, rfl, rfl⟩ := h
        exact ⟨x, b1, Or.inr ⟨hR1, z, b2, Or.inr ⟨hR2, rfl, rfl, rfl⟩⟩⟩

theorem ng_secNftFinish_inv {t3 : Tx} {rng' : Rng} {st : LoopStatus} {t' : Tx}
    (h : secNftFinish (t3, rng', st) = .ok t') :
    (st = .completed ∧ t'.s = { t3.s with flags := { t3.s.flags with additional := true } } ∧
        t'.o.ret = [0]) ∨
    (st ≠ .completed ∧ t'.s = { t3.s with op := .additional (.nft rng') } ∧ t'.o.ret = [1]) := by
  cases st <;> simp only [secNftFinish, pure_ok_iff] at h <;> subst h
  · exact Or.inl ⟨rfl, rfl, rfl⟩
  · exact Or.inr ⟨by decide, rfl, rfl⟩
  · exact Or.inr ⟨by decide, rfl, rfl⟩

theorem ng_guarPart_of (hash : List Nat → List Nat) (t0 : Tx) (g : GuarOp) (t' : Tx)
    (a : Tx) (a1 : GuarOp) (b : LoopStatus)
    (hsub : guaranteedSubstep hash t0 g = .ok (a, a1, b))
    (hfin : secStage2 hash (secHandOver (a, a1, b)) = .ok t') : ng_GuarPart hash t0.s g t' := by
  obtain ⟨x, b1, hc⟩ := ng_guarSub_cases hash t0 g a a1 b hsub
  refine ⟨t0.c.budget, t0.dctx, x, b1, ?_⟩
  rcases hc with ⟨hR1, rfl, ha, rfl⟩ | ⟨hR1, z, b2, ⟨hR2, rfl, rfl, rfl⟩ | ⟨hR2, rfl, rfl, rfl⟩⟩
  · simp only [secHandOver, secStage2, Except.ok.injEq] at hfin
    subst hfin
    refine Or.inl ⟨hR1, ?_, rfl⟩
    show ({ a.s with op := .additional (.guar (guarG1 g x)) } : State) = _
    rw [ha]; rfl
  · simp only [secHandOver, secStage2, Except.ok.injEq] at hfin
    subst hfin
    exact Or.inr ⟨hR1, z, b2, Or.inl ⟨hR2, rfl, rfl⟩⟩
  · simp only [secHandOver, secStage2, bind_ok_iff, Prod.exists] at hfin
    obtain ⟨t3, rng', st, hn, hf⟩ := hfin
    refine Or.inr ⟨hR1, z, b2, Or.inr ⟨hR2, _, _, ?_, t3, rng', st, hn, ng_secNftFinish_inv hf⟩⟩
    rw [Tx.freshRng_s]
    rfl

theorem ng_secondary_cases (hash : List Nat → List Nat) (t t' : Tx) (e : Env)
    (h : secondary hash t e = .ok t') :
    t.s.stage e = .winnerSelection ∧ t.s.flags.selected = true ∧ t.s.flags.additional = false ∧
    ((∃ g, guarOpOf t = some g ∧ ng_GuarPart hash t.s g t') ∨
     (∃ r, t.s.op = .additional (.nft r) ∧ ng_NftTail hash t r t')) := by
  obtain ⟨hp, cur, hl, h⟩ := (secondary_iff hash t t' e).mp h
  refine ⟨hp.stage, hp.selected, hp.notDone, ?_⟩
  obtain ⟨x, h1, h2⟩ := (bind_ok_iff _ _ _).mp h
  rcases ((secLoadTx_ok_iff t cur _).mp hl).2 with ⟨g, rfl, hg⟩ | ⟨r, rfl, hr⟩
  · simp only [secStage1] at h1
    cases hsub : guaranteedSubstep hash (selTxOf t) g with
    | error err => rw [hsub] at h1; cases h1
    | ok y =>
      rw [hsub] at h1
      obtain ⟨a, a1, b⟩ := y
      obtain rfl : secHandOver (a, a1, b) = x := Except.ok.inj h1
      have := ng_guarPart_of hash _ _ t' a a1 b hsub h2
      rw [selTxOf_s] at this
      exact Or.inl ⟨g, hg, this⟩
  · obtain rfl : Sum.inr (selTxOf t, r) = x := Except.ok.inj h1
    simp only [secStage2, bind_ok_iff, Prod.exists] at h2
    obtain ⟨t3, rng', st, hsub, hfin⟩ := h2
    rw [show selTxOf t = t by unfold selTxOf; rw [hr]] at hsub
    exact Or.inr ⟨r, hr, t3, rng', st, hsub, ng_secNftFinish_inv hfin⟩

/-- an accepted `secondary` call interrupted inside the guaranteed-ticket sub-step wrote only the
    winning flags (`status`), the positions, the whitelist and the cursor: phase E continues with
    the loop invariants of the state the loops stopped in -/
theorem ng_interrupted_WF {T0 : Nat} {s : State} {r r' : Nat} (h : ng_WF T0 s r) (hr : r ≤ r')
    (hc : s.cfg.conf ≤ r' ∧ s.cfg.sel ≤ r') (hadd : s.flags.additional = false)
    (htg : s.totalGuaranteed ≤ T0) (hE : v1_PhE T0 (nf_core s) (v1_gv s))
    {st : Nat → Bool} {pi : Nat → Nat} {wl : List Nat} (rng : Rng) {lo off add : Nat}
    (hcur : DCur s wl st pi lo off add) :
    ng_WF T0 { s with status := st, posToId := pi, whitelist := wl,
                      op := .additional (.guar ⟨rng, lo, off, add⟩) } r' := by
  have hopE : ∀ rg, s.op ≠ .additional (.nft rg) := fun rg => ng_PhE_op hE rg
  refine ng_WF_build (nf_side s) rfl h.side h.var h.pricePos h.tokNe h.static
    (fun hlt => absurd hc.1 (Nat.not_le.mpr hlt)) (fun _ => hc) ?_ (fun _ _ => h.noWinE hadd hopE)
    (Or.inl (Or.inl ⟨hadd, htg, Or.inr (Or.inr ⟨hE.started, hE.filtered, hE.selected, hE.nrw,
      hE.claimable, hE.alloc, nofun, lo, off, add, Or.inr ⟨rng, rfl⟩,
      (DCur.iff_v1 (ng_flags h.var).2.2.1).mp hcur⟩)⟩))
  intro hq hd
  have := h.lp (hq.imp id (Nat.lt_of_le_of_lt hr)) hd
  rw [ng_owed_of_not hopE] at this
  exact this

/-- what the NFT-draw part of `secondary` needs of the storage it starts from (phase F, whatever
    the saved operation) -/
structure ng_Mid (T0 : Nat) (s : State) (r : Nat) : Prop where
  var : s.variant = .nftGuar
  pricePos : 0 < s.price
  tokNe : s.payTok ≠ .esdt s.lpTok
  static : 0 < s.minConfirmed
  tl : s.cfg.conf ≤ r ∧ s.cfg.sel ≤ r
  lp : ng_LpSep s r → s.deposited = true → s.perTicket * s.nrWinning ≤ s.bal (.esdt s.lpTok) 0
  phF : ng_PhF T0 (nf_core s) (v1_gv s)
  side : nf_SideInv (nf_side s)

theorem ng_tail_WF {T0 : Nat} {hash : List Nat → List Nat} {s : State} {r : Nat} {t2 t' : Tx}
    {rng : Rng} (hm : ng_Mid T0 s r) (ht2 : t2.s = s) (htail : ng_NftTail hash t2 rng t') :
    ng_WF T0 t'.s r := by
  have hs0 := hm.side
  obtain ⟨P, W, hokPW, hWle, hlen, hun, _, hcase⟩ :=
    ng_tail_shape ⟨hs0.nodupP, hs0.nodupW, hs0.disj⟩ hs0.winLe ht2 htail
  have hok' : NftOk { s with payers := P, nftWinners := W } := hokPW
  have hF := hm.phF
  have hadd : s.flags.additional = false := hF.notDone
  have hD := hF.post
  obtain ⟨hc1, hc2⟩ := hm.tl
  have htl1 : r < s.cfg.conf → ∀ a, s.confirmed a = 0 := fun hlt => by omega
  have hdraw := fun q => nf_SideInv_draw (q := q) (P := P) (W := W) hs0 hadd hD.selected hok'.nodupP
    hok'.nodupW hok'.disj hWle hlen hun
  rcases hcase with ⟨hs'', _, _⟩ | ⟨rng', hs'', _⟩
  · -- the draw completed
    rw [hs'']
    obtain ⟨hside, htix⟩ := hdraw (nf_side (nf_drawDone s P W)) (Or.inr rfl)
    refine ng_WF_buildF _ rfl hside hm.var hm.pricePos hm.tokNe hm.static htl1 (fun _ => ⟨hc1, hc2⟩)
      ?_ (fun hq => by cases hq) ?_
    · intro hq hd
      have e1 : ng_owed (nf_drawDone s P W) = s.nrWinning := by
        rw [ng_owed_of_not (by intro rg; show Op.none ≠ _; nofun)]
        exact v1_owed_done rfl
      rw [e1]
      exact hm.lp hq hd
    · left; right
      rw [htix]
      exact ⟨rfl, nf_PhD_flags hD { s.flags with additional := true } rfl rfl rfl⟩
  · -- interrupted
    rw [hs'']
    obtain ⟨hside, htix⟩ := hdraw (nf_side (nf_drawInt s P W rng')) (Or.inl rfl)
    refine ng_WF_buildF _ rfl hside hm.var hm.pricePos hm.tokNe hm.static htl1 (fun _ => ⟨hc1, hc2⟩)
      ?_ (fun _ hq => absurd rfl (hq rng')) ?_
    · intro hq hd
      rw [ng_owed_nft (s := nf_drawInt s P W rng') (rg := rng') rfl]
      exact hm.lp hq hd
    · right
      rw [htix]
      exact ⟨⟨hadd, hD, hF.pre, hF.nrw, hF.count, hF.claimable, hF.inside, hF.hon⟩, rng', rfl⟩

/-- how the storage `m` from which the NFT draw of a call starts relates to the storage `s` before
    the call: `m = s` (resumed in the draw) or the guaranteed-ticket sub-step completed in this call -/
structure ng_MidRel (s m : State) : Prop where
  payers : m.payers = s.payers
  winners : m.nftWinners = s.nftWinners
  avail : m.availNfts = s.availNfts
  cost : m.nftCost = s.nftCost
  last : m.lastTicketId = s.lastTicketId
  price : m.price = s.price
  mono : ∀ t, s.status t = true → m.status t = true
  uts : m.uts = s.uts
  confirmed : m.confirmed = s.confirmed
  minc : m.minConfirmed = s.minConfirmed
  range : m.range = s.range
  flags : m.flags = s.flags

theorem ng_MidRel.refl (s : State) : ng_MidRel s s :=
  ⟨rfl, rfl, rfl, rfl, rfl, rfl, fun _ h => h, rfl, rfl, rfl, rfl, rfl⟩

/-- an accepted `secondary` call from a well-formed state: either it is interrupted inside the
    guaranteed-ticket sub-step (the invariant holds afterwards, `ret = [1]`, the cursor `guar` is
    saved), or its NFT-draw part runs from a storage `m` in phase F -/
theorem ng_secondary_split {T0 : Nat} {hash : List Nat → List Nat} {s : State} {e : Env} {t : Tx}
    {r : Nat} (h : ng_WF T0 s r) (hr : r ≤ e.round)
    (hx : secondary hash (rbTx s e) e = .ok t) :
    s.flags.selected = true ∧ s.flags.additional = false ∧
    ((ng_WF T0 t.s e.round ∧ t.o.ret = [1] ∧ t.s.flags.additional = false ∧
        (∃ g, t.s.op = .additional (.guar g)) ∧ (∀ rg, s.op ≠ .additional (.nft rg)) ∧
        t.s.payers = s.payers ∧ t.s.nftWinners = s.nftWinners) ∨
     (∃ m t2 rng, ng_Mid T0 m e.round ∧ t2.s = m ∧ ng_NftTail hash t2 rng t ∧ ng_MidRel s m)) := by
  have hiv2 : s.variant.isV2 = false := (ng_flags h.var).2.2.1
  obtain ⟨hstage, hsel, hadd, hcase⟩ := ng_secondary_cases hash _ t e hx
  simp only [rbTx_s] at hstage hsel hadd hcase
  obtain ⟨hc1, hc2⟩ := rb_stage_winnerSelection hstage
  have hs0 := h.side
  refine ⟨hsel, hadd, ?_⟩
  rcases hcase with ⟨g, hg, hpart⟩ | ⟨rng, hop, htail⟩
  · -- the guaranteed-ticket sub-step runs: the state is in phase E
    rcases ng_phase_sel h.phase hsel hadd with ⟨htg, hE⟩ | ⟨_, rr, hopF⟩
    rotate_left
    · exfalso
      have hopF' : s.op = .additional (.nft rr) := hopF
      unfold guarOpOf at hg
      simp only [rbTx_s, hopF'] at hg
      cases hg
    have hopE : ∀ rg, s.op ≠ .additional (.nft rg) := fun rg => ng_PhE_op hE rg
    have hw0 : s.nftWinners = [] := h.noWinE hadd hopE
    have hlpE : ng_LpSep s e.round → s.deposited = true →
        s.perTicket * (s.nrWinning + s.totalGuaranteed) ≤ s.bal (.esdt s.lpTok) 0 := by
      intro hq hd
      have hq' : ng_LpSep s r := hq.imp id (fun h1 => Nat.lt_of_le_of_lt hr h1)
      have := h.lp hq' hd
      rw [ng_owed_of_not hopE, v1_owed_open hadd] at this
      exact this
    obtain ⟨lo, off, add, hop, hcur⟩ := hE.dist
    obtain ⟨rfl, rfl, rfl⟩ := v1_guarOpOf hg hop
    have hRI : DistRanges s := distRanges_of_alloc (P := fun L => PayPre (nf_core s) L) hE.alloc
    have hc : DCur s s.whitelist s.status s.posToId g.leftover g.offset g.additional :=
      (DCur.iff_v1 hiv2).mpr hcur
    have hint := fun {wl st pi lo off add} (rng : Rng) (hc' : DCur s wl st pi lo off add) =>
      ng_interrupted_WF h hr ⟨hc1, hc2⟩ hadd htg hE rng hc'
    obtain ⟨b0, d0, x, b1, hcs⟩ := hpart
    rcases hcs with ⟨hrun, hs', hret⟩ | ⟨hrun, z, b2, hcase2⟩
    · -- interrupted in the first loop
      left
      rw [hs']
      exact ⟨hint g.rng (dist_runs hRI hc hrun).1, hret, hadd, ⟨_, rfl⟩, hopE, rfl, rfl⟩
    · obtain ⟨hnil, h2⟩ := (dist_runs hRI hc hrun).2 rfl
      rcases hcase2 with ⟨hrun2, hs', hret⟩ | ⟨hrun2, t2, rng2, ht2, htail⟩
      · -- interrupted in the second loop
        left
        rw [hs']
        exact ⟨hint z.rng ((h2 hrun2).1 rfl), hret, hadd, ⟨_, rfl⟩, hopE, rfl, rfl⟩
      · -- the guaranteed-ticket sub-step completed; the draw follows in the same call
        have hEnd := (h2 hrun2).2 rfl
        have hinv := hEnd.inv
        have hcl : s.claimablePayment = s.price * s.nrWinning := hE.claimable
        have hnrw : s.nrWinning = min (T0 - s.totalGuaranteed) s.lastTicketId := hE.nrw
        have htg' : s.totalGuaranteed ≤ T0 := htg
        obtain ⟨Ls, hA⟩ := Alloc.exists_iff.mp hE.alloc
        have hD' := PhD_of_alloc hA (st' := z.status) (pi' := z.posToId) (fl := s.flags)
          (cl := s.claimablePayment + s.price * z.additional) hE.started hE.filtered hE.selected
          hinv.count (by rw [hcl, Nat.mul_add]; rfl)
        right
        refine ⟨ng_midState s x z, t2, rng2, ?_, ht2, htail, ?_⟩
        · -- unfolded once here: every field below would otherwise unfold `ng_midState` for itself
          dsimp only [ng_midState, guarS1]
          refine ⟨h.var, h.pricePos, h.tokNe, h.static, ⟨hc1, hc2⟩, ?_,
            ⟨hadd, hD', ⟨Ls.map Prod.fst, hA.nodup, hA.covers, hA.pay⟩, ?_, hinv.count, ?_,
              hinv.pinv.inside, ?_⟩, hs0⟩
          · intro hq hd
            have := hlpE hq hd
            show s.perTicket * (s.nrWinning + z.additional) ≤ s.bal (.esdt s.lpTok) 0
            have hle' : s.nrWinning + z.additional ≤ s.nrWinning + s.totalGuaranteed :=
              Nat.add_le_add_left (by rw [hEnd.add]; exact Nat.min_le_left _ _) _
            exact Nat.le_trans (Nat.mul_le_mul_left _ hle') this
          · exact hEnd.nrw hnrw htg
          · show s.claimablePayment + s.price * z.additional = s.price * (s.nrWinning + z.additional)
            rw [hcl, Nat.mul_add]
          · exact fun u st hu => (Hon_v1 hiv2 _ u st).mp (hEnd.hon u st hu)
        · dsimp only [ng_midState, guarS1]
          exact ⟨rfl, rfl, rfl, rfl, rfl, rfl, hEnd.mono, rfl, rfl, rfl, rfl, rfl⟩
  · -- resumed in the NFT draw: the state is in phase F
    have hop' : s.op = .additional (.nft rng) := hop
    rcases ng_phase_sel h.phase hsel hadd with ⟨_, hE⟩ | ⟨hF, _⟩
    · exact absurd hop' (ng_PhE_op hE rng)
    right
    refine ⟨s, rbTx s e, rng, ⟨h.var, h.pricePos, h.tokNe, h.static, ⟨hc1, hc2⟩, ?_, hF, hs0⟩, rfl,
      htail, ng_MidRel.refl s⟩
    intro hq hd
    have hq' : ng_LpSep s r := hq.imp id (fun h1 => Nat.lt_of_le_of_lt hr h1)
    have := h.lp hq' hd
    rw [ng_owed_nft hop'] at this
    exact this

theorem ng_secondary {T0 : Nat} {hash : List Nat → List Nat} {s s' : State} {e : Env} {o : Out}
    {r : Nat} (h : ng_WF T0 s r) (hr : r ≤ e.round)
    (hs : step hash s e .secondary = .ok (s', o)) : ng_WF T0 s' e.round := by
  obtain ⟨t, hx, rfl⟩ := step_np rfl hs
  simp only [exec] at hx
  obtain ⟨_, _, hcase⟩ := ng_secondary_split h hr hx
  rcases hcase with ⟨hwf, _⟩ | ⟨m, t2, rng, hmid, ht2, htail, _⟩
  · exact hwf
  · exact ng_tail_WF hmid ht2 htail

end LP
