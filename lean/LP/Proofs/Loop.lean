import LP.Loop
/-
  The gas-resumable loop `runWhile`: fuel monotonicity, budget irrelevance for the final state,
  resumption, chunked calls (`runCalls`), transport along a map of loop states (`runWhile_map`),
  progress and error propagation.  Then the rules by which the loops of the contracts are
  analysed: an invariant (`runWhile_inv`, `runWhile_preserves`), a decreasing measure
  (`runWhile_interrupted_measure`, `runWhile_live`), a countdown (`runWhile_countdown`).  "Fuel" is
  the model's iteration bound, "budget" the gas-dependent number of iterations a call may make.
-/
namespace LP

variable {σ : Type}

theorem runWhile_zero (body : σ → Res (σ × Bool)) (b : Option Nat) (s : σ) :
    runWhile body 0 b s = .ok (s, b, .outOfFuel) := rfl

theorem runWhile_err {body : σ → Res (σ × Bool)} {s : σ} {e : Err}
    (h : body s = .error e) (f : Nat) (b : Option Nat) :
    runWhile body (f+1) b s = .error e := by
  simp only [runWhile, h]

theorem runWhile_stop {body : σ → Res (σ × Bool)} {s s' : σ}
    (h : body s = .ok (s', false)) (f : Nat) (b : Option Nat) :
    runWhile body (f+1) b s = .ok (s', b, .completed) := by
  simp only [runWhile, h]

theorem runWhile_cont_none {body : σ → Res (σ × Bool)} {s s' : σ}
    (h : body s = .ok (s', true)) (f : Nat) :
    runWhile body (f+1) none s = runWhile body f none s' := by
  simp only [runWhile, h]

theorem runWhile_cont_zero {body : σ → Res (σ × Bool)} {s s' : σ}
    (h : body s = .ok (s', true)) (f : Nat) :
    runWhile body (f+1) (some 0) s = .ok (s', some 0, .interrupted) := by
  simp only [runWhile, h]

theorem runWhile_cont_succ {body : σ → Res (σ × Bool)} {s s' : σ}
    (h : body s = .ok (s', true)) (f k : Nat) :
    runWhile body (f+1) (some (k+1)) s = runWhile body f (some k) s' := by
  simp only [runWhile, h]

theorem runWhile_fuel_mono (body : σ → Res (σ × Bool)) :
    ∀ (f : Nat) (b : Option Nat) (s s' : σ) (b' : Option Nat) (st : LoopStatus),
      runWhile body f b s = .ok (s', b', st) → st ≠ .outOfFuel →
      ∀ f', f ≤ f' → runWhile body f' b s = .ok (s', b', st) := by
  intro f b s
  induction f, b, s using runWhile.induct body with
  | case1 b s => intro s' b' st h hst; cases h; exact absurd rfl hst
  | case2 f b s e hb => intro s' b' st h; rw [runWhile_err hb] at h; cases h
  | case3 f b s s1 hb =>
    intro s' b' st h _ f' hf
    obtain ⟨f'', rfl⟩ : ∃ f'', f' = f'' + 1 := ⟨f' - 1, by omega⟩
    rw [runWhile_stop hb] at h ⊢; exact h
  | case4 f s s1 hb ih =>
    intro s' b' st h hst f' hf
    obtain ⟨f'', rfl⟩ : ∃ f'', f' = f'' + 1 := ⟨f' - 1, by omega⟩
    rw [runWhile_cont_none hb] at h ⊢; exact ih _ _ _ h hst _ (by omega)
  | case5 f s s1 hb =>
    intro s' b' st h _ f' hf
    obtain ⟨f'', rfl⟩ : ∃ f'', f' = f'' + 1 := ⟨f' - 1, by omega⟩
    rw [runWhile_cont_zero hb] at h ⊢; exact h
  | case6 f s s1 hb k ih =>
    intro s' b' st h hst f' hf
    obtain ⟨f'', rfl⟩ : ∃ f'', f' = f'' + 1 := ⟨f' - 1, by omega⟩
    rw [runWhile_cont_succ hb] at h ⊢; exact ih _ _ _ h hst _ (by omega)

theorem runWhile_none_budget (body : σ → Res (σ × Bool)) :
    ∀ (f : Nat) (s s' : σ) (b' : Option Nat) (st : LoopStatus),
      runWhile body f none s = .ok (s', b', st) → b' = none ∧ st ≠ .interrupted := by
  intro f
  induction f with
  | zero => intro s s' b' st h; cases h; exact ⟨rfl, nofun⟩
  | succ f ih =>
    intro s s' b' st h
    cases hb : body s with
    | error e => rw [runWhile_err hb] at h; cases h
    | ok p =>
      obtain ⟨s1, c⟩ := p
      cases c with
      | false => rw [runWhile_stop hb] at h; cases h; exact ⟨rfl, nofun⟩
      | true => rw [runWhile_cont_none hb] at h; exact ih _ _ _ _ h

theorem runWhile_interrupted_budget {body : σ → Res (σ × Bool)} {f : Nat}
    {b b' : Option Nat} {s s' : σ} (h : runWhile body f b s = .ok (s', b', .interrupted)) :
    ∃ k, b = some k := by
  cases b with
  | none => exact absurd rfl (runWhile_none_budget body f s s' b' _ h).2
  | some k => exact ⟨k, rfl⟩

theorem runWhile_completed_any_budget (body : σ → Res (σ × Bool)) :
    ∀ (f : Nat) (b : Option Nat) (s s' : σ) (b' : Option Nat),
      runWhile body f b s = .ok (s', b', .completed) →
      runWhile body f none s = .ok (s', none, .completed) := by
  intro f b s
  induction f, b, s using runWhile.induct body with
  | case1 b s => intro s' b' h; cases h
  | case2 f b s e hb => intro s' b' h; rw [runWhile_err hb] at h; cases h
  | case3 f b s s1 hb =>
    intro s' b' h
    rw [runWhile_stop hb] at h ⊢; cases h; rfl
  | case4 f s s1 hb ih => intro s' b' h; rw [runWhile_cont_none hb] at h ⊢; exact ih _ _ h
  | case5 f s s1 hb => intro s' b' h; rw [runWhile_cont_zero hb] at h; cases h
  | case6 f s s1 hb k ih =>
    intro s' b' h
    rw [runWhile_cont_succ hb] at h; rw [runWhile_cont_none hb]; exact ih _ _ h

theorem runWhile_error_mono (body : σ → Res (σ × Bool)) :
    ∀ (f : Nat) (b : Option Nat) (s : σ) (e : Err),
      runWhile body f b s = .error e → ∀ f', f ≤ f' → runWhile body f' b s = .error e := by
  intro f b s
  induction f, b, s using runWhile.induct body with
  | case1 b s => intro e h; cases h
  | case2 f b s e' hb =>
    intro e h f' hf
    obtain ⟨f'', rfl⟩ : ∃ f'', f' = f'' + 1 := ⟨f' - 1, by omega⟩
    rw [runWhile_err hb] at h ⊢; exact h
  | case3 f b s s1 hb => intro e h; rw [runWhile_stop hb] at h; cases h
  | case4 f s s1 hb ih =>
    intro e h f' hf
    obtain ⟨f'', rfl⟩ : ∃ f'', f' = f'' + 1 := ⟨f' - 1, by omega⟩
    rw [runWhile_cont_none hb] at h ⊢; exact ih _ h _ (by omega)
  | case5 f s s1 hb => intro e h; rw [runWhile_cont_zero hb] at h; cases h
  | case6 f s s1 hb k ih =>
    intro e h f' hf
    obtain ⟨f'', rfl⟩ : ∃ f'', f' = f'' + 1 := ⟨f' - 1, by omega⟩
    rw [runWhile_cont_succ hb] at h ⊢; exact ih _ h _ (by omega)

/-- interrupted prefix ++ unbudgeted suffix: whatever the suffix returns (value or error), the
    single unbudgeted run with fuel `f + f2` returns the same, provided the suffix did not run out
    of fuel -/
theorem runWhile_resume_gen (body : σ → Res (σ × Bool)) (f2 : Nat)
    (r : Res (σ × Option Nat × LoopStatus)) (hr : ∀ x y, r ≠ .ok (x, y, .outOfFuel)) :
    ∀ (f : Nat) (b : Option Nat) (s s1 : σ) (b1 : Option Nat),
      runWhile body f b s = .ok (s1, b1, .interrupted) →
      runWhile body f2 none s1 = r →
      runWhile body (f + f2) none s = r := by
  intro f b s
  induction f, b, s using runWhile.induct body with
  | case1 b s => intro s1 b1 h; cases h
  | case2 f b s e hb => intro s1 b1 h; rw [runWhile_err hb] at h; cases h
  | case3 f b s s' hb => intro s1 b1 h; rw [runWhile_stop hb] at h; cases h
  | case4 f s s' hb ih =>
    intro s1 b1 h h2
    rw [runWhile_cont_none hb] at h
    rw [Nat.succ_add, runWhile_cont_none hb]; exact ih _ _ h h2
  | case5 f s s' hb =>
    intro s1 b1 h h2
    rw [runWhile_cont_zero hb] at h; cases h
    rw [Nat.succ_add, runWhile_cont_none hb]
    subst h2
    cases hres : runWhile body f2 none s' with
    | error e => exact runWhile_error_mono body f2 none s' e hres (f + f2) (by omega)
    | ok q =>
      obtain ⟨x, y, st⟩ := q
      have hst : st ≠ .outOfFuel := fun hh => hr x y (hh ▸ hres)
      exact runWhile_fuel_mono body f2 none s' x y st hres hst (f + f2) (by omega)
  | case6 f s s' hb k ih =>
    intro s1 b1 h h2
    rw [runWhile_cont_succ hb] at h
    rw [Nat.succ_add, runWhile_cont_none hb]; exact ih _ _ h h2

theorem runWhile_resume (body : σ → Res (σ × Bool)) (f f2 : Nat) (b : Option Nat) (s s1 sf : σ)
    (b1 : Option Nat)
    (h1 : runWhile body f b s = .ok (s1, b1, .interrupted))
    (h2 : runWhile body f2 none s1 = .ok (sf, none, .completed)) :
    runWhile body (f + f2) none s = .ok (sf, none, .completed) :=
  runWhile_resume_gen body f2 _ (fun _ _ h => by cases h) f b s s1 b1 h1 h2

/-- `n` successive applications of the body, all of which say CONTINUE -/
def loopIter (body : σ → Res (σ × Bool)) : Nat → σ → Option σ
  | 0, s => some s
  | n+1, s =>
    match body s with
    | .ok (s', true) => loopIter body n s'
    | _ => none

theorem loopIter_cont {body : σ → Res (σ × Bool)} {s s' : σ}
    (h : body s = .ok (s', true)) (n : Nat) : loopIter body (n+1) s = loopIter body n s' := by
  simp only [loopIter, h]

def outOfGas : Err := .vm "out of gas"

/-- successive calls with budgets `k₁, k₂, …`, each resuming from the state the previous call
    left; stops at the first completed call.  The Bool says whether a call completed. -/
def runCalls (body : σ → Res (σ × Bool)) (fuel : Nat) : List Nat → σ → Res (σ × Bool)
  | [], s => .ok (s, false)
  | k :: ks, s =>
    match runWhile body fuel (some k) s with
    | .error e => .error e
    | .ok (s', _, .completed) => .ok (s', true)
    | .ok (s', _, .interrupted) => runCalls body fuel ks s'
    | .ok (_, _, .outOfFuel) => .error outOfGas

theorem runCalls_cons_completed {body : σ → Res (σ × Bool)} {fuel k : Nat} {s s' : σ}
    {b : Option Nat} (h : runWhile body fuel (some k) s = .ok (s', b, .completed))
    (ks : List Nat) : runCalls body fuel (k :: ks) s = .ok (s', true) := by
  simp only [runCalls, h]

theorem runCalls_cons_interrupted {body : σ → Res (σ × Bool)} {fuel k : Nat} {s s' : σ}
    {b : Option Nat} (h : runWhile body fuel (some k) s = .ok (s', b, .interrupted))
    (ks : List Nat) : runCalls body fuel (k :: ks) s = runCalls body fuel ks s' := by
  simp only [runCalls, h]

theorem runCalls_cons_outOfFuel {body : σ → Res (σ × Bool)} {fuel k : Nat} {s s' : σ}
    {b : Option Nat} (h : runWhile body fuel (some k) s = .ok (s', b, .outOfFuel))
    (ks : List Nat) : runCalls body fuel (k :: ks) s = .error outOfGas := by
  simp only [runCalls, h]

theorem runCalls_cons_error {body : σ → Res (σ × Bool)} {fuel k : Nat} {s : σ} {e : Err}
    (h : runWhile body fuel (some k) s = .error e)
    (ks : List Nat) : runCalls body fuel (k :: ks) s = .error e := by
  simp only [runCalls, h]

/-- a completing sequence of chunked calls computes the state of the single unbudgeted run -/
theorem runCalls_eq_single_fuel (body : σ → Res (σ × Bool)) (fuel : Nat) :
    ∀ (ks : List Nat) (s sf : σ), runCalls body fuel ks s = .ok (sf, true) →
      runWhile body (fuel * ks.length) none s = .ok (sf, none, .completed) := by
  intro ks
  induction ks with
  | nil => intro s sf h; cases h
  | cons k ks ih =>
    intro s sf h
    rw [List.length_cons, Nat.mul_succ, Nat.add_comm]
    cases hr : runWhile body fuel (some k) s with
    | error e => rw [runCalls_cons_error hr] at h; cases h
    | ok q =>
      obtain ⟨s1, b1, st⟩ := q
      cases st with
      | completed =>
        rw [runCalls_cons_completed hr] at h
        cases h
        exact runWhile_fuel_mono body fuel none s _ none .completed
          (runWhile_completed_any_budget body fuel (some k) s _ b1 hr) nofun _ (by omega)
      | interrupted =>
        rw [runCalls_cons_interrupted hr] at h
        exact runWhile_resume body fuel _ (some k) s s1 sf b1 hr (ih _ _ h)
      | outOfFuel => rw [runCalls_cons_outOfFuel hr] at h; cases h

theorem runCalls_eq_single (body : σ → Res (σ × Bool)) (fuel : Nat) (ks : List Nat) (s sf : σ)
    (h : runCalls body fuel ks s = .ok (sf, true)) :
    ∃ f, runWhile body f none s = .ok (sf, none, .completed) :=
  ⟨_, runCalls_eq_single_fuel body fuel ks s sf h⟩

theorem runWhile_completed_unique (body : σ → Res (σ × Bool)) (f f' : Nat) (s sf sf' : σ)
    (h : runWhile body f none s = .ok (sf, none, .completed))
    (h' : runWhile body f' none s = .ok (sf', none, .completed)) : sf = sf' := by
  have a := runWhile_fuel_mono body f none s sf none .completed h nofun (f + f') (by omega)
  have b := runWhile_fuel_mono body f' none s sf' none .completed h' nofun (f + f') (by omega)
  rw [a] at b
  cases b
  rfl

/-- the final state depends neither on the budget schedule nor on the fuel bounds of the
    individual calls -/
theorem runCalls_deterministic (body : σ → Res (σ × Bool)) (fuel fuel' : Nat)
    (ks ks' : List Nat) (s sf sf' : σ)
    (h : runCalls body fuel ks s = .ok (sf, true))
    (h' : runCalls body fuel' ks' s = .ok (sf', true)) : sf = sf' :=
  runWhile_completed_unique body _ _ s sf sf'
    (runCalls_eq_single_fuel body fuel ks s sf h)
    (runCalls_eq_single_fuel body fuel' ks' s sf' h')

theorem runWhile_map {τ : Type} (f : τ → σ) (body : σ → Res (σ × Bool))
    (body' : τ → Res (τ × Bool))
    (h : ∀ y, body (f y) = (body' y).map (fun p => (f p.1, p.2))) :
    ∀ (fuel : Nat) (b : Option Nat) (y : τ),
      runWhile body fuel b (f y) =
        (runWhile body' fuel b y).map (fun r => (f r.1, r.2.1, r.2.2)) := by
  intro fuel b y
  induction fuel, b, y using runWhile.induct body' with
  | case1 b y => rfl
  | case2 n b y e hb =>
    have hb2 : body (f y) = .error e := by rw [h, hb]; rfl
    rw [runWhile_err hb2, runWhile_err hb]; rfl
  | case3 n b y y' hb =>
    have hb2 : body (f y) = .ok (f y', false) := by rw [h, hb]; rfl
    rw [runWhile_stop hb2, runWhile_stop hb]; rfl
  | case4 n y y' hb ih =>
    have hb2 : body (f y) = .ok (f y', true) := by rw [h, hb]; rfl
    rw [runWhile_cont_none hb2, runWhile_cont_none hb]; exact ih
  | case5 n y y' hb =>
    have hb2 : body (f y) = .ok (f y', true) := by rw [h, hb]; rfl
    rw [runWhile_cont_zero hb2, runWhile_cont_zero hb]; rfl
  | case6 n y y' hb k ih =>
    have hb2 : body (f y) = .ok (f y', true) := by rw [h, hb]; rfl
    rw [runWhile_cont_succ hb2, runWhile_cont_succ hb]; exact ih

/-- resumption when the state the next call reloads is the interrupted state only up to a map `ι`
    that commutes with the body (the draw log starts empty in every call) -/
theorem runWhile_resume_via (ι : σ → σ) {body : σ → Res (σ × Bool)}
    (hι : ∀ y, body (ι y) = (body y).map (fun p => (ι p.1, p.2)))
    {f f2 : Nat} {b b1 : Option Nat} {s s1 sf : σ}
    (h1 : runWhile body f b s = .ok (ι s1, b1, .interrupted))
    (h2 : runWhile body f2 none s1 = .ok (sf, none, .completed)) :
    runWhile body (f + f2) none s = .ok (ι sf, none, .completed) :=
  runWhile_resume body f f2 b s (ι s1) (ι sf) b1 h1
    (by rw [runWhile_map ι body body hι, h2]; rfl)

/-- one call of a run that would complete within `N` iterations either completes (same state) or
    is interrupted after exactly `k+1` iterations, leaving `N-(k+1)` to do -/
theorem runWhile_call_progress (body : σ → Res (σ × Bool)) :
    ∀ (N : Nat) (s sf : σ), runWhile body N none s = .ok (sf, none, .completed) →
      ∀ (k fuel : Nat), N ≤ fuel →
        (∃ b', runWhile body fuel (some k) s = .ok (sf, b', .completed)) ∨
        (∃ s1, runWhile body fuel (some k) s = .ok (s1, some 0, .interrupted) ∧
               loopIter body (k+1) s = some s1 ∧ k + 1 < N ∧
               runWhile body (N - (k+1)) none s1 = .ok (sf, none, .completed)) := by
  intro N
  induction N with
  | zero => intro s sf h; cases h
  | succ N ih =>
    intro s sf h k fuel hf
    obtain ⟨fuel', rfl⟩ : ∃ f'', fuel = f'' + 1 := ⟨fuel - 1, by omega⟩
    cases hb : body s with
    | error e => rw [runWhile_err hb] at h; cases h
    | ok p =>
      obtain ⟨s', c⟩ := p
      cases c with
      | false =>
        rw [runWhile_stop hb] at h
        cases h
        exact Or.inl ⟨some k, runWhile_stop hb _ _⟩
      | true =>
        rw [runWhile_cont_none hb] at h
        have hN : 0 < N := by
          cases N with
          | zero => cases h
          | succ n => omega
        rw [loopIter_cont hb]
        cases k with
        | zero => exact Or.inr ⟨s', runWhile_cont_zero hb _, rfl, by omega, by simpa using h⟩
        | succ k =>
          rw [runWhile_cont_succ hb]
          rcases ih s' sf h k fuel' (by omega) with hc | ⟨s1, h1, h2, h3, h4⟩
          · exact Or.inl hc
          · refine Or.inr ⟨s1, h1, h2, by omega, ?_⟩
            rw [show N + 1 - (k + 1 + 1) = N - (k + 1) by omega]; exact h4

theorem runWhile_call_any (body : σ → Res (σ × Bool)) {N : Nat} {s sf : σ}
    (h : runWhile body N none s = .ok (sf, none, .completed)) (b : Option Nat) {fuel : Nat}
    (hf : N ≤ fuel) :
    (∃ b', runWhile body fuel b s = .ok (sf, b', .completed)) ∨
    (∃ k s1, b = some k ∧ runWhile body fuel b s = .ok (s1, some 0, .interrupted) ∧ k + 1 < N ∧
       runWhile body (N - (k+1)) none s1 = .ok (sf, none, .completed)) := by
  cases b with
  | none => exact Or.inl ⟨none, runWhile_fuel_mono _ _ _ _ _ _ _ h nofun _ hf⟩
  | some k =>
    rcases runWhile_call_progress body N s sf h k fuel hf with hc | ⟨s1, h1, _, h3, h4⟩
    · exact Or.inl hc
    · exact Or.inr ⟨k, s1, rfl, h1, h3, h4⟩

/-- iterations a budget schedule allows: a call with budget `k` makes up to `k + 1` -/
def budgetIters (ks : List Nat) : Nat := (ks.map (· + 1)).sum

theorem length_le_budgetIters (ks : List Nat) : ks.length ≤ budgetIters ks := by
  induction ks with
  | nil => simp [budgetIters]
  | cons k ks ih =>
    simp only [budgetIters, List.map_cons, List.sum_cons, List.length_cons] at *
    omega

/-- if the unbudgeted run completes within `N` iterations, every budget schedule that allows at
    least `N` iterations in total completes with the same state (each call needs fuel ≥ N: the
    call-local fuel bound must not be the limiting factor) -/
theorem runCalls_completes_of_budgetIters (body : σ → Res (σ × Bool)) (fuel : Nat) :
    ∀ (ks : List Nat) (N : Nat) (s sf : σ),
      runWhile body N none s = .ok (sf, none, .completed) → N ≤ fuel → N ≤ budgetIters ks →
      runCalls body fuel ks s = .ok (sf, true) := by
  intro ks
  induction ks with
  | nil =>
    intro N s sf h _ hN
    simp only [budgetIters, List.map_nil, List.sum_nil, Nat.le_zero_eq] at hN
    subst hN
    cases h
  | cons k ks ih =>
    intro N s sf h hf hN
    rcases runWhile_call_progress body N s sf h k fuel hf with ⟨b', hc⟩ | ⟨s1, h1, _, h3, h4⟩
    · exact runCalls_cons_completed hc ks
    · rw [runCalls_cons_interrupted h1]
      apply ih (N - (k+1)) s1 sf h4 (by omega)
      simp only [budgetIters, List.map_cons, List.sum_cons] at hN ⊢
      omega

/-- `N` calls suffice whatever their budgets, even all `0` -/
theorem runCalls_completes_of_length (body : σ → Res (σ × Bool)) (fuel : Nat)
    (ks : List Nat) (N : Nat) (s sf : σ)
    (h : runWhile body N none s = .ok (sf, none, .completed)) (hf : N ≤ fuel)
    (hN : N ≤ ks.length) : runCalls body fuel ks s = .ok (sf, true) :=
  runCalls_completes_of_budgetIters body fuel ks N s sf h hf
    (Nat.le_trans hN (length_le_budgetIters ks))

theorem runCalls_no_error (body : σ → Res (σ × Bool)) (fuel : Nat) :
    ∀ (ks : List Nat) (N : Nat) (s sf : σ),
      runWhile body N none s = .ok (sf, none, .completed) → N ≤ fuel →
      runCalls body fuel ks s = .ok (sf, true) ∨ ∃ s', runCalls body fuel ks s = .ok (s', false) := by
  intro ks
  induction ks with
  | nil => intro N s sf _ _; exact Or.inr ⟨s, rfl⟩
  | cons k ks ih =>
    intro N s sf h hf
    rcases runWhile_call_progress body N s sf h k fuel hf with ⟨b', hc⟩ | ⟨s1, h1, _, _, h4⟩
    · exact Or.inl (runCalls_cons_completed hc ks)
    · rw [runCalls_cons_interrupted h1]
      exact ih (N - (k+1)) s1 sf h4 (by omega)

theorem runCalls_of_completed (body : σ → Res (σ × Bool)) (N : Nat) (s sf : σ)
    (h : runWhile body N none s = .ok (sf, none, .completed)) :
    (∀ fuel ks, N ≤ fuel → N ≤ budgetIters ks → runCalls body fuel ks s = .ok (sf, true)) ∧
    (∀ fuel ks, N ≤ fuel → N ≤ ks.length → runCalls body fuel ks s = .ok (sf, true)) ∧
    (∀ fuel ks, N ≤ fuel →
      runCalls body fuel ks s = .ok (sf, true) ∨ ∃ s', runCalls body fuel ks s = .ok (s', false)) ∧
    (∀ fuel ks sf', runCalls body fuel ks s = .ok (sf', true) → sf' = sf) :=
  ⟨fun fuel ks => runCalls_completes_of_budgetIters body fuel ks N s sf h,
   fun fuel ks => runCalls_completes_of_length body fuel ks N s sf h,
   fun fuel ks => runCalls_no_error body fuel ks N s sf h,
   fun fuel ks sf' h' =>
    runWhile_completed_unique body _ _ s sf' sf (runCalls_eq_single_fuel body fuel ks s sf' h') h⟩

/-- if every continuing iteration preserves `P`, an interrupted run ends in a `P`-state and a
    completed run ends with a stopping iteration started from a `P`-state -/
theorem runWhile_inv {σ : Type} (P : σ → Prop) (body : σ → Res (σ × Bool))
    (hb : ∀ x x', body x = .ok (x', true) → P x → P x') :
    ∀ (fuel : Nat) (b : Option Nat) (s s' : σ) (b' : Option Nat) (st : LoopStatus),
      runWhile body fuel b s = .ok (s', b', st) → P s →
      (st = .interrupted → P s') ∧ (st = .completed → ∃ x, P x ∧ body x = .ok (s', false)) := by
  intro fuel b s
  induction fuel, b, s using runWhile.induct body with
  | case1 b s => intro s' b' st h _; cases h; exact ⟨nofun, nofun⟩
  | case2 n b s e hbs => intro s' b' st h; rw [runWhile_err hbs] at h; cases h
  | case3 n b s x hbs =>
    intro s' b' st h hp
    rw [runWhile_stop hbs] at h; cases h
    exact ⟨nofun, fun _ => ⟨s, hp, hbs⟩⟩
  | case4 n s x hbs ih =>
    intro s' b' st h hp
    rw [runWhile_cont_none hbs] at h; exact ih _ _ _ h (hb s x hbs hp)
  | case5 n s x hbs =>
    intro s' b' st h hp
    rw [runWhile_cont_zero hbs] at h; cases h
    exact ⟨fun _ => hb s x hbs hp, nofun⟩
  | case6 n s x hbs k ih =>
    intro s' b' st h hp
    rw [runWhile_cont_succ hbs] at h; exact ih _ _ _ h (hb s x hbs hp)

theorem runWhile_preserves {σ : Type} (P : σ → Prop) (body : σ → Res (σ × Bool))
    (hb : ∀ x x' c, body x = .ok (x', c) → P x → P x') :
    ∀ (fuel : Nat) (b : Option Nat) (s s' : σ) (b' : Option Nat) (st : LoopStatus),
      runWhile body fuel b s = .ok (s', b', st) → P s → P s' := by
  intro fuel b s
  induction fuel, b, s using runWhile.induct body with
  | case1 b s => intro s' b' st h hp; cases h; exact hp
  | case2 n b s e hbs => intro s' b' st h; rw [runWhile_err hbs] at h; cases h
  | case3 n b s x hbs =>
    intro s' b' st h hp
    rw [runWhile_stop hbs] at h; cases h; exact hb s _ _ hbs hp
  | case4 n s x hbs ih =>
    intro s' b' st h hp
    rw [runWhile_cont_none hbs] at h; exact ih _ _ _ h (hb s x _ hbs hp)
  | case5 n s x hbs =>
    intro s' b' st h hp
    rw [runWhile_cont_zero hbs] at h; cases h; exact hb s _ _ hbs hp
  | case6 n s x hbs k ih =>
    intro s' b' st h hp
    rw [runWhile_cont_succ hbs] at h; exact ih _ _ _ h (hb s x _ hbs hp)

theorem runWhile_completed_stop {σ : Type} (P : σ → Prop) (body : σ → Res (σ × Bool))
    (hb : ∀ x x' c, body x = .ok (x', c) → P x → P x')
    (fuel : Nat) (b : Option Nat) (s s' : σ) (b' : Option Nat)
    (h : runWhile body fuel b s = .ok (s', b', .completed)) (hp : P s) :
    ∃ s0, P s0 ∧ body s0 = .ok (s', false) :=
  (runWhile_inv P body (fun x x' => hb x x' true) fuel b s s' b' _ h hp).2 rfl

theorem runWhile_interrupted_measure {σ : Type} (body : σ → Res (σ × Bool)) (μ : σ → Nat)
    (P : σ → Prop) (hstep : ∀ x x', P x → body x = .ok (x', true) → P x' ∧ μ x' < μ x) :
    ∀ (f : Nat) (b : Option Nat) (x x1 : σ) (b1 : Option Nat),
      runWhile body f b x = .ok (x1, b1, .interrupted) → P x → P x1 ∧ μ x1 < μ x := by
  intro f b x
  induction f, b, x using runWhile.induct body with
  | case1 b x => intro x1 b1 h; cases h
  | case2 n b x e hb => intro x1 b1 h; rw [runWhile_err hb] at h; cases h
  | case3 n b x x' hb => intro x1 b1 h; rw [runWhile_stop hb] at h; cases h
  | case4 n x x' hb ih =>
    intro x1 b1 h hp
    rw [runWhile_cont_none hb] at h
    obtain ⟨hp', hμ⟩ := hstep x x' hp hb
    obtain ⟨h1, h2⟩ := ih _ _ h hp'
    exact ⟨h1, by omega⟩
  | case5 n x x' hb =>
    intro x1 b1 h hp
    rw [runWhile_cont_zero hb] at h; cases h
    exact hstep x _ hp hb
  | case6 n x x' hb k ih =>
    intro x1 b1 h hp
    rw [runWhile_cont_succ hb] at h
    obtain ⟨hp', hμ⟩ := hstep x x' hp hb
    obtain ⟨h1, h2⟩ := ih _ _ h hp'
    exact ⟨h1, by omega⟩

theorem runWhile_ok_of_body {σ : Type} (body : σ → Res (σ × Bool)) (hb : ∀ x, ∃ p, body x = .ok p) :
    ∀ (f : Nat) (b : Option Nat) (x : σ), ∃ r, runWhile body f b x = .ok r := by
  intro f b x
  induction f, b, x using runWhile.induct body with
  | case1 b x => exact ⟨_, rfl⟩
  | case2 f b x e hx => obtain ⟨p, hp⟩ := hb x; rw [hx] at hp; cases hp
  | case3 f b x x' hx => exact ⟨_, runWhile_stop hx f b⟩
  | case4 f x x' hx ih => rw [runWhile_cont_none hx]; exact ih
  | case5 f x x' hx => exact ⟨_, runWhile_cont_zero hx f⟩
  | case6 f x x' hx k ih => rw [runWhile_cont_succ hx]; exact ih

theorem runWhile_outOfFuel_not_completed {σ : Type} (body : σ → Res (σ × Bool)) (f : Nat)
    (b b2 : Option Nat) (x z sf : σ) (h : runWhile body f b x = .ok (z, b2, .outOfFuel))
    (hc : runWhile body f none x = .ok (sf, none, .completed)) : False := by
  rcases runWhile_call_any body hc b (Nat.le_refl f) with ⟨b', h'⟩ | ⟨k, s1, _, h', _⟩ <;>
    (rw [h'] at h; cases h)

/-- a call with budget 0 makes one iteration, so one unit of fuel is enough for it -/
theorem runWhile_budget_zero {σ : Type} (body : σ → Res (σ × Bool)) (f : Nat) (x x' : σ)
    (b' : Option Nat) (st : LoopStatus) (h : runWhile body (f + 1) (some 0) x = .ok (x', b', st)) :
    st ≠ .outOfFuel ∧ b' = some 0 := by
  cases hb : body x with
  | error err => rw [runWhile_err hb] at h; cases h
  | ok p =>
    obtain ⟨x1, c⟩ := p
    cases c with
    | false => rw [runWhile_stop hb] at h; cases h; exact ⟨nofun, rfl⟩
    | true => rw [runWhile_cont_zero hb] at h; cases h; exact ⟨nofun, rfl⟩

/-- A loop that completes from `y` within `N ≤ fuel` iterations, and whose continuing iterations
    keep `P` and decrease `μ`: a call with ANY budget completes in the same final state, or (finite
    budget only) is interrupted in a state with `P` and a smaller `μ`.  Never an error, never out of
    fuel. -/
theorem runWhile_live {σ : Type} (body : σ → Res (σ × Bool)) (μ : σ → Nat) (P : σ → Prop)
    (hstep : ∀ x x', P x → body x = .ok (x', true) → P x' ∧ μ x' < μ x)
    {N fuel : Nat} {y yf : σ} (hrun : runWhile body N none y = .ok (yf, none, .completed))
    (hf : N ≤ fuel) (hP : P y) (b : Option Nat) :
    (∃ b', runWhile body fuel b y = .ok (yf, b', .completed)) ∨
    (∃ y1, runWhile body fuel b y = .ok (y1, some 0, .interrupted) ∧ P y1 ∧ μ y1 < μ y ∧
      b ≠ none) := by
  rcases runWhile_call_any _ hrun b hf with h | ⟨k, y1, rfl, h1, _⟩
  · exact Or.inl h
  · obtain ⟨h2, h3⟩ := runWhile_interrupted_measure body μ P hstep _ _ _ _ _ h1 hP
    exact Or.inr ⟨y1, h1, h2, h3, nofun⟩

/-- countdown-indexed invariant: `P (n+1)` states continue into `P n`, `P 0` states stop -/
theorem runWhile_countdown {σ : Type} (P : Nat → σ → Prop) (body : σ → Res (σ × Bool))
    (hstop : ∀ x, P 0 x → ∃ x', body x = .ok (x', false) ∧ P 0 x')
    (hstep : ∀ n x, P (n + 1) x → ∃ x', body x = .ok (x', true) ∧ P n x') :
    ∀ (n : Nat) (x : σ) (fuel : Nat), P n x → n + 1 ≤ fuel →
      ∃ x', runWhile body fuel none x = .ok (x', none, .completed) ∧ P 0 x' := by
  intro n
  induction n with
  | zero =>
    intro x fuel hp hf
    obtain ⟨k, rfl⟩ : ∃ k, fuel = k + 1 := ⟨fuel - 1, by omega⟩
    obtain ⟨x', hb, hp'⟩ := hstop x hp
    exact ⟨x', runWhile_stop hb _ _, hp'⟩
  | succ n ih =>
    intro x fuel hp hf
    obtain ⟨k, rfl⟩ : ∃ k, fuel = k + 1 := ⟨fuel - 1, by omega⟩
    obtain ⟨x1, hb, hp1⟩ := hstep n x hp
    obtain ⟨x', hr, hp'⟩ := ih x1 k hp1 (by omega)
    exact ⟨x', by rw [runWhile_cont_none hb]; exact hr, hp'⟩

end LP
