import LP.Proofs.Receipts
import LP.Props.C17
import LP.Props.C07
import LP.Props.C20
import LP.Proofs.Later
/-
  For `LP/Props/C17refund.lean` (prefix `tf_`), the history-level form of C17 "every refund and
  payout is computed with exactly the terms that were visible when the participant confirmed": the
  log `lk_runLog` of a history is cut at a confirmation `x` and a later refund `y`, and the terms,
  the v1 unlock schedule and the confirmed tickets are followed from `x` to `y`.
-/
namespace LP
open LP.Props LP.Props.C17 LP.Props.C09 LP.Props.C07

/-! ## cutting the log (twice, with `tf_split` of LP/Proofs/LockedGuarClaim.lean) -/

/-- two log entries, `y` later than `x`: the segment `seg` of the history strictly between them
    leads from `x` to the pre-state of `y` with log `l2`; `tail` is the whole rest after `x` -/
theorem tf_between (hash : List Nat → List Nat) (hist : List (Env × Call)) (s : State) (r0 : Nat)
    (hr : RoundsFrom r0 hist) (l1 : List (State × Env × Call × Out))
    (sx : State) (ex : Env) (cx : Call) (ox : Out) (l2 : List (State × Env × Call × Out))
    (sy : State) (ey : Env) (cy : Call) (oy : Out) (l3 : List (State × Env × Call × Out))
    (h : lk_runLog hash s hist = l1 ++ (sx, ex, cx, ox) :: (l2 ++ (sy, ey, cy, oy) :: l3)) :
    ∃ (seg tail : Hist) (sx' sy' : State),
      step hash sx ex cx = .ok (sx', ox) ∧ step hash sy ey cy = .ok (sy', oy) ∧
      RoundsFrom ex.round ((ex, cx) :: seg) ∧
      lk_runLog hash sx ((ex, cx) :: seg) = (sx, ex, cx, ox) :: l2 ∧
      run hash sx ((ex, cx) :: seg) = sy ∧ ex.round ≤ ey.round ∧
      RoundsFrom ex.round ((ex, cx) :: tail) ∧
      lk_runLog hash sx ((ex, cx) :: tail) = (sx, ex, cx, ox) :: (l2 ++ (sy, ey, cy, oy) :: l3) := by
  obtain ⟨h1, h2, sx', k1, _, _, k4, k5⟩ := tf_split hash hist s l1 _ _ h
  obtain ⟨h3, h4, sy', j1, j2, j3, j4, _⟩ := tf_split hash h2 sx' l2 _ _ k5
  simp only at k1 k4 j1 j3 j4
  subst k1
  have hr1 : RoundsFrom r0 ((ex, cx) :: h2) := RoundsFrom.append_right hr
  have hr2 : RoundsFrom ex.round h2 := hr1.2
  rw [j1] at hr2
  have hr3 : RoundsFrom ex.round h3 := RoundsFrom.append_left hr2
  have hr4 : RoundsFrom ex.round ((ey, cy) :: h4) := RoundsFrom.append_right hr2
  refine ⟨h3, h2, sx', sy', k4, j4, ⟨Nat.le_refl _, hr3⟩, ?_, ?_, hr4.1, ⟨Nat.le_refl _, hr1.2⟩, ?_⟩
  · rw [lk_runLog_cons_ok k4, j2]
  · rw [run_cons_ok k4]; exact j3
  · rw [lk_runLog_cons_ok k4, k5]

theorem tf_mem_step (hash : List Nat → List Nat) (hist : List (Env × Call)) (s : State)
    (sx : State) (ex : Env) (cx : Call) (ox : Out) (h : (sx, ex, cx, ox) ∈ lk_runLog hash s hist) :
    ∃ sx', step hash sx ex cx = .ok (sx', ox) := by
  obtain ⟨_, _, s', _, _, k⟩ := lk_runLog_mem hash hist s _ h
  exact ⟨s', k⟩

/-! ## an accepted confirmation -/

/-- the call value of an accepted confirmation is EXACTLY `price × n` of the payment token, both as
    stored in the pre-state -/
theorem tf_confirm_inv {hash : List Nat → List Nat} {s s' : State} {e : Env} {n : Nat} {o : Out}
    (h : step hash s e (.confirm n) = .ok (s', o)) :
    s.cfg.conf ≤ e.round ∧ e.round < s.cfg.sel ∧ s.stage e = .confirm ∧ s.deposited = true ∧
    s.blacklist e.caller = false ∧ egldOrSingleFungible e = .ok (s.payTok, s.price * n) ∧
    s'.confirmed e.caller = s.confirmed e.caller + n := by
  obtain ⟨total, ⟨_, hpay, hst, hd, hb, _, _⟩, hs', _⟩ := confirm_effect hash s e n s' o h
  have hsp := stageOf_spec e.round s.cfg s.flags
  rw [show stageOf e.round s.cfg s.flags = .confirm from hst] at hsp
  exact ⟨hsp.1, hsp.2, hst, hd, hb, hpay, by rw [hs']; simp [upd]⟩

/-! ## the v1 unlock schedule from the confirmation start on -/

/-- the log entry is an accepted `setSchedule1` (v1 `setUnlockSchedule`, guarV1 only) -/
def tf_isSched1 (x : State × Env × Call × Out) : Bool :=
  match x.2.2.1 with
  | .setSchedule1 .. => true
  | _ => false

/-- from the confirmation start on `setSchedule1` is accepted only while NO schedule is stored -/
theorem tf_sched1_step {hash : List Nat → List Nat} {s s' : State} {e : Env} {c : Call} {o : Out}
    (h : step hash s e c = .ok (s', o)) (hr : s.cfg.conf ≤ e.round) :
    (tf_isSched1 (s, e, c, o) = false → s'.sched1 = s.sched1) ∧
    (tf_isSched1 (s, e, c, o) = true → s.sched1 = none ∧ s.variant = .guarV1 ∧
      ∃ a b c' d f, c = .setSchedule1 a b c' d f ∧ s'.sched1 = some ⟨a, b, c', d, f⟩) := by
  constructor
  · intro hc
    refine sched1_frame h (fun a b c' d f hh => ?_)
    subst hh
    simp [tf_isSched1] at hc
  · intro hc
    cases c <;> simp only [tf_isSched1, Bool.false_eq_true] at hc
    rename_i a b c' d f
    have hnone : s.sched1 = none := by
      rcases C06.schedule1_gate hash s e a b c' d f (s', o) h with h1 | h1
      · omega
      · exact h1
    obtain ⟨m, t, _, _, _, hx, hs', _⟩ := step_ok_inv h
    refine ⟨hnone, eq_of_beq (step_exposed h), a, b, c', d, f, rfl, ?_⟩
    · simp only [exec, setSchedule1, bind_ok_iff, pure_ok_iff, req_ok_iff, exists_const] at hx
      obtain ⟨s1, ⟨_, _, _, _, rfl⟩, rfl⟩ := hx
      rw [hs']; rfl

/-- along a history that starts at a round `≥ conf` a stored v1 schedule is never replaced: at most
    ONE `setSchedule1` is accepted, and the schedule it stores is the final one -/
theorem tf_sched1_along (hash : List Nat → List Nat) (h : Hist) (s : State) (r : Nat)
    (hconf : s.cfg.conf ≤ r) (hr : RoundsFrom r h) :
    ((∀ z ∈ lk_runLog hash s h, tf_isSched1 z = false) → (run hash s h).sched1 = s.sched1) ∧
    (s.sched1 ≠ none → ∀ z ∈ lk_runLog hash s h, tf_isSched1 z = false) ∧
    ((lk_runLog hash s h).filter tf_isSched1).length ≤ 1 ∧
    (∀ z ∈ lk_runLog hash s h, tf_isSched1 z = true →
      z.1.sched1 = none ∧ z.1.variant = .guarV1 ∧ s.sched1 = none ∧
      ∃ a b c d f, z.2.2.1 = .setSchedule1 a b c d f ∧
        (run hash s h).sched1 = some ⟨a, b, c, d, f⟩) := by
  refine run_rec_rounds hash (M := fun s r h => s.cfg.conf ≤ r →
    ((∀ z ∈ lk_runLog hash s h, tf_isSched1 z = false) → (run hash s h).sched1 = s.sched1) ∧
    (s.sched1 ≠ none → ∀ z ∈ lk_runLog hash s h, tf_isSched1 z = false) ∧
    ((lk_runLog hash s h).filter tf_isSched1).length ≤ 1 ∧
    (∀ z ∈ lk_runLog hash s h, tf_isSched1 z = true →
      z.1.sched1 = none ∧ z.1.variant = .guarV1 ∧ s.sched1 = none ∧
      ∃ a b c d f, z.2.2.1 = .setSchedule1 a b c d f ∧
        (run hash s h).sched1 = some ⟨a, b, c, d, f⟩)) ?_ ?_ ?_ h s r hr hconf
  · intro s r _
    refine ⟨fun _ => rfl, fun _ z hz => ?_, Nat.zero_le _, fun z hz => ?_⟩
    · cases hz
    · cases hz
  · intro s r e c rest er h1 _ hs ih hr
    rw [lk_runLog_cons_err hs, run_cons_err hs]
    exact ih (Nat.le_trans hr h1)
  · intro s r e c rest s' o h1 _ hs ih hr
    have hce : s.cfg.conf ≤ e.round := Nat.le_trans hr h1
    rw [lk_runLog_cons_ok hs, run_cons_ok hs]
    have hconf : s'.cfg.conf = s.cfg.conf := conf_frozen_once_reached hs hce
    obtain ⟨i1, i2, i3, i4⟩ := ih (by rw [hconf]; exact hce)
    obtain ⟨j1, j2⟩ := tf_sched1_step hs hce
    refine ⟨?_, ?_, ?_, ?_⟩
    · intro hall
      rw [i1 (fun z hz => hall z (List.mem_cons_of_mem _ hz)), j1 (hall _ (List.mem_cons_self ..))]
    · intro hne z hz
      have hx : tf_isSched1 (s, e, c, o) = false := by
        cases hb : tf_isSched1 (s, e, c, o)
        · rfl
        · exact absurd (j2 hb).1 hne
      rcases List.mem_cons.mp hz with rfl | hz
      · exact hx
      · exact i2 (by rw [j1 hx]; exact hne) z hz
    · cases hb : tf_isSched1 (s, e, c, o)
      · rw [List.filter_cons_of_neg (by simp [hb])]; exact i3
      · rw [List.filter_cons_of_pos (by simp [hb])]
        obtain ⟨_, _, a, b, c', d, f, _, hs1⟩ := j2 hb
        have : (lk_runLog hash s' rest).filter tf_isSched1 = [] := by
          rw [List.filter_eq_nil_iff]
          intro z hz
          rw [i2 (by rw [hs1]; simp) z hz]; simp
        rw [this]; simp
    · intro z hz hzb
      rcases List.mem_cons.mp hz with rfl | hz
      · obtain ⟨k1, k2, a, b, c', d, f, k3, k4⟩ := j2 hzb
        refine ⟨k1, k2, k1, a, b, c', d, f, k3, ?_⟩
        have hall : ∀ z ∈ lk_runLog hash s' rest, tf_isSched1 z = false :=
          i2 (by rw [k4]; simp)
        rw [i1 hall, k4]
      · obtain ⟨k1, k2, k3, k4⟩ := i4 z hz hzb
        have hx : tf_isSched1 (s, e, c, o) = false := by
          cases hb : tf_isSched1 (s, e, c, o)
          · rfl
          · obtain ⟨_, _, a, b, c', d, f, _, hs1⟩ := j2 hb
            rw [hs1] at k3; cases k3
        exact ⟨k1, k2, by rw [← j1 hx]; exact k3, k4⟩

/-- `tf_sched1_along` on the `seg` and `tail` of `tf_between` (here both include `x`) -/
theorem tf_sched1_between {hash : List Nat → List Nat} {sx : State} {ex : Env} {cx : Call} {ox : Out}
    {seg tail : Hist} {l2 l3 : List (State × Env × Call × Out)} {y : State × Env × Call × Out}
    (hx : tf_isSched1 (sx, ex, cx, ox) = false) (hconf : sx.cfg.conf ≤ ex.round)
    (hrs : RoundsFrom ex.round ((ex, cx) :: seg))
    (hlogs : lk_runLog hash sx ((ex, cx) :: seg) = (sx, ex, cx, ox) :: l2)
    (hrun : run hash sx ((ex, cx) :: seg) = y.1)
    (hrt : RoundsFrom ex.round ((ex, cx) :: tail))
    (hlogt : lk_runLog hash sx ((ex, cx) :: tail) = (sx, ex, cx, ox) :: (l2 ++ y :: l3)) :
    (sx.sched1 ≠ none → y.1.sched1 = sx.sched1) ∧
    (sx.variant ≠ .guarV1 → y.1.sched1 = sx.sched1) ∧
    ((∀ z ∈ l2, tf_isSched1 z = false) → y.1.sched1 = sx.sched1) ∧
    ((l2 ++ y :: l3).filter tf_isSched1).length ≤ 1 ∧
    (∀ z ∈ l2, tf_isSched1 z = true → sx.sched1 = none ∧ sx.variant = .guarV1 ∧
      ∃ a b c d f, z.2.2.1 = .setSchedule1 a b c d f ∧ y.1.sched1 = some ⟨a, b, c, d, f⟩) := by
  obtain ⟨a1, a2, _, a4⟩ := tf_sched1_along hash _ sx ex.round hconf hrs
  rw [hrun, hlogs] at a1 a4
  rw [hlogs] at a2
  obtain ⟨_, _, b3, _⟩ := tf_sched1_along hash _ sx ex.round hconf hrt
  rw [hlogt, List.filter_cons_of_neg (by rw [hx]; exact Bool.false_ne_true)] at b3
  have hall : (∀ z ∈ l2, tf_isSched1 z = false) → y.1.sched1 = sx.sched1 := fun hz =>
    a1 (fun z hm => by
      rcases List.mem_cons.mp hm with rfl | hm
      · exact hx
      · exact hz z hm)
  have hsome : ∀ z ∈ l2, tf_isSched1 z = true → sx.sched1 = none ∧ sx.variant = .guarV1 ∧
      ∃ a b c d f, z.2.2.1 = .setSchedule1 a b c d f ∧ y.1.sched1 = some ⟨a, b, c, d, f⟩ := by
    intro z hz hzb
    have hzm : z ∈ (sx, ex, cx, ox) :: l2 := List.mem_cons_of_mem _ hz
    obtain ⟨_, k2, k3, k4⟩ := a4 z hzm hzb
    refine ⟨k3, ?_, k4⟩
    rw [← hlogs] at hzm
    obtain ⟨p1, _, _, _, q2, _⟩ := lk_runLog_mem hash _ sx z hzm
    rw [q2, run_variant] at k2
    exact k2
  refine ⟨?_, ?_, hall, b3, hsome⟩
  · intro hne
    exact hall (fun z hz => a2 hne z (List.mem_cons_of_mem _ hz))
  · intro hv
    apply hall
    intro z hz
    cases hb : tf_isSched1 z
    · rfl
    · exact absurd (hsome z hz hb).2.1 hv

/-! ## one accepted transaction: payment token, events, entitlement -/

/-- all eight variants: the first accepted `claim` of a participant with losing confirmed tickets
    emits `refundTicketPayment` with their number, the payment token and `price × tickets` of the
    pre-state -/
theorem tf_claim_event {hash : List Nat → List Nat} {s s' : State} {e : Env} {o : Out}
    (h : step hash s e .claim = .ok (s', o)) (hcl : s.claimed e.caller = false)
    (hpos : 0 < s.confirmed e.caller - winCountOf s e.caller) :
    (⟨"refundTicketPayment", [e.caller, e.round, e.epoch],
      [e.caller, e.round, e.epoch, s.confirmed e.caller - winCountOf s e.caller, s.payTok.code, 0,
        s.price * (s.confirmed e.caller - winCountOf s e.caller)]⟩ : Ev) ∈ o.events := by
  rw [step_events h]
  refine List.mem_append_left _ ?_
  rw [if_pos hcl, Events.refundEvents, if_pos (winCountOf_eq s e.caller ▸ hpos)]
  exact .head _

/-- a `blacklist` or `refundUsers` that lists `a`, who has confirmed tickets: the refund event and the
    transfer, with the payment token and the price of the pre-state -/
theorem tf_listed_event {hash : List Nat → List Nat} {s s' : State} {e : Env} {c : Call} {l : List Nat}
    {o : Out} (h : step hash s e c = .ok (s', o)) (hc : c = .blacklist l ∨ c = .refundUsers l) {a : Nat}
    (ha : a ∈ l) (hpos : 0 < s.confirmed a) :
    (⟨"refundTicketPayment", [e.caller, e.round, e.epoch],
      [e.caller, e.round, e.epoch, s.confirmed a, s.payTok.code, 0, s.price * s.confirmed a]⟩ : Ev)
      ∈ o.events ∧
    (a, (⟨s.payTok, 0, s.price * s.confirmed a⟩ : Pay)) ∈ o.xfers := by
  have hev := List.mem_filterMap.mpr ⟨a, ha, (C20.blEvent_eq s e a).trans (if_pos hpos)⟩
  have hxf := List.mem_filterMap.mpr ⟨a, ha, (C20.blXfer_eq s a).trans (if_pos hpos)⟩
  rw [step_events h, step_xfers h]
  rcases hc with rfl | rfl
  · exact ⟨List.mem_append_left _ hev, List.mem_append_left _ hxf⟩
  · exact ⟨hev, hxf⟩

/-- the first vesting claim (guarV1, guarV2) records `winning × perTicket` of the pre-state as the
    caller's `userTotal`; without a winning ticket it leaves `userTotal` as it is -/
theorem tf_vested_userTotal {hash : List Nat → List Nat} {s s' : State} {e : Env} {o : Out}
    (h : step hash s e .claim = .ok (s', o)) (hv : s.variant.vested = true)
    (hcl : s.claimed e.caller = false) :
    s'.userTotal e.caller =
      if winCountOf s e.caller > 0 then winCountOf s e.caller * s.perTicket
      else s.userTotal e.caller := by
  obtain ⟨t', hx, rfl, _⟩ := step_np_out rfl h
  rw [exec_claim_vested hash _ e hv] at hx
  obtain ⟨t1, c, hset, _, _, _, hut, _⟩ := claimVested_inv hx
  rw [hut]
  rcases (claimSettle_ok_iff _ e t1).mp hset with ⟨hc, _⟩ | ⟨r, ⟨_, _, hr, _⟩, rfl⟩
  · exact absurd (hcl.symm.trans hc) nofun
  · rw [claimSettled_state, winCountOf_some (show s.range e.caller = some r from hr)]
    show (if countWinning s.status r.first (rangeLen r) > 0 then upd _ _ _ else _) e.caller = _
    split
    · exact upd_same ..
    · rfl

/-! ## what a participant paid with his confirmations -/

def tf_isConfirmBy (a : Nat) (x : State × Env × Call × Out) : Bool :=
  match x.2.2.1 with
  | .confirm _ => x.2.1.caller == a
  | _ => false

def tf_ticketsOf : Call → Nat
  | .confirm n => n
  | _ => 0

/-- the call value of a transaction, if it is one payment in the fungible token `tok` (EGLD or one
    ESDT transfer with nonce 0); 0 otherwise -/
def tf_value (tok : Token) (e : Env) : Nat :=
  match egldOrSingleFungible e with
  | .ok (t, n) => if t = tok then n else 0
  | .error _ => 0

def tf_confirmPaid (tok : Token) (a : Nat) : List (State × Env × Call × Out) → Nat
  | [] => 0
  | x :: rest => (if tf_isConfirmBy a x = true then tf_value tok x.2.1 else 0) + tf_confirmPaid tok a rest

def tf_confirmTickets (a : Nat) : List (State × Env × Call × Out) → Nat
  | [] => 0
  | x :: rest => (if tf_isConfirmBy a x = true then tf_ticketsOf x.2.2.1 else 0) + tf_confirmTickets a rest

theorem tf_confirmPaid_append (tok : Token) (a : Nat) (l1 l2 : List (State × Env × Call × Out)) :
    tf_confirmPaid tok a (l1 ++ l2) = tf_confirmPaid tok a l1 + tf_confirmPaid tok a l2 := by
  induction l1 with
  | nil => simp [tf_confirmPaid]
  | cons x rest ih => simp only [List.cons_append, tf_confirmPaid, ih]; omega

theorem tf_confirmTickets_append (a : Nat) (l1 l2 : List (State × Env × Call × Out)) :
    tf_confirmTickets a (l1 ++ l2) = tf_confirmTickets a l1 + tf_confirmTickets a l2 := by
  induction l1 with
  | nil => simp [tf_confirmTickets]
  | cons x rest ih => simp only [List.cons_append, tf_confirmTickets, ih]; omega

/-- any start state: what `a` paid with his confirmations, counted in the payment token of the FINAL
    state, is the FINAL price × the tickets he confirmed (each confirmation pays the price of its
    own pre-state exactly, and from the first confirmation on price and payment token are frozen) -/
theorem tf_paid_eq (hash : List Nat → List Nat) (a : Nat) (h : Hist) (s : State) (r : Nat)
    (hr : RoundsFrom r h) :
    tf_confirmPaid (run hash s h).payTok a (lk_runLog hash s h) =
      (run hash s h).price * tf_confirmTickets a (lk_runLog hash s h) := by
  refine run_rec_rounds hash (M := fun s _ h =>
    tf_confirmPaid (run hash s h).payTok a (lk_runLog hash s h) =
      (run hash s h).price * tf_confirmTickets a (lk_runLog hash s h)) ?_ ?_ ?_ h s r hr
  · intro _ _; rfl
  · intro s r e c rest er _ _ hs ih
    rw [lk_runLog_cons_err hs, run_cons_err hs]
    exact ih
  · intro s r e c rest s' o _ h2 hs ih
    rw [lk_runLog_cons_ok hs, run_cons_ok hs]
    show (if tf_isConfirmBy a (s, e, c, o) = true then tf_value (run hash s' rest).payTok e else 0)
        + tf_confirmPaid (run hash s' rest).payTok a (lk_runLog hash s' rest)
      = (run hash s' rest).price *
        ((if tf_isConfirmBy a (s, e, c, o) = true then tf_ticketsOf c else 0)
          + tf_confirmTickets a (lk_runLog hash s' rest))
    rw [ih, Nat.mul_add]
    congr 1
    cases hb : tf_isConfirmBy a (s, e, c, o)
    · simp
    · cases c <;> simp only [tf_isConfirmBy, Bool.false_eq_true] at hb
      rename_i n
      obtain ⟨hconf, _, _, _, _, hpay, _⟩ := tf_confirm_inv hs
      have hfr := terms_frozen_along_history hash ((e, .confirm n) :: rest) s e.round hconf
        ⟨Nat.le_refl _, h2⟩
      rw [run_cons_ok hs] at hfr
      simp only [if_true, tf_value, hpay, tf_ticketsOf, terms_payTok hfr.1, terms_price hfr.1]

theorem tf_confirmed_eq (hash : List Nat → List Nat) (a : Nat) (h : List (Env × Call)) (s : State) :
    (∀ y ∈ lk_runLog hash s h, cr_isBlacklistOf a y = false) → (run hash s h).claimed a = false →
    (run hash s h).confirmed a = s.confirmed a + tf_confirmTickets a (lk_runLog hash s h) := by
  refine run_rec hash (M := fun s h =>
    (∀ y ∈ lk_runLog hash s h, cr_isBlacklistOf a y = false) → (run hash s h).claimed a = false →
    (run hash s h).confirmed a = s.confirmed a + tf_confirmTickets a (lk_runLog hash s h))
    ?_ ?_ ?_ h s
  · intro _ _ _; rfl
  · intro s e c rest er hs ih hnb hcl
    rw [lk_runLog_cons_err hs] at hnb ⊢
    rw [run_cons_err hs] at hcl ⊢
    exact ih hnb hcl
  · intro s e c rest s' o hs ih hnb hcl
    rw [lk_runLog_cons_ok hs] at hnb ⊢
    rw [run_cons_ok hs] at hcl ⊢
    have ih := ih (fun y hy => hnb y (List.mem_cons_of_mem _ hy)) hcl
    have hb := hnb _ (List.mem_cons_self ..)
    have hcl' : s'.claimed a = false := by
      cases hq : s'.claimed a
      · rfl
      · rw [run_claimed_mono hash rest s' a hq] at hcl; cases hcl
    have hcb : s'.confirmed = (cbAfter s e c).confirmed := congrArg CB.confirmed (step_cb hs)
    have key : s'.confirmed a = s.confirmed a +
        (if tf_isConfirmBy a (s, e, c, o) = true then tf_ticketsOf c else 0) := by
      rw [hcb]
      cases c with
      | confirm n =>
        by_cases hca : e.caller = a
        · subst hca; simp [cbAfter, tf_isConfirmBy, tf_ticketsOf, upd]
        · have : ¬ a = e.caller := fun hh => hca hh.symm
          simp [cbAfter, tf_isConfirmBy, upd, hca, this]
      | blacklist l =>
        have : a ∉ l := by simpa [cr_isBlacklistOf] using hb
        simp [cbAfter, tf_isConfirmBy, this]
      | refundUsers l =>
        have : a ∉ l := by simpa [cr_isBlacklistOf] using hb
        simp [cbAfter, tf_isConfirmBy, this]
      | claim =>
        have hne : ¬ a = e.caller := by
          intro hh
          have := claim_sets_claimed hash s e s' o hs
          rw [← hh, hcl'] at this; cases this
        simp only [cbAfter, tf_isConfirmBy, Bool.false_eq_true, if_false, Nat.add_zero]
        split
        · rfl
        · simp [upd, hne]
      | _ => simp [cbAfter, tf_isConfirmBy]
    show (run hash s' rest).confirmed a = s.confirmed a +
      ((if tf_isConfirmBy a (s, e, c, o) = true then tf_ticketsOf c else 0)
        + tf_confirmTickets a (lk_runLog hash s' rest))
    rw [ih, key]; omega

/-! ## facts about the pre-state of a log entry -/

theorem tf_run_static (hash : List Nat → List Nat) (h : List (Env × Call)) (s : State)
    (hS : cr_Static s) : cr_Static (run hash s h) :=
  run_induct hash cr_Static (fun _ _ _ _ _ hp hx => cr_step_static hp hx) h s hS

theorem tf_entry_static (hash : List Nat → List Nat) (hist : List (Env × Call)) (s0 : State)
    (l1 : List (State × Env × Call × Out)) (x : State × Env × Call × Out)
    (l2 : List (State × Env × Call × Out)) (hlog : lk_runLog hash s0 hist = l1 ++ x :: l2) :
    (cr_Static s0 → cr_Static x.1) ∧ x.1.variant = s0.variant ∧ x.1.owner = s0.owner ∧
    x.1.lpTok = s0.lpTok ∧ x.1.lockAddr = s0.lockAddr ∧ (PhaseOK s0 → PhaseOK x.1) ∧
    ∃ h1 h2 s', hist = h1 ++ (x.2.1, x.2.2.1) :: h2 ∧ lk_runLog hash s0 h1 = l1 ∧
      run hash s0 h1 = x.1 ∧ step hash x.1 x.2.1 x.2.2.1 = .ok (s', x.2.2.2) := by
  obtain ⟨h1, h2, s', k1, k2, k3, k4, _⟩ := tf_split hash hist s0 l1 x l2 hlog
  obtain ⟨_, _, t3, t4, t5, t6⟩ := lk_run_terms hash s0 h1
  rw [k3] at t3 t4 t5 t6
  refine ⟨fun hS => ?_, t4, t6, t5, t3, fun hp => ?_, h1, h2, s', k1, k2, k3, k4⟩
  · rw [← k3]; exact tf_run_static hash h1 s0 hS
  · rw [← k3]; exact run_phaseOK hash h1 s0 hp

/-! ## positions in a log -/

theorem tf_index_split {α : Type} {l : List α} {i j : Nat} {x y : α} (hi : l[i]? = some x)
    (hj : l[j]? = some y) (hij : i < j) :
    l = l.take i ++ x :: ((l.drop (i + 1)).take (j - (i + 1)) ++ y :: l.drop (j + 1)) := by
  have h1 := getElem?_split hi
  have h2 : (l.drop (i + 1))[j - (i + 1)]? = some y := by
    rw [List.getElem?_drop, ← hj]; congr 1; omega
  have h3 := getElem?_split h2
  rw [List.drop_drop] at h3
  have h4 : i + 1 + (j - (i + 1) + 1) = j + 1 := by omega
  rw [h4] at h3
  exact h1.trans (congrArg (fun t => l.take i ++ x :: t) h3)

/-- for concrete logs the hypothesis is closed by `decide +kernel` -/
theorem tf_entry_of_check {α : Type} (l : List α) (i : Nat) (p : α → Bool)
    (h : (l[i]?).any p = true) : ∃ x, l[i]? = some x ∧ p x = true := by
  cases hx : l[i]? with
  | none => rw [hx] at h; cases h
  | some x => rw [hx] at h; exact ⟨x, rfl, h⟩

end LP
