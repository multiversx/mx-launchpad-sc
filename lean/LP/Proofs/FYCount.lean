import LP.Proofs.FY
import Mathlib.Data.List.Nodup
/-
  Explicit enumeration `allRes n k` of the valid residue vectors, to turn the involution `resSwap`
  into an equality of counts (`winCount_le`, both ways), and what counting the pairs (vector, ticket
  of its selection) by rows and by columns needs (`double_count`, `sum_map_const`,
  `length_filter_range_mem`); the count itself, `n · winCount n k t = k · #vectors`, is
  `win_probability` in LP/Props/C05.lean.
-/
namespace LP.FY

/-- residue vectors for steps `i, …, i+k-1` -/
def allResFrom (n : Nat) : Nat → Nat → List (List Nat)
  | _, 0 => [[]]
  | i, k + 1 => (List.range (n - i + 1)).flatMap (fun c => (allResFrom n (i + 1) k).map (List.cons c))

theorem mem_allResFrom (n : Nat) : ∀ (k i : Nat) (cs : List Nat),
    cs ∈ allResFrom n i k ↔ cs.length = k ∧ validFrom n i cs := by
  intro k
  induction k with
  | zero =>
    intro i cs
    cases cs with
    | nil => simp [allResFrom, validFrom]
    | cons c cs => simp [allResFrom]
  | succ k ih =>
    intro i cs
    simp only [allResFrom, List.mem_flatMap, List.mem_range, List.mem_map]
    constructor
    · rintro ⟨c, hc, cs0, h0, rfl⟩
      have := (ih (i + 1) cs0).mp h0
      exact ⟨by simp [this.1], hc, this.2⟩
    · rintro ⟨hl, hv⟩
      cases cs with
      | nil => simp at hl
      | cons c cs0 =>
        simp only [List.length_cons, Nat.add_right_cancel_iff] at hl
        exact ⟨c, hv.1, cs0, (ih (i + 1) cs0).mpr ⟨hl, hv.2⟩, rfl⟩

theorem nodup_allResFrom (n : Nat) : ∀ (k i : Nat), (allResFrom n i k).Nodup := by
  intro k
  induction k with
  | zero => intro i; simp [allResFrom]
  | succ k ih =>
    intro i
    simp only [allResFrom]
    rw [List.nodup_flatMap]
    constructor
    · intro c _
      exact (ih (i + 1)).map (fun a b e => List.tail_eq_of_cons_eq e)
    · apply List.Pairwise.imp _ List.nodup_range
      intro a b hab
      simp only [Function.onFun]
      intro l h1 h2
      rw [List.mem_map] at h1 h2
      obtain ⟨_, _, rfl⟩ := h1
      obtain ⟨_, _, e⟩ := h2
      exact hab (List.head_eq_of_cons_eq e).symm

def allRes (n k : Nat) : List (List Nat) := if k ≤ n then allResFrom n 1 k else []

theorem mem_allRes (n k : Nat) (cs : List Nat) : cs ∈ allRes n k ↔ ValidRes n k cs := by
  unfold allRes
  constructor
  · intro h
    split at h
    · rename_i hk
      obtain ⟨hl, hv⟩ := (mem_allResFrom n k 1 cs).mp h
      have := validRes_of_validFrom (by omega) hv
      rwa [hl] at this
    · simp at h
  · intro h
    rw [if_pos h.le]
    exact (mem_allResFrom n k 1 cs).mpr ⟨h.1, h.validFrom⟩

theorem nodup_allRes (n k : Nat) : (allRes n k).Nodup := by
  unfold allRes; split
  · exact nodup_allResFrom n k 1
  · exact List.nodup_nil

/-- number of valid residue vectors whose selection contains ticket `t` -/
def winCount (n k t : Nat) : Nat :=
  ((allRes n k).filter (fun cs => decide (t ∈ tbSel n cs))).length

theorem winCount_le {n k t t' : Nat} (ht : 1 ≤ t ∧ t ≤ n) (ht' : 1 ≤ t' ∧ t' ≤ n) :
    winCount n k t ≤ winCount n k t' := by
  unfold winCount
  have hW : ∀ cs, cs ∈ (allRes n k).filter (fun cs => decide (t ∈ tbSel n cs)) →
      ValidRes n k cs ∧ t ∈ tbSel n cs := by
    intro cs h
    rw [List.mem_filter, mem_allRes] at h
    exact ⟨h.1, by simpa using h.2⟩
  have hnd : (((allRes n k).filter (fun cs => decide (t ∈ tbSel n cs))).map (resSwap n k t t')).Nodup := by
    apply List.Nodup.map_on _ ((nodup_allRes n k).filter _)
    intro x hx y hy e
    have ex := (resSwap_spec ht ht' (hW x hx).1).2.2.1
    have ey := (resSwap_spec ht ht' (hW y hy).1).2.2.1
    rw [← ex, ← ey, e]
  have hsub : ((allRes n k).filter (fun cs => decide (t ∈ tbSel n cs))).map (resSwap n k t t') ⊆
      (allRes n k).filter (fun cs => decide (t' ∈ tbSel n cs)) := by
    intro y hy
    rw [List.mem_map] at hy
    obtain ⟨x, hx, rfl⟩ := hy
    have sp := resSwap_spec ht ht' (hW x hx).1
    rw [List.mem_filter, mem_allRes]
    exact ⟨sp.1, by simpa using sp.2.2.2.1.mp (hW x hx).2⟩
  have := hnd.length_le_of_subset hsub
  simpa using this

theorem length_filter_eq_sum {α : Type} (p : α → Bool) (B : List α) :
    (B.filter p).length = (B.map (fun b => if p b then 1 else 0)).sum := by
  induction B with
  | nil => rfl
  | cons b B ih =>
    simp only [List.filter_cons, List.map_cons, List.sum_cons]
    by_cases h : p b
    · simp [h, ih]; omega
    · simp [h, ih]

theorem sum_map_add {α : Type} (f g : α → Nat) (B : List α) :
    (B.map (fun b => f b + g b)).sum = (B.map f).sum + (B.map g).sum := by
  induction B with
  | nil => rfl
  | cons b B ih => simp only [List.map_cons, List.sum_cons, ih]; omega

theorem sum_map_const {α : Type} (f : α → Nat) (c : Nat) (B : List α) (h : ∀ b ∈ B, f b = c) :
    (B.map f).sum = B.length * c := by
  induction B with
  | nil => simp
  | cons b B ih =>
    simp only [List.map_cons, List.sum_cons, List.length_cons]
    rw [ih (fun x hx => h x (List.mem_cons_of_mem _ hx)), h b List.mem_cons_self, Nat.succ_mul]
    omega

theorem double_count {α β : Type} (P : α → β → Bool) (A : List α) (B : List β) :
    (A.map (fun a => (B.filter (P a)).length)).sum =
      (B.map (fun b => (A.filter (fun a => P a b)).length)).sum := by
  induction A with
  | nil => simp
  | cons a A ih =>
    simp only [List.map_cons, List.sum_cons, ih, List.filter_cons]
    rw [length_filter_eq_sum, ← sum_map_add]
    congr 1
    apply List.map_congr_left
    intro b _
    by_cases h : P a b
    · simp [h]; omega
    · simp [h]

theorem length_filter_range_mem (n : Nat) (L : List Nat) (hn : L.Nodup)
    (hr : ∀ t ∈ L, 1 ≤ t ∧ t ≤ n) :
    ((List.range' 1 n).filter (fun t => decide (t ∈ L))).length = L.length := by
  have := countTrue_eq_length (fun t => decide (t ∈ L)) n L hn hr (fun t _ _ => by simp)
  rw [countTrue_eq_filter] at this
  exact this

end LP.FY
