import LP.Proofs.ZeroAllocV1
import LP.Proofs.Gaps
import LP.Proofs.LockedGuarClaim
/-
  What LP/Props/C01zeroV1more.lean reads off the simulation invariant `zv_Inv`
  (LP/Proofs/ZeroAllocV1.lean) on the REAL state of the v1 guaranteed family without `v1_CallOK`: the
  variant, the facts once everything is drawn (`zw_done`), the frame of the proceeds after completion
  (`zw_proceeds_frame`).  Prefix `zw_`.
-/
namespace LP
open LP.FY LP.Events

theorem zw_fam {T0 : Nat} {s : State} {r : Nat} (h : zv_Inv T0 s r) : v1_Fam s.variant := by
  rcases h with h | ⟨_, z, hz, hsim⟩
  · exact (zv_PA_flags h).2.2.2
  · exact zv_fam_of_sim hz hsim

theorem zw_done {T0 : Nat} {s : State} {r : Nat} (h : zv_Inv T0 s r) (hd : AllDone s) :
    v1_Fam s.variant ∧ s.payTok ≠ .esdt s.lpTok ∧ s.lockPct ≤ 10000 ∧ s.flags.filtered = true ∧
    s.cfg.conf ≤ r ∧ s.cfg.sel ≤ r ∧ ∃ L, PayEqPost s L := by
  obtain ⟨z, hz, hsim⟩ := zv_Inv_selected h hd.1
  obtain ⟨hcfg, hfl, _⟩ := hsim.fields
  have hdz : AllDone z := hd.of_flags hfl
  have hD : PhD z.core := v1_phase_D hz.phase hdz.2
  have hstz : z.flags.started = true := hD.started
  have hfilz : z.flags.filtered = true := hD.filtered
  obtain ⟨hc1, hc2⟩ := hz.tlStarted hstz
  rw [hcfg] at hc1 hc2
  have hfil : s.flags.filtered = true := by rw [← hfl]; exact hfilz
  have htok : s.payTok ≠ .esdt s.lpTok := by have := hz.tokNe; rw [hsim.rest] at this; exact this
  have hpct : s.lockPct ≤ 10000 := by have := hz.static.2; rw [hsim.rest] at this; exact this
  obtain ⟨L, _, _, h3⟩ := zv_Inv_ledger h
  exact ⟨zv_fam_of_sim hz hsim, htok, hpct, hfil, hc1, hc2, L, (h3 hd).1⟩

theorem zw_proceeds_frame {T0 : Nat} {hash : List Nat → List Nat} {s s' : State} {e : Env} {c : Call}
    {o : Out} {r : Nat} (h : zv_Inv T0 s r) (hr : r ≤ e.round) (hd : AllDone s)
    (hs : step hash s e c = .ok (s', o)) :
    s'.price = s.price ∧ AllDone s' ∧
    (s'.claimablePayment = s.claimablePayment ∨ (c = .claimPayment ∧ s'.claimablePayment = 0)) := by
  obtain ⟨_, _, _, hfil, hc1, hc2, _⟩ := zw_done h hd
  exact gp_proceeds_done hc1 hc2 hr hd hfil hs

end LP

#print axioms LP.zw_done
#print axioms LP.zw_proceeds_frame
