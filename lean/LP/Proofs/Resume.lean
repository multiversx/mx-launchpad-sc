import LP.Step
import LP.Proofs.Loop
import LP.Proofs.StepLemmas
import LP.Proofs.EndpointDef
import LP.Proofs.GuarLoop
import LP.Proofs.Leftover
import LP.Proofs.NftDraw
/-
  The gas-resumable endpoints other than `filterTickets`
  (`selectWinners`, `selectNft`, `distribute`, `secondary`): the core loops, the schedule theorem
  with its instances, the per-call progress facts and the seed accounting.  The results read off
  them (what an interrupted call saves, that a resumed call consumes no seed, that any accepted
  schedule of chunked calls ends in the storage of the single unbudgeted call) are stated and
  proved in LP/Props/C04select.lean.

  Technique.  The loops of these endpoints carry the transaction record `tx : Tx` as draw
  source / draw log.  Only two components of it are ever touched by `Tx.draw`: the hook's
  script and the draw log; they are isolated as a *draw context* `DCtx` (LP/Proofs/EndpointDef.lean).
  Every loop body is shown to be the image, under a lifting map, of a *core* body that does not
  mention the transaction at all (`selectBody_lift`, …); `runWhile_map` transports whole runs.  The
  generic resumption lemmas of `LP/Proofs/Loop.lean` are then applied to the core bodies.

  The endpoints themselves are read in LP/Proofs/EndpointDef.lean (`X_def`, `X_iff`); here each is
  brought to the form *outcome of the core loop's result* (`selectWinners_callTx_eq`, `selectNft_eq`,
  `guaranteedSubstep_eq`, `distribute_ok_cases`).

  Two generic statements carry the schedules: `Resumable.calls_run` (an accepted completing
  schedule of calls of an endpoint that runs ONE resumable loop computes the single unbudgeted
  run; `selectWinners` and `selectNft` are the instances `selectR`, `nftR`) and
  `callsOf_completes` (liveness from a per-call progress fact).  `distribute` runs two loops in
  one call, with the budget passed from the first to the second, so `distCalls_run` has its own
  induction over the three ways a call is accepted.

  Names in `us_` belong to liveness ("never stuck"); the per-call progress facts proved here also
  serve the reachable-state results of `LP/Proofs/Unstuck.lean`.  The frame between calls is in
  `LP/Proofs/ResumeFrame.lean`.
-/
namespace LP

/-- the transaction record of a fresh call -/
def callTx (s : State) (e : Env) (b : Option Nat) : Tx := ⟨s, ⟨b, e.seeds, e.script⟩, {}⟩

/-! ### schedules of calls of a resumable endpoint -/

/-- successive accepted calls of an endpoint on the storage: call `i` is made in its own
    environment `eᵢ` with iteration budget `bᵢ`.  Returns the final storage and the concatenation
    of the calls' draw logs. -/
def callsOf (ep : State → Env → Option Nat → Res Tx) :
    List (Env × Option Nat) → State → Res (State × List Nat)
  | [], s => .ok (s, [])
  | (e, b) :: rest, s =>
    match ep s e b with
    | .error err => .error err
    | .ok t' =>
      match callsOf ep rest t'.s with
      | .error err => .error err
      | .ok (s', ds) => .ok (s', t'.o.draws ++ ds)

theorem callsOf_cons_ok {ep : State → Env → Option Nat → Res Tx} {e : Env} {b : Option Nat}
    {rest : List (Env × Option Nat)} {s s' : State} {ds : List Nat}
    (h : callsOf ep ((e, b) :: rest) s = .ok (s', ds)) :
    ∃ t ds2, ep s e b = .ok t ∧ callsOf ep rest t.s = .ok (s', ds2) ∧ ds = t.o.draws ++ ds2 := by
  simp only [callsOf] at h
  cases hcall : ep s e b with
  | error err => rw [hcall] at h; cases h
  | ok t =>
    rw [hcall] at h
    simp only at h
    cases hrc : callsOf ep rest t.s with
    | error err => rw [hrc] at h; cases h
    | ok q => rw [hrc] at h; cases h; exact ⟨t, _, rfl, hrc, rfl⟩

theorem callsOf_cons_of_ok {ep : State → Env → Option Nat → Res Tx} {e : Env} {b : Option Nat}
    {rest : List (Env × Option Nat)} {s s' : State} {t : Tx} {ds : List Nat}
    (h1 : ep s e b = .ok t) (h2 : callsOf ep rest t.s = .ok (s', ds)) :
    callsOf ep ((e, b) :: rest) s = .ok (s', t.o.draws ++ ds) := by
  simp only [callsOf, h1, h2]

/-- an endpoint that runs one gas-resumable loop on a core state `κ` (loop state with a draw
    context in place of the transaction record).  A resumed call reloads the interrupted state
    with an empty draw log, i.e. up to `shift`; it takes its script from the new call's
    environment, hence `e.script = []` in `reload`. -/
structure Resumable (κ : Type) where
  ep : State → Env → Option Nat → Res Tx
  body : State → κ → Res (κ × Bool)
  fuel : State → Nat
  load : State → Env → Option κ
  saved : State → κ → State
  done : State → κ → State
  flag : State → Bool
  log : κ → List Nat
  shift : List Nat → κ → κ
  Inv : κ → Prop
  ok_cases : ∀ {s e b t'}, ep s e b = .ok t' →
    flag s = false ∧ ∃ y y' b', load s e = some y ∧ t'.o.draws = log y' ∧
      ((runWhile (body s) (fuel s) b y = .ok (y', b', .interrupted) ∧ t'.s = saved s y') ∨
       (runWhile (body s) (fuel s) b y = .ok (y', b', .completed) ∧ t'.s = done s y'))
  flag_saved : ∀ s y, flag (saved s y) = flag s
  flag_done : ∀ s y, flag (done s y) = true
  body_saved : ∀ s y, body (saved s y) = body s
  done_saved : ∀ s y1 y, done (saved s y1) y = done s y
  done_shift : ∀ s L y, done s (shift L y) = done s y
  log_shift : ∀ L y, log (shift L y) = L ++ log y
  body_shift : ∀ s L y, body s (shift L y) = (body s y).map (fun p => (shift L p.1, p.2))
  inv_body : ∀ {s y y' c}, body s y = .ok (y', c) → Inv y → Inv y'
  reload : ∀ s {y1 e}, Inv y1 → e.script = [] →
    ∃ y0, load (saved s y1) e = some y0 ∧ y1 = shift (log y1) y0 ∧ Inv y0

/-- **chunked = single**, loop level: an accepted schedule that ends with the step completed
    computes the final loop state `yf` of ONE unbudgeted run of the core loop from the state `y`
    the first call started in. -/
theorem Resumable.calls_run {κ : Type} (R : Resumable κ) :
    ∀ (rest : List (Env × Option Nat)) (e0 : Env) (b0 : Option Nat) (s s' : State)
      (ds : List Nat) (y : κ),
      R.load s e0 = some y → R.Inv y → (∀ c ∈ rest, c.1.script = []) →
      callsOf R.ep ((e0, b0) :: rest) s = .ok (s', ds) → R.flag s' = true →
      ∃ yf F, runWhile (R.body s) F none y = .ok (yf, none, .completed) ∧
        s' = R.done s yf ∧ R.log yf = ds := by
  intro rest
  induction rest with
  | nil =>
    intro e0 b0 s s' ds y hy _ _ hc hfl
    obtain ⟨t1, ds2, hcall, hrc, rfl⟩ := callsOf_cons_ok hc
    cases hrc
    obtain ⟨hnf, y0, y1, b', hy0, hlog, hcs⟩ := R.ok_cases hcall
    rw [hy] at hy0; cases hy0
    rcases hcs with ⟨_, hs1⟩ | ⟨hrun, hs1⟩
    · rw [hs1, R.flag_saved, hnf] at hfl; cases hfl
    · exact ⟨y1, _, runWhile_completed_any_budget _ _ _ _ _ _ hrun, hs1,
        by rw [hlog, List.append_nil]⟩
  | cons c1 rest2 ih =>
    intro e0 b0 s s' ds y hy hi hrest hc hfl
    obtain ⟨t1, ds2, hcall, hrc, rfl⟩ := callsOf_cons_ok hc
    obtain ⟨hnf, y0, y1, b', hy0, hlog, hcs⟩ := R.ok_cases hcall
    rw [hy] at hy0; cases hy0
    rcases hcs with ⟨hrun, hs1⟩ | ⟨_, hs1⟩
    · -- interrupted: the next call reloads `y1` with an empty log and the rest of the schedule is
      -- one run from there
      rw [hs1] at hrc
      have hi1 : R.Inv y1 :=
        runWhile_preserves R.Inv _ (fun _ _ _ hb hx => R.inv_body hb hx) _ _ _ _ _ _ hrun hi
      obtain ⟨y0, hload, hshift, hi0⟩ := R.reload s hi1 (hrest c1 (List.mem_cons_self ..))
      obtain ⟨yf, F, hrunf, hfin, hlogf⟩ := ih c1.1 c1.2 _ s' ds2 y0 hload hi0
        (fun c hc => hrest c (List.mem_cons_of_mem _ hc)) hrc hfl
      rw [R.body_saved] at hrunf
      rw [hshift] at hrun
      refine ⟨R.shift (R.log y1) yf, _,
        runWhile_resume_via (R.shift (R.log y1)) (R.body_shift s _) hrun hrunf, ?_, ?_⟩
      · rw [hfin, R.done_saved, R.done_shift]
      · rw [R.log_shift, hlogf, hlog]
    · -- completed: a further call is rejected
      obtain ⟨t2, _, hcall2, _⟩ := callsOf_cons_ok hrc
      have h2 := (R.ok_cases hcall2).1
      rw [hs1, R.flag_done] at h2; cases h2

/-- schedule independence -/
theorem Resumable.calls_deterministic {κ : Type} (R : Resumable κ) {e0 e0' : Env}
    {b0 b0' : Option Nat} {rest rest' : List (Env × Option Nat)} {s s1 s2 : State}
    {ds1 ds2 : List Nat} (hinv : ∀ y, R.load s e0 = some y → R.Inv y)
    (hrest : ∀ c ∈ rest, c.1.script = []) (hrest' : ∀ c ∈ rest', c.1.script = [])
    (hc : callsOf R.ep ((e0, b0) :: rest) s = .ok (s1, ds1))
    (hc' : callsOf R.ep ((e0', b0') :: rest') s = .ok (s2, ds2))
    (hfl : R.flag s1 = true) (hfl' : R.flag s2 = true) (hsame : R.load s e0' = R.load s e0) :
    s1 = s2 ∧ ds1 = ds2 := by
  obtain ⟨t, _, ht, _⟩ := callsOf_cons_ok hc
  obtain ⟨_, y, _, _, hy, _⟩ := R.ok_cases ht
  obtain ⟨yf, _, hrun, hfin, hlog⟩ := R.calls_run rest e0 b0 s s1 ds1 y hy (hinv y hy) hrest hc hfl
  obtain ⟨yf', _, hrun', hfin', hlog'⟩ :=
    R.calls_run rest' e0' b0' s s2 ds2 y (hsame.trans hy) (hinv y hy) hrest' hc' hfl'
  cases runWhile_completed_unique _ _ _ _ _ _ hrun hrun'
  exact ⟨hfin.trans hfin'.symm, hlog.symm.trans hlog'⟩

/-- **chunked = single**: an accepted unbudgeted call is a completing schedule of one -/
theorem Resumable.calls_eq_single {κ : Type} (R : Resumable κ) {e0 e1 : Env} {b0 : Option Nat}
    {rest : List (Env × Option Nat)} {s s' : State} {ds : List Nat} {t1 : Tx}
    (hinv : ∀ y, R.load s e0 = some y → R.Inv y) (hrest : ∀ c ∈ rest, c.1.script = [])
    (hc : callsOf R.ep ((e0, b0) :: rest) s = .ok (s', ds)) (hfl : R.flag s' = true)
    (hsame : R.load s e1 = R.load s e0) (h1 : R.ep s e1 none = .ok t1) :
    s' = t1.s ∧ ds = t1.o.draws := by
  obtain ⟨_, _, _, _, _, _, hcs⟩ := R.ok_cases h1
  have hfl1 : R.flag t1.s = true := by
    rcases hcs with ⟨hr, _⟩ | ⟨_, hs1⟩
    · obtain ⟨k, hk⟩ := runWhile_interrupted_budget hr
      cases hk
    · rw [hs1, R.flag_done]
  have h := R.calls_deterministic hinv hrest (rest' := []) nofun hc (callsOf_cons_of_ok h1 rfl)
    hfl hfl1 hsame
  rwa [List.append_nil] at h

/-- liveness of a schedule from a per-call progress fact: the first `left s + 1` calls at the
    latest set the flag -/
theorem callsOf_completes (ep : State → Env → Option Nat → Res Tx) (Good : State → Prop)
    (Q : Env → Prop) (flag : State → Bool) (left : State → Nat)
    (hstep : ∀ s e b, Good s → flag s = false → Q e →
      ∃ t', ep s e b = .ok t' ∧ (flag t'.s = true ∨ (Good t'.s ∧ left t'.s < left s))) :
    ∀ (cs : List (Env × Option Nat)) (s : State), Good s → (∀ c ∈ cs, Q c.1) →
      left s + 1 ≤ cs.length →
      ∃ cs1 cs2 s' ds, cs = cs1 ++ cs2 ∧ callsOf ep cs1 s = .ok (s', ds) ∧ flag s' = true
  | [], _, _, _, hlen => by simp at hlen
  | (e, b) :: rest, s, hg, hq, hlen => by
    cases hf : flag s with
    | true => exact ⟨[], _, s, [], rfl, rfl, hf⟩
    | false =>
      obtain ⟨t', hcall, hprog⟩ := hstep s e b hg hf (hq _ (List.mem_cons_self ..))
      rcases hprog with hf' | ⟨hg', hlt⟩
      · exact ⟨[(e, b)], rest, t'.s, _, rfl, callsOf_cons_of_ok hcall rfl, hf'⟩
      · obtain ⟨cs1, cs2, s', ds, rfl, hcalls, hfl⟩ :=
          callsOf_completes ep Good Q flag left hstep rest t'.s hg'
            (fun c hc => hq c (List.mem_cons_of_mem _ hc))
            (by simp only [List.length_cons] at hlen; omega)
        exact ⟨(e, b) :: cs1, cs2, s', _, rfl, callsOf_cons_of_ok hcall hcalls, hfl⟩

/-! ## 1. `selectWinners` -/

/-! ### the loop state a call starts from (fresh, or reloaded from a saved cursor) -/

theorem selStOf_some (t : Tx) (x : SelSt) (h : selStOf t = some x) :
    ∃ y, selCoreOf t = some y ∧ x = SelCore.lift (selTxOf t) y := by
  unfold selStOf at h
  cases hy : selCoreOf t with
  | none => rw [hy] at h; cases h
  | some y =>
    rw [hy] at h
    simp only [Option.map_some, Option.some.injEq] at h
    exact ⟨y, rfl, h.symm⟩

theorem selCoreOf_saved (t : Tx) (s : State) (y : SelCore) (h : t.s = selectSaved s y) :
    selCoreOf t = some ⟨y.status, y.posToId, y.rng, y.pos, t.dctx⟩ := by
  simp only [selCoreOf, h, selectSaved]

theorem selCoreOf_resumed (t : Tx) (r : Rng) (p : Nat) (hop : t.s.op = .select r p) :
    selCoreOf t = some ⟨t.s.status, t.s.posToId, r, p, t.dctx⟩ := by
  simp only [selCoreOf, hop]

theorem selTxOf_resumed (t : Tx) (r : Rng) (p : Nat) (hop : t.s.op = .select r p) :
    selTxOf t = t := by
  simp only [selTxOf, hop]

/-! ### the schedule instance `selectR` (the chunked = single results are in Props/C04select) -/

/-- `callsOf` for `selectWinners`, in recursive form (`selectCalls_eq`) -/
def selectCalls (hash : List Nat → List Nat) : List (Env × Option Nat) → State → Res (State × List Nat)
  | [], s => .ok (s, [])
  | (e, b) :: rest, s =>
    match selectWinners hash (callTx s e b) e with
    | .error err => .error err
    | .ok t' =>
      match selectCalls hash rest t'.s with
      | .error err => .error err
      | .ok (s', ds) => .ok (s', t'.o.draws ++ ds)

def selCoreAt (s : State) (e : Env) : Option SelCore := selCoreOf (callTx s e none)

theorem selCoreOf_callTx_budget (s : State) (e : Env) (b : Option Nat) :
    selCoreOf (callTx s e b) = selCoreAt s e := by
  unfold selCoreAt selCoreOf callTx
  cases s.op <;> simp [Tx.freshRng_fst, Tx.dctx]

def SelCore.shift (L : List Nat) (y : SelCore) : SelCore := { y with d := y.d.shift L }

theorem selCoreBody_shift (hash : List Nat → List Nat) (nr last : Nat) (L : List Nat)
    (y : SelCore) :
    selCoreBody hash nr last (y.shift L) =
      (selCoreBody hash nr last y).map (fun p => (p.1.shift L, p.2)) := by
  unfold selCoreBody
  by_cases h0 : nr = 0
  · simp only [h0, if_true]; rfl
  · simp only [h0, if_false, SelCore.shift, DCtx.draw_shift]
    by_cases hp : y.pos = nr
    · simp only [hp, if_true]; rfl
    · simp only [hp, if_false]; rfl

theorem selCoreBody_script_nil (hash : List Nat → List Nat) (nr last : Nat) (y y' : SelCore)
    (c : Bool) (h : selCoreBody hash nr last y = .ok (y', c)) (hs : y.d.script = []) :
    y'.d.script = [] := by
  unfold selCoreBody at h
  by_cases h0 : nr = 0
  · simp only [h0, if_true, Except.ok.injEq, Prod.mk.injEq] at h
    rw [← h.1]; exact hs
  · simp only [h0, if_false] at h
    by_cases hp : y.pos = nr
    · simp only [hp, if_true, Except.ok.injEq, Prod.mk.injEq] at h
      rw [← h.1]; exact DCtx.draw_script_nil hash _ _ hs
    · simp only [hp, if_false, Except.ok.injEq, Prod.mk.injEq] at h
      rw [← h.1]; exact DCtx.draw_script_nil hash _ _ hs

theorem selectDone_saved (s : State) (y1 y : SelCore) :
    selectDone (selectSaved s y1) y = selectDone s y := rfl

theorem selCoreAt_saved (s : State) (y : SelCore) (e : Env) :
    selCoreAt (selectSaved s y) e = some ⟨y.status, y.posToId, y.rng, y.pos, ⟨e.script, []⟩⟩ := rfl

theorem selCoreAt_d {s : State} {e : Env} {y : SelCore} (h : selCoreAt s e = some y) :
    y.d = ⟨e.script, []⟩ := by
  unfold selCoreAt selCoreOf at h
  cases hop : s.op <;> simp only [hop, callTx, Option.some.injEq, reduceCtorEq] at h <;> (rw [← h]; rfl)

theorem SelCore.eq_shift (y : SelCore) (hs : y.d.script = []) :
    y = (⟨y.status, y.posToId, y.rng, y.pos, ⟨[], []⟩⟩ : SelCore).shift y.d.log := by
  obtain ⟨a1, a2, a3, a4, ⟨sc, lg⟩⟩ := y
  cases hs
  simp [SelCore.shift, DCtx.shift]

def selectR (hash : List Nat → List Nat) : Resumable SelCore where
  ep s e b := selectWinners hash (callTx s e b) e
  body s := selCoreBody hash s.nrWinning s.lastTicketId
  fuel s := s.nrWinning + 2
  load := selCoreAt
  saved := selectSaved
  done := selectDone
  flag s := s.flags.selected
  log y := y.d.log
  shift := SelCore.shift
  Inv y := y.d.script = []
  ok_cases h := by
    obtain ⟨hp, y, y', b', hy, hcs⟩ := selectWinners_ok_cases hash _ _ _ h
    rw [selCoreOf_callTx_budget] at hy
    refine ⟨hp.notSelected, y, y', b', hy, ?_, ?_⟩
    · rcases hcs with ⟨_, rfl⟩ | ⟨_, rfl⟩ <;> rfl
    · rcases hcs with ⟨h1, rfl⟩ | ⟨h1, rfl⟩
      · exact Or.inl ⟨h1, rfl⟩
      · exact Or.inr ⟨h1, rfl⟩
  flag_saved _ _ := rfl
  flag_done _ _ := rfl
  body_saved _ _ := rfl
  done_saved _ _ _ := rfl
  done_shift _ _ _ := rfl
  log_shift _ _ := rfl
  body_shift s := selCoreBody_shift hash _ _
  inv_body h hs := selCoreBody_script_nil hash _ _ _ _ _ h hs
  reload s y1 e hi he :=
    ⟨⟨y1.status, y1.posToId, y1.rng, y1.pos, ⟨[], []⟩⟩, by rw [selCoreAt_saved, he],
      y1.eq_shift hi, rfl⟩

theorem selectCalls_eq (hash : List Nat → List Nat) :
    ∀ (cs : List (Env × Option Nat)) (s : State),
      selectCalls hash cs s = callsOf (selectR hash).ep cs s
  | [], _ => rfl
  | (e, b) :: rest, s => by
    simp only [selectCalls, callsOf, selectCalls_eq hash rest]
    rfl

theorem selectR_inv {s : State} {e0 : Env} (hscr : e0.script = []) (y : SelCore)
    (hy : selCoreAt s e0 = some y) : y.d.script = [] := by
  rw [selCoreAt_d hy]; exact hscr

/-- the first accepted call of a schedule determines the loop state the operation starts from -/
theorem selCoreAt_eq_of_first (s : State) (e0 e1 : Env)
    (hseed : s.op = .none → firstRng e1.seeds = firstRng e0.seeds)
    (hscr : e1.script = e0.script) : selCoreAt s e1 = selCoreAt s e0 := by
  unfold selCoreAt selCoreOf
  cases hop : s.op with
  | none =>
    simp only [callTx, hop, Tx.freshRng_fst, Tx.dctx, hscr, hseed hop]
  | select r p => simp only [callTx, hop, Tx.dctx, hscr]
  | filter _ _ => simp only [callTx, hop]
  | additional _ => simp only [callTx, hop]

/-! ### liveness -/

theorem SelectPre_saved (s : State) (y : SelCore) (e : Env) (h : SelectPre s e) :
    SelectPre (selectSaved s y) e := ⟨h.1, h.2, h.3, h.4, h.5⟩

theorem selectWinners_callTx_eq (hash : List Nat → List Nat) (s : State) (e : Env)
    (b : Option Nat) (y : SelCore) (hp : SelectPre s e) (hy : selCoreAt s e = some y) :
    selectWinners hash (callTx s e b) e =
      selectOutcome (callTx s e b) e
        (runWhile (selCoreBody hash s.nrWinning s.lastTicketId) (s.nrWinning + 2) b y) :=
  selectWinners_eq hash (callTx s e b) e y hp (by rw [selCoreOf_callTx_budget]; exact hy)

/-- the core loop from a position inside `1..nr`, with the endpoint's fuel and any budget: never
    fails, never out of fuel; completes, or is interrupted — only with a finite budget — at a
    strictly later position still inside `1..nr` -/
theorem us_select_loop (hash : List Nat → List Nat) (nr last : Nat) (y : SelCore)
    (hpos : nr = 0 ∨ (1 ≤ y.pos ∧ y.pos ≤ nr)) (b : Option Nat) :
    (∃ y' b', runWhile (selCoreBody hash nr last) (nr + 2) b y = .ok (y', b', .completed)) ∨
    (∃ y' b', runWhile (selCoreBody hash nr last) (nr + 2) b y = .ok (y', b', .interrupted) ∧
        y.pos < y'.pos ∧ y'.pos ≤ nr ∧ b ≠ none) := by
  by_cases h0 : nr = 0
  · -- with `nr = 0` the loop stops at once
    have hb : selCoreBody hash nr last y = .ok (y, false) := by simp only [selCoreBody, h0, if_true]
    exact Or.inl ⟨y, b, runWhile_stop hb _ _⟩
  obtain ⟨hp1, hle⟩ := hpos.resolve_left h0
  obtain ⟨yf, hrun, _⟩ := selCore_run hash nr last (nr - y.pos + 1) y hp1 hle (Nat.le_refl _)
  rcases runWhile_live (selCoreBody hash nr last) (fun z => nr + 1 - z.pos) (fun z => z.pos ≤ nr)
      (fun z z' hz hb => by
        rw [selCoreBody_eq] at hb
        split at hb
        · cases hb
        · split at hb
          · cases hb
          · cases hb
            simp only [selCoreStep]
            constructor <;> omega)
      hrun (by omega : _ ≤ nr + 2) hle b with ⟨b', h⟩ | ⟨y1, h1, hp1, hμ, hb⟩
  · exact Or.inl ⟨yf, b', h⟩
  · exact Or.inr ⟨y1, some 0, h1, by omega, hp1, hb⟩

def us_selCursor (s : State) : Nat :=
  match s.op with
  | .select _ p => p
  | _ => 1

def us_selLeft (s : State) : Nat := s.nrWinning + 1 - us_selCursor s

/-- the cursor of the base lottery: nothing saved, or a saved position inside `1..n` -/
def SelCursorAt (op : Op) (n : Nat) : Prop :=
  op = .none ∨ ∃ rng pos, op = .select rng pos ∧ 1 ≤ pos ∧ pos ≤ n

abbrev SelCursorOK (s : State) : Prop := SelCursorAt s.op s.nrWinning

/-- a call whose gates pass on a storage with a valid cursor is accepted whatever its budget: it
    completes the step, or (finite budget only) saves a strictly later position -/
theorem selectWinners_progress (hash : List Nat → List Nat) {s : State} {e : Env} (b : Option Nat)
    (hc : SelCursorOK s) (hp : SelectPre s e) :
    us_selLeft s ≤ s.nrWinning ∧
    ∃ t', selectWinners hash (callTx s e b) e = .ok t' ∧
      ((t'.o.ret = [0] ∧ ∃ y, t'.s = selectDone s y) ∨
       (t'.o.ret = [1] ∧ b ≠ none ∧ ∃ y, t'.s = selectSaved s y ∧ us_selCursor s < y.pos ∧
          y.pos ≤ s.nrWinning)) := by
  obtain ⟨y, hy, hcur, hpos⟩ : ∃ y, selCoreAt s e = some y ∧ y.pos = us_selCursor s ∧
      (s.nrWinning = 0 ∨ (1 ≤ y.pos ∧ y.pos ≤ s.nrWinning)) := by
    rcases hc with hop | ⟨rng, pos, hop, hp1, hp2⟩
    · refine ⟨⟨s.status, s.posToId, (callTx s e none).freshRng.1, 1, (callTx s e none).dctx⟩,
        by simp only [selCoreAt, selCoreOf, callTx, hop], by simp only [us_selCursor, hop], ?_⟩
      by_cases h : s.nrWinning = 0
      · exact Or.inl h
      · exact Or.inr ⟨Nat.le_refl _, by simp only; omega⟩
    · exact ⟨⟨s.status, s.posToId, rng, pos, (callTx s e none).dctx⟩,
        by simp only [selCoreAt, selCoreOf, callTx, hop], by simp only [us_selCursor, hop],
        Or.inr ⟨hp1, hp2⟩⟩
  refine ⟨?_, ?_⟩
  · unfold us_selLeft us_selCursor
    rcases hc with hop | ⟨rng, pos, hop, hp1, hp2⟩ <;> simp only [hop] <;> omega
  rw [selectWinners_callTx_eq hash s e b y hp hy]
  rcases us_select_loop hash s.nrWinning s.lastTicketId y hpos b with
    ⟨y', b', hrun⟩ | ⟨y', b', hrun, hlt, hle, hb⟩
  · rw [hrun]; exact ⟨_, rfl, Or.inl ⟨rfl, y', rfl⟩⟩
  · rw [hrun]; exact ⟨_, rfl, Or.inr ⟨rfl, hb, y', rfl, hcur ▸ hlt, hle⟩⟩

/-- `selectWinners` as dispatched by `step`: non-payable, callable by anyone, in every variant -/
theorem step_select (hash : List Nat → List Nat) (s : State) (e : Env)
    (h1 : e.egld = 0) (h2 : e.esdts = []) :
    step hash s e .select =
      match selectWinners hash (callTx s e e.budget) e with
      | .error err => .error err
      | .ok t => .ok (t.s, t.o) :=
  step_eq_exec rfl h1 h2

/-! ## 2. the NFT draw (`nftSubstep`, `selectNft`); the core state `NCore`, the body read once
  (`nftCoreBody_eq`) and its invariant (`NInv.step`) are in NftDraw.lean -/

def NCore.shift (L : List Nat) (y : NCore) : NCore := { y with d := y.d.shift L }

theorem nftCoreBody_shift (hash : List Nat → List Nat) (total : Nat) (L : List Nat) (y : NCore) :
    nftCoreBody hash total (y.shift L) =
      (nftCoreBody hash total y).map (fun p => (p.1.shift L, p.2)) := by
  unfold nftCoreBody
  by_cases h0 : (y.usersLeft = 0 || y.selected = total) = true
  · have h0' : ((y.shift L).usersLeft = 0 || (y.shift L).selected = total) = true := h0
    rw [if_pos h0', if_pos h0]; rfl
  · have h0' : ¬ ((y.shift L).usersLeft = 0 || (y.shift L).selected = total) = true := h0
    rw [if_neg h0', if_neg h0]
    simp only [NCore.shift, DCtx.draw_shift]
    cases y.payers[inRange (y.d.draw hash y.rng).1 1 (y.usersLeft + 1) - 1]? <;> rfl

theorem nftCoreBody_step (hash : List Nat → List Nat) (total : Nat) (y : NCore) (hi : NInv y)
    (h0 : ¬ (y.usersLeft = 0 || y.selected = total) = true) :
    ∃ y', nftCoreBody hash total y = .ok (y', true) ∧ NInv y' ∧
      y'.usersLeft + 1 = y.usersLeft ∧ y'.selected = y.selected + 1 := by
  have hc : ¬ (y.usersLeft = 0 ∨ y.selected = total) := by simpa using h0
  have hmem := y.drawn_mem hash hi.left (fun h => hc (Or.inl h))
  rw [nftCoreBody_eq hash total y hi.left, if_neg hc]
  exact ⟨_, rfl, (hi.step hash hmem).1, (hi.step hash hmem).2, rfl⟩

theorem nftCoreBody_inv (hash : List Nat → List Nat) (total : Nat) (y y' : NCore) (c : Bool)
    (h : nftCoreBody hash total y = .ok (y', c)) (hi : NInv y) : NInv y' := by
  rw [nftCoreBody_eq hash total y hi.left] at h
  split at h
  · cases h; exact hi
  · rename_i hc
    cases h
    exact (hi.step hash (y.drawn_mem hash hi.left (fun h => hc (Or.inl h)))).1

theorem nftCoreBody_script_nil (hash : List Nat → List Nat) (total : Nat) (y y' : NCore)
    (c : Bool) (h : nftCoreBody hash total y = .ok (y', c)) (hs : y.d.script = []) :
    y'.d.script = [] := by
  unfold nftCoreBody at h
  by_cases h0 : (y.usersLeft = 0 || y.selected = total) = true
  · simp only [if_pos h0, Except.ok.injEq, Prod.mk.injEq] at h
    rw [← h.1]; exact hs
  · simp only [if_neg h0] at h
    cases hw : y.payers[inRange (y.d.draw hash y.rng).1 1 (y.usersLeft + 1) - 1]? with
    | none => rw [hw] at h; cases h
    | some w =>
      rw [hw] at h
      simp only [Except.ok.injEq, Prod.mk.injEq] at h
      rw [← h.1]; exact DCtx.draw_script_nil hash _ _ hs

theorem nftCore_completes (hash : List Nat → List Nat) (total : Nat) :
    ∀ (fuel : Nat) (y : NCore), NInv y → y.selected ≤ total →
      min y.usersLeft (total - y.selected) + 1 ≤ fuel →
      ∃ y', runWhile (nftCoreBody hash total) fuel none y = .ok (y', none, .completed) := by
  intro fuel
  induction fuel with
  | zero => intro y _ _ h; omega
  | succ fuel ih =>
    intro y hi hle hf
    by_cases h0 : (y.usersLeft = 0 || y.selected = total) = true
    · have hb : nftCoreBody hash total y = .ok (y, false) := by
        simp only [nftCoreBody, if_pos h0]
      exact ⟨y, runWhile_stop hb _ _⟩
    · obtain ⟨y1, hb, hi1, hl1, hs1⟩ := nftCoreBody_step hash total y hi h0
      have hne : y.selected ≠ total := by
        intro h; apply h0; simp [h]
      obtain ⟨y', hy'⟩ := ih y1 hi1 (by omega) (by omega)
      exact ⟨y', by rw [runWhile_cont_none hb]; exact hy'⟩

/-! ### `nftSubstep` and the endpoint `selectNft` -/

/-- the loop state `nftSubstep` starts from: lists and counters reloaded from storage -/
def nftCoreOf (t : Tx) (rng : Rng) : NCore :=
  ⟨t.s.payers, t.s.nftWinners, t.s.payers.length, t.s.nftWinners.length, rng, t.dctx⟩

def nftTx (t : Tx) (y : NCore) (b : Option Nat) : Tx :=
  { s := { t.s with payers := y.payers, nftWinners := y.winners },
    c := { (t.withDctx y.d).c with budget := b }, o := (t.withDctx y.d).o }

def nftSubOutcome (t : Tx) : Res (NCore × Option Nat × LoopStatus) → Res (Tx × Rng × LoopStatus)
  | .error err => .error err
  | .ok (_, _, .outOfFuel) => .error (.vm "out of gas")
  | .ok (y, b, .interrupted) => .ok (nftTx t y b, y.rng, .interrupted)
  | .ok (y, b, .completed) =>
    .ok ((nftTx t y b).setS { (nftTx t y b).s with
            op := .none, claimableNft := t.s.nftCost.amount * y.winners.length }, y.rng, .completed)

theorem nftSubstep_eq (hash : List Nat → List Nat) (t : Tx) (rng : Rng) :
    nftSubstep hash t rng =
      nftSubOutcome t (runWhile (nftCoreBody hash t.s.availNfts) (t.s.payers.length + 2)
        t.c.budget (nftCoreOf t rng)) := by
  unfold nftSubstep
  have hl : (⟨t.s.payers, t.s.nftWinners, t.s.payers.length, t.s.nftWinners.length, rng, t⟩ : NSt) =
      NCore.lift t (nftCoreOf t rng) := rfl
  simp only [hl, runWhile_map _ _ _ (nftBody_lift hash _ _)]
  cases runWhile (nftCoreBody hash t.s.availNfts) (t.s.payers.length + 2) t.c.budget
      (nftCoreOf t rng) with
  | error err => rfl
  | ok q =>
    obtain ⟨y, b, st⟩ := q
    cases st <;> rfl

def nftSaved (s : State) (y : NCore) : State :=
  { s with payers := y.payers, nftWinners := y.winners, op := .additional (.nft y.rng) }

def nftDone (s : State) (y : NCore) : State :=
  { s with payers := y.payers, nftWinners := y.winners, op := .none,
           claimableNft := s.nftCost.amount * y.winners.length,
           flags := { s.flags with additional := true } }

def nftTxInt (t : Tx) (y : NCore) (b : Option Nat) : Tx :=
  { s := nftSaved t.s y, c := { ((selTxOf t).withDctx y.d).c with budget := b },
    o := { ((selTxOf t).withDctx y.d).o with ret := [1] } }

def nftTxDone (t : Tx) (y : NCore) (b : Option Nat) : Tx :=
  { s := nftDone t.s y, c := { ((selTxOf t).withDctx y.d).c with budget := b },
    o := { ((selTxOf t).withDctx y.d).o with ret := [0] } }

def selectNftOutcome (t : Tx) : Res (NCore × Option Nat × LoopStatus) → Res Tx
  | .error err => .error err
  | .ok (_, _, .outOfFuel) => .error (.vm "out of gas")
  | .ok (y, b, .interrupted) => .ok (nftTxInt t y b)
  | .ok (y, b, .completed) => .ok (nftTxDone t y b)

/-- the NFT sub-step followed by the endpoint's tail, as a function of the loop's result -/
theorem nftSubOutcome_finish (t : Tx) (R : Res (NCore × Option Nat × LoopStatus)) :
    (nftSubOutcome (selTxOf t) R >>= secNftFinish) = selectNftOutcome t R := by
  cases R with
  | error err => rfl
  | ok q =>
    obtain ⟨y, b, st⟩ := q
    cases st <;>
      simp only [nftSubOutcome, selectNftOutcome, secNftFinish, bind, Except.bind, pure, Except.pure,
        nftTxInt, nftTxDone, nftTx, nftSaved, nftDone, Tx.setS, Tx.withDctx, selTxOf_s]

theorem selectNft_eq (hash : List Nat → List Nat) (t : Tx) (e : Env) (r : Rng)
    (hp : NftPre t.s e) (hr : nftRngOf t = some r) :
    selectNft hash t e =
      selectNftOutcome t (runWhile (nftCoreBody hash t.s.availNfts) (t.s.payers.length + 2)
        t.c.budget (nftCoreOf t r)) := by
  rw [selectNft_def, (addGates_ok_iff _ _ _).mpr hp, (nftLoadTx_ok_iff t r _).mpr ⟨hr, rfl⟩]
  show (nftSubstep hash (selTxOf t) r >>= secNftFinish) = _
  rw [nftSubstep_eq, nftSubOutcome_finish]
  simp only [selTxOf_s, selTxOf_budget, nftCoreOf, selTxOf_dctx]

theorem selectNft_ok_cases (hash : List Nat → List Nat) (t t' : Tx) (e : Env)
    (h : selectNft hash t e = .ok t') :
    NftPre t.s e ∧ ∃ r y b, nftRngOf t = some r ∧
      ((runWhile (nftCoreBody hash t.s.availNfts) (t.s.payers.length + 2) t.c.budget
          (nftCoreOf t r) = .ok (y, b, .interrupted) ∧ t'.s = nftSaved t.s y ∧
          t'.o.ret = [1] ∧ t'.o.draws = y.d.log ∧ t'.o.events = t.o.events ∧
          t'.c.seeds = (selTxOf t).c.seeds) ∨
       (runWhile (nftCoreBody hash t.s.availNfts) (t.s.payers.length + 2) t.c.budget
          (nftCoreOf t r) = .ok (y, b, .completed) ∧ t'.s = nftDone t.s y ∧
          t'.o.ret = [0] ∧ t'.o.draws = y.d.log ∧ t'.o.events = t.o.events ∧
          t'.c.seeds = (selTxOf t).c.seeds)) := by
  obtain ⟨hp, r, hr, _⟩ := (selectNft_iff hash t t' e).mp h
  refine ⟨hp, ?_⟩
  rw [selectNft_eq hash t e r hp hr] at h
  cases hrun : runWhile (nftCoreBody hash t.s.availNfts) (t.s.payers.length + 2) t.c.budget
      (nftCoreOf t r) with
  | error err => rw [hrun] at h; cases h
  | ok q =>
    obtain ⟨y, b, st⟩ := q
    rw [hrun] at h
    have ho : ((selTxOf t).withDctx y.d).o.events = t.o.events := by
      simp only [Tx.withDctx, selTxOf_o]
    cases st with
    | outOfFuel => cases h
    | interrupted =>
      simp only [selectNftOutcome, Except.ok.injEq] at h
      subst h
      exact ⟨r, y, b, hr, Or.inl ⟨hrun, rfl, rfl, rfl, ho, rfl⟩⟩
    | completed =>
      simp only [selectNftOutcome, Except.ok.injEq] at h
      subst h
      exact ⟨r, y, b, hr, Or.inr ⟨hrun, rfl, rfl, rfl, ho, rfl⟩⟩

/-! ### the schedule instance `nftR` -/

def nftCalls (hash : List Nat → List Nat) : List (Env × Option Nat) → State → Res (State × List Nat)
  | [], s => .ok (s, [])
  | (e, b) :: rest, s =>
    match selectNft hash (callTx s e b) e with
    | .error err => .error err
    | .ok t' =>
      match nftCalls hash rest t'.s with
      | .error err => .error err
      | .ok (s', ds) => .ok (s', t'.o.draws ++ ds)

def nftCoreAt (s : State) (e : Env) : Option NCore :=
  (nftRngOf (callTx s e none)).map (nftCoreOf (callTx s e none))

/-- the storage the NFT draw works on: no duplicates in the fee-payer list, nobody both payer
    and winner (in reachable states these are `nodupP` and `disj` of `nf_SideInv`: `confirmNft`
    inserts into a set, the draw moves users from one list to the other) -/
structure NftReady (s : State) : Prop where
  nodup : s.payers.Nodup
  disj : ∀ a ∈ s.payers, a ∉ s.nftWinners

theorem nftCoreAt_some (s : State) (e : Env) (b : Option Nat) (y : NCore)
    (h : nftCoreAt s e = some y) :
    ∃ r, nftRngOf (callTx s e b) = some r ∧ nftCoreOf (callTx s e b) r = y := by
  unfold nftCoreAt at h
  cases hr : nftRngOf (callTx s e none) with
  | none => rw [hr] at h; cases h
  | some r =>
    rw [hr] at h
    simp only [Option.map_some, Option.some.injEq] at h
    refine ⟨r, ?_, h⟩
    rw [← hr]
    unfold nftRngOf callTx
    cases s.op <;> simp [Tx.freshRng_fst]

theorem nftCoreAt_inv (s : State) (e : Env) (y : NCore) (h : nftCoreAt s e = some y)
    (hs : NftReady s) : NInv y ∧ y.d = ⟨e.script, []⟩ := by
  obtain ⟨r, _, rfl⟩ := nftCoreAt_some s e none y h
  exact ⟨⟨hs.nodup, hs.disj, rfl, rfl⟩, rfl⟩

theorem selectNft_callTx_eq (hash : List Nat → List Nat) (s : State) (e : Env) (b : Option Nat)
    (y : NCore) (hp : NftPre s e) (hy : nftCoreAt s e = some y) :
    selectNft hash (callTx s e b) e =
      selectNftOutcome (callTx s e b)
        (runWhile (nftCoreBody hash s.availNfts) (s.payers.length + 2) b y) := by
  obtain ⟨r, hr, rfl⟩ := nftCoreAt_some s e b y hy
  exact selectNft_eq hash (callTx s e b) e r hp hr

theorem nftCall_ok_cases (hash : List Nat → List Nat) (s : State) (e : Env) (b : Option Nat)
    (t' : Tx) (h : selectNft hash (callTx s e b) e = .ok t') :
    NftPre s e ∧ ∃ y y' b', nftCoreAt s e = some y ∧ t'.o.draws = y'.d.log ∧
      ((runWhile (nftCoreBody hash s.availNfts) (s.payers.length + 2) b y
          = .ok (y', b', .interrupted) ∧ t'.s = nftSaved s y') ∨
       (runWhile (nftCoreBody hash s.availNfts) (s.payers.length + 2) b y
          = .ok (y', b', .completed) ∧ t'.s = nftDone s y')) := by
  obtain ⟨hp, r, y', b', hr, hc⟩ := selectNft_ok_cases hash _ _ _ h
  refine ⟨hp, nftCoreOf (callTx s e b) r, y', b', ?_, ?_, ?_⟩
  · unfold nftCoreAt
    have : nftRngOf (callTx s e none) = some r := by
      rw [← hr]; unfold nftRngOf callTx; cases s.op <;> simp [Tx.freshRng_fst]
    rw [this]; rfl
  · rcases hc with ⟨_, _, _, h, _⟩ | ⟨_, _, _, h, _⟩ <;> exact h
  · rcases hc with ⟨h1, h2, _⟩ | ⟨h1, h2, _⟩
    · exact Or.inl ⟨h1, h2⟩
    · exact Or.inr ⟨h1, h2⟩

theorem nftCoreAt_saved (s : State) (y : NCore) (e : Env) :
    nftCoreAt (nftSaved s y) e =
      some ⟨y.payers, y.winners, y.payers.length, y.winners.length, y.rng, ⟨e.script, []⟩⟩ := rfl

theorem NCore.eq_shift_of_inv (y : NCore) (hi : NInv y) (hs : y.d.script = []) :
    y = (⟨y.payers, y.winners, y.payers.length, y.winners.length, y.rng, ⟨[], []⟩⟩ : NCore).shift
          y.d.log := by
  obtain ⟨a1, a2, a3, a4, a5, ⟨sc, lg⟩⟩ := y
  have h3 := hi.left
  have h4 := hi.sel
  simp only at hs h3 h4
  subst hs; subst h3; subst h4
  simp [NCore.shift, DCtx.shift]

/-- `NInv` is what makes reloading the two counters from the list lengths on resumption harmless -/
def nftR (hash : List Nat → List Nat) : Resumable NCore where
  ep s e b := selectNft hash (callTx s e b) e
  body s := nftCoreBody hash s.availNfts
  fuel s := s.payers.length + 2
  load := nftCoreAt
  saved := nftSaved
  done := nftDone
  flag s := s.flags.additional
  log y := y.d.log
  shift := NCore.shift
  Inv y := NInv y ∧ y.d.script = []
  ok_cases h := by
    obtain ⟨hp, y, y', b', hy, hlog, hcs⟩ := nftCall_ok_cases hash _ _ _ _ h
    exact ⟨hp.notDone, y, y', b', hy, hlog, hcs⟩
  flag_saved _ _ := rfl
  flag_done _ _ := rfl
  body_saved _ _ := rfl
  done_saved _ _ _ := rfl
  done_shift _ _ _ := rfl
  log_shift _ _ := rfl
  body_shift s := nftCoreBody_shift hash _
  inv_body h hi :=
    ⟨nftCoreBody_inv hash _ _ _ _ h hi.1, nftCoreBody_script_nil hash _ _ _ _ h hi.2⟩
  reload s y1 e hi he :=
    ⟨⟨y1.payers, y1.winners, y1.payers.length, y1.winners.length, y1.rng, ⟨[], []⟩⟩,
      by rw [nftCoreAt_saved, he], y1.eq_shift_of_inv hi.1 hi.2,
      ⟨hi.1.nodup, hi.1.disj, rfl, rfl⟩, rfl⟩

theorem nftCalls_eq (hash : List Nat → List Nat) :
    ∀ (cs : List (Env × Option Nat)) (s : State), nftCalls hash cs s = callsOf (nftR hash).ep cs s
  | [], _ => rfl
  | (e, b) :: rest, s => by
    simp only [nftCalls, callsOf, nftCalls_eq hash rest]
    rfl

/-! ### liveness of the NFT draw -/

theorem NftPre_saved (s : State) (y : NCore) (e : Env) (h : NftPre s e) :
    NftPre (nftSaved s y) e := ⟨h.1, h.2, h.3⟩

/-- the NFT loop with any budget and enough fuel: never fails, never out of fuel; completes, or is
    interrupted — only with a finite budget — with fewer draws left -/
theorem us_nft_loop (hash : List Nat → List Nat) (total F : Nat) (y : NCore) (hi : NInv y)
    (hle : y.selected ≤ total) (hF : y.usersLeft + 2 ≤ F) (b : Option Nat) :
    (∃ y' b', runWhile (nftCoreBody hash total) F b y = .ok (y', b', .completed)) ∨
    (∃ y' b', runWhile (nftCoreBody hash total) F b y = .ok (y', b', .interrupted) ∧
        NInv y' ∧ y'.selected ≤ total ∧
        min y'.usersLeft (total - y'.selected) < min y.usersLeft (total - y.selected) ∧ b ≠ none) := by
  obtain ⟨yf, hrun⟩ := nftCore_completes hash total (min y.usersLeft (total - y.selected) + 1) y hi hle
    (Nat.le_refl _)
  rcases runWhile_live _ (fun z => min z.usersLeft (total - z.selected))
      (fun z => NInv z ∧ z.selected ≤ total) (fun x x' hx hb => by
        by_cases h0 : (x.usersLeft = 0 || x.selected = total) = true
        · simp only [nftCoreBody, if_pos h0, Except.ok.injEq, Prod.mk.injEq] at hb
          exact absurd hb.2 (by decide)
        · obtain ⟨x2, h2, hi2, hl2, hs2⟩ := nftCoreBody_step hash total x hx.1 h0
          rw [h2] at hb
          simp only [Except.ok.injEq, Prod.mk.injEq, and_true] at hb
          subst hb
          have hne : x.selected ≠ total := by
            intro h; apply h0; simp [h]
          have := hx.2
          exact ⟨⟨hi2, by omega⟩, by omega⟩)
      hrun (by omega : _ ≤ F) ⟨hi, hle⟩ b with ⟨b', h⟩ | ⟨y1, h, ⟨h2, h3⟩, h4, hb⟩
  · exact Or.inl ⟨yf, b', h⟩
  · exact Or.inr ⟨y1, some 0, h, h2, h3, h4, hb⟩

def us_nftLeft (s : State) : Nat := min s.payers.length (s.availNfts - s.nftWinners.length)

theorem nftSubstep_progress (hash : List Nat → List Nat) (t : Tx) (r : Rng) (hrdy : NftReady t.s)
    (hw : t.s.nftWinners.length ≤ t.s.availNfts) :
    (∃ y b', nftSubstep hash t r = .ok ((nftTx t y b').setS { (nftTx t y b').s with
        op := .none, claimableNft := t.s.nftCost.amount * y.winners.length }, y.rng, .completed)) ∨
    (∃ y b', nftSubstep hash t r = .ok (nftTx t y b', y.rng, .interrupted) ∧ t.c.budget ≠ none ∧
      min y.payers.length (t.s.availNfts - y.winners.length) < us_nftLeft t.s) := by
  have hi : NInv (nftCoreOf t r) := ⟨hrdy.nodup, hrdy.disj, rfl, rfl⟩
  rw [nftSubstep_eq]
  rcases us_nft_loop hash t.s.availNfts (t.s.payers.length + 2) _ hi hw (Nat.le_refl _)
      t.c.budget with ⟨y', b', hrun⟩ | ⟨y', b', hrun, hi', _, hlt, hb⟩
  · exact Or.inl ⟨y', b', by rw [hrun]; rfl⟩
  · refine Or.inr ⟨y', b', by rw [hrun]; rfl, hb, ?_⟩
    rw [← hi'.left, ← hi'.sel]
    exact hlt

/-- a `selectNft` call whose gates pass on a storage with the NFT-list invariants is accepted
    whatever its budget: it completes the draw, or (finite budget only) saves lists that again
    satisfy the invariants, with fewer draws left -/
theorem selectNft_progress (hash : List Nat → List Nat) {s : State} {e : Env} (b : Option Nat)
    (hop : s.op = .none ∨ ∃ rg, s.op = .additional (.nft rg)) (hrdy : NftReady s)
    (hw : s.nftWinners.length ≤ s.availNfts) (hp : NftPre s e) :
    ∃ t', selectNft hash (callTx s e b) e = .ok t' ∧
      ((t'.o.ret = [0] ∧ ∃ y, t'.s = nftDone s y) ∨
       (t'.o.ret = [1] ∧ b ≠ none ∧ ∃ y, t'.s = nftSaved s y ∧ NftReady (nftSaved s y) ∧
          y.winners.length ≤ s.availNfts ∧ us_nftLeft (nftSaved s y) < us_nftLeft s)) := by
  obtain ⟨y, hy⟩ : ∃ y, nftCoreAt s e = some y := by
    unfold nftCoreAt nftRngOf
    rcases hop with h | ⟨rg, h⟩ <;> simp [callTx, h]
  obtain ⟨hi, _⟩ := nftCoreAt_inv s e y hy hrdy
  obtain ⟨r0, _, hy0⟩ := nftCoreAt_some s e none y hy
  have hyp : y.payers = s.payers ∧ y.winners = s.nftWinners := by
    rw [← hy0]; exact ⟨rfl, rfl⟩
  have hul : y.usersLeft = s.payers.length := by rw [hi.left, hyp.1]
  have hsl : y.selected = s.nftWinners.length := by rw [hi.sel, hyp.2]
  rw [selectNft_callTx_eq hash s e b y hp hy]
  rcases us_nft_loop hash s.availNfts (s.payers.length + 2) y hi (by omega) (by omega) b with
    ⟨y', b', hrun⟩ | ⟨y', b', hrun, hi', hle', hlt, hb⟩
  · rw [hrun]; exact ⟨_, rfl, Or.inl ⟨rfl, y', rfl⟩⟩
  · rw [hrun]
    refine ⟨_, rfl, Or.inr ⟨rfl, hb, y', rfl, ⟨hi'.nodup, hi'.disj⟩, by rw [← hi'.sel]; exact hle',
      ?_⟩⟩
    show min y'.payers.length (s.availNfts - y'.winners.length) < us_nftLeft s
    unfold us_nftLeft
    rw [← hi'.left, ← hi'.sel, ← hul, ← hsl]
    exact hlt

/-! ## 3. the distribution step (`guaranteedSubstep`, `distribute`) -/

/-- the state of the leftover loop (`LSt`) with the draw context in place of the transaction record -/
structure LCore where
  status : Nat → Bool
  posToId : Nat → Nat
  rng : Rng
  leftover : Nat
  offset : Nat
  additional : Nat
  d : DCtx

def LCore.lift (t0 : Tx) (z : LCore) : LSt :=
  ⟨z.status, z.posToId, z.rng, z.leftover, z.offset, z.additional, t0.withDctx z.d⟩

def leftCoreBody (hash : List Nat → List Nat) (v2 : Bool) (nrOrig last : Nat) (x : LCore) :
    Res (LCore × Bool) :=
  let x := if nrOrig + x.additional ≥ last then { x with leftover := 0 } else x
  if x.leftover = 0 then .ok (x, false) else
  let cur := nrOrig + x.offset
  let curId := idFromPos x.posToId cur
  if x.status curId then .ok ({ x with offset := x.offset + 1 }, true) else
  let r := x.d.draw hash x.rng
  let x := { x with rng := r.2.1, d := r.2.2 }
  let randPos := inRange r.1 cur (last + 1)
  let selId := idFromPos x.posToId randPos
  if x.status selId then
    if v2 then
      .ok ({ x with posToId := upd (upd x.posToId cur selId) randPos curId,
                    offset := x.offset + 1 }, true)
    else .ok (x, true)
  else
    .ok ({ x with posToId := upd x.posToId randPos curId, status := upd x.status selId true,
                  leftover := x.leftover - 1, additional := x.additional + 1,
                  offset := x.offset + 1 }, true)

theorem leftoverBody_lift (hash : List Nat → List Nat) (v2 : Bool) (nrOrig last : Nat) (t0 : Tx)
    (z : LCore) :
    leftoverBody hash v2 nrOrig last (LCore.lift t0 z) =
      (leftCoreBody hash v2 nrOrig last z).map (fun p => (LCore.lift t0 p.1, p.2)) := by
  obtain ⟨st, p, r, lo, off, add, d⟩ := z
  unfold leftoverBody leftCoreBody
  simp only [LCore.lift]
  by_cases hc : nrOrig + add ≥ last
  · simp only [hc, if_true]
    rfl
  · simp only [hc, if_false]
    by_cases h0 : lo = 0
    · simp only [h0, if_true]; rfl
    · simp only [h0, if_false]
      by_cases h1 : st (idFromPos p (nrOrig + off)) = true
      · simp only [h1, if_true]; rfl
      · simp only [h1, Tx.draw_withDctx]
        by_cases h2 : st (idFromPos p (inRange (d.draw hash r).1 (nrOrig + off) (last + 1))) = true
        · simp only [h2, if_true]
          cases v2 <;> rfl
        · simp only [h2]; rfl

def LCore.shift (L : List Nat) (z : LCore) : LCore := { z with d := z.d.shift L }

theorem leftCoreBody_shift (hash : List Nat → List Nat) (v2 : Bool) (nrOrig last : Nat)
    (L : List Nat) (z : LCore) :
    leftCoreBody hash v2 nrOrig last (z.shift L) =
      (leftCoreBody hash v2 nrOrig last z).map (fun p => (p.1.shift L, p.2)) := by
  obtain ⟨st, p, r, lo, off, add, d⟩ := z
  unfold leftCoreBody
  simp only [LCore.shift]
  by_cases hc : nrOrig + add ≥ last
  · simp only [hc, if_true]
    rfl
  · simp only [hc, if_false]
    by_cases h0 : lo = 0
    · simp only [h0, if_true]; rfl
    · simp only [h0, if_false]
      by_cases h1 : st (idFromPos p (nrOrig + off)) = true
      · simp only [h1, if_true]; rfl
      · simp only [h1, DCtx.draw_shift]
        by_cases h2 : st (idFromPos p (inRange (d.draw hash r).1 (nrOrig + off) (last + 1))) = true
        · simp only [h2, if_true]
          cases v2 <;> rfl
        · simp only [h2]; rfl

theorem leftCoreBody_d (hash : List Nat → List Nat) (v2 : Bool) (nrOrig last : Nat)
    (z z' : LCore) (c : Bool) (h : leftCoreBody hash v2 nrOrig last z = .ok (z', c)) :
    z'.d = z.d ∨ z'.d = (z.d.draw hash z.rng).2.2 := by
  obtain ⟨st, p, r, lo, off, add, d⟩ := z
  unfold leftCoreBody at h
  simp only at h
  by_cases hc : nrOrig + add ≥ last
  · simp only [hc, if_true, Except.ok.injEq, Prod.mk.injEq] at h
    rw [← h.1]; exact Or.inl rfl
  · simp only [hc, if_false] at h
    by_cases h0 : lo = 0
    · simp only [h0, if_true, Except.ok.injEq, Prod.mk.injEq] at h
      rw [← h.1]; exact Or.inl rfl
    · simp only [h0, if_false] at h
      by_cases h1 : st (idFromPos p (nrOrig + off)) = true
      · simp only [h1, if_true, Except.ok.injEq, Prod.mk.injEq] at h
        rw [← h.1]; exact Or.inl rfl
      · simp only [h1, Bool.false_eq_true, if_false] at h
        by_cases h2 : st (idFromPos p (inRange (d.draw hash r).1 (nrOrig + off) (last + 1))) = true
        · simp only [h2, if_true] at h
          cases v2 <;>
            simp only [if_true, Bool.false_eq_true, if_false, Except.ok.injEq, Prod.mk.injEq] at h <;>
            (rw [← h.1]; exact Or.inr rfl)
        · simp only [h2, Bool.false_eq_true, if_false, Except.ok.injEq, Prod.mk.injEq] at h
          rw [← h.1]; exact Or.inr rfl

theorem runWhile_leftCore_script_nil (hash : List Nat → List Nat) (v2 : Bool)
    (nrOrig last fuel : Nat) (b b' : Option Nat) (z z' : LCore) (st : LoopStatus)
    (h : runWhile (leftCoreBody hash v2 nrOrig last) fuel b z = .ok (z', b', st))
    (hs : z.d.script = []) : z'.d.script = [] :=
  runWhile_preserves (fun y => y.d.script = []) _
    (fun x x' c hb hx => by
      rcases leftCoreBody_d hash v2 nrOrig last x x' c hb with h | h
      · rw [h]; exact hx
      · rw [h]; exact DCtx.draw_script_nil hash _ _ hx) _ _ _ _ _ _ h hs

/-! ### `guaranteedSubstep` in terms of the two core loops -/

/-- loop-1 state as (re)loaded by `guaranteedSubstep`: the stored (shrinking) whitelist, its
    length, the stored ticket status and the counters saved in the `GuarOp` -/
def guarX (s : State) (g : GuarOp) : GSt :=
  ⟨s.whitelist, s.whitelist.length, s.status, g.leftover, g.additional⟩

def guarS1 (s : State) (x : GSt) : State := { s with whitelist := x.whitelist, status := x.status }

def guarG1 (g : GuarOp) (x : GSt) : GuarOp :=
  { g with leftover := x.leftover, additional := x.additional }

/-- loop-2 state as (re)loaded from storage `s` and cursor `g` -/
def leftZ (s : State) (g : GuarOp) (d : DCtx) : LCore :=
  ⟨s.status, s.posToId, g.rng, g.leftover, g.offset, g.additional, d⟩

def leftFuel (s : State) : Nat := if s.variant.isV2 then s.lastTicketId + 2 else v1LeftoverFuel

def leftG (z : LCore) : GuarOp := ⟨z.rng, z.leftover, z.offset, z.additional⟩

/-- transaction record after loop 2 (`s1` = storage after loop 1) -/
def leftTx (t : Tx) (s1 : State) (z : LCore) (b : Option Nat) : Tx :=
  { s := { s1 with op := .none, status := z.status, posToId := z.posToId },
    c := { (t.withDctx z.d).c with budget := b }, o := (t.withDctx z.d).o }

def guarSubOutcome2 (t : Tx) (s1 : State) :
    Res (LCore × Option Nat × LoopStatus) → Res (Tx × GuarOp × LoopStatus)
  | .error e => .error e
  | .ok (_, _, .outOfFuel) => .error (.vm "out of gas")
  | .ok (z, b, .interrupted) => .ok (leftTx t s1 z b, leftG z, .interrupted)
  | .ok (z, b, .completed) => .ok (leftTx t s1 z b, leftG z, .completed)

def guarSubOutcome (hash : List Nat → List Nat) (t : Tx) (g : GuarOp) :
    Res (GSt × Option Nat × LoopStatus) → Res (Tx × GuarOp × LoopStatus)
  | .error e => .error e
  | .ok (_, _, .outOfFuel) => .error (.vm "out of gas")
  | .ok (x, b, .interrupted) =>
    .ok (⟨guarS1 t.s x, { t.c with budget := b }, t.o⟩, guarG1 g x, .interrupted)
  | .ok (x, b, .completed) =>
    guarSubOutcome2 t (guarS1 t.s x)
      (runWhile (leftCoreBody hash t.s.variant.isV2 t.s.nrWinning t.s.lastTicketId)
        (leftFuel t.s) b (leftZ (guarS1 t.s x) (guarG1 g x) t.dctx))

theorem guaranteedSubstep_eq (hash : List Nat → List Nat) (t : Tx) (g : GuarOp) :
    guaranteedSubstep hash t g =
      guarSubOutcome hash t g
        (runWhile (guarBody t.s) (t.s.whitelist.length + 2) t.c.budget (guarX t.s g)) := by
  unfold guaranteedSubstep
  show (runWhile (guarBody t.s) (t.s.whitelist.length + 2) t.c.budget (guarX t.s g) >>= _) = _
  cases runWhile (guarBody t.s) (t.s.whitelist.length + 2) t.c.budget (guarX t.s g) with
  | error err => rfl
  | ok q =>
    obtain ⟨x, b, st⟩ := q
    cases st with
    | outOfFuel => rfl
    | interrupted => rfl
    | completed =>
      show (runWhile (leftoverBody hash t.s.variant.isV2 t.s.nrWinning t.s.lastTicketId) (leftFuel t.s) b
          (LCore.lift ⟨{ guarS1 t.s x with op := .none }, { t.c with budget := b }, t.o⟩
            (leftZ (guarS1 t.s x) (guarG1 g x) t.dctx)) >>= _) = _
      rw [runWhile_map _ _ _ (leftoverBody_lift hash _ _ _ _)]
      simp only [guarSubOutcome]
      cases runWhile (leftCoreBody hash t.s.variant.isV2 t.s.nrWinning t.s.lastTicketId)
          (leftFuel t.s) b (leftZ (guarS1 t.s x) (guarG1 g x) t.dctx) with
      | error err => rfl
      | ok q2 => obtain ⟨z, b2, st2⟩ := q2; cases st2 <;> rfl

theorem guarRun_total (s : State) (g : GuarOp) (b : Option Nat) :
    ∃ x b' st, runWhile (guarBody s) (s.whitelist.length + 2) b (guarX s g) = .ok (x, b', st) ∧
      st ≠ .outOfFuel := by
  obtain ⟨xf, hrun, _⟩ := guarLoop_run s s.whitelist.length (guarX s g)
    (s.whitelist.length + 1) rfl rfl (Nat.le_refl _)
  rcases runWhile_call_any _ hrun b (fuel := s.whitelist.length + 2) (by omega) with
    ⟨b', h⟩ | ⟨k, x1, _, h, _⟩
  · exact ⟨xf, b', .completed, h, nofun⟩
  · exact ⟨x1, some 0, .interrupted, h, nofun⟩

/-- the sub-step as far as its first loop decides it: that loop never fails; interrupted, the
    sub-step saves its state; completed, the sub-step is the outcome of the leftover loop -/
theorem guaranteedSubstep_cases (hash : List Nat → List Nat) (t : Tx) (g : GuarOp) :
    (∃ x b1, runWhile (guarBody t.s) (t.s.whitelist.length + 2) t.c.budget (guarX t.s g)
        = .ok (x, b1, .interrupted) ∧
      guaranteedSubstep hash t g
        = .ok (⟨guarS1 t.s x, { t.c with budget := b1 }, t.o⟩, guarG1 g x, .interrupted)) ∨
    (∃ x b1, runWhile (guarBody t.s) (t.s.whitelist.length + 2) t.c.budget (guarX t.s g)
        = .ok (x, b1, .completed) ∧
      guaranteedSubstep hash t g = guarSubOutcome2 t (guarS1 t.s x)
        (runWhile (leftCoreBody hash t.s.variant.isV2 t.s.nrWinning t.s.lastTicketId) (leftFuel t.s)
          b1 (leftZ (guarS1 t.s x) (guarG1 g x) t.dctx))) := by
  rw [guaranteedSubstep_eq]
  obtain ⟨x, b1, st, hrun, hst⟩ := guarRun_total t.s g t.c.budget
  rw [hrun]
  cases st with
  | outOfFuel => exact absurd rfl hst
  | interrupted => exact Or.inl ⟨x, b1, rfl, rfl⟩
  | completed => exact Or.inr ⟨x, b1, rfl, rfl⟩

/-! ### the endpoint `distribute` -/

/-- storage after a `distribute` call interrupted in the first loop (state `x`) -/
def distSaved1 (s : State) (g : GuarOp) (x : GSt) : State :=
  { guarS1 s x with op := .additional (.guar (guarG1 g x)) }

/-- storage after a `distribute` call whose first loop ended in `x` and whose second loop was
    interrupted in `z` -/
def distSaved2 (s : State) (x : GSt) (z : LCore) : State :=
  { guarS1 s x with status := z.status, posToId := z.posToId,
                    op := .additional (.guar (leftG z)) }

/-- storage after the `distribute` call in which both loops completed (`x`, `z`) -/
def distDone (s : State) (x : GSt) (z : LCore) : State :=
  { guarS1 s x with status := z.status, posToId := z.posToId, op := .none,
                    claimablePayment := s.claimablePayment + s.price * z.additional,
                    nrWinning := s.nrWinning + z.additional,
                    flags := { s.flags with additional := true } }

theorem distDone_eq (s : State) (x : GSt) (z : LCore) :
    { creditAdditional { guarS1 s x with op := .none, status := z.status, posToId := z.posToId }
          z.additional with
        flags := { s.flags with additional := true } } = distDone s x z := rfl

theorem distribute_ok_cases (hash : List Nat → List Nat) (t t' : Tx) (e : Env)
    (h : distribute hash t e = .ok t') :
    DistPre t.s e ∧ ∃ g x b1, guarOpOf t = some g ∧ t'.c.seeds = (selTxOf t).c.seeds ∧
      ((runWhile (guarBody t.s) (t.s.whitelist.length + 2) t.c.budget (guarX t.s g)
          = .ok (x, b1, .interrupted) ∧ t'.s = distSaved1 t.s g x ∧ t'.o.ret = [1] ∧
          t'.o.draws = t.o.draws ∧ t'.o.events = t.o.events) ∨
       (runWhile (guarBody t.s) (t.s.whitelist.length + 2) t.c.budget (guarX t.s g)
          = .ok (x, b1, .completed) ∧ ∃ z b2,
          ((runWhile (leftCoreBody hash t.s.variant.isV2 t.s.nrWinning t.s.lastTicketId)
              (leftFuel t.s) b1 (leftZ (guarS1 t.s x) (guarG1 g x) t.dctx)
              = .ok (z, b2, .interrupted) ∧ t'.s = distSaved2 t.s x z ∧ t'.o.ret = [1] ∧
              t'.o.draws = z.d.log ∧ t'.o.events = t.o.events) ∨
           (runWhile (leftCoreBody hash t.s.variant.isV2 t.s.nrWinning t.s.lastTicketId)
              (leftFuel t.s) b1 (leftZ (guarS1 t.s x) (guarG1 g x) t.dctx)
              = .ok (z, b2, .completed) ∧ t'.s = distDone t.s x z ∧ t'.o.ret = [0] ∧
              t'.o.draws = z.d.log)))) := by
  obtain ⟨hp, g, hg, h⟩ := (distribute_iff hash t t' e).mp h
  refine ⟨hp, g, ?_⟩
  have hc := guaranteedSubstep_cases hash (selTxOf t) g
  simp only [selTxOf_s, selTxOf_budget, selTxOf_dctx] at hc
  rcases hc with ⟨x, b1, hR1, hsub⟩ | ⟨x, b1, hR1, hsub⟩ <;> rw [hsub] at h
  · cases h
    exact ⟨x, b1, hg, rfl, Or.inl ⟨hR1, rfl, rfl, by simp only [selTxOf_o], by simp only [selTxOf_o]⟩⟩
  · cases hR2 : runWhile (leftCoreBody hash t.s.variant.isV2 t.s.nrWinning t.s.lastTicketId)
        (leftFuel t.s) b1 (leftZ (guarS1 t.s x) (guarG1 g x) t.dctx) with
    | error err => rw [hR2] at h; cases h
    | ok q2 =>
      obtain ⟨z, b2, st2⟩ := q2
      rw [hR2] at h
      cases st2 with
      | outOfFuel => cases h
      | interrupted =>
        cases h
        exact ⟨x, b1, hg, rfl, Or.inr ⟨hR1, z, b2, Or.inl ⟨hR2, rfl, rfl, rfl,
          by simp only [leftTx, Tx.withDctx, selTxOf_o]⟩⟩⟩
      | completed =>
        obtain ⟨hs, hcc, ho⟩ := distFinish_completed
          (t := leftTx (selTxOf t) (guarS1 t.s x) z b2) (g := leftG z) h
        exact ⟨x, b1, hg, by rw [hcc]; rfl, Or.inr ⟨hR1, z, b2, Or.inr ⟨hR2,
          hs.trans (distDone_eq t.s x z), congrArg Out.ret ho, congrArg Out.draws ho⟩⟩⟩

/-! ### the first loop: counters and whitelist reload -/

/-- `guarBody` reads the storage only through `uts`, `confirmed`, `range`, the variant and
    `minConfirmed`; none of them is written by the distribution step -/
theorem guarBody_saved1 (s : State) (g : GuarOp) (x : GSt) :
    guarBody (distSaved1 s g x) = guarBody s := by
  funext y; unfold guarBody; rfl

theorem guarBody_saved2 (s : State) (x : GSt) (z : LCore) :
    guarBody (distSaved2 s x z) = guarBody s := by
  funext y; unfold guarBody; rfl

theorem guarBody_len (s : State) (x x' : GSt) (c : Bool) (h : guarBody s x = .ok (x', c))
    (hi : x.usersLeft = x.whitelist.length) : x'.usersLeft = x'.whitelist.length := by
  rcases guarBody_ok h with ⟨_, _, rfl⟩ | ⟨_, h0, u, rest, _, st⟩
  · exact hi
  · have := st.length
    rw [st.usersLeft]; omega

theorem runWhile_guar_len (s : State) (fuel : Nat) (b b' : Option Nat) (x x' : GSt)
    (st : LoopStatus) (h : runWhile (guarBody s) fuel b x = .ok (x', b', st))
    (hi : x.usersLeft = x.whitelist.length) : x'.usersLeft = x'.whitelist.length :=
  runWhile_preserves (fun y => y.usersLeft = y.whitelist.length) _
    (fun y y' c hb hy => guarBody_len s y y' c hb hy) _ _ _ _ _ _ h hi

theorem guarRun_completed_nil (s : State) (fuel : Nat) (b b' : Option Nat) (x x' : GSt)
    (h : runWhile (guarBody s) fuel b x = .ok (x', b', .completed))
    (hi : x.usersLeft = x.whitelist.length) : x'.usersLeft = 0 ∧ x'.whitelist = [] := by
  obtain ⟨x0, hp, hb⟩ := runWhile_completed_stop (fun y => y.usersLeft = y.whitelist.length) _
    (fun y y' c hb hy => guarBody_len s y y' c hb hy) _ _ _ _ _ h hi
  obtain ⟨_, h0, rfl⟩ | ⟨⟨⟩, _⟩ := guarBody_ok hb
  exact ⟨h0, List.eq_nil_of_length_eq_zero (by rw [← hp]; exact h0)⟩

theorem guarRun_nil (s : State) (x : GSt) (fuel : Nat) (b : Option Nat) (h : x.usersLeft = 0) :
    runWhile (guarBody s) (fuel + 1) b x = .ok (x, b, .completed) :=
  runWhile_stop (guarBody_stop s x h) _ _

/-! ### the schedule of `distribute`: `distCalls_run` -/

def distCalls (hash : List Nat → List Nat) : List (Env × Option Nat) → State → Res (State × List Nat)
  | [], s => .ok (s, [])
  | (e, b) :: rest, s =>
    match distribute hash (callTx s e b) e with
    | .error err => .error err
    | .ok t' =>
      match distCalls hash rest t'.s with
      | .error err => .error err
      | .ok (s', ds) => .ok (s', t'.o.draws ++ ds)

theorem distCalls_eq (hash : List Nat → List Nat) :
    ∀ (cs : List (Env × Option Nat)) (s : State),
      distCalls hash cs s = callsOf (fun s e b => distribute hash (callTx s e b) e) cs s
  | [], _ => rfl
  | (e, b) :: rest, s => by simp only [distCalls, callsOf, distCalls_eq hash rest]

theorem LCore.eq_shift (z : LCore) (hs : z.d.script = []) :
    z = (⟨z.status, z.posToId, z.rng, z.leftover, z.offset, z.additional, ⟨[], []⟩⟩ : LCore).shift
          z.d.log := by
  obtain ⟨a1, a2, a3, a4, a5, a6, ⟨sc, lg⟩⟩ := z
  simp only at hs
  subst hs
  simp [LCore.shift, DCtx.shift]

/-- loop level: an accepted schedule of `distribute` calls that completes the step computes the
    final states `xf`, `zf` of ONE unbudgeted run of the first loop from the state the first call
    started in, followed by ONE unbudgeted run of the second loop; the concatenated draw log is
    the log of the second run. -/
theorem distCalls_run (hash : List Nat → List Nat) :
    ∀ (rest : List (Env × Option Nat)) (e0 : Env) (b0 : Option Nat) (s s' : State)
      (ds : List Nat) (g : GuarOp),
      guarOpOf (callTx s e0 b0) = some g → e0.script = [] → (∀ c ∈ rest, c.1.script = []) →
      distCalls hash ((e0, b0) :: rest) s = .ok (s', ds) → s'.flags.additional = true →
      ∃ xf zf f1 f2,
        runWhile (guarBody s) f1 none (guarX s g) = .ok (xf, none, .completed) ∧
        runWhile (leftCoreBody hash s.variant.isV2 s.nrWinning s.lastTicketId) f2 none
          (leftZ (guarS1 s xf) (guarG1 g xf) ⟨[], []⟩) = .ok (zf, none, .completed) ∧
        s' = distDone s xf zf ∧ zf.d.log = ds := by
  intro rest
  induction rest with
  | nil =>
    intro e0 b0 s s' ds g hg hscr _ hc hsel
    rw [distCalls_eq] at hc
    obtain ⟨t1, ds2, hcall, hrc, rfl⟩ := callsOf_cons_ok hc
    cases hrc
    obtain ⟨hp, g', x, b1, hg', _, hcs⟩ := distribute_ok_cases hash _ _ _ hcall
    rw [hg] at hg'; cases hg'
    have hnd : s.flags.additional = false := hp.notDone
    have hd0 : (callTx s e0 b0).dctx = ⟨[], []⟩ := by simp only [callTx, Tx.dctx, hscr]
    rcases hcs with ⟨_, hs1, _⟩ | ⟨hR1, z, b2, ⟨_, hs1, _⟩ | ⟨hR2, hs1, _, hlog⟩⟩
    · rw [hs1] at hsel; exact absurd (hnd ▸ hsel) nofun
    · rw [hs1] at hsel; exact absurd (hnd ▸ hsel) nofun
    · rw [hd0] at hR2
      exact ⟨x, z, _, _, runWhile_completed_any_budget _ _ _ _ _ _ hR1,
        runWhile_completed_any_budget _ _ _ _ _ _ hR2, hs1, by rw [hlog, List.append_nil]⟩
  | cons c1 rest2 ih =>
    intro e0 b0 s s' ds g hg hscr hrest hc hsel
    rw [distCalls_eq] at hc
    obtain ⟨t1, ds2, hcall, hrc, rfl⟩ := callsOf_cons_ok hc
    obtain ⟨hp, g', x, b1, hg', _, hcs⟩ := distribute_ok_cases hash _ _ _ hcall
    rw [hg] at hg'; cases hg'
    have hd0 : (callTx s e0 b0).dctx = ⟨[], []⟩ := by simp only [callTx, Tx.dctx, hscr]
    have he1 : c1.1.script = [] := hrest c1 (List.mem_cons_self ..)
    have hx0 : (guarX s g).usersLeft = (guarX s g).whitelist.length := rfl
    rcases hcs with ⟨hR1, hs1, _, hdr, _⟩ | ⟨hR1, z, b2, ⟨hR2, hs1, _, hdr, _⟩ | ⟨_, hs1, _⟩⟩
    · -- interrupted in the first loop: the next call reloads exactly `x`
      rw [hs1, ← distCalls_eq] at hrc
      have hlen := runWhile_guar_len s _ _ _ _ _ _ hR1 hx0
      obtain ⟨xf, zf, f1, f2, hr1, hr2, hfin, hlog⟩ :=
        ih c1.1 c1.2 (distSaved1 s g x) s' ds2 (guarG1 g x) rfl he1
          (fun c hc => hrest c (List.mem_cons_of_mem _ hc)) hrc hsel
      have hxx : guarX (distSaved1 s g x) (guarG1 g x) = x := by
        obtain ⟨a1, a2, a3, a4, a5⟩ := x
        simp only at hlen
        subst hlen
        rfl
      rw [guarBody_saved1, hxx] at hr1
      exact ⟨xf, zf, _, f2, runWhile_resume _ _ _ _ _ _ _ _ hR1 hr1, hr2, by rw [hfin]; rfl,
        by rw [hlog, hdr]; rfl⟩
    · -- first loop completed, interrupted in the second: the first loop of the later calls stops
      -- at once, the second is reloaded up to the draw log
      rw [hs1, ← distCalls_eq] at hrc
      obtain ⟨_, hxnil⟩ := guarRun_completed_nil s _ _ _ _ _ hR1 hx0
      obtain ⟨xf, zf, f1, f2, hr1, hr2, hfin, hlog⟩ :=
        ih c1.1 c1.2 (distSaved2 s x z) s' ds2 (leftG z) rfl he1
          (fun c hc => hrest c (List.mem_cons_of_mem _ hc)) hrc hsel
      have hx1 : (guarX (distSaved2 s x z) (leftG z)).usersLeft = 0 := by
        show x.whitelist.length = 0
        rw [hxnil]; rfl
      cases runWhile_completed_unique _ _ _ _ _ _ hr1 (guarRun_nil (distSaved2 s x z) _ 0 none hx1)
      rw [hd0] at hR2
      have hzs : z.d.script = [] := runWhile_leftCore_script_nil hash _ _ _ _ _ _ _ _ _ hR2 rfl
      rw [z.eq_shift hzs] at hR2
      refine ⟨x, zf.shift z.d.log, _, _, runWhile_completed_any_budget _ _ _ _ _ _ hR1,
        runWhile_resume_via (LCore.shift z.d.log) (leftCoreBody_shift hash _ _ _ _) hR2 hr2,
        by rw [hfin]; rfl, ?_⟩
      show z.d.log ++ zf.d.log = _
      rw [hlog, hdr]
    · -- completed: a further call is rejected
      rw [hs1] at hrc
      obtain ⟨t2, _, hcall2, _⟩ := callsOf_cons_ok hrc
      exact absurd ((distribute_iff hash _ _ _).mp hcall2).1.notDone nofun

theorem distSaved1_restore (s : State) (g : GuarOp) (x : GSt) :
    { distSaved1 s g x with whitelist := s.whitelist, status := s.status, posToId := s.posToId,
                            op := s.op } = s := by cases s; rfl

theorem distSaved2_restore (s : State) (x : GSt) (z : LCore) :
    { distSaved2 s x z with whitelist := s.whitelist, status := s.status, posToId := s.posToId,
                            op := s.op } = s := by cases s; rfl

/-! ### liveness of the first loop -/

theorem guarBody_measure (s : State) (x x' : GSt) (hi : x.usersLeft = x.whitelist.length)
    (h : guarBody s x = .ok (x', true)) :
    x'.usersLeft = x'.whitelist.length ∧ x'.usersLeft < x.usersLeft := by
  refine ⟨guarBody_len s x x' true h hi, ?_⟩
  rcases guarBody_ok h with ⟨hc, _⟩ | ⟨_, h0, u, rest, _, st⟩
  · cases hc
  · rw [st.usersLeft]; omega

theorem guarRun_interrupted_lt (s : State) (fuel : Nat) (b b' : Option Nat) (x x' : GSt)
    (h : runWhile (guarBody s) fuel b x = .ok (x', b', .interrupted))
    (hi : x.usersLeft = x.whitelist.length) : x'.whitelist.length < x.whitelist.length := by
  obtain ⟨h1, h2⟩ := runWhile_interrupted_measure (guarBody s) (fun y => y.usersLeft)
    (fun y => y.usersLeft = y.whitelist.length)
    (fun y y' hy hb => guarBody_measure s y y' hy hb) _ _ _ _ _ h hi
  rw [← h1, ← hi]; exact h2

/-- every accepted `distribute` call leaves an empty whitelist (first loop finished) or a
    strictly shorter one -/
theorem distribute_whitelist_progress (hash : List Nat → List Nat) (t t' : Tx) (e : Env)
    (h : distribute hash t e = .ok t') :
    t'.s.whitelist = [] ∨ t'.s.whitelist.length < t.s.whitelist.length := by
  obtain ⟨_, g, x, b1, _, _, hcs⟩ := distribute_ok_cases hash _ _ _ h
  rcases hcs with ⟨hR1, hs1, _⟩ | ⟨hR1, z, b2, ⟨_, hs1, _⟩ | ⟨_, hs1, _⟩⟩ <;> rw [hs1]
  · exact Or.inr (guarRun_interrupted_lt t.s _ _ _ _ _ hR1 rfl)
  · exact Or.inl (guarRun_completed_nil t.s _ _ _ _ _ hR1 rfl).2
  · exact Or.inl (guarRun_completed_nil t.s _ _ _ _ _ hR1 rfl).2

/-- progress of the first loop along accepted calls: each call shortens the stored whitelist or
    leaves it empty, so after `|whitelist|` accepted calls it is empty (every entry has been
    processed) and each later call skips the first loop -/
theorem distCalls_whitelist_progress (hash : List Nat → List Nat) :
    ∀ (cs : List (Env × Option Nat)) (s s' : State) (ds : List Nat),
      distCalls hash cs s = .ok (s', ds) →
      s'.whitelist.length + cs.length ≤ s.whitelist.length ∨ (cs ≠ [] ∧ s'.whitelist = []) := by
  intro cs
  induction cs with
  | nil =>
    intro s s' ds h
    simp only [distCalls, Except.ok.injEq, Prod.mk.injEq] at h
    left; rw [← h.1]; simp
  | cons c rest ih =>
    obtain ⟨e, b⟩ := c
    intro s s' ds h
    rw [distCalls_eq] at h
    obtain ⟨t1, ds2, hcall, hrc, rfl⟩ := callsOf_cons_ok h
    rw [← distCalls_eq] at hrc
    have hprog := distribute_whitelist_progress hash _ _ _ hcall
    have hs : (callTx s e b).s.whitelist = s.whitelist := rfl
    rw [hs] at hprog
    rcases ih t1.s s' ds2 hrc with h1 | ⟨_, h1⟩
    · rcases hprog with h2 | h2
      · right
        refine ⟨by simp, ?_⟩
        rw [h2] at h1
        simp only [List.length_nil, Nat.le_zero_eq] at h1
        exact List.eq_nil_of_length_eq_zero (by omega)
      · left
        simp only [List.length_cons]; omega
    · exact Or.inr ⟨by simp, h1⟩

/-! ## 4. `secondary` (crate 8): seed accounting -/

theorem guaranteedSubstep_seeds (hash : List Nat → List Nat) (t t' : Tx) (g g' : GuarOp)
    (st : LoopStatus) (h : guaranteedSubstep hash t g = .ok (t', g', st)) :
    t'.c.seeds = t.c.seeds := by
  rcases guaranteedSubstep_cases hash t g with ⟨x, b1, _, hsub⟩ | ⟨x, b1, _, hsub⟩ <;>
    rw [hsub] at h
  · cases h; rfl
  · cases hR2 : runWhile (leftCoreBody hash t.s.variant.isV2 t.s.nrWinning t.s.lastTicketId)
        (leftFuel t.s) b1 (leftZ (guarS1 t.s x) (guarG1 g x) t.dctx) with
    | error err => rw [hR2] at h; cases h
    | ok q =>
      obtain ⟨z, b2, st2⟩ := q
      rw [hR2] at h
      cases st2 <;> cases h <;> rfl

theorem nftSubstep_seeds (hash : List Nat → List Nat) (t t' : Tx) (r r' : Rng)
    (st : LoopStatus) (h : nftSubstep hash t r = .ok (t', r', st)) :
    t'.c.seeds = t.c.seeds := by
  rw [nftSubstep_eq] at h
  cases hR : runWhile (nftCoreBody hash t.s.availNfts) (t.s.payers.length + 2) t.c.budget
      (nftCoreOf t r) with
  | error err => rw [hR] at h; cases h
  | ok q =>
    obtain ⟨y, b, st1⟩ := q
    rw [hR] at h
    cases st1 with
    | outOfFuel => cases h
    | interrupted =>
      simp only [nftSubOutcome, Except.ok.injEq, Prod.mk.injEq] at h
      rw [← h.1]; rfl
    | completed =>
      simp only [nftSubOutcome, Except.ok.injEq, Prod.mk.injEq] at h
      rw [← h.1]; rfl

theorem nftSubstep_completed_op (hash : List Nat → List Nat) (t t' : Tx) (r r' : Rng)
    (h : nftSubstep hash t r = .ok (t', r', .completed)) : t'.s.op = .none := by
  rw [nftSubstep_eq] at h
  cases hR : runWhile (nftCoreBody hash t.s.availNfts) (t.s.payers.length + 2) t.c.budget
      (nftCoreOf t r) with
  | error err => rw [hR] at h; cases h
  | ok q =>
    obtain ⟨y, b, st1⟩ := q
    rw [hR] at h
    cases st1 with
    | outOfFuel => cases h
    | interrupted =>
      simp only [nftSubOutcome, Except.ok.injEq, Prod.mk.injEq, reduceCtorEq, and_false] at h
    | completed =>
      simp only [nftSubOutcome, Except.ok.injEq, Prod.mk.injEq] at h
      rw [← h.1]; rfl

def Op.isGuar : Op → Bool
  | .additional (.guar _) => true
  | _ => false

theorem secStage1_guar_ok {hash : List Nat → List Nat} {g : GuarOp} {t0 : Tx} {r1 : Tx ⊕ Tx × Rng}
    (h : secStage1 hash (.guar g) t0 = .ok r1) :
    ∃ x, guaranteedSubstep hash t0 g = .ok x ∧ r1 = secHandOver x := by
  simp only [secStage1] at h
  cases hsub : guaranteedSubstep hash t0 g with
  | error err => rw [hsub] at h; cases h
  | ok x => rw [hsub] at h; cases h; exact ⟨x, rfl, rfl⟩

/-- the guaranteed-ticket stage saves a `.guar` cursor without taking a seed, or hands over, having
    taken one seed for the NFT draw -/
theorem secStage1_guar_seeds {hash : List Nat → List Nat} {g : GuarOp} {t0 : Tx}
    {r1 : Tx ⊕ Tx × Rng} (h : secStage1 hash (.guar g) t0 = .ok r1) :
    (∃ t1, r1 = .inl t1 ∧ t1.s.op.isGuar = true ∧ t1.c.seeds = t0.c.seeds) ∨
    (∃ t1 r, r1 = .inr (t1, r) ∧ t1.c.seeds = t0.c.seeds.tail) := by
  obtain ⟨⟨t1, g1, st⟩, hsub, rfl⟩ := secStage1_guar_ok h
  have e1 := guaranteedSubstep_seeds hash _ _ _ _ _ hsub
  cases st
  · exact Or.inr ⟨_, _, rfl, by rw [Tx.freshRng_seeds]; exact congrArg List.tail e1⟩
  · exact Or.inl ⟨_, rfl, rfl, e1⟩
  · exact Or.inl ⟨_, rfl, rfl, e1⟩

theorem secStage2_inr_seeds {hash : List Nat → List Nat} {t1 t' : Tx} {r : Rng}
    (h : secStage2 hash (.inr (t1, r)) = .ok t') :
    t'.s.op.isGuar = false ∧ t'.c.seeds = t1.c.seeds := by
  obtain ⟨⟨t2, r2, st2⟩, h2, h⟩ := (bind_ok_iff _ _ _).mp h
  have e2 := nftSubstep_seeds hash _ _ _ _ _ h2
  cases st2
  · have hop2 := nftSubstep_completed_op hash _ _ _ _ h2
    cases h
    exact ⟨by show t2.s.op.isGuar = false; rw [hop2]; rfl, e2⟩
  · cases h; exact ⟨rfl, e2⟩
  · cases h; exact ⟨rfl, e2⟩

/-- `secondary` resuming the NFT draw -/
theorem secondary_eq_nft (hash : List Nat → List Nat) (t : Tx) (e : Env) (r : Rng)
    (hp : NftPre t.s e) (hop : t.s.op = .additional (.nft r)) :
    secondary hash t e = (nftSubstep hash t r >>= secNftFinish) := by
  have hl : secLoadTx t = .ok (.nft r, t) := by unfold secLoadTx; rw [hop]; rfl
  rw [secondary_def, (addGates_ok_iff _ _ _).mpr hp, hl]
  rfl

/-- `secondary` in the guaranteed-ticket phase (started by this call or resumed) -/
theorem secondary_eq_guar (hash : List Nat → List Nat) (t : Tx) (e : Env) (g : GuarOp)
    (hp : NftPre t.s e) (hg : guarOpOf t = some g) :
    secondary hash t e =
      (guaranteedSubstep hash (selTxOf t) g >>= fun x => secStage2 hash (secHandOver x)) := by
  rw [secondary_def, (addGates_ok_iff _ _ _).mpr hp,
    (secLoadTx_ok_iff t (.guar g) _).mpr ⟨rfl, Or.inl ⟨g, rfl, hg⟩⟩]
  show (secStage1 hash (.guar g) (selTxOf t) >>= secStage2 hash) = _
  simp only [secStage1]
  cases guaranteedSubstep hash (selTxOf t) g <;> rfl

end LP
