import LP.Step
import LP.Proofs.StepLemmas
import LP.Proofs.Reserve
/-
  The reserve invariant along histories (`run`) made of allocation / blacklist / refund /
  un-blacklist transactions.

  The common blacklist module leaves everything the invariant reads alone (`GEq`); the six
  guaranteed-ticket hooks leave the blacklist flags, the variant and existing ranges alone
  (`Fr`).  `GuarInvX` adds to `GuarInv` what the two together maintain, and is preserved by
  every call of `isGuarCall`.
-/
namespace LP

/-- success with `P`, or an error that is not a panic -/
def SatNP {α : Type} (r : Res α) (P : α → Prop) : Prop :=
  match r with
  | .ok a => P a
  | .error e => ∀ site, e ≠ .panic site

theorem SatU.toNP {α : Type} {r : Res α} {P : α → Prop} (h : SatU r P) : SatNP r P := by
  cases r with
  | ok a => exact h
  | error e => obtain ⟨m, rfl⟩ := h; intro site hc; cases hc

theorem SatNP_bind {α β : Type} {r : Res α} {f : α → Res β} {P : α → Prop} {Q : β → Prop}
    (h : SatNP r P) (hf : ∀ a, P a → SatNP (f a) Q) : SatNP (r >>= f) Q := by
  cases r with
  | error e => exact h
  | ok a => exact hf a h

theorem SatNP.mono_ok {α : Type} {r : Res α} {P Q : α → Prop} (h : SatNP r P)
    (hpq : ∀ a, r = .ok a → P a → Q a) : SatNP r Q := by
  cases r with
  | ok a => exact hpq a rfl h
  | error e => exact h

theorem SatNP.mono {α : Type} {r : Res α} {P Q : α → Prop} (h : SatNP r P)
    (hpq : ∀ a, P a → Q a) : SatNP r Q :=
  h.mono_ok fun a _ => hpq a

theorem SatNP_of_ok {α : Type} {r : Res α} {P : α → Prop} (h : ∀ a, r = .ok a → P a)
    (hnp : ∀ site, r ≠ .error (.panic site)) : SatNP r P := by
  cases r with
  | ok a => exact h a rfl
  | error e => intro site hc; subst hc; exact hnp site rfl

theorem SatNP_user {α : Type} (m : String) (P : α → Prop) :
    SatNP (.error (.user m) : Res α) P := fun _ hc => nomatch hc

theorem req_spec (c : Bool) (m : String) : SatNP (req c m) (fun _ => c = true) := by
  unfold req; split
  · assumption
  · exact SatNP_user _ _

/-- the two states agree on everything the reserve invariant reads, except the blacklist flags -/
structure GEq (s s' : State) : Prop where
  whitelist : s'.whitelist = s.whitelist
  uts : s'.uts = s.uts
  blUts : s'.blUts = s.blUts
  range : s'.range = s.range
  nrWinning : s'.nrWinning = s.nrWinning
  totalGuaranteed : s'.totalGuaranteed = s.totalGuaranteed
  variant : s'.variant = s.variant

theorem GEq.refl (s : State) : GEq s s := ⟨rfl, rfl, rfl, rfl, rfl, rfl, rfl⟩

theorem GEq.trans {a b c : State} (h1 : GEq a b) (h2 : GEq b c) : GEq a c :=
  ⟨h2.whitelist.trans h1.whitelist, h2.uts.trans h1.uts, h2.blUts.trans h1.blUts,
   h2.range.trans h1.range, h2.nrWinning.trans h1.nrWinning,
   h2.totalGuaranteed.trans h1.totalGuaranteed, h2.variant.trans h1.variant⟩

theorem send_spec (t : Tx) (to : Nat) (p : Pay) :
    SatNP (t.send to p) (fun t' => GEq t.s t'.s ∧ t'.s.blacklist = t.s.blacklist) := by
  unfold Tx.send
  split
  · intro site hc; cases hc
  · exact ⟨⟨rfl, rfl, rfl, rfl, rfl, rfl, rfl⟩, rfl⟩

theorem refund_spec (t : Tx) (e : Env) (a n : Nat) :
    SatNP (t.refund e a n) (fun t' => GEq t.s t'.s ∧ t'.s.blacklist = t.s.blacklist) := by
  unfold Tx.refund
  split
  · exact ⟨GEq.refl _, rfl⟩
  · exact SatNP_bind (send_spec t a _) fun _ h => h

theorem blacklistMany_spec (e : Env) (l : List Nat) (t : Tx) :
    SatNP (blacklistMany e l t) (fun t' => GEq t.s t'.s ∧
      (∀ u, t'.s.blacklist u = true ↔ (t.s.blacklist u = true ∨ u ∈ l)) ∧
      (∀ u ∈ l, (t.s.range u).isSome = true)) := by
  induction l generalizing t with
  | nil => exact ⟨GEq.refl _, by simp, by simp⟩
  | cons a rest ih =>
    simp only [blacklistMany]
    split
    · exact SatNP_user _ _
    split
    · exact SatNP_user _ _
    rename_i hbl hr
    have hr' : (t.s.range a).isSome = true := by
      cases hq : t.s.range a <;> simp [hq] at hr ⊢
    have hstep : SatNP (if t.s.confirmed a > 0 then t.refund e a (t.s.confirmed a) else .ok t)
        (fun t' => GEq t.s t'.s ∧ t'.s.blacklist = t.s.blacklist) := by
      split
      · exact refund_spec _ _ _ _
      · exact ⟨GEq.refl _, rfl⟩
    -- `S` is the state after the refund, with or without the confirmed tickets of `a` reset
    have hS : ∀ (t1 : Tx) (S : State), GEq t.s S → S.blacklist = t.s.blacklist →
        SatNP (blacklistMany e rest (t1.setS { S with blacklist := upd S.blacklist a true }))
          (fun t' => GEq t.s t'.s ∧
            (∀ u, t'.s.blacklist u = true ↔ (t.s.blacklist u = true ∨ u ∈ a :: rest)) ∧
            (∀ u ∈ a :: rest, (t.s.range u).isSome = true)) := by
      intro t1 S gS bS
      have g2 : GEq t.s (t1.setS { S with blacklist := upd S.blacklist a true }).s :=
        ⟨gS.whitelist, gS.uts, gS.blUts, gS.range, gS.nrWinning, gS.totalGuaranteed, gS.variant⟩
      refine (ih _).mono fun t3 ⟨g3, b3, r3⟩ => ⟨g2.trans g3, fun u => ?_, fun u hu => ?_⟩
      · rw [b3 u]
        show upd S.blacklist a true u = true ∨ u ∈ rest ↔ _
        rw [bS, upd_apply]
        by_cases hu : u = a <;> simp [hu]
      · rcases List.mem_cons.1 hu with rfl | hu
        · exact hr'
        · exact g2.range ▸ r3 u hu
    cases hq : (if t.s.confirmed a > 0 then t.refund e a (t.s.confirmed a) else .ok t) with
    | error err => rw [hq] at hstep; exact hstep
    | ok t1 =>
      rw [hq] at hstep
      obtain ⟨g1, b1⟩ := hstep
      refine hS t1 _ ?_ ?_
      · split <;> exact ⟨g1.whitelist, g1.uts, g1.blUts, g1.range, g1.nrWinning,
          g1.totalGuaranteed, g1.variant⟩
      · split <;> exact b1

theorem unblacklistMany_spec (l : List Nat) (s : State) :
    SatU (unblacklistMany l s) (fun s' => GEq s s' ∧ l.Nodup ∧
      (∀ u ∈ l, s.blacklist u = true) ∧
      (∀ u, s'.blacklist u = true ↔ (s.blacklist u = true ∧ u ∉ l))) := by
  induction l generalizing s with
  | nil => exact ⟨GEq.refl _, List.nodup_nil, by simp, by simp⟩
  | cons a rest ih =>
    rw [unblacklistMany]
    split
    · rename_i hb
      refine (ih { s with blacklist := upd s.blacklist a false }).mono
        fun s' ⟨g, nd, hall, hiff⟩ => ?_
      have hna : a ∉ rest := fun ha => by simpa using hall a ha
      refine ⟨⟨g.whitelist, g.uts, g.blUts, g.range, g.nrWinning, g.totalGuaranteed, g.variant⟩,
        List.nodup_cons.2 ⟨hna, nd⟩, ?_, ?_⟩
      · intro u hu
        rcases List.mem_cons.1 hu with rfl | hu
        · exact hb
        · have := hall u hu
          simp only [upd_apply] at this
          split at this
          · cases this
          · exact this
      · intro u
        rw [hiff u]
        simp only [upd_apply, List.mem_cons, not_or]
        by_cases hu : u = a <;> simp [hu]
    · exact SatU_user _ _

theorem refundNftMany_spec (l : List Nat) (t : Tx) :
    SatNP (refundNftMany l t) (fun t' => GEq t.s t'.s ∧ t'.s.blacklist = t.s.blacklist) := by
  induction l generalizing t with
  | nil => exact ⟨GEq.refl _, rfl⟩
  | cons u rest ih =>
    simp only [refundNftMany]
    split
    · have h1 := send_spec (t.setS { t.s with payers := (swapRemove t.s.payers u).1 }) u t.s.nftCost
      cases hs : (t.setS { t.s with payers := (swapRemove t.s.payers u).1 }).send u t.s.nftCost with
      | error err => rw [hs] at h1; exact h1
      | ok t1 =>
        rw [hs] at h1
        have g0 : GEq t.s (t.setS { t.s with payers := (swapRemove t.s.payers u).1 }).s :=
          ⟨rfl, rfl, rfl, rfl, rfl, rfl, rfl⟩
        exact (ih t1).mono fun t2 h2 => ⟨(g0.trans h1.1).trans h2.1, h2.2.trans h1.2⟩
    · exact ih t

theorem addUsersToBlacklist_spec (t : Tx) (e : Env) (l : List Nat) :
    SatNP (addUsersToBlacklist t e l) (fun t' => GEq t.s t'.s ∧
      (∀ u, t'.s.blacklist u = true ↔ (t.s.blacklist u = true ∨ u ∈ l)) ∧
      (∀ u ∈ l, (t.s.range u).isSome = true)) :=
  SatNP_bind (req_spec _ _) fun _ _ => SatNP_bind (req_spec _ _) fun _ _ =>
    blacklistMany_spec e l t

theorem removeUsersFromBlacklist_spec (s : State) (e : Env) (l : List Nat) :
    SatNP (removeUsersFromBlacklist s e l) (fun s' => GEq s s' ∧ l.Nodup ∧
      (∀ u ∈ l, s.blacklist u = true) ∧
      (∀ u, s'.blacklist u = true ↔ (s.blacklist u = true ∧ u ∉ l))) :=
  SatNP_bind (req_spec _ _) fun _ _ => SatNP_bind (req_spec _ _) fun _ _ =>
    (unblacklistMany_spec l s).toNP

/-- what the hooks leave alone: blacklist flags, variant, and existing ranges -/
structure Fr (s s' : State) : Prop where
  blacklist : s'.blacklist = s.blacklist
  variant : s'.variant = s.variant
  range : ∀ u, (s.range u).isSome = true → (s'.range u).isSome = true

theorem Fr.refl (s : State) : Fr s s := ⟨rfl, rfl, fun _ h => h⟩
theorem Fr.trans {a b c : State} (h1 : Fr a b) (h2 : Fr b c) : Fr a c :=
  ⟨h2.blacklist.trans h1.blacklist, h2.variant.trans h1.variant, fun u h => h2.range u (h1.range u h)⟩

theorem Fr.congr {s a b : State} (f : Fr s a) (hb : b.blacklist = a.blacklist)
    (hv : b.variant = a.variant) (hr : b.range = a.range) : Fr s b :=
  ⟨hb.trans f.blacklist, hv.trans f.variant, fun u h => hr ▸ f.range u h⟩

theorem clearV2Many_frame (l : List Nat) (s : State) (nw tg : Nat) (s' : State) (nw' tg' : Nat)
    (h : clearV2Many l (s, nw, tg) = .ok (s', nw', tg')) :
    Fr s s' ∧ (∀ u, (u ∈ l ∨ s.uts u = none) → s'.uts u = none) := by
  induction l generalizing s nw tg with
  | nil =>
    simp only [clearV2Many] at h
    cases h
    exact ⟨Fr.refl _, fun u hu => by simpa using hu⟩
  | cons a rest ih =>
    simp only [clearV2Many] at h
    split at h
    · cases h
    · obtain ⟨f, hu⟩ := ih _ _ _ h
      refine ⟨⟨f.blacklist, f.variant, f.range⟩, ?_⟩
      intro u hu'
      apply hu
      by_cases hua : u = a
      · right; simp [hua]
      · rcases hu' with hm | hn
        · rcases List.mem_cons.1 hm with e | hm
          · exact absurd e hua
          · exact Or.inl hm
        · right; simp only [upd_apply, hua, if_false]; exact hn

theorem restoreV2Many_frame (l : List Nat) (s : State) (nw tg : Nat) (s' : State) (nw' tg' : Nat)
    (h : restoreV2Many l (s, nw, tg) = .ok (s', nw', tg')) :
    Fr s s' ∧ (∀ u, u ∉ l → s'.uts u = s.uts u) := by
  induction l generalizing s nw tg with
  | nil =>
    simp only [restoreV2Many] at h
    cases h
    exact ⟨Fr.refl _, fun _ _ => rfl⟩
  | cons a rest ih =>
    have hrest : ∀ {u}, u ∉ a :: rest → u ∉ rest := fun hn hm => hn (List.mem_cons_of_mem _ hm)
    rw [restoreV2Many_cons] at h
    by_cases hr : (s.range a).isNone
    · rw [if_pos hr] at h
      obtain ⟨f, hu⟩ := ih _ _ _ h
      exact ⟨f, fun u hn => hu u (hrest hn)⟩
    · rw [if_neg hr] at h
      obtain ⟨f, hu⟩ := ih _ _ _ (ok_of_guard h).2
      refine ⟨⟨f.blacklist, f.variant, f.range⟩, fun u hn => ?_⟩
      rw [hu u (hrest hn)]
      exact upd_other _ _ _ _ (fun e => hn (e ▸ List.mem_cons_self ..))

theorem tryCreateTickets_frame {s s1 : State} {buyer n : Nat}
    (h : tryCreateTickets s buyer n = .ok s1) :
    Fr s s1 ∧ s1.uts = s.uts ∧ s.range buyer = none := by
  obtain ⟨hnone, rfl⟩ := (tryCreateTickets_spec s buyer n).of_ok h
  refine ⟨⟨rfl, rfl, fun u hu => ?_⟩, rfl, hnone⟩
  have : u ≠ buyer := by intro e; subst e; simp [hnone] at hu
  exact (congrArg Option.isSome (upd_other _ _ _ _ this)).trans hu

theorem addV2Many_frame (e : Env) (l : List (Nat × Nat × List (Nat × Nat))) (s : State)
    (tw tg uc ta ga : Nat) (r : State × Nat × Nat × Nat × Nat × Nat)
    (h : addV2Many e l (s, tw, tg, uc, ta, ga) = .ok r) :
    Fr s r.1 ∧ (∀ u, (s.range u).isSome = true → r.1.uts u = s.uts u) := by
  induction l generalizing s tw tg uc ta ga with
  | nil =>
    simp only [addV2Many] at h
    cases h
    exact ⟨Fr.refl _, fun _ _ => rfl⟩
  | cons x rest ih =>
    obtain ⟨buyer, n, infos⟩ := x
    rw [addV2Many_cons] at h
    by_cases hn : n = 0
    · rw [if_pos hn] at h; exact ih _ _ _ _ _ _ h
    rw [if_neg hn] at h
    obtain ⟨s1, hs1, h⟩ := (bind_ok_iff _ _ _).1 (ok_of_guard (ok_of_guard (ok_of_guard h).2).2).2
    obtain ⟨f1, hu1, hnone⟩ := tryCreateTickets_frame hs1
    obtain ⟨f, hu⟩ := ih _ _ _ _ _ _ (ok_of_guard (ok_of_guard h).2).2
    refine ⟨f1.trans ⟨f.blacklist, f.variant, f.range⟩, fun u hx => ?_⟩
    have : u ≠ buyer := by intro e; subst e; simp [hnone] at hx
    rw [hu u (f1.range u hx), ← hu1]
    exact upd_other _ _ _ _ this

theorem clearV1Many_frame (l : List Nat) (s : State) (rm tg : Nat) (s' : State) (rm' tg' : Nat)
    (h : clearV1Many l (s, rm, tg) = .ok (s', rm', tg')) : Fr s s' := by
  induction l generalizing s rm tg with
  | nil => simp only [clearV1Many] at h; cases h; exact Fr.refl _
  | cons a rest ih =>
    simp only [clearV1Many] at h
    split at h
    · have f := ih _ _ _ h
      exact ⟨f.blacklist, f.variant, f.range⟩
    split at h
    · cases h
    split at h
    · cases h
    · have f := ih _ _ _ h
      exact ⟨f.blacklist, f.variant, f.range⟩

theorem restoreV1Many_frame (l : List Nat) (s : State) (nw tg : Nat) (s' : State) (nw' tg' : Nat)
    (h : restoreV1Many l (s, nw, tg) = .ok (s', nw', tg')) : Fr s s' := by
  induction l generalizing s nw tg with
  | nil => simp only [restoreV1Many] at h; cases h; exact Fr.refl _
  | cons a rest ih =>
    simp only [restoreV1Many] at h
    split at h
    · exact ih _ _ _ h
    split at h
    · exact ih _ _ _ h
    · have f := ih _ _ _ (ok_of_guard h).2
      exact ⟨f.blacklist, f.variant, f.range⟩

theorem addV1Many_frame (l : List (Nat × Nat × Nat × Bool)) (s : State) (tw tg : Nat)
    (r : State × Nat × Nat) (h : addV1Many l (s, tw, tg) = .ok r) : Fr s r.1 := by
  induction l generalizing s tw tg with
  | nil => simp only [addV1Many] at h; cases h; exact Fr.refl _
  | cons x rest ih =>
    obtain ⟨buyer, staking, energy, migrated⟩ := x
    rw [addV1Many_cons] at h
    obtain ⟨s1, hs1, h⟩ := (bind_ok_iff _ _ _).1 h
    have f := ih _ _ _ (ok_of_guard h).2
    exact (tryCreateTickets_frame hs1).1.trans ⟨f.blacklist, f.variant, f.range⟩

theorem clearGuaranteedV2_frame {s s' : State} {l : List Nat}
    (h : clearGuaranteedV2 s l = .ok s') :
    Fr s s' ∧ (∀ u, (u ∈ l ∨ s.uts u = none) → s'.uts u = none) := by
  obtain ⟨⟨s1, nw, tg⟩, hres, hp⟩ := (bind_ok_iff _ _ _).1 h
  cases hp
  have := clearV2Many_frame _ _ _ _ _ _ _ hres
  exact ⟨this.1.congr rfl rfl rfl, this.2⟩

theorem clearGuaranteedV1_frame {s s' : State} {l : List Nat}
    (h : clearGuaranteedV1 s l = .ok s') : Fr s s' := by
  obtain ⟨⟨s1, nw, tg⟩, hres, hp⟩ := (bind_ok_iff _ _ _).1 h
  cases hp
  exact (clearV1Many_frame _ _ _ _ _ _ _ hres).congr rfl rfl rfl

theorem restoreGuaranteedV2_frame {s s' : State} {l : List Nat}
    (h : restoreGuaranteedV2 s l = .ok s') :
    Fr s s' ∧ (∀ u, u ∉ l → s'.uts u = s.uts u) := by
  obtain ⟨⟨s1, nw, tg⟩, hres, hp⟩ := (bind_ok_iff _ _ _).1 h
  cases hp
  have := restoreV2Many_frame _ _ _ _ _ _ _ hres
  exact ⟨this.1.congr rfl rfl rfl, this.2⟩

theorem restoreGuaranteedV1_frame {s s' : State} {l : List Nat}
    (h : restoreGuaranteedV1 s l = .ok s') : Fr s s' := by
  obtain ⟨⟨s1, nw, tg⟩, hres, hp⟩ := (bind_ok_iff _ _ _).1 h
  cases hp
  exact (restoreV1Many_frame _ _ _ _ _ _ _ hres).congr rfl rfl rfl

theorem addTicketsV1_frame {s s' : State} {e : Env} {l : List (Nat × Nat × Nat × Bool)}
    (h : addTicketsV1 s e l = .ok s') : Fr s s' := by
  obtain ⟨_, _, h⟩ := (bind_ok_iff _ _ _).1 h
  obtain ⟨⟨s1, nw, tg⟩, hres, hp⟩ := (bind_ok_iff _ _ _).1 h
  cases hp
  exact (addV1Many_frame _ _ _ _ _ hres).congr rfl rfl rfl

theorem addTicketsV2_frame {t t' : Tx} {e : Env} {l : List (Nat × Nat × List (Nat × Nat))}
    (h : addTicketsV2 t e l = .ok t') :
    Fr t.s t'.s ∧ (∀ u, (t.s.range u).isSome = true → t'.s.uts u = t.s.uts u) := by
  obtain ⟨_, _, h⟩ := (bind_ok_iff _ _ _).1 h
  obtain ⟨⟨s1, nw, tg, uc, ta, ga⟩, hres, hp⟩ := (bind_ok_iff _ _ _).1 h
  cases hp
  have := addV2Many_frame _ _ _ _ _ _ _ _ _ hres
  exact ⟨this.1.congr rfl rfl rfl, this.2⟩

/-- `GuarInv` plus what the common blacklist module guarantees: a blacklisted user has a
    ticket range and (v2) no live record -/
structure GuarInvX (s : State) : Prop where
  base : GuarInv s.variant.isV2 s
  bl_none : s.variant.isV2 = true → ∀ u, s.blacklist u = true → s.uts u = none
  bl_range : ∀ u, s.blacklist u = true → (s.range u).isSome = true

/-- one successful call: reserve conserved, invariant re-established, same contract variant -/
def RStep (s s' : State) : Prop :=
  s'.nrWinning + s'.totalGuaranteed = s.nrWinning + s.totalGuaranteed ∧ GuarInvX s' ∧
    s'.variant = s.variant

theorem GuarInv_of_GEq {v2 : Bool} {s s' : State} (g : GEq s s') (h : GuarInv v2 s) :
    GuarInv v2 s' := by
  unfold GuarInv at *
  rw [g.whitelist, g.uts, g.blUts, g.range, g.totalGuaranteed]; exact h

theorem GuarInvX_of_GEq {s s' : State} (g : GEq s s') (hb : s'.blacklist = s.blacklist)
    (h : GuarInvX s) : GuarInvX s' := by
  refine ⟨?_, ?_, ?_⟩
  · rw [g.variant]; exact GuarInv_of_GEq g h.base
  · intro hv u hu; rw [g.variant] at hv; rw [hb] at hu; rw [g.uts]; exact h.bl_none hv u hu
  · intro u hu; rw [hb] at hu; rw [g.range]; exact h.bl_range u hu

theorem RStep_of_GEq {s a b : State} (h : RStep s a) (g : GEq a b) (hb : b.blacklist = a.blacklist) :
    RStep s b :=
  ⟨by rw [g.nrWinning, g.totalGuaranteed]; exact h.1, GuarInvX_of_GEq g hb h.2.1,
   g.variant.trans h.2.2⟩

/-- a hook run on `s1`, which agrees with `s0` on what the invariant reads: `s'` is a step from
    `s0` provided the users blacklisted in `s'` had a range in `s0` and (v2) have no record -/
theorem RStep_of_hook {s0 s1 s' : State} {v2 : Bool}
    (hv : s0.variant.isV2 = v2) (g1 : GEq s0 s1) (hc : ReserveStep v2 s1 s') (f : Fr s1 s')
    (hbl : ∀ u, s'.blacklist u = true → (s0.range u).isSome = true)
    (hnone : v2 = true → ∀ u, s'.blacklist u = true → s'.uts u = none) : RStep s0 s' := by
  have hv' : s'.variant.isV2 = v2 := by rw [f.variant, g1.variant, hv]
  refine ⟨?_, ⟨?_, fun hx => hnone (hv' ▸ hx), fun u hu => ?_⟩, f.variant.trans g1.variant⟩
  · rw [hc.1, g1.nrWinning, g1.totalGuaranteed]
  · rw [hv']; exact hc.2
  · exact f.range u (g1.range ▸ hbl u hu)

theorem exec_addTicketsV2 (hash : List Nat → List Nat) (t : Tx) (e : Env)
    (l : List (Nat × Nat × List (Nat × Nat))) (hv : t.s.variant.isV2 = true)
    (h : GuarInvX t.s) :
    SatNP (exec hash t e (.addTicketsV2 l)) (fun t' => RStep t.s t'.s) := by
  show SatNP (addTicketsV2 t e l) _
  refine (addTicketsV2_reserve t e l (hv ▸ h.base)).toNP.mono_ok fun t' hres h1 => ?_
  obtain ⟨f, hu⟩ := addTicketsV2_frame hres
  refine RStep_of_hook hv (GEq.refl _) h1 f (fun u hb => h.bl_range u (f.blacklist ▸ hb))
    fun _ u hb => ?_
  rw [f.blacklist] at hb
  rw [hu u (h.bl_range u hb)]; exact h.bl_none hv u hb

theorem exec_addTicketsV1 (hash : List Nat → List Nat) (t : Tx) (e : Env)
    (l : List (Nat × Nat × Nat × Bool)) (hv : t.s.variant.isV2 = false)
    (h : GuarInvX t.s) :
    SatNP (exec hash t e (.addTicketsV1 l)) (fun t' => RStep t.s t'.s) := by
  show SatNP (addTicketsV1 t.s e l >>= fun s => pure (t.setS s)) _
  refine SatNP_bind ((addTicketsV1_reserve t.s e l (hv ▸ h.base)).toNP.mono_ok
    fun s' hres h1 => ?_) fun s' (hs : RStep t.s s') => hs
  have f := addTicketsV1_frame hres
  exact RStep_of_hook hv (GEq.refl _) h1 f (fun u hb => h.bl_range u (f.blacklist ▸ hb))
    (fun hx => nomatch hx)

theorem clearV2_after_blacklist (s0 s1 : State) (l : List Nat) (hv : s0.variant.isV2 = true)
    (h : GuarInvX s0) (g1 : GEq s0 s1)
    (b1 : ∀ u, s1.blacklist u = true ↔ (s0.blacklist u = true ∨ u ∈ l))
    (r1 : ∀ u ∈ l, (s0.range u).isSome = true) :
    ∃ s', clearGuaranteedV2 s1 l = .ok s' ∧ RStep s0 s' := by
  obtain ⟨s', hok, hc⟩ := clearGuaranteedV2_reserve s1 l (GuarInv_of_GEq g1 (hv ▸ h.base))
  obtain ⟨f, hu⟩ := clearGuaranteedV2_frame hok
  refine ⟨s', hok, RStep_of_hook hv g1 hc f
    (fun u hb => ((b1 u).1 (f.blacklist ▸ hb)).elim (h.bl_range u) (r1 u)) fun _ u hb => hu u ?_⟩
  rcases (b1 u).1 (f.blacklist ▸ hb) with ho | hm
  · right; rw [g1.uts]; exact h.bl_none hv u ho
  · exact Or.inl hm

theorem clearV1_after_blacklist (s0 s1 : State) (l : List Nat) (hv : s0.variant.isV2 = false)
    (h : GuarInvX s0) (g1 : GEq s0 s1)
    (b1 : ∀ u, s1.blacklist u = true ↔ (s0.blacklist u = true ∨ u ∈ l))
    (r1 : ∀ u ∈ l, (s0.range u).isSome = true) :
    ∃ s', clearGuaranteedV1 s1 l = .ok s' ∧ RStep s0 s' := by
  obtain ⟨s', hok, hc⟩ := clearGuaranteedV1_reserve s1 l (GuarInv_of_GEq g1 (hv ▸ h.base))
  have f := clearGuaranteedV1_frame hok
  exact ⟨s', hok, RStep_of_hook hv g1 hc f
    (fun u hb => ((b1 u).1 (f.blacklist ▸ hb)).elim (h.bl_range u) (r1 u)) (fun hx => nomatch hx)⟩

theorem noClear_after_blacklist (s0 s1 : State) (l : List Nat) (hv : s0.variant.isV2 = false)
    (h : GuarInvX s0) (g1 : GEq s0 s1)
    (b1 : ∀ u, s1.blacklist u = true ↔ (s0.blacklist u = true ∨ u ∈ l))
    (r1 : ∀ u ∈ l, (s0.range u).isSome = true) : RStep s0 s1 :=
  RStep_of_hook hv g1 ⟨rfl, GuarInv_of_GEq g1 (hv ▸ h.base)⟩ (Fr.refl _)
    (fun u hb => ((b1 u).1 hb).elim (h.bl_range u) (r1 u)) (fun hx => nomatch hx)

theorem exec_blacklist (hash : List Nat → List Nat) (t : Tx) (e : Env) (l : List Nat)
    (h : GuarInvX t.s) :
    SatNP (exec hash t e (.blacklist l)) (fun t' => RStep t.s t'.s) := by
  simp only [exec]
  refine SatNP_bind (addUsersToBlacklist_spec t e l) (fun t1 ⟨g1, b1, r1⟩ => ?_)
  -- after the guaranteed-ticket hook: the NFT refund, then the continuation `K` (the event)
  have tail : ∀ t2 : Tx, RStep t.s t2.s → ∀ K : Tx → Res Tx,
      (∀ t3 : Tx, RStep t.s t3.s → SatNP (K t3) (fun t' => RStep t.s t'.s)) →
      SatNP (if t2.s.variant.hasNft = true then refundNftMany l t2 >>= K else pure t2 >>= K)
        (fun t' => RStep t.s t'.s) := by
    intro t2 h2 K hK
    split
    · exact SatNP_bind ((refundNftMany_spec l t2).mono fun t3 h3 => RStep_of_GEq h2 h3.1 h3.2) hK
    · exact hK t2 h2
  split
  · rename_i hv
    obtain ⟨s', hok, hs⟩ := clearV2_after_blacklist t.s t1.s l (g1.variant ▸ hv) h g1 b1 r1
    rw [hok]
    exact tail (t1.setS s') hs _ fun t3 h3 => by split <;> exact h3
  · rename_i hv
    have hv : t.s.variant.isV2 = false := by simpa [g1.variant] using hv
    split
    · obtain ⟨s', hok, hs⟩ := clearV1_after_blacklist t.s t1.s l hv h g1 b1 r1
      rw [hok]
      exact tail (t1.setS s') hs _ fun t3 h3 => by split <;> exact h3
    · exact tail t1 (noClear_after_blacklist t.s t1.s l hv h g1 b1 r1) _
        fun t3 h3 => by split <;> exact h3

theorem exec_refundUsers (hash : List Nat → List Nat) (t : Tx) (e : Env) (l : List Nat)
    (hv : t.s.variant.isV2 = true) (h : GuarInvX t.s) :
    SatNP (exec hash t e (.refundUsers l)) (fun t' => RStep t.s t'.s) := by
  simp only [exec]
  refine SatNP_bind (addUsersToBlacklist_spec t e l) (fun t1 ⟨g1, b1, r1⟩ => ?_)
  obtain ⟨s', hok, hs⟩ := clearV2_after_blacklist t.s t1.s l hv h g1 b1 r1
  rw [hok]; exact hs

theorem exec_unblacklist (hash : List Nat → List Nat) (t : Tx) (e : Env) (l : List Nat)
    (h : GuarInvX t.s) :
    SatNP (exec hash t e (.unblacklist l)) (fun t' => RStep t.s t'.s) := by
  simp only [exec]
  refine SatNP_bind (removeUsersFromBlacklist_spec t.s e l) (fun s1 ⟨g, nd, hall, hiff⟩ => ?_)
  have hbl : ∀ {s2 : State}, Fr s1 s2 → ∀ u, s2.blacklist u = true → (t.s.range u).isSome = true :=
    fun f u hb => h.bl_range u ((hiff u).1 (f.blacklist ▸ hb)).1
  split
  · rename_i hv
    rw [g.variant] at hv
    have hno : ∀ u ∈ l, s1.uts u = none := by
      intro u hu; rw [g.uts]; exact h.bl_none hv u (hall u hu)
    refine SatNP_bind ((restoreGuaranteedV2_reserve s1 l (GuarInv_of_GEq g (hv ▸ h.base)) nd
      hno).toNP.mono_ok fun s2 hres h1 => ?_) fun s2 (hs : RStep t.s s2) => hs
    obtain ⟨f, hu⟩ := restoreGuaranteedV2_frame hres
    refine RStep_of_hook hv g h1 f (hbl f) fun _ u hb => ?_
    rw [f.blacklist, hiff] at hb
    rw [hu u hb.2, g.uts]; exact h.bl_none hv u hb.1
  · rename_i hv
    have hv : t.s.variant.isV2 = false := by simpa [g.variant] using hv
    refine SatNP_bind ((restoreGuaranteedV1_reserve s1 l (GuarInv_of_GEq g
      (hv ▸ h.base))).toNP.mono_ok fun s2 hres h1 => ?_) fun s2 (hs : RStep t.s s2) => hs
    exact RStep_of_hook hv g h1 (restoreGuaranteedV1_frame hres)
      (hbl (restoreGuaranteedV1_frame hres)) (fun hx => nomatch hx)

/-- the endpoints that touch the guaranteed-ticket reserve before winner selection -/
def isGuarCall : Call → Bool
  | .addTicketsV1 _ | .addTicketsV2 _ | .blacklist _ | .refundUsers _ | .unblacklist _ => true
  | _ => false

theorem v1Alloc_not_isV2 (v : Variant) (h : v.v1Alloc = true) : v.isV2 = false := by
  cases v <;> simp [Variant.v1Alloc, Variant.isV2] at h ⊢

theorem exec_guar_step (hash : List Nat → List Nat) (t : Tx) (e : Env) (c : Call)
    (hc : isGuarCall c = true) (hm : (endpointMeta t.s.variant c).isSome = true)
    (h : GuarInvX t.s) :
    SatNP (exec hash t e c) (fun t' => RStep t.s t'.s) := by
  cases c <;> simp only [isGuarCall, Bool.false_eq_true] at hc
  case addTicketsV1 l =>
    apply exec_addTicketsV1 _ _ _ _ _ h
    exact v1Alloc_not_isV2 _ ((endpointMeta_isSome _ _).symm.trans hm)
  case addTicketsV2 l =>
    exact exec_addTicketsV2 _ _ _ _ ((endpointMeta_isSome _ _).symm.trans hm) h
  case blacklist l => exact exec_blacklist _ _ _ _ h
  case refundUsers l =>
    exact exec_refundUsers _ _ _ _ ((endpointMeta_isSome _ _).symm.trans hm) h
  case unblacklist l => exact exec_unblacklist _ _ _ _ h

theorem GEq_credit (s : State) (e : Env) : GEq s (creditPayments s e) :=
  ⟨rfl, rfl, rfl, rfl, rfl, rfl, rfl⟩

theorem step_guar (hash : List Nat → List Nat) (s : State) (e : Env) (c : Call)
    (hc : isGuarCall c = true) (h : GuarInvX s) :
    SatNP (step hash s e c) (fun r => RStep s r.1) := by
  unfold step
  cases hm : endpointMeta s.variant c with
  | none => intro site hx; cases hx
  | some m =>
    simp only []
    split
    · intro site hx; cases hx
    split
    · intro site hx; cases hx
    have hX : GuarInvX (creditPayments s e) := GuarInvX_of_GEq (GEq_credit s e) rfl h
    have := exec_guar_step hash ⟨creditPayments s e, ⟨e.budget, e.seeds, e.script⟩, {}⟩ e c hc
      (by show (endpointMeta s.variant c).isSome = true; rw [hm]; rfl) hX
    cases hres : exec hash ⟨creditPayments s e, ⟨e.budget, e.seeds, e.script⟩, {}⟩ e c with
    | error err => rw [hres] at this; exact this
    | ok t' => rw [hres] at this; exact this

/-- `step_guar` at an accepted call -/
theorem step_guar_ok {hash : List Nat → List Nat} {s s' : State} {e : Env} {c : Call} {o : Out}
    (hc : isGuarCall c = true) (hX : GuarInvX s) (hs : step hash s e c = .ok (s', o)) : RStep s s' := by
  have := step_guar hash s e c hc hX
  rw [hs] at this
  exact this

theorem run_guar_reserve (hash : List Nat → List Nat) (cs : List (Env × Call)) (s : State)
    (hcs : ∀ ec ∈ cs, isGuarCall ec.2 = true) (h : GuarInvX s) :
    RStep s (run hash s cs) := by
  induction cs generalizing s with
  | nil => exact ⟨rfl, h, rfl⟩
  | cons ec rest ih =>
    obtain ⟨e, c⟩ := ec
    have hstep := step_guar hash s e c (hcs (e, c) (List.mem_cons_self ..)) h
    have hrest : ∀ ec ∈ rest, isGuarCall ec.2 = true :=
      fun ec hm => hcs ec (List.mem_cons_of_mem _ hm)
    simp only [run]
    cases hres : step hash s e c with
    | error err => exact ih s hrest h
    | ok r =>
      obtain ⟨s', o⟩ := r
      rw [hres] at hstep
      have h2 := ih s' hrest hstep.2.1
      exact ⟨h2.1.trans hstep.1, h2.2.1, h2.2.2.trans hstep.2.2⟩

theorem GuarInvX_initial (s : State) (hw : s.whitelist = []) (ht : s.totalGuaranteed = 0)
    (hu : s.uts = fun _ => none) (hr : s.range = fun _ => none)
    (hb : s.blacklist = fun _ => false) : GuarInvX s := by
  refine ⟨?_, ?_, ?_⟩
  · unfold GuarInv
    rw [hw, ht, hu, hr]
    refine ⟨List.nodup_nil, rfl, ?_, ?_, ?_, ?_⟩
    · intro u st hx; cases hx
    · intro u hx; cases hx
    · intro u hx; cases hx
    · intro _ u hx; cases hx
  · intro _ u hx; rw [hb] at hx; cases hx
  · intro u hx; rw [hb] at hx; cases hx

end LP

/-
  Concrete instances: the invariant `GuarInv` is satisfiable, and its fields `has_range`, `bl_pos`
  and the two extra hypotheses of `restoreGuaranteedV2_reserve` are necessary (counterexample
  traces), with the reason why the contract never gets there.
-/
namespace LP

def sBase (v : Variant) : State :=
  { variant := v, owner := 0, lpTok := 1, perTicket := 1, payTok := .egld, price := 1,
    nrWinning := 5, cfg := ⟨5, 10, 15⟩, flags := {}, support := 0 }

def eOwner : Env := { caller := 0, round := 0 }

/-- v2: user 7 holds tickets 1..3 and a guarantee of 2; reserve 3 + 2 = 5 -/
def sLive : State :=
  { (sBase .guarV2) with
    whitelist := [7], totalGuaranteed := 2, nrWinning := 3,
    uts := upd (fun _ => none) 7 (some { a := 3, infos := [(2, 2)] }),
    range := upd (fun _ => none) 7 (some ⟨1, 3⟩), lastTicketId := 3 }

/-- `sLive` with no lottery winner -/
def sEx : State := { sLive with nrWinning := 0 }

theorem sLive_inv : GuarInv true sLive := by
  refine ⟨by decide, by decide, ?_, ?_, ?_, ?_⟩
  · intro u st hu hp
    by_cases h : u = 7
    · simp [sLive, h]
    · simp [sLive, sBase, h] at hu
  · intro u hu
    have : u = 7 := by simpa [sLive] using hu
    subst this
    exact ⟨_, rfl, by decide⟩
  · intro u hu
    by_cases h : u = 7
    · subst h; rfl
    · simp [sLive, sBase, h] at hu
  · intro h; cases h

/-- Hypothesis `∀ u ∈ l, uts u = none` of the v2 restore hook: restoring a user who is NOT
    blacklisted overwrites his live record with the empty one; `totalGuaranteed` stays 2 while
    the whitelist sum drops to 0.  The endpoint excludes it: `removeUsersFromBlacklist` demands
    `blacklist u`, and blacklisted users have no live record (`GuarInvX.bl_none`). -/
theorem ce_restore_live : ∃ s', restoreGuaranteedV2 sLive [7] = .ok s' ∧ s'.whitelist = [7] ∧
    s'.totalGuaranteed = 2 ∧ gSum true s'.uts s'.whitelist = 0 :=
  ⟨_, rfl, rfl, rfl, by decide⟩

/-- v2: user 7 is blacklisted with a stored guarantee of 2 -/
def sBl : State :=
  { (sBase .guarV2) with
    blUts := upd (fun _ => none) 7 (some { a := 3, infos := [(2, 2)] }),
    blacklist := upd (fun _ => false) 7 true,
    range := upd (fun _ => none) 7 (some ⟨1, 3⟩), lastTicketId := 3 }

/-- Hypothesis `l.Nodup` of the v2 restore hook: the second occurrence finds `blUts 7` empty
    and overwrites the restored record: total 2, whitelist sum 0.  The endpoint excludes it:
    the common un-blacklist loop rejects the second occurrence ("User is not blacklisted"). -/
theorem ce_restore_twice : ∃ s', restoreGuaranteedV2 sBl [7, 7] = .ok s' ∧ s'.whitelist = [7] ∧
    s'.nrWinning = 3 ∧ s'.totalGuaranteed = 2 ∧ gSum true s'.uts s'.whitelist = 0 :=
  ⟨_, rfl, rfl, rfl, rfl, by decide⟩

/-- v2: as `sLive` but user 7 has no ticket range (violates `has_range` only) -/
def sNoRange : State :=
  { (sBase .guarV2) with
    whitelist := [7], totalGuaranteed := 2, nrWinning := 3,
    uts := upd (fun _ => none) 7 (some { a := 3, infos := [(2, 2)] }) }

/-- Field `has_range`: the first four fields of `GI` hold in `sNoRange`, yet allocating again
    to user 7 replaces his record: total 2 + 1 = 3 but whitelist sum 1.  Unreachable in the
    contract: a record is only ever created together with a range, and ranges are not removed
    before winner selection. -/
theorem ce_add_whitelisted :
    (addTicketsV2 ⟨sNoRange, {}, {}⟩ eOwner [(7, 1, [(1, 1)])]).map
      (fun t' => (t'.s.whitelist, t'.s.totalGuaranteed, t'.s.nrWinning,
                  gSum true t'.s.uts t'.s.whitelist)) = .ok ([7], 3, 2, 1) := by
  rfl

/-- v1: user 7 has a range but neither a live nor a blacklisted record -/
def sV1 : State :=
  { (sBase .guarV1) with
    range := upd (fun _ => none) 7 (some ⟨1, 1⟩), lastTicketId := 1 }

/-- Field `bl_pos` (v1 only): the v1 restore hook whitelists a user whose stored record is
    empty, i.e. a whitelist member with guarantee 0 (`pos_of_mem` broken).  Unreachable in the
    contract: the v1 variants expose only `addTicketsV1`, which always writes a record, and a
    record disappears only when a positive guarantee is moved to `blUts`. -/
theorem ce_restore_v1_empty : ∃ s', restoreGuaranteedV1 sV1 [7] = .ok s' ∧ s'.whitelist = [7] ∧
    s'.uts 7 = some {} ∧ s'.totalGuaranteed = 0 :=
  ⟨_, rfl, rfl, rfl, rfl⟩

/-- an accepted history for `run`: allocate (guarantee 2), blacklist, un-blacklist; the
    reserve 5 is split 3 + 2, then 5 + 0, then 3 + 2 again (`hist_run`) -/
def hist : List (Env × Call) :=
  [(eOwner, .addTicketsV2 [(7, 3, [(2, 2)]), (8, 1, [])]), (eOwner, .blacklist [7]),
   (eOwner, .unblacklist [7])]

theorem hist_guar : ∀ ec ∈ hist, isGuarCall ec.2 = true := by decide +kernel

theorem sBase_invX : GuarInvX (sBase .guarV2) :=
  GuarInvX_initial _ rfl rfl rfl rfl rfl

theorem hist_run :
    ((run (fun x => x) (sBase .guarV2) (hist.take 1)).nrWinning,
     (run (fun x => x) (sBase .guarV2) (hist.take 1)).totalGuaranteed,
     (run (fun x => x) (sBase .guarV2) (hist.take 2)).nrWinning,
     (run (fun x => x) (sBase .guarV2) (hist.take 2)).totalGuaranteed,
     (run (fun x => x) (sBase .guarV2) hist).nrWinning,
     (run (fun x => x) (sBase .guarV2) hist).totalGuaranteed,
     (run (fun x => x) (sBase .guarV2) hist).whitelist) = (3, 2, 5, 0, 3, 2, [7]) := by
  decide +kernel

end LP
