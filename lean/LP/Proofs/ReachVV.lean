import LP.Proofs.ReachV2Claim
import LP.Props.C17
import LP.Proofs.FieldFrames
import LP.Props.C20
import LP.Proofs.PayOut
import LP.Proofs.VestFam
import LP.Proofs.ReachBEGen
/-
  Exactness of vesting along the reachable histories of `Variant.guarV2` (milestone schedule
  `sched2`; prefix `vv_`).  Beside `WF2` (ReachV2, preserved by `call_WF2`) a second invariant
  `vv_Exact s r` is carried:
    * `settled`: a settled participant's `userClaimed` is exactly the released amount
      `userTotal × unlockedPct2 r' sched / 10000` of the schedule in force (`sched2Of s`: the
      stored milestone list, or the default `[(0, 100 %)]`) at some round `r' ≤ r`;
    * `unset`: a participant who has not settled has `userClaimed = 0` (together:
      `vv_Exact.exact`, the form `0 ∨ exactly released` of C13);
    * `sch`: a stored schedule has at most 60 milestones and was accepted by `validSchedule2 t0`
      at some round `t0 ≤ r` before the confirmation start round (hence non-empty, sorted,
      percentages ≤ 100 %, sum = 100 %);
    * `unit`: every entitlement is a multiple of `perTicket`.
-/
namespace LP
open LP.FY LP.Events

structure vv_Exact (s : State) (r : Nat) : Prop where
  settled : ∀ a, s.claimed a = true →
    ∃ r', r' ≤ r ∧ s.userClaimed a = entitled (s.userTotal a) (unlockedPct2 r' (sched2Of s))
  unset : ∀ a, s.claimed a = false → s.userClaimed a = 0
  sch : ∀ ms, s.sched2 = some ms →
    ms.length ≤ 60 ∧ ∃ t0, t0 ≤ r ∧ t0 < s.cfg.conf ∧ validSchedule2 t0 ms = true
  unit : ∀ a, ∃ k, s.userTotal a = k * s.perTicket

/-- the exactness clause in the form C13 (`claimable2_step`) uses: `0` or exactly the released
    amount at some round `≤ r` -/
theorem vv_Exact.exact {s : State} {r : Nat} (h : vv_Exact s r) (a : Nat) :
    s.userClaimed a = 0 ∨
    ∃ r', r' ≤ r ∧ s.userClaimed a = entitled (s.userTotal a) (unlockedPct2 r' (sched2Of s)) := by
  cases hc : s.claimed a with
  | false => exact Or.inl (h.unset a hc)
  | true => exact Or.inr (h.settled a hc)

theorem vv_Exact.mono {s : State} {r r' : Nat} (h : vv_Exact s r) (hr : r ≤ r') : vv_Exact s r' :=
  ⟨fun a ha => by
     obtain ⟨x, hx, e⟩ := h.settled a ha
     exact ⟨x, by omega, e⟩,
   h.unset,
   fun ms hms => ⟨(h.sch ms hms).1, by
     obtain ⟨t0, h1, h2, h3⟩ := (h.sch ms hms).2
     exact ⟨t0, by omega, h2, h3⟩⟩,
   h.unit⟩

theorem vv_Exact_of_fresh {s : State} {r : Nat}
    (hf : ∀ a, s.userTotal a = 0 ∧ s.userClaimed a = 0 ∧ s.claimed a = false)
    (hsch : ∀ ms, s.sched2 = some ms →
      ms.length ≤ 60 ∧ ∃ t0, t0 ≤ r ∧ t0 < s.cfg.conf ∧ validSchedule2 t0 ms = true) :
    vv_Exact s r :=
  ⟨fun a ha => (by rw [(hf a).2.2] at ha; cases ha), fun a _ => (hf a).2.1, hsch,
    fun a => ⟨0, by rw [(hf a).1, Nat.zero_mul]⟩⟩

theorem vv_init_Exact {a : InitArgs} {e : Env} {s : State} (h : init .guarV2 a e = .ok s) :
    vv_Exact s e.round := by
  obtain ⟨_, rfl⟩ := init_ok h
  exact vv_Exact_of_fresh (fun _ => ⟨rfl, rfl, rfl⟩) (fun ms hms => by cases hms)

theorem vv_valid_props {t0 : Nat} {ms : List (Nat × Nat)} (hv : validSchedule2 t0 ms = true) :
    ms ≠ [] ∧ (∀ m ∈ ms, m.2 ≤ 10000 ∧ t0 ≤ m.1 ∧ m.1 ≤ t0 + 26280000) ∧
    ms.Pairwise (fun a b => a.1 ≤ b.1) ∧ (ms.map (·.2)).sum = 10000 :=
  (v2_schedule_accepted_iff t0 ms).1 hv

theorem sched2Of_none {s : State} (h : s.sched2 = none) : sched2Of s = defaultSchedule2 := by
  unfold sched2Of; rw [h]; rfl

theorem sched2Of_some {s : State} {ms : List (Nat × Nat)} (h : s.sched2 = some ms) :
    sched2Of s = ms := by
  unfold sched2Of; rw [h]; rfl

theorem vv_sched_in_force {s : State} {r : Nat} (hx : vv_Exact s r) :
    (sched2Of s).Pairwise (fun a b => a.1 ≤ b.1) ∧ ((sched2Of s).map (·.2)).sum = 10000 ∧
    sched2Of s ≠ [] ∧
    (∀ now, (∀ m ∈ sched2Of s, m.1 ≤ now) → unlockedPct2 now (sched2Of s) = 10000) := by
  cases hs : s.sched2 with
  | none =>
    rw [sched2Of_none hs]
    exact ⟨defaultSchedule2_sorted, defaultSchedule2_sum, by decide, fun now _ => unlockedPct2_default now⟩
  | some ms =>
    rw [sched2Of_some hs]
    obtain ⟨_, t0, _, _, hv⟩ := hx.sch ms hs
    obtain ⟨k1, _, k3, k4⟩ := vv_valid_props hv
    exact ⟨k3, k4, k1, fun now h => (unlockedPct2_accepted hv).2.1 now h⟩

theorem vv_sched_after_last {s : State} {r : Nat} (hx : vv_Exact s r) (now : Nat)
    (hne : sched2Of s ≠ []) (h : ((sched2Of s).getLast hne).1 ≤ now) :
    unlockedPct2 now (sched2Of s) = 10000 := by
  obtain ⟨k1, _, _, k4⟩ := vv_sched_in_force hx
  exact k4 now (fun m hm => Nat.le_trans (roundsSorted_le_last _ k1 hne m hm) h)

/-- the vesting ledger `LPI` (both contracts with vesting): an unsettled participant has no record;
    nobody is booked more than his entitlement -/
theorem LPI.records {g : GCore} {p : LProj} (hl : LPI g p) (a : Nat) :
    (p.claimed a = false → p.userTotal a = 0 ∧ p.userClaimed a = 0) ∧
    p.userClaimed a ≤ p.userTotal a := by
  cases hq : g.core.flags.additional with
  | false =>
    obtain ⟨h1, h2, _⟩ := (hl.pre hq).fresh a
    exact ⟨fun _ => ⟨h1, h2⟩, by rw [h1, h2]; exact Nat.le_refl _⟩
  | true =>
    have hp := hl.post hq
    refine ⟨fun hc => ?_, hp.le a⟩
    have h1 : p.userTotal a = 0 := hp.unclaimed a hc
    exact ⟨h1, Nat.le_zero.mp (h1 ▸ hp.le a)⟩

/-- before the distribution completes nobody has claimed, and a deposit made so far is intact and
    covers the base winners plus the whole reserve -/
theorem LPI.before_distribution {g : GCore} {p : LProj} (hl : LPI g p)
    (hd : g.core.flags.additional = false) :
    (∀ a, p.userTotal a = 0 ∧ p.userClaimed a = 0 ∧ p.claimed a = false) ∧
    (p.deposited = true → p.lpBal = p.totalDeposited ∧
      p.perTicket * (g.core.nrWinning + g.tg) ≤ p.totalDeposited) ∧
    (p.deposited = false → p.lpBal = 0 ∧ ∀ a, g.core.confirmed a = 0) :=
  ⟨(hl.pre hd).fresh, (hl.pre hd).dep, fun hq => ⟨(hl.nodep hq).2.1, (hl.nodep hq).1⟩⟩

theorem vv_records {T0 : Nat} {s : State} {r : Nat} (h : WF2 T0 s r) (a : Nat) :
    (s.claimed a = false → s.userTotal a = 0 ∧ s.userClaimed a = 0) ∧
    s.userClaimed a ≤ s.userTotal a :=
  h.lp.records a

theorem vv_settled_done {T0 : Nat} {s : State} {r : Nat} (h : WF2 T0 s r) {a : Nat}
    (hcl : s.claimed a = true) : AllDone s := by
  have hadd : s.flags.additional = true := by
    cases hq : s.flags.additional with
    | true => rfl
    | false =>
      have := ((h.lp.pre hq).fresh a).2.2
      have this' : s.claimed a = false := this
      rw [hcl] at this'; cases this'
  exact ⟨(v2_phase_F h.phase hadd).d.selected, hadd⟩

theorem vv_pct_le {T0 : Nat} {s : State} {r : Nat} (h : WF2 T0 s r) (now : Nat) :
    unlockedPct2 now (sched2Of s) ≤ 10000 := h.lp.sched now

theorem vv_step_claimed {hash : List Nat → List Nat} {s s' : State} {e : Env} {c : Call} {o : Out}
    (hc : c ≠ .claim) (hs : step hash s e c = .ok (s', o)) : s'.claimed = s.claimed := by
  obtain ⟨m, t, _, _, _, hx, rfl, _⟩ := step_ok_inv hs
  exact exec_claimed_eq hc hx

theorem vv_conf_lower {hash : List Nat → List Nat} {s s' : State} {e : Env} {c : Call} {o : Out}
    (hs : step hash s e c = .ok (s', o)) {t0 : Nat} (h0 : t0 ≤ e.round) (h1 : t0 < s.cfg.conf) :
    t0 < s'.cfg.conf := by
  by_cases hge : s.cfg.conf ≤ e.round
  · rw [conf_frozen_once_reached hs hge]; exact h1
  · rcases step_static_cases hs with ⟨_, hst⟩ | ⟨_, hst⟩
    · rw [static_cfg hst]; exact h1
    · cases c with
      | setConfStart x =>
        rw [hst]
        show t0 < x
        have := (step_gate hs).2
        omega
      | _ => rw [hst]; exact h1

/-- **frame after completion**: only `claimPayment` changes the recorded proceeds (to zero), only
    `claim` the vesting records and the `claimed` flags; terms, flags, schedule and confirmation
    start round are fixed -/
theorem vv_done_frame {T0 : Nat} {hash : List Nat → List Nat} {s s' : State} {e : Env} {c : Call}
    {o : Out} {r : Nat} (h : WF2 T0 s r) (hr : r ≤ e.round) (hd : AllDone s)
    (hs : step hash s e c = .ok (s', o)) :
    s'.price = s.price ∧ s'.perTicket = s.perTicket ∧ s'.lpTok = s.lpTok ∧ s'.flags = s.flags ∧
    s'.sched2 = s.sched2 ∧ s'.cfg.conf = s.cfg.conf ∧
    (s'.claimablePayment = s.claimablePayment ∨ (c = .claimPayment ∧ s'.claimablePayment = 0)) ∧
    (c ≠ .claim → s'.userTotal = s.userTotal ∧ s'.userClaimed = s.userClaimed ∧
      s'.claimed = s.claimed) := by
  have hD : PhD s.core := (v2_phase_F h.phase hd.2).d
  obtain ⟨hc1, hc2⟩ := h.tlStarted hD.started
  have hnotAdd : s.stage e ≠ .addTickets := fun hh => by have := rb_stage_addTickets hh; omega
  obtain ⟨hterms, hsch⟩ := LP.Props.C17.terms_frozen_after_confirmation_starts_all hs hnotAdd
  suffices hmain : s'.flags = s.flags ∧
      (s'.claimablePayment = s.claimablePayment ∨ (c = .claimPayment ∧ s'.claimablePayment = 0)) ∧
      (c ≠ .claim → s'.userTotal = s.userTotal ∧ s'.userClaimed = s.userClaimed ∧
        s'.claimed = s.claimed) from
    ⟨terms_price hterms, terms_perTicket hterms, terms_lpTok hterms, hmain.1, hsch,
      conf_frozen_once_reached hs (by omega), hmain.2⟩
  obtain ⟨hvest, _, hv2, _⟩ := v2_flags h.var
  -- the four kinds of call still accepted, each with its exact effect
  rcases v2_done_calls h.var hd hD.filtered (by omega) (by omega) hs with hc | rfl | rfl | rfl
  · obtain ⟨cfg, pz, sup, rfl, _⟩ := step_admin hc hs
    exact ⟨rfl, Or.inl rfl, fun _ => ⟨rfl, rfl, rfl⟩⟩
  · obtain ⟨m, t, _, _, _, hx, rfl, _⟩ := step_ok_inv hs
    rw [(exec_deposit_s hx).2]
    exact ⟨rfl, Or.inl rfl, fun _ => ⟨rfl, rfl, rfl⟩⟩
  · obtain ⟨t, hx, rfl⟩ := step_np rfl hs
    simp only [exec, rbTx_s, hvest, if_true] at hx
    rcases v2_claimVested_cases hv2 (fun hq => ((vv_records h e.caller).1 hq).1) hx with
      ⟨_, _, _, _, hts⟩ | ⟨_, _, _, _, _, _, _, _, _, _, _, _, hts⟩ <;>
    · rw [hts]; exact ⟨rfl, Or.inl rfl, fun hc => absurd rfl hc⟩
  · obtain ⟨t, hx, rfl⟩ := step_np rfl hs
    rw [(v2_claimPaymentOwn_state hvest h.tokNe hx).2.2.2]
    exact ⟨rfl, Or.inr ⟨rfl, rfl⟩, fun _ => ⟨rfl, rfl, rfl⟩⟩

/-- a call other than `claim` books nothing: afterwards either nobody has a vesting record (the
    distribution is incomplete, or completed by this very call), or records, `perTicket` and
    schedule are unchanged -/
theorem vv_nonclaim_records {T0 : Nat} {hash : List Nat → List Nat} {s s' : State} {e : Env}
    {c : Call} {o : Out} {r : Nat} (h : WF2 T0 s r) (hr : r ≤ e.round) (hok : EnvOK e)
    (hcc : c ≠ .claim) (hs : step hash s e c = .ok (s', o)) :
    (∀ a, s'.userTotal a = 0 ∧ s'.userClaimed a = 0 ∧ s'.claimed a = false) ∨
    (s'.userTotal = s.userTotal ∧ s'.userClaimed = s.userClaimed ∧ s'.claimed = s.claimed ∧
      s'.perTicket = s.perTicket ∧ s'.sched2 = s.sched2) := by
  have h' : WF2 T0 s' e.round := call_WF2 h hr hok hs
  cases hq' : s'.flags.additional with
  | false => exact Or.inl (h'.lp.pre hq').fresh
  | true =>
    cases hq : s.flags.additional with
    | false =>
      refine Or.inl (fun a => ?_)
      have hca : s'.claimed a = false := by
        rw [vv_step_claimed hcc hs]; exact ((h.lp.pre hq).fresh a).2.2
      exact ⟨((vv_records h' a).1 hca).1, ((vv_records h' a).1 hca).2, hca⟩
    | true =>
      obtain ⟨_, k2, _, _, k5, _, _, k8⟩ :=
        vv_done_frame h hr ⟨(v2_phase_F h.phase hq).d.selected, hq⟩ hs
      obtain ⟨q1, q2, q3⟩ := k8 hcc
      exact Or.inr ⟨q1, q2, q3, k2, k5⟩

end LP

#print axioms LP.vv_init_Exact
#print axioms LP.vv_sched_in_force
#print axioms LP.vv_sched_after_last
#print axioms LP.vv_records
#print axioms LP.vv_done_frame

/-
  The vested claim of `Variant.guarV2` from a well-formed state satisfying `vv_Exact`: what it
  sends and emits (`vv_claim_transfers`, read off `step_xfers` and `step_events`), that the
  caller's booked amount becomes exactly the released part of his entitlement at the round of the
  call and nobody else is touched (`WF2.claimVested`),
  and hence that `vv_Exact` is an invariant of the reachable states (`vv_reach_Exact`).
-/
namespace LP
open LP.FY LP.Events

/-- **path independence at the level of one call** (C13 `claimable2_step`): under the exactness
    clause the booked amount after the call is exactly the released amount at the current round -/
theorem vv_claimable2_exact {s : State} {e : Env} {a c : Nat} (h : claimable2 s e a = .ok c)
    (hinv : s.userClaimed a = 0 ∨
      ∃ r', r' ≤ e.round ∧ s.userClaimed a = entitled (s.userTotal a) (unlockedPct2 r' (sched2Of s))) :
    s.userClaimed a + c = entitled (s.userTotal a) (unlockedPct2 e.round (sched2Of s)) := by
  rcases hinv with h0 | ⟨r', hr', h0⟩
  · exact claimable2_step h (Nat.le_refl _) (by rw [h0]; exact Nat.zero_le _)
  · exact claimable2_step h hr' (by rw [h0]; exact Nat.le_refl _)

/-- an accepted claim from a well-formed state with the exact booking: the instalment
    `claimable2` computes brings the booked amount to the released part of the entitlement
    (`vv_claimable2_exact`, C13), so the cases of `v2_claimVested_cases` are the shape of a vesting
    claim -/
theorem WF2.claimVested {T0 : Nat} {hash : List Nat → List Nat} {s s' : State} {e : Env} {o : Out}
    {r : Nat} (h : WF2 T0 s r) (hx : vv_Exact s r) (hr : r ≤ e.round)
    (hs : step hash s e .claim = .ok (s', o)) : ClaimVested s e s' := by
  refine ClaimShape.claimVested ?_
  obtain ⟨hvest, _, hv2, _⟩ := v2_flags h.var
  rw [pctOf_v2 hv2]
  obtain ⟨t, hxx, rfl⟩ := step_np rfl hs
  simp only [exec, rbTx_s, hvest, if_true] at hxx
  have hne : Token.esdt s.lpTok ≠ s.payTok := fun hh => h.tokNe hh.symm
  rcases v2_claimVested_cases hv2 (fun hq => ((vv_records h e.caller).1 hq).1) hxx with
    ⟨hcl, c, hcl1, hcle, hts⟩ | ⟨hcl, _, rg, B, c, hrg, _, _, hBo, _, hcl1, hcle, hts⟩
  · exact ⟨c, hcle, .inl ⟨hcl, vv_claimable2_exact hcl1 ((hx.mono hr).exact e.caller), hts⟩⟩
  · have huc0 : s.userClaimed e.caller = 0 := ((vv_records h e.caller).1 hcl).2
    rw [hBo _ _ hne] at hcle
    -- nothing was booked before, so the instalment is the whole released part
    have hex : s.userClaimed e.caller + c
        = entitled (upd s.userTotal e.caller (redeemOf s rg * s.perTicket) e.caller)
            (unlockedPct2 e.round (sched2Of s)) :=
      vv_claimable2_exact hcl1 (Or.inl huc0)
    rw [upd_same] at hex
    exact ⟨c, hcle, .inr ⟨hcl, huc0, rg, B, hrg, hBo _ _ hne, hex, hts⟩⟩

/-- what the contract sends and emits in an accepted claim, in terms of the booked increment
    `inc = userClaimed' − userClaimed` of the caller: at most one payment-token refund (first claim
    only), then exactly one launchpad-token transfer of `inc` to the caller and one
    `claimLaunchpadTokens` event carrying `inc` iff `inc > 0` -/
theorem vv_claim_transfers {hash : List Nat → List Nat} {s s' : State} {e : Env} {o : Out}
    (hv : s.variant = .guarV2) (hs : step hash s e .claim = .ok (s', o)) :
    ∃ rf, (s.claimed e.caller = true → rf = 0) ∧
      o.xfers = (if rf > 0 then [(e.caller, refundPay s rf)] else []) ++
        (if s'.userClaimed e.caller - s.userClaimed e.caller > 0 then
          [(e.caller, (⟨.esdt s.lpTok, 0, s'.userClaimed e.caller - s.userClaimed e.caller⟩ : Pay))]
          else []) ∧
      o.events = (if rf > 0 then [refundEv s e rf] else []) ++
        (if s'.userClaimed e.caller - s.userClaimed e.caller > 0 then
          [claimEv s e (s'.userClaimed e.caller - s.userClaimed e.caller)] else []) := by
  obtain ⟨hvest, _, hv2, _⟩ := v2_flags hv
  refine ⟨if s.claimed e.caller = false then s.confirmed e.caller - winCount s e.caller else 0,
    fun hcl => by rw [hcl]; rfl, ?_, ?_⟩
  · rw [step_xfers hs, xfersOf, if_pos hvest, claimXfersV, Props.C09.refundXfers]
    congr 1
    cases s.claimed e.caller
    · by_cases hz : s.confirmed e.caller - winCount s e.caller = 0 <;> simp [hz, refundPay]
    · simp
  · rw [step_events hs, eventsOf, claimEvents, refundEvents, releaseEvents]
    congr 1
    · cases s.claimed e.caller <;> simp
    · simp [hv2]

theorem vv_sched2Of_congr {s s' : State} (h : s'.sched2 = s.sched2) : sched2Of s' = sched2Of s := by
  unfold sched2Of; rw [h]

theorem vv_claim_Exact {T0 : Nat} {hash : List Nat → List Nat} {s s' : State} {e : Env} {o : Out}
    {r : Nat} (h : WF2 T0 s r) (hx : vv_Exact s r) (hr : r ≤ e.round)
    (hs : step hash s e .claim = .ok (s', o)) : vv_Exact s' e.round := by
  have j := h.claimVested hx hr hs
  obtain ⟨_, j1, j4, j2, _⟩ := claim_static hs
  have j5 := j.booked
  rw [pctOf_v2 (v2_flags h.var).2.2.1] at j5
  have j8 := j.others
  have j9 := j.settled
  have j10 := j.again
  have j11 := j.first
  have hsc := vv_sched2Of_congr j1
  have hxm := hx.mono hr
  refine ⟨fun a hca => ?_, fun a hca => ?_, fun ms hms => ?_, fun a => ?_⟩
  · by_cases ha : a = e.caller
    · rw [ha]
      exact ⟨e.round, Nat.le_refl _, by rw [hsc]; exact j5⟩
    · obtain ⟨q1, q2, q3⟩ := j8 a ha
      rw [q3] at hca
      rw [q1, q2, hsc]; exact hxm.settled a hca
  · by_cases ha : a = e.caller
    · rw [ha, j9] at hca; cases hca
    · obtain ⟨q1, _, q3⟩ := j8 a ha
      rw [q3] at hca
      rw [q1]; exact hx.unset a hca
  · rw [j1] at hms
    rw [j4]; exact hxm.sch ms hms
  · by_cases ha : a = e.caller
    · rw [ha]
      cases hcl : s.claimed e.caller with
      | true => rw [j10 hcl, j2]; exact hx.unit e.caller
      | false => exact ⟨winCountOf s e.caller, by rw [(j11 hcl).1, j2]⟩
    · rw [(j8 a ha).2.1, j2]; exact hx.unit a

theorem vv_call_Exact {T0 : Nat} {hash : List Nat → List Nat} {s s' : State} {e : Env} {c : Call}
    {o : Out} {r : Nat} (h : WF2 T0 s r) (hx : vv_Exact s r) (hr : r ≤ e.round) (hok : EnvOK e)
    (hs : step hash s e c = .ok (s', o)) : vv_Exact s' e.round := by
  have hxm := hx.mono hr
  have hsch : ∀ ms, s'.sched2 = some ms →
      ms.length ≤ 60 ∧ ∃ t0, t0 ≤ e.round ∧ t0 < s'.cfg.conf ∧ validSchedule2 t0 ms = true := by
    intro ms hms
    by_cases hc : ∃ l, c = .setSchedule2 l
    · obtain ⟨l, rfl⟩ := hc
      obtain ⟨m, t, _, _, _, hxx, rfl, _⟩ := step_ok_inv hs
      simp only [exec] at hxx
      obtain ⟨k1, k2, k3, rfl⟩ := (setSchedule2_eq_ok _ _ _ _).mp hxx
      have hml : l = ms := by
        have : some l = some ms := hms
        injection this
      subst hml
      have hlt : e.round < s.cfg.conf := rb_stage_addTickets (s := s) k1
      exact ⟨k2, e.round, Nat.le_refl _, hlt, k3⟩
    · have hs2 : s'.sched2 = s.sched2 := sched2_frame hs (fun l hl => hc ⟨l, hl⟩)
      rw [hs2] at hms
      obtain ⟨q1, t0, q2, q3, q4⟩ := hxm.sch ms hms
      exact ⟨q1, t0, q2, vv_conf_lower hs q2 q3, q4⟩
  by_cases hcc : c = .claim
  · subst hcc; exact vv_claim_Exact h hx hr hs
  rcases vv_nonclaim_records h hr hok hcc hs with hf | ⟨q1, q2, q3, k2, k5⟩
  · exact vv_Exact_of_fresh hf hsch
  · refine ⟨fun a hca => ?_, fun a hca => ?_, hsch, fun a => ?_⟩
    · rw [q3] at hca
      rw [q1, q2, vv_sched2Of_congr k5]; exact hxm.settled a hca
    · rw [q3] at hca
      rw [q2]; exact hx.unset a hca
    · rw [q1, k2]; exact hx.unit a

theorem vv_reach_Exact {hash : List Nat → List Nat} {a0 : InitArgs} {s : State} {r : Nat}
    (h : ReachA hash .guarV2 a0 s r) : vv_Exact s r := by
  induction h with
  | init e s h => exact vv_init_Exact h
  | call s r e c s' o hprev h1 h2 _ h4 ih => exact vv_call_Exact (reach_WF2 hprev) ih h1 h2 h4
  | wait s r r' _ h1 ih => exact ih.mono h1

end LP

#print axioms LP.vv_claim_transfers
#print axioms LP.vv_call_Exact
#print axioms LP.vv_reach_Exact

/-
  The continuation relation `vv_Later` with its bridge to `be_Later`; `vv_lp_exact`, the
  launchpad-token ledger in closed form (from `LPost.exact_with`).  What holds along such
  histories (settlement is final, path independence) is proved over `be_Later` for both vesting
  contracts in VestFam.
-/
namespace LP
open LP.FY LP.Events

/-- `vv_Later hash s r s2 r2`: `s2` (at round `r2`) is reached from `s` (at round `r`) by accepted
    calls with non-decreasing rounds and by the passing of time -/
inductive vv_Later (hash : List Nat → List Nat) (s : State) (r : Nat) : State → Nat → Prop
  | refl : vv_Later hash s r s r
  | call (s1 : State) (r1 : Nat) (e : Env) (c : Call) (s2 : State) (o : Out) :
      vv_Later hash s r s1 r1 → r1 ≤ e.round → EnvOK e → CallOK c →
      step hash s1 e c = .ok (s2, o) → vv_Later hash s r s2 e.round
  | wait (s1 : State) (r1 r2 : Nat) : vv_Later hash s r s1 r1 → r1 ≤ r2 → vv_Later hash s r s1 r2

theorem vv_later_iff {hash : List Nat → List Nat} {s s2 : State} {r r2 : Nat} :
    vv_Later hash s r s2 r2 ↔ be_Later (fun e c => EnvOK e ∧ CallOK c) hash s r s2 r2 := by
  constructor <;> intro h
  · induction h with
    | refl => exact .refl
    | call s1 r1 e c s2 o _ h1 h2 h3 h4 ih => exact .call s1 r1 e c s2 o ih h1 ⟨h2, h3⟩ h4
    | wait s1 r1 r2 _ h1 ih => exact .wait s1 r1 r2 ih h1
  · induction h with
    | refl => exact .refl
    | call s1 r1 e c s2 o _ h1 h2 h3 ih => exact .call s1 r1 e c s2 o ih h1 h2.1 h2.2 h3
    | wait s1 r1 r2 _ h1 ih => exact .wait s1 r1 r2 ih h1

/-- a settled participant has settled in the claim stage, hence after the confirmation start round -/
theorem vv_settled_conf {T0 : Nat} {s : State} {r : Nat} (h : WF2 T0 s r) {a : Nat}
    (hcl : s.claimed a = true) : s.cfg.conf ≤ r := by
  have hd := vv_settled_done h hcl
  have hst : s.flags.started = true := (v2_phase_F h.phase hd.2).d.started
  exact (h.tlStarted hst).1

theorem vv_lp_exact {T0 : Nat} {s : State} {r : Nat} (h : WF2 T0 s r) (hd : AllDone s) :
    ∃ L : List Nat, L.Nodup ∧ (∀ x, x ∉ L → s.userTotal x = 0 ∧ s.userClaimed x = 0) ∧
      s.bal (.esdt s.lpTok) 0 = ownSurplus s + s.perTicket * s.nrWinning
        + sumOver (fun x => s.userTotal x - s.userClaimed x) L := by
  obtain ⟨L, _, h2, h3, h4⟩ := vv_lp_exact_with h hd 0
  exact ⟨L, h2, h3, h4⟩

end LP

#print axioms LP.vv_lp_exact
