import LP.Proofs.Resume
import LP.Proofs.Footprint
/-
  The five gas-resumable endpoints (`filter`, `select`, `distribute`, `selectNft`, `secondary`)
  report the same way: an accepted call either completes its step — returns `[0]`, sets the step's
  flag, leaves no saved operation — or is interrupted — returns `[1]`, leaves the flag clear and
  a saved operation (`op ≠ .none`; which cursor it holds is not said here).  `step_loop_outcome`
  says it once, for any state; the flag is clear before the call (a gate of every one of them).
-/
namespace LP

/-- the flag a resumable endpoint sets when it completes its step -/
def Call.doneFlag : Call → Option (Flags → Bool)
  | .filter => some (·.filtered)
  | .select => some (·.selected)
  | .distribute | .selectNft | .secondary => some (·.additional)
  | _ => none

/-- one accepted call of a resumable endpoint with flag `f`, from `s` to `s'` with output `o` -/
structure LoopOutcome (f : Flags → Bool) (s s' : State) (o : Out) : Prop where
  before : f s.flags = false
  cases : (o.ret = [0] ∧ f s'.flags = true ∧ s'.op = .none) ∨
    (o.ret = [1] ∧ f s'.flags = false ∧ s'.op ≠ .none)

namespace LoopOutcome
variable {f : Flags → Bool} {s s' : State} {o : Out}

theorem completed_iff (h : LoopOutcome f s s' o) : f s'.flags = true ↔ o.ret = [0] := by
  rcases h.cases with ⟨h1, h2, _⟩ | ⟨h1, h2, _⟩
  · exact ⟨fun _ => h1, fun _ => h2⟩
  · exact ⟨fun hq => absurd (h2.symm.trans hq) nofun, fun hq => absurd (h1.symm.trans hq) (by decide)⟩

theorem ret (h : LoopOutcome f s s' o) :
    (o.ret = [0] ∧ f s'.flags = true) ∨ (o.ret = [1] ∧ f s'.flags = false) :=
  h.cases.imp (fun h => ⟨h.1, h.2.1⟩) (fun h => ⟨h.1, h.2.1⟩)

end LoopOutcome

variable {hash : List Nat → List Nat} {t t' : Tx} {e : Env}

theorem filterTickets_outcome (h : filterTickets t e = .ok t') :
    LoopOutcome (·.filtered) t.s t'.s t'.o := by
  refine ⟨(filterTickets_ok_cases t t' e h).1.notFiltered, ?_⟩
  obtain ⟨h1, _, h3, h4⟩ | ⟨h1, _, h3, _, f, r, h5⟩ := Events.filterTickets_out h
  · exact .inl ⟨h1, h3, h4⟩
  · exact .inr ⟨h1, h3, by rw [h5]; nofun⟩

theorem selectWinners_outcome (h : selectWinners hash t e = .ok t') :
    LoopOutcome (·.selected) t.s t'.s t'.o := by
  have hp := (selectWinners_ok_cases hash t t' e h).1.notSelected
  refine ⟨hp, ?_⟩
  obtain ⟨_, _, ⟨h1, _, _, h4, h5⟩ | ⟨h1, _, h3, _, r, p, h5⟩⟩ := Events.selectWinners_out h
  · exact .inl ⟨h1, h4, h5⟩
  · exact .inr ⟨h1, by show t'.s.flags.selected = false; rw [h3]; exact hp, by rw [h5]; nofun⟩

theorem distribute_outcome (h : distribute hash t e = .ok t') :
    LoopOutcome (·.additional) t.s t'.s t'.o := by
  have hp := (distribute_ok_cases hash t t' e h).1.notDone
  refine ⟨hp, ?_⟩
  obtain ⟨_, ⟨h1, h2, h3, _⟩ | ⟨h1, _, h3, _, _, g, h5⟩⟩ := Events.distribute_out h
  · exact .inl ⟨h1, h2, h3⟩
  · exact .inr ⟨h1, by show t'.s.flags.additional = false; rw [h3]; exact hp, by rw [h5]; nofun⟩

theorem selectNft_outcome (h : selectNft hash t e = .ok t') :
    LoopOutcome (·.additional) t.s t'.s t'.o := by
  obtain ⟨hp, r, y, b, _, ⟨_, h2, h3, _⟩ | ⟨_, h2, h3, _⟩⟩ := selectNft_ok_cases hash t t' e h
  · exact ⟨hp.notDone, .inr ⟨h3, by rw [h2]; exact hp.notDone, by rw [h2]; nofun⟩⟩
  · exact ⟨hp.notDone, .inl ⟨h3, by rw [h2]; rfl, by rw [h2]; rfl⟩⟩

theorem secondary_outcome (h : secondary hash t e = .ok t') :
    LoopOutcome (·.additional) t.s t'.s t'.o := by
  obtain ⟨hp, cur, _, h⟩ := (secondary_iff hash t t' e).mp h
  refine ⟨hp.notDone, ?_⟩
  obtain ⟨m, h1, h2⟩ := (bind_ok_iff _ _ _).mp h
  -- the NFT stage, from a record whose flags are those of `t`
  have nft : ∀ (t2 : Tx) (r : Rng), t2.s.flags = t.s.flags →
      (nftSubstep hash t2 r >>= secNftFinish) = .ok t' →
      (t'.o.ret = [0] ∧ t'.s.flags.additional = true ∧ t'.s.op = .none) ∨
      (t'.o.ret = [1] ∧ t'.s.flags.additional = false ∧ t'.s.op ≠ .none) := by
    intro t2 r hfl hh
    obtain ⟨⟨t3, r3, st⟩, h3, h4⟩ := (bind_ok_iff _ _ _).mp hh
    have hop := nftSubstep_completed_op hash t2 t3 r r3
    obtain ⟨py, w, op, cn, c, d, rfl⟩ := nftSubstep_fp h3
    cases st with
    | completed => cases h4; exact .inl ⟨rfl, rfl, hop h3⟩
    | interrupted =>
      cases h4
      exact .inr ⟨rfl, by show t2.s.flags.additional = false; rw [hfl]; exact hp.notDone, nofun⟩
    | outOfFuel =>
      cases h4
      exact .inr ⟨rfl, by show t2.s.flags.additional = false; rw [hfl]; exact hp.notDone, nofun⟩
  cases cur with
  | nft r =>
    cases h1
    exact nft _ r (by rw [selTxOf_s]) h2
  | guar g =>
    simp only [secStage1] at h1
    cases hsub : guaranteedSubstep hash (selTxOf t) g with
    | error err => rw [hsub] at h1; cases h1
    | ok q =>
      obtain ⟨t1, g1, st⟩ := q
      rw [hsub] at h1
      cases h1
      obtain ⟨wl, st', p, op, c, d, rfl⟩ := guaranteedSubstep_fp hsub
      cases st with
      | completed => exact nft _ _ (by simp only [Tx.freshRng_s, Tx.setS, creditAdditional, selTxOf_s]) h2
      | interrupted =>
        cases h2
        exact .inr ⟨rfl, by show (selTxOf t).s.flags.additional = false; rw [selTxOf_s]; exact hp.notDone, nofun⟩
      | outOfFuel =>
        cases h2
        exact .inr ⟨rfl, by show (selTxOf t).s.flags.additional = false; rw [selTxOf_s]; exact hp.notDone, nofun⟩

/-- **one accepted call of a resumable endpoint, in any state** -/
theorem step_loop_outcome {s s' : State} {c : Call} {o : Out} {f : Flags → Bool}
    (hc : c.doneFlag = some f) (hs : step hash s e c = .ok (s', o)) : LoopOutcome f s s' o := by
  cases c <;> cases hc <;> obtain ⟨t, hx, rfl, rfl⟩ := step_np_out rfl hs
  · exact filterTickets_outcome hx
  · exact selectWinners_outcome hx
  · exact distribute_outcome hx
  · exact selectNft_outcome hx
  · exact secondary_outcome hx

end LP
