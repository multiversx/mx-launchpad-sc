import LP.Proofs.Reserve
/-
  The first loop of the distribution step (`guarBody`).  An iteration touches flags only inside the
  range of the user it serves; so whatever holds outside all ranges is framed, and the number of
  flags in `1..last` grows with `additional` as long as the ranges lie inside `1..last`.
-/
namespace LP
open LP.FY

def FlagsIn (last : Nat) (status : Nat → Bool) : Prop := ∀ t, status t = true → 1 ≤ t ∧ t ≤ last

def RangeIn (last : Nat) (r : Range) : Prop := 1 ≤ r.first ∧ r.first + rangeLen r ≤ last + 1

theorem FlagsIn.frame {last : Nat} {st st' : Nat → Bool} (P : Range → Prop)
    (hP : ∀ r, P r → RangeIn last r)
    (hout : ∀ t, (∀ r, P r → t < r.first ∨ r.first + rangeLen r ≤ t) → st' t = st t)
    (h : FlagsIn last st) : FlagsIn last st' := by
  intro t ht
  by_cases hc : 1 ≤ t ∧ t ≤ last
  · exact hc
  · rw [hout t (fun r hr => by have := hP r hr; unfold RangeIn at this; omega)] at ht
    exact h t ht

theorem FY.R.flagsIn {n k : Nat} {st : Nat → Bool} {pi : Nat → Nat} {arr : List Nat}
    (h : R n (k + 1) st pi arr) : FlagsIn n st := h.inside

/-- the range may be absent -/
theorem processGuaranteed_any (status : Nat → Bool) (range : Option Range) (g : Nat) :
    (processGuaranteed status range g).2.1 + (processGuaranteed status range g).2.2 = g ∧
    (∀ t, (∀ r, range = some r → t < r.first ∨ r.first + rangeLen r ≤ t) →
      (processGuaranteed status range g).1 t = status t) ∧
    (∀ t, status t = true → (processGuaranteed status range g).1 t = true) ∧
    (∀ last, (∀ r, range = some r → RangeIn last r) →
      countTrue (processGuaranteed status range g).1 last =
        countTrue status last + (processGuaranteed status range g).2.2) := by
  cases range with
  | none => exact ⟨rfl, fun _ _ => rfl, fun _ h => h, fun _ _ => rfl⟩
  | some r =>
    obtain ⟨h1, h2, _, _, h5, h6⟩ := processGuaranteed_some_general status r g
    refine ⟨h1, fun t ht => h5 t (ht r rfl), h6, fun last hr => ?_⟩
    have := countTrue_window status _ r.first (rangeLen r) last (hr r rfl).1 (hr r rfl).2 h5
    omega

theorem calc_sum (s : State) (st : UTS) (conf : Nat) :
    (if s.variant.isV2 = true then calcV2 st.infos conf else calcV1 st conf s.minConfirmed).1 +
      (if s.variant.isV2 = true then calcV2 st.infos conf else calcV1 st conf s.minConfirmed).2 =
    gOf s.variant.isV2 st := by
  cases s.variant.isV2
  · exact calcV1_sum _ _ _
  · exact calcV2_sum _ _

/-- what a continuing iteration that serves `u` does to the loop state -/
structure GuarStep (s : State) (x : GSt) (u : Nat) (x' : GSt) : Prop where
  whitelist : x'.whitelist = (swapRemove x.whitelist u).1
  length : x'.whitelist.length + 1 = x.whitelist.length
  usersLeft : x'.usersLeft = x.usersLeft - 1
  sum : x'.leftover + x'.additional =
    x.leftover + x.additional + gOf s.variant.isV2 ((s.uts u).getD {})
  outside : ∀ t, (∀ r, s.range u = some r → t < r.first ∨ r.first + rangeLen r ≤ t) →
    x'.status t = x.status t
  mono : ∀ t, x.status t = true → x'.status t = true
  add_le : x.additional ≤ x'.additional
  count : ∀ last, (∀ r, s.range u = some r → RangeIn last r) →
    countTrue x'.status last + x.additional = countTrue x.status last + x'.additional

theorem guarBody_cons (s : State) (x : GSt) (u : Nat) (rest : List Nat)
    (hwl : x.whitelist = u :: rest) (hul : x.usersLeft ≠ 0) :
    ∃ x', guarBody s x = .ok (x', true) ∧ GuarStep s x u x' := by
  obtain ⟨wl, ul, status, lo, add⟩ := x
  simp only at hwl hul
  subst hwl
  have hlen : (swapRemove (u :: rest) u).1.length + 1 = (u :: rest).length :=
    swapRemove_length (List.mem_cons_self ..)
  unfold guarBody
  simp only [hul, if_false]
  cases huts : s.uts u with
  | none =>
    exact ⟨_, rfl, rfl, hlen, rfl, by simp [huts], fun _ _ => rfl, fun _ h => h, Nat.le_refl _,
      fun _ _ => rfl⟩
  | some st =>
    simp only
    have hsum := calc_sum s st (s.confirmed u)
    generalize (if s.variant.isV2 = true then calcV2 st.infos (s.confirmed u)
          else calcV1 st (s.confirmed u) s.minConfirmed) = p at hsum
    obtain ⟨g, l⟩ := p
    simp only at hsum ⊢
    split
    · obtain ⟨h1, h2, h3, h4⟩ := processGuaranteed_any status (s.range u) g
      generalize processGuaranteed status (s.range u) g = q at h1 h2 h3 h4
      obtain ⟨st', lo', add'⟩ := q
      simp only at h1 h2 h3 h4 ⊢
      exact ⟨_, rfl, rfl, hlen, rfl, by simp only [huts, Option.getD_some]; omega, h2, h3,
        by simp only; omega,
        fun last hr => by simp only; rw [h4 last hr]; omega⟩
    · exact ⟨_, rfl, rfl, hlen, rfl, by simp only [huts, Option.getD_some]; omega, fun _ _ => rfl,
        fun _ h => h, Nat.le_refl _, fun _ _ => rfl⟩

theorem guarBody_stop (s : State) (x : GSt) (h : x.usersLeft = 0) :
    guarBody s x = .ok (x, false) := by
  unfold guarBody
  rw [if_pos h]

/-- the two accepted outcomes of an iteration: STOP on an exhausted counter, leaving the state as
    it is, or CONTINUE after serving the head of the work list -/
theorem guarBody_ok {s : State} {x x' : GSt} {c : Bool} (h : guarBody s x = .ok (x', c)) :
    (c = false ∧ x.usersLeft = 0 ∧ x' = x) ∨
    (c = true ∧ x.usersLeft ≠ 0 ∧ ∃ u rest, x.whitelist = u :: rest ∧ GuarStep s x u x') := by
  by_cases h0 : x.usersLeft = 0
  · rw [guarBody_stop s x h0] at h
    cases h
    exact .inl ⟨rfl, h0, rfl⟩
  · cases hw : x.whitelist with
    | nil =>
      unfold guarBody at h
      rw [if_neg h0, hw] at h
      cases h
    | cons u rest =>
      obtain ⟨x1, e1, st⟩ := guarBody_cons s x u rest hw h0
      rw [e1] at h
      cases h
      exact .inr ⟨rfl, h0, u, rest, rfl, st⟩

/-- never interrupted, the loop completes within `whitelist.length + 1` iterations, empties the
    work list, and `leftover + additional` grows by the sum of all guarantees -/
theorem guarLoop_run (s : State) (n : Nat) : ∀ (x : GSt) (fuel : Nat),
    x.whitelist.length = n → x.usersLeft = n → fuel ≥ n + 1 →
    ∃ x', runWhile (guarBody s) fuel none x = .ok (x', none, .completed) ∧
      x'.whitelist = [] ∧
      x'.leftover + x'.additional =
        x.leftover + x.additional + gSum s.variant.isV2 s.uts x.whitelist ∧
      (∀ t, (∀ u ∈ x.whitelist, ∀ r, s.range u = some r →
          t < r.first ∨ r.first + rangeLen r ≤ t) → x'.status t = x.status t) ∧
      (∀ t, x.status t = true → x'.status t = true) ∧
      x.additional ≤ x'.additional ∧
      (∀ last, (∀ u ∈ x.whitelist, ∀ r, s.range u = some r → RangeIn last r) →
        countTrue x'.status last + x.additional = countTrue x.status last + x'.additional) := by
  induction n with
  | zero =>
    intro x fuel hl hu hf
    obtain ⟨f, rfl⟩ : ∃ f, fuel = f + 1 := ⟨fuel - 1, by omega⟩
    have hnil : x.whitelist = [] := List.eq_nil_of_length_eq_zero hl
    refine ⟨x, ?_, hnil, by simp [hnil], fun _ _ => rfl, fun _ h => h, Nat.le_refl _,
      fun _ _ => rfl⟩
    simp [runWhile, guarBody, hu]
  | succ n ih =>
    intro x fuel hl hu hf
    obtain ⟨f, rfl⟩ : ∃ f, fuel = f + 1 := ⟨fuel - 1, by omega⟩
    obtain ⟨u, rest, hwl⟩ : ∃ u rest, x.whitelist = u :: rest := by
      cases hq : x.whitelist with
      | nil => rw [hq] at hl; cases hl
      | cons u rest => exact ⟨u, rest, rfl⟩
    obtain ⟨x1, e1, e2, e3, e4, e5, e6, e7, e8, e9⟩ := guarBody_cons s x u rest hwl (by omega)
    obtain ⟨x', f1, f2, f3, f4, f5, f6, f7⟩ := ih x1 f (by omega) (by omega) (by omega)
    have hu : u ∈ x.whitelist := by rw [hwl]; exact List.mem_cons_self ..
    have hsub : ∀ v ∈ x1.whitelist, v ∈ x.whitelist := by
      intro v hv
      rw [e2, (swapRemove_perm _ _).mem_iff] at hv
      exact List.mem_of_mem_erase hv
    refine ⟨x', ?_, f2, ?_, ?_, fun t ht => f5 t (e7 t ht), by omega, ?_⟩
    · simp only [runWhile, e1]; exact f1
    · rw [f3, e5, e2, gSum_perm _ _ (swapRemove_perm _ _), hwl, gSum_cons]
      simp only [List.erase_cons_head]
      omega
    · intro t ht
      rw [f4 t fun v hv => ht v (hsub v hv), e6 t (ht u hu)]
    · intro last hr
      have := f7 last fun v hv => hr v (hsub v hv)
      have := e9 last (hr u hu)
      omega

end LP
