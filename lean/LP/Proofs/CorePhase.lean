import LP.Proofs.ReachWF
import LP.Proofs.Leftover
/-
  The transitions between the phases of the ticket ledger (`Pre`/`PhA`–`PhD`, LP/Proofs/ReachWF.lean),
  stated on the projection `Core`: what an invariant of a particular launchpad adds to the phases
  (its variant, the reserve, the launchpad-token ledger, a different payment balance) stays outside.
  A: allocation and confirmations; `filterTickets` leads from A or B to B (interrupted) or C
  (completed); `selectWinners` stays in C (interrupted) or hands over to the post-selection ledger
  D, in which participants settle.  Then small facts several invariants share, the accepted
  `addTickets`, `confirm` and `deposit` read on the state
  (`step_addTickets`, `step_confirm`, `step_deposit`), and the payment-token ledger read off the
  phases (`ledger_of_phases`, `Settled`).
-/
namespace LP
open LP.FY

/-! ### the allocation list after the filter -/

/-- `Ls` lists the participants with their confirmed tickets, laid out from ticket 1 -/
structure Alloc (c : Core) (Ls : List (Nat × Nat)) : Prop where
  nodup : (Ls.map Prod.fst).Nodup
  conf : ∀ p ∈ Ls, 1 ≤ p.2 ∧ p.2 = c.confirmed p.1
  chain : Chain Ls 1 c.range c.batch
  last : c.lastTicketId = ticketTotal Ls
  out : ∀ a, a ∉ Ls.map Prod.fst → c.range a = none ∧ c.confirmed a = 0
  pay : PayPre c (Ls.map Prod.fst)

/-- the form in which `PhC.alloc` and the distribution phases of the other launchpads carry it -/
theorem Alloc.exists_iff {c : Core} :
    (∃ Ls : List (Nat × Nat), (Ls.map Prod.fst).Nodup ∧
      (∀ p ∈ Ls, 1 ≤ p.2 ∧ p.2 = c.confirmed p.1) ∧ Chain Ls 1 c.range c.batch ∧
      c.lastTicketId = ticketTotal Ls ∧
      (∀ a, a ∉ Ls.map Prod.fst → c.range a = none ∧ c.confirmed a = 0) ∧
      PayPre c (Ls.map Prod.fst)) ↔ ∃ Ls, Alloc c Ls :=
  ⟨fun ⟨Ls, h1, h2, h3, h4, h5, h6⟩ => ⟨Ls, h1, h2, h3, h4, h5, h6⟩,
   fun ⟨Ls, h⟩ => ⟨Ls, h.nodup, h.conf, h.chain, h.last, h.out, h.pay⟩⟩

theorem PhC.Alloc {T : Nat} {c : Core} (h : PhC T c) : ∃ Ls, Alloc c Ls := Alloc.exists_iff.mp h.alloc

theorem Alloc.congr {c c' : Core} {Ls : List (Nat × Nat)} (h : Alloc c Ls)
    (h1 : c'.confirmed = c.confirmed) (h2 : c'.range = c.range) (h3 : c'.batch = c.batch)
    (h4 : c'.lastTicketId = c.lastTicketId) (h5 : c'.price = c.price) (h6 : c'.payBal = c.payBal) :
    Alloc c' Ls := by
  refine ⟨h.nodup, ?_, ?_, ?_, ?_, ?_⟩
  · rw [h1]; exact h.conf
  · rw [h2, h3]; exact h.chain
  · rw [h4]; exact h.last
  · rw [h1, h2]; exact h.out
  · unfold PayPre; rw [h1, h5, h6]; exact h.pay

theorem be_chain_mem {L : List (Nat × Nat)} {first : Nat} {range : Nat → Option Range}
    {batch : Nat → Option Batch} (h : Chain L first range batch) {a : Nat} (ha : a ∈ L.map Prod.fst) :
    ∃ r, range a = some r ∧ first ≤ r.first := by
  induction L generalizing first with
  | nil => cases ha
  | cons p rest ih =>
    obtain ⟨_, h2, h3⟩ := h
    simp only [List.map_cons, List.mem_cons] at ha
    rcases ha with rfl | ha
    · exact ⟨_, h2, Nat.le_refl _⟩
    · obtain ⟨r, hr, hle⟩ := ih h3 ha
      exact ⟨r, hr, by omega⟩

namespace Alloc
variable {c : Core} {Ls : List (Nat × Nat)}

theorem pos (h : Alloc c Ls) : ∀ p ∈ Ls, 1 ≤ p.2 := fun p hp => (h.conf p hp).1

theorem mem (h : Alloc c Ls) {a : Nat} {r : Range} (hr : c.range a = some r) : ∃ p ∈ Ls, p.1 = a := by
  apply Classical.byContradiction
  intro hn
  have : a ∉ Ls.map Prod.fst := fun hin =>
    let ⟨p, hp, hpa⟩ := List.mem_map.mp hin
    hn ⟨p, hp, hpa⟩
  rw [(h.out a this).1] at hr; cases hr

theorem bounds (h : Alloc c Ls) {a : Nat} {r : Range} (hr : c.range a = some r) :
    1 ≤ r.first ∧ r.first ≤ r.last ∧ r.last ≤ c.lastTicketId ∧ r.last + 1 = r.first + c.confirmed a := by
  obtain ⟨p, hp, rfl⟩ := h.mem hr
  obtain ⟨r', hr', h1, h2, h3, h4⟩ := Chain_bounds h.chain h.pos p hp
  rw [hr] at hr'
  injection hr' with hr'
  subst hr'
  rw [h.last]
  exact ⟨h1, h2, by omega, by rw [h4, (h.conf p hp).2]⟩

theorem rngOk (h : Alloc c Ls) (a : Nat) (r : Range) (hr : c.range a = some r) :
    r.first ≤ r.last ∧ r.last + 1 = r.first + c.confirmed a :=
  ⟨(h.bounds hr).2.1, (h.bounds hr).2.2.2⟩

theorem rngNone (h : Alloc c Ls) (a : Nat) (hr : c.range a = none) : c.confirmed a = 0 := by
  by_cases hin : a ∈ Ls.map Prod.fst
  · obtain ⟨rr, hrr, _⟩ := be_chain_mem h.chain hin
    rw [hr] at hrr; cases hrr
  · exact (h.out a hin).2

theorem disj (h : Alloc c Ls) (a b : Nat) (ra rb : Range) (hab : a ≠ b) (hra : c.range a = some ra)
    (hrb : c.range b = some rb) : ra.last < rb.first ∨ rb.last < ra.first := by
  obtain ⟨p, hp, rfl⟩ := h.mem hra
  obtain ⟨q, hq, rfl⟩ := h.mem hrb
  exact Chain_disjoint h.chain h.pos p hp q hq hab ra rb hra hrb

theorem covers (h : Alloc c Ls) (a : Nat) (ha : c.confirmed a ≠ 0) : a ∈ Ls.map Prod.fst :=
  Classical.byContradiction fun hin => ha (h.out a hin).2

end Alloc

/-! ### phase A: confirmations, price and balance change under a fixed allocation list -/

theorem Pre.setLedger {T : Nat} {c : Core} {L0 : List (Nat × Nat)} (hp : Pre T c L0)
    {conf' : Nat → Nat} {pr pb : Nat} (hle : ∀ p ∈ L0, conf' p.1 ≤ p.2)
    (hout : ∀ a, a ∉ L0.map Prod.fst → conf' a = 0)
    (hpay : pb = pr * sumOver conf' (L0.map Prod.fst)) :
    Pre T { c with confirmed := conf', price := pr, payBal := pb } L0 :=
  ⟨hp.notFiltered, hp.notSelected, hp.nrw, hp.status0, hp.pos0, ⟨hp.ok.nodup, hp.ok.pos, hle⟩, hout,
    hp.outR, hpay⟩

theorem PhA.setLedger {c : Core} {L0 : List (Nat × Nat)} (ha : PhA c L0) {conf' : Nat → Nat}
    {pr pb : Nat} : PhA { c with confirmed := conf', price := pr, payBal := pb } L0 :=
  ⟨ha.notStarted, ha.op, ha.chain, ha.last⟩

/-- `confirmTickets`; `hin`, `hout` come from the endpoint's check (`Pre.confirm_bound`) -/
theorem Pre.confirm {T : Nat} {c : Core} {L0 : List (Nat × Nat)} (hp : Pre T c L0) {a n : Nat}
    (hin : ∀ p ∈ L0, p.1 = a → c.confirmed a + n ≤ p.2)
    (hout : a ∉ L0.map Prod.fst → n = 0) :
    Pre T { c with confirmed := upd c.confirmed a (c.confirmed a + n),
                   payBal := c.payBal + c.price * n } L0 := by
  refine hp.setLedger (pr := c.price) ?_ ?_ ?_
  · intro p hp1
    by_cases hpa : p.1 = a
    · rw [hpa, upd_same]; exact hin p hp1 hpa
    · rw [upd_other _ _ _ _ hpa]; exact hp.ok.le p hp1
  · intro b hb
    by_cases hba : b = a
    · subst hba; rw [upd_same, hout hb, hp.outC b hb]
    · rw [upd_other _ _ _ _ hba]; exact hp.outC b hb
  · rw [hp.pay]
    by_cases hmem : a ∈ L0.map Prod.fst
    · have := sumOver_upd_mem c.confirmed (L0.map Prod.fst) a (c.confirmed a + n) hp.ok.nodup hmem
      rw [show sumOver (upd c.confirmed a (c.confirmed a + n)) (L0.map Prod.fst)
          = sumOver c.confirmed (L0.map Prod.fst) + n by omega, Nat.mul_add]
    · rw [sumOver_upd_not_mem _ _ _ _ hmem, hout hmem, Nat.mul_zero, Nat.add_zero]

theorem rb_ticketsFor_chain {s : State} {L : List (Nat × Nat)} (hch : Chain L 1 s.range s.batch)
    (hpos : ∀ p ∈ L, 1 ≤ p.2) {p : Nat × Nat} (hp : p ∈ L) {total : Nat}
    (ht : ticketsFor s p.1 = .ok total) : total = p.2 := by
  obtain ⟨rr, hrr, _, h2, _, h4⟩ := Chain_bounds hch hpos p hp
  unfold ticketsFor at ht
  rw [hrr] at ht
  simp only [csub, if_pos h2, bind, Except.bind, pure, Except.pure, Except.ok.injEq] at ht
  omega

/-- the two hypotheses of `Pre.confirm` from the check `confirmed + n ≤ ticketsFor` of the endpoint -/
theorem Pre.confirm_bound {T : Nat} {s : State} {c : Core} {L0 : List (Nat × Nat)} (hp : Pre T c L0)
    (ha : PhA c L0) (hr : c.range = s.range) (hb : c.batch = s.batch) {a n total : Nat}
    (htix : ticketsFor s a = .ok total) (hle : c.confirmed a + n ≤ total) :
    (∀ p ∈ L0, p.1 = a → c.confirmed a + n ≤ p.2) ∧ (a ∉ L0.map Prod.fst → n = 0) := by
  constructor
  · intro p hp1 hpa
    have hch : Chain L0 1 s.range s.batch := by rw [← hr, ← hb]; exact ha.chain
    have : total = p.2 := rb_ticketsFor_chain hch hp.ok.pos hp1 (by rw [hpa]; exact htix)
    omega
  · intro hnin
    have hrn : s.range a = none := by rw [← hr]; exact hp.outR _ hnin
    unfold ticketsFor at htix
    rw [hrn] at htix
    simp only [Except.ok.injEq] at htix
    omega

theorem rb_sumOver_blacklist (l : List Nat) : ∀ (f : Nat → Nat) (L : List Nat), L.Nodup → l.Nodup →
    (∀ u ∈ l, u ∈ L) →
    sumOver (fun a => if a ∈ l then 0 else f a) L + (l.map f).sum = sumOver f L := by
  induction l with
  | nil => intro f L _ _ _; simp
  | cons u rest ih =>
    intro f L hL hl hsub
    rw [List.nodup_cons] at hl
    have hu : u ∈ L := hsub u (List.mem_cons_self ..)
    have h1 := sumOver_upd_mem f L u 0 hL hu
    have h2 := ih (upd f u 0) L hL hl.2 (fun x hx => hsub x (List.mem_cons_of_mem _ hx))
    have e1 : (fun a => if a ∈ u :: rest then 0 else f a)
        = (fun a => if a ∈ rest then 0 else upd f u 0 a) := by
      funext a
      by_cases hau : a = u
      · subst hau; simp [upd]
      · simp [upd, hau]
    have e2 : (rest.map (upd f u 0)).sum = (rest.map f).sum := by
      congr 1
      apply List.map_congr_left
      intro x hx
      have : x ≠ u := fun hh => hl.1 (hh ▸ hx)
      simp [upd, this]
    rw [e1]
    simp only [List.map_cons, List.sum_cons]
    rw [e2] at h2
    omega

/-- `addUsersToBlacklist` -/
theorem Pre.blacklist {T : Nat} {c : Core} {L0 : List (Nat × Nat)} (hp : Pre T c L0) {l : List Nat}
    (hnd : l.Nodup) (hall : ∀ u ∈ l, (c.range u).isSome = true) :
    Pre T { c with confirmed := fun a => if a ∈ l then 0 else c.confirmed a,
                   payBal := c.payBal - c.price * (l.map c.confirmed).sum } L0 := by
  have hall' : ∀ u ∈ l, u ∈ L0.map Prod.fst := fun u hu =>
    Classical.byContradiction fun hnin => by have := hall u hu; rw [hp.outR u hnin] at this; cases this
  refine hp.setLedger (pr := c.price) ?_ ?_ ?_
  · intro p hp1
    show (if p.1 ∈ l then 0 else c.confirmed p.1) ≤ p.2
    split
    · omega
    · exact hp.ok.le p hp1
  · intro a ha
    show (if a ∈ l then 0 else c.confirmed a) = 0
    split
    · rfl
    · exact hp.outC a ha
  · rw [hp.pay, ← rb_sumOver_blacklist l c.confirmed (L0.map Prod.fst) hp.ok.nodup hnd hall',
      Nat.mul_add, Nat.add_sub_cancel]

/-- the ticket refunds of a blacklisting are covered by the ticket payments -/
theorem Pre.blacklist_le {T : Nat} {c : Core} {L0 : List (Nat × Nat)} (hp : Pre T c L0) {l : List Nat}
    (hnd : l.Nodup) (hall : ∀ u ∈ l, (c.range u).isSome = true) :
    c.price * (l.map c.confirmed).sum ≤ c.payBal := by
  have hall' : ∀ u ∈ l, u ∈ L0.map Prod.fst := fun u hu =>
    Classical.byContradiction fun hnin => by have := hall u hu; rw [hp.outR u hnin] at this; cases this
  rw [hp.pay, ← rb_sumOver_blacklist l c.confirmed (L0.map Prod.fst) hp.ok.nodup hnd hall', Nat.mul_add]
  exact Nat.le_add_left _ _

/-- `setTicketPrice`: nothing is confirmed yet, so any price fits an empty balance -/
theorem Pre.setPrice {T : Nat} {c : Core} {L0 : List (Nat × Nat)} (hp : Pre T c L0)
    (hz : ∀ a, c.confirmed a = 0) (pr : Nat) : Pre T { c with price := pr, payBal := 0 } L0 :=
  hp.setLedger (conf' := c.confirmed) hp.ok.le hp.outC
    (by rw [sumOver_zero _ _ (fun a _ => hz a), Nat.mul_zero])

theorem Pre.payBal_zero {T : Nat} {c : Core} {L0 : List (Nat × Nat)} (hp : Pre T c L0)
    (hz : ∀ a, c.confirmed a = 0) : c.payBal = 0 := by
  rw [hp.pay, sumOver_zero _ _ (fun a _ => hz a), Nat.mul_zero]

/-- `setTicketPrice` (first stage, nothing confirmed): every balance but the launchpad token's is
    zero, so the new payment token's slot is an empty ledger at any price -/
theorem Pre.setTicketPrice {T : Nat} {s : State} {L0 : List (Nat × Nat)} (hp : Pre T s.core L0)
    (hz : ∀ a, s.confirmed a = 0)
    (hbo : ∀ t, t ≠ s.payTok → t ≠ .esdt s.lpTok → s.bal t 0 = 0)
    {tok : Token} (hne : tok ≠ .esdt s.lpTok) (a : Nat) :
    (∀ t, t ≠ .esdt s.lpTok → s.bal t 0 = 0) ∧
      Pre T { s.core with price := a, payBal := s.bal tok 0 } L0 := by
  have hb0 : ∀ t, t ≠ .esdt s.lpTok → s.bal t 0 = 0 := by
    intro t ht
    by_cases h1 : t = s.payTok
    · rw [h1]; exact hp.payBal_zero hz
    · exact hbo t h1 ht
  refine ⟨hb0, ?_⟩
  rw [hb0 tok hne]
  exact hp.setPrice hz a

/-! ### phase A: allocation -/

/-- `createMany l` before any confirmation.  The hypotheses on `rg`, `bt`, `lt` are the conclusions
    of `createMany_ok`; `nw` because the number of winning tickets may be reset at the same time -/
theorem Pre.alloc {T T' : Nat} {c : Core} {L0 l : List (Nat × Nat)} (hp : Pre T c L0) (ha : PhA c L0)
    (hz : ∀ a, c.confirmed a = 0) (hpos : ∀ p ∈ l, 1 ≤ p.2) {rg : Nat → Option Range}
    {bt : Nat → Option Batch} {lt nw : Nat} (hnw : nw = T') (hnd : (l.map Prod.fst).Nodup)
    (hnone : ∀ a ∈ l.map Prod.fst, c.range a = none)
    (hlt : lt = c.lastTicketId + ticketTotal l) (hch : Chain l (c.lastTicketId + 1) rg bt)
    (hfr : ∀ a, a ∉ l.map Prod.fst → rg a = c.range a)
    (hfb : ∀ x, x ≤ c.lastTicketId → bt x = c.batch x) :
    Pre T' { c with range := rg, batch := bt, lastTicketId := lt, nrWinning := nw } (L0 ++ l) ∧
    PhA { c with range := rg, batch := bt, lastTicketId := lt, nrWinning := nw } (L0 ++ l) := by
  have hnew : ∀ a, a ∈ l.map Prod.fst → a ∉ L0.map Prod.fst := by
    intro a ha1 ha2
    obtain ⟨rr, hrr, _⟩ := be_chain_mem ha.chain ha2
    rw [hnone a ha1] at hrr; cases hrr
  refine ⟨⟨hp.notFiltered, hp.notSelected, hnw, hp.status0, hp.pos0, ⟨?_, ?_, ?_⟩, fun a _ => hz a, ?_, ?_⟩,
    ha.notStarted, ha.op, ?_, ?_⟩
  · rw [List.map_append, List.nodup_append]
    exact ⟨hp.ok.nodup, hnd, fun a ha1 b hb1 hab => hnew b hb1 (hab ▸ ha1)⟩
  · intro p hp1
    rcases List.mem_append.mp hp1 with hp1 | hp1
    · exact hp.ok.pos p hp1
    · exact hpos p hp1
  · intro p _
    show c.confirmed p.1 ≤ p.2
    rw [hz]; omega
  · intro a ha1
    rw [List.map_append, List.mem_append, not_or] at ha1
    show rg a = none
    rw [hfr a ha1.2]; exact hp.outR a ha1.1
  · show c.payBal = c.price * sumOver c.confirmed ((L0 ++ l).map Prod.fst)
    rw [sumOver_zero _ _ (fun a _ => hz a), hp.payBal_zero hz, Nat.mul_zero]
  · show Chain (L0 ++ l) 1 rg bt
    rw [rb_Chain_append]
    constructor
    · apply rb_Chain_congr ha.chain hp.ok.pos
      · intro a ha1; exact hfr a (fun hh => hnew a hh ha1)
      · intro x _ hx2; exact hfb x (by have := ha.last; omega)
    · rw [← ha.last, Nat.add_comm]; exact hch
  · show lt = ticketTotal (L0 ++ l)
    rw [hlt, rb_ticketTotal_append, ha.last]

theorem Pre.createMany {T T' : Nat} {s s1 : State} {c : Core} {L0 l : List (Nat × Nat)}
    (hp : Pre T c L0) (ha : PhA c L0) (hr : c.range = s.range) (hb : c.batch = s.batch)
    (hl : c.lastTicketId = s.lastTicketId) (hz : ∀ a, c.confirmed a = 0) (hpos : ∀ p ∈ l, 1 ≤ p.2)
    (hcm : createMany l s = .ok s1) {nw : Nat} (hnw : nw = T') :
    Pre T' { c with range := s1.range, batch := s1.batch, lastTicketId := s1.lastTicketId,
                    nrWinning := nw } (L0 ++ l) ∧
    PhA { c with range := s1.range, batch := s1.batch, lastTicketId := s1.lastTicketId,
                 nrWinning := nw } (L0 ++ l) := by
  obtain ⟨hnd, hnone, _, hlast, hchain, hfr, hfb, _⟩ := createMany_ok l s s1 hcm
  rw [← hr] at hnone hfr
  rw [← hb] at hfb
  rw [← hl] at hlast hchain hfb
  exact hp.alloc ha hz hpos hnw hnd hnone hlast (hchain hpos) hfr hfb

/-! ### `filterTickets` -/

theorem rb_filterFlags (s : State) (n : Nat) :
    (filterFlags s n).filtered = s.flags.filtered ∧ (filterFlags s n).selected = s.flags.selected ∧
    (filterFlags s n).additional = s.flags.additional := by
  by_cases h : n = 1 <;> simp [filterFlags, h]

theorem rb_mem_survivors_of_pos {conf : Nat → Nat} {L : List (Nat × Nat)} {p : Nat × Nat}
    (hp : p ∈ L) (h : conf p.1 ≠ 0) : p.1 ∈ (survivors conf L).map Prod.fst := by
  induction L with
  | nil => cases hp
  | cons q rest ih =>
    obtain ⟨a, n⟩ := q
    by_cases h0 : conf a = 0
    · rw [survivors_cons_zero conf a n rest h0]
      rcases List.mem_cons.mp hp with rfl | hp
      · exact absurd h0 h
      · exact ih hp
    · rw [survivors_cons_pos conf a n rest h0]
      rcases List.mem_cons.mp hp with rfl | hp
      · simp
      · exact List.mem_cons_of_mem _ (ih hp)

theorem Mid.outR {conf : Nat → Nat} {last : Nat} {L0 : List (Nat × Nat)} {x : FilSt}
    (h : Mid conf last L0 x) : ∀ a, a ∉ L0.map Prod.fst → x.range a = none := by
  obtain ⟨_, _, _, _, _, _, _, _, _, hout⟩ := h
  exact hout

theorem filter_run_Mid {conf : Nat → Nat} {last : Nat} {L0 : List (Nat × Nat)} (hok : AllocOK conf L0)
    {fuel : Nat} {budget b : Option Nat} {x f : FilSt} {st : LoopStatus} (hm : Mid conf last L0 x)
    (hrun : runWhile (filterBody conf last) fuel budget x = .ok (f, b, st)) :
    (st = .interrupted → Mid conf last L0 f) ∧
    (st = .completed → Chain (survivors conf L0) 1 f.range f.batch ∧
      f.removed = droppedSum conf L0 ∧ last = ticketTotal L0 ∧
      (∀ p ∈ L0, conf p.1 = 0 → f.range p.1 = none) ∧
      (∀ a, a ∉ L0.map Prod.fst → f.range a = none)) := by
  obtain ⟨hint, hcomp⟩ := runWhile_inv (Mid conf last L0) (filterBody conf last)
    (fun y y' hb hm => rb_filterBody_Mid hok hb hm) _ _ _ _ _ _ hrun hm
  refine ⟨hint, fun hst => ?_⟩
  obtain ⟨y, hmy, hby⟩ := hcomp hst
  obtain ⟨hy1, rfl⟩ := rb_filterBody_false hby
  exact rb_Mid_final hok hmy hy1

theorem Pre.filterStart {T : Nat} {c : Core} {L0 : List (Nat × Nat)} (hp : Pre T c L0)
    (hab : PhA c L0 ∨ PhB c L0) {x : FilSt}
    (hx : (c.op = .none ∧ x = ⟨c.range, c.batch, 1, 0⟩) ∨
      ∃ f rm, c.op = .filter f rm ∧ x = ⟨c.range, c.batch, f, rm⟩) :
    Mid c.confirmed c.lastTicketId L0 x ∧ (x.first = 1 ∨ c.flags.started = true) := by
  rcases hab with ha | hb
  · rcases hx with ⟨_, rfl⟩ | ⟨f, rm, hop, _⟩
    · rw [ha.last]
      exact ⟨rb_Mid_start ha.chain hp.outR, Or.inl rfl⟩
    · rw [ha.op] at hop; cases hop
  · obtain ⟨f0, rm0, hop0, hm⟩ := hb.mid
    rcases hx with ⟨hop, _⟩ | ⟨f, rm, hop, rfl⟩
    · rw [hop0] at hop; cases hop
    · rw [hop0] at hop
      injection hop with e1 e2
      subst e1 e2
      exact ⟨hm, Or.inr hb.started⟩

theorem Pre.filterSaved {T : Nat} {c : Core} {L0 : List (Nat × Nat)} (hp : Pre T c L0) {f : FilSt}
    (hm : Mid c.confirmed c.lastTicketId L0 f) {fl : Flags} (h1 : fl.started = true)
    (h2 : fl.filtered = false) (h3 : fl.selected = false) :
    Pre T { c with range := f.range, batch := f.batch, flags := fl, op := .filter f.first f.removed } L0 ∧
    PhB { c with range := f.range, batch := f.batch, flags := fl, op := .filter f.first f.removed } L0 :=
  ⟨⟨h2, h3, hp.nrw, hp.status0, hp.pos0, hp.ok, hp.outC, hm.outR, hp.pay⟩,
   ⟨h1, f.first, f.removed, rfl, hm⟩⟩

theorem Pre.filterDone {T : Nat} {c : Core} {L0 : List (Nat × Nat)} (hp : Pre T c L0) {f : FilSt}
    (hch : Chain (survivors c.confirmed L0) 1 f.range f.batch)
    (hrem : f.removed = droppedSum c.confirmed L0) (hlast : c.lastTicketId = ticketTotal L0)
    (hzero : ∀ p ∈ L0, c.confirmed p.1 = 0 → f.range p.1 = none)
    (hout : ∀ a, a ∉ L0.map Prod.fst → f.range a = none) {fl : Flags} (h1 : fl.started = true)
    (h2 : fl.filtered = true) (h3 : fl.selected = false) :
    PhC T { c with range := f.range, batch := f.batch, op := .none,
                   nrWinning := if c.nrWinning > c.lastTicketId - f.removed
                                then c.lastTicketId - f.removed else c.nrWinning,
                   lastTicketId := c.lastTicketId - f.removed, flags := fl } := by
  have hcd := confSum_add_droppedSum c.confirmed L0 hp.ok.le
  refine ⟨h1, h2, h3, ?_, ?_, Or.inl ⟨rfl, hp.status0, hp.pos0⟩⟩
  · show (if c.nrWinning > c.lastTicketId - f.removed then c.lastTicketId - f.removed
          else c.nrWinning) = min T (c.lastTicketId - f.removed)
    rw [hp.nrw]; split <;> omega
  · refine ⟨survivors c.confirmed L0, survivors_nodup _ _ hp.ok.nodup, ?_, hch, ?_, ?_, ?_⟩
    · intro p hp1
      obtain ⟨_, h2, h3⟩ := mem_survivors hp1
      exact ⟨by omega, h2⟩
    · show c.lastTicketId - f.removed = ticketTotal (survivors c.confirmed L0)
      rw [ticketTotal_survivors, hrem]; omega
    · intro a ha
      by_cases hin : a ∈ L0.map Prod.fst
      · obtain ⟨p, hp1, hpa⟩ := List.mem_map.mp hin
        have hc0 : c.confirmed p.1 = 0 :=
          Classical.byContradiction fun hne => ha (hpa ▸ rb_mem_survivors_of_pos hp1 hne)
        subst hpa
        exact ⟨hzero p hp1 hc0, hc0⟩
      · exact ⟨hout a hin, hp.outC a hin⟩
    · show c.payBal = c.price * sumOver c.confirmed ((survivors c.confirmed L0).map Prod.fst)
      rw [rb_sumOver_survivors]
      exact hp.pay

/-- the launchpads that collect a fee in the payment token keep the ticket payments apart from
    their holdings -/
def Core.withPay (c : Core) (pb : Nat) : Core := { c with payBal := pb }

theorem phase_filter {T : Nat} {s : State} {e : Env} {t t' : Tx} {L0 : List (Nat × Nat)} {pb : Nat}
    (hts : t.s = s) (hp : Pre T (s.core.withPay pb) L0)
    (hab : PhA (s.core.withPay pb) L0 ∨ PhB (s.core.withPay pb) L0)
    (hx : filterTickets t e = .ok t') :
    FilterPre s e ∧ ∃ x f, filStOf s = some x ∧ (filterFlags s x.first).started = true ∧
      ((t'.s = filterSaved s x f ∧ Pre T ((filterSaved s x f).core.withPay pb) L0 ∧
          PhB ((filterSaved s x f).core.withPay pb) L0) ∨
       (t'.s = filterDone s x f ∧ PhC T ((filterDone s x f).core.withPay pb))) := by
  obtain ⟨hpre, x, f, b, hxs, hcase⟩ := filterTickets_ok_cases _ _ _ hx
  rw [hts] at hpre hxs hcase
  have hxop : (s.op = .none ∧ x = ⟨s.range, s.batch, 1, 0⟩) ∨
      ∃ f rm, s.op = .filter f rm ∧ x = ⟨s.range, s.batch, f, rm⟩ := by
    unfold filStOf at hxs
    split at hxs
    · rename_i hop; injection hxs with hxs; exact Or.inl ⟨hop, hxs.symm⟩
    · rename_i f rm hop; injection hxs with hxs; exact Or.inr ⟨f, rm, hop, hxs.symm⟩
    · cases hxs
  have hstart : Mid s.confirmed s.lastTicketId L0 x ∧ (x.first = 1 ∨ s.flags.started = true) :=
    hp.filterStart hab hxop
  have hok : AllocOK s.confirmed L0 := hp.ok
  have hstarted := filterFlags_started s x.first hstart.2
  obtain ⟨hff, hfs, _⟩ := rb_filterFlags s x.first
  have hnf : (filterFlags s x.first).filtered = false := hff.trans hpre.notFiltered
  have hns : (filterFlags s x.first).selected = false := hfs.trans hp.notSelected
  refine ⟨hpre, x, f, hxs, hstarted, ?_⟩
  rcases hcase with ⟨hrun, hs'⟩ | ⟨hrun, _, hs'⟩
  · exact Or.inl ⟨hs', hp.filterSaved ((filter_run_Mid hok hstart.1 hrun).1 rfl) hstarted hnf hns⟩
  · obtain ⟨hch, hrem, hlast, hzero, hout⟩ := (filter_run_Mid hok hstart.1 hrun).2 rfl
    exact Or.inr ⟨hs', hp.filterDone hch hrem hlast hzero hout
      (fl := { filterFlags s x.first with filtered := true }) hstarted rfl hns⟩

theorem filterDone_nrWinning_le (s : State) (x f : FilSt) : (filterDone s x f).nrWinning ≤ s.nrWinning := by
  show (if s.nrWinning > s.lastTicketId - f.removed then s.lastTicketId - f.removed
        else s.nrWinning) ≤ s.nrWinning
  split <;> omega

/-! ### `selectWinners` -/

/-- `selInt`, `selDone`: the storage of `Events.selectEnd`, interrupted and completed -/
def selInt (s : State) (x : SelSt) : State :=
  { s with status := x.status, posToId := x.posToId, op := .select x.rng x.pos }

def selDone (s : State) (x : SelSt) : State :=
  { s with status := x.status, posToId := x.posToId, op := .none,
           flags := { s.flags with selected := true },
           claimablePayment := s.price * s.nrWinning }

theorem rb_selectWinners_cases {hash : List Nat → List Nat} {t t' : Tx} {e : Env}
    (h : selectWinners hash t e = .ok t') :
    t.s.stage e = .winnerSelection ∧ t.s.flags.filtered = true ∧ t.s.flags.selected = false ∧
    ∃ rng pos t0, ((t.s.op = .none ∧ pos = 1) ∨ t.s.op = .select rng pos) ∧
    ∃ x b st, runWhile (selectBody hash t.s.nrWinning t.s.lastTicketId) (t.s.nrWinning + 2) t0.c.budget
        ⟨t.s.status, t.s.posToId, rng, pos, t0⟩ = .ok (x, b, st) ∧
      ((st = .interrupted ∧ t'.s = selInt t.s x) ∨ (st = .completed ∧ t'.s = selDone t.s x)) := by
  obtain ⟨⟨_, hst, _, hf, hsel⟩, rng, pos, t0, x, b, st, hstart, hrun, _, hfin⟩ :=
    Events.selectWinners_ok h
  refine ⟨hst, hf, hsel, rng, pos, t0, ?_, x, b, st, hrun, ?_⟩
  · rcases hstart with ⟨hop, _, hpos, _⟩ | ⟨hop, _⟩
    · exact Or.inl ⟨hop, hpos⟩
    · exact Or.inr hop
  · cases st with
    | outOfFuel => cases hfin
    | interrupted => cases hfin; exact Or.inl ⟨rfl, rfl⟩
    | completed => cases hfin; exact Or.inr ⟨rfl, rfl⟩

/-- loop invariant of the lottery for `nr ≠ 0` -/
def SelP (nr last : Nat) (y : SelSt) : Prop :=
  1 ≤ y.pos ∧ y.pos ≤ nr ∧ ∃ arr, R last y.pos y.status y.posToId arr

theorem rb_selectBody_SelP {hash : List Nat → List Nat} {nr last : Nat} (hnr : nr ≠ 0) (hle : nr ≤ last)
    {y y' : SelSt} (hb : selectBody hash nr last y = .ok (y', true)) (hp : SelP nr last y) :
    SelP nr last y' := by
  obtain ⟨h1, h2, arr, hR⟩ := hp
  rw [selectBody_eq, if_neg hnr] at hb
  split at hb
  · simp at hb
  · rename_i hne
    simp only [Except.ok.injEq, Prod.mk.injEq, and_true] at hb
    subst hb
    exact ⟨by simp [stepSt], by simp only [stepSt]; omega,
      _, R_step (y.tx.draw hash y.rng).1 h1 (by omega) hR⟩

theorem rb_selectBody_final {hash : List Nat → List Nat} {nr last : Nat} (hnr : nr ≠ 0) (hle : nr ≤ last)
    {y x : SelSt} (hb : selectBody hash nr last y = .ok (x, false)) (hp : SelP nr last y) :
    ∃ arr, R last (nr + 1) x.status x.posToId arr := by
  obtain ⟨h1, h2, arr, hR⟩ := hp
  rw [selectBody_eq, if_neg hnr] at hb
  split at hb
  · rename_i heq
    simp only [Except.ok.injEq, Prod.mk.injEq, and_true] at hb
    subst hb
    have := R_step (y.tx.draw hash y.rng).1 h1 (by omega) hR
    rw [← heq]
    exact ⟨_, this⟩
  · simp at hb

/-- `hnl`, `hsel` are `PhC.nrw` and `PhC.sel` read on the state -/
theorem select_cases {hash : List Nat → List Nat} {s : State} {e : Env} {t t' : Tx} (hts : t.s = s)
    (hnl : s.nrWinning ≤ s.lastTicketId)
    (hsel : (s.op = .none ∧ s.status = (fun _ => false) ∧ s.posToId = fun _ => 0) ∨
      (∃ rng pos arr, s.op = .select rng pos ∧ 1 ≤ pos ∧ pos ≤ s.nrWinning ∧
        R s.lastTicketId pos s.status s.posToId arr))
    (hx : selectWinners hash t e = .ok t') :
    ∃ x : SelSt,
      (t'.s = selInt s x ∧ 1 ≤ x.pos ∧ x.pos ≤ s.nrWinning ∧
        ∃ arr, R s.lastTicketId x.pos x.status x.posToId arr) ∨
      (t'.s = selDone s x ∧ ∃ arr, R s.lastTicketId (s.nrWinning + 1) x.status x.posToId arr) := by
  obtain ⟨_, _, _, rng, pos, t0, hop, x, b, st, hrun, hfin⟩ := rb_selectWinners_cases hx
  rw [hts] at hop hrun hfin
  refine ⟨x, ?_⟩
  have hstart : 1 ≤ pos ∧ (s.nrWinning ≠ 0 → pos ≤ s.nrWinning) ∧
      (s.nrWinning = 0 → pos = 1) ∧ ∃ arr, R s.lastTicketId pos s.status s.posToId arr := by
    rcases hsel with ⟨hop0, hs0, hp0⟩ | ⟨rng1, pos1, arr, hop1, h1, h2, hR⟩
    · rcases hop with ⟨_, rfl⟩ | hop
      · refine ⟨Nat.le_refl 1, fun hne => by omega, fun _ => rfl, List.range' 1 s.lastTicketId, ?_⟩
        rw [hs0, hp0]
        exact R_init _
      · rw [hop0] at hop; cases hop
    · rcases hop with ⟨hop, _⟩ | hop
      · rw [hop1] at hop; cases hop
      · rw [hop1] at hop
        injection hop with e1 e2
        subst e1 e2
        exact ⟨h1, fun _ => h2, fun h0 => by omega, arr, hR⟩
  obtain ⟨hs1, hs2, hs3, arr0, hR0⟩ := hstart
  by_cases hnr : s.nrWinning = 0
  · -- no draw at all: the loop stops at once
    have hbody : selectBody hash s.nrWinning s.lastTicketId ⟨s.status, s.posToId, rng, pos, t0⟩
        = .ok (⟨s.status, s.posToId, rng, pos, t0⟩, false) := by
      rw [selectBody_eq, if_pos hnr]
    rw [runWhile_stop hbody] at hrun
    simp only [Except.ok.injEq, Prod.mk.injEq] at hrun
    obtain ⟨rfl, _, rfl⟩ := hrun
    rcases hfin with ⟨hh, _⟩ | ⟨_, hs'⟩
    · cases hh
    · have hpos1 := hs3 hnr
      subst hpos1
      exact Or.inr ⟨hs', arr0, by rw [hnr]; exact hR0⟩
  · have hP0 : SelP s.nrWinning s.lastTicketId ⟨s.status, s.posToId, rng, pos, t0⟩ :=
      ⟨hs1, hs2 hnr, arr0, hR0⟩
    obtain ⟨hint, hcomp⟩ := runWhile_inv (SelP s.nrWinning s.lastTicketId)
      (selectBody hash s.nrWinning s.lastTicketId)
      (fun y y' hb hp => rb_selectBody_SelP hnr hnl hb hp) _ _ _ _ _ _ hrun hP0
    rcases hfin with ⟨hst, hs'⟩ | ⟨hst, hs'⟩
    · obtain ⟨p1, p2, arr, hR⟩ := hint hst
      exact Or.inl ⟨hs', p1, p2, arr, hR⟩
    · obtain ⟨y, hPy, hby⟩ := hcomp hst
      exact Or.inr ⟨hs', rb_selectBody_final hnr hnl hby hPy⟩

theorem PhC.nrw_le {T : Nat} {c : Core} (h : PhC T c) : c.nrWinning ≤ c.lastTicketId := by
  rw [h.nrw]; omega

theorem PhC.selInt {T : Nat} {c : Core} (h : PhC T c) {st' : Nat → Bool} {pi' : Nat → Nat} {rng : Rng}
    {pos : Nat} {arr : List Nat} (h1 : 1 ≤ pos) (h2 : pos ≤ c.nrWinning)
    (hR : R c.lastTicketId pos st' pi' arr) :
    PhC T { c with status := st', posToId := pi', op := .select rng pos } :=
  ⟨h.started, h.filtered, h.notSelected, h.nrw, h.alloc, Or.inr ⟨rng, pos, arr, rfl, h1, h2, hR⟩⟩

/-! ### hand-over to the post-selection ledger -/

theorem rb_pre_to_post (c : Core) (L : List Nat) (hpre : PayPre c L)
    (hcp : c.claimable = c.price * sumOver (winOf c.range c.status) L)
    (hle : ∀ a ∈ L, winOf c.range c.status a ≤ c.confirmed a)
    (hnr : ∀ a ∈ L, c.range a = none → c.confirmed a = 0) : PayPost c L := by
  refine ledger_handover hpre hcp hle (fun a ha => ?_)
  unfold dueC
  cases hr : c.range a with
  | none => rw [hnr a ha hr, Nat.zero_sub, Nat.mul_zero]
  | some r => rfl

theorem rb_winOf_le {range : Nat → Option Range} {status : Nat → Bool} {a : Nat} {r : Range} {n : Nat}
    (hr : range a = some r) (hlen : r.last + 1 = r.first + n) : winOf range status a ≤ n := by
  simp only [winOf, hr]
  have := countWinning_le status r.first (rangeLen r)
  unfold rangeLen at this ⊢
  omega

theorem winOf_le_confirmed {c : Core}
    (hrng : ∀ a r, c.range a = some r → r.first ≤ r.last ∧ r.last + 1 = r.first + c.confirmed a)
    (status : Nat → Bool) (a : Nat) : winOf c.range status a ≤ c.confirmed a := by
  cases hr : c.range a with
  | none => simp [winOf, hr]
  | some r => exact rb_winOf_le hr (hrng a r hr).2

/-- nobody holds a winning ticket, so none is outstanding -/
theorem PhD.nrWinning_zero {c : Core} (hD : PhD c) (h0 : ∀ a, winOf c.range c.status a = 0) :
    c.nrWinning = 0 := by
  obtain ⟨L, _, _, _, hwin⟩ := hD.led
  rw [← hwin]
  exact sumOver_zero _ _ fun a _ => h0 a

theorem Alloc.count {c : Core} {Ls : List (Nat × Nat)} (h : Alloc c Ls) (status : Nat → Bool) :
    sumOver (winOf c.range status) (Ls.map Prod.fst) = countTrue status c.lastTicketId := by
  have hcc := rb_chain_count status h.chain (Nat.le_refl 1)
  simp only [Nat.sub_self, Nat.zero_add, countTrue] at hcc
  rw [h.last]; exact hcc

/-- with `nw` flags set in the ticket space and proceeds `price * nw` recorded the post-selection
    phase holds, whatever the remaining flags of `fl` say -/
theorem PhD_of_alloc {c : Core} {Ls : List (Nat × Nat)} (hA : Alloc c Ls) {st' : Nat → Bool}
    {pi' : Nat → Nat} {fl : Flags} {nw cl : Nat} (h1 : fl.started = true) (h2 : fl.filtered = true)
    (h3 : fl.selected = true) (hcount : countTrue st' c.lastTicketId = nw) (hcl : cl = c.price * nw) :
    PhD { c with status := st', posToId := pi', op := .none, flags := fl, claimable := cl,
                 nrWinning := nw } := by
  have hcc : sumOver (winOf c.range st') (Ls.map Prod.fst) = nw := by rw [hA.count, hcount]
  refine ⟨h1, h2, h3, rfl, hA.rngOk, hA.rngNone, hA.disj, Ls.map Prod.fst, hA.nodup, hA.covers, ?_, hcc⟩
  apply rb_pre_to_post
  · exact hA.pay
  · show cl = c.price * sumOver (winOf c.range st') (Ls.map Prod.fst)
    rw [hcc]; exact hcl
  · intro a _; exact winOf_le_confirmed hA.rngOk st' a
  · intro a _ hr; exact hA.rngNone a hr

theorem rb_handover {T0 : Nat} {c : Core} (hC : PhC T0 c) {st' : Nat → Bool} {pi' : Nat → Nat}
    {arr : List Nat} (hR : R c.lastTicketId (c.nrWinning + 1) st' pi' arr) :
    PhD { c with status := st', posToId := pi', op := .none,
                 flags := { c.flags with selected := true },
                 claimable := c.price * c.nrWinning } ∧
    countTrue st' c.lastTicketId = c.nrWinning ∧
    (∀ t, st' t = true → 1 ≤ t ∧ t ≤ c.lastTicketId) := by
  obtain ⟨Ls, hA⟩ := hC.Alloc
  have hnl := hC.nrw_le
  have hcount0 := hR.count_eq (by omega)
  have hflags := hR.inside
  have hcount : countTrue st' c.lastTicketId = c.nrWinning := by omega
  exact ⟨PhD_of_alloc hA hC.started hC.filtered rfl hcount rfl, hcount, hflags⟩

/-! ### phase D: a participant settles -/

/-- the projection after the settlement of `a` (owning range `r`) -/
def claimCore (c : Core) (a : Nat) (r : Range) (bt : Nat → Option Batch) (pb : Nat) : Core :=
  { c with status := (clearRange c.status c.posToId r.first (rangeLen r)).1,
           posToId := (clearRange c.status c.posToId r.first (rangeLen r)).2.1,
           confirmed := upd c.confirmed a 0, range := upd c.range a none, batch := bt,
           nrWinning := c.nrWinning - (clearRange c.status c.posToId r.first (rangeLen r)).2.2,
           payBal := pb }

theorem upd_none_eq_some {α : Type} {f : Nat → Option α} {a b : Nat} {r : α}
    (h : upd f a none b = some r) : b ≠ a ∧ f b = some r := by
  by_cases hba : b = a
  · rw [hba, upd_same] at h; cases h
  · rw [upd_other _ _ _ _ hba] at h; exact ⟨hba, h⟩

theorem rb_claim_phase {c : Core} (hD : PhD c) {a : Nat} {r : Range} (hr : c.range a = some r)
    {bt : Nat → Option Batch} {pb : Nat}
    (hpb : pb = c.payBal - c.price *
      (c.confirmed a - (clearRange c.status c.posToId r.first (rangeLen r)).2.2)) :
    PhD (claimCore c a r bt pb) := by
  obtain ⟨hsp1, _, hsp3⟩ := rb_clearRange_spec c.status c.posToId r.first (rangeLen r)
  obtain ⟨hfl, hlen⟩ := hD.rngOk a r hr
  have hrl : rangeLen r = c.confirmed a := by unfold rangeLen; omega
  have hca : c.confirmed a ≠ 0 := by omega
  obtain ⟨L, hnd, hsupp, hpost, hwin⟩ := hD.led
  have haL : a ∈ L := hsupp a hca
  have hwa : winOf c.range c.status a = (clearRange c.status c.posToId r.first (rangeLen r)).2.2 := by
    simp only [winOf, hr, hsp3]
  -- flags of the other participants are untouched
  have hother : ∀ b, b ≠ a →
      winOf (upd c.range a none) (clearRange c.status c.posToId r.first (rangeLen r)).1 b
        = winOf c.range c.status b := by
    intro b hba
    simp only [winOf, upd_other _ _ _ _ hba]
    cases hrb : c.range b with
    | none => rfl
    | some rb =>
      simp only []
      apply countWinning_congr
      intro t h1 h2
      rw [hsp1]
      obtain ⟨hfb, _⟩ := hD.rngOk b rb hrb
      have hd := hD.disj a b r rb (Ne.symm hba) hr hrb
      have : rangeLen rb = rb.last + 1 - rb.first := rfl
      have : rangeLen r = r.last + 1 - r.first := rfl
      rw [if_neg (by omega)]
  have hwself : winOf (upd c.range a none) (clearRange c.status c.posToId r.first (rangeLen r)).1 a = 0 := by
    simp [winOf]
  refine ⟨hD.started, hD.filtered, hD.selected, hD.op, ?_, ?_, ?_, L, hnd, ?_, ?_, ?_⟩
  · intro b rb hrb
    obtain ⟨hba, hrb'⟩ := upd_none_eq_some hrb
    show rb.first ≤ rb.last ∧ rb.last + 1 = rb.first + upd c.confirmed a 0 b
    rw [upd_other _ _ _ _ hba]
    exact hD.rngOk b rb hrb'
  · intro b hrb
    have hrb' : upd c.range a none b = none := hrb
    show upd c.confirmed a 0 b = 0
    by_cases hba : b = a
    · rw [hba, upd_same]
    · rw [upd_other _ _ _ _ hba] at hrb' ⊢
      exact hD.rngNone b hrb'
  · intro b1 b2 r1 r2 hne h1 h2
    exact hD.disj b1 b2 r1 r2 hne (upd_none_eq_some h1).2 (upd_none_eq_some h2).2
  · intro b hb
    have hb' : upd c.confirmed a 0 b ≠ 0 := hb
    by_cases hba : b = a
    · rw [hba]; exact haL
    · rw [upd_other _ _ _ _ hba] at hb'; exact hsupp b hb'
  · have hdue : ∀ b ∈ L, dueC (claimCore c a r bt pb) b = upd (dueC c) a 0 b := by
      intro b _
      by_cases hba : b = a
      · subst hba; simp [dueC, claimCore]
      · rw [upd_other _ _ _ _ hba]
        unfold dueC claimCore
        simp only [upd_other _ _ _ _ hba, hother b hba]
    have hsum := sumOver_upd_mem (dueC c) L a 0 hnd haL
    have hda : dueC c a = c.price * (c.confirmed a - (clearRange c.status c.posToId r.first (rangeLen r)).2.2) := by
      simp only [dueC, hr, hwa]
    have hpost' : c.payBal = c.claimable + sumOver (dueC c) L := hpost
    show pb = c.claimable + sumOver _ L
    rw [sumOver_congr hdue, hpb, ← hda]
    omega
  · have hw : ∀ b ∈ L, winOf (upd c.range a none) (clearRange c.status c.posToId r.first (rangeLen r)).1 b
        = upd (winOf c.range c.status) a 0 b := by
      intro b _
      by_cases hba : b = a
      · subst hba; rw [hwself]; simp
      · rw [upd_other _ _ _ _ hba]; exact hother b hba
    have hsum := sumOver_upd_mem (winOf c.range c.status) L a 0 hnd haL
    show sumOver (winOf (upd c.range a none) (clearRange c.status c.posToId r.first (rangeLen r)).1) L
      = c.nrWinning - (clearRange c.status c.posToId r.first (rangeLen r)).2.2
    rw [sumOver_congr hw, ← hwa]
    omega

/-!
  ### what the invariants share beside the transitions above
  The time before the filter read off the stage, the reserve moving `nrWinning` in phase A, the
  position invariant of the leftover loop under more flags, redeeming and withdrawing in `PhD`, the
  guard inversion `ok_of_ite_error` of the allocation loops; then three accepted calls through the
  dispatcher, for every variant: `addTickets` (stage and `createMany`), `confirm` and `deposit`
  (the call value and the state each leaves).
-/

theorem notStarted_of_stage {s : State} {e : Env} {r : Nat}
    (h : s.flags.started = true → s.cfg.conf ≤ r ∧ s.cfg.sel ≤ r) (hr : r ≤ e.round)
    (hst : s.stage e = .addTickets ∨ s.stage e = .confirm) : s.flags.started = false := by
  rcases hst with h1 | h1
  · exact notStarted_of_lt h hr (Or.inl (rb_stage_addTickets h1))
  · exact notStarted_of_lt h hr (Or.inr (rb_stage_confirm h1).2)

/-- phase A reads `nrWinning` only in the clause `nrWinning = T` -/
theorem Pre.set_nrw {T T' : Nat} {c : Core} {L0 : List (Nat × Nat)} (h : Pre T c L0) {n : Nat}
    (hn : n = T') : Pre T' { c with nrWinning := n } L0 :=
  ⟨h.notFiltered, h.notSelected, hn, h.status0, h.pos0, h.ok, h.outC, h.outR, h.pay⟩

theorem PhA.set_nrw {c : Core} {L0 : List (Nat × Nat)} (h : PhA c L0) (n : Nat) :
    PhA { c with nrWinning := n } L0 :=
  ⟨h.notStarted, h.op, h.chain, h.last⟩

/-- more flags inside `1..last` are tolerated, so the invariant also covers the top-up loop -/
theorem PosInv.mono {last k : Nat} {st st' : Nat → Bool} {f : Nat → Nat} (h : PosInv last st f k)
    (hm : ∀ t, st t = true → st' t = true) (hin : ∀ t, st' t = true → 1 ≤ t ∧ t ≤ last) :
    PosInv last st' f k :=
  ⟨h.pos, h.bound, h.range, h.distinct, fun t a b c => h.cover t a b (by
    cases e : st t with
    | false => rfl
    | true => rw [hm t e] at c; cases c), hin⟩

/-- the winning tickets a participant redeems are among the `nrWinning` still unsettled -/
theorem PhD.redeem_le {c : Core} (hD : PhD c) {a : Nat} {r : Range} (hr : c.range a = some r) :
    (clearRange c.status c.posToId r.first (rangeLen r)).2.2 ≤ c.nrWinning := by
  have hw : winOf c.range c.status a = (clearRange c.status c.posToId r.first (rangeLen r)).2.2 := by
    simp only [winOf, hr, clearRange_count]
  rw [← hw]
  by_cases hc : c.confirmed a = 0
  · exact Nat.le_trans (winOf_le_confirmed hD.rngOk c.status a) (hc ▸ Nat.zero_le _)
  · obtain ⟨L, _, hsupp, _, hwin⟩ := hD.led
    rw [← hwin]
    exact rb_le_sumOver (winOf c.range c.status) L a (hsupp a hc)

/-- the owner takes the recorded proceeds: what remains is owed to the unsettled participants -/
theorem PhD.withdraw {c : Core} (hD : PhD c) {pb : Nat} (hpb : pb = c.payBal - c.claimable) :
    PhD { c with payBal := pb, claimable := 0 } := by
  obtain ⟨L, hnd, hsupp, hpost, hwin⟩ := hD.led
  refine ⟨hD.started, hD.filtered, hD.selected, hD.op, hD.rngOk, hD.rngNone, hD.disj, L, hnd, hsupp,
    ?_, hwin⟩
  have hpost' : c.payBal = c.claimable + sumOver (dueC c) L := hpost
  show pb = 0 + sumOver (dueC c) L
  omega

theorem ok_of_ite_error {c : Prop} [Decidable c] {α : Type} {e : Err} {x : Res α} {r : α}
    (h : (if c then .error e else x) = .ok r) : x = .ok r := (ok_of_guard h).2

theorem singleFungible_ok {e : Env} {tok : Token} {amt : Nat}
    (h : singleFungible e = .ok (tok, amt)) : e.esdts = [⟨tok, 0, amt⟩] := by
  unfold singleFungible at h
  split at h
  · rename_i p hp
    split at h
    · rename_i hn
      obtain ⟨a, b, c⟩ := p
      simp only [Except.ok.injEq, Prod.mk.injEq] at h hn
      rw [hp, hn, h.1, h.2]
    · cases h
  · cases h

theorem creditPayments_single (s : State) {e : Env} {tok : Token} {amt : Nat}
    (h : e.esdts = [⟨tok, 0, amt⟩]) :
    creditPayments s e = { s with bal := (s.bal.add .egld 0 e.egld).add tok 0 amt } := by
  unfold creditPayments
  rw [h]; rfl

theorem rb_credit_single (s : State) (e : Env) (tok : Token) (amt : Nat) (h1 : e.egld = 0)
    (h2 : e.esdts = [⟨tok, 0, amt⟩]) :
    creditPayments s e = { s with bal := s.bal.add tok 0 amt } := by
  rw [creditPayments_single s h2, h1]
  have : s.bal.add .egld 0 0 = s.bal := by funext t n; unfold Bal.add; split <;> simp
  rw [this]

/-- EGLD or ESDT, not both: exactly one transfer of `perTicket × totalWinning` launchpad tokens -/
theorem deposit_payment {s0 s1 : State} {e : Env} {tw : Nat}
    (h : depositLaunchpadTokens s0 e tw = .ok s1) (hok : EnvOK e) :
    e.egld = 0 ∧ e.esdts = [⟨.esdt s0.lpTok, 0, s0.perTicket * tw⟩] := by
  unfold depositLaunchpadTokens at h
  simp only [bind_ok_iff, pure_ok_iff, req_ok_iff, exists_const, Prod.exists] at h
  obtain ⟨_, tok, amt, hsf, htok, hamt, _⟩ := h
  have hes := singleFungible_ok hsf
  have htok' : tok = .esdt s0.lpTok := by simpa using htok
  have hamt' : amt = s0.perTicket * tw := by simpa using hamt
  rw [htok', hamt'] at hes
  refine ⟨hok.resolve_right fun h0 => ?_, hes⟩
  rw [hes] at h0; cases h0

theorem step_addTickets {hash : List Nat → List Nat} {s s' : State} {e : Env} {l : List (Nat × Nat)}
    {o : Out} (hs : step hash s e (.addTickets l) = .ok (s', o)) :
    s.stage e = .addTickets ∧ createMany l s = .ok s' := by
  obtain ⟨t, hx, rfl⟩ := step_np rfl hs
  simp only [exec, bind_ok_iff, pure_ok_iff, requireStage, req_ok_iff, exists_const] at hx
  obtain ⟨hst, s1, hcm, rfl⟩ := hx
  exact ⟨by simpa [rbTx] using hst, hcm⟩

theorem step_confirm {hash : List Nat → List Nat} {s s' : State} {e : Env} {n : Nat} {o : Out}
    (hok : EnvOK e) (hs : step hash s e (.confirm n) = .ok (s', o)) :
    ∃ total, LP.Props.C07.Accepts s e n total ∧
      s' = { s with bal := s.bal.add s.payTok 0 (s.price * n),
                    confirmed := upd s.confirmed e.caller (s.confirmed e.caller + n) } := by
  obtain ⟨total, hacc, rfl, _⟩ := LP.Props.C07.confirm_effect hash s e n s' o hs
  refine ⟨total, hacc, ?_⟩
  have : creditPayments s e = { s with bal := (creditPayments s e).bal } := rfl
  rw [this, LP.Props.C07.confirm_holdings s e n total hacc hok]

theorem step_deposit {hash : List Nat → List Nat} {s s' : State} {e : Env} {o : Out} (hok : EnvOK e)
    (hs : step hash s e .deposit = .ok (s', o)) :
    s.deposited = false ∧
    s' = { s with bal := s.bal.add (.esdt s.lpTok) 0 (s.perTicket * (s.nrWinning + reservedForDeposit s)),
                  deposited := true,
                  totalDeposited := s.perTicket * (s.nrWinning + reservedForDeposit s) } := by
  obtain ⟨m, t, _, _, _, hx, rfl, _⟩ := step_ok_inv hs
  have hx' := hx
  simp only [exec, bind_ok_iff, pure_ok_iff] at hx'
  obtain ⟨s1, hd, _⟩ := hx'
  obtain ⟨he1, he2⟩ := deposit_payment hd hok
  obtain ⟨hnd, h1⟩ := exec_deposit_s hx
  have hts : (tx0 s e).s = creditPayments s e := rfl
  rw [h1, hts, rb_credit_single s e _ _ he1 he2]
  exact ⟨hnd, rfl⟩

/-!
  ### the ticket-payment ledger, read once off the phases of a projection
  Every invariant offers, on `c := s.core.withPay tix` (`tix` = the part of the payment-token
  holdings that pays for tickets: all of it, or all but the NFT fees held in the same slot), a list
  of participants with `PayPre c` until all selection steps are complete and `PhD c` afterwards.
  `ledger_of_phases` turns that into the statement the solvency theorems quote; `Settled` is its
  half after completion.
-/

/-- a duplicate-free list outside of which nobody has confirmed tickets serves as the list of the
    pre-completion ledger -/
theorem payList_of_out {c : Core} {L : List Nat} (hnd : L.Nodup)
    (hout : ∀ a, a ∉ L → c.confirmed a = 0) (hpay : PayPre c L) :
    ∃ L : List Nat, L.Nodup ∧ (∀ a, c.confirmed a ≠ 0 → a ∈ L) ∧ PayPre c L :=
  ⟨L, hnd, fun a ha => Decidable.by_contra fun hin => ha (hout a hin), hpay⟩

theorem Alloc.payList {c : Core} {Ls : List (Nat × Nat)} (h : Alloc c Ls) :
    ∃ L : List Nat, L.Nodup ∧ (∀ a, c.confirmed a ≠ 0 → a ∈ L) ∧ PayPre c L :=
  ⟨_, h.nodup, h.covers, h.pay⟩

theorem Phase.payList {T : Nat} {c : Core} (h : Phase T c) (hs : c.flags.selected = false) :
    ∃ L : List Nat, L.Nodup ∧ (∀ a, c.confirmed a ≠ 0 → a ∈ L) ∧ PayPre c L := by
  rcases h with ⟨L0, hp, _⟩ | hC | hD
  · exact payList_of_out hp.ok.nodup hp.outC hp.pay
  · obtain ⟨Ls, hA⟩ := hC.Alloc
    exact hA.payList
  · rw [hD.selected] at hs; cases hs

theorem PhD.counts {c : Core} (h : PhD c) :
    ∃ L : List Nat, L.Nodup ∧ (∀ a, c.confirmed a ≠ 0 → a ∈ L) ∧ PayPost c L ∧
      sumOver (winOf c.range c.status) L = c.nrWinning ∧
      (∀ a, winOf c.range c.status a ≤ c.confirmed a) ∧
      (∀ a rg, c.range a = some rg → a ∈ L ∧ rg.first ≤ rg.last ∧
        rg.last + 1 = rg.first + c.confirmed a) := by
  obtain ⟨L, hnd, hsupp, hpost, hwin⟩ := h.led
  refine ⟨L, hnd, hsupp, hpost, hwin, winOf_le_confirmed h.rngOk c.status, fun a rg hr => ?_⟩
  obtain ⟨h1, h2⟩ := h.rngOk a rg hr
  exact ⟨hsupp a (by omega), h1, h2⟩

/-- after completion, on the ticket part `tix` of the holdings: what is held is the owner's
    proceeds plus the refunds still due; the winning tickets still held add up to `nrWinning`;
    nobody holds more winning than confirmed tickets; every holder of a range is listed and his
    range has exactly `confirmed` tickets -/
def Settled (s : State) (tix : Nat) (L : List Nat) : Prop :=
  tix = s.claimablePayment + sumOver (refundDue s) L ∧ sumOver (winCountOf s) L = s.nrWinning ∧
  (∀ a, winCountOf s a ≤ s.confirmed a) ∧
  (∀ a rg, s.range a = some rg → a ∈ L ∧ rg.first ≤ rg.last ∧
    rg.last + 1 = rg.first + s.confirmed a)

/-- one list `L` of participants serves both equations.  `dueC`, `winOf` on the projection are
    `refundDue`, `winCountOf` on the state. -/
theorem ledger_of_phases {s : State} {tix : Nat}
    (hpre : ¬ AllDone s →
      ∃ L : List Nat, L.Nodup ∧ (∀ a, s.confirmed a ≠ 0 → a ∈ L) ∧ PayPre (s.core.withPay tix) L)
    (hdone : AllDone s → PhD (s.core.withPay tix)) :
    ∃ L : List Nat, Covers s L ∧ (¬ AllDone s → tix = s.price * sumOver s.confirmed L) ∧
      (AllDone s → Settled s tix L) := by
  by_cases hd : AllDone s
  · obtain ⟨L, hnd, hsupp, hpost, hrest⟩ := (hdone hd).counts
    have hpost' : tix = s.claimablePayment + sumOver (dueC s.core) L := hpost
    rw [← rb_refundDue_eq] at hpost'
    exact ⟨L, ⟨hnd, hsupp⟩, fun hn => absurd hd hn, fun _ => ⟨hpost', hrest⟩⟩
  · obtain ⟨L, hnd, hsupp, hpay⟩ := hpre hd
    exact ⟨L, ⟨hnd, hsupp⟩, fun _ => hpay, fun hd' => absurd hd' hd⟩

namespace Settled
variable {s : State} {tix : Nat} {L : List Nat}

theorem refund_covered (h : Settled s tix L) {a : Nat} {rg : Range} (hr : s.range a = some rg) :
    s.claimablePayment + s.price * (s.confirmed a - winCountOf s a) ≤ tix := by
  have hle := rb_le_sumOver (refundDue s) L a (h.2.2.2 a rg hr).1
  have hdue : refundDue s a = s.price * (s.confirmed a - winCountOf s a) := by
    simp only [refundDue, hr]
  have := h.1
  omega

theorem proceeds_covered (h : Settled s tix L) : s.claimablePayment ≤ tix :=
  h.1 ▸ Nat.le_add_right _ _

theorem nothing_left (h : Settled s tix L) (hall : ∀ a, s.range a = none)
    (hcp : s.claimablePayment = 0) : tix = 0 := by
  rw [h.1, hcp, sumOver_zero, Nat.add_zero]
  intro a _
  simp only [refundDue, hall a]

theorem counts (h : Settled s tix L) :
    tix = s.claimablePayment + sumOver (refundDue s) L ∧ sumOver (winCountOf s) L = s.nrWinning ∧
      (∀ a, winCountOf s a ≤ s.confirmed a) ∧
      (∀ a rg, s.range a = some rg → a ∈ L ∧ rangeLen rg = s.confirmed a) := by
  obtain ⟨hpost, hwin, hle, hrg⟩ := h
  refine ⟨hpost, hwin, hle, fun a rg hr => ?_⟩
  obtain ⟨k1, k2, k3⟩ := hrg a rg hr
  exact ⟨k1, by unfold rangeLen; omega⟩

end Settled

end LP
