import LP.Proofs.ReachVV
import LP.Props.C01reachV2
/-
  Two facts about the vested claim of `Variant.guarV2` on top of `WF2` and `vv_Exact`: what the
  entitlement is (first part), and that a claim is never stuck (second part).

  "The entitlement is `perTicket ×` the winning tickets held at settlement", as an invariant of the
  reachable states of `Variant.guarV2`.  The number of winning tickets a participant held when he
  settled is not in the contract's storage afterwards (the settlement clears his range).
  `vv_ReachW hash s r w` is `Reach hash .guarV2 s r` with a ghost record `w : address → Nat` carried
  along: `w` starts at `0` everywhere and an accepted first claim of `a` (his settlement) writes
  `w a := winCountOf s a`; nothing else writes `w`.  `vv_ReachW` and `Reach` have the same states
  (`vv_ReachW.reach`, `vv_reach_ghost`), and in each `userTotal a = w a × perTicket`
  (`vv_ghost_total`).
-/
namespace LP
open LP.FY LP.Events

/-- the ghost update: an accepted first claim records the caller's winning tickets -/
def vv_ghost (s : State) (e : Env) (c : Call) (w : Nat → Nat) : Nat → Nat :=
  match c with
  | .claim => if s.claimed e.caller then w else upd w e.caller (winCountOf s e.caller)
  | _ => w

theorem vv_ghost_not_claim {s : State} {e : Env} {c : Call} {w : Nat → Nat} (hc : c ≠ .claim) :
    vv_ghost s e c w = w := by
  cases c <;> first | rfl | exact absurd rfl hc

/-- reachable states of the v2 launchpad together with the ghost record of the winning tickets
    held at settlement -/
inductive vv_ReachW (hash : List Nat → List Nat) : State → Nat → (Nat → Nat) → Prop
  | init (a : InitArgs) (e : Env) (s : State) :
      init .guarV2 a e = .ok s → vv_ReachW hash s e.round (fun _ => 0)
  | call (s : State) (r : Nat) (w : Nat → Nat) (e : Env) (c : Call) (s' : State) (o : Out) :
      vv_ReachW hash s r w → r ≤ e.round → EnvOK e → CallOK c →
      step hash s e c = .ok (s', o) → vv_ReachW hash s' e.round (vv_ghost s e c w)
  | wait (s : State) (r r' : Nat) (w : Nat → Nat) :
      vv_ReachW hash s r w → r ≤ r' → vv_ReachW hash s r' w

theorem vv_ReachW.reach {hash : List Nat → List Nat} {s : State} {r : Nat} {w : Nat → Nat}
    (h : vv_ReachW hash s r w) : Reach hash .guarV2 s r := by
  induction h with
  | init a e s h => exact .init a e s h
  | call s r w e c s' o _ h1 h2 h3 h4 ih => exact .call s r e c s' o ih h1 h2 h3 h4
  | wait s r r' w _ h1 ih => exact .wait s r r' ih h1

theorem vv_reach_ghost {hash : List Nat → List Nat} {s : State} {r : Nat}
    (h : Reach hash .guarV2 s r) : ∃ w, vv_ReachW hash s r w := by
  induction h with
  | init a e s h => exact ⟨_, .init a e s h⟩
  | call s r e c s' o _ h1 h2 h3 h4 ih =>
    obtain ⟨w, ih⟩ := ih
    exact ⟨_, .call s r w e c s' o ih h1 h2 h3 h4⟩
  | wait s r r' _ h1 ih =>
    obtain ⟨w, ih⟩ := ih
    exact ⟨w, .wait s r r' w ih h1⟩

/-- **the entitlement is `perTicket ×` the winning tickets held at settlement**; a participant who
    has not settled has the ghost record `0` -/
theorem vv_ghost_total {hash : List Nat → List Nat} {s : State} {r : Nat} {w : Nat → Nat}
    (h : vv_ReachW hash s r w) :
    ∀ a, s.userTotal a = w a * s.perTicket ∧ (s.claimed a = false → w a = 0) := by
  induction h with
  | init a0 e s h =>
    obtain ⟨_, rfl⟩ := init_ok h
    intro a
    exact ⟨(Nat.zero_mul _).symm, fun _ => rfl⟩
  | wait s r r' w _ _ ih => exact ih
  | call s r w e c s' o hprev h1 h2 _ h4 ih =>
    obtain ⟨a0, hA⟩ := Reach_iff.mp hprev.reach
    have hwf := reach_WF2 hA
    have hxx := vv_reach_Exact hA
    by_cases hcc : c = .claim
    · subst hcc
      have j := hwf.claimVested hxx h1 h4
      have j2 := (claim_static h4).2.2.2.1
      have j8 := j.others
      have j9 := j.settled
      have j10 := j.again
      have j11 := j.first
      intro a
      by_cases ha : a = e.caller
      · rw [ha]
        cases hcl : s.claimed e.caller with
        | true =>
          have hg : vv_ghost s e .claim w = w := by simp only [vv_ghost, hcl, if_true]
          rw [hg, j10 hcl, j2]
          exact ⟨(ih e.caller).1, fun hq => by rw [j9] at hq; cases hq⟩
        | false =>
          have hg : vv_ghost s e .claim w = upd w e.caller (winCountOf s e.caller) := by
            simp only [vv_ghost, hcl, Bool.false_eq_true, if_false]
          rw [hg, upd_same, (j11 hcl).1, j2]
          exact ⟨rfl, fun hq => by rw [j9] at hq; cases hq⟩
      · obtain ⟨_, q2, q3⟩ := j8 a ha
        have hg : vv_ghost s e .claim w a = w a := by
          simp only [vv_ghost]
          split
          · rfl
          · rw [upd_other _ _ _ _ ha]
        rw [hg, q2, q3, j2]
        exact ih a
    · rw [vv_ghost_not_claim hcc]
      have hcl : s'.claimed = s.claimed := vv_step_claimed hcc h4
      intro a
      rcases vv_nonclaim_records hwf h1 h2 hcc h4 with hf | ⟨q1, _, q3, k2, _⟩
      · have hw : w a = 0 := (ih a).2 (by rw [← hcl]; exact (hf a).2.2)
        exact ⟨by rw [(hf a).1, hw, Nat.zero_mul], fun _ => hw⟩
      · rw [q1, q3, k2]
        exact ih a

end LP

#print axioms LP.vv_reach_ghost
#print axioms LP.vv_ghost_total

/-
  A settled participant's claim is never stuck (`Variant.guarV2`): under `vv_Exact` the subtraction
  in `claimable2` cannot underflow (C13 `claimable2_no_underflow`) and the launchpad-token ledger
  covers the instalment, so a repeat claim without call value to a contract that is not paused is
  accepted or rejected with "Already claimed all tokens" — and the latter means the whole
  entitlement has been received (`vv_repeat_claim_total`).  The first claim (settlement + refund +
  first instalment) of a participant owning a range is accepted in the claim stage whenever the
  contract is not paused (`vv_first_claim_total`).
-/
namespace LP
open LP.FY LP.Events

theorem vv_step_claim_eq (hash : List Nat → List Nat) {s : State} (hv : s.variant = .guarV2)
    (e : Env) (h1 : e.egld = 0) (h2 : e.esdts = []) :
    step hash s e .claim =
      match claimVested (rbTx s e) e with
      | .error err => .error err
      | .ok t => .ok (t.s, t.o) := by
  have hvest : (rbTx s e).s.variant.vested = true := by rw [rbTx_s, hv]; rfl
  rw [step_eq_exec rfl h1 h2, exec_claim_vested hash _ e hvest]
  rfl

theorem vv_claimPay_ok {t : Tx} {e : Env} {c : Nat} (hc : c ≤ t.s.bal (.esdt t.s.lpTok) 0) :
    ∃ t', claimPay true t e c = .ok t' := by
  unfold claimPay
  by_cases hpos : c > 0
  · rw [if_pos hpos]
    have hsend : ∃ t1, t.send e.caller ⟨.esdt t.s.lpTok, 0, c⟩ = .ok t1 := by
      unfold Tx.send
      rw [if_neg (by show ¬ t.s.bal (.esdt t.s.lpTok) 0 < c; omega)]
      exact ⟨_, rfl⟩
    obtain ⟨t1, ht1⟩ := hsend
    rw [ht1]
    exact ⟨_, rfl⟩
  · rw [if_neg hpos]
    exact ⟨_, rfl⟩

/-- the body of a repeat claim: accepted, or rejected with "Already claimed all tokens" -/
theorem vv_claimVested_repeat_total {s : State} {e : Env} {r' : Nat} (hv2 : s.variant.isV2 = true)
    (hcl : s.claimed e.caller = true) (hp : s.paused = false) (hr : r' ≤ e.round)
    (hinv : s.userClaimed e.caller ≤ entitled2 s e.caller r')
    (hpct : unlockedPct2 e.round (sched2Of s) ≤ 10000)
    (hcov : s.userTotal e.caller - s.userClaimed e.caller ≤ s.bal (.esdt s.lpTok) 0) :
    (∃ t, claimVested (rbTx s e) e = .ok t) ∨
    (claimVested (rbTx s e) e = .error (.user "Already claimed all tokens") ∧
      0 < s.userTotal e.caller ∧ s.userTotal e.caller ≤ s.userClaimed e.caller) := by
  rw [claimVested_eq]
  simp only [rbTx_s, hv2, if_true, hp, Bool.not_false, req_true]
  have hset : claimSettle (rbTx s e) e = .ok (rbTx s e) := by
    unfold claimSettle
    simp only [rbTx_s, hcl, if_true]
    rfl
  have hbody : claimBody true (rbTx s e) e
      = claimable2 s e e.caller >>= fun c => claimPay true (rbTx s e) e c := by
    unfold claimBody
    rw [hset]
    rfl
  rcases claimable2_no_underflow s e e.caller hr hinv with hc | ⟨hc, k1, k2⟩
  · left
    have hle : entitled2 s e.caller e.round - s.userClaimed e.caller
        ≤ s.bal (.esdt s.lpTok) 0 := by
      have : entitled2 s e.caller e.round ≤ s.userTotal e.caller := entitled_le _ hpct
      omega
    show ∃ t, (Except.ok () >>= fun _ => claimBody true (rbTx s e) e) = .ok t
    have : (Except.ok () >>= fun _ => claimBody true (rbTx s e) e)
        = claimPay true (rbTx s e) e (entitled2 s e.caller e.round - s.userClaimed e.caller) := by
      show claimBody true (rbTx s e) e = _
      rw [hbody, hc]; rfl
    rw [this]
    exact vv_claimPay_ok hle
  · right
    refine ⟨?_, k1, k2⟩
    show claimBody true (rbTx s e) e = _
    rw [hbody, hc]; rfl

/-- **a repeat claim is never stuck**: from a well-formed state satisfying the exactness
    invariant, the claim of a settled participant — contract not paused, no call value — is either
    accepted or rejected with "Already claimed all tokens", in which case the whole (positive)
    entitlement has been received -/
theorem vv_repeat_claim_total {T0 : Nat} (hash : List Nat → List Nat) {s : State} {r : Nat}
    (h : WF2 T0 s r) (hx : vv_Exact s r) (e : Env) (hr : r ≤ e.round)
    (hcl : s.claimed e.caller = true) (hp : s.paused = false) (h1 : e.egld = 0) (h2 : e.esdts = []) :
    (∃ s' o, step hash s e .claim = .ok (s', o)) ∨
    (step hash s e .claim = .error (.user "Already claimed all tokens") ∧
      0 < s.userTotal e.caller ∧ s.userClaimed e.caller = s.userTotal e.caller) := by
  obtain ⟨_, _, hv2, _⟩ := v2_flags h.var
  obtain ⟨r', hr', hex⟩ := hx.settled e.caller hcl
  have hd := vv_settled_done h hcl
  have hcov : s.userTotal e.caller - s.userClaimed e.caller ≤ s.bal (.esdt s.lpTok) 0 :=
    Nat.le_trans (Nat.le_add_left _ _) (vv_lp_covered h hd e.caller)
  have hinv : s.userClaimed e.caller ≤ entitled2 s e.caller r' := by
    rw [hex]; exact Nat.le_refl _
  rw [vv_step_claim_eq hash h.var e h1 h2]
  rcases vv_claimVested_repeat_total hv2 hcl hp (Nat.le_trans hr' hr) hinv (vv_pct_le h _) hcov with
    ⟨t, ht⟩ | ⟨ht, k1, k2⟩
  · left; rw [ht]; exact ⟨_, _, rfl⟩
  · right
    rw [ht]
    have := (vv_records h e.caller).2
    exact ⟨rfl, k1, by omega⟩

/-- settle and refund succeed under `ClaimPre`, and the entitlement is recorded -/
theorem claimSettle_of_pre {t : Tx} {e : Env} {r : Range} (h : ClaimPre t e r) :
    claimSettle t e = .ok (if countWinning t.s.status r.first (rangeLen r) > 0 then
      (claimMid t e r).setS { (claimMid t e r).s with
        userTotal := upd (claimMid t e r).s.userTotal e.caller
          (countWinning t.s.status r.first (rangeLen r) * (claimMid t e r).s.perTicket) }
      else claimMid t e r) :=
  (claimSettle_ok_iff t e _).mpr (Or.inr ⟨r, h, rfl⟩)

/-- **the first claim is never stuck**: from a reachable state in the claim stage, the claim of a
    participant who has not settled and still owns a ticket range — contract not paused, no call
    value — is accepted: the settlement arithmetic does not underflow, the payment-token refund and
    the launchpad-token instalment are both covered by the contract's balances -/
theorem vv_first_claim_total (hash : List Nat → List Nat) {s : State} {r : Nat}
    (h : Reach hash .guarV2 s r) (e : Env) (hst : s.stage e = .claim)
    (hcl : s.claimed e.caller = false) {rg : Range} (hrg : s.range e.caller = some rg)
    (hp : s.paused = false) (h1 : e.egld = 0) (h2 : e.esdts = []) :
    ∃ s' o, step hash s e .claim = .ok (s', o) := by
  obtain ⟨a0, hA⟩ := Reach_iff.mp h
  have hwf := reach_WF2 hA
  obtain ⟨_, _, hv2, _⟩ := v2_flags hwf.var
  obtain ⟨⟨hsel, hadd⟩, _⟩ := stage_claim_iff.mp hst
  have hd : AllDone s := ⟨hsel, hadd⟩
  obtain ⟨k, hk⟩ : ∃ k, k = countWinning s.status rg.first (rangeLen rg) := ⟨_, rfl⟩
  have hwc : winCountOf s e.caller = k := (winCountOf_some hrg).trans hk.symm
  obtain ⟨L, _, _, hwin, hlec, hrgs⟩ := LP.Props.C01reachV2.three_counts_guarV2 hash s r h hd
  have hk1 : k ≤ s.nrWinning := by
    have := rb_le_sumOver (winCountOf s) L e.caller (hrgs _ _ hrg).1
    omega
  have hk2 : k ≤ s.confirmed e.caller := by rw [← hwc]; exact hlec _
  have hcov := LP.Props.C01reachV2.claim_refund_covered_guarV2 hash s r h hd e.caller rg hrg
  rw [hwc] at hcov
  have hpre : ClaimPre (rbTx s e) e rg := by
    refine ⟨hst, hcl, hrg, ?_, ?_, ?_⟩ <;> simp only [rbTx_s, ← hk]
    · exact hk1
    · exact hk2
    · exact Nat.le_trans (Nat.le_add_left _ _) hcov
  have hsettle := claimSettle_of_pre hpre
  simp only [rbTx_s, ← hk] at hsettle
  -- the record after settle and refund, and the four things the instalment reads from it
  obtain ⟨t1, ht1d⟩ : ∃ t1, t1 = (if k > 0 then
      (claimMid (rbTx s e) e rg).setS { (claimMid (rbTx s e) e rg).s with
        userTotal := upd (claimMid (rbTx s e) e rg).s.userTotal e.caller
          (k * (claimMid (rbTx s e) e rg).s.perTicket) }
      else claimMid (rbTx s e) e rg) := ⟨_, rfl⟩
  rw [← ht1d] at hsettle
  have ht1 : t1.s = { (claimMid (rbTx s e) e rg).s with
      userTotal := if k > 0 then upd s.userTotal e.caller (k * s.perTicket) else s.userTotal } := by
    rw [ht1d]; split <;> (rw [claimMid_state]; rfl)
  rw [claimMid_state] at ht1
  have hrec := (vv_records hwf e.caller).1 hcl
  have huc1 : t1.s.userClaimed e.caller = 0 := by rw [ht1]; exact hrec.2
  have hut1 : t1.s.userTotal e.caller ≤ s.perTicket * k := by
    rw [ht1]
    show (if k > 0 then upd s.userTotal e.caller (k * s.perTicket) else s.userTotal) e.caller ≤ _
    split
    · rw [upd_same, Nat.mul_comm]; exact Nat.le_refl _
    · rw [hrec.1]; exact Nat.zero_le _
  have hbl : t1.s.bal (.esdt t1.s.lpTok) 0 = s.bal (.esdt s.lpTok) 0 := by
    rw [ht1]; exact Bal.sub_off _ _ _ _ (fun hh => hwf.tokNe hh.symm)
  have hpct : unlockedPct2 e.round (sched2Of t1.s) ≤ 10000 := by
    rw [vv_sched2Of_congr (s := s) (by rw [ht1]; rfl)]; exact vv_pct_le hwf _
  have hwcov := LP.Props.C01reachV2.unsettled_winner_covered_guarV2 hash s r h hd e.caller rg hrg
  rw [hwc] at hwcov
  obtain ⟨c, hc, hcle⟩ : ∃ c, claimable2 t1.s e e.caller = .ok c ∧ c ≤ t1.s.bal (.esdt t1.s.lpTok) 0 := by
    rcases claimable2_no_underflow t1.s e e.caller (Nat.le_refl e.round)
      (by rw [huc1]; exact Nat.zero_le _) with hc | ⟨_, k1, k2⟩
    · refine ⟨_, hc, ?_⟩
      have h1 : entitled2 t1.s e.caller e.round ≤ t1.s.userTotal e.caller := entitled_le _ hpct
      rw [hbl]
      omega
    · omega
  obtain ⟨t, ht⟩ := vv_claimPay_ok (t := t1) (e := e) hcle
  have hcv : claimVested (rbTx s e) e = .ok t := by
    rw [claimVested_eq]
    simp only [rbTx_s, hv2, if_true, hp, Bool.not_false, req_true]
    show claimBody true (rbTx s e) e = _
    unfold claimBody
    rw [hsettle]
    show (claimable2 t1.s e e.caller >>= fun c => claimPay true t1 e c) = _
    rw [hc]
    exact ht
  rw [vv_step_claim_eq hash hwf.var e h1 h2, hcv]
  exact ⟨_, _, rfl⟩

end LP

#print axioms LP.vv_repeat_claim_total
#print axioms LP.vv_first_claim_total
