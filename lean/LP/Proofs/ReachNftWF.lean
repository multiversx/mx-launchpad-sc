import LP.Proofs.ReachPlain
import LP.Props.C14
import LP.Props.C10
import LP.Proofs.CorePhase
/-
  The inductive invariant `nf_WF T0 s r` of `Variant.nft` (launchpad-with-nft; prefix `nf_`), and
  what it shares with launchpad-nft-and-guaranteed-tickets.  Three parts: the invariant with its
  phase-extraction, frame and build lemmas, deployment and the passing of time; how its fee ledger
  `nf_SideInv` moves under each kind of call; `NftFacts`, what the theorems on either contract read
  off their invariant.  `nf_WF` extends the plain invariant (ReachWF):
  * the ticket-space / ticket-payment part is the plain `Phase` over the projection `nf_core s`,
    whose `payBal` is the ticket part of the payment-token holdings: `bal payTok 0` minus the NFT
    fees held in the same slot (`nf_Side.feeIn`, zero when the fee token is a different slot).
    So one invariant covers every token configuration (fee token = payment token, fee token
    separate, even fee token = launchpad token, about which nothing is claimed);
  * between the completion of the base lottery and the completion of the NFT draw
    (`selected ∧ ¬ additional`) both ledger equations hold (nothing moves tokens);
  * `nf_SideInv` is the fee ledger (`feeLe`, `feeEq`), "no other slot holds anything" and the facts
    on the two NFT lists (`NftOk`, every payer / winner has confirmed tickets, claimed addresses are
    in neither list, no winner before the base lottery is complete).
-/
namespace LP
open LP.FY LP.Props.C14

/-- the three SFT set-up endpoints that call the system contract are not modelled: the dispatcher
    may expose them, the endpoint body always rejects -/
theorem step_sft_rejected {hash : List Nat → List Nat} {s s' : State} {e : Env} {c : Call} {o : Out}
    (hs : step hash s e c = .ok (s', o)) :
    match c with
    | .issueSft | .createSfts | .setTransferRole _ => False
    | _ => True := by
  obtain ⟨_, _, _, _, _, hx, _⟩ := step_ok_inv hs
  have hf := (exec_fp hx).1
  cases c <;> first | trivial | exact hf.elim

structure nf_Side where
  payTok : Token
  lpTok : Nat
  bal : Bal
  cost : Pay
  payers : List Nat
  winners : List Nat
  cnft : Nat
  avail : Nat
  claimed : Nat → Bool
  confirmed : Nat → Nat
  additional : Bool
  selected : Bool

def nf_side (s : State) : nf_Side :=
  { payTok := s.payTok, lpTok := s.lpTok, bal := s.bal, cost := s.nftCost, payers := s.payers,
    winners := s.nftWinners, cnft := s.claimableNft, avail := s.availNfts, claimed := s.claimed,
    confirmed := s.confirmed, additional := s.flags.additional, selected := s.flags.selected }

/-- the fee liability (`LP.Props.C14.feeHeld`) on the projection -/
def nf_Side.held (p : nf_Side) : Nat :=
  if p.additional then p.cnft + p.cost.amount * p.payers.length
  else p.cost.amount * (p.payers.length + p.winners.length)

/-- the fee is paid in the ticket-payment slot -/
def nf_Side.same (p : nf_Side) : Prop := p.cost.tok = p.payTok ∧ p.cost.nonce = 0

/-- the fee is paid in the launchpad-token slot (nothing is claimed about fees then) -/
def nf_Side.isLp (p : nf_Side) : Prop := p.cost.tok = .esdt p.lpTok ∧ p.cost.nonce = 0

instance nf_decSame (p : nf_Side) : Decidable p.same := by unfold nf_Side.same; infer_instance
instance nf_decIsLp (p : nf_Side) : Decidable p.isLp := by unfold nf_Side.isLp; infer_instance

def nf_Side.feeIn (p : nf_Side) : Nat := if p.same then p.held else 0

def nf_Side.tix (p : nf_Side) : Nat := p.bal p.payTok 0 - p.feeIn

theorem nf_feeIn_zero {p : nf_Side} (h : p.held = 0) : p.feeIn = 0 := by
  unfold nf_Side.feeIn; split
  · exact h
  · rfl

theorem nf_held_eq (s : State) : (nf_side s).held = feeHeld s := rfl

def nf_core (s : State) : Core := { s.core with payBal := (nf_side s).tix }

structure nf_SideInv (p : nf_Side) : Prop where
  balOther : ∀ t n, ¬ (t = p.payTok ∧ n = 0) → ¬ (t = .esdt p.lpTok ∧ n = 0) →
    ¬ (t = p.cost.tok ∧ n = p.cost.nonce) → p.bal t n = 0
  feeLe : p.same → p.held ≤ p.bal p.payTok 0
  feeEq : ¬ p.same → ¬ p.isLp → p.bal p.cost.tok p.cost.nonce = p.held
  nodupP : p.payers.Nodup
  nodupW : p.winners.Nodup
  disj : ∀ a, a ∈ p.payers → a ∉ p.winners
  winLe : p.winners.length ≤ p.avail
  conf : ∀ a, a ∈ p.payers ∨ a ∈ p.winners → 0 < p.confirmed a
  fresh : p.additional = false → ∀ a, p.claimed a = false
  claimedOut : ∀ a, p.claimed a = true → a ∉ p.payers ∧ a ∉ p.winners
  noWin : p.selected = false → p.winners = []

/-- the three groups of phases of the launchpad with NFT draw: the plain phases before the base
    lottery completes; base lottery complete and NFT draw not complete (both ledger equations
    hold; the saved operation is none or the draw's generator); everything complete -/
def nf_Phase (T0 : Nat) (c : Core) : Prop :=
  (c.flags.additional = false ∧ c.flags.selected = false ∧ Phase T0 c) ∨
  (c.flags.additional = false ∧ PhD { c with op := .none } ∧
    (c.op = .none ∨ ∃ r, c.op = .additional (.nft r)) ∧
    ∃ L : List Nat, L.Nodup ∧ (∀ a, c.confirmed a ≠ 0 → a ∈ L) ∧ PayPre c L) ∨
  (c.flags.additional = true ∧ PhD c)

/-- the inductive invariant of `Variant.nft`; `T0` = winners configured at deployment, `r` = round
    of the latest transaction -/
structure nf_WF (T0 : Nat) (s : State) (r : Nat) : Prop where
  var : s.variant = .nft
  pricePos : 0 < s.price
  tokNe : s.payTok ≠ .esdt s.lpTok
  tlConf : r < s.cfg.conf → ∀ a, s.confirmed a = 0
  tlStarted : s.flags.started = true → s.cfg.conf ≤ r ∧ s.cfg.sel ≤ r
  phase : nf_Phase T0 (nf_core s)
  side : nf_SideInv (nf_side s)

theorem nf_phase_early {T0 : Nat} {c : Core} (h : nf_Phase T0 c) (hs : c.flags.selected = false) :
    c.flags.additional = false ∧ Phase T0 c := by
  rcases h with ⟨h1, _, h3⟩ | ⟨_, hD, _⟩ | ⟨_, hD⟩
  · exact ⟨h1, h3⟩
  · have : c.flags.selected = true := hD.selected
    rw [hs] at this; cases this
  · rw [hD.selected] at hs; cases hs

theorem nf_phase_notFiltered {T0 : Nat} {c : Core} (h : nf_Phase T0 c) (hf : c.flags.filtered = false) :
    c.flags.additional = false ∧ c.flags.selected = false ∧ Phase T0 c := by
  rcases h with h1 | ⟨_, hD, _⟩ | ⟨_, hD⟩
  · exact h1
  · have : c.flags.filtered = true := hD.filtered
    rw [hf] at this; cases this
  · rw [hD.filtered] at hf; cases hf

theorem nf_phase_notStarted {T0 : Nat} {c : Core} (h : nf_Phase T0 c) (hs : c.flags.started = false) :
    c.flags.additional = false ∧ c.flags.selected = false ∧ ∃ L0, Pre T0 c L0 ∧ PhA c L0 := by
  rcases h with ⟨h1, h2, h3⟩ | ⟨_, hD, _⟩ | ⟨_, hD⟩
  · exact ⟨h1, h2, rb_phase_notStarted h3 hs⟩
  · have : c.flags.started = true := hD.started
    rw [hs] at this; cases this
  · rw [hD.started] at hs; cases hs

theorem nf_phase_mid {T0 : Nat} {c : Core} (h : nf_Phase T0 c) (hs : c.flags.selected = true)
    (ha : c.flags.additional = false) :
    PhD { c with op := .none } ∧ (c.op = .none ∨ ∃ r, c.op = .additional (.nft r)) ∧
    ∃ L : List Nat, L.Nodup ∧ (∀ a, c.confirmed a ≠ 0 → a ∈ L) ∧ PayPre c L := by
  rcases h with ⟨_, h2, _⟩ | ⟨_, h2⟩ | ⟨h1, _⟩
  · rw [h2] at hs; cases hs
  · exact h2
  · rw [h1] at ha; cases ha

theorem nf_phase_done {T0 : Nat} {c : Core} (h : nf_Phase T0 c) (ha : c.flags.additional = true) :
    PhD c := by
  rcases h with ⟨h1, _⟩ | ⟨h1, _⟩ | ⟨_, hD⟩
  · rw [h1] at ha; cases ha
  · rw [h1] at ha; cases ha
  · exact hD

theorem nf_flags {v : Variant} (hv : v = .nft) :
    v.vested = false ∧ v.hasNft = true ∧ v.isV2 = false ∧ v.v1Alloc = false ∧ v.hasLock = false ∧
    v.hasGuaranteed = false ∧ v.hasUnblacklist = false ∧ v.noAdditionalStep = false := by
  subst hv; exact ⟨rfl, rfl, rfl, rfl, rfl, rfl, rfl, rfl⟩

theorem nf_early_side {T0 : Nat} {s : State} {r : Nat} (h : nf_WF T0 s r)
    (hns : s.flags.started = false) :
    s.flags.additional = false ∧ s.flags.selected = false ∧ s.nftWinners = [] := by
  obtain ⟨h1, h2, _⟩ := nf_phase_notStarted h.phase hns
  exact ⟨h1, h2, h.side.noWin h2⟩

theorem nf_core_eq {s s' : State} (h : nf_side s' = nf_side s) :
    nf_core s' = s'.core.withPay (nf_side s).tix := by
  unfold nf_core Core.withPay; rw [h]

/-- a later state with the same ticket ledger (over the ticket part of the holdings), in which the
    timeline has not reopened a period -/
theorem nf_WF.frame {T0 : Nat} {s s' : State} {r r' : Nat} (h : nf_WF T0 s r)
    (hcore : nf_core s' = nf_core s) (hv : s'.variant = s.variant) (hp : s'.payTok = s.payTok)
    (hl : s'.lpTok = s.lpTok) (hside : nf_SideInv (nf_side s')) (hcfg : CfgMono s.cfg s'.cfg r')
    (hr : r ≤ r') : nf_WF T0 s' r' := by
  have hprice : s'.price = s.price := congrArg Core.price hcore
  have hflags : s'.flags = s.flags := congrArg Core.flags hcore
  have hconf : s'.confirmed = s.confirmed := congrArg Core.confirmed hcore
  refine ⟨by rw [hv]; exact h.var, by rw [hprice]; exact h.pricePos, by rw [hp, hl]; exact h.tokNe,
    ?_, ?_, by rw [hcore]; exact h.phase, hside⟩
  · intro h1
    rw [hconf]
    exact h.tlConf (Nat.lt_of_le_of_lt hr (hcfg.confLt h1))
  · intro h1
    obtain ⟨h2, h3⟩ := h.tlStarted (hflags ▸ h1)
    exact ⟨hcfg.conf (Nat.le_trans h2 hr), hcfg.sel (Nat.le_trans h3 hr)⟩

theorem nf_WF.early {T0 : Nat} {s s' : State} {r r' : Nat} (h : nf_WF T0 s r)
    (hv : s'.variant = s.variant) (hpr : 0 < s'.price) (htok : s'.payTok ≠ .esdt s'.lpTok)
    (hfl : s'.flags = s.flags) (hns : s.flags.started = false)
    (htl : r' < s'.cfg.conf → ∀ a, s'.confirmed a = 0) (hside : nf_SideInv (nf_side s'))
    {L0 : List (Nat × Nat)} (hp : Pre T0 (nf_core s') L0) (ha : PhA (nf_core s') L0) :
    nf_WF T0 s' r' := by
  obtain ⟨hna, hnsel, _⟩ := nf_phase_notStarted h.phase hns
  have hna' : s'.flags.additional = false := by rw [hfl]; exact hna
  have hnsel' : s'.flags.selected = false := by rw [hfl]; exact hnsel
  refine ⟨by rw [hv]; exact h.var, hpr, htok, htl, fun hst => ?_, ?_, hside⟩
  · rw [hfl, hns] at hst; cases hst
  · exact Or.inl ⟨hna', hnsel', Or.inl ⟨L0, hp, Or.inl ha⟩⟩

theorem nf_WF.late {T0 : Nat} {s s' : State} {r r' : Nat} (h : nf_WF T0 s r)
    (hv : s'.variant = s.variant) (hpr : s'.price = s.price) (hp : s'.payTok = s.payTok)
    (hl : s'.lpTok = s.lpTok) (hc : s'.cfg.conf ≤ r' ∧ s'.cfg.sel ≤ r')
    (hside : nf_SideInv (nf_side s')) (hph : nf_Phase T0 (nf_core s')) : nf_WF T0 s' r' :=
  ⟨by rw [hv]; exact h.var, by rw [hpr]; exact h.pricePos, by rw [hp, hl]; exact h.tokNe,
    fun hlt => absurd hc.1 (Nat.not_le.mpr hlt), fun _ => hc, hph, hside⟩

def nf_initState (a : InitArgs) (e : Env) : State :=
  { variant := .nft, owner := e.caller, lpTok := a.lpTok, perTicket := a.perTicket,
    payTok := a.payTok, price := a.price, nrWinning := a.nrWinning,
    cfg := ⟨a.conf, a.sel, a.claim⟩, flags := { additional := false }, support := e.caller,
    nftCost := a.nftCost, availNfts := a.availNfts }

theorem nf_init_inv {a : InitArgs} {e : Env} {s : State} (h : init .nft a e = .ok s) :
    0 < a.price ∧ 0 < a.nrWinning ∧ a.payTok ≠ .esdt a.lpTok ∧ 0 < a.availNfts ∧
    s = nf_initState a e := by
  obtain ⟨hok, rfl⟩ := init_ok h
  exact ⟨hok.price, hok.nrWinning, hok.tokNe, (hok.nft rfl).1, rfl⟩

theorem nf_init_WF {a : InitArgs} {e : Env} {s : State} (h : init .nft a e = .ok s) :
    nf_WF a.nrWinning s e.round := by
  obtain ⟨h1, h2, h3, h4, rfl⟩ := nf_init_inv h
  have hheld : (nf_side (nf_initState a e)).held = 0 := by
    simp [nf_Side.held, nf_side, nf_initState]
  have hfee : (nf_side (nf_initState a e)).feeIn = 0 := nf_feeIn_zero hheld
  refine ⟨rfl, h1, h3, fun _ _ => rfl, nofun, ?_, ?_⟩
  · left
    refine ⟨rfl, rfl, Or.inl ⟨[], ⟨rfl, rfl, rfl, rfl, rfl, ⟨List.nodup_nil, nofun, nofun⟩,
      fun _ _ => rfl, fun _ _ => rfl, ?_⟩, Or.inl ⟨rfl, rfl, trivial, rfl⟩⟩⟩
    show (nf_side (nf_initState a e)).tix = a.price * sumOver (fun _ => 0) []
    unfold nf_Side.tix
    rw [hfee]
    simp [sumOver, nf_side, nf_initState]
  · refine ⟨fun _ _ _ _ _ => rfl, fun _ => by rw [hheld]; exact Nat.zero_le _,
      fun _ _ => by rw [hheld]; rfl, List.nodup_nil, List.nodup_nil, nofun, Nat.zero_le _, ?_,
      fun _ _ => rfl, nofun, fun _ => rfl⟩
    intro a ha
    rcases ha with ha | ha <;> cases ha

theorem nf_wait_WF {T0 : Nat} {s : State} {r r' : Nat} (h : nf_WF T0 s r) (hr : r ≤ r') :
    nf_WF T0 s r' :=
  h.frame rfl rfl rfl rfl h.side (CfgMono.refl _ _) hr

end LP

/-
  How the fee ledger `nf_SideInv` moves.  Everything here is about the projection `nf_Side` alone,
  so that the two invariants built on it (`nf_WF` of launchpad-with-nft, `ng_WF` of
  launchpad-nft-and-guaranteed-tickets) share it.
-/
namespace LP
open LP.FY LP.Props.C14

theorem Bal.sub_apply (b : Bal) (t : Token) (n x : Nat) (t' : Token) (n' : Nat) :
    (b.sub t n x) t' n' = b t' n' - (if t' = t ∧ n' = n then x else 0) := by
  unfold Bal.sub; split <;> simp

theorem Bal.add_apply (b : Bal) (t : Token) (n x : Nat) (t' : Token) (n' : Nat) :
    (b.add t n x) t' n' = b t' n' + (if t' = t ∧ n' = n then x else 0) := by
  unfold Bal.add; split <;> simp

theorem nf_held_of_not_done {p : nf_Side} (h : p.additional = false) :
    p.held = p.cost.amount * (p.payers.length + p.winners.length) := by
  simp only [nf_Side.held, h, Bool.false_eq_true, if_false]

theorem nf_held_of_done {p : nf_Side} (h : p.additional = true) :
    p.held = p.cnft + p.cost.amount * p.payers.length := by
  simp only [nf_Side.held, h, if_true]

theorem nf_feeIn_le {p : nf_Side} (h : nf_SideInv p) : p.feeIn ≤ p.bal p.payTok 0 := by
  unfold nf_Side.feeIn; split
  · rename_i hs; exact h.feeLe hs
  · exact Nat.zero_le _

theorem nf_tix_add {p : nf_Side} (h : nf_SideInv p) : p.tix + p.feeIn = p.bal p.payTok 0 := by
  have := nf_feeIn_le h; unfold nf_Side.tix; omega

theorem nf_SideInv.lists_nil {p : nf_Side} (h : nf_SideInv p) (hz : ∀ a, p.confirmed a = 0) :
    p.payers = [] ∧ p.winners = [] := by
  constructor <;> apply List.eq_nil_iff_forall_not_mem.mpr <;> intro a ha
  · have := h.conf a (Or.inl ha); rw [hz a] at this; exact Nat.lt_irrefl 0 this
  · have := h.conf a (Or.inr ha); rw [hz a] at this; exact Nat.lt_irrefl 0 this

theorem nf_SideInv_bal {p : nf_Side} (h : nf_SideInv p) (B : Bal)
    (h1 : ∀ t n, ¬ (t = p.payTok ∧ n = 0) → ¬ (t = .esdt p.lpTok ∧ n = 0) →
      ¬ (t = p.cost.tok ∧ n = p.cost.nonce) → B t n = 0)
    (h2 : p.same → p.held ≤ B p.payTok 0)
    (h3 : ¬ p.same → ¬ p.isLp → B p.cost.tok p.cost.nonce = p.held) :
    nf_SideInv { p with bal := B } :=
  ⟨h1, h2, h3, h.nodupP, h.nodupW, h.disj, h.winLe, h.conf, h.fresh, h.claimedOut, h.noWin⟩

theorem nf_SideInv_lpBal {p : nf_Side} (h : nf_SideInv p) (hne : p.payTok ≠ .esdt p.lpTok) (B : Bal)
    (hB : ∀ t n, ¬ (t = .esdt p.lpTok ∧ n = 0) → B t n = p.bal t n) :
    nf_SideInv { p with bal := B } := by
  apply nf_SideInv_bal h B
  · intro t n a1 a2 a3; rw [hB t n a2]; exact h.balOther t n a1 a2 a3
  · intro hs; rw [hB _ _ (by intro hh; exact hne hh.1)]; exact h.feeLe hs
  · intro a1 a2; rw [hB _ _ a2]; exact h.feeEq a1 a2

/-- A payout (`claim`, `claimPayment`, `blacklist`).  `X` leaves the ticket part of the payment slot
    and `δ` of the fee liability leaves the fee slot — one slot when the fee is paid in the payment
    token, which is why the two are treated together; the launchpad-token slot is not constrained.
    The NFT lists, the settled flags and the confirmations may change as long as the list facts
    hold of the new values. -/
theorem nf_SideInv_move {p q : nf_Side} (h : nf_SideInv p) (hne : p.payTok ≠ .esdt p.lpTok)
    {X δ c : Nat} {B : Bal} {P W : List Nat} {cl : Nat → Bool} {f : Nat → Nat}
    (hq : q = { p with bal := B, payers := P, winners := W, cnft := c, claimed := cl,
                       confirmed := f })
    (hX : X ≤ p.tix) (hheld : q.held + δ = p.held)
    (hB : ∀ t n, ¬ (t = .esdt p.lpTok ∧ n = 0) →
      B t n = p.bal t n - (if t = p.payTok ∧ n = 0 then X else 0)
        - (if t = p.cost.tok ∧ n = p.cost.nonce then δ else 0))
    (nodupP : P.Nodup) (nodupW : W.Nodup) (disj : ∀ a, a ∈ P → a ∉ W) (winLe : W.length ≤ p.avail)
    (conf : ∀ a, a ∈ P ∨ a ∈ W → 0 < f a) (fresh : p.additional = false → ∀ a, cl a = false)
    (claimedOut : ∀ a, cl a = true → a ∉ P ∧ a ∉ W) (noWin : p.selected = false → W = []) :
    nf_SideInv q ∧ q.tix = p.tix - X := by
  have hsame : q.same ↔ p.same := by rw [hq]; exact Iff.rfl
  subst hq
  have hother : ∀ t n, ¬ (t = p.payTok ∧ n = 0) → ¬ (t = .esdt p.lpTok ∧ n = 0) →
      ¬ (t = p.cost.tok ∧ n = p.cost.nonce) → B t n = 0 := by
    intro t n a1 a2 a3
    rw [hB t n a2, if_neg a1, if_neg a3]
    exact h.balOther t n a1 a2 a3
  have hfl := nf_feeIn_le h
  have hpay0 := hB p.payTok 0 (fun hh => hne hh.1)
  rw [if_pos ⟨rfl, rfl⟩] at hpay0
  by_cases hs : p.same
  · -- one slot: it loses `X + δ`
    have hfi : p.feeIn = p.held := if_pos hs
    have hpay : B p.payTok 0 = p.bal p.payTok 0 - X - δ := by
      rw [hpay0, if_pos ⟨hs.1.symm, hs.2.symm⟩]
    have htx : p.tix = p.bal p.payTok 0 - p.held := by unfold nf_Side.tix; rw [hfi]
    refine ⟨⟨hother, fun _ => ?_, fun hn => absurd (hsame.mpr hs) hn, nodupP, nodupW, disj, winLe, conf,
      fresh, claimedOut, noWin⟩, ?_⟩
    · show _ ≤ B p.payTok 0
      omega
    · rw [htx]
      unfold nf_Side.tix nf_Side.feeIn
      rw [if_pos (hsame.mpr hs)]
      show B p.payTok 0 - _ = _
      omega
  · -- two slots
    have hfi : p.feeIn = 0 := if_neg hs
    have hpay : B p.payTok 0 = p.bal p.payTok 0 - X := by
      rw [hpay0, if_neg (fun hh => hs ⟨hh.1.symm, hh.2.symm⟩)]; rfl
    have htx : p.tix = p.bal p.payTok 0 := by unfold nf_Side.tix; rw [hfi]; rfl
    refine ⟨⟨hother, fun hq => absurd (hsame.mp hq) hs, fun _ hl => ?_, nodupP, nodupW, disj, winLe, conf,
      fresh, claimedOut, noWin⟩, ?_⟩
    · show B p.cost.tok p.cost.nonce = _
      rw [hB p.cost.tok p.cost.nonce hl,
        if_neg (show ¬ (p.cost.tok = p.payTok ∧ p.cost.nonce = 0) from hs), if_pos ⟨rfl, rfl⟩]
      have := h.feeEq hs hl
      omega
    · rw [htx]
      unfold nf_Side.tix nf_Side.feeIn
      rw [if_neg (fun hq => hs (hsame.mp hq))]
      show B p.payTok 0 - 0 = _
      omega

/-- `confirm` -/
theorem nf_SideInv_payIn {p q : nf_Side} (h : nf_SideInv p) {Y : Nat} (a n : Nat)
    (hq : q = { p with bal := p.bal.add p.payTok 0 Y,
                       confirmed := upd p.confirmed a (p.confirmed a + n) }) :
    nf_SideInv q ∧ q.tix = p.tix + Y := by
  subst hq
  have conf : ∀ b, b ∈ p.payers ∨ b ∈ p.winners → 0 < upd p.confirmed a (p.confirmed a + n) b := by
    intro b hb
    have : 0 < p.confirmed b := h.conf b hb
    by_cases hba : b = a
    · subst hba; rw [upd_same]; omega
    · rw [upd_other _ _ _ _ hba]; exact this
  have hfl := nf_feeIn_le h
  have hpay : (p.bal.add p.payTok 0 Y) p.payTok 0 = p.bal p.payTok 0 + Y := by
    rw [Bal.add_apply, if_pos ⟨rfl, rfl⟩]
  refine ⟨⟨fun t n a1 a2 a3 => ?_, fun hs => ?_, fun hs hl => ?_, h.nodupP, h.nodupW, h.disj, h.winLe,
    conf, h.fresh, h.claimedOut, h.noWin⟩, ?_⟩
  · show (p.bal.add p.payTok 0 Y) t n = 0
    rw [Bal.add_apply, if_neg a1]; exact h.balOther t n a1 a2 a3
  · show p.held ≤ (p.bal.add p.payTok 0 Y) p.payTok 0
    have := h.feeLe hs; omega
  · show (p.bal.add p.payTok 0 Y) p.cost.tok p.cost.nonce = p.held
    rw [Bal.add_apply, if_neg (show ¬ (p.cost.tok = p.payTok ∧ p.cost.nonce = 0) from hs)]
    exact h.feeEq hs hl
  · show (p.bal.add p.payTok 0 Y) p.payTok 0 - p.feeIn = p.bal p.payTok 0 - p.feeIn + Y
    omega

/-- `confirmNft`, before the filter starts: nobody is drawn, nobody has settled -/
theorem nf_SideInv_feeIn {p q : nf_Side} (h : nf_SideInv p) (hna : p.additional = false)
    (hw0 : p.winners = []) {a : Nat} (ha : a ∉ p.payers) (hc : 0 < p.confirmed a)
    (hq : q = { p with bal := p.bal.add p.cost.tok p.cost.nonce p.cost.amount,
                       payers := p.payers ++ [a] }) :
    nf_SideInv q ∧ q.tix = p.tix := by
  have hheld : q.held = p.held + p.cost.amount := by
    rw [nf_held_of_not_done (p := q) (by rw [hq]; exact hna), nf_held_of_not_done hna, hq]
    show p.cost.amount * ((p.payers ++ [a]).length + p.winners.length) = _
    rw [List.length_append, List.length_singleton, Nat.add_right_comm, Nat.mul_succ]
  have hsame : q.same ↔ p.same := by rw [hq]; exact Iff.rfl
  subst hq
  have hfee : (p.bal.add p.cost.tok p.cost.nonce p.cost.amount) p.cost.tok p.cost.nonce
      = p.bal p.cost.tok p.cost.nonce + p.cost.amount := by
    rw [Bal.add_apply, if_pos ⟨rfl, rfl⟩]
  refine ⟨⟨fun t n a1 a2 a3 => ?_, fun hs => ?_, fun hs hl => ?_, ?_, h.nodupW, fun x _ => ?_, h.winLe,
    fun x hx => ?_, h.fresh, fun x hx => ?_, h.noWin⟩, ?_⟩
  · show (p.bal.add p.cost.tok p.cost.nonce p.cost.amount) t n = 0
    rw [Bal.add_apply, if_neg a3]; exact h.balOther t n a1 a2 a3
  · rw [hheld]
    show _ ≤ (p.bal.add p.cost.tok p.cost.nonce p.cost.amount) p.payTok 0
    have hs' : p.same := hs
    have := h.feeLe hs
    rw [← hs'.1, ← hs'.2, hfee]
    rw [← hs'.1, ← hs'.2] at this
    omega
  · rw [hheld]
    show (p.bal.add p.cost.tok p.cost.nonce p.cost.amount) p.cost.tok p.cost.nonce = _
    rw [hfee, h.feeEq hs hl]
  · show (p.payers ++ [a]).Nodup
    rw [List.nodup_append]
    exact ⟨h.nodupP, by simp, fun x hx y hy hxy => ha (by
      rw [List.mem_singleton] at hy; rw [← hy, ← hxy]; exact hx)⟩
  · show x ∉ p.winners
    rw [hw0]; exact List.not_mem_nil
  · show 0 < p.confirmed x
    rcases hx with hx | hx
    · rcases List.mem_append.mp hx with h1 | h1
      · exact h.conf x (Or.inl h1)
      · rw [List.mem_singleton] at h1; rw [h1]; exact hc
    · exact h.conf x (Or.inr hx)
  · have : p.claimed x = false := h.fresh hna x
    have hx' : p.claimed x = true := hx
    rw [this] at hx'; cases hx'
  · unfold nf_Side.tix nf_Side.feeIn
    by_cases hs : p.same
    · have := h.feeLe hs
      rw [if_pos (hsame.mpr hs), if_pos hs, hheld]
      show (p.bal.add p.cost.tok p.cost.nonce p.cost.amount) p.payTok 0 - _ = _
      rw [← hs.1, ← hs.2, hfee]
      rw [← hs.1, ← hs.2] at this
      omega
    · rw [if_neg (fun hh => hs (hsame.mp hh)), if_neg hs]
      show (p.bal.add p.cost.tok p.cost.nonce p.cost.amount) p.payTok 0 - 0 = _
      rw [Bal.add_apply, if_neg (fun hh => hs ⟨hh.1.symm, hh.2.symm⟩)]
      rfl

theorem nf_SideInv_selected {p : nf_Side} (h : nf_SideInv p) : nf_SideInv { p with selected := true } :=
  ⟨h.balOther, h.feeLe, h.feeEq, h.nodupP, h.nodupW, h.disj, h.winLe, h.conf, h.fresh, h.claimedOut,
    nofun⟩

/-- `P`, `W` are the lists after the draw call; second case of `hq`: the draw completed and the
    fees of the drawn become the owner's proceeds `cnft`.  The liability and hence the ticket part
    are unchanged. -/
theorem nf_SideInv_draw {p q : nf_Side} (h : nf_SideInv p) (hna : p.additional = false)
    (hsel : p.selected = true) {P W : List Nat}
    (nodupP : P.Nodup) (nodupW : W.Nodup) (disj : ∀ a, a ∈ P → a ∉ W) (winLe : W.length ≤ p.avail)
    (hlen : P.length + W.length = p.payers.length + p.winners.length)
    (hun : ∀ a, (a ∈ P ∨ a ∈ W) ↔ (a ∈ p.payers ∨ a ∈ p.winners))
    (hq : q = { p with payers := P, winners := W } ∨
      q = { p with payers := P, winners := W, cnft := p.cost.amount * W.length, additional := true }) :
    nf_SideInv q ∧ q.tix = p.tix := by
  have hheld : q.held = p.held := by
    rw [nf_held_of_not_done hna, ← hlen]
    rcases hq with hq | hq
    · rw [nf_held_of_not_done (by rw [hq]; exact hna), hq]
    · rw [nf_held_of_done (by rw [hq]), hq]
      show p.cost.amount * W.length + p.cost.amount * P.length = _
      rw [Nat.mul_add, Nat.add_comm]
  have hconf : ∀ a, a ∈ P ∨ a ∈ W → 0 < p.confirmed a := fun a ha => h.conf a ((hun a).mp ha)
  have hcl : ∀ a, p.claimed a = true → a ∉ P ∧ a ∉ W := fun a ha => by
    rw [h.fresh hna a] at ha; cases ha
  have hnw : p.selected = false → W = [] := fun hq => by rw [hsel] at hq; cases hq
  rcases hq with hq | hq <;> subst hq
  · refine ⟨⟨h.balOther, fun hs => by rw [hheld]; exact h.feeLe hs,
      fun hs hl => by rw [hheld]; exact h.feeEq hs hl, nodupP, nodupW, disj, winLe, hconf, h.fresh, hcl,
      hnw⟩, ?_⟩
    unfold nf_Side.tix nf_Side.feeIn; rw [hheld]; rfl
  · refine ⟨⟨h.balOther, fun hs => by rw [hheld]; exact h.feeLe hs,
      fun hs hl => by rw [hheld]; exact h.feeEq hs hl, nodupP, nodupW, disj, winLe, hconf, nofun, hcl,
      hnw⟩, ?_⟩
    unfold nf_Side.tix nf_Side.feeIn; rw [hheld]; rfl

theorem nf_SideInv.empty {p : nf_Side} (h : nf_SideInv p) (hna : p.additional = false)
    (hz : ∀ a, p.confirmed a = 0) (htix : p.tix = 0) :
    p.held = 0 ∧ ∀ t k, ¬ (t = .esdt p.lpTok ∧ k = 0) → p.bal t k = 0 := by
  obtain ⟨hp0, hw0⟩ := h.lists_nil hz
  have hheld : p.held = 0 := by rw [nf_held_of_not_done hna, hp0, hw0]; rfl
  have hfee : p.feeIn = 0 := nf_feeIn_zero hheld
  have hpay0 : p.bal p.payTok 0 = 0 := by
    have := nf_tix_add h; omega
  refine ⟨hheld, fun t k hlp => ?_⟩
  by_cases h1 : t = p.payTok ∧ k = 0
  · rw [h1.1, h1.2]; exact hpay0
  · by_cases h2 : t = p.cost.tok ∧ k = p.cost.nonce
    · rw [h2.1, h2.2]
      by_cases hs : p.same
      · rw [hs.1, hs.2]; exact hpay0
      · rw [h.feeEq hs (fun hl => hlp ⟨h2.1.trans hl.1, h2.2.trans hl.2⟩), hheld]
    · exact h.balOther t k h1 hlp h2

/-- `setTicketPrice`, `setNftCost` while the contract holds nothing but launchpad tokens and nobody
    has paid a fee: the ticket part stays 0 -/
theorem nf_SideInv_terms {p q : nf_Side} (h : nf_SideInv p) (hna : p.additional = false)
    (hz : ∀ a, p.confirmed a = 0) (hb0 : ∀ t k, ¬ (t = .esdt p.lpTok ∧ k = 0) → p.bal t k = 0)
    {tok : Token} {c : Pay} (hne : tok ≠ .esdt p.lpTok) (hq : q = { p with payTok := tok, cost := c }) :
    nf_SideInv q ∧ q.tix = 0 := by
  obtain ⟨hp0, hw0⟩ := h.lists_nil hz
  have hheld : q.held = 0 := by
    rw [nf_held_of_not_done (by rw [hq]; exact hna), hq]
    show c.amount * (p.payers.length + p.winners.length) = 0
    rw [hp0, hw0]; rfl
  subst hq
  refine ⟨⟨fun t n _ a2 _ => hb0 t n a2, fun _ => ?_, fun _ a2 => ?_, h.nodupP, h.nodupW, h.disj, h.winLe,
    h.conf, h.fresh, h.claimedOut, h.noWin⟩, ?_⟩
  · rw [hheld]; exact Nat.zero_le _
  · rw [hheld]; exact hb0 _ _ a2
  · unfold nf_Side.tix
    show p.bal tok 0 - _ = 0
    rw [hb0 tok 0 (fun hh => hne hh.1)]; exact Nat.zero_sub _

end LP

/-
  What the theorems on the two launchpads with an NFT draw read off their invariants (`nf_WF` of
  launchpad-with-nft, `ng_WF` of launchpad-nft-and-guaranteed-tickets).  Both consist of the fee
  ledger `nf_SideInv (nf_side s)` and of phases over the projection `nf_core s`, whose `payBal` is
  the ticket part `tix` of the payment-token holdings.  `NftFacts s` keeps what every phase of
  either invariant offers: a list of participants with the pre-completion ledger while
  `flags.additional` is clear, `PhD` once it is set.

  The fee configuration is read on the projection: `(nf_side s).same` (fee paid in the
  ticket-payment slot), `(nf_side s).isLp` (in the launchpad-token slot), `(nf_side s).feeIn`
  (fees held in the ticket-payment slot).
-/
namespace LP
open LP.FY LP.Props.C09 LP.Props.C14

theorem feeBal_of_same {s : State} (h : (nf_side s).same) : feeBal s = s.bal s.payTok 0 := by
  have h' : s.nftCost.tok = s.payTok ∧ s.nftCost.nonce = 0 := h
  unfold feeBal; rw [h'.1, h'.2]

structure NftFacts (s : State) : Prop where
  hasNft : s.variant.hasNft = true
  side : nf_SideInv (nf_side s)
  pre : s.flags.additional = false →
    ∃ L : List Nat, L.Nodup ∧ (∀ a, s.confirmed a ≠ 0 → a ∈ L) ∧ PayPre (nf_core s) L
  done : s.flags.additional = true → PhD (nf_core s)

namespace NftFacts
variable {s : State}

theorem additional_false (h : NftFacts s) (hd : ¬ AllDone s) : s.flags.additional = false := by
  cases ha : s.flags.additional with
  | false => rfl
  | true => exact absurd ⟨(h.done ha).selected, ha⟩ hd

theorem ledger (h : NftFacts s) :
    ∃ L : List Nat, Covers s L ∧
      (¬ AllDone s → (nf_side s).tix = s.price * sumOver s.confirmed L) ∧
      (AllDone s → (nf_side s).tix = s.claimablePayment + sumOver (refundDue s) L ∧
        sumOver (winCountOf s) L = s.nrWinning ∧
        (∀ a, winCountOf s a ≤ s.confirmed a) ∧
        (∀ a rg, s.range a = some rg → a ∈ L ∧ rg.first ≤ rg.last ∧
          rg.last + 1 = rg.first + s.confirmed a)) :=
  ledger_of_phases (fun hd => h.pre (h.additional_false hd)) (fun hd => h.done hd.2)

theorem solvent_general (h : NftFacts s) :
    ∃ L : List Nat, Covers s L ∧
      (¬ AllDone s → s.bal s.payTok 0 = s.price * sumOver s.confirmed L + (nf_side s).feeIn) ∧
      (AllDone s →
        s.bal s.payTok 0 = s.claimablePayment + sumOver (refundDue s) L + (nf_side s).feeIn) := by
  obtain ⟨L, h1, h2, h3⟩ := h.ledger
  have hadd : (nf_side s).tix + (nf_side s).feeIn = s.bal s.payTok 0 := nf_tix_add h.side
  refine ⟨L, h1, fun hd => ?_, fun hd => ?_⟩
  · rw [← h2 hd]; exact hadd.symm
  · rw [← (h3 hd).1]; exact hadd.symm

/-- fee token separate: the ledger of the plain launchpad -/
theorem solvent_separate (h : NftFacts s) (hsep : FeeTokenSeparate s) :
    ∃ L : List Nat, Covers s L ∧ (¬ AllDone s → PayEqPre s L) ∧ (AllDone s → PayEqPost s L) := by
  obtain ⟨L, h1, h2, h3⟩ := h.solvent_general
  have hz : (nf_side s).feeIn = 0 := if_neg hsep.1
  rw [hz] at h2 h3
  exact ⟨L, h1, h2, h3⟩

theorem solvent_same (h : NftFacts s) (hs : (nf_side s).same) :
    ∃ L : List Nat, Covers s L ∧
      (¬ AllDone s → s.bal s.payTok 0 = s.price * sumOver s.confirmed L +
        s.nftCost.amount * (s.payers.length + s.nftWinners.length)) ∧
      (AllDone s → s.bal s.payTok 0 = s.claimablePayment + sumOver (refundDue s) L +
        s.claimableNft + s.nftCost.amount * s.payers.length) := by
  obtain ⟨L, h1, h2, h3⟩ := h.solvent_general
  have hin : (nf_side s).feeIn = (nf_side s).held := if_pos hs
  refine ⟨L, h1, fun hd => ?_, fun hd => ?_⟩
  · rw [h2 hd, hin, nf_held_of_not_done (p := nf_side s) (h.additional_false hd)]; rfl
  · rw [h3 hd, hin, nf_held_of_done (p := nf_side s) hd.2, ← Nat.add_assoc]; rfl

theorem three_counts (h : NftFacts s) (hd : AllDone s) :
    ∃ L : List Nat, Covers s L ∧
      s.bal s.payTok 0 = s.claimablePayment + sumOver (refundDue s) L + (nf_side s).feeIn ∧
      sumOver (winCountOf s) L = s.nrWinning ∧
      (∀ a, winCountOf s a ≤ s.confirmed a) ∧
      (∀ a rg, s.range a = some rg → a ∈ L ∧ rangeLen rg = s.confirmed a) := by
  obtain ⟨L, h1, _, h3⟩ := h.ledger
  obtain ⟨hpost, hrest⟩ := Settled.counts (h3 hd)
  have hadd : (nf_side s).tix + (nf_side s).feeIn = s.bal s.payTok 0 := nf_tix_add h.side
  exact ⟨L, h1, by rw [← hpost]; exact hadd.symm, hrest⟩

theorem three_counts_separate (h : NftFacts s) (hd : AllDone s) (hsep : FeeTokenSeparate s) :
    ∃ L : List Nat, Covers s L ∧ PayEqPost s L ∧ sumOver (winCountOf s) L = s.nrWinning ∧
      (∀ a, winCountOf s a ≤ s.confirmed a) ∧
      (∀ a rg, s.range a = some rg → a ∈ L ∧ rangeLen rg = s.confirmed a) := by
  obtain ⟨L, h1, h2, h3⟩ := h.three_counts hd
  have hz : (nf_side s).feeIn = 0 := if_neg hsep.1
  rw [hz] at h2
  exact ⟨L, h1, h2, h3⟩

/-- after completion the payment-token holdings cover the owner's recorded proceeds, the ticket
    refund of a participant who still has a range, and the NFT fees held in the same slot -/
theorem claim_refund_covered (h : NftFacts s) (hd : AllDone s) {a : Nat} {rg : Range}
    (hr : s.range a = some rg) :
    s.claimablePayment + s.price * (s.confirmed a - winCountOf s a) + (nf_side s).feeIn
      ≤ s.bal s.payTok 0 := by
  obtain ⟨L, _, _, h3⟩ := h.ledger
  have hle := Settled.refund_covered (h3 hd) hr
  have hadd : (nf_side s).tix + (nf_side s).feeIn = s.bal s.payTok 0 := nf_tix_add h.side
  omega

theorem fee_ledger (h : NftFacts s) (hsep : FeeTokenSeparate s) : feeBal s = feeHeld s :=
  h.side.feeEq hsep.1 hsep.2

/-- whichever slot the fee sits in, the launchpad-token slot excepted -/
theorem fee_covered (h : NftFacts s) (hl : ¬ (nf_side s).isLp) : feeHeld s ≤ feeBal s := by
  by_cases hs : (nf_side s).same
  · rw [feeBal_of_same hs]; exact h.side.feeLe hs
  · exact Nat.le_of_eq (h.side.feeEq hs hl).symm

/-- a range-less address has no confirmed tickets, hence is in neither NFT list -/
theorem lists_empty (h : NftFacts s) (hd : AllDone s) (hall : ∀ a, s.range a = none) :
    s.payers = [] ∧ s.nftWinners = [] :=
  h.side.lists_nil fun a => (h.done hd.2).rngNone a (hall a)

/-- everything complete, everybody settled, both of the owner's proceeds withdrawn: the
    ticket-payment slot is empty in every fee configuration, and so is the fee slot unless it is
    the launchpad-token slot -/
theorem nothing_left (h : NftFacts s) (hd : AllDone s) (hall : ∀ a, s.range a = none)
    (hcp : s.claimablePayment = 0) (hcn : s.claimableNft = 0) :
    s.bal s.payTok 0 = 0 ∧ (¬ (nf_side s).isLp → feeBal s = 0) := by
  obtain ⟨hp, _⟩ := h.lists_empty hd hall
  have hheld : (nf_side s).held = 0 := by
    rw [nf_held_of_done (p := nf_side s) hd.2]
    show s.claimableNft + s.nftCost.amount * s.payers.length = 0
    rw [hcn, hp]; rfl
  have hin : (nf_side s).feeIn = 0 := nf_feeIn_zero hheld
  obtain ⟨L, _, _, h3⟩ := h.solvent_general
  have hpost : PayEqPost s L := by
    have := h3 hd
    rw [hin] at this
    exact this
  have hpay := all_settled_zero s L hpost (fun a _ => hall a) hcp
  refine ⟨hpay, fun hl => ?_⟩
  by_cases hs : (nf_side s).same
  · rw [feeBal_of_same hs]; exact hpay
  · exact (h.side.feeEq hs hl).trans hheld

theorem nftOk (h : NftFacts s) : NftOk s := ⟨h.side.nodupP, h.side.nodupW, h.side.disj⟩

/-- an accepted `claim` (the state is then `AllDone`) hands out exactly one SFT whose category is
    determined by membership in the two NFT lists, refunds the fee in category 2 only, and removes
    the caller from the list it was in -/
theorem claim_category (h : NftFacts s) {hash : List Nat → List Nat} {e : Env} {s' : State}
    {o : Out} (hs : step hash s e .claim = .ok (s', o)) :
    AllDone s ∧ s.claimed e.caller = false ∧
    ∃ k, o.sfts = [(e.caller, k)] ∧
      (k = 1 ↔ e.caller ∈ s.nftWinners) ∧ (k = 2 ↔ e.caller ∈ s.payers) ∧
      (k = 3 ↔ e.caller ∉ s.nftWinners ∧ e.caller ∉ s.payers) ∧ (k = 1 ∨ k = 2 ∨ k = 3) ∧
      o.xfers = refundXfers s e.caller ++ tokenXfers s e.caller ++
        (if k = 2 then [(e.caller, s.nftCost)] else []) ∧
      e.caller ∉ s'.payers ∧ e.caller ∉ s'.nftWinners ∧ s'.claimed e.caller = true ∧ NftOk s' := by
  obtain ⟨rg, hacc, _, hx, hsf, _, _, _, hcl, _, _, _, hafter, _, _⟩ :=
    claim_nft_effect hash s e s' o h.hasNft hs
  obtain ⟨c1, c2, c3, c4⟩ := nftCategory_exact s e.caller h.nftOk
  obtain ⟨hcat3, hok'⟩ := hafter h.nftOk
  obtain ⟨_, _, d3, _⟩ := nftCategory_exact s' e.caller hok'
  exact ⟨(stage_claim_iff.mp hacc.2.2.1).1, hacc.2.2.2.1, nftCategory s e.caller, hsf, c1, c2, c3, c4, hx,
    (d3.mp hcat3).2, (d3.mp hcat3).1, hcl, hok'⟩

end NftFacts

end LP
