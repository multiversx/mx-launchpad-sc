import LP.Proofs.FieldFrames
import LP.Proofs.Once
import LP.Proofs.ReachVV
import LP.Props.C20frame
import LP.Props.C07
/-
  For C20 over histories ("the event log determines the observable state"); prefix `el_`.
  An indexer (`el_index`, `el_replay`) rebuilds `confirmed` / `claimed` from the entries of a log,
  and the replay is exact (`el_replay_chain`).  The numeric payload of the events is read with
  `el_fld`; from it: confirmed + refunded = Σ confirm events, the payment-token balance before the
  claims, the completion events, v2: Σ claim events = `userClaimed`, and price and token from the
  last `setTicketPrice` event.
-/
section
/-
  First the pair (`bal`, `userClaimed`) of the contract's balances and the vesting ledger
  (`State.lg`): the blacklist hooks keep it, and the helpers that send without booking a claim keep
  `userClaimed`.  Each statement is read off the footprint of its helper; the frame of a whole call
  is `el_exec_lg` below, read off `exec_written` and not through `el_KeepsLG` (of the lemmas of this
  part only `GHook_lg` and `el_lg_bal` are used further on).
-/
namespace LP

structure EL_LG where
  bal : Bal
  userClaimed : Nat → Nat

@[reducible] def State.lg (s : State) : EL_LG := ⟨s.bal, s.userClaimed⟩

theorem el_lg_bal {s s' : State} (h : s'.lg = s.lg) : s'.bal = s.bal := congrArg EL_LG.bal h
theorem el_lg_userClaimed {s s' : State} (h : s'.lg = s.lg) : s'.userClaimed = s.userClaimed :=
  congrArg EL_LG.userClaimed h

theorem GHook_lg {l : List Nat} {s s' : State} (h : Events.GHook l s s') : s'.lg = s.lg := by
  obtain ⟨⟨_, _, _, _, _, rfl⟩, _⟩ := h; rfl

theorem el_clearGuaranteedV1_lg {s s' : State} {l : List Nat}
    (h : clearGuaranteedV1 s l = .ok s') : s'.lg = s.lg := GHook_lg (Events.clearGuaranteedV1_frame h)
theorem el_clearGuaranteedV2_lg {s s' : State} {l : List Nat}
    (h : clearGuaranteedV2 s l = .ok s') : s'.lg = s.lg := GHook_lg (Events.clearGuaranteedV2_frame h)
theorem el_restoreGuaranteedV1_lg {s s' : State} {l : List Nat}
    (h : restoreGuaranteedV1 s l = .ok s') : s'.lg = s.lg := GHook_lg (Events.restoreGuaranteedV1_frame h)
theorem el_restoreGuaranteedV2_lg {s s' : State} {l : List Nat}
    (h : restoreGuaranteedV2 s l = .ok s') : s'.lg = s.lg := GHook_lg (Events.restoreGuaranteedV2_frame h)

def el_KeepsLG (c0 : EL_LG) (r : Res Tx) : Prop := ∀ t', r = .ok t' → t'.s.lg = c0

theorem el_KeepsLG_error (c0 : EL_LG) (err : Err) : el_KeepsLG c0 (.error err) := by
  intro t' h; cases h

theorem el_KeepsLG_ok (c0 : EL_LG) (t : Tx) (h : t.s.lg = c0) : el_KeepsLG c0 (.ok t) := by
  intro t' h'; cases h'; exact h

theorem el_KeepsLG_bind_nft (c0 : EL_LG) (hash : List Nat → List Nat) (t0 : Tx) (r : Rng)
    (f : Tx × Rng × LoopStatus → Res Tx)
    (h : ∀ a : Tx × Rng × LoopStatus, a.1.s.lg = t0.s.lg → el_KeepsLG c0 (f a)) :
    el_KeepsLG c0 (nftSubstep hash t0 r >>= f) := by
  intro t' h'
  obtain ⟨a, ha, hf⟩ := (bind_ok_iff _ _ _).mp h'
  refine h a ?_ t' hf
  obtain ⟨_, _, _, _, _, _, h1⟩ := nftSubstep_fp (t' := a.1) (r' := a.2.1) (st := a.2.2) ha
  rw [h1]

@[reducible] def State.uc (s : State) : Nat → Nat := s.userClaimed

theorem el_refundNftMany_uc : ∀ (l : List Nat) {t t' : Tx},
    refundNftMany l t = .ok t' → t'.s.uc = t.s.uc := by
  intro l t t' h
  obtain ⟨_, _, _, rfl⟩ := refundNftMany_fp h; rfl

theorem el_claimPaymentCommon_uc {t t' : Tx} {e : Env}
    (h : claimPaymentCommon t e = .ok t') : t'.s.uc = t.s.uc := by
  obtain ⟨_, _, _, rfl⟩ := claimPaymentCommon_fp h; rfl

theorem el_claimNftPayment_uc {t t' : Tx} {e : Env}
    (h : claimNftPayment t e = .ok t') : t'.s.uc = t.s.uc := by
  obtain ⟨_, _, _, rfl⟩ := claimNftPayment_fp h; rfl

end LP
end

namespace LP
open LP.Events LP.Props LP.Props.C17 LP.Props.C20

theorem el_names {hash : List Nat → List Nat} {s s' : State} {e : Env} {c : Call} {o : Out}
    (h : step hash s e c = .ok (s', o)) : ∀ ev ∈ o.events, ev.name ∈ el_namesOf c :=
  fun ev hev => (eventsOf_shape s s' e c ev (step_events h ▸ hev)).1

theorem el_no_name {hash : List Nat → List Nat} {s s' : State} {e : Env} {c : Call} {o : Out}
    (h : step hash s e c = .ok (s', o)) {n : String} (hn : n ∉ el_namesOf c) :
    ∀ ev ∈ o.events, ev.name ≠ n := by
  intro ev hev heq
  exact hn (heq ▸ el_names h ev hev)

theorem el_chain_mem {hash : List Nat → List Nat} {s s' : State} {l : List Entry}
    (h : LogChain hash s l s') {x : Entry} (hx : x ∈ l) :
    ∃ l1 l2 s1 s2, l = l1 ++ x :: l2 ∧ LogChain hash s l1 s1 ∧
      step hash s1 x.1 x.2.1 = .ok (s2, x.2.2) ∧ LogChain hash s2 l2 s' := by
  obtain ⟨l1, l2, rfl⟩ := List.append_of_mem hx
  obtain ⟨s1, s2, h1, h2, h3⟩ := h.split
  exact ⟨l1, l2, s1, s2, rfl, h1, h2, h3⟩

theorem el_chain_append {hash : List Nat → List Nat} {s s1 s2 : State} {l1 l2 : List Entry}
    (h1 : LogChain hash s l1 s1) (h2 : LogChain hash s1 l2 s2) : LogChain hash s (l1 ++ l2) s2 := by
  induction h1 with
  | nil s => exact h2
  | cons hst _ ih => exact .cons hst (ih h2)

theorem el_chain_variant {hash : List Nat → List Nat} {s s' : State} {l : List Entry}
    (h : LogChain hash s l s') : s'.variant = s.variant :=
  h.preserves (·.variant = s.variant) (fun _ _ _ _ _ hz hst => (step_variant hst).trans hz) rfl

/-- every event of every entry is one of the two topic-less pause events or carries
    `[caller, round, epoch]` of the transaction that emitted it -/
theorem el_topics_chain {hash : List Nat → List Nat} {s s' : State} {l : List Entry}
    (h : LogChain hash s l s') : ∀ x ∈ l, ∀ ev ∈ x.2.2.events,
      (x.2.1 = .pause ∧ ev = ⟨"pauseContract", [], []⟩) ∨
      (x.2.1 = .unpause ∧ ev = ⟨"unpauseContract", [], []⟩) ∨
      ev.topics = [x.1.caller, x.1.round, x.1.epoch] := by
  intro x hx ev hev
  obtain ⟨_, _, s1, s2, _, _, hst, _⟩ := el_chain_mem h hx
  exact C20frame.all_events_indexed hash s1 s2 x.1 x.2.1 x.2.2 hst ev hev

def el_fld (ev : Ev) (i : Nat) : Nat := ev.data.getD i 0

def el_sum (f : Ev → Nat) (evs : List Ev) : Nat := (evs.map f).sum

def el_events (l : List Entry) : List Ev := l.flatMap (fun x => x.2.2.events)

/-- payload of `confirmTickets`: `[caller, round, epoch, n, total confirmed, allocation, token,
    nonce, amount]` -/
def el_confirmTix (a : Nat) (ev : Ev) : Nat :=
  if ev.name = "confirmTickets" ∧ el_fld ev 0 = a then el_fld ev 3 else 0

/-- `k` is the code of the token -/
def el_confirmPay (k : Nat) (ev : Ev) : Nat :=
  if ev.name = "confirmTickets" ∧ el_fld ev 6 = k then el_fld ev 8 else 0

/-- payload of `refundTicketPayment`: `[caller, round, epoch, n, token, nonce, amount]` -/
def el_refundTix (ev : Ev) : Nat := if ev.name = "refundTicketPayment" then el_fld ev 3 else 0

def el_refundAmt (k : Nat) (ev : Ev) : Nat :=
  if ev.name = "refundTicketPayment" ∧ el_fld ev 4 = k then el_fld ev 6 else 0

/-- payload of `claimLaunchpadTokens`: `[caller, round, epoch, token, nonce, amount]` -/
def el_claimAmt (a : Nat) (ev : Ev) : Nat :=
  if ev.name = "claimLaunchpadTokens" ∧ el_fld ev 0 = a then el_fld ev 5 else 0

@[simp] theorem el_sum_nil (f : Ev → Nat) : el_sum f [] = 0 := rfl

theorem el_sum_cons (f : Ev → Nat) (ev : Ev) (evs : List Ev) : el_sum f (ev :: evs) = f ev + el_sum f evs := by
  simp [el_sum]

theorem el_sum_append (f : Ev → Nat) (a b : List Ev) : el_sum f (a ++ b) = el_sum f a + el_sum f b := by
  simp [el_sum]

theorem el_sum_zero {f : Ev → Nat} {evs : List Ev} (h : ∀ ev ∈ evs, f ev = 0) : el_sum f evs = 0 := by
  induction evs with
  | nil => rfl
  | cons ev rest ih =>
    rw [el_sum_cons, h ev (List.mem_cons_self ..), ih (fun x hx => h x (List.mem_cons_of_mem _ hx))]

theorem el_events_nil : el_events [] = [] := rfl

theorem el_events_cons (x : Entry) (l : List Entry) : el_events (x :: l) = x.2.2.events ++ el_events l := by
  simp [el_events]

theorem el_events_append (a b : List Entry) : el_events (a ++ b) = el_events a ++ el_events b := by
  simp [el_events]

theorem el_confirmTix_other {a : Nat} {ev : Ev} (h : ev.name ≠ "confirmTickets") : el_confirmTix a ev = 0 := by
  unfold el_confirmTix; rw [if_neg]; intro hh; exact h hh.1

theorem el_confirmPay_other {k : Nat} {ev : Ev} (h : ev.name ≠ "confirmTickets") : el_confirmPay k ev = 0 := by
  unfold el_confirmPay; rw [if_neg]; intro hh; exact h hh.1

theorem el_refundTix_other {ev : Ev} (h : ev.name ≠ "refundTicketPayment") : el_refundTix ev = 0 := by
  unfold el_refundTix; rw [if_neg h]

theorem el_refundAmt_other {k : Nat} {ev : Ev} (h : ev.name ≠ "refundTicketPayment") : el_refundAmt k ev = 0 := by
  unfold el_refundAmt; rw [if_neg]; intro hh; exact h hh.1

theorem el_claimAmt_other {a : Nat} {ev : Ev} (h : ev.name ≠ "claimLaunchpadTokens") : el_claimAmt a ev = 0 := by
  unfold el_claimAmt; rw [if_neg]; intro hh; exact h hh.1

theorem el_confirmName_iff (c : Call) : "confirmTickets" ∈ el_namesOf c ↔ ∃ n, c = .confirm n := by
  cases c <;> simp [el_namesOf]

theorem el_no_confirm_events {hash : List Nat → List Nat} {s s' : State} {e : Env} {c : Call} {o : Out}
    (h : step hash s e c = .ok (s', o)) (hc : ∀ n, c ≠ .confirm n) :
    ∀ ev ∈ o.events, ev.name ≠ "confirmTickets" :=
  el_no_name h fun hm => by
    obtain ⟨n, rfl⟩ := (el_confirmName_iff c).mp hm
    exact hc n rfl

theorem el_confirm_read {hash : List Nat → List Nat} {s s' : State} {e : Env} {n : Nat} {o : Out}
    (h : step hash s e (.confirm n) = .ok (s', o)) (a k : Nat) :
    el_sum (el_confirmTix a) o.events = (if e.caller = a then n else 0) ∧
    el_sum (el_confirmPay k) o.events = (if s.payTok.code = k then s.price * n else 0) ∧
    el_sum el_refundTix o.events = 0 ∧ el_sum (el_refundAmt k) o.events = 0 := by
  obtain ⟨total, _, _, _, _, _, hE⟩ := C07.confirm_effect hash s e n s' o h
  rw [hE]
  simp [el_sum, el_confirmTix, el_confirmPay, el_refundTix, el_refundAmt, el_fld, C07.confirmEvent]

/-- confirmed tickets and who has settled -/
abbrev el_Ledger := (Nat → Nat) × (Nat → Bool)

/-- A confirmation adds the tickets its event reports to the caller; blacklisting
    (`addUsersToBlacklist`, v2 `refundUsers`) refunds everything the listed users have confirmed;
    a first claim settles the caller (the vesting variants accept repeat claims, which change
    nothing here) -/
def el_index (v : Variant) (L : el_Ledger) (x : Entry) : el_Ledger :=
  match x.2.1 with
  | .confirm _ =>
    (upd L.1 x.1.caller (L.1 x.1.caller + el_sum (el_confirmTix x.1.caller) x.2.2.events), L.2)
  | .blacklist l | .refundUsers l => (fun a => if a ∈ l then 0 else L.1 a, L.2)
  | .claim =>
    (if v.vested && L.2 x.1.caller then L.1 else upd L.1 x.1.caller 0, upd L.2 x.1.caller true)
  | _ => L

def el_replay (v : Variant) (L : el_Ledger) (l : List Entry) : el_Ledger := l.foldl (el_index v) L

def el_ledgerOf (s : State) : el_Ledger := (s.confirmed, s.claimed)

theorem el_index_step {hash : List Nat → List Nat} {s s' : State} {e : Env} {c : Call} {o : Out}
    (h : step hash s e c = .ok (s', o)) : el_index s.variant (el_ledgerOf s) (e, c, o) = el_ledgerOf s' := by
  have h1 : s'.confirmed = (cbAfter s e c).confirmed := congrArg CB.confirmed (step_cb h)
  have hcl := step_claimed_cases h
  cases c with
  | confirm n =>
    rcases hcl with ⟨_, h2⟩ | ⟨h3, _⟩
    · have hr := (el_confirm_read h e.caller 0).1
      rw [if_pos rfl] at hr
      simp only [el_index, el_ledgerOf, hr]
      exact Prod.ext h1.symm h2.symm
    · cases h3
  | blacklist l =>
    rcases hcl with ⟨_, h2⟩ | ⟨h3, _⟩
    · exact Prod.ext h1.symm h2.symm
    · cases h3
  | refundUsers l =>
    rcases hcl with ⟨_, h2⟩ | ⟨h3, _⟩
    · exact Prod.ext h1.symm h2.symm
    · cases h3
  | claim =>
    rcases hcl with ⟨h3, _⟩ | ⟨_, h2⟩
    · exact absurd rfl h3
    · exact Prod.ext h1.symm h2.symm
  | _ =>
    rcases hcl with ⟨_, h2⟩ | ⟨h3, _⟩
    · exact Prod.ext h1.symm h2.symm
    · cases h3

theorem el_replay_chain {hash : List Nat → List Nat} {s s' : State} {l : List Entry}
    (h : LogChain hash s l s') : el_replay s.variant (el_ledgerOf s) l = el_ledgerOf s' := by
  induction h with
  | nil s => rfl
  | @cons s s1 s2 e c o l hst _ ih =>
    show el_replay s.variant (el_index s.variant (el_ledgerOf s) (e, c, o)) l = _
    rw [el_index_step hst, ← step_variant hst]
    exact ih

theorem el_replay_append (v : Variant) (L : el_Ledger) (a b : List Entry) :
    el_replay v L (a ++ b) = el_replay v (el_replay v L a) b := by
  simp [el_replay]

/-- each blacklisting refunds the whole ledger entry of `a` at that moment -/
def el_blRefundOf (a : Nat) (conf : Nat → Nat) : Call → Nat
  | .blacklist l | .refundUsers l => if a ∈ l then conf a else 0
  | _ => 0

def el_blRefunded (v : Variant) (a : Nat) : el_Ledger → List Entry → Nat
  | _, [] => 0
  | L, x :: rest => el_blRefundOf a L.1 x.2.1 + el_blRefunded v a (el_index v L x) rest

theorem el_claimed_mono {hash : List Nat → List Nat} {s s' : State} {l : List Entry}
    (h : LogChain hash s l s') {a : Nat} (ha : s.claimed a = true) : s'.claimed a = true :=
  h.preserves (fun z => z.claimed a = true) (fun s e c s' o hz hst => C09.step_claimed_mono hash s e c s' o hst a hz) ha

theorem el_confirmed_sum_step {hash : List Nat → List Nat} {s s' : State} {e : Env} {c : Call} {o : Out}
    (h : step hash s e c = .ok (s', o)) {a : Nat} (hcl : s'.claimed a = false) :
    s'.confirmed a + el_blRefundOf a s.confirmed c
      = s.confirmed a + el_sum (el_confirmTix a) o.events := by
  have h1 : s'.confirmed = (cbAfter s e c).confirmed := congrArg CB.confirmed (step_cb h)
  have hno : (∀ n, c ≠ .confirm n) → el_sum (el_confirmTix a) o.events = 0 := fun hc =>
    el_sum_zero (fun ev hev => el_confirmTix_other (el_no_confirm_events h hc ev hev))
  cases c with
  | confirm n =>
    rw [(el_confirm_read h a 0).1, h1]
    simp only [cbAfter, upd, el_blRefundOf]
    by_cases hq : a = e.caller
    · subst hq; simp
    · have : ¬ e.caller = a := fun hh => hq hh.symm
      simp [hq, this]
  | blacklist l =>
    rw [hno (by intro n; exact Call.noConfusion), h1]
    simp only [cbAfter, el_blRefundOf]
    split <;> simp
  | refundUsers l =>
    rw [hno (by intro n; exact Call.noConfusion), h1]
    simp only [cbAfter, el_blRefundOf]
    split <;> simp
  | claim =>
    rw [hno (by intro n; exact Call.noConfusion), h1]
    rcases step_claimed_cases h with ⟨h3, _⟩ | ⟨_, h2⟩
    · exact absurd rfl h3
    · have hne : a ≠ e.caller := by
        intro hq; subst hq
        rw [h2] at hcl; simp [upd] at hcl
      simp only [cbAfter, el_blRefundOf]
      split <;> simp [upd, hne]
  | _ =>
    rw [hno (by intro n; exact Call.noConfusion), h1]
    rfl

/-- for an address that has not settled at the end, what it has confirmed plus what the
    blacklistings refunded to it is what its `confirmTickets` events add up to -/
theorem el_confirmed_sum {hash : List Nat → List Nat} {s s' : State} {l : List Entry}
    (h : LogChain hash s l s') {a : Nat} (hcl : s'.claimed a = false) :
    s'.confirmed a + el_blRefunded s.variant a (el_ledgerOf s) l
      = s.confirmed a + el_sum (el_confirmTix a) (el_events l) := by
  induction h with
  | nil s => simp [el_blRefunded, el_events_nil]
  | @cons s s1 s2 e c o l hst hrest ih =>
    have hcl1 : s1.claimed a = false := by
      cases hq : s1.claimed a with
      | false => rfl
      | true => rw [el_claimed_mono hrest hq] at hcl; cases hcl
    have h1 := el_confirmed_sum_step hst hcl1
    have h2 := ih hcl
    rw [step_variant hst] at h2
    rw [el_events_cons, el_sum_append]
    show s2.confirmed a + (el_blRefundOf a s.confirmed c
        + el_blRefunded s.variant a (el_index s.variant (el_ledgerOf s) (e, c, o)) l) = _
    rw [el_index_step hst]
    simp only at h1 h2 ⊢
    omega

/-- the calls that send nothing (`Call.pays = false`) leave the balances and `userClaimed` alone -/
theorem el_exec_lg {hash : List Nat → List Nat} {t t' : Tx} {e : Env} {c : Call}
    (hc : c.pays = false) (h : exec hash t e c = .ok t') : t'.s.lg = t.s.lg := by
  have hw := exec_written h
  cases c <;> try (cases hc; done)
  all_goals exact (congrArg State.lg hw :)

theorem el_step_lg {hash : List Nat → List Nat} {s s' : State} {e : Env} {c : Call} {o : Out}
    (h : step hash s e c = .ok (s', o)) (hk : c.pays = false) (hp : c.payable = false) :
    s'.lg = s.lg := by
  obtain ⟨t, hx, rfl⟩ := step_np hp h
  exact el_exec_lg hk hx

theorem el_code_inj {a b : Token} (h : a.code = b.code) : a = b := by
  cases a <;> cases b <;> simp [Token.code] at h ⊢
  · omega

theorem el_bl_refund_sums (s : State) (e : Env) (k : Nat) (l : List Nat) :
    el_sum el_refundTix (l.filterMap (blEvent s e)) = blConfSum s l ∧
    el_sum (el_refundAmt k) (l.filterMap (blEvent s e))
      = (if s.payTok.code = k then s.price * blConfSum s l else 0) ∧
    el_sum (el_confirmPay k) (l.filterMap (blEvent s e)) = 0 := by
  induction l with
  | nil => simp [blConfSum]
  | cons u rest ih =>
    obtain ⟨i1, i2, i3⟩ := ih
    have hcs : blConfSum s (u :: rest) = s.confirmed u + blConfSum s rest := by simp [blConfSum]
    by_cases hu : s.confirmed u > 0
    · have hb : blEvent s e u = some (refundEv s e (s.confirmed u)) := by
        unfold blEvent; rw [if_pos hu]
      rw [List.filterMap_cons, hb]
      simp only [el_sum_cons, i1, i2, i3, hcs]
      refine ⟨by simp [el_refundTix, el_fld, refundEv], ?_, by simp [el_confirmPay, refundEv]⟩
      by_cases hk : s.payTok.code = k
      · simp [el_refundAmt, el_fld, refundEv, hk, Nat.mul_add]
      · simp [el_refundAmt, el_fld, refundEv, hk]
    · have h0 : s.confirmed u = 0 := by omega
      have hb : blEvent s e u = none := by
        unfold blEvent; rw [if_neg hu]
      rw [List.filterMap_cons, hb]
      simp only [i1, i2, i3, hcs, h0, Nat.zero_add]
      exact ⟨trivial, trivial, trivial⟩

theorem el_blacklist_out {hash : List Nat → List Nat} {s s' : State} {e : Env} {c : Call} {o : Out}
    {l : List Nat} (hc : c = .blacklist l ∨ c = .refundUsers l)
    (h : step hash s e c = .ok (s', o)) :
    o.events.filter (fun ev => ev.name == "refundTicketPayment") = l.filterMap (blEvent s e) ∧
    (∃ tail, o.events = l.filterMap (blEvent s e) ++ tail ∧
      ∀ ev ∈ tail, ev.name ≠ "refundTicketPayment" ∧ ev.name ≠ "confirmTickets") ∧
    s.price * blConfSum s l ≤ s.bal s.payTok 0 ∧
    s'.userClaimed = s.userClaimed ∧
    (s.variant.hasNft = false → s'.bal = s.bal.sub s.payTok 0 (s.price * blConfSum s l)) := by
  -- the events are a row of `eventsOf`; guard and state are read off the two endpoint lemmas
  obtain ⟨tail, hev, htail⟩ : ∃ tail, o.events = l.filterMap (blEvent s e) ++ tail ∧
      ∀ ev ∈ tail, ev.name ≠ "refundTicketPayment" ∧ ev.name ≠ "confirmTickets" := by
    rw [step_events h]
    rcases hc with rfl | rfl
    · exact ⟨_, rfl, all_opt ⟨by simp [blacklistEv], by simp [blacklistEv]⟩⟩
    · exact ⟨[], (List.append_nil _).symm, all_nil⟩
  have hfil : o.events.filter (fun ev => ev.name == "refundTicketPayment")
      = l.filterMap (blEvent s e) := by
    rw [hev, List.filter_append,
      List.filter_eq_self.2 (fun ev hev => by simp [mem_filterMap_blEvent_name hev]),
      List.filter_eq_nil_iff.2 (fun ev hev => by simpa using (htail ev hev).1), List.append_nil]
  refine ⟨hfil, ⟨tail, hev, htail⟩, ?_⟩
  rcases hc with rfl | rfl
  · obtain ⟨t, hx, rfl, rfl⟩ := step_np_out rfl h
    obtain ⟨hadd, _, _, _, _, _, s1, py, bal, hg, hs, hnn⟩ := exec_blacklist_out hx
    obtain ⟨_, _, _, _, hle, _⟩ := (addUsersToBlacklist_ok_iff _ _ _ _).mp hadd
    have hlg := GHook_lg hg
    refine ⟨hle, by rw [hs]; exact congrArg EL_LG.userClaimed hlg, fun hn => ?_⟩
    rw [hs, (hnn hn).2]
    exact congrArg EL_LG.bal hlg
  · obtain ⟨t, hx, rfl, rfl⟩ := step_np_out rfl h
    obtain ⟨hadd, _, _, hg⟩ := exec_refundUsers_out hx
    obtain ⟨_, _, _, _, hle, _⟩ := (addUsersToBlacklist_ok_iff _ _ _ _).mp hadd
    have hlg := GHook_lg hg
    exact ⟨hle, congrArg EL_LG.userClaimed hlg, fun _ => congrArg EL_LG.bal hlg⟩

theorem el_deposit_bal {hash : List Nat → List Nat} {s s' : State} {e : Env} {o : Out}
    (h : step hash s e .deposit = .ok (s', o)) (hok : EnvOK e) {tok : Token}
    (ht : tok ≠ .esdt s.lpTok) : s'.bal tok 0 = s.bal tok 0 := by
  rw [(step_deposit hok h).2]
  show (s.bal.add (.esdt s.lpTok) 0 _) tok 0 = _
  unfold Bal.add
  rw [if_neg fun hh => ht hh.1]

/-- variant without NFTs, any call other than a claim / owner withdrawal: the balance in any token
    other than the launchpad token moves by exactly the confirm payments in and the refunds out
    that the events report -/
theorem el_step_bal {hash : List Nat → List Nat} {s s' : State} {e : Env} {c : Call} {o : Out}
    (h : step hash s e c = .ok (s', o)) (hok : EnvOK e) (hn : s.variant.hasNft = false)
    (h1 : c ≠ .claim) (h2 : c ≠ .claimPayment) {tok : Token} (ht : tok ≠ .esdt s.lpTok) :
    s'.bal tok 0 + el_sum (el_refundAmt tok.code) o.events
      = s.bal tok 0 + el_sum (el_confirmPay tok.code) o.events := by
  have hbl : ∀ l, (c = .blacklist l ∨ c = .refundUsers l) →
      s'.bal tok 0 + el_sum (el_refundAmt tok.code) o.events
        = s.bal tok 0 + el_sum (el_confirmPay tok.code) o.events := by
    intro l hc
    obtain ⟨_, ⟨tail, hev, htail⟩, hle, _, hb⟩ := el_blacklist_out hc h
    obtain ⟨_, k2, k3⟩ := el_bl_refund_sums s e tok.code l
    have z1 : el_sum (el_refundAmt tok.code) tail = 0 :=
      el_sum_zero (fun ev hev => el_refundAmt_other (htail ev hev).1)
    have z2 : el_sum (el_confirmPay tok.code) tail = 0 :=
      el_sum_zero (fun ev hev => el_confirmPay_other (htail ev hev).2)
    rw [hev, el_sum_append, el_sum_append, k2, k3, z1, z2, hb hn]
    by_cases hq : tok = s.payTok
    · subst hq
      simp only [Bal.sub, and_self, if_true]
      omega
    · have hq' : ¬ s.payTok.code = tok.code := fun hh => hq (el_code_inj hh).symm
      simp [Bal.sub, hq, hq']
  cases c with
  | claim => exact absurd rfl h1
  | claimPayment => exact absurd rfl h2
  | blacklist l => exact hbl l (Or.inl rfl)
  | refundUsers l => exact hbl l (Or.inr rfl)
  | confirm n =>
    obtain ⟨total, hacc, hs, _⟩ := C07.confirm_effect hash s e n s' o h
    have hh := C07.confirm_holdings s e n total hacc hok
    obtain ⟨_, k2, _, k4⟩ := el_confirm_read h 0 tok.code
    have hb : s'.bal = s.bal.add s.payTok 0 (s.price * n) := by rw [hs]; exact hh
    rw [k2, k4, hb]
    by_cases hq : tok = s.payTok
    · subst hq
      simp [Bal.add]
    · have hq' : ¬ s.payTok.code = tok.code := fun hh => hq (el_code_inj hh).symm
      simp [Bal.add, hq, hq']
  | deposit =>
    have z1 : el_sum (el_refundAmt tok.code) o.events = 0 :=
      el_sum_zero (fun ev hev => el_refundAmt_other (el_no_name h (by simp [el_namesOf]) ev hev))
    have z2 : el_sum (el_confirmPay tok.code) o.events = 0 :=
      el_sum_zero (fun ev hev => el_confirmPay_other (el_no_name h (by simp [el_namesOf]) ev hev))
    rw [z1, z2, el_deposit_bal h hok ht]
  | confirmNft => exact absurd (hn.symm.trans (step_exposed h)) nofun
  | issueSft => exact absurd (hn.symm.trans (step_exposed h)) nofun
  | _ =>
    have hlg := el_step_lg h rfl rfl
    have z1 : el_sum (el_refundAmt tok.code) o.events = 0 :=
      el_sum_zero (fun ev hev => el_refundAmt_other (el_no_name h (by simp [el_namesOf]) ev hev))
    have z2 : el_sum (el_confirmPay tok.code) o.events = 0 :=
      el_sum_zero (fun ev hev => el_confirmPay_other (el_no_name h (by simp [el_namesOf]) ev hev))
    rw [z1, z2, el_lg_bal hlg]

theorem el_isClaim_false {x : Entry} (h : x.isClaim = false) : x.2.1 ≠ .claim ∧ x.2.1 ≠ .claimPayment := by
  obtain ⟨e, c, o⟩ := x
  cases c <;> simp_all [Entry.isClaim]

theorem el_chain_bal {hash : List Nat → List Nat} {s s' : State} {l : List Entry}
    (h : LogChain hash s l s') (hok : ∀ x ∈ l, EnvOK x.1) (hn : s.variant.hasNft = false)
    (hcl : ∀ x ∈ l, x.isClaim = false) {tok : Token} (ht : tok ≠ .esdt s.lpTok) :
    s'.bal tok 0 + el_sum (el_refundAmt tok.code) (el_events l)
      = s.bal tok 0 + el_sum (el_confirmPay tok.code) (el_events l) := by
  induction h with
  | nil s => simp [el_events_nil]
  | @cons s s1 s2 e c o l hst _ ih =>
    obtain ⟨c1, c2⟩ := el_isClaim_false (hcl _ (List.mem_cons_self ..))
    have k1 := el_step_bal hst (hok _ (List.mem_cons_self ..)) hn c1 c2 ht
    have k2 := ih (fun x hx => hok x (List.mem_cons_of_mem _ hx))
      (by rw [step_variant hst]; exact hn)
      (fun x hx => hcl x (List.mem_cons_of_mem _ hx)) (by rw [step_lpTok hst]; exact ht)
    rw [el_events_cons, el_sum_append, el_sum_append]
    simp only at k1 k2 ⊢
    omega

def el_nameCount (n : String) (evs : List Ev) : Nat := evs.countP (fun ev => ev.name == n)

theorem el_nameCount_append (n : String) (a b : List Ev) :
    el_nameCount n (a ++ b) = el_nameCount n a + el_nameCount n b := by
  simp [el_nameCount]

theorem el_nameCount_zero {hash : List Nat → List Nat} {s s' : State} {e : Env} {c : Call} {o : Out}
    (h : step hash s e c = .ok (s', o)) {n : String} (hn : n ∉ el_namesOf c) :
    el_nameCount n o.events = 0 := by
  unfold el_nameCount
  rw [List.countP_eq_zero]
  intro ev hev
  simpa using el_no_name h hn ev hev

/-- the identifier of a completion event determines the endpoint (the confirm, claim and price
    events have their lemma where it is used) -/
theorem el_filterName_iff (c : Call) : "filterTicketsCompleted" ∈ el_namesOf c ↔ c = .filter := by
  cases c <;> simp [el_namesOf]

theorem el_selectName_iff (c : Call) : "selectWinnersCompleted" ∈ el_namesOf c ↔ c = .select := by
  cases c <;> simp [el_namesOf]

theorem el_distributeName_iff (c : Call) :
    "distributeGuaranteedTicketsCompleted" ∈ el_namesOf c ↔ c = .distribute := by
  cases c <;> simp [el_namesOf]

/-- emitted exactly by a completed `filter`, once, with the new `lastTicketId` -/
theorem el_filter_entry {hash : List Nat → List Nat} {s s' : State} {e : Env} {c : Call} {o : Out}
    (h : step hash s e c = .ok (s', o)) :
    el_nameCount "filterTicketsCompleted" o.events = (if Entry.doneFilter (e, c, o) = true then 1 else 0) ∧
    (Entry.doneFilter (e, c, o) = true →
      o.events = [⟨"filterTicketsCompleted", [e.caller, e.round, e.epoch],
                   [e.caller, e.round, e.epoch, s'.lastTicketId]⟩]) := by
  by_cases hc : c = .filter
  · subst hc
    obtain ⟨hr, h0, h1, _⟩ := filter_event hash s e s' o h
    rcases hr with hr | hr
    · have hd : Entry.doneFilter (e, Call.filter, o) = true := by simp [Entry.doneFilter, Out.done, hr]
      rw [(h0 hr).1]
      exact ⟨by simp [el_nameCount, hd], fun _ => rfl⟩
    · have hd : Entry.doneFilter (e, Call.filter, o) = false := by simp [Entry.doneFilter, Out.done, hr]
      rw [(h1 hr).1]
      exact ⟨by simp [el_nameCount, hd], fun hh => by rw [hd] at hh; cases hh⟩
  · have hd : Entry.doneFilter (e, c, o) = false :=
      Bool.eq_false_iff.2 fun hq => hc (doneFilter_call hq).1
    rw [hd, el_nameCount_zero h (fun hm => hc ((el_filterName_iff c).mp hm))]
    exact ⟨rfl, nofun⟩

/-- emitted exactly by a completed `select`, once, with `nrWinning` -/
theorem el_select_entry {hash : List Nat → List Nat} {s s' : State} {e : Env} {c : Call} {o : Out}
    (h : step hash s e c = .ok (s', o)) :
    el_nameCount "selectWinnersCompleted" o.events = (if Entry.doneSelect (e, c, o) = true then 1 else 0) ∧
    (Entry.doneSelect (e, c, o) = true →
      o.events = [⟨"selectWinnersCompleted", [e.caller, e.round, e.epoch],
                   [e.caller, e.round, e.epoch, s'.nrWinning]⟩]) := by
  by_cases hc : c = .select
  · subst hc
    obtain ⟨hr, h0, h1, hnw, _⟩ := select_event hash s e s' o h
    rcases hr with hr | hr
    · have hd : Entry.doneSelect (e, Call.select, o) = true := by simp [Entry.doneSelect, Out.done, hr]
      rw [(h0 hr).1, hnw]
      exact ⟨by simp [el_nameCount, hd], fun _ => rfl⟩
    · have hd : Entry.doneSelect (e, Call.select, o) = false := by simp [Entry.doneSelect, Out.done, hr]
      rw [(h1 hr).1]
      exact ⟨by simp [el_nameCount, hd], fun hh => by rw [hd] at hh; cases hh⟩
  · have hd : Entry.doneSelect (e, c, o) = false :=
      Bool.eq_false_iff.2 fun hq => hc (doneSelect_call hq).1
    rw [hd, el_nameCount_zero h (fun hm => hc ((el_selectName_iff c).mp hm))]
    exact ⟨rfl, nofun⟩

/-- emitted only by a completed `distribute` of v2, once, carrying the number of additional
    winning tickets (`nrWinning' = nrWinning + add`) -/
theorem el_distribute_entry {hash : List Nat → List Nat} {s s' : State} {e : Env} {c : Call} {o : Out}
    (h : step hash s e c = .ok (s', o)) :
    el_nameCount "distributeGuaranteedTicketsCompleted" o.events
      = (if s.variant.isV2 = true ∧ Entry.doneAdditional (e, c, o) = true then 1 else 0) ∧
    (s.variant.isV2 = true → Entry.doneAdditional (e, c, o) = true →
      ∃ add, s'.nrWinning = s.nrWinning + add ∧
        o.events = [⟨"distributeGuaranteedTicketsCompleted", [e.caller, e.round, e.epoch],
                     [e.caller, e.round, e.epoch, add]⟩]) := by
  by_cases hc : c = .distribute
  · subst hc
    obtain ⟨hr, h0, h1, _⟩ := distribute_event hash s e s' o h
    rcases hr with hr | hr
    · have hd : Entry.doneAdditional (e, Call.distribute, o) = true := by
        simp [Entry.doneAdditional, Call.isAdditional, Out.done, hr]
      obtain ⟨add, hnw, _, _, hE⟩ := h0 hr
      rw [hE]
      cases hv : s.variant.isV2 with
      | true => exact ⟨by simp [el_nameCount, hd], fun _ _ => ⟨add, hnw, by simp⟩⟩
      | false => exact ⟨by simp [el_nameCount], fun hh => by cases hh⟩
    · have hd : Entry.doneAdditional (e, Call.distribute, o) = false := by
        simp [Entry.doneAdditional, Call.isAdditional, Out.done, hr]
      rw [(h1 hr).1]
      exact ⟨by simp [el_nameCount, hd], fun _ hh => by rw [hd] at hh; cases hh⟩
  · -- the other two additional steps, `selectNft` and `secondary`, are not endpoints of v2
    have hv : ¬ (s.variant.isV2 = true ∧ Entry.doneAdditional (e, c, o) = true) := by
      rintro ⟨hv2, hd⟩
      have hx := step_exposed h
      rcases (doneAdditional_call hd).1 with h1 | h1 | h1 <;> simp only at h1
      · exact hc h1
      all_goals
        subst h1
        rw [eq_of_beq hx] at hv2
        cases hv2
    rw [el_nameCount_zero h (fun hm => hc ((el_distributeName_iff c).mp hm)), if_neg hv]
    exact ⟨rfl, fun h1 h2 => absurd ⟨h1, h2⟩ hv⟩

theorem el_count_filter {hash : List Nat → List Nat} {s s' : State} {l : List Entry}
    (h : LogChain hash s l s') :
    el_nameCount "filterTicketsCompleted" (el_events l) = l.countP Entry.doneFilter := by
  induction h with
  | nil s => rfl
  | @cons s s1 s2 e c o l hst _ ih =>
    rw [el_events_cons, el_nameCount_append, ih, (el_filter_entry hst).1, List.countP_cons]
    omega

theorem el_count_select {hash : List Nat → List Nat} {s s' : State} {l : List Entry}
    (h : LogChain hash s l s') :
    el_nameCount "selectWinnersCompleted" (el_events l) = l.countP Entry.doneSelect := by
  induction h with
  | nil s => rfl
  | @cons s s1 s2 e c o l hst _ ih =>
    rw [el_events_cons, el_nameCount_append, ih, (el_select_entry hst).1, List.countP_cons]
    omega

theorem el_count_distribute {hash : List Nat → List Nat} {s s' : State} {l : List Entry}
    (h : LogChain hash s l s') :
    el_nameCount "distributeGuaranteedTicketsCompleted" (el_events l) ≤ l.countP Entry.doneAdditional := by
  induction h with
  | nil s => exact Nat.le_refl _
  | @cons s s1 s2 e c o l hst _ ih =>
    rw [el_events_cons, el_nameCount_append, (el_distribute_entry hst).1, List.countP_cons]
    split <;> rename_i hq
    · rw [if_pos hq.2]; omega
    · split <;> omega

theorem el_interrupted_silent {hash : List Nat → List Nat} {s s' : State} {e : Env} {c : Call} {o : Out}
    (h : step hash s e c = .ok (s', o)) (hc : c.isSelection = true) (hr : o.ret = [1]) :
    o.events = [] := by
  cases c <;> simp only [Call.isSelection, Bool.false_eq_true] at hc
  · exact ((filter_event hash s e s' o h).2.2.1 hr).1
  · exact ((select_event hash s e s' o h).2.2.1 hr).1
  · exact ((distribute_event hash s e s' o h).2.2.1 hr).1
  · exact C20frame.no_events_of_not_emitting hash s s' e _ o h rfl (by intro hh; cases hh) (by intro hh; cases hh)
  · exact C20frame.no_events_of_not_emitting hash s s' e _ o h rfl (by intro hh; cases hh) (by intro hh; cases hh)

theorem el_step_uc_of_keeps {hash : List Nat → List Nat} {s s' : State} {e : Env} {c : Call} {o : Out}
    (h : step hash s e c = .ok (s', o)) (hk : c.pays = false) : s'.userClaimed = s.userClaimed := by
  obtain ⟨m, t, _, _, _, hx, rfl, _⟩ := step_ok_inv h
  exact congrArg EL_LG.userClaimed (el_exec_lg hk hx)

theorem el_claimName_iff (c : Call) : "claimLaunchpadTokens" ∈ el_namesOf c ↔ c = .claim := by
  cases c <;> simp [el_namesOf]

theorem el_step_userClaimed {hash : List Nat → List Nat} {s s' : State} {e : Env} {c : Call} {o : Out}
    (hv : s.variant = .guarV2) (h : step hash s e c = .ok (s', o)) (a : Nat) :
    s'.userClaimed a = s.userClaimed a + el_sum (el_claimAmt a) o.events := by
  have hzero : "claimLaunchpadTokens" ∉ el_namesOf c → el_sum (el_claimAmt a) o.events = 0 := fun hn =>
    el_sum_zero (fun ev hev => el_claimAmt_other (el_no_name h hn ev hev))
  obtain ⟨hvest, _, hv2, _⟩ := v2_flags hv
  cases hpay : c.pays with
  | false =>
    have hne : c ≠ .claim := by rintro rfl; cases hpay
    rw [hzero fun hm => hne ((el_claimName_iff c).mp hm), el_step_uc_of_keeps h hpay]; rfl
  | true =>
    cases c <;> first | (cases hpay; done) | skip
    case claim =>
      have hev := step_events h
      obtain ⟨t, hx, rfl, rfl⟩ := step_np_out rfl h
      rw [exec_claim_vested hash _ e hvest] at hx
      obtain ⟨_, c, _, _, huc, hoth, _⟩ := claimVested_inv hx
      have huc' : t.s.userClaimed e.caller = s.userClaimed e.caller + c := huc
      have z1 : el_sum (el_claimAmt a) (if s.claimed e.caller = false then refundEvents s e else []) = 0 := by
        unfold refundEvents; repeat' split
        all_goals simp [el_sum, el_claimAmt, refundEv]
      have hc : t.s.userClaimed e.caller - s.userClaimed e.caller = c := by omega
      rw [hev, eventsOf, claimEvents, el_sum_append, z1, releaseEvents, hc, Nat.zero_add]
      by_cases hq : a = e.caller
      · subst hq
        rw [huc']
        by_cases hc0 : c > 0
        · simp [hc0, hv2, el_sum, el_claimAmt, claimEv, el_fld]
        · have : c = 0 := by omega
          subst this; simp
      · have hq' : ¬ e.caller = a := fun hh => hq hh.symm
        rw [hoth a hq]
        split <;> simp [el_sum, el_claimAmt, claimEv, el_fld, hq']
    case claimPayment =>
      rw [hzero (by simp [el_namesOf])]
      obtain ⟨m, t, _, _, _, hx, rfl, _⟩ := step_ok_inv h
      have hs := exec_written hx
      show t.s.userClaimed a = _
      rw [hs]; rfl
    case blacklist l =>
      rw [hzero (by simp [el_namesOf]), (el_blacklist_out (Or.inl rfl) h).2.2.2.1]; rfl
    case refundUsers l =>
      rw [hzero (by simp [el_namesOf]), (el_blacklist_out (Or.inr rfl) h).2.2.2.1]; rfl

theorem el_chain_userClaimed {hash : List Nat → List Nat} {s s' : State} {l : List Entry}
    (h : LogChain hash s l s') (hv : s.variant = .guarV2) (a : Nat) :
    s'.userClaimed a = s.userClaimed a + el_sum (el_claimAmt a) (el_events l) := by
  induction h with
  | nil s => simp [el_events_nil]
  | @cons s s1 s2 e c o l hst _ ih =>
    have k1 := el_step_userClaimed hv hst a
    have k2 := ih ((step_variant hst).trans hv)
    rw [el_events_cons, el_sum_append]
    simp only at k1 k2 ⊢
    omega

def el_lastSet (evs : List Ev) : Option Ev := (evs.filter (fun ev => ev.name == "setTicketPrice")).getLast?

/-- payload of `setTicketPrice`: `[caller, round, epoch, token, nonce, amount]` -/
def el_priceAfter (p : Nat × Nat) (evs : List Ev) : Nat × Nat :=
  match el_lastSet evs with
  | some ev => (el_fld ev 5, el_fld ev 3)
  | none => p

theorem el_priceAfter_append (p : Nat × Nat) (a b : List Ev) :
    el_priceAfter p (a ++ b) = el_priceAfter (el_priceAfter p a) b := by
  unfold el_priceAfter el_lastSet
  rw [List.filter_append, List.getLast?_append]
  cases (b.filter (fun ev => ev.name == "setTicketPrice")).getLast? <;> simp [Option.or]

theorem el_priceName_iff (c : Call) :
    "setTicketPrice" ∈ el_namesOf c ↔ ∃ tok a, c = .setTicketPrice tok a := by
  cases c <;> simp [el_namesOf]

theorem el_step_price {hash : List Nat → List Nat} {s s' : State} {e : Env} {c : Call} {o : Out}
    (h : step hash s e c = .ok (s', o)) :
    (s'.price, s'.payTok.code) = el_priceAfter (s.price, s.payTok.code) o.events := by
  by_cases hc : ∃ tok a, c = .setTicketPrice tok a
  · obtain ⟨tok, a, rfl⟩ := hc
    obtain ⟨hE, h1, h2, _⟩ := setTicketPrice_exact hash s e tok a s' o h
    rw [hE, h1, h2]
    simp [el_priceAfter, el_lastSet, el_fld]
  · have hnone : el_lastSet o.events = none := by
      unfold el_lastSet
      have : o.events.filter (fun ev => ev.name == "setTicketPrice") = [] := by
        rw [List.filter_eq_nil_iff]
        intro ev hev
        have := el_no_name h (n := "setTicketPrice") (fun hm => hc ((el_priceName_iff c).mp hm)) ev hev
        simpa using this
      rw [this]; rfl
    have hsame : s'.price = s.price ∧ s'.payTok = s.payTok := by
      rcases step_static_cases h with ⟨_, h1⟩ | ⟨_, h1⟩
      · exact ⟨terms_price (static_terms h1), terms_payTok (static_terms h1)⟩
      · rw [h1]
        unfold ownerEdit
        split <;> first | exact ⟨rfl, rfl⟩ | (exact absurd ⟨_, _, rfl⟩ hc)
    unfold el_priceAfter
    rw [hnone, hsame.1, hsame.2]

theorem el_chain_price {hash : List Nat → List Nat} {s s' : State} {l : List Entry}
    (h : LogChain hash s l s') :
    (s'.price, s'.payTok.code) = el_priceAfter (s.price, s.payTok.code) (el_events l) := by
  induction h with
  | nil s => rfl
  | @cons s s1 s2 e c o l hst _ ih =>
    rw [el_events_cons, el_priceAfter_append, ← el_step_price hst]
    exact ih

theorem el_of_name_count {n : String} {evs : List Ev} {p : Prop} [Decidable p]
    (hc : el_nameCount n evs = if p then 1 else 0) (h : ∃ ev ∈ evs, ev.name = n) : p := by
  obtain ⟨ev, hev, hn⟩ := h
  have hpos : 0 < el_nameCount n evs := List.countP_pos_iff.mpr ⟨ev, hev, by simp [hn]⟩
  rw [hc] at hpos
  split at hpos
  · assumption
  · exact absurd hpos (Nat.lt_irrefl 0)

end LP

#print axioms LP.el_names
#print axioms LP.el_replay_chain
#print axioms LP.el_confirmed_sum
#print axioms LP.el_chain_bal
#print axioms LP.el_count_filter
#print axioms LP.el_chain_userClaimed
#print axioms LP.el_chain_price
