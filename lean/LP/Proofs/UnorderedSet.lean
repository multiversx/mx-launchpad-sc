import LP.Guaranteed
/-
  The unordered set of the contracts (`UnorderedSetMapper`, kept in a list): `setInsert` appends a new
  element, `swapRemove` lets the last element take the removed one's slot.  Everything the proofs
  use: membership, the reported flag, duplicate-freeness, length, and `swapRemove` as `erase` up to
  order.
-/
namespace LP

theorem setInsert_new {l : List Nat} {a : Nat} (h : a ∉ l) : setInsert l a = (l ++ [a], true) := by
  unfold setInsert
  have : l.contains a = false := by
    cases hc : l.contains a
    · rfl
    · exact absurd (List.contains_iff_mem.mp hc) h
  simp [h]

theorem setInsert_old {l : List Nat} {a : Nat} (h : a ∈ l) : setInsert l a = (l, false) := by
  unfold setInsert
  simp [h]

theorem setInsert_snd (l : List Nat) (a : Nat) : (setInsert l a).2 = true ↔ a ∉ l := by
  by_cases h : a ∈ l
  · rw [setInsert_old h]; simp [h]
  · rw [setInsert_new h]; simp [h]

theorem setInsert_nodup {l : List Nat} (a : Nat) (h : l.Nodup) : (setInsert l a).1.Nodup := by
  by_cases ha : a ∈ l
  · rw [setInsert_old ha]; exact h
  · rw [setInsert_new ha]
    rw [List.nodup_append]
    refine ⟨h, by simp, ?_⟩
    intro x hx y hy
    simp only [List.mem_singleton] at hy
    subst hy
    intro hxy; subst hxy; exact ha hx

theorem mem_setInsert (l : List Nat) (a x : Nat) : x ∈ (setInsert l a).1 ↔ x ∈ l ∨ x = a := by
  by_cases ha : a ∈ l
  · rw [setInsert_old ha]
    constructor
    · exact Or.inl
    · rintro (h | rfl)
      · exact h
      · exact ha
  · rw [setInsert_new ha]; simp

theorem setInsert_idem (l : List Nat) (a : Nat) :
    (setInsert (setInsert l a).1 a).1 = (setInsert l a).1 := by
  by_cases h : a ∈ l
  · simp only [setInsert_old h]
  · rw [setInsert_new h]
    show (setInsert (l ++ [a]) a).1 = l ++ [a]
    rw [setInsert_old (List.mem_append_right l (List.mem_singleton_self a))]

theorem swapRemove_not_mem {l : List Nat} {a : Nat} (h : a ∉ l) : swapRemove l a = (l, false) := by
  unfold swapRemove
  rw [List.idxOf?_eq_none_iff.mpr h]

theorem idxOf?_split (l : List Nat) (a : Nat) (h : a ∈ l) :
    ∃ pre post, l = pre ++ a :: post ∧ a ∉ pre ∧ l.idxOf? a = some pre.length := by
  induction l with
  | nil => cases h
  | cons x xs ih =>
    by_cases hx : x = a
    · exact ⟨[], xs, by simp [hx], by simp, by simp [List.idxOf?_cons, hx]⟩
    · have h' : a ∈ xs := by
        rcases List.mem_cons.1 h with h | h
        · exact absurd h.symm hx
        · exact h
      obtain ⟨pre, post, h1, h2, h3⟩ := ih h'
      refine ⟨x :: pre, post, by simp [h1], ?_, ?_⟩
      · simp only [List.mem_cons, not_or]; exact ⟨fun e => hx e.symm, h2⟩
      · simp [List.idxOf?_cons, hx, h3]

/-- `swap_remove` removes exactly one occurrence (the first) of `a`, up to order. -/
theorem swapRemove_perm (l : List Nat) (a : Nat) : (swapRemove l a).1.Perm (l.erase a) := by
  by_cases h : a ∈ l
  · obtain ⟨pre, post, h1, h2, h3⟩ := idxOf?_split l a h
    have herase : l.erase a = pre ++ post := by
      rw [h1, List.erase_append, if_neg h2]; simp
    rw [herase]
    rcases List.eq_nil_or_concat post with hp | ⟨p', z, hp⟩
    · subst hp
      have hl : l.getLast? = some a := by rw [h1]; simp
      have hlen : pre.length + 1 = l.length := by rw [h1]; simp
      simp only [swapRemove, h3, hl, hlen, if_true]
      rw [h1]; simp
    · rw [List.concat_eq_append] at hp
      subst hp
      have hl : l.getLast? = some z := by rw [h1]; simp [List.getLast?_append, List.getLast?_cons]
      have hlen : ¬ (pre.length + 1 = l.length) := by rw [h1]; simp
      simp only [swapRemove, h3, hl, hlen, if_false]
      have hset : (l.set pre.length z).dropLast = pre ++ z :: p' := by
        rw [h1, List.set_append]
        simp only [Nat.lt_irrefl, if_false, Nat.sub_self, List.set_cons_zero]
        rw [List.dropLast_append_cons]
        have : z :: (p' ++ [z]) = (z :: p') ++ [z] := rfl
        rw [this, List.dropLast_concat]
      rw [hset]
      apply List.Perm.append_left
      exact (List.perm_append_comm : ([z] ++ p').Perm (p' ++ [z]))
  · rw [swapRemove_not_mem h, List.erase_of_not_mem h]

theorem swapRemove_snd (l : List Nat) (a : Nat) : (swapRemove l a).2 = true ↔ a ∈ l := by
  by_cases h : a ∈ l
  · obtain ⟨pre, post, h1, h2, h3⟩ := idxOf?_split l a h
    obtain ⟨z, hz⟩ : ∃ z, l.getLast? = some z := by
      rw [h1]; simp [List.getLast?_append, List.getLast?_cons]
    simp only [swapRemove, h3, hz, h, iff_true]
    split <;> rfl
  · rw [swapRemove_not_mem h]; simp [h]

theorem swapRemove_nodup {l : List Nat} (a : Nat) (h : l.Nodup) : (swapRemove l a).1.Nodup :=
  (swapRemove_perm l a).nodup_iff.2 (h.erase a)

theorem mem_swapRemove {l : List Nat} (a x : Nat) (h : l.Nodup) :
    x ∈ (swapRemove l a).1 ↔ x ∈ l ∧ x ≠ a := by
  rw [(swapRemove_perm l a).mem_iff, h.mem_erase_iff]
  exact And.comm

theorem not_mem_swapRemove_self {l : List Nat} (a : Nat) (h : l.Nodup) : a ∉ (swapRemove l a).1 := by
  rw [mem_swapRemove a a h]; simp

theorem swapRemove_length {l : List Nat} {a : Nat} (h : a ∈ l) :
    (swapRemove l a).1.length + 1 = l.length := by
  rw [(swapRemove_perm l a).length_eq, List.length_erase_of_mem h]
  have : 0 < l.length := List.length_pos_of_mem h
  omega

end LP
