import LP.Proofs.ClaimVested
import LP.Proofs.Events
import LP.Proofs.NftDraw
import LP.Proofs.Footprint
import LP.Props.C07
/-
  What an accepted call is known to satisfy without looking into its loop.  `Gate s e c` is the table of
  what the guards at the head of each endpoint body demand (stage, completion flags, pause flag, caller);
  `exec_gate` proves it once from the inversions of the bodies, `step_gate` and `rejected_of_not_gate`
  lift it to `step`.  With the dispatcher's demands (`Admitted`) and the footprints of LP/Proofs/Footprint
  it forms `Spec` (`step_spec`).  The lifecycle gates (LP/Props/C06gates), the caller checks (C15) and the
  pause gates (C19, PauseFrame) are projections of the table.
-/
namespace LP

/-- what the guards of the body of `c` demand of the state, the round and the caller: all of them for
    `setTicketPrice` and `setPerTicket`; for the other owner's setters all but the check of the new value
    (`validPeriods` of the new timeline, the new schedule, the token id of the NFT cost, the payment of
    `deposit`); for the remaining calls those at the head of the body -/
def Gate (s : State) (e : Env) : Call → Prop
  | .addTickets _ | .addTicketsV1 _ | .addTicketsV2 _ | .setSchedule2 _ => s.stage e = .addTickets
  | .setTicketPrice tok a => s.stage e = .addTickets ∧ 0 < a ∧ tok.valid = true ∧ tok ≠ .esdt s.lpTok
  | .setPerTicket a => s.stage e = .addTickets ∧ s.deposited = false ∧ 0 < a
  | .setNftCost p => s.stage e = .addTickets ∧ 0 < p.amount ∧ p.tok ≠ .esdt s.lpTok
  | .deposit => s.deposited = false
  | .setConfStart r => e.round < s.cfg.conf ∧ e.round < r
  | .setSelStart r => e.round < s.cfg.sel ∧ e.round < r
  | .setClaimStart r => e.round < s.cfg.claim ∧ e.round < r
  | .setSchedule1 .. => e.round < s.cfg.conf ∨ s.sched1 = none
  | .confirm _ => s.paused = false ∧ s.stage e = .confirm
  | .confirmNft => s.stage e = .confirm
  | .blacklist _ | .refundUsers _ | .unblacklist _ =>
    (e.caller = s.owner ∨ e.caller = s.support) ∧ (s.stage e = .addTickets ∨ s.stage e = .confirm)
  | .filter => s.paused = false ∧ s.stage e = .winnerSelection ∧ s.flags.filtered = false
  | .select => s.paused = false ∧ s.stage e = .winnerSelection ∧
      (e.caller = s.owner ∨ e.callerIsContract = false) ∧ s.flags.filtered = true ∧ s.flags.selected = false
  | .distribute => s.stage e = .winnerSelection ∧ s.flags.selected = true ∧ s.flags.additional = false ∧
      (s.variant.isV2 = true → s.paused = false ∧ (e.caller = s.owner ∨ e.callerIsContract = false))
  | .selectNft | .secondary => s.stage e = .winnerSelection ∧ s.flags.selected = true ∧ s.flags.additional = false
  | .claimPayment => s.stage e = .claim
  | .claim => (s.stage e = .claim ∨ (s.variant.vested = true ∧ s.claimed e.caller = true)) ∧
      (s.variant.isV2 = true → s.paused = false)
  | .issueSft | .createSfts | .setTransferRole _ => False
  | _ => True

theorem eq_false_of_bnot {b : Bool} (h : (!b) = true) : b = false := by
  cases b
  · rfl
  · cases h

theorem ownerOrUser_cases {a o : Nat} {b : Bool} (h : (a == o || !b) = true) : a = o ∨ b = false := by
  cases b
  · exact .inr rfl
  · rw [Bool.not_true, Bool.or_false] at h
    exact .inl (beq_iff_eq.mp h)

/-- an accepted `if … then a else b` is an accepted `a` or an accepted `b` -/
theorem ite_ok_elim {α : Type} {c P : Prop} {_ : Decidable c} {a b : Res α} {x : α}
    (h : (if c then a else b) = .ok x) (ha : c → a = .ok x → P) (hb : ¬ c → b = .ok x → P) : P := by
  split at h
  · exact ha ‹_› h
  · exact hb ‹_› h

theorem validCost_ok {lp : Nat} {c : Pay} (h : validCost lp c = .ok ()) : 0 < c.amount := by
  unfold validCost at h
  split at h <;> simp only [bind_ok_iff, req_ok_iff, exists_const] at h <;> simpa using h.2.1

theorem validCost_ne_lp {lp : Nat} {c : Pay} (h : validCost lp c = .ok ()) : c.tok ≠ .esdt lp := by
  unfold validCost at h
  split at h <;> simp only [bind_ok_iff, req_ok_iff, exists_const] at h <;> simpa using h.2.2

theorem exec_gate {hash : List Nat → List Nat} {t t' : Tx} {e : Env} {c : Call}
    (h : exec hash t e c = .ok t') : Gate t.s e c := by
  cases c with
  | addTickets l | addTicketsV2 l | setSchedule2 l => exact (requireStage_bind_ok.mp h).1
  | setTicketPrice tok a =>
    simp only [exec, trySetTicketPrice, requireStage, bind_ok_iff, pure_ok_iff, req_ok_iff, exists_const] at h
    obtain ⟨hst, s1, ⟨hv, hne, ha, _⟩, _⟩ := h
    exact ⟨by simpa using hst, by simpa using ha, hv, by simpa using hne⟩
  | setPerTicket a =>
    simp only [exec, requireStage, bind_ok_iff, pure_ok_iff, req_ok_iff, exists_const] at h
    obtain ⟨hst, hd, ha, _⟩ := h
    exact ⟨by simpa using hst, by simpa using hd, by simpa using ha⟩
  | setNftCost p =>
    simp only [exec, requireStage, bind_ok_iff, pure_ok_iff, req_ok_iff, exists_const] at h
    obtain ⟨hst, _, hc, _⟩ := h
    exact ⟨by simpa using hst, validCost_ok hc, validCost_ne_lp hc⟩
  | deposit =>
    obtain ⟨s1, h1, _⟩ := (bind_ok_iff _ _ _).mp h
    exact (depositLaunchpadTokens_eq h1).1
  | setConfStart r => exact validTimelineChange_ok.1 (exec_setConfStart_ok h).1
  | setSelStart r => exact validTimelineChange_ok.1 (exec_setSelStart_ok h).1
  | setClaimStart r => exact validTimelineChange_ok.1 (exec_setClaimStart_ok h).1
  | addTicketsV1 l | confirmNft =>
    obtain ⟨s1, h1, _⟩ := (bind_ok_iff _ _ _).mp h
    exact (requireStage_bind_ok.mp h1).1
  | setSchedule1 a b c d f =>
    obtain ⟨s1, h1, _⟩ := (bind_ok_iff _ _ _).mp h
    exact ((setSchedule1_eq_ok ..).mp h1).1
  | confirm n =>
    obtain ⟨_, hacc, _⟩ := (Props.C07.confirmTickets_ok_iff _ e n _).mp h
    exact ⟨hacc.1, hacc.2.2.1⟩
  | blacklist l =>
    obtain ⟨g1, g2, _⟩ := (Events.addUsersToBlacklist_ok_iff ..).mp (Events.exec_blacklist_out h).1
    exact ⟨g1, g2⟩
  | refundUsers l =>
    obtain ⟨g1, g2, _⟩ := (Events.addUsersToBlacklist_ok_iff ..).mp (Events.exec_refundUsers_out h).1
    exact ⟨g1, g2⟩
  | unblacklist l =>
    obtain ⟨g1, g2, _⟩ := (Events.removeUsersFromBlacklist_ok_iff ..).mp (Events.exec_unblacklist_out h).1
    exact ⟨g1, g2⟩
  | filter =>
    obtain ⟨hp, _⟩ := filterTickets_inv _ _ _ h
    exact ⟨hp.notPaused, hp.stage, hp.notFiltered⟩
  | select =>
    obtain ⟨hp, _⟩ := (selectWinners_iff hash _ _ _).mp h
    exact ⟨hp.notPaused, hp.stage, ownerOrUser_cases hp.caller, hp.filtered, hp.notSelected⟩
  | distribute =>
    obtain ⟨hp, _⟩ := (distribute_iff hash _ _ _).mp h
    exact ⟨hp.stage, hp.selected, hp.notDone, fun hv => ⟨hp.notPaused hv, ownerOrUser_cases (hp.caller hv)⟩⟩
  | selectNft =>
    obtain ⟨hp, _⟩ := (selectNft_iff hash _ _ _).mp h
    exact ⟨hp.stage, hp.selected, hp.notDone⟩
  | secondary =>
    obtain ⟨hp, _⟩ := (secondary_iff hash _ _ _).mp h
    exact ⟨hp.stage, hp.selected, hp.notDone⟩
  | claimPayment =>
    refine ite_ok_elim h (fun _ h => (requireStage_bind_ok.mp h).1) fun _ h => ?_
    obtain ⟨t1, h1, _⟩ := (bind_ok_iff _ _ _).mp h
    exact (requireStage_bind_ok.mp h1).1
  | claim =>
    refine ite_ok_elim h (fun hv h => ⟨?_, fun h2 => ?_⟩) fun hv h =>
      ⟨?_, fun h2 => absurd (vested_of_isV2 h2) hv⟩
    · obtain ⟨t1, _, h1, _⟩ := claimVested_inv h
      cases hcl : t.s.claimed e.caller with
      | true => exact .inr ⟨hv, rfl⟩
      | false => exact .inl ((claimSettle_frame h1).2.2.2.2.2 hcl)
    · rw [claimVested_eq, if_pos h2] at h
      exact eq_false_of_bnot (req_bind_ok.mp h).1
    · obtain ⟨_, hset, _⟩ := (bind_ok_iff _ _ _).mp h
      exact .inl ((settle_ok_iff ..).mp hset).1
  | issueSft | createSfts | setTransferRole a => exact (exec_fp h).1
  | _ => trivial

theorem step_gate {hash : List Nat → List Nat} {s : State} {e : Env} {c : Call} {r : State × Out}
    (h : step hash s e c = .ok r) : Gate s e c := by
  obtain ⟨s', o⟩ := r
  obtain ⟨m, t, _, _, _, hx, _, _⟩ := step_ok_inv h
  -- `Gate` reads no balance, and crediting the call value writes nothing else: `Gate (tx0 s e).s e c` is
  -- `Gate s e c` up to unfolding (stated first: `exact exec_gate hx` tries to unify the states before)
  have g := exec_gate hx
  exact g

theorem rejected_of_not_gate {hash : List Nat → List Nat} {s : State} {e : Env} {c : Call}
    (h : ¬ Gate s e c) : ∃ err, step hash s e c = .error err :=
  rejected_of_not_ok fun _ _ hs => h (step_gate hs)

/-- what the dispatcher demands: the variant exposes the endpoint, owner-only endpoints are called by the
    owner, and value comes only with a payable call -/
structure Admitted (s : State) (e : Env) (c : Call) : Prop where
  exposed : ∃ m, endpointMeta s.variant c = some m ∧ (m.ownerOnly = true → e.caller = s.owner)
  nopay : c.payable = false → e.egld = 0 ∧ e.esdts = []

/-- everything an accepted call is known to satisfy without looking at its loop: who, when, and which
    fields of the credited state it writes (`ExecFp`, with the new values where it has them) and of the
    output -/
structure Spec (s : State) (e : Env) (c : Call) (s' : State) (o : Out) : Prop where
  admitted : Admitted s e c
  gate : Gate s e c
  state : ExecFp (creditPayments s e) s' e c
  out : OutFp {} o c

theorem step_spec {hash : List Nat → List Nat} {s s' : State} {e : Env} {c : Call} {o : Out}
    (h : step hash s e c = .ok (s', o)) : Spec s e c s' o := by
  obtain ⟨m, t, hm, hpay, hown, hx, rfl, rfl⟩ := step_ok_inv h
  have hf := exec_fp hx
  have g := exec_gate hx
  refine ⟨⟨⟨m, hm, hown⟩, fun hc => hpay.resolve_left ?_⟩, g, hf.1, hf.2⟩
  rw [endpointMeta_payable hm, hc]
  exact nofun

end LP

#print axioms LP.exec_gate
#print axioms LP.step_spec
