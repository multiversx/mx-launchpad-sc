import LP.Step
/-
  What every proof about `step` / `run` starts from.  Inversion of `step`: an accepted call is its
  endpoint body run on `tx0` (`step_ok_inv`; the converse, errors included, is `step_eq_of_meta`), on the
  unchanged state if the endpoint is not payable (`Call.payable`, `step_np`); which contract has which
  endpoint (`Call.exposedIn`).  Inversion of `init`: an accepted `init` yields `initState` under
  `InitOK`.  Induction along a history (`run_cons_ok`, `run_cons_err`, `run_induct`).  Plus the
  small facts the endpoint bodies need: `req`, `>>=`, `creditPayments`, the lawful `BEq` instance
  of `Token`, a balance read after one credit or debit, the guards of a `do` block inverted one at a
  time, and which flags of a `Variant` go together.
-/
namespace LP

@[simp] theorem req_ok_iff (c : Bool) (msg : String) (u : Unit) : req c msg = .ok u ↔ c = true := by
  unfold req; cases c <;> simp

theorem req_true (msg : String) : req true msg = .ok () := rfl
theorem req_false (msg : String) : req false msg = .error (.user msg) := rfl

def tx0 (s : State) (e : Env) : Tx := ⟨creditPayments s e, ⟨e.budget, e.seeds, e.script⟩, {}⟩

theorem step_ok_inv {hash : List Nat → List Nat} {s : State} {e : Env} {c : Call} {s' : State} {o : Out}
    (h : step hash s e c = .ok (s', o)) :
    ∃ m t, endpointMeta s.variant c = some m ∧
      (m.payable = true ∨ (e.egld = 0 ∧ e.esdts = [])) ∧
      (m.ownerOnly = true → e.caller = s.owner) ∧
      exec hash (tx0 s e) e c = .ok t ∧ s' = t.s ∧ o = t.o := by
  unfold step at h
  cases hm : endpointMeta s.variant c with
  | none => simp [hm] at h
  | some m =>
    simp only [hm] at h
    split at h
    · simp at h
    · split at h
      · simp at h
      · rename_i h1 h2
        cases hx : exec hash ⟨creditPayments s e, ⟨e.budget, e.seeds, e.script⟩, {}⟩ e c with
        | error err => simp [hx] at h
        | ok t =>
          simp [hx] at h
          refine ⟨m, t, rfl, ?_, ?_, hx, h.1.symm, h.2.symm⟩
          · cases hp : m.payable
            · right
              simp [hp] at h1
              constructor
              · omega
              · exact h1.2
            · left; rfl
          · intro ho
            simp [ho] at h2
            exact h2

theorem rejected_of_not_ok {hash : List Nat → List Nat} {s : State} {e : Env} {c : Call}
    (h : ∀ s' o, step hash s e c = .ok (s', o) → False) : ∃ err, step hash s e c = .error err := by
  cases hs : step hash s e c with
  | error err => exact ⟨err, rfl⟩
  | ok r => exact (h r.1 r.2 hs).elim

/-- the converse of `step_ok_inv`, errors included: once the dispatcher lets the call through, `step` is the
    endpoint body on the credited state -/
theorem step_eq_of_meta {hash : List Nat → List Nat} {s : State} {e : Env} {c : Call} {m : Meta}
    (hm : endpointMeta s.variant c = some m)
    (hpay : m.payable = true ∨ (e.egld = 0 ∧ e.esdts = []))
    (hown : m.ownerOnly = true → e.caller = s.owner) :
    step hash s e c =
      match exec hash (tx0 s e) e c with
      | .error err => .error err
      | .ok t => .ok (t.s, t.o) := by
  unfold step
  simp only [hm]
  have h1 : ¬ ((!m.payable && (decide (e.egld > 0) || !e.esdts.isEmpty)) = true) := by
    rcases hpay with hp | ⟨h1, h2⟩
    · simp [hp]
    · simp [h1, h2]
  have h2 : ¬ ((m.ownerOnly && e.caller != s.owner) = true) := by
    cases ho : m.ownerOnly
    · simp
    · simp [hown ho]
  rw [if_neg h1, if_neg h2]
  rfl

@[simp] theorem creditPayments_owner (s : State) (e : Env) : (creditPayments s e).owner = s.owner := rfl
@[simp] theorem creditPayments_variant (s : State) (e : Env) : (creditPayments s e).variant = s.variant := rfl
@[simp] theorem creditPayments_paused (s : State) (e : Env) : (creditPayments s e).paused = s.paused := rfl
@[simp] theorem creditPayments_flags (s : State) (e : Env) : (creditPayments s e).flags = s.flags := rfl
@[simp] theorem creditPayments_cfg (s : State) (e : Env) : (creditPayments s e).cfg = s.cfg := rfl
@[simp] theorem creditPayments_support (s : State) (e : Env) : (creditPayments s e).support = s.support := rfl
@[simp] theorem creditPayments_price (s : State) (e : Env) : (creditPayments s e).price = s.price := rfl
@[simp] theorem creditPayments_payTok (s : State) (e : Env) : (creditPayments s e).payTok = s.payTok := rfl
@[simp] theorem creditPayments_perTicket (s : State) (e : Env) : (creditPayments s e).perTicket = s.perTicket := rfl
@[simp] theorem creditPayments_deposited (s : State) (e : Env) : (creditPayments s e).deposited = s.deposited := rfl
@[simp] theorem creditPayments_confirmed (s : State) (e : Env) : (creditPayments s e).confirmed = s.confirmed := rfl
@[simp] theorem creditPayments_blacklist (s : State) (e : Env) : (creditPayments s e).blacklist = s.blacklist := rfl
@[simp] theorem creditPayments_range (s : State) (e : Env) : (creditPayments s e).range = s.range := rfl
@[simp] theorem creditPayments_stage (s : State) (e : Env) : (creditPayments s e).stage e = s.stage e := rfl

theorem creditPayments_nopay (s : State) (e : Env) (h1 : e.egld = 0) (h2 : e.esdts = []) :
    creditPayments s e = s := by
  unfold creditPayments
  simp only [h1, h2, List.foldl_nil]
  have : s.bal.add .egld 0 0 = s.bal := by
    funext t n; unfold Bal.add; split <;> simp
  rw [this]


theorem bind_ok_iff {α β : Type} (x : Res α) (f : α → Res β) (b : β) :
    (x >>= f) = .ok b ↔ ∃ a, x = .ok a ∧ f a = .ok b := by
  cases x with
  | error e => simp [bind, Except.bind]
  | ok a => simp [bind, Except.bind]

theorem pure_ok_iff {α : Type} (a b : α) : (pure a : Res α) = .ok b ↔ a = b := by
  simp [pure, Except.pure]

theorem bind_error_iff {α β : Type} (x : Res α) (f : α → Res β) (err : Err) :
    (x >>= f) = .error err ↔ x = .error err ∨ ∃ a, x = .ok a ∧ f a = .error err := by
  cases x with
  | error e => simp [bind, Except.bind]
  | ok a => simp [bind, Except.bind]


theorem Token.beq_iff (a b : Token) : (a == b) = true ↔ a = b := by
  cases a <;> cases b <;> simp [BEq.beq, instBEqToken.beq]

instance : LawfulBEq Token where
  eq_of_beq := fun h => (Token.beq_iff _ _).mp h
  rfl := (Token.beq_iff _ _).mpr rfl


/-! reading a balance back after one credit or debit -/

theorem Bal.add_at (b : Bal) (t : Token) (n a : Nat) : (b.add t n a) t n = b t n + a := by
  simp [Bal.add]

theorem Bal.add_off (b : Bal) {t k : Token} (n a m : Nat) (h : k ≠ t) : (b.add t n a) k m = b k m := by
  simp [Bal.add, h]

theorem Bal.sub_at (b : Bal) (t : Token) (n a : Nat) : (b.sub t n a) t n = b t n - a := by
  simp [Bal.sub]

theorem Bal.sub_other_apply (b : Bal) (t t' : Token) (n n' x : Nat) (h : ¬ (t' = t ∧ n' = n)) :
    (b.sub t n x) t' n' = b t' n' := by
  simp [Bal.sub, h]

theorem Bal.sub_off (b : Bal) {t k : Token} (n a m : Nat) (h : k ≠ t) : (b.sub t n a) k m = b k m :=
  Bal.sub_other_apply b t k n m a fun hh => h hh.1

theorem Bal.sub_zero (b : Bal) (t : Token) (n : Nat) : b.sub t n 0 = b := by
  funext t' n'
  simp [Bal.sub]

theorem Bal.sub_sub (b : Bal) (t : Token) (n x y : Nat) :
    (b.sub t n x).sub t n y = b.sub t n (x + y) := by
  funext t' n'
  simp only [Bal.sub]
  split <;> omega

/-- `#[payable]` does not depend on the variant -/
def Call.payable : Call → Bool
  | .deposit | .confirm _ | .confirmNft | .issueSft => true
  | _ => false

theorem endpointMeta_payable {v : Variant} {c : Call} {m : Meta} (h : endpointMeta v c = some m) :
    m.payable = c.payable := by
  cases c <;> simp only [endpointMeta] at h <;> (try split at h) <;> cases h <;> rfl

/-- the variants whose contract has the endpoint: the rows of `endpointMeta` that are not `none` -/
def Call.exposedIn (v : Variant) : Call → Bool
  | .addTickets _ => !v.hasGuaranteed
  | .addTicketsV1 _ => v.v1Alloc
  | .addTicketsV2 _ | .refundUsers _ | .setSchedule2 _ => v.isV2
  | .unblacklist _ => v.hasUnblacklist
  | .distribute => v.hasGuaranteed && v != .nftGuar
  | .setSchedule1 .. => v == .guarV1
  | .selectNft => v == .nft
  | .secondary => v == .nftGuar
  | .confirmNft | .setNftCost _ | .issueSft | .createSfts | .setTransferRole _ | .sftSetup => v.hasNft
  | _ => true

theorem endpointMeta_isSome (v : Variant) (c : Call) : (endpointMeta v c).isSome = c.exposedIn v := by
  have ite : ∀ (b : Bool) (m : Meta), (if b = true then some m else none).isSome = b :=
    fun b _ => by cases b <;> rfl
  cases c <;> first | rfl | exact ite _ _

theorem endpointMeta_exposed {v : Variant} {c : Call} {m : Meta} (h : endpointMeta v c = some m) :
    c.exposedIn v = true := by
  rw [← endpointMeta_isSome, h]; rfl

theorem step_exposed {hash : List Nat → List Nat} {s : State} {e : Env} {c : Call} {s' : State} {o : Out}
    (h : step hash s e c = .ok (s', o)) : c.exposedIn s.variant = true :=
  let ⟨_, _, hm, _⟩ := step_ok_inv h
  endpointMeta_exposed hm

/-- `tx0` of a call without call value.  (`rb` as in the `rb_` lemmas = plain launchpad, base +
    locked; the record is the same for every variant.) -/
def rbTx (s : State) (e : Env) : Tx := ⟨s, ⟨e.budget, e.seeds, e.script⟩, {}⟩

@[simp] theorem rbTx_s (s : State) (e : Env) : (rbTx s e).s = s := rfl

theorem step_np_out {hash : List Nat → List Nat} {s : State} {e : Env} {c : Call} {s' : State} {o : Out}
    (hc : c.payable = false) (h : step hash s e c = .ok (s', o)) :
    ∃ t, exec hash (rbTx s e) e c = .ok t ∧ s' = t.s ∧ o = t.o := by
  obtain ⟨m, t, hm, hpay, _, hx, hs, ho⟩ := step_ok_inv h
  rw [endpointMeta_payable hm, hc] at hpay
  obtain ⟨h1, h2⟩ := hpay.resolve_left nofun
  exact ⟨t, by rw [tx0, creditPayments_nopay s e h1 h2] at hx; exact hx, hs, ho⟩

theorem step_np {hash : List Nat → List Nat} {s : State} {e : Env} {c : Call} {s' : State} {o : Out}
    (hc : c.payable = false) (h : step hash s e c = .ok (s', o)) :
    ∃ t, exec hash (rbTx s e) e c = .ok t ∧ s' = t.s := by
  obtain ⟨t, hx, hs, _⟩ := step_np_out hc h
  exact ⟨t, hx, hs⟩

/-! `step` on an endpoint that anyone may call without payment is the endpoint body on the
    unchanged storage. -/

theorem step_eq_exec {hash : List Nat → List Nat} {s : State} {e : Env} {c : Call}
    (hm : endpointMeta s.variant c = some ⟨false, false⟩) (h1 : e.egld = 0) (h2 : e.esdts = []) :
    step hash s e c =
      match exec hash (rbTx s e) e c with
      | .error err => .error err
      | .ok t => .ok (t.s, t.o) := by
  rw [step_eq_of_meta hm (.inr ⟨h1, h2⟩) nofun, tx0, creditPayments_nopay s e h1 h2]
  rfl

/-- … and is accepted exactly when no value comes with it and the body accepts -/
theorem step_np_iff {hash : List Nat → List Nat} {s s' : State} {e : Env} {c : Call} {o : Out}
    (hm : endpointMeta s.variant c = some ⟨false, false⟩) :
    step hash s e c = .ok (s', o) ↔
      e.egld = 0 ∧ e.esdts = [] ∧ ∃ t, exec hash (rbTx s e) e c = .ok t ∧ s' = t.s ∧ o = t.o := by
  constructor
  · intro h
    obtain ⟨m, t, hm', hpay, _, _, _, _⟩ := step_ok_inv h
    obtain ⟨h1, h2⟩ := hpay.resolve_left (by rw [hm] at hm'; cases hm'; nofun)
    exact ⟨h1, h2, step_np_out (endpointMeta_payable hm).symm h⟩
  · rintro ⟨h1, h2, t, hx, rfl, rfl⟩
    rw [step_eq_exec hm h1 h2, hx]

def initState (v : Variant) (a : InitArgs) (e : Env) : State :=
  { variant := v, owner := e.caller, lpTok := a.lpTok, perTicket := a.perTicket, payTok := a.payTok,
    price := a.price, nrWinning := a.nrWinning, cfg := ⟨a.conf, a.sel, a.claim⟩,
    flags := { additional := v.noAdditionalStep }, support := e.caller,
    minConfirmed := if v.v1Alloc then a.minConfirmed else 0,
    lockPct := if v.hasLock then a.lockPct else 0,
    unlockEpoch := if v.hasLock then a.unlockEpoch else 0,
    lockAddr := if v.hasLock then a.lockAddr else 0,
    nftCost := if v.hasNft then a.nftCost else ⟨.egld, 0, 0⟩,
    availNfts := if v.hasNft then a.availNfts else 0 }

/-- the `require!`s of `init` -/
structure InitOK (v : Variant) (a : InitArgs) (e : Env) : Prop where
  tokNe : a.payTok ≠ .esdt a.lpTok
  perTicket : 0 < a.perTicket
  payValid : a.payTok.valid = true
  price : 0 < a.price
  nrWinning : 0 < a.nrWinning
  periods : validPeriods ⟨a.conf, a.sel, a.claim⟩ = true
  minConfirmed : v.v1Alloc = true → 0 < a.minConfirmed
  lock : v.hasLock = true → 0 < a.lockPct ∧ a.lockPct ≤ 10000 ∧ e.epoch < a.unlockEpoch ∧
    a.lockAddr ≠ 0 ∧ e.isContract a.lockAddr = true
  nft : v.hasNft = true → 0 < a.availNfts ∧ validCost a.lpTok a.nftCost = .ok ()

theorem init_ok {v : Variant} {a : InitArgs} {e : Env} {s : State} (h : init v a e = .ok s) :
    InitOK v a e ∧ s = initState v a e := by
  cases v <;>
    simp only [init, Variant.hasNft, Variant.v1Alloc, Variant.hasLock, Variant.noAdditionalStep, bind_ok_iff,
      req_ok_iff, pure_ok_iff, pure_bind, exists_const, if_true, if_false, Bool.false_eq_true, reduceCtorEq,
      decide_eq_true_eq, bne_iff_ne, ne_eq, not_false_eq_true, beq_iff_eq, Bool.and_eq_true,
      bne_self_eq_false] at h
  all_goals
    repeat (cases h with | intro _ h)
    subst h
    refine ⟨⟨by assumption, by assumption, by assumption, by assumption, by assumption, by assumption,
      ?_, ?_, ?_⟩, rfl⟩ <;> intro hv <;> first | (cases hv; done) | simp_all

theorem run_cons_ok {hash : List Nat → List Nat} {s s' : State} {e : Env} {c : Call} {o : Out}
    {rest : List (Env × Call)} (h : step hash s e c = .ok (s', o)) :
    run hash s ((e, c) :: rest) = run hash s' rest := by
  simp only [run, h]

theorem run_cons_err {hash : List Nat → List Nat} {s : State} {e : Env} {c : Call} {err : Err}
    {rest : List (Env × Call)} (h : step hash s e c = .error err) :
    run hash s ((e, c) :: rest) = run hash s rest := by
  simp only [run, h]

theorem run_induct (hash : List Nat → List Nat) (P : State → Prop)
    (hstep : ∀ s e c s' o, P s → step hash s e c = .ok (s', o) → P s') :
    ∀ (h : List (Env × Call)) (s : State), P s → P (run hash s h)
  | [], _, hp => hp
  | (e, c) :: rest, s, hp => by
    cases hst : step hash s e c with
    | ok r => rw [run_cons_ok hst]; exact run_induct hash P hstep rest _ (hstep s e c r.1 r.2 hp hst)
    | error err => rw [run_cons_err hst]; exact run_induct hash P hstep rest s hp

/-! Inversion of the forms a `do` block gives its guards, one at a time, so that an accepted endpoint
    body can be peeled from the front without rewriting the rest of it. -/

/-- `if c then throw …` in front of `x` -/
theorem ok_of_guard {α : Type} {c : Prop} [Decidable c] {err : Err} {x : Res α} {y : α}
    (h : (if c then .error err else x) = .ok y) : ¬ c ∧ x = .ok y := by
  split at h
  · cases h
  · exact ⟨‹_›, h⟩

/-- `let x ← if c then a else b` followed by `k`: `do` notation moves `k` into both branches -/
theorem ite_bind {α β : Type} {c : Prop} [Decidable c] (a b : Res α) (k : α → Res β) :
    (if c then a else b) >>= k = if c then a >>= k else b >>= k := by
  split <;> rfl

/-! ### which flags of a `Variant` go together: `isV2` is guarV2 and means vesting; vesting, a lock and NFTs
    exclude one another -/

theorem isV2_iff (v : Variant) : v.isV2 = true ↔ v = .guarV2 := by
  cases v <;> simp [Variant.isV2]

theorem vested_of_isV2 {v : Variant} (h : v.isV2 = true) : v.vested = true := by
  cases v <;> simp_all [Variant.isV2, Variant.vested]

theorem rc_vested_flags {v : Variant} (h : v.vested = true) : v.hasNft = false ∧ v.hasLock = false := by
  cases v <;> first | exact ⟨rfl, rfl⟩ | cases h

theorem hasNft_flags {v : Variant} (h : v.hasNft = true) : v.hasLock = false ∧ v.vested = false := by
  cases v <;> first | exact ⟨rfl, rfl⟩ | cases h

theorem lk_hasLock_flags {v : Variant} (h : v.hasLock = true) :
    v.vested = false ∧ v.hasNft = false ∧ (v = .locked ∨ v = .lockedGuar) := by
  cases v <;> simp_all [Variant.hasLock, Variant.hasNft, Variant.vested]

end LP
