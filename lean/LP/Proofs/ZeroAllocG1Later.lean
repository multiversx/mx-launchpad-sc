import LP.Proofs.ReachG1
import LP.Proofs.ZeroAllocG1Full
/-
  What LP/Props/C01zeroG1more.lean needs, besides the `zh_Inv_*` lemmas of LP/Proofs/ZeroAllocG1Full.lean,
  to prove at `g1_ReachFull` / `g1_ReachFullA` the theorems of LP/Props/C01reachG1.lean that
  LP/Props/C01zeroG1full.lean does not have: `setSchedule1` stated on the facts that both `g1_WF` and
  `zh_Inv` provide (the owner's withdrawal is `claimPayment_vested`, LP/Proofs/VestFam.lean); the static
  facts of `g1_WF` that hold on the REAL state and the frame after completion restated from them (prefix
  `zi_`), and `g1_Later` without `v1_CallOK` (`g1_LaterFull`).
-/
namespace LP
open LP.FY LP.Events

/-- An accepted `setSchedule1` comes before the confirmation period or finds no schedule.  Before
    the confirmation period the filter has not started and nobody has a vesting record; without a
    schedule the released percentage is `0`, and `userClaimed` is exactly the released amount. -/
theorem g1_setSchedule1_effect {hash : List Nat → List Nat} {s s' : State} {e : Env} {o : Out}
    {a b c d f r : Nat} (hr : r ≤ e.round)
    (htl : s.flags.started = true → s.cfg.conf ≤ r)
    (hfresh : s.flags.started = false → ∀ u, s.userClaimed u = 0)
    (hex : ∀ u, claimedExactly1 s u r)
    (hs : step hash s e (.setSchedule1 a b c d f) = .ok (s', o)) :
    (∀ u, s.userClaimed u = 0) ∧ s'.sched1 = some ⟨a, b, c, d, f⟩ ∧
    validSched1 ⟨a, b, c, d, f⟩ := by
  have hval : validSched1 ⟨a, b, c, d, f⟩ := by
    obtain ⟨t, hx, _⟩ := step_np rfl hs
    simp only [exec, bind_ok_iff, pure_ok_iff] at hx
    obtain ⟨s1, h1, _⟩ := hx
    obtain ⟨_, _, hv1, hv2, _⟩ := (setSchedule1_eq_ok ..).1 h1
    exact ⟨hv1, hv2⟩
  refine ⟨fun u => ?_, by rw [setSchedule1_sched1 hs], hval⟩
  rcases LP.Props.C06.schedule1_gate hash s e a b c d f (s', o) hs with hlt | hnone
  · have hns : s.flags.started = false := by
      cases hq : s.flags.started with
      | false => rfl
      | true => have := htl hq; omega
    exact hfresh hns u
  · rcases hex u with h0 | ⟨r', _, h0⟩
    · exact h0
    · have h0' : s.userClaimed u = entitled (s.userTotal u) (pct1 r' s.sched1) := h0
      rw [h0', hnone]
      simp [pct1, entitled]

end LP

/-! ### the static facts on the REAL state, the frame after completion, `g1_LaterFull` -/
namespace LP
open LP.FY LP.Events

theorem zi_static {T0 : Nat} {s : State} {r : Nat} (h : zh_Inv T0 s r) :
    s.variant = .guarV1 ∧ s.payTok ≠ .esdt s.lpTok ∧
    (s.flags.started = true → s.cfg.conf ≤ r ∧ s.cfg.sel ≤ r) := by
  rcases h with h | ⟨_, z, hz, hsim⟩
  · obtain ⟨U, BU, N, TG, hwf, _⟩ := h.sh
    exact ⟨hwf.var, hwf.tokNe, fun hst => by rw [h.ns] at hst; cases hst⟩
  · have hv := hz.var
    have ht := hz.tokNe
    have hl := hz.tlStarted
    obtain ⟨w, rfl⟩ := hsim.shape'
    exact ⟨hv, ht, hl⟩

theorem zi_done_facts {T0 : Nat} {s : State} {r : Nat} (h : zh_Inv T0 s r) (hd : AllDone s) :
    s.flags.started = true ∧ s.flags.filtered = true := by
  obtain ⟨z, hz, hsim, hdz⟩ := zh_Inv_done h hd
  have hD := v1_phase_D hz.phase hdz.2
  have hfl : z.flags = s.flags := hsim.fields.2.1
  exact ⟨by rw [← hfl]; exact hD.started, by rw [← hfl]; exact hD.filtered⟩

/-- once every selection step is complete only `claimPayment` moves the recorded proceeds and only
    `claim` the vesting records, from the facts of `g1_WF` that hold on the real state -/
theorem zi_done_frame {hash : List Nat → List Nat} {s s' : State} {e : Env} {c : Call}
    {o : Out} {r : Nat} (hvar : s.variant = .guarV1) (htok : s.payTok ≠ .esdt s.lpTok)
    (hc1 : s.cfg.conf ≤ r) (hc2 : s.cfg.sel ≤ r) (hfil : s.flags.filtered = true)
    (hr : r ≤ e.round) (hd : AllDone s)
    (hs : step hash s e c = .ok (s', o)) :
    s'.price = s.price ∧ s'.flags = s.flags ∧
    (s'.claimablePayment = s.claimablePayment ∨ (c = .claimPayment ∧ s'.claimablePayment = 0)) ∧
    (c ≠ .claim → s'.userTotal = s.userTotal ∧ s'.userClaimed = s.userClaimed ∧
      s'.claimed = s.claimed) := by
  have hex : c.exposedIn .guarV1 = true := hvar ▸ step_exposed hs
  have hnotAdd : s.stage e ≠ .addTickets := fun hh => by have := rb_stage_addTickets hh; omega
  have hnotConf : s.stage e ≠ .confirm := fun hh => by have := (rb_stage_confirm hh).2; omega
  cases c with
  | addTicketsV1 l =>
    exact absurd (LP.Props.C06.alloc_only_in_addTickets hash s e _ _ (Or.inr (Or.inl ⟨l, rfl⟩)) hs) hnotAdd
  | setTicketPrice tok a =>
    exact absurd (LP.Props.C06.terms_only_in_addTickets hash s e _ _ (Or.inl ⟨tok, a, rfl⟩) hs) hnotAdd
  | setPerTicket a =>
    exact absurd (LP.Props.C06.terms_only_in_addTickets hash s e _ _ (Or.inr (Or.inl ⟨a, rfl⟩)) hs) hnotAdd
  | confirm n =>
    exact absurd (LP.Props.C06.confirm_only_in_confirm hash s e _ _ (Or.inl ⟨n, rfl⟩) hs) hnotConf
  | blacklist l =>
    rcases LP.Props.C06.blacklist_only_before_selection hash s e _ _ (Or.inl ⟨l, rfl⟩) hs with hh | hh
    · exact absurd hh hnotAdd
    · exact absurd hh hnotConf
  | unblacklist l =>
    rcases LP.Props.C06.blacklist_only_before_selection hash s e _ _ (Or.inr (Or.inr ⟨l, rfl⟩)) hs with hh | hh
    · exact absurd hh hnotAdd
    · exact absurd hh hnotConf
  | filter =>
    have := (LP.Props.C06.filter_gate hash s e _ hs).2
    rw [hfil] at this; cases this
  | select =>
    have := (LP.Props.C06.select_gate hash s e _ hs).2.2
    rw [hd.1] at this; cases this
  | distribute =>
    exfalso
    obtain ⟨t, hx, _, _⟩ := step_np_out rfl hs
    simp only [exec] at hx
    have := (distribute_ok_cases hash _ t e hx).1.notDone
    have h2 : s.flags.additional = true := hd.2
    simp only [rbTx] at this
    rw [h2] at this; cases this
  | setConfStart x =>
    obtain ⟨t, hx, rfl⟩ := step_np rfl hs
    have := (exec_setConfStart_s hx).2.1
    have : e.round < s.cfg.conf := this
    omega
  | setSelStart x =>
    obtain ⟨t, hx, rfl⟩ := step_np rfl hs
    have := (exec_setSelStart_s hx).2.1
    have : e.round < s.cfg.sel := this
    omega
  | setClaimStart x =>
    obtain ⟨t, hx, rfl⟩ := step_np rfl hs
    rw [(exec_setClaimStart_s hx).1]
    exact ⟨rfl, rfl, Or.inl rfl, fun _ => ⟨rfl, rfl, rfl⟩⟩
  | setSupport a =>
    obtain ⟨t, hx, rfl⟩ := step_np rfl hs
    simp only [exec, pure_ok_iff] at hx
    subst hx
    exact ⟨rfl, rfl, Or.inl rfl, fun _ => ⟨rfl, rfl, rfl⟩⟩
  | pause =>
    obtain ⟨t, hx, rfl⟩ := step_np rfl hs
    simp only [exec, pure_ok_iff] at hx
    subst hx
    exact ⟨rfl, rfl, Or.inl rfl, fun _ => ⟨rfl, rfl, rfl⟩⟩
  | unpause =>
    obtain ⟨t, hx, rfl⟩ := step_np rfl hs
    simp only [exec, pure_ok_iff] at hx
    subst hx
    exact ⟨rfl, rfl, Or.inl rfl, fun _ => ⟨rfl, rfl, rfl⟩⟩
  | deposit =>
    obtain ⟨m, t, _, _, _, hx, rfl, _⟩ := step_ok_inv hs
    rw [(exec_deposit_s hx).2]
    exact ⟨rfl, rfl, Or.inl rfl, fun _ => ⟨rfl, rfl, rfl⟩⟩
  | setSchedule1 a b c d f =>
    rw [setSchedule1_sched1 hs]
    exact ⟨rfl, rfl, Or.inl rfl, fun _ => ⟨rfl, rfl, rfl⟩⟩
  | claim =>
    obtain ⟨t, hx, rfl⟩ := step_np rfl hs
    obtain ⟨hvest, _, hv2, _⟩ := g1_flags hvar
    simp only [exec, rbTx_s, hvest, if_true] at hx
    obtain ⟨t1, c, h1, _, hts, _⟩ := g1_claimVested_state hv2 hx
    rcases v2_claimSettle_state h1 with ⟨_, rfl⟩ | ⟨_, _, rg, B, _, _, ht1, _⟩
    · rw [hts]; exact ⟨rfl, rfl, Or.inl rfl, fun hc => absurd rfl hc⟩
    · rw [hts, ht1]; exact ⟨rfl, rfl, Or.inl rfl, fun hc => absurd rfl hc⟩
  | claimPayment =>
    obtain ⟨t, hx, rfl⟩ := step_np rfl hs
    obtain ⟨hvest, _, hv2, _⟩ := g1_flags hvar
    obtain ⟨_, _, _, hts⟩ := v2_claimPaymentOwn_state hvest htok hx
    rw [hts]
    exact ⟨rfl, rfl, Or.inr ⟨rfl, rfl⟩, fun _ => ⟨rfl, rfl, rfl⟩⟩
  | _ => exact (Bool.false_ne_true hex).elim

/-- `g1_Later` without the premise `v1_CallOK c` -/
inductive g1_LaterFull (hash : List Nat → List Nat) (s : State) (r : Nat) : State → Nat → Prop
  | refl : g1_LaterFull hash s r s r
  | call (s1 : State) (r1 : Nat) (e : Env) (c : Call) (s2 : State) (o : Out) :
      g1_LaterFull hash s r s1 r1 → r1 ≤ e.round → EnvOK e →
      step hash s1 e c = .ok (s2, o) → g1_LaterFull hash s r s2 e.round
  | wait (s1 : State) (r1 r2 : Nat) : g1_LaterFull hash s r s1 r1 → r1 ≤ r2 → g1_LaterFull hash s r s1 r2

theorem g1_laterFull_iff {hash : List Nat → List Nat} {s s2 : State} {r r2 : Nat} :
    g1_LaterFull hash s r s2 r2 ↔ be_Later (be_OK fun _ => True) hash s r s2 r2 := by
  constructor <;> intro h
  · induction h with
    | refl => exact .refl
    | call s1 r1 e c s2 o _ h1 h2 h3 ih => exact .call s1 r1 e c s2 o ih h1 ⟨h2, trivial⟩ h3
    | wait s1 r1 r2 _ h1 ih => exact .wait s1 r1 r2 ih h1
  · exact h.closed (fun s1 r1 e c s2 o ih h1 h2 h3 => .call s1 r1 e c s2 o ih h1 h2.1 h3)
      (fun s1 r1 r2 ih h1 => .wait s1 r1 r2 ih h1) .refl

theorem g1_Later.toFull {hash : List Nat → List Nat} {s : State} {r : Nat} {s2 : State} {r2 : Nat}
    (hl : g1_Later hash s r s2 r2) : g1_LaterFull hash s r s2 r2 :=
  g1_laterFull_iff.mpr ((g1_later_iff.mp hl).weaken fun _ _ h => ⟨h.1, trivial⟩)
theorem g1_LaterFull.reach {hash : List Nat → List Nat} {a0 : InitArgs} {s : State} {r : Nat}
    (h : g1_ReachFullA hash a0 s r) {s2 : State} {r2 : Nat} (hl : g1_LaterFull hash s r s2 r2) :
    g1_ReachFullA hash a0 s2 r2 ∧ r ≤ r2 :=
  ⟨g1_reachFullA_iff_later.mpr ((g1_reachFullA_iff_later.mp h).later (g1_laterFull_iff.mp hl)),
    (g1_laterFull_iff.mp hl).round_le⟩
end LP

#print axioms LP.zi_done_frame
