import LP.Proofs.ZeroAllocSim
import LP.Props.C01reachV1
import LP.Proofs.ReachBEGen
/-
  Zero-size allocations before the first `filter` call, for every family with the v1
  guaranteed-ticket hooks (`PAFam`: `v1_WF`, `g1_WF`, `ng_WF`; the `zv_` names of this file serve all
  three, those of LP/Proofs/ZeroAllocV1.lean `migration` / `lockedGuar` alone).  After that call the real state is related to its erasure and takes the steps of
  LP/Proofs/ZeroAllocSim.lean (LP/Proofs/ZeroAllocV1.lean).  A zero-size entry `(a, 0, 0, m)` of
  `addTicketsV1` creates the empty range `[f, f-1]`, a zero-size batch, a record `uts a` and, when
  `m = true`, a whitelist entry that moves one ticket of the reserve.  No state satisfying the
  family's invariant looks like that (there a live record belongs to a holder of a non-empty
  range), so the real state `s` is compared with a SHADOW `zv_sh s U BU N TG` that satisfies it and
  carries NO guarantee at all (`PAof`).  The shadow takes REAL steps: `addTicketsV1 l` is matched by
  `addTicketsV1 (zv_lst l)`, `blacklist l` / `unblacklist l` by the same call on the holders of a
  non-empty range, everything else by itself.  The shadow supplies the ticket-space and ledger part
  of the invariant; the reserve part is `GuarInvX s` on the REAL state (C12).  The last two parts: what
  both phases give on the real state (`zv_phase_ledger`, `zv_phase_reserve`), and the erasure `zv_z s`
  that takes the first `filter` call (`zv_ZSim_z`; the call itself is `v1_filter_first`,
  LP/Proofs/ReachV1.lean).
-/
namespace LP
open LP.FY LP.Events

/-! ### the overwrite of the guarantee bookkeeping, `zv_g`, and the endpoints that commute with it -/

def zv_g (s : State) (W : List Nat) (U BU : Nat → Option UTS) (N TG : Nat) : State :=
  { s with whitelist := W, uts := U, blUts := BU, nrWinning := N, totalGuaranteed := TG }

def zv_gt (t : Tx) (W : List Nat) (U BU : Nat → Option UTS) (N TG : Nat) : Tx :=
  { t with s := zv_g t.s W U BU N TG }

theorem zv_g_self (s : State) :
    zv_g s s.whitelist s.uts s.blUts s.nrWinning s.totalGuaranteed = s := rfl

section
variable {W : List Nat} {U BU : Nat → Option UTS} {N TG : Nat}

theorem zv_send_g (t : Tx) (a : Nat) (p : Pay) :
    (zv_gt t W U BU N TG).send a p = mapR (zv_gt · W U BU N TG) (t.send a p) := by
  unfold Tx.send
  by_cases h : t.s.bal p.tok p.nonce < p.amount
  · have h' : (zv_gt t W U BU N TG).s.bal p.tok p.nonce < p.amount := h
    rw [if_pos h, if_pos h']; rfl
  · have h' : ¬ (zv_gt t W U BU N TG).s.bal p.tok p.nonce < p.amount := h
    rw [if_neg h, if_neg h']; rfl

theorem zv_refund_g (t : Tx) (e : Env) (a n : Nat) :
    (zv_gt t W U BU N TG).refund e a n = mapR (zv_gt · W U BU N TG) (t.refund e a n) := by
  unfold Tx.refund
  by_cases hn : n = 0
  · rw [if_pos hn, if_pos hn]; rfl
  · rw [if_neg hn, if_neg hn]
    simp only [mapR_bind]
    refine bind_eq_bind_of_mapR (zv_gt · W U BU N TG) ?_ ?_
    · rhs_exact zv_send_g _ _ _
    · intro t1; rfl

/-- the endpoints that neither read nor write the guaranteed-ticket bookkeeping (the deposit
    reads only the sum `nrWinning + totalGuaranteed`) -/
def zv_gindep : Call → Bool
  | .deposit | .setTicketPrice _ _ | .setPerTicket _ | .setConfStart _ | .setSelStart _
  | .setClaimStart _ | .setSupport _ | .pause | .unpause | .setSchedule1 .. | .confirmNft
  | .setNftCost _ | .sftSetup => true
  | _ => false

/-- peel the common guards off an equation `X (zv_gt t …) = mapR (zv_gt · …) (X t)` -/
macro "z_peel" : tactic => `(tactic|
  (simp only [mapR_bind, bind_assoc, pure_bind]
   repeat' (first | rfl | (refine bind_congr_fun ?_; intro _) | ite_both)))

theorem zv_confirmNft_g (s : State) (e : Env) :
    confirmNft (zv_g s W U BU N TG) e = mapR (zv_g · W U BU N TG) (confirmNft s e) := by
  unfold confirmNft
  z_peel

theorem zv_exec_g (hash : List Nat → List Nat) (t : Tx) (e : Env) (c : Call)
    (hc : zv_gindep c = true) (hg : t.s.variant.hasGuaranteed = true)
    (hsum : N + TG = t.s.nrWinning + t.s.totalGuaranteed) :
    exec hash (zv_gt t W U BU N TG) e c = mapR (zv_gt · W U BU N TG) (exec hash t e c) := by
  cases c with
  | deposit =>
    have hd : (zv_gt t W U BU N TG).s.nrWinning + reservedForDeposit (zv_gt t W U BU N TG).s
        = t.s.nrWinning + reservedForDeposit t.s := by
      unfold reservedForDeposit
      have hg' : (zv_gt t W U BU N TG).s.variant.hasGuaranteed = true := hg
      rw [hg, hg']
      exact hsum
    simp only [exec]
    rw [hd]
    simp only [depositLaunchpadTokens]
    z_peel
  | setTicketPrice tok a =>
    simp only [exec, trySetTicketPrice]
    z_peel
  | setPerTicket a => simp only [exec]; z_peel
  | setConfStart x => simp only [exec, validTimelineChange]; z_peel
  | setSelStart x => simp only [exec, validTimelineChange]; z_peel
  | setClaimStart x => simp only [exec, validTimelineChange]; z_peel
  | setSupport a => rfl
  | pause => rfl
  | unpause => rfl
  | setSchedule1 a b c d f => simp only [exec, setSchedule1]; z_peel
  | confirmNft =>
    simp only [exec]
    show (confirmNft (zv_g t.s W U BU N TG) e >>= _) = _
    rw [zv_confirmNft_g]
    cases confirmNft t.s e <;> rfl
  | setNftCost c => simp only [exec, validCost]; z_peel
  | sftSetup => rfl
  | _ => simp [zv_gindep] at hc

end

/-! ### the shadow `zv_sh` and the invariant `PAof` before the first `filter` call -/

/-- blacklist flags of the shadow: only holders of a non-empty range -/
def zv_K (R : Nat → Option Range) (bl : Nat → Bool) : Nat → Bool :=
  fun a => bl a && (z_eraseR R a).isSome

def zv_sh (s : State) (U BU : Nat → Option UTS) (N TG : Nat) : State :=
  zv_g (z_w s (z_eraseR s.range) (z_eraseB s.batch) (zv_K s.range s.blacklist) s.claimed) [] U BU N TG

/-- what the phase before the first `filter` call uses of a family's invariant `WF` -/
structure PAFam where
  WF : Nat → State → Nat → Prop
  call_WF : ∀ {T0 : Nat} {hash : List Nat → List Nat} {s s' : State} {e : Env} {c : Call} {o : Out}
    {r : Nat}, WF T0 s r → r ≤ e.round → EnvOK e → v1_CallOK c → step hash s e c = .ok (s', o) →
    WF T0 s' e.round
  wait_WF : ∀ {T0 : Nat} {s : State} {r r' : Nat}, WF T0 s r → r ≤ r' → WF T0 s r'
  flags : ∀ {T0 : Nat} {s : State} {r : Nat}, WF T0 s r →
    s.variant.isV2 = false ∧ s.variant.v1Alloc = true ∧ s.variant.hasGuaranteed = true
  minConf : ∀ {T0 : Nat} {s : State} {r : Nat}, WF T0 s r → 0 < s.minConfirmed
  sum : ∀ {T0 : Nat} {s : State} {r : Nat}, WF T0 s r → s.flags.started = false →
    s.nrWinning + s.totalGuaranteed = T0
  noConf : ∀ {T0 : Nat} {s : State} {r : Nat}, WF T0 s r → s.flags.started = false →
    ∀ a, s.range a = none → s.confirmed a = 0
  noPay : ∀ {T0 : Nat} {s : State} {r : Nat}, WF T0 s r → s.flags.started = false →
    s.variant.hasNft = true → ∀ a, s.range a = none → a ∉ s.payers

/-- the invariant before the first `filter` call (`zv_PA`, `zh_PA`, `zk_PA` are this for `v1PA`, `g1PA`,
    `ngPA`: `zv_PA_iff`, `zh_PA_iff`, `zk_PA_iff`): some shadow
    satisfies the family's invariant, the reserve invariant of C12 holds on the REAL state, the
    reserve is conserved, only zero-size batches dangle above `lastTicketId` -/
structure PAof (W : PAFam) (T0 : Nat) (s : State) (r : Nat) : Prop where
  sh : ∃ U BU N TG, W.WF T0 (zv_sh s U BU N TG) r ∧
    (∀ u, (z_eraseR s.range u).isSome = true → (U u).isSome = true)
  gx : GuarInvX s
  sum : s.nrWinning + s.totalGuaranteed = T0
  hd : z_Hd s
  ns : s.flags.started = false

/-! ### the calls that touch no guarantee bookkeeping, and `confirm` -/

theorem zv_notStarted_facts {T0 : Nat} {c : Core} {g : v1_G} {L0 : List (Nat × Nat)}
    (htg : g.tg ≤ T0) (hp : Pre (T0 - g.tg) c L0) (hA : PhA c L0) :
    c.nrWinning + g.tg = T0 ∧ ∀ a, c.range a = none → c.confirmed a = 0 := by
  refine ⟨?_, fun a ha => z_PhA_noRange_noConf hp hA ha⟩
  have h1 : c.nrWinning = T0 - g.tg := hp.nrw
  omega

theorem zv_step_g_frame {hash : List Nat → List Nat} {s s' : State} {e : Env} {c : Call} {o : Out}
    (hc : zv_gindep c = true) (hg : s.variant.hasGuaranteed = true)
    (h : step hash s e c = .ok (s', o)) :
    s'.whitelist = s.whitelist ∧ s'.uts = s.uts ∧ s'.blUts = s.blUts ∧
    s'.nrWinning = s.nrWinning ∧ s'.totalGuaranteed = s.totalGuaranteed := by
  obtain ⟨m, t, _, _, _, hx, rfl, rfl⟩ := step_ok_inv h
  have h2 := zv_exec_g (W := s.whitelist) (U := s.uts) (BU := s.blUts) (N := s.nrWinning)
    (TG := s.totalGuaranteed) hash (tx0 s e) e c hc hg rfl
  have h3 : zv_gt (tx0 s e) s.whitelist s.uts s.blUts s.nrWinning s.totalGuaranteed = tx0 s e := rfl
  rw [h3, hx] at h2
  have h4 : t = zv_gt t s.whitelist s.uts s.blUts s.nrWinning s.totalGuaranteed := by
    injection h2
  refine ⟨?_, ?_, ?_, ?_, ?_⟩
  · exact (congrArg (fun x => x.s.whitelist) h4).trans rfl
  · exact (congrArg (fun x => x.s.uts) h4).trans rfl
  · exact (congrArg (fun x => x.s.blUts) h4).trans rfl
  · exact (congrArg (fun x => x.s.nrWinning) h4).trans rfl
  · exact (congrArg (fun x => x.s.totalGuaranteed) h4).trans rfl

theorem zv_gindep_z {c : Call} (h : zv_gindep c = true) : ov_indep c = true := by
  cases c <;> first | rfl | (simp [zv_gindep] at h)

theorem zv_gindep_CallOK {c : Call} (h : zv_gindep c = true) : v1_CallOK c := by
  cases c <;> first | trivial | (simp [zv_gindep] at h)

theorem PAof_indep {W : PAFam} {T0 : Nat} {hash : List Nat → List Nat} {s s' : State} {e : Env}
    {c : Call} {o : Out} {r : Nat} (hc : zv_gindep c = true) (h : PAof W T0 s r) (hr : r ≤ e.round)
    (hok : EnvOK e) (hs : step hash s e c = .ok (s', o)) : PAof W T0 s' e.round := by
  obtain ⟨U, BU, N, TG, hwf, hU⟩ := h.sh
  have f5 : s.variant.hasGuaranteed = true := (W.flags hwf).2.2
  obtain ⟨g1, g2, g3, g4, _⟩ := step_ov_fields (zv_gindep_z hc) hs
  obtain ⟨k1, k2, k3, k4, k5⟩ := zv_step_g_frame hc f5 hs
  have hvar' : s'.variant = s.variant := step_variant hs
  have hfl : s'.flags = s.flags := step_flags_eq hs (by cases c <;> first | rfl | (simp [zv_gindep] at hc))
  have htk : s'.tk = s.tk :=
    z_step_tk hs (by cases c <;> first | rfl | (simp [zv_gindep] at hc))
  have hd' := z_Hd_keep hs htk (fun _ => h.hd) (by rw [hfl]; exact h.ns)
  obtain ⟨m, t, hm, hpay, hown, hx, rfl, rfl⟩ := step_ok_inv hs
  have hsum : N + TG = T0 := W.sum hwf h.ns
  have hx2 : exec hash (tx0 (zv_sh s U BU N TG) e) e c
      = .ok (zv_gt (z_wt t (z_eraseR s.range) (z_eraseB s.batch) (zv_K s.range s.blacklist) s.claimed)
          [] U BU N TG) := by
    have e1 : tx0 (zv_sh s U BU N TG) e
        = zv_gt (z_wt (tx0 s e) (z_eraseR s.range) (z_eraseB s.batch) (zv_K s.range s.blacklist) s.claimed)
            [] U BU N TG := rfl
    rw [e1, zv_exec_g hash _ e c hc (by exact f5) (by
      show N + TG = s.nrWinning + s.totalGuaranteed
      rw [hsum, h.sum]), z_exec_indep hash _ e c (zv_gindep_z hc), hx]
    rfl
  have hstep := z_step_intro (s := zv_sh s U BU N TG) (by exact hm) hpay (by exact hown) hx2
  have hsh : (zv_gt (z_wt t (z_eraseR s.range) (z_eraseB s.batch) (zv_K s.range s.blacklist) s.claimed)
      [] U BU N TG).s = zv_sh t.s U BU N TG := by
    show zv_g (z_w t.s _ _ _ _) [] U BU N TG = zv_g (z_w t.s _ _ _ _) [] U BU N TG
    rw [g1, g2, g3, g4]
  rw [hsh] at hstep
  have hwf' := W.call_WF hwf hr hok (zv_gindep_CallOK hc) hstep
  refine ⟨⟨U, BU, N, TG, hwf', ?_⟩, ?_, ?_, hd', by rw [hfl]; exact h.ns⟩
  · intro u hu; rw [g1] at hu; exact hU u hu
  · exact GuarInvX_of_GEq ⟨k1, k2, k3, g1, k4, k5, hvar'⟩ g3 h.gx
  · rw [k4, k5]; exact h.sum

/-- the caller holds a non-empty range, or none and confirms zero tickets -/
theorem PAof_confirm {W : PAFam} {T0 : Nat} {hash : List Nat → List Nat} {s s' : State} {e : Env}
    {n : Nat} {o : Out} {r : Nat} (h : PAof W T0 s r) (hr : r ≤ e.round)
    (hok : EnvOK e) (hs : step hash s e (.confirm n) = .ok (s', o)) : PAof W T0 s' e.round := by
  obtain ⟨U, BU, N, TG, hwf, hU⟩ := h.sh
  obtain ⟨m, t, hm, hpay, hown, hx, rfl, rfl⟩ := step_ok_inv hs
  simp only [exec] at hx
  obtain ⟨total, ⟨a1, a2, a3, a4, a5, a6, a7⟩, _⟩ := (LP.Props.C07.confirmTickets_ok_iff _ e n t).mp hx
  obtain ⟨ev, rfl⟩ := confirmTickets_fp hx
  have a5' : s.blacklist e.caller = false := a5
  have hk : zv_K s.range s.blacklist e.caller = false := by simp [zv_K, a5']
  obtain ⟨Y, hx2⟩ : ∃ Y, exec hash (tx0 (zv_sh s U BU N TG) e) e (.confirm n) = .ok Y :=
    ⟨_, (LP.Props.C07.confirmTickets_ok_iff _ e n _).mpr
      ⟨total, ⟨a1, a2, a3, a4, hk, z_ticketsFor rfl a6, a7⟩, rfl⟩⟩
  have hstep := z_step_intro (s := zv_sh s U BU N TG) (by exact hm) hpay (by exact hown) hx2
  obtain ⟨ev', rfl⟩ := confirmTickets_fp hx2
  have hwf' := W.call_WF (c := .confirm n) hwf hr hok trivial hstep
  refine ⟨⟨U, BU, N, TG, hwf', hU⟩, ?_, h.sum, ?_, h.ns⟩
  · exact GuarInvX_of_GEq (s := s) ⟨rfl, rfl, rfl, rfl, rfl, rfl, rfl⟩ rfl h.gx
  · intro i b hi hb
    exact h.hd i b hi hb

/-! ### `addTicketsV1`: the shadow takes the entries that create a non-empty range -/

def zv_y (s : State) (K C : Nat → Bool) (U BU : Nat → Option UTS) (N TG : Nat) : State :=
  zv_g (z_w s (z_eraseR s.range) (z_eraseB s.batch) K C) [] U BU N TG

def zv_lst (l : List (Nat × Nat × Nat × Bool)) : List (Nat × Nat × Nat × Bool) :=
  (l.filter (fun q => decide (1 ≤ q.2.1 + q.2.2.1))).map (fun q => (q.1, 0, q.2.1 + q.2.2.1, false))

theorem zv_lst_CallOK (l : List (Nat × Nat × Nat × Bool)) : v1_CallOK (.addTicketsV1 (zv_lst l)) := by
  intro q hq
  obtain ⟨q0, hq0, rfl⟩ := List.mem_map.mp hq
  have := of_decide_eq_true (List.mem_filter.mp hq0).2
  show 1 ≤ 0 + (q0.2.1 + q0.2.2.1)
  omega

theorem zv_alloc_pos (s : State) (b n : Nat) (hn : 1 ≤ n) :
    z_eraseR (allocState s b n).range
      = upd (z_eraseR s.range) b (some ⟨s.lastTicketId + 1, s.lastTicketId + n⟩) ∧
    z_eraseB (allocState s b n).batch
      = upd (z_eraseB s.batch) (s.lastTicketId + 1) (some ⟨b, n⟩) :=
  ⟨z_eraseR_upd_ne _ _ _ (by show s.lastTicketId + 1 ≤ s.lastTicketId + n; omega),
   z_eraseB_upd_pos _ _ _ (by show n ≠ 0; omega)⟩

theorem zv_alloc_Hd (s : State) (b n : Nat) (hd : z_Hd s) : z_Hd (allocState s b n) := by
  intro i bt hi hb
  have hi' : s.lastTicketId + n < i := hi
  have hb' : upd s.batch (s.lastTicketId + 1) (some ⟨b, n⟩) i = some bt := hb
  by_cases hx : i = s.lastTicketId + 1
  · rw [hx, upd_same] at hb'
    injection hb' with hb'
    rw [← hb']
    show n = 0
    omega
  · rw [upd_other _ _ _ _ hx] at hb'
    exact hd i bt (by omega) hb'

theorem zv_alloc_zero (s : State) (b : Nat) (hr : s.range b = none) (hd : z_Hd s) :
    z_eraseR (allocState s b 0).range = z_eraseR s.range ∧
    z_eraseB (allocState s b 0).batch = z_eraseB s.batch := by
  exact z_erase_alloc_zero (l := s.lastTicketId + 0) hr hd (by omega)

theorem zv_addV1Many_cons_y (Y : State) (b n : Nat) (rest : List (Nat × Nat × Nat × Bool))
    (tw tg : Nat) (hr : Y.range b = none) (hb : Y.lastTicketId + 1 + n < usizeMax)
    (hm : 0 < Y.minConfirmed) :
    addV1Many ((b, 0, n, false) :: rest) (Y, tw, tg)
      = addV1Many rest ({ allocState Y b n with
          whitelist := Y.whitelist,
          uts := upd Y.uts b (some { a := 0, b := n, c := 0, d := 0 }) }, tw, tg) := by
  have hm' : ¬ (0 ≥ Y.minConfirmed) := by omega
  have hm2 : ¬ (0 ≥ (allocState Y b n).minConfirmed) := hm'
  rw [addV1Many, tryCreateTickets_eq]
  simp only [Nat.zero_add, if_pos hr, if_pos hb, hm2, decide_false, Bool.false_and,
    Bool.false_eq_true, if_false]
  rfl

theorem zv_addV1Many (K C : Nat → Bool) (BU : Nat → Option UTS) (N TG : Nat) :
    ∀ (l : List (Nat × Nat × Nat × Bool)) (s : State) (tw tg : Nat) (r : State × Nat × Nat)
      (U : Nat → Option UTS) (tw2 tg2 : Nat),
      addV1Many l (s, tw, tg) = .ok r → z_Hd s → 0 < s.minConfirmed →
      (∀ u, (z_eraseR s.range u).isSome = true → (U u).isSome = true) →
      ∃ U', addV1Many (zv_lst l) (zv_y s K C U BU N TG, tw2, tg2)
          = .ok (zv_y r.1 K C U' BU N TG, tw2, tg2) ∧ z_Hd r.1 ∧
        (∀ u, (z_eraseR r.1.range u).isSome = true → (U' u).isSome = true) := by
  intro l
  induction l with
  | nil =>
    intro s tw tg r U tw2 tg2 h hd _ hU
    simp only [addV1Many, Except.ok.injEq] at h
    subst h
    exact ⟨U, rfl, hd, hU⟩
  | cons q rest ih =>
    obtain ⟨b, st, en, mg⟩ := q
    intro s tw tg r U tw2 tg2 h hd hm hU
    obtain ⟨hr, hb, wl1, u1, tw3, tg3, h'⟩ := v1_addV1Many_cons h
    by_cases hn : 1 ≤ st + en
    · -- a real entry
      obtain ⟨e1, e2⟩ := zv_alloc_pos s b (st + en) hn
      have hstate : zv_y ({ allocState s b (st + en) with whitelist := wl1, uts := u1 }) K C
            (upd U b (some { a := 0, b := st + en, c := 0, d := 0 })) BU N TG
          = { allocState (zv_y s K C U BU N TG) b (st + en) with
              whitelist := (zv_y s K C U BU N TG).whitelist,
              uts := upd (zv_y s K C U BU N TG).uts b (some { a := 0, b := st + en, c := 0, d := 0 }) } := by
        show zv_g (z_w _ (z_eraseR (allocState s b (st + en)).range)
          (z_eraseB (allocState s b (st + en)).batch) K C) [] _ BU N TG = _
        rw [e1, e2]
        rfl
      obtain ⟨U', k1, k2, k3⟩ := ih _ tw3 tg3 r
        (upd U b (some { a := 0, b := st + en, c := 0, d := 0 })) tw2 tg2 h'
        (zv_alloc_Hd s b (st + en) hd) hm (by
          intro u hu
          by_cases hub : u = b
          · subst hub; simp
          · rw [upd_other _ _ _ _ hub]
            apply hU
            have hu' : (z_eraseR (allocState s b (st + en)).range u).isSome = true := hu
            rw [e1, upd_other _ _ _ _ hub] at hu'
            exact hu')
      refine ⟨U', ?_, k2, k3⟩
      have hl : zv_lst ((b, st, en, mg) :: rest) = (b, 0, st + en, false) :: zv_lst rest := by
        unfold zv_lst
        rw [List.filter_cons_of_pos (by simpa using hn)]
        rfl
      rw [hl, zv_addV1Many_cons_y (zv_y s K C U BU N TG) b (st + en) _ tw2 tg2 (z_eraseR_of_none hr) hb hm,
        ← hstate]
      exact k1
    · -- a zero-size entry: the shadow does not move
      have hn0 : st + en = 0 := by omega
      rw [hn0] at h'
      obtain ⟨e1, e2⟩ := zv_alloc_zero s b hr hd
      have hstate : zv_y ({ allocState s b 0 with whitelist := wl1, uts := u1 }) K C U BU N TG
          = zv_y s K C U BU N TG := by
        show zv_g (z_w _ (z_eraseR (allocState s b 0).range) (z_eraseB (allocState s b 0).batch) K C)
          [] _ BU N TG = _
        rw [e1, e2]
        rfl
      obtain ⟨U', k1, k2, k3⟩ := ih _ tw3 tg3 r U tw2 tg2 h' (zv_alloc_Hd s b 0 hd) hm (by
        intro u hu
        apply hU
        have hu' : (z_eraseR (allocState s b 0).range u).isSome = true := hu
        rw [e1] at hu'
        exact hu')
      refine ⟨U', ?_, k2, k3⟩
      have hl : zv_lst ((b, st, en, mg) :: rest) = zv_lst rest := by
        unfold zv_lst
        rw [List.filter_cons_of_neg (by simpa using hn)]
      rw [hl, ← hstate]
      exact k1

theorem PAof_add {W : PAFam} {T0 : Nat} {hash : List Nat → List Nat} {s s' : State} {e : Env}
    {l : List (Nat × Nat × Nat × Bool)} {o : Out} {r : Nat} (h : PAof W T0 s r) (hr : r ≤ e.round)
    (hok : EnvOK e) (hs : step hash s e (.addTicketsV1 l) = .ok (s', o)) : PAof W T0 s' e.round := by
  obtain ⟨U, BU, N, TG, hwf, hU⟩ := h.sh
  obtain ⟨hsum', hgx', _⟩ := step_guar_ok (c := .addTicketsV1 l) rfl h.gx hs
  have hfl : s'.flags = s.flags := step_flags_eq hs rfl
  obtain ⟨m, t, hm, hpay, hown, hx, rfl, rfl⟩ := step_ok_inv hs
  simp only [exec, bind_ok_iff, pure_ok_iff] at hx
  obtain ⟨s1, hat, rfl⟩ := hx
  unfold addTicketsV1 at hat
  simp only [bind_ok_iff, pure_ok_iff, requireStage, req_ok_iff, exists_const, Prod.exists] at hat
  obtain ⟨hst, sA, tw, tg, hmany, rfl⟩ := hat
  have hmc : 0 < (zv_sh s U BU N TG).minConfirmed := W.minConf hwf
  obtain ⟨U', k1, k2, k3⟩ := zv_addV1Many (zv_K s.range s.blacklist) s.claimed BU N TG l (tx0 s e).s _ _ _
    U N TG hmany h.hd hmc hU
  obtain ⟨s0', hcm, hrg, _, _, wl, u, hsA⟩ := v1_addV1Many_sim l (tx0 s e).s (tx0 s e).s _ _ _ _ _
    rfl rfl rfl hmany
  obtain ⟨_, hnone, _, _, _, hfr, _, _⟩ := createMany_ok (v1_proj l) _ s0' hcm
  have hbl : sA.blacklist = s.blacklist := by rw [hsA]; rfl
  have hcl : sA.claimed = s.claimed := by rw [hsA]; rfl
  have hK : zv_K sA.range sA.blacklist = zv_K s.range s.blacklist := by
    funext a
    unfold zv_K
    rw [hbl]
    cases hb : s.blacklist a with
    | false => rfl
    | true =>
      have hsome := h.gx.bl_range a hb
      have hnin : a ∉ (v1_proj l).map Prod.fst := by
        intro hin
        have : s.range a = none := hnone a hin
        rw [this] at hsome; cases hsome
      have : sA.range a = s.range a := by rw [hrg]; exact hfr a hnin
      rw [z_eraseR_congr this]
  have hx2 : exec hash (tx0 (zv_sh s U BU N TG) e) e (.addTicketsV1 (zv_lst l))
      = .ok ((tx0 (zv_sh s U BU N TG) e).setS
          (zv_y sA (zv_K s.range s.blacklist) s.claimed U' BU N TG)) := by
    simp only [exec, bind_ok_iff, pure_ok_iff]
    refine ⟨_, ?_, rfl⟩
    unfold addTicketsV1
    simp only [bind_ok_iff, pure_ok_iff, requireStage, req_ok_iff, exists_const, Prod.exists]
    exact ⟨hst, _, _, _, k1, rfl⟩
  have hmz : endpointMeta (zv_sh s U BU N TG).variant (.addTicketsV1 (zv_lst l)) = some m := by
    rw [← hm]; rfl
  have hstep := z_step_intro (s := zv_sh s U BU N TG) hmz hpay (by exact hown) hx2
  have hwf' := W.call_WF hwf hr hok (zv_lst_CallOK l) hstep
  have hsh : ((tx0 (zv_sh s U BU N TG) e).setS
      (zv_y sA (zv_K s.range s.blacklist) s.claimed U' BU N TG)).s
        = zv_sh ({ sA with totalGuaranteed := tg, nrWinning := tw }) U' BU N TG := by
    show zv_y sA (zv_K s.range s.blacklist) s.claimed U' BU N TG
      = zv_y sA (zv_K sA.range sA.blacklist) sA.claimed U' BU N TG
    rw [hK, hcl]
  rw [hsh] at hwf'
  exact ⟨⟨U', BU, N, TG, hwf', k3⟩, hgx', by rw [hsum']; exact h.sum, k2, by rw [hfl]; exact h.ns⟩

/-! ### `blacklist`: the shadow takes the call on the holders of a non-empty range -/

theorem zv_sum_filter (f : Nat → Nat) (p : Nat → Bool) :
    ∀ (l : List Nat), (∀ a ∈ l, p a = false → f a = 0) → ((l.filter p).map f).sum = (l.map f).sum
  | [], _ => rfl
  | a :: rest, h => by
    have ih := zv_sum_filter f p rest (fun b hb => h b (List.mem_cons_of_mem _ hb))
    cases hp : p a with
    | true =>
      rw [List.filter_cons_of_pos (by simp [hp])]
      simp only [List.map_cons, List.sum_cons, ih]
    | false =>
      rw [List.filter_cons_of_neg (by simp [hp])]
      simp only [List.map_cons, List.sum_cons, ih, h a (List.mem_cons_self ..) hp, Nat.zero_add]

/-- with an empty whitelist the v1 clear hook does nothing -/
theorem zv_clearV1Many_nil : ∀ (l : List Nat) (s : State) (rm tg : Nat), s.whitelist = [] →
    clearV1Many l (s, rm, tg) = .ok (s, rm, tg)
  | [], s, rm, tg, _ => rfl
  | u :: rest, s, rm, tg, h => by
    have e1 : swapRemove s.whitelist u = ([], false) := by rw [h]; rfl
    have e2 : ({ s with whitelist := [] } : State) = s := by
      cases s
      simp only at h
      subst h
      rfl
    simp only [clearV1Many, e1, Bool.not_false, if_true]
    rw [e2]
    exact zv_clearV1Many_nil rest s rm tg h

theorem zv_clearGuaranteedV1_nil (s : State) (l : List Nat) (h : s.whitelist = []) :
    clearGuaranteedV1 s l = .ok s := by
  unfold clearGuaranteedV1
  rw [zv_clearV1Many_nil l s 0 s.totalGuaranteed h]
  rfl

theorem zv_blState (s : State) (l l' : List Nat) (R : Nat → Option Range) (B : Nat → Option Batch)
    (K K' C : Nat → Bool) (U BU : Nat → Option UTS) (N TG : Nat)
    (hK : K' = fun a => if a ∈ l' then true else K a)
    (hC : (fun a => if a ∈ l' then 0 else s.confirmed a) = fun a => if a ∈ l then 0 else s.confirmed a)
    (hS : blConfSum s l' = blConfSum s l) :
    blState (zv_g (z_w s R B K C) [] U BU N TG) l'
      = zv_g (z_w (blState s l) R B K' C) [] U BU N TG := by
  subst hK
  have h1 : blConfSum (zv_g (z_w s R B K C) [] U BU N TG) l' = blConfSum s l := hS
  have h2 : (fun a => if a ∈ l' then 0 else (zv_g (z_w s R B K C) [] U BU N TG).confirmed a)
      = fun a => if a ∈ l then 0 else s.confirmed a := hC
  unfold blState
  rw [h1, h2]
  rfl

theorem zv_isSome_false {α : Type} {x : Option α} (h : ¬ (x.isSome = true)) : x = none := by
  cases x with
  | none => rfl
  | some a => exact absurd rfl h

/-- the others have confirmed nothing, so the refunded sum is the same; the guaranteed-ticket hook
    finds an empty whitelist; the result is the shadow of the successor state before the NFT-fee hook -/
theorem zv_bl_shadow {s : State} {e : Env} {l l' : List Nat} (U BU : Nat → Option UTS) (N TG : Nat)
    (hl : l' = l.filter (fun a => (z_eraseR s.range a).isSome))
    (hadd1 : addUsersToBlacklist (tx0 s e) e l = .ok (blTx (tx0 s e) e l))
    (hc : ∀ a, z_eraseR s.range a = none → s.confirmed a = 0)
    (f3 : s.variant.isV2 = false) (f4 : s.variant.v1Alloc = true) :
    blConfSum (tx0 s e).s l' = blConfSum (tx0 s e).s l ∧
    addUsersToBlacklist (tx0 (zv_sh s U BU N TG) e) e l' = .ok (blTx (tx0 (zv_sh s U BU N TG) e) e l') ∧
    blHookG (blTx (tx0 (zv_sh s U BU N TG) e) e l') l' = .ok (blTx (tx0 (zv_sh s U BU N TG) e) e l') ∧
    (blTx (tx0 (zv_sh s U BU N TG) e) e l').s
      = zv_g (z_w (blState (tx0 s e).s l) (z_eraseR s.range) (z_eraseB s.batch)
          (zv_K s.range (fun a => if a ∈ l then true else s.blacklist a)) s.claimed) [] U BU N TG := by
  obtain ⟨hperm, hstage, hnd, hall, hle, _⟩ := (addUsersToBlacklist_ok_iff _ _ _ _).mp hadd1
  have hmem : ∀ a, a ∈ l' ↔ a ∈ l ∧ (z_eraseR s.range a).isSome = true := fun a => by
    rw [hl]; exact List.mem_filter
  have hS : blConfSum (tx0 s e).s l' = blConfSum (tx0 s e).s l := by
    rw [hl]
    exact zv_sum_filter s.confirmed (fun a => (z_eraseR s.range a).isSome) l
      (fun a _ hp => hc a (zv_isSome_false (by rw [hp]; simp)))
  have hC : (fun a => if a ∈ l' then 0 else (tx0 s e).s.confirmed a)
      = fun a => if a ∈ l then 0 else (tx0 s e).s.confirmed a := by
    funext a
    by_cases h1 : a ∈ l
    · by_cases h2 : (z_eraseR s.range a).isSome = true
      · rw [if_pos ((hmem a).mpr ⟨h1, h2⟩), if_pos h1]
      · rw [if_neg (fun hh => h2 ((hmem a).mp hh).2), if_pos h1]
        exact hc a (zv_isSome_false h2)
    · rw [if_neg (fun hh => h1 ((hmem a).mp hh).1), if_neg h1]
  have hK : zv_K s.range (fun a => if a ∈ l then true else s.blacklist a)
      = fun a => if a ∈ l' then true else zv_K s.range s.blacklist a := by
    funext a
    show ((if a ∈ l then true else s.blacklist a) && (z_eraseR s.range a).isSome)
      = (if a ∈ l' then true else (s.blacklist a && (z_eraseR s.range a).isSome))
    by_cases h1 : a ∈ l
    · by_cases h2 : (z_eraseR s.range a).isSome = true
      · rw [if_pos ((hmem a).mpr ⟨h1, h2⟩), if_pos h1, h2]; rfl
      · rw [if_neg (fun hh => h2 ((hmem a).mp hh).2), if_pos h1]
        have : (z_eraseR s.range a).isSome = false := by simpa using h2
        rw [this]; simp
    · rw [if_neg (fun hh => h1 ((hmem a).mp hh).1), if_neg h1]
  refine ⟨hS, ?_, ?_, zv_blState (tx0 s e).s l l' (z_eraseR s.range) (z_eraseB s.batch)
    (zv_K s.range s.blacklist) _ s.claimed U BU N TG hK hC hS⟩
  · rw [addUsersToBlacklist_ok_iff]
    refine ⟨hperm, hstage, by rw [hl]; exact hnd.filter _, ?_, ?_, rfl⟩
    · intro u hu
      obtain ⟨h1, h2⟩ := (hmem u).mp hu
      refine ⟨?_, h2⟩
      show zv_K s.range s.blacklist u = false
      have : s.blacklist u = false := (hall u h1).1
      simp [zv_K, this]
    · have : blConfSum (tx0 (zv_sh s U BU N TG) e).s l' = blConfSum (tx0 s e).s l := hS
      rw [this]
      exact hle
  · unfold blHookG
    rw [if_neg (by show ¬ (s.variant.isV2 = true); rw [f3]; simp), if_pos (by exact f4),
      zv_clearGuaranteedV1_nil _ _ rfl]
    rfl

/-- the NFT-fee hook of `blacklist` reads `payers`, `bal`, `nftCost` and writes `payers`, `bal` only -/
theorem zv_refundNftMany_reads : ∀ (l : List Nat) {t t' Y : Tx},
    refundNftMany l t = .ok t' →
    Y.s.payers = t.s.payers → Y.s.bal = t.s.bal → Y.s.nftCost = t.s.nftCost →
    ∃ Y', refundNftMany l Y = .ok Y' ∧ Y'.s.payers = t'.s.payers ∧ Y'.s.bal = t'.s.bal
  | [], t, t', Y, h, hp, hb, _ => by
    simp only [refundNftMany, Except.ok.injEq] at h
    subst h
    exact ⟨Y, rfl, hp, hb⟩
  | u :: rest, t, t', Y, h, hp, hb, hc => by
    unfold refundNftMany at h
    simp only at h
    have key : refundNftMany (u :: rest) Y
        = (if (swapRemove t.s.payers u).2 = true then
            (match (Y.setS { Y.s with payers := (swapRemove t.s.payers u).1 }).send u Y.s.nftCost with
             | .error e => .error e
             | .ok t' => refundNftMany rest t')
           else refundNftMany rest Y) := by
      rw [← hp]; rfl
    rw [key]
    by_cases hd : (swapRemove t.s.payers u).2 = true
    · rw [if_pos hd] at h
      rw [if_pos hd]
      cases hx : (t.setS { t.s with payers := (swapRemove t.s.payers u).1 }).send u t.s.nftCost with
      | error err => rw [hx] at h; cases h
      | ok t1 =>
        rw [hx] at h
        simp only at h
        rw [LP.send_ok_iff] at hx
        obtain ⟨hle, rfl⟩ := hx
        have hx' : (Y.setS { Y.s with payers := (swapRemove t.s.payers u).1 }).send u Y.s.nftCost
            = .ok (sendResult (Y.setS { Y.s with payers := (swapRemove t.s.payers u).1 }) u
                Y.s.nftCost) := by
          rw [LP.send_ok_iff]
          refine ⟨?_, rfl⟩
          show Y.s.nftCost.amount ≤ Y.s.bal Y.s.nftCost.tok Y.s.nftCost.nonce
          rw [hc, hb]; exact hle
        rw [hx']
        simp only
        exact zv_refundNftMany_reads rest
          (Y := sendResult (Y.setS { Y.s with payers := (swapRemove t.s.payers u).1 }) u Y.s.nftCost) h
          rfl (by show Y.s.bal.sub _ _ _ = t.s.bal.sub _ _ _; rw [hb, hc]) hc
    · rw [if_neg hd] at h
      rw [if_neg hd]
      exact zv_refundNftMany_reads rest h hp hb hc

/-- so the NFT-fee hook goes through on any state that agrees on `variant`, `payers`, `bal`,
    `nftCost`, and with the shorter list: addresses that never paid may be dropped
    (`zn_refundNftMany_filter`) -/
theorem zv_blHookN (good : Nat → Bool) {l : List Nat} {t t' Y : Tx} (h : blHookN t l = .ok t')
    (hg : t.s.variant.hasNft = true → ∀ a ∈ l, good a = false → a ∉ t.s.payers)
    (hv : Y.s.variant = t.s.variant) (hp : Y.s.payers = t.s.payers) (hb : Y.s.bal = t.s.bal)
    (hc : Y.s.nftCost = t.s.nftCost) :
    ∃ Y', blHookN Y (l.filter good) = .ok Y' ∧
      Y'.s = { Y.s with payers := t'.s.payers, bal := t'.s.bal } ∧
      t'.s = { t.s with payers := t'.s.payers, bal := t'.s.bal } := by
  unfold blHookN at h ⊢
  rw [hv]
  by_cases hn : t.s.variant.hasNft = true
  · rw [if_pos hn] at h ⊢
    have h' := h
    rw [zn_refundNftMany_filter good l t (hg hn)] at h'
    obtain ⟨Y', hy, hYp, hYb⟩ := zv_refundNftMany_reads (l.filter good) h' hp hb hc
    obtain ⟨⟨P, B, hs⟩, _⟩ := Events.refundNftMany_frame l _ _ h
    refine ⟨Y', hy, ?_, by rw [hs]⟩
    obtain ⟨py, bal, xf, rfl⟩ := refundNftMany_fp hy
    dsimp only at hYp hYb
    rw [hYp, hYb]
  · rw [if_neg hn] at h ⊢
    cases h
    exact ⟨Y, rfl, by rw [← hp, ← hb], rfl⟩

/-- `blacklist` before the first `filter` call: the shadow takes the call with the zero-size
    entries dropped from the list, hook by hook -/
theorem PAof_blacklist {W : PAFam} {T0 : Nat} {hash : List Nat → List Nat} {s s' : State} {e : Env}
    {l : List Nat} {o : Out} {r : Nat} (h : PAof W T0 s r)
    (hr : r ≤ e.round) (hok : EnvOK e) (hs : step hash s e (.blacklist l) = .ok (s', o)) :
    PAof W T0 s' e.round := by
  obtain ⟨U, BU, N, TG, hwf, hU⟩ := h.sh
  obtain ⟨hsum', hgx', _⟩ := step_guar_ok (c := .blacklist l) rfl h.gx hs
  have hfl : s'.flags = s.flags := step_flags_eq hs rfl
  have f3 : s.variant.isV2 = false := (W.flags hwf).1
  have f4 : s.variant.v1Alloc = true := (W.flags hwf).2.1
  obtain ⟨m, t, hm, hpay, hown, hx, rfl, rfl⟩ := step_ok_inv hs
  rw [exec_blacklist_eq] at hx
  simp only [bind_ok_iff, pure_ok_iff] at hx
  obtain ⟨t1, hadd1, t2, h2, t3, h3, ht⟩ := hx
  obtain ⟨_, _, _, _, _, rfl⟩ := (addUsersToBlacklist_ok_iff _ _ _ _).mp hadd1
  obtain ⟨_, hy1, hg, hstate⟩ := zv_bl_shadow (l := l) U BU N TG rfl hadd1 (W.noConf hwf h.ns) f3 f4
  -- the guaranteed-ticket hook writes the five fields the shadow has of its own
  obtain ⟨wl, uu, bb, nw, tg, ht2⟩ : ∃ wl uu bb nw tg, t2.s = { blState (tx0 s e).s l with
      whitelist := wl, uts := uu, blUts := bb, nrWinning := nw, totalGuaranteed := tg } := by
    unfold blHookG at h2
    rw [if_neg (by show ¬ (s.variant.isV2 = true); rw [f3]; simp), if_pos (by exact f4)] at h2
    simp only [bind_ok_iff, pure_ok_iff] at h2
    obtain ⟨s2, hs2, rfl⟩ := h2
    exact (Events.clearGuaranteedV1_frame hs2).1
  obtain ⟨Y3, hn, hY3, ht3⟩ := zv_blHookN (fun a => (z_eraseR s.range a).isSome)
    (Y := blTx (tx0 (zv_sh s U BU N TG) e) e (l.filter (fun a => (z_eraseR s.range a).isSome))) h3
    (fun hn a _ hga => by
      rw [ht2]
      exact W.noPay hwf h.ns (by rw [ht2] at hn; exact hn) a
        (show z_eraseR s.range a = none from zv_isSome_false (by rw [hga]; simp)))
    (by rw [ht2]; rfl) (by rw [hstate, ht2]; rfl) (by rw [hstate, ht2]; rfl) (by rw [ht2]; rfl)
  have he : ∀ (Y : Tx) (l' : List Nat), Y.s.variant = s.variant → blHookE Y e l' = Y := fun Y l' hv => by
    unfold blHookE
    rw [if_neg (by rw [hv, f3]; simp)]
  have hts : t.s = { t2.s with payers := t3.s.payers, bal := t3.s.bal } := by
    rw [← ht, he t3 l (by rw [ht3, ht2]; rfl)]
    exact ht3
  have hx2 : exec hash (tx0 (zv_sh s U BU N TG) e) e
      (.blacklist (l.filter (fun a => (z_eraseR s.range a).isSome))) = .ok Y3 := by
    rw [exec_blacklist_eq, hy1]
    show (blHookG _ _ >>= _) = _
    rw [hg]
    show (blHookN _ _ >>= _) = _
    rw [hn]
    show (pure (blHookE _ _ _) : Res Tx) = _
    rw [he Y3 _ (by rw [hY3]; rfl)]
    rfl
  have hmz : endpointMeta (zv_sh s U BU N TG).variant
      (.blacklist (l.filter (fun a => (z_eraseR s.range a).isSome))) = some m := by
    rw [← hm]; rfl
  have hstep := z_step_intro (s := zv_sh s U BU N TG) hmz hpay (by exact hown) hx2
  have hwf' := W.call_WF (c := .blacklist _) hwf hr hok trivial hstep
  have hsh : Y3.s = zv_sh t.s U BU N TG := by
    rw [hY3, hstate, hts, ht2]
    rfl
  rw [hsh] at hwf'
  refine ⟨⟨U, BU, N, TG, hwf', ?_⟩, hgx', by rw [hsum']; exact h.sum, ?_, by rw [hfl]; exact h.ns⟩
  · intro u hu
    apply hU
    rw [hts, ht2] at hu
    exact hu
  · rw [hts, ht2]
    intro i b hi hb
    exact h.hd i b hi hb

/-! ### `unblacklist` -/

/-- the v1 restore hook skips every holder of a live record -/
theorem zv_restoreV1Many_skip : ∀ (l : List Nat) (s : State) (nw tg : Nat),
    (∀ u ∈ l, (s.uts u).isSome = true ∨ (s.range u).isNone = true) →
    restoreV1Many l (s, nw, tg) = .ok (s, nw, tg)
  | [], _, _, _, _ => rfl
  | u :: rest, s, nw, tg, h => by
    have hu : ((s.uts u).isSome || (s.range u).isNone) = true := by
      rcases h u (List.mem_cons_self ..) with h1 | h1 <;> simp [h1]
    simp only [restoreV1Many, hu, if_true]
    exact zv_restoreV1Many_skip rest s nw tg (fun v hv => h v (List.mem_cons_of_mem _ hv))

theorem zv_restoreGuaranteedV1_skip (s : State) (l : List Nat)
    (h : ∀ u ∈ l, (s.uts u).isSome = true ∨ (s.range u).isNone = true) :
    restoreGuaranteedV1 s l = .ok s := by
  unfold restoreGuaranteedV1
  rw [zv_restoreV1Many_skip l s _ _ h]
  rfl

theorem zv_unblState (s : State) (l l' : List Nat) (R : Nat → Option Range) (B : Nat → Option Batch)
    (K K' C : Nat → Bool) (U BU : Nat → Option UTS) (N TG : Nat)
    (hK : K' = fun a => if a ∈ l' then false else K a) :
    unblState (zv_g (z_w s R B K C) [] U BU N TG) l'
      = zv_g (z_w (unblState s l) R B K' C) [] U BU N TG := by
  subst hK
  rfl

theorem PAof_unblacklist {W : PAFam} {T0 : Nat} {hash : List Nat → List Nat} {s s' : State} {e : Env}
    {l : List Nat} {o : Out} {r : Nat} (h : PAof W T0 s r) (hr : r ≤ e.round)
    (hok : EnvOK e) (hs : step hash s e (.unblacklist l) = .ok (s', o)) : PAof W T0 s' e.round := by
  obtain ⟨U, BU, N, TG, hwf, hU⟩ := h.sh
  obtain ⟨hsum', hgx', _⟩ := step_guar_ok (c := .unblacklist l) rfl h.gx hs
  have hfl : s'.flags = s.flags := step_flags_eq hs rfl
  have f3 : s.variant.isV2 = false := (W.flags hwf).1
  obtain ⟨m, t, hm, hpay, hown, hx, rfl, rfl⟩ := step_ok_inv hs
  obtain ⟨hrem, hgh, _, _, _⟩ := exec_unblacklist_out hx
  obtain ⟨hperm, hstage, hnd, hall, _⟩ := (removeUsersFromBlacklist_ok_iff _ _ _ _).mp hrem
  obtain ⟨⟨wl, uu, bb, nw, tg, hs1⟩, _⟩ := hgh
  have hmem : ∀ a, a ∈ l.filter (fun a => (z_eraseR s.range a).isSome) ↔
      a ∈ l ∧ (z_eraseR s.range a).isSome = true := fun a => List.mem_filter
  have hK : zv_K s.range (fun a => if a ∈ l then false else s.blacklist a)
      = fun a => if a ∈ l.filter (fun a => (z_eraseR s.range a).isSome) then false
          else zv_K s.range s.blacklist a := by
    funext a
    show ((if a ∈ l then false else s.blacklist a) && (z_eraseR s.range a).isSome)
      = (if a ∈ l.filter (fun a => (z_eraseR s.range a).isSome) then false
          else (s.blacklist a && (z_eraseR s.range a).isSome))
    by_cases h1 : a ∈ l
    · by_cases h2 : (z_eraseR s.range a).isSome = true
      · rw [if_pos ((hmem a).mpr ⟨h1, h2⟩), if_pos h1]; rfl
      · rw [if_neg (fun hh => h2 ((hmem a).mp hh).2), if_pos h1]
        have : (z_eraseR s.range a).isSome = false := by simpa using h2
        rw [this]; simp
    · rw [if_neg (fun hh => h1 ((hmem a).mp hh).1), if_neg h1]
  have hstate := zv_unblState (tx0 s e).s l (l.filter (fun a => (z_eraseR s.range a).isSome))
    (z_eraseR s.range) (z_eraseB s.batch) (zv_K s.range s.blacklist) _ s.claimed U BU N TG hK
  have hy1 : removeUsersFromBlacklist (tx0 (zv_sh s U BU N TG) e).s e
      (l.filter (fun a => (z_eraseR s.range a).isSome))
      = .ok (unblState (tx0 (zv_sh s U BU N TG) e).s (l.filter (fun a => (z_eraseR s.range a).isSome))) := by
    rw [removeUsersFromBlacklist_ok_iff]
    refine ⟨hperm, hstage, hnd.filter _, ?_, rfl⟩
    intro u hu
    obtain ⟨h1, h2⟩ := (hmem u).mp hu
    show zv_K s.range s.blacklist u = true
    have : s.blacklist u = true := hall u h1
    simp [zv_K, this, h2]
  have hy2 : restoreGuaranteedV1
      (unblState (tx0 (zv_sh s U BU N TG) e).s (l.filter (fun a => (z_eraseR s.range a).isSome)))
      (l.filter (fun a => (z_eraseR s.range a).isSome))
      = .ok (unblState (tx0 (zv_sh s U BU N TG) e).s (l.filter (fun a => (z_eraseR s.range a).isSome))) := by
    apply zv_restoreGuaranteedV1_skip
    intro u hu
    left
    exact hU u ((hmem u).mp hu).2
  have hx2 : exec hash (tx0 (zv_sh s U BU N TG) e) e
      (.unblacklist (l.filter (fun a => (z_eraseR s.range a).isSome)))
      = .ok ((tx0 (zv_sh s U BU N TG) e).setS
          (unblState (tx0 (zv_sh s U BU N TG) e).s (l.filter (fun a => (z_eraseR s.range a).isSome)))) := by
    simp only [exec]
    rw [hy1]
    show (if (unblState (tx0 (zv_sh s U BU N TG) e).s _).variant.isV2 = true then _ else _) = _
    rw [if_neg (by show ¬ (s.variant.isV2 = true); rw [f3]; simp)]
    show (restoreGuaranteedV1 _ _ >>= _) = _
    rw [hy2]
    rfl
  have hmz : endpointMeta (zv_sh s U BU N TG).variant
      (.unblacklist (l.filter (fun a => (z_eraseR s.range a).isSome))) = some m := by
    rw [← hm]; rfl
  have hstep := z_step_intro (s := zv_sh s U BU N TG) hmz hpay (by exact hown) hx2
  have hwf' := W.call_WF (c := .unblacklist _) hwf hr hok trivial hstep
  have hsh : ((tx0 (zv_sh s U BU N TG) e).setS
      (unblState (tx0 (zv_sh s U BU N TG) e).s (l.filter (fun a => (z_eraseR s.range a).isSome)))).s
      = zv_sh t.s U BU N TG := by
    refine Eq.trans (b := zv_g (z_w (unblState (tx0 s e).s l) (z_eraseR s.range) (z_eraseB s.batch)
      (zv_K s.range (fun a => if a ∈ l then false else s.blacklist a)) s.claimed) [] U BU N TG) hstate ?_
    rw [hs1]
    rfl
  rw [hsh] at hwf'
  refine ⟨⟨U, BU, N, TG, hwf', ?_⟩, hgx', by rw [hsum']; exact h.sum, ?_, by rw [hfl]; exact h.ns⟩
  · intro u hu
    apply hU
    rw [hs1] at hu
    exact hu
  · rw [hs1]
    intro i b hi hb
    exact h.hd i b hi hb

/-! ### every call of the phase, the passing of time, deployment -/

/-- the calls that keep `PAof`: those of the allocation phase and, vacuously, those of the later
    phases, whose gates are closed while nothing is filtered or selected -/
def zv_PAcall : Call → Bool
  | .confirm _ | .addTicketsV1 _ | .blacklist _ | .unblacklist _
  | .select | .distribute | .secondary | .claimPayment => true
  | c => zv_gindep c

theorem PAof_call {W : PAFam} {T0 : Nat} {hash : List Nat → List Nat} {s s' : State} {e : Env}
    {c : Call} {o : Out} {r : Nat} (hc : zv_PAcall c = true) (hnf : s.flags.filtered = false)
    (hnsel : s.flags.selected = false) (h : PAof W T0 s r) (hr : r ≤ e.round)
    (hok : EnvOK e) (hs : step hash s e c = .ok (s', o)) : PAof W T0 s' e.round := by
  cases c with
  | confirm n => exact PAof_confirm h hr hok hs
  | addTicketsV1 l => exact PAof_add h hr hok hs
  | blacklist l => exact PAof_blacklist h hr hok hs
  | unblacklist l => exact PAof_unblacklist h hr hok hs
  | select =>
    have := (LP.Props.C06.select_gate hash s e _ hs).2.1
    rw [hnf] at this; cases this
  | distribute =>
    have := (LP.Props.C06.additional_gate hash s e .distribute _ (Or.inl rfl) hs).2.1
    rw [hnsel] at this; cases this
  | secondary =>
    have := (LP.Props.C06.additional_gate hash s e .secondary _ (Or.inr (Or.inr rfl)) hs).2.1
    rw [hnsel] at this; cases this
  | claimPayment =>
    have := (stage_claim_iff.mp (LP.Props.C06.claimPayment_gate hash s e _ hs)).1.1
    rw [hnsel] at this; cases this
  | _ => exact PAof_indep (by exact hc) h hr hok hs

theorem PAof_wait {W : PAFam} {T0 : Nat} {s : State} {r r' : Nat} (h : PAof W T0 s r) (hr : r ≤ r') :
    PAof W T0 s r' := by
  obtain ⟨U, BU, N, TG, hwf, hU⟩ := h.sh
  exact ⟨⟨U, BU, N, TG, W.wait_WF hwf hr, hU⟩, h.gx, h.sum, h.hd, h.ns⟩

/-- a state without allocations, blacklist and guarantees is its own shadow -/
theorem PAof_init {W : PAFam} {T0 : Nat} {s : State} {r : Nat} (hwf : W.WF T0 s r)
    (hw : s.whitelist = []) (ht : s.totalGuaranteed = 0) (hu : s.uts = fun _ => none)
    (hR : s.range = fun _ => none) (hB : s.batch = fun _ => none)
    (hK : s.blacklist = fun _ => false) (hN : s.nrWinning = T0) (hns : s.flags.started = false) :
    PAof W T0 s r := by
  have hsh : zv_sh s s.uts s.blUts s.nrWinning s.totalGuaranteed = s := by
    have e1 : z_eraseR s.range = s.range := by rw [hR]; rfl
    have e2 : z_eraseB s.batch = s.batch := by rw [hB]; rfl
    have e3 : zv_K s.range s.blacklist = s.blacklist := by
      funext a
      unfold zv_K
      rw [hK]; rfl
    unfold zv_sh
    rw [e1, e2, e3, ← hw]
    rfl
  refine ⟨⟨s.uts, s.blUts, s.nrWinning, s.totalGuaranteed, by rw [hsh]; exact hwf, ?_⟩,
    GuarInvX_initial s hw ht hu hR hK, by rw [hN, ht]; rfl, ?_, hns⟩
  · intro u hu'
    rw [hR] at hu'
    cases hu'
  · intro i b _ hb
    rw [hB] at hb; cases hb

/-! ### what both phases give on the real state (ledger and reserve: the families whose invariant has
  the phases `v1_PhaseC`) -/

/-- with the v1 hooks the whitelist is the set of holders of a guarantee (while the records are in
    force: before the first `filter` call in particular) -/
theorem GuarInvX.whitelist_iff {s : State} (h : GuarInvX s) (hv2 : s.variant.isV2 = false) (u : Nat) :
    u ∈ s.whitelist ↔ ∃ st, s.uts u = some st ∧ st.c + st.d > 0 := by
  have hb := h.base
  rw [hv2] at hb
  constructor
  · intro hm
    obtain ⟨st, h1, h2⟩ := hb.pos_of_mem u hm
    exact ⟨st, h1, by simpa using h2⟩
  · rintro ⟨st, h1, h2⟩
    exact hb.mem_of_pos u st h1 (by simpa using h2)

/-- the ledger (C01), the three counts and the ranges: read off the shadow before the first `filter`
    call, through the erasure after it -/
theorem zv_phase_ledger {W : PAFam} {T0 : Nat} {s : State} {r : Nat}
    (hph : ∀ {s : State} {r : Nat}, W.WF T0 s r → v1_PhaseC T0 s.core (v1_gv s))
    (h : PAof W T0 s r ∨ ∃ z, v1_PhaseC T0 z.core (v1_gv z) ∧ ESim s z) :
    ∃ L : List Nat, Covers s L ∧ (¬ AllDone s → PayEqPre s L) ∧
      (AllDone s → PayEqPost s L ∧ sumOver (winCountOf s) L = s.nrWinning ∧
        (∀ a, winCountOf s a ≤ s.confirmed a) ∧
        (∀ a rg, s.range a = some rg → rangeLen rg = s.confirmed a ∧ (rg.first ≤ rg.last → a ∈ L))) := by
  rcases h with h | ⟨z, hz, hsim⟩
  · obtain ⟨U, BU, N, TG, hwf, _⟩ := h.sh
    have hadd : s.flags.additional = false := (v1_phase_notStarted (hph hwf) h.ns).1
    obtain ⟨L, h1, h2, _⟩ := v1_phase_ledger (hph hwf)
    have hnd : ¬ AllDone s := by intro hd; have := hd.2; rw [hadd] at this; cases this
    exact ⟨L, ⟨h1.nodup, h1.supp⟩, fun _ => h2 hnd, fun hd => absurd hd hnd⟩
  · obtain ⟨L, h1, h2, h3⟩ := v1_phase_ledger hz
    have := hsim.ledger (fun hd => (v1_phase_D hz hd.2).rngNone) h1 h2 h3
    obtain ⟨w, rfl⟩ : ∃ w, z = ov s w := ⟨_, hsim.rest⟩
    exact ⟨L, this⟩

/-- the reserve is conserved until the filter has completed and bounded until the guarantees are
    distributed -/
theorem zv_phase_reserve {W : PAFam} {T0 : Nat} {s : State} {r : Nat}
    (h : PAof W T0 s r ∨ ∃ z, v1_PhaseC T0 z.core (v1_gv z) ∧ ESim s z) :
    (s.flags.filtered = false → s.nrWinning + s.totalGuaranteed = T0) ∧
    (s.flags.additional = false → s.nrWinning + s.totalGuaranteed ≤ T0) := by
  rcases h with h | ⟨z, hz, hsim⟩
  · exact ⟨fun _ => h.sum, fun _ => Nat.le_of_eq h.sum⟩
  · have h1 := v1_phase_reserve_before_filter hz
    have h2 := v1_phase_owed_le hz
    obtain ⟨w, rfl⟩ : ∃ w, z = ov s w := ⟨_, hsim.rest⟩
    exact ⟨h1, h2⟩

/-! ### the hand-over at the first `filter` call: the erasure that takes it -/

/-- the erased state (guarantee bookkeeping of the REAL state kept) -/
def zv_z (s : State) : State :=
  z_w s (z_eraseR s.range) (z_eraseB s.batch) (zv_K s.range s.blacklist) s.claimed

theorem zv_ZSim_z (s : State) : ZSim s (zv_z s) := by
  refine ⟨rfl, rfl, fun _ => rfl, fun a ha => ?_, fun _ h => h⟩
  have h2 : zv_K s.range s.blacklist a = true := ha
  unfold zv_K at h2
  simp only [Bool.and_eq_true] at h2
  exact h2.1

end LP
