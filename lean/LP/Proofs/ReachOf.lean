import LP.Proofs.ReachBEAll
import LP.Proofs.ReachPlain
import LP.Proofs.ReachNft
import LP.Proofs.ReachNGFinal
import LP.Proofs.ProceedsFrame
import LP.Proofs.OwnerStep
import LP.Proofs.ReachG1
import LP.Proofs.ReachVV
import LP.Proofs.VestFam
/-
  The reachable states of all eight contracts under one name.  `ReachOf hash v` selects the
  relation of the variant's family; it is `be_Covered` with the variant fixed
  (`reachOf_iff_covered`), so whatever holds of covered states holds of each family, and a family's
  theorem is the instance at its variants (`ReachOf.of_plain`, `.of_v1`, `.of_guarV2`, ...); the
  per-family property files quote the theorems of this module in one line each.

  The ticket-payment ledger is `be_Common.ledger` (then C01 and the three counts).  A family's
  invariant is opened only where the statement is about that family's own records: the
  launchpad-token ledger with vesting (`ReachOf.lp_exact_with`) and the NFT
  participants (`ReachOfA.later_frozen`).  What an accepted call does is taken from statements
  about one call (`ow_claimPayment_exact`, `claimPayment_vested`, `proceeds_covered`) together with
  the facts every step keeps (`ReachOf.static`, `ReachOf.noConf`): the owner's withdrawal and the
  end of C02, the proceeds of C03.
-/
/-! ### a reachable state satisfies its family's invariant -/

namespace LP
variable {hash : List Nat → List Nat} {v : Variant} {s : State} {r : Nat}

theorem Reach.wf (hv : Plain v) (h : Reach hash v s r) : ∃ T0, WF T0 s r :=
  have ⟨a0, hA⟩ := Reach_iff.mp h
  ⟨a0.nrWinning, reach_WF hv hA⟩

theorem Reach.wf2 (h : Reach hash .guarV2 s r) : ∃ T0, WF2 T0 s r ∧ vv_Exact s r :=
  have ⟨a0, hA⟩ := Reach_iff.mp h
  ⟨a0.nrWinning, reach_WF2 hA, vv_reach_Exact hA⟩

theorem Reach.nf (h : Reach hash .nft s r) : ∃ T0, nf_WF T0 s r :=
  have ⟨a0, hA⟩ := Reach_iff.mp h
  ⟨a0.nrWinning, nf_reach_WF hA⟩

theorem v1_Reach.wf (hv : v1_Fam v) (h : v1_Reach hash v s r) : ∃ T0, v1_WF T0 s r :=
  have ⟨a0, hA⟩ := v1_Reach_iff.mp h
  ⟨a0.nrWinning, v1_reach_WF hv hA⟩

theorem g1_Reach.wf (h : g1_Reach hash s r) : ∃ T0, g1_WF T0 s r :=
  have ⟨a0, hA⟩ := g1_Reach_iff.mp h
  ⟨a0.nrWinning, g1_reach_WF hA⟩

theorem ng_Reach.wf (h : ng_Reach hash s r) : ∃ T0, ng_WF T0 s r :=
  have ⟨a0, hA⟩ := ng_Reach_iff.mp h
  ⟨a0.nrWinning, ng_reach_WF hA⟩

end LP

/-! ### the relation of a variant's family; the NFT fees in the ticket-payment slot -/

namespace LP.Props.C14reach
open LP LP.Props.C14

/-- configuration (b): the NFT fee is paid in the ticket-payment token -/
def FeeInPayToken (s : State) : Prop := s.nftCost.tok = s.payTok ∧ s.nftCost.nonce = 0

instance (s : State) : Decidable (FeeInPayToken s) := by unfold FeeInPayToken; infer_instance

/-- NFT fees held in the ticket-payment slot -/
def feeInPay (s : State) : Nat := if FeeInPayToken s then feeHeld s else 0

end LP.Props.C14reach

namespace LP.Props.AllVariants
open LP LP.FY LP.Props.C14reach

def ReachOf (hash : List Nat → List Nat) (v : Variant) (s : State) (r : Nat) : Prop :=
  match v with
  | .base => Reach hash .base s r
  | .locked => Reach hash .locked s r
  | .nft => Reach hash .nft s r
  | .guarV2 => Reach hash .guarV2 s r
  | .migration => v1_Reach hash .migration s r
  | .lockedGuar => v1_Reach hash .lockedGuar s r
  | .guarV1 => g1_Reach hash s r
  | .nftGuar => ng_Reach hash s r

/-- NFT fees held in the ticket-payment slot (only the two NFT contracts can hold any) -/
def nftFeesInPayToken (v : Variant) (s : State) : Nat :=
  match v with
  | .nft | .nftGuar => feeInPay s
  | _ => 0

def ReachOfA (hash : List Nat → List Nat) (v : Variant) (a0 : InitArgs) (s : State) (r : Nat) : Prop :=
  match v with
  | .base => ReachA hash .base a0 s r
  | .locked => ReachA hash .locked a0 s r
  | .nft => ReachA hash .nft a0 s r
  | .guarV2 => ReachA hash .guarV2 a0 s r
  | .migration => v1_ReachA hash .migration a0 s r
  | .lockedGuar => v1_ReachA hash .lockedGuar a0 s r
  | .guarV1 => g1_ReachA hash a0 s r
  | .nftGuar => ng_ReachA hash a0 s r

theorem ReachOf_iff {hash : List Nat → List Nat} {v : Variant} {s : State} {r : Nat} :
    ReachOf hash v s r ↔ ∃ a0, ReachOfA hash v a0 s r := by
  cases v
  case base | locked | nft | guarV2 => exact Reach_iff
  case migration | lockedGuar => exact v1_Reach_iff
  case guarV1 => exact g1_Reach_iff
  case nftGuar => exact ng_Reach_iff

theorem ReachOfA.toReachOf {hash : List Nat → List Nat} {v : Variant} {a0 : InitArgs} {s : State}
    {r : Nat} (h : ReachOfA hash v a0 s r) : ReachOf hash v s r :=
  ReachOf_iff.mpr ⟨a0, h⟩

theorem reachOfA_iff_later {hash : List Nat → List Nat} {v : Variant} {a0 : InitArgs} {s : State}
    {r : Nat} : ReachOfA hash v a0 s r ↔
      ∃ e s0, init v a0 e = .ok s0 ∧ be_Later (HistOKOf v) hash s0 e.round s r := by
  cases v
  case base | locked | nft | guarV2 => exact reachA_iff_later
  case migration | lockedGuar => exact v1_reachA_iff_later
  case guarV1 => exact g1_reachA_iff_later
  case nftGuar => exact ng_reachA_iff_later

theorem initA_reachable (hash : List Nat → List Nat) (v : Variant) (a : InitArgs) (e : Env) (s : State)
    (h : init v a e = .ok s) : ReachOfA hash v a s e.round :=
  reachOfA_iff_later.mpr ⟨e, s, h, .refl⟩

theorem ReachOfA.call {hash : List Nat → List Nat} {v : Variant} {a0 : InitArgs} {s : State} {r : Nat}
    (h : ReachOfA hash v a0 s r) (e : Env) (c : Call) (s' : State) (o : Out) (hr : r ≤ e.round)
    (hok : EnvOK e) (hc : CallOKOf v c) (hs : step hash s e c = .ok (s', o)) :
    ReachOfA hash v a0 s' e.round := by
  obtain ⟨e0, s0, hi, hl⟩ := reachOfA_iff_later.mp h
  exact reachOfA_iff_later.mpr ⟨e0, s0, hi, .call s r e c s' o hl hr ⟨hok, hc⟩ hs⟩

theorem ReachOfA.wait {hash : List Nat → List Nat} {v : Variant} {a0 : InitArgs} {s : State} {r r' : Nat}
    (h : ReachOfA hash v a0 s r) (hr : r ≤ r') : ReachOfA hash v a0 s r' := by
  obtain ⟨e0, s0, hi, hl⟩ := reachOfA_iff_later.mp h
  exact reachOfA_iff_later.mpr ⟨e0, s0, hi, .wait s r r' hl hr⟩

theorem reachOfA_variant {hash : List Nat → List Nat} {v : Variant} {a0 : InitArgs} {s : State}
    {r : Nat} (h : ReachOfA hash v a0 s r) : s.variant = v := by
  obtain ⟨e, s0, hi, hl⟩ := reachOfA_iff_later.mp h
  obtain ⟨_, rfl⟩ := init_ok hi
  exact hl.variant

theorem ReachOf.variant {hash : List Nat → List Nat} {v : Variant} {s : State} {r : Nat}
    (h : ReachOf hash v s r) : s.variant = v := by
  obtain ⟨a0, hA⟩ := ReachOf_iff.mp h
  exact reachOfA_variant hA

theorem ReachOf.covered {hash : List Nat → List Nat} {v : Variant} {s : State} {r : Nat}
    (h : ReachOf hash v s r) : be_Covered hash s r := by
  obtain ⟨a0, hA⟩ := ReachOf_iff.mp h
  obtain ⟨e, s0, hi, hl⟩ := reachOfA_iff_later.mp hA
  exact be_covered_iff.mpr ⟨v, a0, e, s0, hi, hl⟩

variable {hash : List Nat → List Nat} {v : Variant} {s : State} {r : Nat}

theorem callOKOf_claimPayment (v : Variant) : CallOKOf v .claimPayment := by cases v <;> trivial

theorem ReachOf.call (h : ReachOf hash v s r) {e : Env} {c : Call} {s' : State} {o : Out}
    (hr : r ≤ e.round) (hok : EnvOK e) (hc : CallOKOf v c) (hs : step hash s e c = .ok (s', o)) :
    ReachOf hash v s' e.round := by
  obtain ⟨a0, hA⟩ := ReachOf_iff.mp h
  exact (hA.call e c s' o hr hok hc hs).toReachOf

theorem ReachOf.wait (h : ReachOf hash v s r) {r' : Nat} (hr : r ≤ r') : ReachOf hash v s r' := by
  obtain ⟨a0, hA⟩ := ReachOf_iff.mp h
  exact (hA.wait hr).toReachOf

theorem ReachOf.later (h : ReachOf hash v s r) {s2 : State} {r2 : Nat}
    (hl : be_Later (HistOKOf v) hash s r s2 r2) : ReachOf hash v s2 r2 := by
  obtain ⟨a0, hA⟩ := ReachOf_iff.mp h
  obtain ⟨e0, s0, hi, hl0⟩ := reachOfA_iff_later.mp hA
  exact (reachOfA_iff_later.mpr ⟨e0, s0, hi, hl0.trans hl⟩).toReachOf

/-! ### the instances: each family's relation is `ReachOf` at its variants -/

theorem ReachOf.of_plain (hv : Plain v) (h : Reach hash v s r) : ReachOf hash v s r := by
  rcases hv with rfl | rfl <;> exact h

theorem ReachOf.of_v1 (hv : v1_Fam v) (h : v1_Reach hash v s r) : ReachOf hash v s r := by
  rcases hv with rfl | rfl <;> exact h

theorem ReachOfA.of_plain {a0 : InitArgs} (hv : Plain v) (h : ReachA hash v a0 s r) :
    ReachOfA hash v a0 s r := by
  rcases hv with rfl | rfl <;> exact h

theorem ReachOfA.of_v1 {a0 : InitArgs} (hv : v1_Fam v) (h : v1_ReachA hash v a0 s r) :
    ReachOfA hash v a0 s r := by
  rcases hv with rfl | rfl <;> exact h

theorem ReachOf.of_guarV2 (h : Reach hash .guarV2 s r) : ReachOf hash .guarV2 s r := h
theorem ReachOf.of_nft (h : Reach hash .nft s r) : ReachOf hash .nft s r := h
theorem ReachOf.of_guarV1 (h : g1_Reach hash s r) : ReachOf hash .guarV1 s r := h
theorem ReachOf.of_nftGuar (h : ng_Reach hash s r) : ReachOf hash .nftGuar s r := h

theorem _root_.LP.be_Covered.reachOf (h : be_Covered hash s r) : ReachOf hash s.variant s r := by
  cases h with
  | plain hv h => have := (ReachOf.of_plain hv h).variant; rw [this]; exact .of_plain hv h
  | guarV2 h => have := (ReachOf.of_guarV2 h).variant; rw [this]; exact h
  | nft h => have := (ReachOf.of_nft h).variant; rw [this]; exact h
  | v1 hv h => have := (ReachOf.of_v1 hv h).variant; rw [this]; exact .of_v1 hv h
  | guarV1 h => have := (ReachOf.of_guarV1 h).variant; rw [this]; exact h
  | nftGuar h => have := (ReachOf.of_nftGuar h).variant; rw [this]; exact h

theorem reachOf_iff_covered : ReachOf hash v s r ↔ be_Covered hash s r ∧ s.variant = v :=
  ⟨fun h => ⟨h.covered, h.variant⟩, fun ⟨h, hv⟩ => hv ▸ h.reachOf⟩

/-! ### the ticket-payment ledger, once -/

/-- the part of the payment-token holdings that pays for tickets -/
def tixOf (v : Variant) (s : State) : Nat := s.bal s.payTok 0 - nftFeesInPayToken v s

theorem ReachOf.fees_eq (h : ReachOf hash v s r) : nftFeesInPayToken v s = be_fee s := by
  have hv := h.variant
  unfold be_fee
  rw [hv]
  cases v <;> rfl

/-- `be_Common.ledger` with the fee term named by the variant -/
theorem ReachOf.ledger (h : ReachOf hash v s r) :
    tixOf v s + nftFeesInPayToken v s = s.bal s.payTok 0 ∧
    ∃ L : List Nat, Covers s L ∧ (¬ AllDone s → tixOf v s = s.price * sumOver s.confirmed L) ∧
      (AllDone s → Settled s (tixOf v s) L) := by
  obtain ⟨tix, hadd, hl⟩ := (be_covered_common h.covered).ledger
  rw [← h.fees_eq] at hadd
  have ht : tixOf v s = tix := by unfold tixOf; omega
  rw [ht]
  exact ⟨hadd, hl⟩

theorem nftFees_noNft (hv : v.hasNft = false) : nftFeesInPayToken v s = 0 := by
  cases v <;> first | rfl | cases hv

namespace ReachOf

/- The fee term is a variable `f` with its equation: `rfl` at a concrete variant (`f` is then `0` or
   `feeInPay s` by evaluation), `nftFees_noNft` for a family given by a predicate. -/
variable {f : Nat}

theorem solvent (h : ReachOf hash v s r) (hf : nftFeesInPayToken v s = f) :
    ∃ L : List Nat, Covers s L ∧
      (¬ AllDone s → s.bal s.payTok 0 = s.price * sumOver s.confirmed L + f) ∧
      (AllDone s → s.bal s.payTok 0 = s.claimablePayment + sumOver (refundDue s) L + f) := by
  subst hf
  obtain ⟨hadd, L, h1, h2, h3⟩ := h.ledger
  exact ⟨L, h1, fun hd => by rw [← h2 hd, hadd], fun hd => by rw [← (h3 hd).1, hadd]⟩

theorem three_counts (h : ReachOf hash v s r) (hd : AllDone s) (hf : nftFeesInPayToken v s = f) :
    ∃ L : List Nat, Covers s L ∧
      s.bal s.payTok 0 = s.claimablePayment + sumOver (refundDue s) L + f ∧
      sumOver (winCountOf s) L = s.nrWinning ∧ (∀ a, winCountOf s a ≤ s.confirmed a) ∧
      (∀ a rg, s.range a = some rg → a ∈ L ∧ rangeLen rg = s.confirmed a) := by
  subst hf
  obtain ⟨hadd, L, h1, _, h3⟩ := h.ledger
  obtain ⟨hpost, hrest⟩ := (h3 hd).counts
  exact ⟨L, h1, by rw [← hpost, hadd], hrest⟩

theorem refund_covered (h : ReachOf hash v s r) (hd : AllDone s) {a : Nat} {rg : Range}
    (hr : s.range a = some rg) (hf : nftFeesInPayToken v s = f) :
    s.claimablePayment + s.price * (s.confirmed a - winCountOf s a) + f ≤ s.bal s.payTok 0 := by
  subst hf
  obtain ⟨hadd, L, _, _, h3⟩ := h.ledger
  exact hadd ▸ Nat.add_le_add_right ((h3 hd).refund_covered hr) _

theorem proceeds_le (h : ReachOf hash v s r) (hd : AllDone s) (hf : nftFeesInPayToken v s = f) :
    s.claimablePayment + f ≤ s.bal s.payTok 0 := by
  subst hf
  obtain ⟨hadd, L, _, _, h3⟩ := h.ledger
  exact hadd ▸ Nat.add_le_add_right (h3 hd).proceeds_covered _

theorem nothing_left (h : ReachOf hash v s r) (hd : AllDone s) (hall : ∀ a, s.range a = none)
    (hcp : s.claimablePayment = 0) (hf : nftFeesInPayToken v s = f) : s.bal s.payTok 0 = f := by
  subst hf
  obtain ⟨hadd, L, _, _, h3⟩ := h.ledger
  rw [← hadd, (h3 hd).nothing_left hall hcp, Nat.zero_add]

end ReachOf

/-! ### everybody settled; the owner's withdrawal without vesting; the proceeds of C03 -/

theorem nrWinning_zero_of_counts {s : State} {L : List Nat}
    (hwin : sumOver (winCountOf s) L = s.nrWinning) (hall : ∀ a, s.range a = none) :
    s.nrWinning = 0 := by
  rw [← hwin]
  exact sumOver_zero _ _ fun a _ => winCountOf_none (hall a)

namespace ReachOf

/-- everybody has settled: no winner is outstanding (all eight contracts) -/
theorem all_settled_nrWinning (h : ReachOf hash v s r) (hd : AllDone s)
    (hall : ∀ a, s.range a = none) : s.nrWinning = 0 := by
  obtain ⟨L, _, _, hwin, _⟩ := h.three_counts hd rfl
  exact nrWinning_zero_of_counts hwin hall

/-- the six contracts without vesting: the owner's accepted withdrawal leaves exactly what the
    outstanding winners are owed -/
theorem owner_surplus (h : ReachOf hash v s r) (hv : v.vested = false) {e : Env} {s' : State}
    {o : Out} (hs : step hash s e .claimPayment = .ok (s', o)) :
    s'.bal (.esdt s'.lpTok) 0 = s'.perTicket * s'.nrWinning ∧ s'.nrWinning = s.nrWinning ∧
    s'.claimablePayment = 0 ∧ (v.hasNft = true → s'.claimableNft = 0) := by
  obtain ⟨_, _, _, k4, k5, _, _, k8, _, k10⟩ :=
    ow_claimPayment_exact (cr_static_covered h.covered).tokNe (cr_static_covered h.covered).feeNe hs
  refine ⟨?_, k8, k4, fun hn => k5 (h.variant ▸ hn)⟩
  rw [step_lpTok hs, terms_perTicket (terms_frame_b hs rfl), k8]
  exact (k10 (h.variant ▸ hv)).2.2

theorem lp_zero_at_end (h : ReachOf hash v s r) (hv : v.vested = false) (hd : AllDone s)
    (hall : ∀ a, s.range a = none) {e : Env} {s' : State} {o : Out}
    (hs : step hash s e .claimPayment = .ok (s', o)) :
    s.nrWinning = 0 ∧ s'.bal (.esdt s'.lpTok) 0 = 0 := by
  have hz := h.all_settled_nrWinning hd hall
  obtain ⟨k1, k2, _⟩ := h.owner_surplus hv hs
  exact ⟨hz, by rw [k1, k2, hz, Nat.mul_zero]⟩

/-- C03, every variant: after completion the price is frozen and only `claimPayment` moves the
    recorded proceeds -/
theorem proceeds (h : ReachOf hash v s r) (hd : AllDone s) {e : Env} {c : Call} {s' : State} {o : Out}
    (hr : r ≤ e.round) (hs : step hash s e c = .ok (s', o)) :
    s'.price = s.price ∧ AllDone s' ∧
    (s'.claimablePayment = s.claimablePayment ∨ (c = .claimPayment ∧ s'.claimablePayment = 0)) :=
  proceeds_covered h.covered hd hr hs

end ReachOf

/-! ### the two contracts with vesting -/

/-- after completion the launchpad-token balance is the owner's surplus, the tokens of the
    outstanding winners and the unvested remainders of the settled (`L` lists them and `a`) -/
theorem ReachOf.lp_exact_with (h : ReachOf hash v s r) (hv : v.vested = true) (hd : AllDone s)
    (a : Nat) :
    ∃ L : List Nat, a ∈ L ∧ L.Nodup ∧ (∀ x, x ∉ L → s.userTotal x = 0 ∧ s.userClaimed x = 0) ∧
      s.bal (.esdt s.lpTok) 0 = ownSurplus s + s.perTicket * s.nrWinning
        + sumOver (fun x => s.userTotal x - s.userClaimed x) L := by
  obtain ⟨a0, hA⟩ := ReachOf_iff.mp h
  cases v <;> first | cases hv | skip
  · exact g1_lp_exact_with (g1_reach_WF hA) hd a
  · exact vv_lp_exact_with (reach_WF2 hA) hd a

theorem ReachOf.lp_exact (h : ReachOf hash v s r) (hv : v.vested = true) (hd : AllDone s) :
    ∃ L : List Nat, L.Nodup ∧ (∀ a, a ∉ L → s.userTotal a = 0 ∧ s.userClaimed a = 0) ∧
      s.bal (.esdt s.lpTok) 0 = ownSurplus s + s.perTicket * s.nrWinning
        + sumOver (fun a => s.userTotal a - s.userClaimed a) L :=
  have ⟨L, _, h2, h3, h4⟩ := h.lp_exact_with hv hd 0
  ⟨L, h2, h3, h4⟩

/-- the owner's withdrawal with vesting: pays the recorded proceeds and exactly `ownSurplus`
    launchpad tokens, clears both records, and leaves the unsettled winners' tokens plus what is
    still owed to the settled -/
theorem ReachOf.owner_withdrawal (h : ReachOf hash v s r) (hv : v.vested = true) {e : Env}
    {s' : State} {o : Out} (hr : r ≤ e.round) (hok : EnvOK e)
    (hs : step hash s e .claimPayment = .ok (s', o)) :
    AllDone s ∧ s'.claimablePayment = 0 ∧ s'.totalDeposited = 0 ∧ s'.nrWinning = s.nrWinning ∧
    s'.bal (.esdt s.lpTok) 0 + ownSurplus s = s.bal (.esdt s.lpTok) 0 ∧
    s'.bal s.payTok 0 + s.claimablePayment = s.bal s.payTok 0 ∧
    ∃ L : List Nat, L.Nodup ∧ (∀ a, a ∉ L → s'.userTotal a = 0 ∧ s'.userClaimed a = 0) ∧
      s'.bal (.esdt s'.lpTok) 0 = s'.perTicket * s'.nrWinning
        + sumOver (fun a => s'.userTotal a - s'.userClaimed a) L := by
  have h' := h.call hr hok (callOKOf_claimPayment v) hs
  obtain ⟨hd, e1, e2, e3, e4, e5, hd', hsur⟩ :=
    claimPayment_vested (h.variant ▸ hv) (cr_static_covered h.covered).tokNe hs
  obtain ⟨L, k1, k2, k3⟩ := h'.lp_exact hv hd'
  rw [hsur, Nat.zero_add] at k3
  exact ⟨hd, e1, e2, e3, e4, e5, L, k1, k2, k3⟩

/-- the closed form of the launchpad-token balance with every term gone -/
theorem lp_nothing_left_of_exact {s : State} {L : List Nat} (hnw : s.nrWinning = 0)
    (heq : s.bal (.esdt s.lpTok) 0 = ownSurplus s + s.perTicket * s.nrWinning
      + sumOver (fun a => s.userTotal a - s.userClaimed a) L)
    (hclaimed : ∀ a, s.userClaimed a = s.userTotal a) (hown : s.totalDeposited = 0) :
    s.bal (.esdt s.lpTok) 0 = 0 := by
  have hsum : sumOver (fun a => s.userTotal a - s.userClaimed a) L = 0 :=
    sumOver_zero _ _ (fun a _ => by show s.userTotal a - s.userClaimed a = 0; rw [hclaimed a]; omega)
  have hsur : ownSurplus s = 0 := ownSurplus_zero hown
  rw [heq, hsur, hnw, hsum, Nat.mul_zero]

/-- everybody has settled and received his whole entitlement, the owner has withdrawn: no launchpad
    token is left -/
theorem ReachOf.lp_nothing_left (h : ReachOf hash v s r) (hv : v.vested = true) (hd : AllDone s)
    (hall : ∀ a, s.range a = none) (hclaimed : ∀ a, s.userClaimed a = s.userTotal a)
    (hown : s.totalDeposited = 0) : s.bal (.esdt s.lpTok) 0 = 0 :=
  have ⟨_, _, _, heq⟩ := h.lp_exact hv hd
  lp_nothing_left_of_exact (h.all_settled_nrWinning hd hall) heq hclaimed hown

/-- with vesting, after completion: the balance covers the owner's surplus, every outstanding
    winning ticket and what is still owed to any one settled participant -/
theorem ReachOf.vested_claim_covered (h : ReachOf hash v s r) (hv : v.vested = true) (hd : AllDone s)
    (a : Nat) :
    ownSurplus s + s.perTicket * s.nrWinning + (s.userTotal a - s.userClaimed a)
      ≤ s.bal (.esdt s.lpTok) 0 := by
  obtain ⟨L, haL, _, _, heq⟩ := h.lp_exact_with hv hd a
  have : s.userTotal a - s.userClaimed a ≤ sumOver (fun x => s.userTotal x - s.userClaimed x) L :=
    rb_le_sumOver (fun x => s.userTotal x - s.userClaimed x) L a haL
  omega

theorem ReachOf.unsettled_winner_covered (h : ReachOf hash v s r) (hv : v.vested = true)
    (hd : AllDone s) {a : Nat} {rg : Range} (hr : s.range a = some rg) :
    s.perTicket * winCountOf s a ≤ s.bal (.esdt s.lpTok) 0 := by
  have h1 := h.vested_claim_covered hv hd a
  obtain ⟨L, _, _, hwin, _, hrg⟩ := h.three_counts hd rfl
  have := rb_le_sumOver (winCountOf s) L a (hrg a rg hr).1
  have h2 : s.perTicket * winCountOf s a ≤ s.perTicket * s.nrWinning :=
    Nat.mul_le_mul_left _ (by omega)
  omega

/-! ### as long as the owner has not withdrawn -/

/-- after completion, along any continuation without `claimPayment` the price and the recorded
    proceeds stay what they are -/
theorem ReachOf.proceeds_constant (h : ReachOf hash v s r) (hd : AllDone s)
    {P : Env → Call → Prop} (hP : ∀ e c, P e c → EnvOK e ∧ CallOKOf v c ∧ c ≠ .claimPayment)
    {s2 : State} {r2 : Nat} (hl : be_Later P hash s r s2 r2) :
    ReachOf hash v s2 r2 ∧ AllDone s2 ∧ s2.price = s.price ∧
    s2.claimablePayment = s.claimablePayment := by
  induction hl with
  | refl => exact ⟨h, hd, rfl, rfl⟩
  | call s1 r1 e c s2 o _ h1 h2 h3 ih =>
    obtain ⟨i1, i2, i3, i4⟩ := ih
    obtain ⟨hok, hc, hne⟩ := hP e c h2
    obtain ⟨k1, k2, k3 | ⟨k3, _⟩⟩ := i1.proceeds i2 h1 h3
    · exact ⟨i1.call h1 hok hc h3, k2, k1.trans i3, k3.trans i4⟩
    · exact absurd k3 hne
  | wait s1 r1 r2 _ h1 ih =>
    obtain ⟨i1, i2, i3, i4⟩ := ih
    exact ⟨i1.wait h1, i2, i3, i4⟩

/-! ### facts every accepted call keeps -/

/-- neither the payment token nor the NFT-fee token is the launchpad token; `lockPct ≤ 10000` -/
theorem ReachOf.static (h : ReachOf hash v s r) : cr_Static s := cr_static_covered h.covered

theorem ReachOf.noConf (h : ReachOf hash v s r) : pl_NoConf s :=
  be_covered_induct (Q := pl_NoConf) (fun _ _ _ _ hi => lk_init_noConf hi)
    (fun _ _ _ _ _ _ _ _ _ hst hq => pl_step_NoConf hq hst) h.covered

/-- a contract with a lock has a positive lock percentage: checked at deployment, never changed -/
theorem ReachOf.lockPct_pos (h : ReachOf hash v s r) (hv : v.hasLock = true) : 0 < s.lockPct :=
  be_covered_induct (Q := fun s => s.variant.hasLock = true → 0 < s.lockPct)
    (fun v a _ _ hi hl => by
      obtain ⟨hok, rfl⟩ := init_ok hi
      have hl' : v.hasLock = true := hl
      show 0 < if v.hasLock = true then a.lockPct else 0
      rw [if_pos hl']; exact (hok.lock hl').1)
    (fun _ _ _ _ _ _ _ _ _ hst hq hl => step_lockPct hst ▸ hq (step_variant hst ▸ hl))
    h.covered (h.variant ▸ hv)

/-! ### the two contracts with an NFT draw -/

/-- from a reachable state in which the filter has started, as long as the additional step is not
    complete: whatever calls are accepted in whatever order, the NFT participants stay the same -/
theorem ReachOfA.later_frozen {a0 : InitArgs} (hv : v.hasNft = true) (h : ReachOfA hash v a0 s r)
    (hstd : s.flags.started = true) {s2 : State} {r2 : Nat}
    (hl : be_Later (HistOKOf v) hash s r s2 r2) :
    ReachOfA hash v a0 s2 r2 ∧
    (s2.flags.additional = false → nf_Frozen s s2 ∧ s2.flags.started = true) := by
  induction hl with
  | refl => exact ⟨h, fun _ => ⟨nf_Frozen.refl s, hstd⟩⟩
  | call s1 r1 e c s2 o _ h1 h2 h3 ih =>
    obtain ⟨i1, i2⟩ := ih
    refine ⟨i1.call e c s2 o h1 h2.1 h2.2 h3, nf_Frozen.step i2 h3 fun j2 hadd1 => ?_⟩
    cases v <;> first | cases hv | skip
    · exact nf_call_frozen (nf_reach_WF i1) h1 j2 hadd1 h3
    · exact ng_call_frozen (ng_reach_WF i1) h1 j2 hadd1 h3
  | wait s1 r1 r2 _ h1 ih => exact ⟨ih.1.wait h1, ih.2⟩

/-- the draw completes in `s1 → s2`, the participants of `s1` being those of `s`, in which nobody
    had been drawn: `min availNfts (fee payers of s)` winners, distinct, all fee payers of `s`; the
    others remain payers; the owner's NFT proceeds are fee × winners -/
theorem _root_.LP.nf_Frozen.draw_end {s s1 s2 : State} (hF : nf_Frozen s s1)
    (hw0 : s.nftWinners = [])
    (f1 : s2.nftWinners.length = min s1.availNfts (s1.payers.length + s1.nftWinners.length))
    (f2 : s2.claimableNft = s1.nftCost.amount * s2.nftWinners.length) (hok : NftOk s2)
    (hun : ∀ a, (a ∈ s2.payers ∨ a ∈ s2.nftWinners) ↔ (a ∈ s1.payers ∨ a ∈ s1.nftWinners))
    (hlen : s2.payers.length + s2.nftWinners.length = s1.payers.length + s1.nftWinners.length) :
    s2.nftWinners.length = min s.availNfts s.payers.length ∧
    s2.claimableNft = s.nftCost.amount * s2.nftWinners.length ∧
    s2.nftWinners.Nodup ∧ s2.payers.Nodup ∧ (∀ a, a ∈ s2.payers → a ∉ s2.nftWinners) ∧
    (∀ a, (a ∈ s2.payers ∨ a ∈ s2.nftWinners) ↔ a ∈ s.payers) ∧
    s2.payers.length + s2.nftWinners.length = s.payers.length := by
  have hl : s1.payers.length + s1.nftWinners.length = s.payers.length := by
    rw [hF.len, hw0]; simp
  refine ⟨by rw [f1, hF.avail, hl], by rw [f2, hF.cost], hok.nodupW, hok.nodupP, hok.disj,
    fun a => ?_, by rw [hlen, hl]⟩
  rw [hun a, hF.mem a, hw0]
  simp

end LP.Props.AllVariants
