import LP.Proofs.ReachOf
import LP.Proofs.ReachPL
import LP.Proofs.ReachFL
import LP.Proofs.ReachNGFinal
import LP.Proofs.ReachV1Final
import LP.Proofs.ReachG1
/-
  The launchpad-token side of a reachable state, for all eight contracts (C02 coverage, C12
  reserve).  `LpSide v T0 s` is what a family's invariant has to say about the reserve
  `reserveOf v s` (outstanding winners, plus the guaranteed tickets not yet handed out) and its
  cover; each invariant provides it (`pl_Lp.lpSide`, `nf_WF.lpSide`, `WF2.lpSide`, `v1_WF.lpSide`,
  `g1_WF.lpSide`, `ng_WF.lpSide`), `ReachOfA.lpSide` selects by variant, and `CoverSpec`, C12
  and the families' own statements are read off the record.
-/
namespace LP.Props.AllVariants
open LP LP.FY
open LP.Props.C02 (LpCover)

/-- winning tickets the launchpad tokens are reserved for until all selection steps are complete:
    the outstanding base winners `nrWinning` plus, in the five contracts with guaranteed tickets,
    the reserve `totalGuaranteed` -/
def reserveOf (v : Variant) (s : State) : Nat :=
  if v.hasGuaranteed then s.nrWinning + s.totalGuaranteed else s.nrWinning

/-- after all selection steps: `Lw` lists everybody who may still hold a range; their winning
    tickets add up to `nrWinning`.  Without vesting the balance covers `perTicket × Σ winCountOf`.
    With vesting (`guarV1`, `guarV2`) the balance IS the owner's not yet withdrawn surplus +
    `perTicket × Σ winCountOf` over the unsettled + the unvested remainders
    `userTotal − userClaimed` of the settled (`Lv` lists every vesting record) -/
def CoverAfter (v : Variant) (s : State) : Prop :=
  ∃ Lw : List Nat, Covers s Lw ∧ (∀ a rg, s.range a = some rg → a ∈ Lw) ∧
    sumOver (winCountOf s) Lw = s.nrWinning ∧
    (v.vested = false → s.perTicket * sumOver (winCountOf s) Lw ≤ s.bal (.esdt s.lpTok) 0) ∧
    (v.vested = true → ∃ Lv : List Nat, Lv.Nodup ∧
      (∀ a, a ∉ Lv → s.userTotal a = 0 ∧ s.userClaimed a = 0) ∧
      (∀ a, s.userClaimed a ≤ s.userTotal a) ∧
      s.bal (.esdt s.lpTok) 0 = ownSurplus s + s.perTicket * sumOver (winCountOf s) Lw
        + sumOver (fun a => s.userTotal a - s.userClaimed a) Lv)

/-- C02 in a reachable state after the deposit (`T0` = winners configured at deployment) -/
def CoverSpec (v : Variant) (T0 : Nat) (s : State) : Prop :=
  s.payTok ≠ .esdt s.lpTok ∧
  LpCover s ∧
  (s.flags.filtered = false →
    reserveOf v s = T0 ∧ s.perTicket * T0 ≤ s.bal (.esdt s.lpTok) 0) ∧
  (s.flags.additional = false → (v = .nftGuar → ∀ rg, s.op ≠ .additional (.nft rg)) →
    s.perTicket * reserveOf v s ≤ s.bal (.esdt s.lpTok) 0) ∧
  (AllDone s → CoverAfter v s)


theorem reserveOf_guar {v : Variant} {s : State} (hg : v.hasGuaranteed = true) :
    reserveOf v s = s.nrWinning + s.totalGuaranteed := by rw [reserveOf, hg]; rfl

theorem reserveOf_noGuar {v : Variant} {s : State} (hg : v.hasGuaranteed = false) :
    reserveOf v s = s.nrWinning := by rw [reserveOf, hg]; rfl

/-- the launchpad-token side of a state of variant `v` deployed with `T0` winners: the reserve is
    `T0` until the filter completes and at most `T0` until the additional step completes; from the
    deposit on the balance covers the outstanding winners, and the whole reserve as long as no
    guaranteed ticket has been handed out (nftGuar: no NFT-draw cursor is saved) -/
structure LpSide (v : Variant) (T0 : Nat) (s : State) : Prop where
  res : s.flags.filtered = false → reserveOf v s = T0
  early : v.hasGuaranteed = true → s.flags.filtered = false →
    s.flags.additional = false ∧ (v = .nftGuar → ∀ rg, s.op ≠ .additional (.nft rg))
  owedLe : v.hasGuaranteed = true → s.flags.additional = false →
    (v = .nftGuar → ∀ rg, s.op ≠ .additional (.nft rg)) → s.nrWinning + s.totalGuaranteed ≤ T0
  nrwLe : v.hasGuaranteed = true → s.flags.additional = false → s.nrWinning ≤ T0
  cover : s.deposited = true → LpCover s
  pre : s.deposited = true →
    (v.hasGuaranteed = true →
      s.flags.additional = false ∧ (v = .nftGuar → ∀ rg, s.op ≠ .additional (.nft rg))) →
    s.perTicket * reserveOf v s ≤ s.bal (.esdt s.lpTok) 0
  le : v.vested = true → ∀ a, s.userClaimed a ≤ s.userTotal a

variable {v : Variant} {T0 : Nat} {s : State}

/-- no guaranteed tickets: the reserve is `nrWinning` -/
theorem LpSide.noGuar (hg : v.hasGuaranteed = false) (hv : v.vested = false)
    (hres : s.flags.filtered = false → s.nrWinning = T0) (hc : s.deposited = true → LpCover s) :
    LpSide v T0 s :=
  ⟨fun hf => (reserveOf_noGuar hg).trans (hres hf), fun h => absurd (hg.symm.trans h) nofun,
    fun h => absurd (hg.symm.trans h) nofun, fun h => absurd (hg.symm.trans h) nofun, hc,
    fun hd _ => (reserveOf_noGuar (s := s) hg) ▸ hc hd, fun h => absurd (hv.symm.trans h) nofun⟩

/-- guaranteed tickets: the reserve is `nrWinning + totalGuaranteed` -/
theorem LpSide.guar (hg : v.hasGuaranteed = true)
    (hres : s.flags.filtered = false → s.nrWinning + s.totalGuaranteed = T0 ∧
      s.flags.additional = false ∧ (v = .nftGuar → ∀ rg, s.op ≠ .additional (.nft rg)))
    (hle : s.flags.additional = false → (v = .nftGuar → ∀ rg, s.op ≠ .additional (.nft rg)) →
      s.nrWinning + s.totalGuaranteed ≤ T0)
    (hnrw : s.flags.additional = false → s.nrWinning ≤ T0)
    (hc : s.deposited = true → LpCover s)
    (hpre : s.deposited = true → s.flags.additional = false →
      (v = .nftGuar → ∀ rg, s.op ≠ .additional (.nft rg)) →
      s.perTicket * (s.nrWinning + s.totalGuaranteed) ≤ s.bal (.esdt s.lpTok) 0)
    (hcl : v.vested = true → ∀ a, s.userClaimed a ≤ s.userTotal a) : LpSide v T0 s :=
  ⟨fun hf => (reserveOf_guar hg).trans (hres hf).1, fun _ hf => (hres hf).2, fun _ => hle,
    fun _ => hnrw, hc, fun hd h => (reserveOf_guar (s := s) hg) ▸ hpre hd (h hg).1 (h hg).2, hcl⟩

namespace LpSide

theorem res_noGuar (L : LpSide v T0 s) (hg : v.hasGuaranteed = false)
    (hf : s.flags.filtered = false) : s.nrWinning = T0 :=
  reserveOf_noGuar (s := s) hg ▸ L.res hf

theorem res_guar (L : LpSide v T0 s) (hg : v.hasGuaranteed = true)
    (hf : s.flags.filtered = false) : s.nrWinning + s.totalGuaranteed = T0 :=
  reserveOf_guar (s := s) hg ▸ L.res hf

theorem pre_guar (L : LpSide v T0 s) (hg : v.hasGuaranteed = true) (hd : s.deposited = true)
    (hna : s.flags.additional = false) (hop : v = .nftGuar → ∀ rg, s.op ≠ .additional (.nft rg)) :
    s.perTicket * (s.nrWinning + s.totalGuaranteed) ≤ s.bal (.esdt s.lpTok) 0 :=
  reserveOf_guar (s := s) hg ▸ L.pre hd fun _ => ⟨hna, hop⟩

end LpSide

theorem lpCover_of_reserve
    (h : s.perTicket * (s.nrWinning + s.totalGuaranteed) ≤ s.bal (.esdt s.lpTok) 0) : LpCover s :=
  Nat.le_trans (Nat.mul_le_mul_left _ (Nat.le_add_right _ _)) h

/-- the closed form of the balance with vesting has the outstanding winners' tokens as a term -/
theorem lpCover_of_exact {L : List Nat}
    (heq : s.bal (.esdt s.lpTok) 0 = ownSurplus s + s.perTicket * s.nrWinning
      + sumOver (fun a => s.userTotal a - s.userClaimed a) L) : LpCover s := by
  unfold LpCover
  omega

/-! ### each invariant provides it -/

variable {r : Nat}

theorem _root_.LP.pl_Lp.lpSide (hv : Plain v) (hI : pl_Lp T0 s) : LpSide v T0 s := by
  refine .noGuar (rb_plain_flags hv).2.2.2.2 (rb_plain_flags hv).1
    (fun hf => (hI.num.notFil hf).1) fun hd => ?_
  obtain ⟨k, h1, _⟩ := hI.num.dep hd
  have h1' : s.bal (.esdt s.lpTok) 0 = s.perTicket * (s.nrWinning + k) := h1
  show s.perTicket * s.nrWinning ≤ _
  rw [h1']
  exact Nat.mul_le_mul_left _ (Nat.le_add_right _ _)

theorem _root_.LP.nf_WF.nrw_before_filter (hwf : nf_WF T0 s r) (hf : s.flags.filtered = false) :
    s.nrWinning = T0 := by
  have hns : s.flags.selected = false := by
    cases hq : s.flags.selected with
    | false => rfl
    | true =>
      rcases hwf.phase with ⟨_, h2, _⟩ | ⟨_, hD, _⟩ | ⟨_, hD⟩
      · exact (Bool.noConfusion ((show s.flags.selected = false from h2).symm.trans hq))
      · exact (Bool.noConfusion (hf.symm.trans (show s.flags.filtered = true from hD.filtered)))
      · exact (Bool.noConfusion (hf.symm.trans (show s.flags.filtered = true from hD.filtered)))
  obtain ⟨_, hph⟩ := nf_phase_early hwf.phase hns
  obtain ⟨L0, hp, _⟩ := rb_phase_notFiltered hph hf
  exact hp.nrw

theorem _root_.LP.nf_WF.lpSide (hwf : nf_WF T0 s r) (hI : fl_NftLp s) : LpSide .nft T0 s :=
  .noGuar rfl rfl hwf.nrw_before_filter hI.cover

theorem _root_.LP.v1_WF.lpSide (hv : v1_Fam v) (hwf : v1_WF T0 s r) : LpSide v T0 s := by
  have hnft : v = .nftGuar → ∀ rg, s.op ≠ .additional (.nft rg) := by rcases hv with rfl | rfl <;> nofun
  refine .guar (v1_fam_flags hv).2.2.2.2.1
    (fun hf => ⟨v1_phase_reserve_before_filter hwf.phase hf, (v1_phase_notFiltered hwf.phase hf).1, hnft⟩)
    (fun hna _ => v1_phase_owed_le hwf.phase hna)
    (fun hna => Nat.le_trans (Nat.le_add_right _ _) (v1_phase_owed_le hwf.phase hna))
    (fun hd => ?_) (fun hd hna _ => ?_) (fun h => absurd ((v1_fam_flags hv).1.symm.trans h) nofun)
  · exact Nat.le_trans (Nat.mul_le_mul_left _ (Nat.le_add_right _ _)) (hwf.lp hd)
  · exact v1_owed_open hna ▸ hwf.lp hd

/-- with vesting, before the distribution completes: a deposit made so far covers the reserve -/
theorem _root_.LP.LPI.reserve_le {g : GCore} {p : LProj} (hl : LPI g p)
    (hna : g.core.flags.additional = false) (hd : p.deposited = true) :
    p.perTicket * (g.core.nrWinning + g.tg) ≤ p.lpBal := by
  obtain ⟨k1, k2⟩ := (hl.pre hna).dep hd
  rw [k1]; exact k2

theorem _root_.LP.g1_WF.lpSide (hwf : g1_WF T0 s r) : LpSide .guarV1 T0 s := by
  have hpre : s.flags.additional = false → s.deposited = true →
      s.perTicket * (s.nrWinning + s.totalGuaranteed) ≤ s.bal (.esdt s.lpTok) 0 :=
    hwf.vs.lp.reserve_le
  refine .guar rfl
    (fun hf => ⟨v1_phase_reserve_before_filter hwf.phase hf, (v1_phase_notFiltered hwf.phase hf).1, nofun⟩)
    (fun hna _ => v1_phase_owed_le hwf.phase hna)
    (fun hna => Nat.le_trans (Nat.le_add_right _ _) (v1_phase_owed_le hwf.phase hna))
    (fun hd => ?_) (fun hd hna _ => hpre hna hd) (fun _ a => (hwf.vs.lp.records a).2)
  cases ha : s.flags.additional with
  | false => exact lpCover_of_reserve (hpre ha hd)
  | true =>
    obtain ⟨L, _, _, heq⟩ := g1_lp_exact hwf ⟨(v1_phase_D hwf.phase ha).selected, ha⟩
    exact lpCover_of_exact heq

theorem v2_owed_le {T0 : Nat} {s : State} {r : Nat} (hwf : WF2 T0 s r)
    (hna : s.flags.additional = false) : s.nrWinning + s.totalGuaranteed ≤ T0 := by
  have htg := hwf.tgLe
  rcases hwf.phase with ⟨_, hns, _, hph⟩ | hE | hF
  · rcases hph with ⟨L0, hp, _⟩ | hC | hD
    · have : s.nrWinning = T0 - s.totalGuaranteed := hp.nrw
      omega
    · have : s.nrWinning = min (T0 - s.totalGuaranteed) s.lastTicketId := hC.nrw
      omega
    · have h1 : s.flags.selected = true := hD.selected
      have h2 : s.flags.selected = false := hns
      rw [h2] at h1; cases h1
  · have : s.nrWinning = min (T0 - s.totalGuaranteed) s.lastTicketId := hE.nrw
    omega
  · have h1 : s.flags.additional = true := hF.add
    rw [hna] at h1; cases h1

theorem _root_.LP.WF2.lpSide (hwf : WF2 T0 s r) : LpSide .guarV2 T0 s := by
  have htg := hwf.tgLe
  have hpre : s.flags.additional = false → s.deposited = true →
      s.perTicket * (s.nrWinning + s.totalGuaranteed) ≤ s.bal (.esdt s.lpTok) 0 :=
    hwf.lp.reserve_le
  refine .guar rfl (fun hf => ?_) (fun hna _ => v2_owed_le hwf hna)
    (fun hna => Nat.le_trans (Nat.le_add_right _ _) (v2_owed_le hwf hna))
    (fun hd => ?_) (fun hd hna _ => hpre hna hd) (fun _ a => (hwf.lp.records a).2)
  · rcases hwf.phase with ⟨hna, _, _, hph⟩ | hE | hF
    · obtain ⟨L0, hp, _⟩ := rb_phase_notFiltered hph hf
      have : s.nrWinning = T0 - s.totalGuaranteed := hp.nrw
      exact ⟨by omega, hna, nofun⟩
    · exact Bool.noConfusion (hf.symm.trans (show s.flags.filtered = true from hE.filtered))
    · exact Bool.noConfusion (hf.symm.trans (show s.flags.filtered = true from hF.d.filtered))
  · cases ha : s.flags.additional with
    | false => exact lpCover_of_reserve (hpre ha hd)
    | true =>
      obtain ⟨L, _, _, heq⟩ := vv_lp_exact hwf ⟨(v2_phase_F hwf.phase ha).d.selected, ha⟩
      exact lpCover_of_exact heq

theorem ng_op_not_nft_of_notFiltered {T0 : Nat} {s : State} {r : Nat} (hwf : ng_WF T0 s r)
    (hf : s.flags.filtered = false) : ∀ rg, s.op ≠ .additional (.nft rg) := by
  obtain ⟨hna, htg, L0, hp, hab⟩ := ng_phase_notFiltered hwf.phase hf
  exact ng_op_not_nft (T0 := T0) (g := v1_gv s) (Or.inl ⟨hna, htg, Or.inl ⟨L0, hp, hab⟩⟩)

/-- `hnl`: the NFT fee is not kept in the launchpad-token slot -/
theorem _root_.LP.ng_WF.lpSide (hwf : ng_WF T0 s r) (hnl : ¬ (nf_side s).isLp) :
    LpSide .nftGuar T0 s := by
  have hlp := hwf.lp (Or.inl hnl)
  have hnw : s.nrWinning ≤ ng_owed s := by
    unfold ng_owed
    split
    · exact Nat.le_refl _
    · exact Nat.le_add_right _ _
  refine .guar rfl
    (fun hf => ⟨ng_reserve_before_filter hwf hf, (ng_phase_notFiltered hwf.phase hf).1,
      fun _ => ng_op_not_nft_of_notFiltered hwf hf⟩)
    (fun hna hop => ?_) (fun hna => ?_) (fun hd => ?_) (fun hd hna hop => ?_) nofun
  · exact v1_owed_open hna ▸ ng_owed_of_not (hop rfl) ▸ ng_owed_le_T0 hwf hna
  · exact Nat.le_trans hnw (ng_owed_le_T0 hwf hna)
  · exact Nat.le_trans (Nat.mul_le_mul_left _ hnw) (hlp hd)
  · exact v1_owed_open hna ▸ ng_owed_of_not (hop rfl) ▸ hlp hd

/-! ### all eight contracts -/

variable {hash : List Nat → List Nat} {a0 : InitArgs}

/-- the one place where the six invariants are asked for the launchpad-token side -/
theorem ReachOfA.lpSide (h : ReachOfA hash v a0 s r) : LpSide v a0.nrWinning s := by
  have hfee := h.toReachOf.static.feeNe
  cases v <;> simp only [ReachOfA] at h
  · exact (pl_reachA (.inl rfl) h).lpSide (.inl rfl)
  · exact (pl_reachA (.inr rfl) h).lpSide (.inr rfl)
  · exact (nf_reach_WF h).lpSide (fl_reach_NftLp (Reach_iff.mpr ⟨a0, h⟩))
  · exact (g1_reach_WF h).lpSide
  · exact (reach_WF2 h).lpSide
  · exact (v1_reach_WF (.inl rfl) h).lpSide (.inl rfl)
  · exact (v1_reach_WF (.inr rfl) h).lpSide (.inr rfl)
  · exact (ng_reach_WF h).lpSide fun hh => hfee hh.1

/-- from the deposit on the launchpad tokens held cover the outstanding winners -/
theorem ReachOf.lpCover (h : ReachOf hash v s r) (hd : s.deposited = true) : LpCover s :=
  have ⟨_, hA⟩ := ReachOf_iff.mp h
  hA.lpSide.cover hd

/-- after completion the launchpad tokens held cover `perTicket × (winning tickets)` of every
    participant, whatever claims and withdrawals happened before -/
theorem ReachOf.winner_covered (h : ReachOf hash v s r) (hd : AllDone s) (a : Nat) :
    s.perTicket * winCountOf s a ≤ s.bal (.esdt s.lpTok) 0 ∧ winCountOf s a ≤ s.nrWinning := by
  obtain ⟨L, _, _, hwin, hle, hrg⟩ := h.three_counts hd rfl
  have hwn : winCountOf s a ≤ s.nrWinning := by
    cases hr : s.range a with
    | none => rw [winCountOf_none hr]; exact Nat.zero_le _
    | some rg => exact hwin ▸ rb_le_sumOver (winCountOf s) L a (hrg a rg hr).1
  refine ⟨?_, hwn⟩
  cases hdep : s.deposited with
  | false =>
    have h0 : winCountOf s a = 0 := Nat.le_zero.mp (h.noConf hdep a ▸ hle a)
    rw [h0]; exact Nat.zero_le _
  | true => exact Nat.le_trans (Nat.mul_le_mul_left _ hwn) (h.lpCover hdep)

/-- C02 in a reachable state after the deposit -/
theorem ReachOfA.cover (h : ReachOfA hash v a0 s r) (hd : s.deposited = true) :
    CoverSpec v a0.nrWinning s := by
  have L := h.lpSide
  refine ⟨h.toReachOf.static.tokNe, L.cover hd, fun hf => ?_, fun hna hop => L.pre hd fun _ => ⟨hna, hop⟩,
    fun hD => ?_⟩
  · have hres := L.res hf
    exact ⟨hres, hres ▸ L.pre hd fun hg => L.early hg hf⟩
  · obtain ⟨Lw, h1, _, hwin, _, hrg⟩ := h.toReachOf.three_counts hD rfl
    refine ⟨Lw, h1, fun a rg hr => (hrg a rg hr).1, hwin, fun _ => hwin ▸ L.cover hd, fun hv => ?_⟩
    obtain ⟨Lv, k1, k2, k3⟩ := h.toReachOf.lp_exact hv hD
    exact ⟨Lv, k1, k2, L.le hv, hwin ▸ k3⟩

end LP.Props.AllVariants
