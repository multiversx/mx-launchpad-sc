import LP.Proofs.StepLemmas
import LP.Proofs.Locked
/-
  The unlock schedules of `launchpad-guaranteed-tickets` (v1: start/initial/times/pct/period) and
  `launchpad-guaranteed-tickets-v2` (v2: milestones), both in `src/token_release.rs`, and the
  vesting claim.
  Schedules: what the validation accepts, and the unlocked percentage as a function of the round
  (monotone, at most 100 %, 0 before the first release, 100 % after the last).
  Claims: `entitled E pct = E * pct / 10000` is the cumulative amount due; a claim pays the
  difference to what is booked (`claimStep`), so a run of claims ends on the entitlement of the
  last round (`claimFold_last`).
  Endpoint: `claimVested = claimSettle; claimable; claimPay` (`claimVested_eq`, `claimVested_ok_iff`);
  what each part does is in LP/Proofs/ClaimVested.lean.
-/
namespace LP

theorem MAX_PERCENTAGE_eq : MAX_PERCENTAGE = 10000 := rfl

theorem req_bind_ok {α : Type} {c : Bool} {msg : String} {f : Unit → Res α} {x : α} :
    (req c msg >>= f) = .ok x ↔ c = true ∧ f () = .ok x := by
  cases c <;> simp [req, bind, Except.bind]

theorem bsub_eq_ok {a b c : Nat} {site : String} :
    bsub a b site = .ok c ↔ b ≤ a ∧ c = a - b := by
  unfold bsub
  split
  · simp [*, eq_comm]
  · simp [*]

/-! ### v2 schedules: sums, order -/

def sumPct (ms : List (Nat × Nat)) : Nat := (ms.map (·.2)).sum

def roundsSorted (ms : List (Nat × Nat)) : Prop := ms.Pairwise (fun a b => a.1 ≤ b.1)

def reachedSum (now : Nat) (ms : List (Nat × Nat)) : Nat :=
  sumPct (ms.filter (fun m => decide (m.1 ≤ now)))

@[simp] theorem sumPct_nil : sumPct [] = 0 := rfl
@[simp] theorem sumPct_cons (m : Nat × Nat) (ms : List (Nat × Nat)) :
    sumPct (m :: ms) = m.2 + sumPct ms := by simp [sumPct]

/-- `26280000` is `MAX_RELEASE_ROUND_DIFF` (launchpad-guaranteed-tickets-v2/src/token_release.rs:8,
    five years of 6 s rounds) -/
def milestoneOk (now : Nat) (m : Nat × Nat) : Prop :=
  m.2 ≤ 10000 ∧ now ≤ m.1 ∧ m.1 ≤ now + 26280000

theorem validateMilestones_eq_some (now : Nat) (ms : List (Nat × Nat)) (last total T : Nat) :
    validateMilestones now ms last total = some T ↔
      (∀ m ∈ ms, milestoneOk now m) ∧ (∀ m ∈ ms, last ≤ m.1) ∧ roundsSorted ms ∧
      T = total + sumPct ms := by
  induction ms generalizing last total with
  | nil => simp [validateMilestones, roundsSorted, eq_comm]
  | cons m rest ih =>
    obtain ⟨r, p⟩ := m
    unfold validateMilestones
    simp only [List.forall_mem_cons, roundsSorted, List.pairwise_cons, milestoneOk, sumPct_cons]
    split
    · rename_i hc
      simp [MAX_PERCENTAGE, MAX_RELEASE_ROUND_DIFF] at hc
      constructor
      · nofun
      · rintro ⟨⟨_, _⟩, ⟨_, _⟩, _, _⟩
        omega
    · rename_i hc
      simp [MAX_PERCENTAGE, MAX_RELEASE_ROUND_DIFF] at hc
      rw [ih]
      constructor
      · rintro ⟨h1, h2, h3, h4⟩
        exact ⟨⟨⟨by omega, by omega, by omega⟩, h1⟩, ⟨by omega, fun m hm => Nat.le_trans (by omega) (h2 m hm)⟩,
          ⟨h2, h3⟩, by omega⟩
      · rintro ⟨⟨_, h1⟩, _, ⟨h2, h3⟩, h4⟩
        exact ⟨h1, h2, h3, by omega⟩

theorem validSchedule2_iff' (now : Nat) (ms : List (Nat × Nat)) :
    validSchedule2 now ms = true ↔
      ms ≠ [] ∧ (∀ m ∈ ms, milestoneOk now m) ∧ roundsSorted ms ∧ sumPct ms = 10000 := by
  unfold validSchedule2
  simp only [Bool.and_eq_true, Bool.not_eq_true', List.isEmpty_eq_false_iff, ne_eq, beq_iff_eq,
    validateMilestones_eq_some, MAX_PERCENTAGE, Nat.zero_le, implies_true, true_and, Nat.zero_add,
    eq_comm (a := 10000)]

/-! ### v2: the unlocked percentage -/

theorem unlockedPct2_cons {now : Nat} {m : Nat × Nat} (h : m.1 ≤ now) (rest : List (Nat × Nat)) :
    unlockedPct2 now (m :: rest) = m.2 + unlockedPct2 now rest := if_pos h

theorem unlockedPct2_before_first (now : Nat) (m : Nat × Nat) (rest : List (Nat × Nat))
    (h : now < m.1) : unlockedPct2 now (m :: rest) = 0 := if_neg (Nat.not_le.2 h)

theorem unlockedPct2_mono {now now' : Nat} (h : now ≤ now') (ms : List (Nat × Nat)) :
    unlockedPct2 now ms ≤ unlockedPct2 now' ms := by
  induction ms with
  | nil => exact Nat.le_refl _
  | cons m rest ih =>
    by_cases h1 : m.1 ≤ now
    · rw [unlockedPct2_cons h1, unlockedPct2_cons (Nat.le_trans h1 h)]
      exact Nat.add_le_add_left ih _
    · rw [unlockedPct2_before_first now m rest (Nat.not_le.1 h1)]
      exact Nat.zero_le _

theorem unlockedPct2_le_sum (now : Nat) (ms : List (Nat × Nat)) :
    unlockedPct2 now ms ≤ sumPct ms := by
  induction ms with
  | nil => exact Nat.le_refl _
  | cons m rest ih =>
    by_cases h1 : m.1 ≤ now
    · rw [unlockedPct2_cons h1, sumPct_cons]
      exact Nat.add_le_add_left ih _
    · rw [unlockedPct2_before_first now m rest (Nat.not_le.1 h1)]
      exact Nat.zero_le _

/-- with non-decreasing rounds the early `break` loses nothing -/
theorem unlockedPct2_eq_reachedSum (now : Nat) (ms : List (Nat × Nat)) (hs : roundsSorted ms) :
    unlockedPct2 now ms = reachedSum now ms := by
  induction ms with
  | nil => rfl
  | cons m rest ih =>
    simp only [roundsSorted, List.pairwise_cons] at hs
    by_cases h1 : m.1 ≤ now
    · rw [unlockedPct2_cons h1, ih hs.2]
      simp [reachedSum, h1]
    · have hnone : rest.filter (fun m => decide (m.1 ≤ now)) = [] := by
        rw [List.filter_eq_nil_iff]
        intro m' hm
        have := hs.1 m' hm
        simp only [decide_eq_true_eq]
        omega
      rw [unlockedPct2_before_first now m rest (Nat.not_le.1 h1)]
      simp [reachedSum, h1, hnone]

theorem unlockedPct2_all (now : Nat) (ms : List (Nat × Nat)) (h : ∀ m ∈ ms, m.1 ≤ now) :
    unlockedPct2 now ms = sumPct ms := by
  induction ms with
  | nil => rfl
  | cons m rest ih =>
    simp only [List.forall_mem_cons] at h
    rw [unlockedPct2_cons h.1, ih h.2, sumPct_cons]

theorem roundsSorted_le_last (ms : List (Nat × Nat)) (hs : roundsSorted ms) (hne : ms ≠ []) :
    ∀ m ∈ ms, m.1 ≤ (ms.getLast hne).1 := by
  induction ms with
  | nil => exact absurd rfl hne
  | cons a rest ih =>
    simp only [roundsSorted, List.pairwise_cons] at hs
    by_cases hr : rest = []
    · subst hr
      simp
    · intro m hm
      rw [List.getLast_cons hr]
      rcases List.mem_cons.1 hm with rfl | hm
      · exact hs.1 _ (List.getLast_mem hr)
      · exact ih hs.2 hr m hm

theorem unlockedPct2_after_last (now : Nat) (ms : List (Nat × Nat)) (hs : roundsSorted ms)
    (hne : ms ≠ []) (h : (ms.getLast hne).1 ≤ now) : unlockedPct2 now ms = sumPct ms :=
  unlockedPct2_all now ms (fun m hm => Nat.le_trans (roundsSorted_le_last ms hs hne m hm) h)

theorem unlockedPct2_default (now : Nat) : unlockedPct2 now defaultSchedule2 = 10000 :=
  unlockedPct2_cons (Nat.zero_le now) []

theorem defaultSchedule2_sorted : roundsSorted defaultSchedule2 := List.pairwise_singleton ..

theorem defaultSchedule2_sum : sumPct defaultSchedule2 = 10000 := rfl

/-! ### the abstract claim process -/

/-- cumulative amount due to a winner with entitlement `E` when `pct` basis points are unlocked -/
def entitled (E pct : Nat) : Nat := E * pct / 10000

/-- one claim pays `entitled E pct - claimed` (truncated at 0); the new cumulative amount -/
def claimStep (E pct claimed : Nat) : Nat := claimed + (entitled E pct - claimed)

/-- claims at the rounds `rs` (in this order), starting from cumulative `c0` -/
def claimFold (E : Nat) (pct : Nat → Nat) (rs : List Nat) (c0 : Nat) : Nat :=
  rs.foldl (fun c r => claimStep E (pct r) c) c0

def claimPayouts (E : Nat) (pct : Nat → Nat) : List Nat → Nat → List Nat
  | [], _ => []
  | r :: rs, c => (entitled E (pct r) - c) :: claimPayouts E pct rs (claimStep E (pct r) c)

/-! `entitled E p` and `lockSplit E p` are the same expression `E * p / 10000`. -/

theorem entitled_mono (E : Nat) {p q : Nat} (h : p ≤ q) : entitled E p ≤ entitled E q :=
  lockSplit_mono_pct E h

theorem entitled_le (E : Nat) {p : Nat} (h : p ≤ 10000) : entitled E p ≤ E := lockSplit_le h

theorem entitled_full (E : Nat) : entitled E 10000 = E := lockSplit_full E

theorem entitled_zero (E : Nat) : entitled E 0 = 0 := lockSplit_zero_pct E

theorem claimStep_eq {E pct claimed : Nat} (h : claimed ≤ entitled E pct) :
    claimStep E pct claimed = entitled E pct := by
  unfold claimStep; omega

theorem claimStep_ge (E pct claimed : Nat) : claimed ≤ claimStep E pct claimed := by
  unfold claimStep; omega

theorem claimStep_le {E pct claimed : Nat} (hp : pct ≤ 10000) (hc : claimed ≤ E) :
    claimStep E pct claimed ≤ E := by
  have := entitled_le E hp
  unfold claimStep; omega

theorem claimFold_nil (E : Nat) (pct : Nat → Nat) (c0 : Nat) : claimFold E pct [] c0 = c0 := rfl

theorem claimFold_cons (E : Nat) (pct : Nat → Nat) (r : Nat) (rs : List Nat) (c0 : Nat) :
    claimFold E pct (r :: rs) c0 = claimFold E pct rs (claimStep E (pct r) c0) := rfl

theorem claimFold_append (E : Nat) (pct : Nat → Nat) (rs rs' : List Nat) (c0 : Nat) :
    claimFold E pct (rs ++ rs') c0 = claimFold E pct rs' (claimFold E pct rs c0) := by
  simp [claimFold, List.foldl_append]

theorem claimFold_ge (E : Nat) (pct : Nat → Nat) (rs : List Nat) (c0 : Nat) :
    c0 ≤ claimFold E pct rs c0 := by
  induction rs generalizing c0 with
  | nil => exact Nat.le_refl _
  | cons r rs ih =>
    rw [claimFold_cons]
    exact Nat.le_trans (claimStep_ge E (pct r) c0) (ih _)

theorem claimFold_le (E : Nat) (pct : Nat → Nat) (hp : ∀ r, pct r ≤ 10000) (rs : List Nat)
    (c0 : Nat) (h0 : c0 ≤ E) : claimFold E pct rs c0 ≤ E := by
  induction rs generalizing c0 with
  | nil => exact h0
  | cons r rs ih =>
    rw [claimFold_cons]
    exact ih _ (claimStep_le (hp r) h0)

/-- path independence (monotone schedule, claims in round order, nothing booked beyond the first
    round's entitlement): the cumulative amount after the last claim depends only on its round -/
theorem claimFold_last (E : Nat) (pct : Nat → Nat) (hmono : ∀ a b, a ≤ b → pct a ≤ pct b)
    (rs : List Nat) (hs : rs.Pairwise (· ≤ ·)) (hne : rs ≠ []) (c0 : Nat)
    (h0 : c0 ≤ entitled E (pct (rs.head hne))) :
    claimFold E pct rs c0 = entitled E (pct (rs.getLast hne)) := by
  induction rs generalizing c0 with
  | nil => exact absurd rfl hne
  | cons r rest ih =>
    rw [claimFold_cons]
    simp only [List.head_cons] at h0
    rw [claimStep_eq h0]
    simp only [List.pairwise_cons] at hs
    by_cases hr : rest = []
    · subst hr
      simp [claimFold]
    · rw [List.getLast_cons hr]
      apply ih hs.2 hr
      exact entitled_mono E (hmono _ _ (hs.1 _ (List.head_mem hr)))

theorem claimPayouts_sum (E : Nat) (pct : Nat → Nat) (rs : List Nat) (c0 : Nat) :
    c0 + (claimPayouts E pct rs c0).sum = claimFold E pct rs c0 := by
  induction rs generalizing c0 with
  | nil => simp [claimPayouts, claimFold]
  | cons r rs ih =>
    rw [claimFold_cons, ← ih]
    simp only [claimPayouts, List.sum_cons, claimStep]
    omega

/-! ### v2: `claimable2` -/

def sched2Of (s : State) : List (Nat × Nat) := s.sched2.getD defaultSchedule2

def entitled2 (s : State) (a now : Nat) : Nat :=
  entitled (s.userTotal a) (unlockedPct2 now (sched2Of s))

theorem entitled2_mono (s : State) (a : Nat) {r r' : Nat} (h : r ≤ r') :
    entitled2 s a r ≤ entitled2 s a r' :=
  entitled_mono _ (unlockedPct2_mono h _)

theorem claimable2_eq (s : State) (e : Env) (a : Nat) :
    claimable2 s e a =
      if s.userTotal a = 0 then .ok 0
      else if s.userClaimed a < s.userTotal a then
        bsub (entitled2 s a e.round) (s.userClaimed a) "claimable - claimed"
      else .error (.user "Already claimed all tokens") := by
  unfold claimable2
  by_cases h0 : s.userTotal a = 0
  · simp [h0]
  · by_cases h1 : s.userClaimed a < s.userTotal a
    · simp [h0, h1, req, bind, Except.bind, entitled2, entitled, sched2Of, MAX_PERCENTAGE]
    · simp [h0, h1, req, bind, Except.bind]

/-! ### v1: the unlocked percentage -/

/-- what `setSchedule1` demands of the numbers of a v1 schedule -/
def validSched1 (sc : Sched1) : Prop :=
  (sc.period > 0 ∨ sc.initial = 10000) ∧ sc.initial + sc.times * sc.pct = 10000

def periodsAt (now : Nat) (sc : Sched1) : Nat :=
  if (now - sc.start) / sc.period > sc.times then sc.times else (now - sc.start) / sc.period

theorem unlockedPct1_eq (now : Nat) (sc : Sched1) :
    unlockedPct1 now sc =
      if sc.start > now then 0
      else if sc.initial = 10000 then 10000
      else sc.initial + sc.pct * periodsAt now sc := rfl

theorem periodsAt_le_times (now : Nat) (sc : Sched1) : periodsAt now sc ≤ sc.times := by
  unfold periodsAt; split <;> omega

theorem periodsAt_mono (sc : Sched1) {now now' : Nat} (h : now ≤ now') :
    periodsAt now sc ≤ periodsAt now' sc := by
  have hd : (now - sc.start) / sc.period ≤ (now' - sc.start) / sc.period :=
    Nat.div_le_div_right (by omega)
  unfold periodsAt
  split <;> split <;> omega

theorem periodsAt_full (sc : Sched1) {now : Nat} (hp : sc.period > 0)
    (h : sc.start + sc.times * sc.period ≤ now) : periodsAt now sc = sc.times := by
  have : sc.times ≤ (now - sc.start) / sc.period := by
    rw [Nat.le_div_iff_mul_le hp]; omega
  unfold periodsAt
  split <;> omega

theorem unlockedPct1_mono (sc : Sched1) {now now' : Nat} (h : now ≤ now') :
    unlockedPct1 now sc ≤ unlockedPct1 now' sc := by
  rw [unlockedPct1_eq, unlockedPct1_eq]
  by_cases h1 : sc.start > now
  · simp [h1]
  · have h1' : ¬ sc.start > now' := by omega
    rw [if_neg h1, if_neg h1']
    by_cases h2 : sc.initial = 10000
    · simp [h2]
    · rw [if_neg h2, if_neg h2]
      exact Nat.add_le_add_left (Nat.mul_le_mul_left _ (periodsAt_mono sc h)) _

theorem unlockedPct1_le (sc : Sched1) (hv : validSched1 sc) (now : Nat) :
    unlockedPct1 now sc ≤ 10000 := by
  rw [unlockedPct1_eq]
  split
  · omega
  · split
    · omega
    · have h1 : sc.pct * periodsAt now sc ≤ sc.pct * sc.times :=
        Nat.mul_le_mul_left _ (periodsAt_le_times now sc)
      have h2 : sc.pct * sc.times = sc.times * sc.pct := Nat.mul_comm _ _
      have := hv.2
      omega

theorem unlockedPct1_before (sc : Sched1) {now : Nat} (h : now < sc.start) :
    unlockedPct1 now sc = 0 := by
  rw [unlockedPct1_eq, if_pos h]

theorem unlockedPct1_full (sc : Sched1) (hv : validSched1 sc) {now : Nat}
    (h : sc.start + sc.times * sc.period ≤ now ∨ (sc.initial = 10000 ∧ sc.start ≤ now)) :
    unlockedPct1 now sc = 10000 := by
  rw [unlockedPct1_eq]
  have h1 : ¬ sc.start > now := by rcases h with h | h <;> omega
  rw [if_neg h1]
  by_cases h2 : sc.initial = 10000
  · rw [if_pos h2]
  · have hp : sc.period > 0 := hv.1.resolve_right h2
    have hfull : sc.start + sc.times * sc.period ≤ now := h.resolve_right fun h => h2 h.1
    rw [if_neg h2, periodsAt_full sc hp hfull, Nat.mul_comm]
    exact hv.2

theorem unlockedPct1_step (sc : Sched1) (hi : sc.initial = 10000) (now : Nat) :
    unlockedPct1 now sc = if sc.start > now then 0 else 10000 := by
  rw [unlockedPct1_eq]
  split
  · rfl
  · simp

/-! ### v1: `claimable1` -/

/-- nothing is unlocked while no v1 schedule is stored -/
def pct1 (now : Nat) : Option Sched1 → Nat
  | none => 0
  | some sc => unlockedPct1 now sc

theorem pct1_mono (o : Option Sched1) {now now' : Nat} (h : now ≤ now') :
    pct1 now o ≤ pct1 now' o := by
  cases o with
  | none => exact Nat.le_refl _
  | some sc => exact unlockedPct1_mono sc h

def entitled1 (s : State) (a now : Nat) : Nat :=
  entitled (s.userTotal a) (pct1 now s.sched1)

theorem entitled1_mono (s : State) (a : Nat) {r r' : Nat} (h : r ≤ r') :
    entitled1 s a r ≤ entitled1 s a r' :=
  entitled_mono _ (pct1_mono _ h)

theorem claimable1_eq (s : State) (e : Env) (a : Nat) :
    claimable1 s e a =
      if s.userTotal a = 0 then .ok 0
      else if s.userClaimed a < s.userTotal a then
        match s.sched1 with
        | none => .ok 0
        | some sc =>
          if sc.start > e.round then .ok 0
          else if sc.initial = 10000 then .ok (s.userTotal a)
          else bsub (entitled1 s a e.round) (s.userClaimed a) "claimable - claimed"
      else .error (.user "Already claimed all tokens") := by
  unfold claimable1
  by_cases h0 : s.userTotal a = 0
  · simp [h0]
  · by_cases h1 : s.userClaimed a < s.userTotal a
    · simp only [h0, h1, if_false, if_true, req, bind, Except.bind, decide_true, pure, Except.pure,
        entitled1, entitled, MAX_PERCENTAGE]
      cases hs : s.sched1 with
      | none => rfl
      | some sc => simp only [pct1]; rfl
    · simp [h0, h1, req, bind, Except.bind]

/-! ### the endpoints that store a schedule -/

theorem setSchedule1_eq_ok (s s' : State) (e : Env) (start initial times pct period : Nat) :
    setSchedule1 s e start initial times pct period = .ok s' ↔
      (e.round < s.cfg.conf ∨ s.sched1 = none) ∧ start ≥ e.round ∧
      (period > 0 ∨ initial = 10000) ∧ initial + times * pct = 10000 ∧
      s' = { s with sched1 := some ⟨start, initial, times, pct, period⟩ } := by
  unfold setSchedule1
  simp only [req_bind_ok, pure, Except.pure, Except.ok.injEq, MAX_PERCENTAGE, Bool.or_eq_true,
    decide_eq_true_eq, beq_iff_eq, Option.isNone_iff_eq_none, eq_comm (a := s')]

theorem requireStage_bind_ok {α : Type} {s : State} {e : Env} {st : Stage} {msg : String}
    {f : Unit → Res α} {x : α} :
    (requireStage s e st msg >>= f) = .ok x ↔ s.stage e = st ∧ f () = .ok x := by
  unfold requireStage
  rw [req_bind_ok, beq_iff_eq]

theorem setSchedule2_eq_ok (t t' : Tx) (e : Env) (ms : List (Nat × Nat)) :
    setSchedule2 t e ms = .ok t' ↔
      t.s.stage e = .addTickets ∧ ms.length ≤ 60 ∧ validSchedule2 e.round ms = true ∧
      t' = (t.setS { t.s with sched2 := some ms }).emit ⟨"setUnlockSchedule", topics e,
        [e.caller, e.round, e.epoch, ms.length] ++ flattenPairs ms⟩ := by
  unfold setSchedule2
  simp only [requireStage_bind_ok, req_bind_ok, pure, Except.pure, Except.ok.injEq,
    MAX_UNLOCK_MILESTONES_ENTRIES, eq_comm (a := t')]
  constructor
  · rintro ⟨a, b, c, d⟩
    exact ⟨a, of_decide_eq_true b, c, d⟩
  · rintro ⟨a, b, c, d⟩
    exact ⟨a, decide_eq_true b, c, d⟩

/-! ### `claimVested` -/

def claimableV (s : State) (e : Env) (a : Nat) : Res Nat :=
  if s.variant.isV2 then claimable2 s e a else claimable1 s e a

def claimSettle (t : Tx) (e : Env) : Res Tx :=
  if t.s.claimed e.caller then pure t else do
    let (s, redeem, refund) ← settle t.s e
    let t ← (t.setS s).refund e e.caller refund
    pure (if redeem > 0 then
      t.setS { t.s with userTotal := upd t.s.userTotal e.caller (redeem * t.s.perTicket) } else t)

def claimPay (v2 : Bool) (t : Tx) (e : Env) (c : Nat) : Res Tx :=
  if c > 0 then do
    let t ← t.send e.caller ⟨.esdt t.s.lpTok, 0, c⟩
    let t := t.setS { t.s with userClaimed := upd t.s.userClaimed e.caller (t.s.userClaimed e.caller + c) }
    pure (if v2 then t.emit ⟨"claimLaunchpadTokens", topics e,
      [e.caller, e.round, e.epoch, t.s.lpTok + 1, 0, c]⟩ else t)
  else pure t

/-- `claimVested` after the pause check -/
def claimBody (v2 : Bool) (t : Tx) (e : Env) : Res Tx :=
  claimSettle t e >>= fun t1 =>
    (if v2 then claimable2 t1.s e e.caller else claimable1 t1.s e e.caller) >>= fun c =>
      claimPay v2 t1 e c

theorem claimVested_eq (t : Tx) (e : Env) :
    claimVested t e =
      if t.s.variant.isV2 then
        req (!t.s.paused) "Contract is paused" >>= fun _ => claimBody true t e
      else claimBody false t e := by
  unfold claimVested claimBody claimSettle claimPay
  generalize t.s.variant.isV2 = b
  -- for a settled caller both sides compute to the same term; otherwise the continuation,
  -- which `claimVested` carries inside the settle branch, is moved behind it
  cases b <;> cases t.s.claimed e.caller
  · simp only [bind_assoc, pure_bind, Bool.false_eq_true, if_false]
  · rfl
  · simp only [bind_assoc, pure_bind, Bool.false_eq_true, if_false, if_true]
  · rfl

/-- a vested claim in its parts: the pause check (v2), the first-claim part, the claimable amount
    read on the state after it, the payment -/
theorem claimVested_ok_iff (t : Tx) (e : Env) (t' : Tx) :
    claimVested t e = .ok t' ↔
      (t.s.variant.isV2 = true → t.s.paused = false) ∧
      ∃ t1 c, claimSettle t e = .ok t1 ∧
        (if t.s.variant.isV2 then claimable2 t1.s e e.caller else claimable1 t1.s e e.caller) = .ok c ∧
        claimPay t.s.variant.isV2 t1 e c = .ok t' := by
  rw [claimVested_eq]
  unfold claimBody
  cases t.s.variant.isV2 <;> simp [bind_ok_iff]

end LP
