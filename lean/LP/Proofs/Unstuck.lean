import LP.Proofs.ReachBEAll
import LP.Proofs.Resume
import LP.Proofs.ResumeFrame
import LP.Props.C19frame
import LP.Proofs.LoopOutcome
/-
  C04 / C19 at the level of REACHABLE states: no selection step can be left stuck (prefix `us_`).

  `us_Live c` is what the reachable-state invariants say about the cursor of the filter (read off
  the shape all eight contracts share before the filter completes, `be_Common.shape`) and of
  the base lottery (read off `PhC` of the variant's family); every `be_Covered` state satisfies it
  (`us_live_covered`).  From it, `filter`, `select` (and `selectNft` of
  `Variant.nft`) are accepted in every covered, unpaused state in the selection stage and complete
  or strictly decrease a measure; `us_run_completes` turns that into completion along any
  `measure + 1` calls.  For C19 (`C04unstuck.saved_operation_survives`), `us_Kept` is what a history
  without the resuming endpoint, pauses included, keeps.
-/
namespace LP
open LP.Props LP.Events LP.FY LP.Props.C17


/-- the filter cursor: `(1, 0)` when nothing is saved, the saved `(first, removed)` otherwise, and
    the loop state it denotes is in the middle of compacting some allocation list -/
def us_Fil (c : Core) : Prop :=
  ∃ (L0 : List (Nat × Nat)) (f rm : Nat), AllocOK c.confirmed L0 ∧
    ((c.op = .none ∧ f = 1 ∧ rm = 0) ∨ c.op = .filter f rm) ∧
    Mid c.confirmed c.lastTicketId L0 ⟨c.range, c.batch, f, rm⟩

/-- `SelCursorOK` read off the core: `us_Sel s.core` unfolds to `SelCursorOK s` -/
abbrev us_Sel (c : Core) : Prop := SelCursorAt c.op c.nrWinning

structure us_Live (c : Core) : Prop where
  fil : c.flags.filtered = false → us_Fil c
  sel : c.flags.filtered = true → c.flags.selected = false → us_Sel c

theorem us_Fil_of_PhA {T0 : Nat} {c : Core} {L0 : List (Nat × Nat)} (hp : Pre T0 c L0) (ha : PhA c L0) :
    us_Fil c := by
  refine ⟨L0, 1, 0, hp.ok, Or.inl ⟨ha.op, rfl, rfl⟩, ?_⟩
  rw [ha.last]
  exact rb_Mid_start ha.chain hp.outR

theorem us_Fil_of_PhB {T0 : Nat} {c : Core} {L0 : List (Nat × Nat)} (hp : Pre T0 c L0) (hb : PhB c L0) :
    us_Fil c := by
  obtain ⟨f, rm, hop, hm⟩ := hb.mid
  exact ⟨L0, f, rm, hp.ok, Or.inr hop, hm⟩

theorem us_Sel_of_PhC {T0 : Nat} {c : Core} (h : PhC T0 c) : us_Sel c := by
  rcases h.sel with ⟨h1, _⟩ | ⟨rng, pos, arr, h1, h2, h3, _⟩
  · exact Or.inl h1
  · exact Or.inr ⟨rng, pos, h1, h2, h3⟩

theorem us_live_covered {hash : List Nat → List Nat} {s : State} {r : Nat}
    (h : be_Covered hash s r) : us_Live s.core := by
  refine ⟨fun hnf => ?_, fun hf hns => ?_⟩
  · -- the filter cursor: from the shape all families share before the filter completes
    obtain ⟨x, hsh⟩ := (be_covered_common h).shape
    cases hsh with
    | pre hp hab => exact hab.elim (us_Fil_of_PhA hp) (us_Fil_of_PhB hp)
    | alloc _ hf _ _ => exact absurd (hf.symm.trans hnf) nofun
    | done hd _ => exact absurd (hd.filtered.symm.trans hnf) nofun
  · -- the lottery cursor: from `PhC` of the variant's family
    cases h with
    | plain hv h =>
      obtain ⟨a0, ha⟩ := Reach_iff.mp h
      exact us_Sel_of_PhC (rb_phase_C (reach_WF hv ha).phase hf hns)
    | guarV2 h =>
      obtain ⟨a0, ha⟩ := Reach_iff.mp h
      exact us_Sel_of_PhC (rb_phase_C (v2_phase_early (reach_WF2 ha).phase hns).2.2 hf hns)
    | nft h =>
      obtain ⟨a0, ha⟩ := Reach_iff.mp h
      exact us_Sel_of_PhC (c := nf_core s)
        (rb_phase_C (nf_phase_early (nf_reach_WF ha).phase hns).2 hf hns)
    | v1 hv h =>
      obtain ⟨a0, ha⟩ := v1_Reach_iff.mp h
      exact us_Sel_of_PhC (v1_phase_C (v1_reach_WF hv ha).phase hf hns).2.2.1
    | guarV1 h =>
      obtain ⟨a0, ha⟩ := g1_Reach_iff.mp h
      exact us_Sel_of_PhC (v1_phase_C (g1_reach_WF ha).phase hf hns).2.2.1
    | nftGuar h =>
      obtain ⟨a0, ha⟩ := ng_Reach_iff.mp h
      exact us_Sel_of_PhC (c := nf_core s) (ng_phase_C (ng_reach_WF ha).phase hf hns).2.2.1


theorem us_stage {s : State} {e : Env} (hv : validPeriods s.cfg = true) (hsel : s.cfg.sel ≤ e.round)
    (hfl : (s.flags.selected && s.flags.additional) = false) : s.stage e = .winnerSelection := by
  obtain ⟨h1, _⟩ := (validPeriods_iff _).mp hv
  exact stage_of_incomplete' s e (by omega) hsel hfl


theorem us_Mid_first_le {conf : Nat → Nat} {last : Nat} {L0 : List (Nat × Nat)} {x : FilSt}
    (hm : Mid conf last L0 x) : 1 ≤ x.first ∧ x.first ≤ last + 1 := by
  obtain ⟨P, S, _, _, _, hfirst, _, hlast, _, _⟩ := hm
  omega

theorem us_filterBody_first {conf : Nat → Nat} {last : Nat} {L0 : List (Nat × Nat)}
    (hok : AllocOK conf L0) {x x' : FilSt}
    (h : filterBody conf last x = .ok (x', true)) (hm : Mid conf last L0 x) : x.first < x'.first := by
  obtain ⟨P, S, hL, hcP, hcS, hfirst, hrem, hlast, hzero, hout⟩ := hm
  cases S with
  | nil =>
    simp only [ticketTotal, Nat.add_zero] at hlast
    rw [filterBody_stop conf last x hlast] at h
    simp at h
  | cons p S' =>
    obtain ⟨a, n⟩ := p
    have han : (a, n) ∈ L0 := by rw [hL]; exact List.mem_append_right _ (List.mem_cons_self ..)
    have hn1 : 1 ≤ n := hok.pos _ han
    have hcn : conf a ≤ n := hok.le _ han
    have hdl : droppedSum conf P ≤ ticketTotal P :=
      rb_dropped_le (fun q hq => hok.le q (by rw [hL]; exact List.mem_append_left _ hq))
    obtain ⟨hb, hr, _⟩ := hcS
    simp only [ticketTotal] at hlast
    have hne : x.first ≠ last + 1 := by omega
    obtain ⟨f1, hbody, hf1, _⟩ := filterBody_step conf last x a n hne hb hr hcn (by omega)
    rw [hbody] at h
    simp only [Except.ok.injEq, Prod.mk.injEq, and_true] at h
    subst h
    omega

/-- the filter loop with the endpoint's fuel `last + 2`, from a state in the middle of the
    compaction: it never fails or runs out of fuel; `x'.removed ≤ last` is what keeps the
    endpoint's final subtraction `last - removed` from underflowing -/
theorem us_filter_loop {conf : Nat → Nat} {last : Nat} {L0 : List (Nat × Nat)}
    (hok : AllocOK conf L0) {x : FilSt} (hm : Mid conf last L0 x) (b : Option Nat) :
    (∃ x' b', runWhile (filterBody conf last) (last + 2) b x = .ok (x', b', .completed) ∧
        x'.removed ≤ last) ∨
    (∃ x' b', runWhile (filterBody conf last) (last + 2) b x = .ok (x', b', .interrupted) ∧
        Mid conf last L0 x' ∧ x.first < x'.first ∧ b ≠ none) := by
  have hm0 := hm
  obtain ⟨P, S, hmps⟩ := Mid_iff.mp hm
  have ⟨hL, _, _, hfirst, _, hlast, _⟩ := hmps
  have hposS : ∀ q ∈ S, 1 ≤ q.2 := fun q hq =>
    hok.pos q (by rw [hL]; exact List.mem_append_right _ hq)
  obtain ⟨f', hrun, ⟨_, _, _, hf1, hfr, hfl, _⟩, _⟩ := hmps.run hok (Nat.le_refl _)
  have hlen := length_le_ticketTotal S hposS
  have hN : S.length + 1 ≤ last + 2 := by omega
  have hf' : f'.removed ≤ last := by
    have := rb_dropped_le (conf := conf) (P := L0) hok.le
    simp only [ticketTotal, Nat.add_zero] at hfl
    omega
  rcases runWhile_live (filterBody conf last) (fun z => last + 1 - z.first) (Mid conf last L0)
      (fun z z' hz hb => by
        have h2 := rb_filterBody_Mid hok hb hz
        have h3 := us_filterBody_first hok hb hz
        have h4 := (us_Mid_first_le h2).2
        exact ⟨h2, by omega⟩)
      hrun hN hm0 b with ⟨b', h⟩ | ⟨x1, h1, hm1, hμ, hb⟩
  · exact Or.inl ⟨f', b', h, hf'⟩
  · have h4 := (us_Mid_first_le hm1).2
    exact Or.inr ⟨x1, some 0, h1, hm1, by omega, hb⟩

/-! ## `filterTickets` is never stuck -/

def us_filCursor (s : State) : Nat :=
  match s.op with
  | .filter f _ => f
  | _ => 1

def us_filLeft (s : State) : Nat := s.lastTicketId + 1 - us_filCursor s

/-- what a call of a resumable step reports in `s'`, `o` when made on `s` in `e`: completed (`[0]`,
    flag set, nothing saved), or interrupted (`[1]`, only possible with a finite budget) -/
structure us_Outcome (s' : State) (o : Out) (e : Env) (flag : State → Bool) (left : State → Nat)
    (s : State) : Prop where
  cases : (o.ret = [0] ∧ flag s' = true ∧ s'.op = .none) ∨
    (o.ret = [1] ∧ flag s' = false ∧ s'.op ≠ .none ∧ left s' < left s ∧ e.budget ≠ none)
  paused : s'.paused = s.paused
  cfg : s'.cfg = s.cfg
  owner : s'.owner = s.owner

theorem us_Outcome.unlimited {s' : State} {o : Out} {e : Env} {flag : State → Bool}
    {left : State → Nat} {s : State} (h : us_Outcome s' o e flag left s) (hb : e.budget = none) :
    o.ret = [0] ∧ flag s' = true ∧ s'.op = .none := by
  rcases h.cases with h1 | ⟨_, _, _, _, h5⟩
  · exact h1
  · exact absurd hb h5

theorem us_filter_step (hash : List Nat → List Nat) {s : State} {e : Env}
    (hl : us_Fil s.core) (hv : validPeriods s.cfg = true) (hnf : s.flags.filtered = false)
    (hns : s.flags.selected = false) (hsel : s.cfg.sel ≤ e.round) (hp : s.paused = false)
    (h1 : e.egld = 0) (h2 : e.esdts = []) :
    (s.op = .none ∨ ∃ f rm, s.op = .filter f rm) ∧ us_filLeft s ≤ s.lastTicketId ∧
    ∃ s' o, step hash s e .filter = .ok (s', o) ∧
      us_Outcome s' o e (fun s => s.flags.filtered) us_filLeft s := by
  obtain ⟨L0, f, rm, hok, hop, hm⟩ := hl
  have hop' : s.op = .none ∧ f = 1 ∧ rm = 0 ∨ s.op = .filter f rm := hop
  have hm' : Mid s.confirmed s.lastTicketId L0 ⟨s.range, s.batch, f, rm⟩ := hm
  have hx : filStOf s = some ⟨s.range, s.batch, f, rm⟩ := by
    rcases hop' with ⟨h, rfl, rfl⟩ | h <;> simp only [filStOf, h]
  have hcur : us_filCursor s = f := by
    rcases hop' with ⟨h, rfl, rfl⟩ | h <;> simp only [us_filCursor, h]
  have hfb := us_Mid_first_le hm'
  have hpre : FilterPre s e := ⟨hp, us_stage hv hsel (by rw [hns]; rfl), hnf⟩
  refine ⟨?_, by unfold us_filLeft; rw [hcur]; simp only at hfb; omega, ?_⟩
  · rcases hop' with ⟨h, _⟩ | h
    · exact Or.inl h
    · exact Or.inr ⟨f, rm, h⟩
  rw [step_filter hash s e h1 h2]
  rcases us_filter_loop hok hm' e.budget with ⟨x', b', hrun, hle⟩ | ⟨x', b', hrun, hm1, hlt, hb⟩
  · rw [filterTickets_completed ⟨s, ⟨e.budget, e.seeds, e.script⟩, {}⟩ e _ x' b' hpre hx hrun hle]
    exact ⟨_, _, rfl, Or.inl ⟨rfl, rfl, rfl⟩, rfl, rfl, rfl⟩
  · rw [filterTickets_interrupted ⟨s, ⟨e.budget, e.seeds, e.script⟩, {}⟩ e _ x' b' hpre hx hrun]
    refine ⟨_, _, rfl, Or.inr ⟨rfl, ?_, ?_, ?_, hb⟩, rfl, rfl, rfl⟩
    · show (filterFlags s f).filtered = false
      rw [filterFlags_filtered]; exact hnf
    · show Op.filter _ _ ≠ Op.none
      exact nofun
    · have hb1 := (us_Mid_first_le hm1).2
      show s.lastTicketId + 1 - x'.first < us_filLeft s
      unfold us_filLeft
      rw [hcur]
      simp only at hlt hb1
      omega

/-! ## `selectWinners` is never stuck -/

theorem us_select_step (hash : List Nat → List Nat) {s : State} {e : Env}
    (hl : us_Sel s.core) (hv : validPeriods s.cfg = true) (hf : s.flags.filtered = true)
    (hns : s.flags.selected = false) (hsel : s.cfg.sel ≤ e.round) (hp : s.paused = false)
    (hcaller : e.caller = s.owner ∨ e.callerIsContract = false)
    (h1 : e.egld = 0) (h2 : e.esdts = []) :
    (s.op = .none ∨ ∃ r p, s.op = .select r p) ∧ us_selLeft s ≤ s.nrWinning ∧
    ∃ s' o, step hash s e .select = .ok (s', o) ∧ s'.flags.filtered = true ∧
      us_Outcome s' o e (fun s => s.flags.selected) us_selLeft s := by
  have hl' : SelCursorOK s := hl
  have hpre : SelectPre s e := by
    refine ⟨hp, us_stage hv hsel (by rw [hns]; rfl), ?_, hf, hns⟩
    rcases hcaller with h | h <;> simp [h]
  obtain ⟨hleft, t', hcall, hout⟩ := selectWinners_progress hash e.budget hl' hpre
  refine ⟨hl'.imp_right fun ⟨r, p, h, _⟩ => ⟨r, p, h⟩, hleft, ?_⟩
  rw [step_select hash s e h1 h2, hcall]
  rcases hout with ⟨hr, y, hs⟩ | ⟨hr, hb, y, hs, hlt, hle⟩
  · exact ⟨_, _, rfl, by rw [hs]; exact hf, Or.inl ⟨hr, by rw [hs]; rfl, by rw [hs]; rfl⟩,
      by rw [hs]; rfl, by rw [hs]; rfl, by rw [hs]; rfl⟩
  · refine ⟨_, _, rfl, by rw [hs]; exact hf,
      Or.inr ⟨hr, by rw [hs]; exact hns, by rw [hs]; exact nofun, ?_, hb⟩,
      by rw [hs]; rfl, by rw [hs]; rfl, by rw [hs]; rfl⟩
    rw [hs]
    show s.nrWinning + 1 - y.pos < s.nrWinning + 1 - us_selCursor s
    omega


/-! ## schedules of calls of one endpoint: progress on a measure gives completion -/

def us_hist (c : Call) (es : List Env) : Hist := es.map (fun e => (e, c))

/-- a resumable endpoint whose step is complete rejects every call: the flag it would set is one
    of its gates (`LoopOutcome.before`) -/
theorem us_rejected_when_done {hash : List Nat → List Nat} {c : Call} {f : Flags → Bool}
    (hc : c.doneFlag = some f) {s : State} (e : Env) (h : f s.flags = true) :
    ∃ err, step hash s e c = .error err :=
  rejected_of_not_ok fun _ _ hs => absurd ((step_loop_outcome hc hs).before.symm.trans h) nofun

theorem us_run_done (hash : List Nat → List Nat) (c : Call) {f : Flags → Bool}
    (hc : c.doneFlag = some f) :
    ∀ (es : List Env) (s : State), f s.flags = true → run hash s (us_hist c es) = s
  | [], _, _ => rfl
  | e :: rest, s, hf => by
    obtain ⟨err, herr⟩ := us_rejected_when_done (hash := hash) hc e hf
    show run hash s ((e, c) :: us_hist c rest) = s
    rw [run_cons_err herr]
    exact us_run_done hash c hc rest s hf

/-- from a bound `B` on the measure that holds as soon as one admissible call is at hand, `B + 1`
    calls suffice where `left s + 1` do -/
theorem us_completes_within (hash : List Nat → List Nat) (c : Call) {f : Flags → Bool}
    (hc : c.doneFlag = some f) (left : State → Nat)
    {s : State} {r : Nat} (B : Nat) (es : List Env) (hr : RoundsFrom r (us_hist c es))
    (hbound : f s.flags = false → ∀ e ∈ es, r ≤ e.round → left s ≤ B)
    (hcomp : left s + 1 ≤ es.length → f (run hash s (us_hist c es)).flags = true)
    (hlen : B + 1 ≤ es.length) : f (run hash s (us_hist c es)).flags = true := by
  cases hf : f s.flags with
  | true => rw [us_run_done hash c hc es s hf]; exact hf
  | false =>
    cases es with
    | nil => simp at hlen
    | cons e rest =>
      have := hbound hf e (List.mem_cons_self ..) hr.1
      exact hcomp (by omega)

/-- generic liveness, by induction on the schedule: once set the flag stays set (`us_run_done`),
    so `es` may be longer than `left s + 1` -/
theorem us_run_completes (hash : List Nat → List Nat) (c : Call) {f : Flags → Bool}
    (hc : c.doneFlag = some f) (Good : State → Nat → Prop) (Q : Env → Prop) (left : State → Nat)
    (hstep : ∀ s r e, Good s r → f s.flags = false → r ≤ e.round → Q e →
      ∃ s' o, step hash s e c = .ok (s', o) ∧ Good s' e.round ∧
        (f s'.flags = true ∨ left s' < left s)) :
    ∀ (es : List Env) (s : State) (r : Nat), Good s r → RoundsFrom r (us_hist c es) →
      (∀ e ∈ es, Q e) → left s + 1 ≤ es.length → f (run hash s (us_hist c es)).flags = true
  | [], _, _, _, _, _, hlen => by simp at hlen
  | e :: rest, s, r, hg, hr, hq, hlen => by
    cases hf : f s.flags with
    | true => rw [us_run_done hash c hc _ s hf]; exact hf
    | false =>
      obtain ⟨hr1, hr2⟩ : r ≤ e.round ∧ RoundsFrom e.round (us_hist c rest) := hr
      obtain ⟨s', o, hst, hg', hprog⟩ := hstep s r e hg hf hr1 (hq e (List.mem_cons_self ..))
      show f (run hash s ((e, c) :: us_hist c rest)).flags = true
      rw [run_cons_ok hst]
      rcases hprog with hdone | hlt
      · rw [us_run_done hash c hc _ s' hdone]; exact hdone
      · exact us_run_completes hash c hc Good Q left hstep rest s' e.round hg' hr2
          (fun e' he' => hq e' (List.mem_cons_of_mem _ he'))
          (by simp only [List.length_cons] at hlen; omega)


def us_NoPay (e : Env) : Prop := e.egld = 0 ∧ e.esdts = []

theorem us_NoPay.envOK {e : Env} (h : us_NoPay e) : EnvOK e := Or.inl h.1

theorem us_histOK {e : Env} {c : Call} (h : us_NoPay e) (h1 : CallOK c) (h2 : v1_CallOK c) :
    be_HistOK e c := ⟨h.envOK, h1, h2⟩

/-- what a sequence of calls from `s0`, each reporting a `us_Outcome`, keeps -/
structure us_Good (R : State → Nat → Prop) (s0 s : State) (r : Nat) : Prop where
  reach : R s r
  paused : s.paused = s0.paused
  sel : s.cfg.sel ≤ r
  owner : s.owner = s0.owner

theorem us_outcome_completes (hash : List Nat → List Nat) (c : Call) {f : Flags → Bool}
    (hc : c.doneFlag = some f) (R : State → Nat → Prop) (Q : Env → Prop) (left : State → Nat)
    (s0 : State)
    (hstep : ∀ s r e, us_Good R s0 s r → f s.flags = false → r ≤ e.round → Q e →
      ∃ s' o, step hash s e c = .ok (s', o) ∧ R s' e.round ∧
        us_Outcome s' o e (fun s => f s.flags) left s)
    (es : List Env) (r : Nat) (hR : R s0 r) (hsel : s0.cfg.sel ≤ r)
    (hr : RoundsFrom r (us_hist c es)) (hq : ∀ e ∈ es, Q e) (hlen : left s0 + 1 ≤ es.length) :
    f (run hash s0 (us_hist c es)).flags = true := by
  refine us_run_completes hash c hc (us_Good R s0) Q left ?_ es s0 r ⟨hR, rfl, hsel, rfl⟩ hr hq hlen
  intro s r e hg hf hr1 hq1
  obtain ⟨s', o, hst, hR', hout⟩ := hstep s r e hg hf hr1 hq1
  refine ⟨s', o, hst, ⟨hR', by rw [hout.paused, hg.paused],
    by rw [hout.cfg]; exact Nat.le_trans hg.sel hr1, by rw [hout.owner, hg.owner]⟩, ?_⟩
  rcases hout.cases with ⟨_, h, _⟩ | ⟨_, _, _, h, _⟩
  · exact Or.inl h
  · exact Or.inr h

/-! ## `filter` and `select` in covered states -/

theorem us_filter_never_stuck (hash : List Nat → List Nat) {s : State} {r : Nat} {e : Env}
    (hs : be_Covered hash s r) (hnf : s.flags.filtered = false) (hr : r ≤ e.round)
    (hsel : s.cfg.sel ≤ e.round) (hpay : us_NoPay e) (hp : s.paused = false) :
    (s.op = .none ∨ ∃ f rm, s.op = .filter f rm) ∧ us_filLeft s ≤ s.lastTicketId ∧
    ∃ s' o, step hash s e .filter = .ok (s', o) ∧ be_Covered hash s' e.round ∧
      us_Outcome s' o e (fun s => s.flags.filtered) us_filLeft s := by
  have hg := (be_family_all hash).good hs
  have hns : s.flags.selected = false := by
    cases h : s.flags.selected with
    | false => rfl
    | true => have := hg.tix.selFil h; rw [show s.core.flags.filtered = s.flags.filtered from rfl, hnf] at this; cases this
  obtain ⟨h1, h2, s', o, hst, hout⟩ :=
    us_filter_step hash ((us_live_covered hs).fil hnf) hg.valid hnf hns hsel hp hpay.1 hpay.2
  exact ⟨h1, h2, s', o, hst,
    (be_family_all hash).call hs hr (us_histOK (c := .filter) hpay trivial trivial) hst, hout⟩

theorem us_select_never_stuck (hash : List Nat → List Nat) {s : State} {r : Nat} {e : Env}
    (hs : be_Covered hash s r) (hf : s.flags.filtered = true) (hns : s.flags.selected = false)
    (hr : r ≤ e.round) (hsel : s.cfg.sel ≤ e.round) (hpay : us_NoPay e) (hp : s.paused = false)
    (hcaller : e.caller = s.owner ∨ e.callerIsContract = false) :
    (s.op = .none ∨ ∃ rg p, s.op = .select rg p) ∧ us_selLeft s ≤ s.nrWinning ∧
    ∃ s' o, step hash s e .select = .ok (s', o) ∧ be_Covered hash s' e.round ∧
      s'.flags.filtered = true ∧ us_Outcome s' o e (fun s => s.flags.selected) us_selLeft s := by
  have hg := (be_family_all hash).good hs
  obtain ⟨h1, h2, s', o, hst, hfil, hout⟩ :=
    us_select_step hash ((us_live_covered hs).sel hf hns) hg.valid hf hns hsel hp hcaller
      hpay.1 hpay.2
  exact ⟨h1, h2, s', o, hst,
    (be_family_all hash).call hs hr (us_histOK (c := .select) hpay trivial trivial) hst, hfil, hout⟩

/-! ## C19: pausing between the calls of an interrupted operation loses nothing -/

theorem us_roundsFrom_mem {r : Nat} : ∀ {h : Hist}, RoundsFrom r h → ∀ p ∈ h, r ≤ p.1.round
  | [], _, _, hp => by cases hp
  | (e, c) :: rest, ⟨h1, h2⟩, p, hp => by
    rcases List.mem_cons.mp hp with rfl | hp
    · exact h1
    · exact Nat.le_trans h1 (us_roundsFrom_mem h2 p hp)

structure us_Kept (s s' : State) : Prop where
  cursor : s'.cursor = s.cursor
  flags : s'.flags = s.flags
  sel : s'.cfg.sel = s.cfg.sel

theorem us_filLeft_of_cursor {s s' : State} (h : s'.cursor = s.cursor) : us_filLeft s' = us_filLeft s := by
  have h1 : s'.op = s.op := congrArg Cursor.op h
  have h2 : s'.lastTicketId = s.lastTicketId := congrArg Cursor.lastTicketId h
  unfold us_filLeft us_filCursor
  rw [h1, h2]

theorem us_selLeft_of_cursor {s s' : State} (h : s'.cursor = s.cursor) : us_selLeft s' = us_selLeft s := by
  have h1 : s'.op = s.op := congrArg Cursor.op h
  have h2 : s'.nrWinning = s.nrWinning := congrArg Cursor.nrWinning h
  unfold us_selLeft us_selCursor
  rw [h1, h2]

/-! ## the additional step of `Variant.nft`: `selectNft` is never stuck -/

theorem us_step_selectNft (hash : List Nat → List Nat) (s : State) (e : Env)
    (hv : s.variant = .nft) (h1 : e.egld = 0) (h2 : e.esdts = []) :
    step hash s e .selectNft =
      match selectNft hash (callTx s e e.budget) e with
      | .error err => .error err
      | .ok t => .ok (t.s, t.o) :=
  step_eq_exec (by rw [hv]; rfl) h1 h2

theorem us_nft_step (hash : List Nat → List Nat) {s : State} {e : Env} (hvar : s.variant = .nft)
    (hop : s.op = .none ∨ ∃ rg, s.op = .additional (.nft rg)) (hrdy : NftReady s)
    (hw : s.nftWinners.length ≤ s.availNfts)
    (hv : validPeriods s.cfg = true) (hs : s.flags.selected = true)
    (hna : s.flags.additional = false) (hsel : s.cfg.sel ≤ e.round)
    (h1 : e.egld = 0) (h2 : e.esdts = []) :
    ∃ s' o, step hash s e .selectNft = .ok (s', o) ∧ s'.flags.selected = true ∧
      us_Outcome s' o e (fun s => s.flags.additional) us_nftLeft s := by
  have hpre : NftPre s e := ⟨us_stage hv hsel (by rw [hna]; simp), hs, hna⟩
  obtain ⟨t', hcall, hout⟩ := selectNft_progress hash e.budget hop hrdy hw hpre
  rw [us_step_selectNft hash s e hvar h1 h2, hcall]
  rcases hout with ⟨hr, y, hst⟩ | ⟨hr, hb, y, hst, _, _, hlt⟩
  · exact ⟨_, _, rfl, by rw [hst]; exact hs, Or.inl ⟨hr, by rw [hst]; rfl, by rw [hst]; rfl⟩,
      by rw [hst]; rfl, by rw [hst]; rfl, by rw [hst]; rfl⟩
  · exact ⟨_, _, rfl, by rw [hst]; exact hs,
      Or.inr ⟨hr, by rw [hst]; exact hna, by rw [hst]; exact nofun, by rw [hst]; exact hlt, hb⟩,
      by rw [hst]; rfl, by rw [hst]; rfl, by rw [hst]; rfl⟩

theorem us_nft_never_stuck (hash : List Nat → List Nat) {s : State} {r : Nat} {e : Env}
    (hs : Reach hash .nft s r) (hsd : s.flags.selected = true) (hna : s.flags.additional = false)
    (hr : r ≤ e.round) (hsel : s.cfg.sel ≤ e.round) (hpay : us_NoPay e) :
    (s.op = .none ∨ ∃ rg, s.op = .additional (.nft rg)) ∧ us_nftLeft s ≤ s.availNfts ∧
    ∃ s' o, step hash s e .selectNft = .ok (s', o) ∧ Reach hash .nft s' e.round ∧
      s'.flags.selected = true ∧
      us_Outcome s' o e (fun s => s.flags.additional) us_nftLeft s := by
  obtain ⟨a0, ha⟩ := Reach_iff.mp hs
  have wf := nf_reach_WF ha
  obtain ⟨_, hop, _⟩ := nf_phase_mid wf.phase hsd hna
  have hop' : s.op = .none ∨ ∃ rg, s.op = .additional (.nft rg) := hop
  have hrdy : NftReady s := ⟨wf.side.nodupP, wf.side.disj⟩
  have hw : s.nftWinners.length ≤ s.availNfts := wf.side.winLe
  obtain ⟨s', o, hst, hsd', hout⟩ := us_nft_step hash wf.var hop' hrdy hw (be_validPeriods_reach hs)
    hsd hna hsel hpay.1 hpay.2
  refine ⟨hop', by unfold us_nftLeft; omega, s', o, hst,
    .call _ _ _ _ _ _ hs hr hpay.envOK (by trivial) hst, hsd', hout⟩

end LP
