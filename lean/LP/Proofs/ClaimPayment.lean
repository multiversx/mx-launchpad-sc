import LP.Proofs.NftDraw
/-
  The owner's withdrawal on the common path (`claimPaymentCommon`): when it is accepted and the
  transaction record it returns; the state after `claimNftPayment`.
-/
namespace LP

/-- second half of `claimPaymentCommon`: surplus launchpad tokens go back to the caller -/
def cpTail (t : Tx) (e : Env) : Res Tx :=
  bsub (t.s.bal (.esdt t.s.lpTok) 0) (t.s.perTicket * t.s.nrWinning) "tickets.rs:66 balance - needed"
    >>= fun extra =>
  if extra > 0 then t.send e.caller ⟨.esdt t.s.lpTok, 0, extra⟩ else pure t

theorem claimPaymentCommon_eq (t : Tx) (e : Env) :
    claimPaymentCommon t e =
      (requireStage t.s e .claim "Not in claim period" >>= fun _ =>
        if t.s.claimablePayment > 0 then
          (t.setS { t.s with claimablePayment := 0 }).send e.caller
            ⟨t.s.payTok, 0, t.s.claimablePayment⟩ >>= fun t1 => cpTail t1 e
        else cpTail t e) := by
  unfold claimPaymentCommon cpTail
  rfl

/-- the launchpad tokens beyond `perTicket × nrWinning` go to the caller (no transfer if there are
    none) -/
def cpTailResult (t : Tx) (e : Env) : Tx :=
  { t with s := { t.s with bal := (t.s.bal.sub (.esdt t.s.lpTok) 0
                    (t.s.bal (.esdt t.s.lpTok) 0 - t.s.perTicket * t.s.nrWinning)) },
           o := { t.o with xfers := (t.o.xfers ++
                    if t.s.bal (.esdt t.s.lpTok) 0 - t.s.perTicket * t.s.nrWinning > 0
                    then [(e.caller, (⟨.esdt t.s.lpTok, 0,
                      t.s.bal (.esdt t.s.lpTok) 0 - t.s.perTicket * t.s.nrWinning⟩ : Pay))]
                    else []) } }

theorem cpTail_ok_iff (t : Tx) (e : Env) (t' : Tx) :
    cpTail t e = .ok t' ↔
      t.s.perTicket * t.s.nrWinning ≤ t.s.bal (.esdt t.s.lpTok) 0 ∧ t' = cpTailResult t e := by
  unfold cpTail bsub cpTailResult
  by_cases hle : t.s.perTicket * t.s.nrWinning ≤ t.s.bal (.esdt t.s.lpTok) 0
  · rw [if_pos hle]
    show (if t.s.bal (.esdt t.s.lpTok) 0 - t.s.perTicket * t.s.nrWinning > 0 then _ else _) = _ ↔ _
    by_cases hpos : t.s.bal (.esdt t.s.lpTok) 0 - t.s.perTicket * t.s.nrWinning > 0
    · rw [if_pos hpos, if_pos hpos, send_ok_iff]
      exact ⟨fun h => ⟨hle, h.2⟩, fun h => ⟨Nat.sub_le _ _, h.2⟩⟩
    · rw [if_neg hpos, if_neg hpos, Nat.eq_zero_of_not_pos hpos, Bal.sub_zero, List.append_nil,
        pure_ok_iff]
      exact ⟨fun h => ⟨hle, h.symm⟩, fun h => h.2.symm⟩
  · rw [if_neg hle]
    exact ⟨nofun, fun h => absurd h.1 hle⟩

/-- before the tail: the recorded proceeds have left in the payment token -/
def cpPaid (t : Tx) (e : Env) : Tx :=
  { t with s := { t.s with claimablePayment := 0,
                           bal := t.s.bal.sub t.s.payTok 0 t.s.claimablePayment },
           o := { t.o with xfers := (t.o.xfers ++
                    if t.s.claimablePayment > 0
                    then [(e.caller, (⟨t.s.payTok, 0, t.s.claimablePayment⟩ : Pay))] else []) } }

theorem claimPaymentCommon_ok_iff (t : Tx) (e : Env) (t' : Tx) :
    claimPaymentCommon t e = .ok t' ↔
      t.s.stage e = .claim ∧ t.s.claimablePayment ≤ t.s.bal t.s.payTok 0 ∧
      (cpPaid t e).s.perTicket * (cpPaid t e).s.nrWinning
        ≤ (cpPaid t e).s.bal (.esdt (cpPaid t e).s.lpTok) 0 ∧
      t' = cpTailResult (cpPaid t e) e := by
  rw [claimPaymentCommon_eq]
  simp only [bind_ok_iff, req_ok_iff, requireStage, exists_const, beq_iff_eq]
  by_cases hpos : t.s.claimablePayment > 0
  · have hp : sendResult (t.setS { t.s with claimablePayment := 0 }) e.caller
        ⟨t.s.payTok, 0, t.s.claimablePayment⟩ = cpPaid t e := by
      unfold cpPaid; rw [if_pos hpos]; rfl
    simp only [if_pos hpos, bind_ok_iff, send_ok_iff, hp, cpTail_ok_iff]
    exact ⟨fun ⟨h1, _, ⟨h2, rfl⟩, h3⟩ => ⟨h1, h2, h3⟩, fun ⟨h1, h2, h3⟩ => ⟨h1, _, ⟨h2, rfl⟩, h3⟩⟩
  · have hz : t.s.claimablePayment = 0 := Nat.eq_zero_of_not_pos hpos
    have hp : cpPaid t e = t := by
      unfold cpPaid
      rw [if_neg hpos, hz, Bal.sub_zero, List.append_nil, ← hz]
    rw [hp, if_neg hpos, cpTail_ok_iff, hz]
    exact ⟨fun ⟨h1, h2, h3⟩ => ⟨h1, Nat.zero_le _, h2, h3⟩, fun ⟨h1, _, h2, h3⟩ => ⟨h1, h2, h3⟩⟩

/-- payment token ≠ launchpad token: the two transfers leave in different slots, so the surplus is
    computed on the balance the call started with -/
theorem claimPaymentCommon_exact {t t' : Tx} {e : Env} (h : claimPaymentCommon t e = .ok t')
    (hne : t.s.payTok ≠ .esdt t.s.lpTok) :
    t.s.stage e = .claim ∧ t.s.claimablePayment ≤ t.s.bal t.s.payTok 0 ∧
    t.s.perTicket * t.s.nrWinning ≤ t.s.bal (.esdt t.s.lpTok) 0 ∧
    t'.s = { t.s with claimablePayment := 0,
                      bal := ((t.s.bal.sub t.s.payTok 0 t.s.claimablePayment).sub (.esdt t.s.lpTok) 0
                        (t.s.bal (.esdt t.s.lpTok) 0 - t.s.perTicket * t.s.nrWinning)) } ∧
    t'.o.xfers = t.o.xfers
      ++ (if t.s.claimablePayment > 0 then [(e.caller, (⟨t.s.payTok, 0, t.s.claimablePayment⟩ : Pay))] else [])
      ++ (if t.s.bal (.esdt t.s.lpTok) 0 - t.s.perTicket * t.s.nrWinning > 0
          then [(e.caller, (⟨.esdt t.s.lpTok, 0, t.s.bal (.esdt t.s.lpTok) 0 - t.s.perTicket * t.s.nrWinning⟩ : Pay))]
          else []) ∧
    t'.o.locks = t.o.locks := by
  obtain ⟨h1, h2, h3, rfl⟩ := (claimPaymentCommon_ok_iff t e t').mp h
  have hb : (cpPaid t e).s.bal (.esdt (cpPaid t e).s.lpTok) 0 = t.s.bal (.esdt t.s.lpTok) 0 := by
    show (t.s.bal.sub t.s.payTok 0 t.s.claimablePayment) (.esdt t.s.lpTok) 0 = _
    unfold Bal.sub
    rw [if_neg (fun hh => hne hh.1.symm)]
  unfold cpTailResult
  rw [hb] at h3 ⊢
  exact ⟨h1, h2, h3, rfl, rfl, rfl⟩

theorem claimNftPayment_state {t t' : Tx} {e : Env} (h : claimNftPayment t e = .ok t') :
    t.s.stage e = .claim ∧ t.s.claimableNft ≤ t.s.bal t.s.nftCost.tok t.s.nftCost.nonce ∧
    t'.s = { t.s with claimableNft := 0,
                      bal := t.s.bal.sub t.s.nftCost.tok t.s.nftCost.nonce t.s.claimableNft } := by
  obtain ⟨hst, hle, rfl⟩ := (claimNftPayment_ok_iff t e t').mp h
  refine ⟨hst, hle, ?_⟩
  by_cases hc : t.s.claimableNft > 0
  · rw [if_pos hc]
  · have hz : t.s.claimableNft = 0 := Nat.eq_zero_of_not_pos hc
    rw [if_neg hc, hz, Bal.sub_zero, ← hz]

end LP
