import LP.Proofs.ReachBEAll
/-
  C03: the frame of the owner's proceeds once the base lottery is complete, read off
  `step_proceeds` / `step_proceeds_done` (ProceedsStep: any state with the filter done and both
  start rounds reached): `gp_proceeds_done` on those bare hypotheses, `gp_nf_proceeds_mid` for
  launchpad-with-nft between the base lottery and the NFT draw (over `nf_WF`), `proceeds_covered`
  for the reachable states of all eight contracts.
-/
namespace LP
open LP.Props LP.Events LP.FY LP.Props.C17

theorem gp_proceeds_done {hash : List Nat → List Nat} {s s' : State} {e : Env} {c : Call}
    {o : Out} {r : Nat} (hc1 : s.cfg.conf ≤ r) (hc2 : s.cfg.sel ≤ r) (hr : r ≤ e.round)
    (hd : AllDone s) (hfil : s.flags.filtered = true)
    (hs : step hash s e c = .ok (s', o)) :
    s'.price = s.price ∧ AllDone s' ∧
    (s'.claimablePayment = s.claimablePayment ∨ (c = .claimPayment ∧ s'.claimablePayment = 0)) :=
  have ⟨h1, h2, h3⟩ := step_proceeds_done hc1 hc2 hr hfil hd hs
  ⟨h1, hd.of_flags h2, h3⟩

/-- launchpad-with-nft, between the completed base lottery and the completed NFT draw: nothing
    touches the recorded proceeds (the NFT draw, the only additional step the variant exposes, moves
    participants between the two NFT lists; `claimPayment` needs the claim stage, hence `additional`) -/
theorem gp_nf_proceeds_mid {T0 : Nat} {hash : List Nat → List Nat} {s s' : State} {e : Env}
    {c : Call} {o : Out} {r : Nat} (h : nf_WF T0 s r) (hr : r ≤ e.round)
    (hsel : s.flags.selected = true) (hna : s.flags.additional = false)
    (hs : step hash s e c = .ok (s', o)) :
    s'.price = s.price ∧ s'.flags.selected = true ∧ s'.claimablePayment = s.claimablePayment := by
  obtain ⟨hD, _, _⟩ := nf_phase_mid h.phase hsel hna
  obtain ⟨hc1, hc2⟩ := h.tlStarted hD.started
  obtain ⟨k1, k2, ⟨hc, _⟩ | ⟨_, k4 | ⟨rfl, _⟩⟩⟩ := step_proceeds hc1 hc2 hr hD.filtered hsel hs
  · refine ⟨k1, k2, ?_⟩
    have hex : c.exposedIn .nft = true := h.var ▸ step_exposed hs
    rcases hc with rfl | rfl | rfl
    · exact (Bool.false_ne_true hex).elim
    · obtain ⟨t, hx, rfl⟩ := step_np rfl hs
      obtain ⟨_, _, _, _, _, _, _, _, rfl, _⟩ := selectNft_fp hx
      rfl
    · exact (Bool.false_ne_true hex).elim
  · exact ⟨k1, k2, k4⟩
  · have := (stage_claim_iff.mp (C06.claimPayment_gate hash s e _ hs)).1.2
    exact absurd (hna.symm.trans this) nofun

/-- all eight contracts: the order of the flags gives `filtered`, the form of the ticket side
    `started`, the timeline clause the two rounds -/
theorem proceeds_covered {hash : List Nat → List Nat} {s s' : State} {e : Env} {c : Call} {o : Out}
    {r : Nat} (h : be_Covered hash s r) (hd : AllDone s) (hr : r ≤ e.round)
    (hs : step hash s e c = .ok (s', o)) :
    s'.price = s.price ∧ AllDone s' ∧
    (s'.claimablePayment = s.claimablePayment ∨ (c = .claimPayment ∧ s'.claimablePayment = 0)) := by
  have hfil := (be_phaseOK_covered h).sel_fil hd.1
  obtain ⟨hc1, hc2⟩ := be_filtered_rounds h hfil
  exact gp_proceeds_done hc1 hc2 hr hd hfil hs

