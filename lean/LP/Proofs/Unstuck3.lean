import LP.Proofs.Unstuck2
/-
  C04 at the level of REACHABLE states, third part: one measure
  `us3_secLeft` for both phases of `secondary` of nftGuar (in the NFT phase `us_nftLeft`, before
  it `us2_distLeft + us_nftLeft + 1`), the last stage of the end-to-end sequence `filter`,
  `select`, `distribute` / `secondary` for the v1 family and nftGuar (the first two stages, over
  any `us3_Rel`, are in `Unstuck2`), and the counterpart of the hypothesis on the draws: for
  EVERY fuel `F`, with `F` scripted draws all equal to a value that hits an already winning ticket
  the v1 leftover loop returns `outOfFuel` (one iteration: `us3_spin_step`; the loop and its lifting
  to `us2_Spins` are in LP/Props/C04unstuck3.lean).
-/
namespace LP
open LP.Props LP.Events LP.FY LP.Props.C17 LP.Props.C14

/-! ## `secondary` of nftGuar: one measure for both phases -/

theorem us3_tail_nftLeft {hash : List Nat → List Nat} {s0 : State} {t2 t' : Tx} {rng : Rng}
    (hok : NftOk s0) (hle : s0.nftWinners.length ≤ s0.availNfts) (ht2 : t2.s = s0)
    (htail : ng_NftTail hash t2 rng t') : us_nftLeft t'.s ≤ us_nftLeft s0 := by
  obtain ⟨P, W, _, hWle, hlen, _, hpre, hcase⟩ := ng_tail_shape hok hle ht2 htail
  have hpl := hpre.length_le
  rcases hcase with ⟨hs', _, _⟩ | ⟨rng', hs', _⟩
  · rw [hs']
    show min P.length (s0.availNfts - W.length)
      ≤ min s0.payers.length (s0.availNfts - s0.nftWinners.length)
    omega
  · rw [hs']
    show min P.length (s0.availNfts - W.length)
      ≤ min s0.payers.length (s0.availNfts - s0.nftWinners.length)
    omega

/-- the guaranteed sub-step does not touch the fee payers, the NFT winners or the number of NFTs;
    the draw moves payers to winners -/
theorem us3_nftLeft_step (hash : List Nat → List Nat) {s s' : State} {e : Env} {o : Out}
    (hok : NftOk s) (hle : s.nftWinners.length ≤ s.availNfts) (hpay : us_NoPay e)
    (hst : step hash s e .secondary = .ok (s', o)) : us_nftLeft s' ≤ us_nftLeft s := by
  obtain ⟨m, t, _, _, _, hx, rfl, rfl⟩ := step_ok_inv hst
  simp only [exec] at hx
  have h0 : (tx0 s e).s = s := creditPayments_nopay s e hpay.1 hpay.2
  obtain ⟨_, _, _, hc⟩ := ng_secondary_cases hash _ _ e hx
  rcases hc with ⟨g, _, hgp⟩ | ⟨rg, _, htail⟩
  · rw [h0] at hgp
    obtain ⟨b0, d0, x, b1, hg⟩ := hgp
    rcases hg with ⟨_, hs', _⟩ | ⟨_, z, b2, ⟨_, hs', _⟩ | ⟨_, t2, rng, ht2, htail⟩⟩
    · rw [hs']; exact Nat.le_refl _
    · rw [hs']; exact Nat.le_refl _
    · exact us3_tail_nftLeft (s0 := ng_midState s x z) ⟨hok.nodupP, hok.nodupW, hok.disj⟩ hle ht2
        htail
  · exact us3_tail_nftLeft hok hle h0 htail

def us3_secLeft (s : State) : Nat :=
  match s.op with
  | .additional (.nft _) => us_nftLeft s
  | _ => us2_distLeft s + us_nftLeft s + 1

theorem us3_secLeft_nft {s : State} {rg : Rng} (h : s.op = .additional (.nft rg)) :
    us3_secLeft s = us_nftLeft s := by
  unfold us3_secLeft; rw [h]

theorem us3_secLeft_guar {s : State} (h : ∀ rg, s.op ≠ .additional (.nft rg)) :
    us3_secLeft s = us2_distLeft s + us_nftLeft s + 1 := by
  unfold us3_secLeft
  split
  · rename_i rg hop; exact absurd hop (h rg)
  · rfl

theorem us3_secLeft_le (s : State) : us3_secLeft s ≤ us2_distLeft s + us_nftLeft s + 1 := by
  unfold us3_secLeft
  split <;> omega

/-- `us2_DrawsOK` over `ng_Reach`, guaranteed sub-step in progress -/
def us3_DrawsOKng (hash : List Nat → List Nat) (e : Env) : Prop :=
  ∀ s1 r1, ng_Reach hash s1 r1 → s1.flags.selected = true → s1.flags.additional = false →
    (∀ rg, s1.op ≠ .additional (.nft rg)) →
    ¬ us2_Spins hash s1 e ∧
    ∀ z0 k, us2_leftStart s1 e = some (z0, some k) →
      us2_redraws hash false s1.nrWinning s1.lastTicketId (k + 1) z0 < k + 1

theorem us3_secLeft_bound (hash : List Nat → List Nat) {s : State} {r : Nat}
    (hs : ng_Reach hash s r) (hsd : s.flags.selected = true) (hna : s.flags.additional = false) :
    us3_secLeft s ≤ s.whitelist.length + s.lastTicketId + min s.payers.length s.availNfts + 1 := by
  have h1 := us3_secLeft_le s
  have h2 : us_nftLeft s ≤ min s.payers.length s.availNfts := by
    unfold us_nftLeft; omega
  have h3 : us2_distLeft s ≤ s.whitelist.length + s.lastTicketId := by
    by_cases hopn : ∃ rg, s.op = .additional (.nft rg)
    · obtain ⟨rg, hop⟩ := hopn
      have hoff : us2_distOff s = 1 := by unfold us2_distOff; rw [hop]
      unfold us2_distLeft
      rw [hoff]
      omega
    · have hb := (us2_ng_distSt hs hsd hna (fun rg h => hopn ⟨rg, h⟩)).pos
      unfold us2_distLeft
      omega
  omega

/-- `n` calls in one environment are an admissible schedule -/
theorem us3_roundsFrom_replicate (c : Call) (e : Env) {r : Nat} (hr : r ≤ e.round) :
    ∀ n, RoundsFrom r (us_hist c (List.replicate n e))
  | 0 => trivial
  | n + 1 => ⟨hr, us3_roundsFrom_replicate c e (Nat.le_refl _) n⟩

/-! ## end to end for the v1 family and nftGuar -/

theorem us3_rel_v1 (hash : List Nat → List Nat) : us3_Rel hash (us2_V1Cov hash) where
  cov := fun _ _ h => h.covered
  call := fun _ _ _ _ _ _ h hr he _ hc hst => h.call hr he hc hst
  wait := fun _ _ _ h hr => h.wait hr

theorem us3_rel_ng (hash : List Nat → List Nat) : us3_Rel hash (ng_Reach hash) where
  cov := fun _ _ h => .nftGuar h
  call := fun _ _ _ _ _ _ h hr he _ hc hst => .call _ _ _ _ _ _ h hr he hc hst
  wait := fun _ _ _ h hr => .wait _ _ _ h hr

/-- the owner's third call (`distribute` / `secondary`, unlimited budget) of a contract with the v1
    leftover loop, from `s2` to `s3`: it completes the step unless the loop spins, and a spinning
    call is rejected having made at least `v1LeftoverFuel - left` re-draws.  `C` is what else the
    completed call establishes. -/
structure us3_Verdict (hash : List Nat → List Nat) (s2 s3 : State) (e : Env) (C : Prop) : Prop where
  ok : (s2.flags.additional = false → ¬ us2_Spins hash s2 e) → AllDone s3 ∧ C
  spin : s2.flags.additional = false → us2_Spins hash s2 e → s3 = s2 ∧
    ∃ z0 b1, us2_leftStart s2 e = some (z0, b1) ∧
      v1LeftoverFuel ≤ s2.lastTicketId + 1 - (s2.nrWinning + us2_distOff s2) +
        us2_redraws hash false s2.nrWinning s2.lastTicketId v1LeftoverFuel z0

theorem us3_Verdict.draws {hash : List Nat → List Nat} {s2 s3 : State} {e : Env} {C : Prop}
    (h : us3_Verdict hash s2 s3 e C)
    (hdraws : ∀ z0 b1, us2_leftStart s2 e = some (z0, b1) →
      s2.lastTicketId + 1 - (s2.nrWinning + us2_distOff s2) +
        us2_redraws hash false s2.nrWinning s2.lastTicketId v1LeftoverFuel z0 < v1LeftoverFuel) :
    AllDone s3 ∧ C :=
  h.ok fun hna hsp => by
    obtain ⟨_, z0, b1, hls, hle⟩ := h.spin hna hsp
    have := hdraws z0 b1 hls
    omega

/-- the no-spin hypothesis is necessary as well -/
theorem us3_Verdict.iff {hash : List Nat → List Nat} {s2 s3 : State} {e : Env} {C : Prop}
    (h : us3_Verdict hash s2 s3 e C) :
    AllDone s3 ↔ (s2.flags.additional = true ∨ ¬ us2_Spins hash s2 e) := by
  constructor
  · intro hd
    cases hna : s2.flags.additional with
    | true => exact Or.inl rfl
    | false =>
      refine Or.inr fun hsp => ?_
      rw [(h.spin hna hsp).1] at hd
      rw [hd.2] at hna
      cases hna
  · intro hor
    refine (h.ok fun hna => ?_).1
    rcases hor with hor | hor
    · rw [hna] at hor; cases hor
    · exact hor

theorem us3_verdict_v1 (hash : List Nat → List Nat) {s : State} {r : Nat}
    (hs : us2_V1Cov hash s r) (hsel : s.cfg.sel ≤ r) (hp : s.paused = false) (e1 e2 e3 : Env)
    (hr : RoundsFrom r [(e1, .filter), (e2, .select), (e3, .distribute)])
    (h1 : us2_OwnerCall s e1) (h2 : us2_OwnerCall s e2) (h3 : us2_OwnerCall s e3) :
    us3_Verdict hash (run hash s [(e1, .filter), (e2, .select)])
      (run hash s [(e1, .filter), (e2, .select), (e3, .distribute)]) e3
      (us2_V1Cov hash (run hash s [(e1, .filter), (e2, .select), (e3, .distribute)]) e3.round) := by
  obtain ⟨hr1, hr2, hr3, _⟩ := hr
  obtain ⟨hO, hsd⟩ := us3_two_steps (us3_rel_v1 hash) hs hsel hp e1 e2 ⟨hr1, hr2, trivial⟩ h1 h2
  rw [us2_run_three, ← us2_run_two hash s (e1, .filter) (e2, .select)]
  refine ⟨fun hns => ?_, fun hna hsp => ?_⟩
  · obtain ⟨hO', hadd, hsd'⟩ := hO.stage (us3_rel_v1 hash) hr3 .distribute rfl
      (fun s => s.flags.selected = true) hsd fun hf => by
        obtain ⟨s', o, hst, hcov, hout⟩ :=
          (us2_dist_v1_accepted_or_spins hash hO.reach hsd hf hr3 (Nat.le_trans hO.sel hr3)
            h3.1).2.2 (hns hf)
        refine ⟨s', o, hst, hcov, hout.paused, hout.cfg, hout.owner, ?_, by rw [hout.selected, hsd]⟩
        rcases hout.cases with ⟨_, _, _, _, _, _, hb⟩ | ⟨_, _, _, _, _, hb, _⟩ | ⟨_, hadd, _⟩
        · exact absurd h3.2.1 hb
        · exact absurd h3.2.1 hb
        · exact hadd
    exact ⟨⟨hsd', hadd⟩, hO'.reach⟩
  · obtain ⟨herr, hb⟩ := (us2_dist_v1_accepted_or_spins hash hO.reach hsd hna hr3
      (Nat.le_trans hO.sel hr3) h3.1).2.1 hsp
    exact ⟨us2_run_one_err herr, hb⟩

theorem us3_verdict_ng (hash : List Nat → List Nat) {s : State} {r : Nat}
    (hs : ng_Reach hash s r) (hsel : s.cfg.sel ≤ r) (hp : s.paused = false) (e1 e2 e3 : Env)
    (hr : RoundsFrom r [(e1, .filter), (e2, .select), (e3, .secondary)])
    (h1 : us2_OwnerCall s e1) (h2 : us2_OwnerCall s e2) (h3 : us2_OwnerCall s e3) :
    us3_Verdict hash (run hash s [(e1, .filter), (e2, .select)])
      (run hash s [(e1, .filter), (e2, .select), (e3, .secondary)]) e3
      (ng_Reach hash (run hash s [(e1, .filter), (e2, .select), (e3, .secondary)]) e3.round) := by
  obtain ⟨hr1, hr2, hr3, _⟩ := hr
  obtain ⟨hO, hsd⟩ := us3_two_steps (us3_rel_ng hash) hs hsel hp e1 e2 ⟨hr1, hr2, trivial⟩ h1 h2
  rw [us2_run_three, ← us2_run_two hash s (e1, .filter) (e2, .select)]
  refine ⟨fun hns => ?_, fun hna hsp => ?_⟩
  · obtain ⟨hO', hadd, hsd'⟩ := hO.stage (us3_rel_ng hash) hr3 .secondary rfl
      (fun s => s.flags.selected = true) hsd fun hf => by
        by_cases hopn : ∃ rg,
            (run hash s [(e1, .filter), (e2, .select)]).op = .additional (.nft rg)
        · obtain ⟨rg, hop⟩ := hopn
          obtain ⟨_, _, _, s', o, hst, hre, hsd', _, hout⟩ :=
            us2_sec_nft_never_stuck hash hO.reach hop hr3 (Nat.le_trans hO.sel hr3) h3.1
          exact ⟨s', o, hst, hre, hout.paused, hout.cfg, hout.owner, (hout.unlimited h3.2.1).2.1, hsd'⟩
        · obtain ⟨s', o, hst, hre, hout⟩ :=
            (us2_sec_guar_accepted_or_spins hash hO.reach hsd hf (fun rg hh => hopn ⟨rg, hh⟩) hr3
              (Nat.le_trans hO.sel hr3) h3.1).2.2 (hns hf)
          refine ⟨s', o, hst, hre, hout.paused, hout.cfg, hout.owner, ?_, by rw [hout.selected, hsd]⟩
          rcases hout.cases with ⟨_, _, _, _, _, _, hb⟩ | ⟨_, _, _, _, _, hb, _⟩ | ⟨_, _, _, hb⟩ |
            ⟨_, hadd, _⟩
          · exact absurd h3.2.1 hb
          · exact absurd h3.2.1 hb
          · exact absurd h3.2.1 hb
          · exact hadd
    exact ⟨⟨hsd', hadd⟩, hO'.reach⟩
  · obtain ⟨herr, hb⟩ := (us2_sec_guar_accepted_or_spins hash hO.reach hsd hna
      (us2_spins_not_nft hsp) hr3 (Nat.le_trans hO.sel hr3) h3.1).2.1 hsp
    exact ⟨us2_run_one_err herr, hb⟩

/-! ## one spinning iteration of the v1 leftover loop -/

/-- the raw value that makes the draw land on position `p` -/
theorem us3_inRange_hit {cur last p : Nat} (h1 : cur ≤ p) (h2 : p ≤ last) :
    inRange (p - cur) cur (last + 1) = p := by
  unfold inRange
  have : ¬ cur ≥ last + 1 := by omega
  rw [if_neg this, Nat.mod_eq_of_lt (by omega)]
  omega

/-- an iteration whose (scripted) draw hits an already winning ticket changes nothing but the
    generator and the consumed draw -/
theorem us3_spin_step (hash : List Nat → List Nat) (nrW last : Nat) (z : LCore) (raw : Nat)
    (rest : List Nat) (hfull : nrW + z.additional < last) (hlo : z.leftover ≠ 0)
    (hcur : z.status (idFromPos z.posToId (nrW + z.offset)) = false)
    (hhit : z.status (idFromPos z.posToId (inRange raw (nrW + z.offset) (last + 1))) = true)
    (hscr : z.d.script = raw :: rest) :
    leftCoreBody hash false nrW last z =
      .ok ({ z with rng := (z.rng.next hash).2, d := ⟨rest, z.d.log ++ [raw]⟩ }, true) := by
  obtain ⟨st, p, r, lo, off, add, ⟨scr, lg⟩⟩ := z
  simp only at hfull hlo hcur hhit hscr
  subst hscr
  have hc : ¬ nrW + add ≥ last := by omega
  unfold leftCoreBody
  simp only [hc, if_false, hlo, hcur, Bool.false_eq_true, DCtx.draw, hhit, if_true]

end LP
