import LP.Proofs.ZeroAllocSim
import LP.Proofs.ZeroAllocV1Alloc
import LP.Props.C14reachG
/-
  Zero-size allocations in `Variant.nftGuar` (prefix `zc_`): the overwrite, the relation, the claim with
  the NFT hook and `secondary` on the erased state.  `zc_w s R B K C U` overwrites `range`, `batch`,
  `blacklist`, `claimed` (as `z_w` does) and `uts`: a zero-size entry `(a, 0, 0, false)` leaves the record
  `{0,0,0,0}` behind (`zd_w` overwrites the whitelist as well).  `ZSimG` = `ESim` + "a removed record
  belongs to an address that is not whitelisted".  What `addTicketsV1` does to the records is read off
  `AddFx` of LP/Proofs/ZeroAllocV1Alloc.lean (`zc_AddFx`); `blacklist` is `ESim.blacklist` of
  LP/Proofs/ZeroAllocSim.lean, for every family; `secondary` is `ESim.secondary` there; here the whitelist
  is followed through the call.
-/
namespace LP

def zc_w (s : State) (R : Nat → Option Range) (B : Nat → Option Batch) (K C : Nat → Bool)
    (U : Nat → Option UTS) : State :=
  { s with range := R, batch := B, blacklist := K, claimed := C, uts := U }

def zc_wt (t : Tx) (R : Nat → Option Range) (B : Nat → Option Batch) (K C : Nat → Bool)
    (U : Nat → Option UTS) : Tx :=
  { t with s := zc_w t.s R B K C U }

def zd_w (s : State) (R : Nat → Option Range) (B : Nat → Option Batch) (K C : Nat → Bool)
    (U : Nat → Option UTS) (W : List Nat) : State :=
  { s with range := R, batch := B, blacklist := K, claimed := C, uts := U, whitelist := W }

theorem zd_w_w (s : State) (R R' : Nat → Option Range) (B B' : Nat → Option Batch)
    (K K' C C' : Nat → Bool) (U U' : Nat → Option UTS) (W W' : List Nat) :
    zd_w (zd_w s R B K C U W) R' B' K' C' U' W' = zd_w s R' B' K' C' U' W' := rfl

section
variable {R : Nat → Option Range} {B : Nat → Option Batch} {K C : Nat → Bool} {U : Nat → Option UTS} {W : List Nat}

theorem zc_credit (s : State) (e : Env) :
    creditPayments (zc_w s R B K C U) e = zc_w (creditPayments s e) R B K C U := rfl

theorem zd_credit (s : State) (e : Env) :
    creditPayments (zd_w s R B K C U W) e = zd_w (creditPayments s e) R B K C U W := rfl

end

end LP

/-! ### The simulation relation `ZSimG`, and what `addTicketsV1` does to the records (`zc_AddFx`).
  
  A zero-size entry `(a, 0, 0, false)` of `addTicketsV1` creates the EMPTY range `[last+1, last]`,
  a zero-size batch at `last+1`, and — `minConfirmed > 0`, so the staking test fails — the
  guarantee record `{0,0,0,0}`; whitelist and reserve are not touched.  The erased state has none
  of the three.  (A zero-size entry `(a, 0, 0, true)` DOES reserve a ticket: LP/Props/C14zeroG.lean.) -/
namespace LP
open LP.FY

/-- the zero-size entries allowed here carry no migration guarantee -/
def zc_CallOK : Call → Prop
  | .addTicketsV1 l => ∀ q ∈ l, 1 ≤ q.2.1 + q.2.2.1 ∨ q.2.2.2 = false
  | _ => True

/-- `z` is `s` with the empty ranges, (until the filter has completed) the zero-size batches and
    the guarantee records of the zero-size entries removed; the two address flags of `z` are below
    those of `s`.  A removed record carries no guarantee and its holder is not whitelisted. -/
structure ZSimG (s z : State) : Prop where
  rest : z = zc_w s z.range z.batch z.blacklist z.claimed z.uts
  range : z.range = z_eraseR s.range
  batch : s.flags.filtered = false → z.batch = z_eraseB s.batch
  bl : ∀ a, z.blacklist a = true → s.blacklist a = true
  cl : ∀ a, z.claimed a = true → s.claimed a = true
  uts : ∀ a, z.uts a = s.uts a ∨
    (z.uts a = none ∧ a ∉ s.whitelist ∧ ∃ st, s.uts a = some st ∧ st.c = 0 ∧ st.d = 0)

/-- the `uts` clause of `ZSimG` for a candidate `U` -/
def zc_UOK (U : Nat → Option UTS) (s : State) : Prop :=
  ∀ a, U a = s.uts a ∨ (U a = none ∧ a ∉ s.whitelist ∧ ∃ st, s.uts a = some st ∧ st.c = 0 ∧ st.d = 0)

theorem ZSimG.esim {s z : State} (h : ZSimG s z) : ESim s z :=
  .of_rest ⟨z.range, z.batch, z.blacklist, z.claimed, z.uts, s.blUts, s.whitelist⟩ h.rest
    rfl rfl h.range h.batch h.bl h.cl (fun a => (h.uts a).imp id (fun ⟨h1, _, h3⟩ => ⟨h1, h3⟩))

theorem ESim.zsimG {s z : State} (h : ESim s z) (hu : zc_UOK z.uts s) : ZSimG s z := by
  refine ⟨?_, h.range, h.batch, h.bl, h.cl, hu⟩
  have := h.rest
  unfold Ov.of at this
  rw [h.bu, h.wl] at this
  exact this

theorem ZSimG.fields {s z : State} (h : ZSimG s z) :
    z.cfg = s.cfg ∧ z.flags = s.flags ∧ z.variant = s.variant ∧ z.owner = s.owner ∧
    z.confirmed = s.confirmed ∧ z.op = s.op ∧ z.lastTicketId = s.lastTicketId ∧
    z.whitelist = s.whitelist ∧ z.payers = s.payers ∧ z.nftWinners = s.nftWinners ∧
    z.minConfirmed = s.minConfirmed := by
  obtain ⟨a, b, c, d, e, f, g⟩ := h.esim.fields
  exact ⟨a, b, c, d, e, f, g, h.esim.wl, (congrArg State.payers h.rest :),
    (congrArg State.nftWinners h.rest :), (congrArg State.minConfirmed h.rest :)⟩

theorem ZSimG.shape' {s z : State} (h : ZSimG s z) : ∃ R B K C U, z = zc_w s R B K C U :=
  ⟨_, _, _, _, _, h.rest⟩

/-- the reserve part of one v1 allocation entry (whitelist, record, counters after it): what
    `addV1Many` does after `tryCreateTickets` (`zc_addV1Many_cons`).  Read by `migrated_ghost_reserves`
    (LP/Props/C14zeroG.lean). -/
def zc_one (mc : Nat) (wl0 : List Nat) (buyer staking energy : Nat) (migrated : Bool) (tw tg : Nat) :
    Res (List Nat × UTS × Nat × Nat) :=
  if (decide (staking ≥ mc) && tw == 0) = true then .error (.user "Too many users with guaranteed ticket") else
  let p : List Nat × Nat × Nat × Nat :=
    if decide (staking ≥ mc) = true then ((setInsert wl0 buyer).1, tw - 1, tg + 1, 1) else (wl0, tw, tg, 0)
  if (migrated && p.2.1 == 0) = true then .error (.user "Too many users with guaranteed ticket") else
  let q : List Nat × Nat × Nat × Nat :=
    if migrated = true then ((setInsert p.1 buyer).1, p.2.1 - 1, p.2.2.1 + 1, 1) else (p.1, p.2.1, p.2.2.1, 0)
  .ok (q.1, { a := staking, b := energy, c := p.2.2.2, d := q.2.2.2 }, q.2.1, q.2.2.1)

theorem zc_addV1Many_cons (buyer staking energy : Nat) (migrated : Bool)
    (rest : List (Nat × Nat × Nat × Bool)) (s : State) (tw tg : Nat) :
    addV1Many ((buyer, staking, energy, migrated) :: rest) (s, tw, tg) =
      match tryCreateTickets s buyer (staking + energy) with
      | .error e => .error e
      | .ok s1 =>
        match zc_one s1.minConfirmed s1.whitelist buyer staking energy migrated tw tg with
        | .error e => .error e
        | .ok (wl, rc, tw', tg') =>
          addV1Many rest ({ s1 with whitelist := wl, uts := upd s1.uts buyer (some rc) }, tw', tg') := by
  rw [addV1Many]
  cases tryCreateTickets s buyer (staking + energy) with
  | error e => rfl
  | ok s1 =>
    simp only [zc_one]
    by_cases h1 : staking ≥ s1.minConfirmed <;> by_cases h2 : tw = 0 <;> cases migrated <;>
      simp [h1, h2]
    all_goals (split <;> simp_all)

/-- what `ZSimG` keeps through `addTicketsV1` (`ESim.addV1`), read off `AddFx`: the premise `hI` (no
    range: no record in `U`, not whitelisted) puts the record a zero-size entry leaves in `s` under
    the second clause of `zc_UOK` -/
theorem zc_AddFx {s s' : State} {U U' : Nat → Option UTS} (fx : AddFx s s' U U')
    (hI : ∀ a, z_eraseR s.range a = none → U a = none ∧ a ∉ s.whitelist) (hU : zc_UOK U s) :
    zc_UOK U' s' := by
  intro a
  -- who is whitelisted at the end and was not before holds tickets
  have hwl : z_eraseR s'.range a = none → a ∈ s'.whitelist → a ∈ s.whitelist := fun hn hm =>
    (fx.wl a hm).resolve_right (fun ⟨_, q⟩ => by rw [hn] at q; cases q)
  rcases fx.at_ a with ⟨p1, p2, p3⟩ | ⟨p0, ⟨p1, _⟩ | ⟨p1, p2, _, p4⟩⟩
  · rcases hU a with hl | ⟨u1, u2, u3⟩
    · exact Or.inl (by rw [p1, p2]; exact hl)
    · refine Or.inr ⟨p1.trans u1, fun hm => ?_, by rw [p2]; exact u3⟩
      rcases fx.wl a hm with hm | ⟨q0, q1⟩
      · exact u2 hm
      · rw [z_eraseR_congr p3, z_eraseR_of_none q0] at q1; cases q1
  · exact Or.inl p1
  · obtain ⟨u1, u2⟩ := hI a (z_eraseR_of_none p0)
    exact Or.inr ⟨p1.trans u1, fun hm => u2 (hwl p2 hm), p4⟩

end LP

/-! ### The body of `claim` on the erased state.  A claim by a holder of a non-empty range
  is the same claim there; by a holder of an empty range it hands out nothing but the "not
  confirmed" SFT, and the erased state does not move. -/
namespace LP
open LP.FY LP.Props.C09

section
variable {R : Nat → Option Range} {B : Nat → Option Batch} {K C : Nat → Bool} {U : Nat → Option UTS}

theorem zc_claimNft_ok {t t' : Tx} {e : Env} (h : claimNft t e = .ok t') :
    claimNft (zc_wt t R B K C U) e = .ok (zc_wt t' R B K C U) := by
  rw [claimNft_ok_iff] at h ⊢
  obtain ⟨h1, h2, rfl⟩ := h
  refine ⟨h1, h2, ?_⟩
  unfold claimNftResult
  have hk : nftCategory (zc_wt t R B K C U).s e.caller = nftCategory t.s e.caller := rfl
  simp only [hk]
  split <;> rfl

theorem zc_sendLp_ok {t t' : Tx} {e : Env} {a n : Nat} (hl : t.s.variant.hasLock = false)
    (h : t.sendLaunchpadTokens e a n = .ok t') :
    (zc_wt t R B K C U).sendLaunchpadTokens e a n = .ok (zc_wt t' R B K C U) := by
  have hl' : (zc_wt t R B K C U).s.variant.hasLock = false := hl
  rw [sendLaunchpadTokens_nolock_ok_iff _ e _ _ _ hl] at h
  rw [sendLaunchpadTokens_nolock_ok_iff _ e _ _ _ hl']
  obtain ⟨h1, rfl⟩ := h
  refine ⟨h1, ?_⟩
  unfold sendTokensResult
  split <;> rfl

theorem zc_claimMid (t : Tx) (e : Env) (r : Range) :
    claimMid (zc_wt t R B K C U) e r
      = zc_wt (claimMid t e r) (upd R e.caller none) (upd B r.first none) K (upd C e.caller true) U := by
  unfold claimMid refundResult
  show (if t.s.confirmed e.caller - countWinning t.s.status r.first (rangeLen r) = 0 then _ else _) = _
  split <;> rfl

end

theorem zc_claimBase {t t' : Tx} {e : Env} {r : Range} {R : Nat → Option Range}
    {B : Nat → Option Batch} {K C : Nat → Bool} {U : Nat → Option UTS}
    (hl : t.s.variant.hasLock = false)
    (h : claimBase t e = .ok t') (hr : t.s.range e.caller = some r)
    (hR : R e.caller = some r) (hC : C e.caller = t.s.claimed e.caller) :
    claimBase (zc_wt t R B K C U) e
      = .ok (zc_wt t' (upd R e.caller none) (upd B r.first none) K (upd C e.caller true) U) := by
  rw [claimBase_ok_iff] at h ⊢
  obtain ⟨r', ⟨hst, hcl, hr', hnw, hle, hb⟩, t2, h3, h4⟩ := h
  have hrr : r' = r := by rw [hr] at hr'; exact (Option.some.inj hr').symm
  subst hrr
  have hl2 : (claimMid t e r').s.variant.hasLock = false := by rw [claimMid_state]; exact hl
  refine ⟨r', ⟨hst, ?_, hR, hnw, hle, hb⟩,
    zc_wt t2 (upd R e.caller none) (upd B r'.first none) K (upd C e.caller true) U, ?_, ?_⟩
  · show C e.caller = false
    rw [hC]; exact hcl
  · rw [zc_claimMid]
    exact zc_sendLp_ok hl2 h3
  · show (if t2.s.variant.hasNft = true then claimNft (zc_wt t2 _ _ _ _ _) e else pure (zc_wt t2 _ _ _ _ _)) = _
    by_cases hn : t2.s.variant.hasNft = true
    · rw [if_pos hn] at h4 ⊢
      exact zc_claimNft_ok h4
    · rw [if_neg hn] at h4 ⊢
      simp only [pure_ok_iff] at h4
      subst h4; rfl

/-- a claim by a holder of an empty range changes nothing but the caller's `claimed` flag, its
    stale range and the batch slot at the range's first id; nothing is paid; the "not confirmed"
    SFT (category 3) is handed out -/
theorem zc_claim_stutter {hash : List Nat → List Nat} {s s' : State} {e : Env} {o : Out} {r : Range}
    (hv : s.variant = .nftGuar) (hs : step hash s e .claim = .ok (s', o))
    (hr : s.range e.caller = some r) (he : r.last < r.first) (hc : s.confirmed e.caller = 0)
    (hw : e.caller ∉ s.nftWinners) (hp : e.caller ∉ s.payers) :
    s' = zc_w s (upd s.range e.caller none) (upd s.batch r.first none) s.blacklist
          (upd s.claimed e.caller true) s.uts ∧
    o.xfers = [] ∧ o.sfts = [(e.caller, 3)] ∧ o.locks = [] := by
  obtain ⟨k, k1, k2, k3⟩ := zn_claim_stutter (ng_flags hv).2.1 hs hr he hc hp hw
  exact ⟨k, k2, k1, k3⟩

end LP

/-! ### What `secondary` leaves alone: the guarantee records are not written, the whitelist only shrinks.
  (The call on the erased state is `ESim.secondary`, LP/Proofs/ZeroAllocSim.lean.) -/
namespace LP
open LP.FY

theorem zc_guarBody_wl (s : State) {x x' : GSt} {c : Bool} (h : guarBody s x = .ok (x', c)) :
    ∀ u, u ∈ x'.whitelist → u ∈ x.whitelist := by
  rcases guarBody_ok h with ⟨_, _, rfl⟩ | ⟨_, _, u, rest, _, st⟩
  · exact fun _ hu => hu
  · intro v hv
    rw [st.whitelist] at hv
    exact z_mem_swapRemove hv

theorem zc_nftSubstep_fr {hash : List Nat → List Nat} {t t' : Tx} {rng rng' : Rng} {st : LoopStatus}
    (h : nftSubstep hash t rng = .ok (t', rng', st)) :
    t'.s.uts = t.s.uts ∧ t'.s.whitelist = t.s.whitelist := by
  unfold nftSubstep at h
  simp only [bind_ok_iff, Prod.exists] at h
  obtain ⟨x, b, st0, hrun, hrest⟩ := h
  have hx : x.tx.s = t.s := runWhile_nftBody_tx_s hrun
  cases st0 with
  | outOfFuel => cases hrest
  | interrupted =>
    simp only [pure_ok_iff, Prod.mk.injEq] at hrest
    obtain ⟨rfl, _, _⟩ := hrest
    show x.tx.s.uts = _ ∧ x.tx.s.whitelist = _
    rw [hx]; exact ⟨rfl, rfl⟩
  | completed =>
    simp only [pure_ok_iff, Prod.mk.injEq] at hrest
    obtain ⟨rfl, _, _⟩ := hrest
    show x.tx.s.uts = _ ∧ x.tx.s.whitelist = _
    rw [hx]; exact ⟨rfl, rfl⟩

theorem zc_guaranteedSubstep_fr {hash : List Nat → List Nat} {t t' : Tx} {g g' : GuarOp} {st : LoopStatus}
    (h : guaranteedSubstep hash t g = .ok (t', g', st)) :
    t'.s.uts = t.s.uts ∧ ∀ u, u ∈ t'.s.whitelist → u ∈ t.s.whitelist := by
  unfold guaranteedSubstep at h
  simp only [bind_ok_iff, Prod.exists] at h
  obtain ⟨x, b, st1, hrun1, h⟩ := h
  have hxw : ∀ u, u ∈ x.whitelist → u ∈ t.s.whitelist :=
    runWhile_preserves (fun y : GSt => ∀ u, u ∈ y.whitelist → u ∈ t.s.whitelist) (guarBody t.s)
      (fun y y' c hb hp u hu => hp u (zc_guarBody_wl t.s hb u hu)) _ _ _ _ _ _ hrun1 (fun u hu => hu)
  cases st1 with
  | outOfFuel => cases h
  | interrupted =>
    simp only [pure_ok_iff] at h
    injection h with h1 h2
    subst h1
    exact ⟨rfl, hxw⟩
  | completed =>
    simp only [bind_ok_iff, Prod.exists] at h
    obtain ⟨y, b2, st2, hrun, h⟩ := h
    have hy := runWhile_leftoverBody_tx_s hrun
    cases st2 with
    | outOfFuel => cases h
    | interrupted =>
      simp only [pure_ok_iff] at h
      injection h with h1 h2
      subst h1
      show y.tx.s.uts = _ ∧ ∀ u, u ∈ y.tx.s.whitelist → _
      rw [hy]; exact ⟨rfl, hxw⟩
    | completed =>
      simp only [pure_ok_iff] at h
      injection h with h1 h2
      subst h1
      show y.tx.s.uts = _ ∧ ∀ u, u ∈ y.tx.s.whitelist → _
      rw [hy]; exact ⟨rfl, hxw⟩

theorem zc_secondary_fr {hash : List Nat → List Nat} {t t' : Tx} {e : Env}
    (h : secondary hash t e = .ok t') :
    t'.s.uts = t.s.uts ∧ ∀ u, u ∈ t'.s.whitelist → u ∈ t.s.whitelist := by
  obtain ⟨_, cur, _, h⟩ := (secondary_iff hash t t' e).mp h
  obtain ⟨x, h1, h2⟩ := (bind_ok_iff _ _ _).mp h
  -- after the first stage
  have hx : (∀ t1, x = .inl t1 → t1.s.uts = t.s.uts ∧ ∀ u, u ∈ t1.s.whitelist → u ∈ t.s.whitelist) ∧
      (∀ t1 r, x = .inr (t1, r) → t1.s.uts = t.s.uts ∧ ∀ u, u ∈ t1.s.whitelist → u ∈ t.s.whitelist) := by
    cases cur with
    | nft r =>
      obtain rfl : Sum.inr (selTxOf t, r) = x := Except.ok.inj h1
      refine ⟨fun _ h0 => (by cases h0), fun t1 r1 h0 => ?_⟩
      obtain ⟨rfl, _⟩ := Prod.mk.inj (Sum.inr.inj h0)
      rw [selTxOf_s]; exact ⟨rfl, fun _ hu => hu⟩
    | guar g =>
      simp only [secStage1] at h1
      cases hsub : guaranteedSubstep hash (selTxOf t) g with
      | error err => rw [hsub] at h1; cases h1
      | ok y =>
        rw [hsub] at h1
        obtain ⟨a, g1, st⟩ := y
        obtain rfl : secHandOver (a, g1, st) = x := Except.ok.inj h1
        have hfr := zc_guaranteedSubstep_fr hsub
        rw [selTxOf_s] at hfr
        cases st with
        | completed =>
          refine ⟨fun _ h0 => (by cases h0), fun t1 r1 h0 => ?_⟩
          obtain ⟨rfl, _⟩ := Prod.mk.inj (Sum.inr.inj h0)
          rw [Tx.freshRng_s]; exact hfr
        | interrupted =>
          refine ⟨fun t1 h0 => ?_, fun _ _ h0 => (by cases h0)⟩
          obtain rfl := Sum.inl.inj h0; exact hfr
        | outOfFuel =>
          refine ⟨fun t1 h0 => ?_, fun _ _ h0 => (by cases h0)⟩
          obtain rfl := Sum.inl.inj h0; exact hfr
  cases x with
  | inl t1 =>
    obtain rfl : t1 = t' := Except.ok.inj h2
    exact hx.1 _ rfl
  | inr p =>
    obtain ⟨t1, r⟩ := p
    obtain ⟨⟨t2, r2, st2⟩, hsub, hfin⟩ := (bind_ok_iff _ _ _).mp h2
    obtain ⟨e1, e2⟩ := zc_nftSubstep_fr hsub
    obtain ⟨k1, k2⟩ := hx.2 _ _ rfl
    have : t'.s.uts = t2.s.uts ∧ t'.s.whitelist = t2.s.whitelist := by
      cases st2 <;> (obtain rfl := Except.ok.inj hfin; exact ⟨rfl, rfl⟩)
    rw [this.1, this.2, e1, e2]
    exact ⟨k1, k2⟩

end LP
