import LP.Proofs.ReachBEAll
import LP.Proofs.FieldFrames
import LP.Proofs.Frame
/-
  Ticket allocation (C18, C07) over the reachable states of all eight launchpads (`be_Covered`).
  The ticket space `TK` = (`range`, `batch`, `lastTicketId`) is read off the footprint of each call
  (`exec_fp`): only the three allocation endpoints, `filter` and `claim` write it
  (`Call.writesRB`; `ar_step_cases` is the dispatch over an accepted call that the step lemmas here
  and in `Recipients` start from), and `claim` only deletes records.  The partition facts `ar_Part`,
  `ar_Tix` are read off the normal form `be_Shape` of a covered state; `ar_Bnd`: every record lies
  inside the ticket space.  Prefix `ar_`: this file; `gp_`: the lemmas around the `started` flag
  (the prefix is also that of `Gaps` and of two lemmas of `ProceedsFrame`).
-/
namespace LP

structure TK where
  range : Nat → Option Range
  batch : Nat → Option Batch
  lastTicketId : Nat

@[reducible] def State.tk (s : State) : TK := ⟨s.range, s.batch, s.lastTicketId⟩

theorem tk_range {s s' : State} (h : s'.tk = s.tk) : s'.range = s.range := congrArg TK.range h
theorem tk_batch {s s' : State} (h : s'.tk = s.tk) : s'.batch = s.batch := congrArg TK.batch h
theorem tk_last {s s' : State} (h : s'.tk = s.tk) : s'.lastTicketId = s.lastTicketId :=
  congrArg TK.lastTicketId h

theorem claimPay_tk {v2 : Bool} {t t' : Tx} {e : Env} {c : Nat}
    (h : claimPay v2 t e c = .ok t') : t'.s.tk = t.s.tk := by
  obtain ⟨_, _, _, _, rfl⟩ := claimPay_fp h; rfl

def KeepsTK (c0 : TK) (r : Res Tx) : Prop := ∀ t', r = .ok t' → t'.s.tk = c0

theorem KeepsTK_error (c0 : TK) (err : Err) : KeepsTK c0 (.error err) := by
  intro t' h; cases h

theorem KeepsTK_ok (c0 : TK) (t : Tx) (h : t.s.tk = c0) : KeepsTK c0 (.ok t) := by
  intro t' h'; cases h'; exact h

theorem KeepsTK_bind_nft (c0 : TK) (hash : List Nat → List Nat) (t0 : Tx) (r : Rng)
    (f : Tx × Rng × LoopStatus → Res Tx)
    (h : ∀ a : Tx × Rng × LoopStatus, a.1.s.tk = t0.s.tk → KeepsTK c0 (f a)) :
    KeepsTK c0 (nftSubstep hash t0 r >>= f) := by
  intro t' h'
  obtain ⟨a, ha, hf⟩ := (bind_ok_iff _ _ _).mp h'
  refine h a ?_ t' hf
  obtain ⟨_, _, _, _, _, _, h1⟩ := nftSubstep_fp (t' := a.1) (r' := a.2.1) (st := a.2.2) ha
  rw [h1]

theorem exec_tk_eq {hash : List Nat → List Nat} {t t' : Tx} {e : Env} {c : Call}
    (hc : c ≠ .claim) (hf : c ≠ .filter) (ha : ∀ l, c ≠ .addTickets l) (ha1 : ∀ l, c ≠ .addTicketsV1 l)
    (ha2 : ∀ l, c ≠ .addTicketsV2 l)
    (h : exec hash t e c = .ok t') : t'.s.tk = t.s.tk := by
  have hw := exec_written h
  cases c
  case claim => exact absurd rfl hc
  case filter => exact absurd rfl hf
  case addTickets l => exact absurd rfl (ha l)
  case addTicketsV1 l => exact absurd rfl (ha1 l)
  case addTicketsV2 l => exact absurd rfl (ha2 l)
  all_goals exact (congrArg State.tk hw :)

theorem filterTickets_selected {t t' : Tx} {e : Env}
    (h : filterTickets t e = .ok t') : t'.s.flags.selected = t.s.flags.selected := by
  obtain ⟨_, _, _, _, _, _, _, _, _, rfl, hs, _⟩ := filterTickets_fp h
  exact hs

def TKShrink (s s' : State) : Prop :=
  s'.lastTicketId = s.lastTicketId ∧ ∀ a rg, s'.range a = some rg → s.range a = some rg

theorem TKShrink.refl (s : State) : TKShrink s s := ⟨rfl, fun _ _ h => h⟩

theorem exec_claim_shrink {hash : List Nat → List Nat} {t t' : Tx} {e : Env}
    (h : exec hash t e .claim = .ok t') : TKShrink t.s t'.s := by
  rcases (exec_fp h).1 with ⟨_, _, _, _, hs⟩ | ⟨_, r, _, _, _, _, _, _, _, hs⟩ <;> rw [hs]
  · exact .refl _
  · refine ⟨rfl, fun a rg hr => ?_⟩
    have hr' : upd t.s.range e.caller none a = some rg := hr
    rw [upd_apply] at hr'
    split at hr'
    · cases hr'
    · exact hr'

open LP.Props LP.Events LP.FY

/-- `L` lists (address, size) -/
structure ar_Part (c : Core) (L : List (Nat × Nat)) : Prop where
  nodup : (L.map Prod.fst).Nodup
  pos : ∀ p ∈ L, 1 ≤ p.2
  chain : Chain L 1 c.range c.batch
  last : c.lastTicketId = ticketTotal L
  out : ∀ a, a ∉ L.map Prod.fst → c.range a = none ∧ c.confirmed a = 0

def ar_size (range : Nat → Option Range) (a : Nat) : Nat :=
  match range a with
  | none => 0
  | some r => rangeLen r

theorem ar_size_none {range : Nat → Option Range} {a : Nat} (h : range a = none) :
    ar_size range a = 0 := by simp [ar_size, h]

theorem ar_size_some {range : Nat → Option Range} {a : Nat} {r : Range} (h : range a = some r) :
    ar_size range a = rangeLen r := by simp [ar_size, h]

namespace ar_Part
variable {c : Core} {L : List (Nat × Nat)}

theorem mem_of_range (h : ar_Part c L) {a : Nat} {r : Range} (hr : c.range a = some r) :
    ∃ p ∈ L, p.1 = a ∧ 1 ≤ r.first ∧ r.first ≤ r.last ∧ r.last ≤ c.lastTicketId ∧
      r.last + 1 = r.first + p.2 := by
  by_cases ha : a ∈ L.map Prod.fst
  · obtain ⟨p, hp, rfl⟩ := List.mem_map.mp ha
    obtain ⟨r', hr', h1, h2, h3, h4⟩ := Chain_bounds h.chain h.pos p hp
    rw [hr] at hr'; injection hr' with hr'; subst hr'
    exact ⟨p, hp, rfl, h1, h2, by rw [h.last]; omega, h4⟩
  · rw [(h.out a ha).1] at hr; cases hr

theorem range_of_mem (h : ar_Part c L) {p : Nat × Nat} (hp : p ∈ L) :
    ∃ r, c.range p.1 = some r ∧ 1 ≤ r.first ∧ r.first ≤ r.last ∧ r.last ≤ c.lastTicketId ∧
      r.last + 1 = r.first + p.2 := by
  obtain ⟨r', hr', h1, h2, h3, h4⟩ := Chain_bounds h.chain h.pos p hp
  exact ⟨r', hr', h1, h2, by rw [h.last]; omega, h4⟩

theorem bounds (h : ar_Part c L) {a : Nat} {r : Range} (hr : c.range a = some r) :
    1 ≤ r.first ∧ r.first ≤ r.last ∧ r.last ≤ c.lastTicketId := by
  obtain ⟨_, _, _, h1, h2, h3, _⟩ := h.mem_of_range hr
  exact ⟨h1, h2, h3⟩

theorem disj (h : ar_Part c L) {a b : Nat} {ra rb : Range} (hne : a ≠ b)
    (hra : c.range a = some ra) (hrb : c.range b = some rb) :
    ra.last < rb.first ∨ rb.last < ra.first := by
  obtain ⟨p, hp, rfl, _⟩ := h.mem_of_range hra
  obtain ⟨q, hq, rfl, _⟩ := h.mem_of_range hrb
  exact Chain_disjoint h.chain h.pos p hp q hq hne ra rb hra hrb

theorem cover (h : ar_Part c L) {t : Nat} (h1 : 1 ≤ t) (h2 : t ≤ c.lastTicketId) :
    ∃ a r, c.range a = some r ∧ r.first ≤ t ∧ t ≤ r.last ∧
      ∀ b rb, c.range b = some rb → rb.first ≤ t → t ≤ rb.last → b = a := by
  obtain ⟨p, _, r, hr, h3, h4⟩ := Chain_cover h.chain t h1 (by rw [← h.last]; omega)
  refine ⟨p.1, r, hr, h3, h4, ?_⟩
  intro b rb hrb h5 h6
  apply Classical.byContradiction
  intro hne
  rcases h.disj hne hrb hr with h7 | h7 <;> omega

theorem size_eq (h : ar_Part c L) {p : Nat × Nat} (hp : p ∈ L) : ar_size c.range p.1 = p.2 := by
  obtain ⟨r, hr, _, _, _, h4⟩ := h.range_of_mem hp
  rw [ar_size_some hr]; unfold rangeLen; omega

theorem sumOver_sizes {f : Nat → Nat} : ∀ {L : List (Nat × Nat)}, (∀ p ∈ L, f p.1 = p.2) →
    sumOver f (L.map Prod.fst) = ticketTotal L
  | [], _ => rfl
  | p :: rest, h => by
    simp only [List.map_cons, sumOver, ticketTotal]
    rw [h p (List.mem_cons_self ..), sumOver_sizes (fun q hq => h q (List.mem_cons_of_mem _ hq))]

theorem sum (h : ar_Part c L) :
    (L.map Prod.fst).Nodup ∧ (∀ a, a ∈ L.map Prod.fst ↔ (c.range a).isSome = true) ∧
    sumOver (ar_size c.range) (L.map Prod.fst) = c.lastTicketId := by
  refine ⟨h.nodup, ?_, ?_⟩
  · intro a
    constructor
    · intro ha
      obtain ⟨p, hp, rfl⟩ := List.mem_map.mp ha
      obtain ⟨r, hr, _⟩ := h.range_of_mem hp
      rw [hr]; rfl
    · intro hs
      apply Classical.byContradiction
      intro ha
      rw [(h.out a ha).1] at hs; cases hs
  · rw [h.last]; exact sumOver_sizes (fun p hp => h.size_eq hp)

theorem payBal (h : ar_Part c L) (x : Nat) : ar_Part { c with payBal := x } L :=
  ⟨h.nodup, h.pos, h.chain, h.last, h.out⟩

end ar_Part

structure ar_Tix (c : Core) : Prop where
  pre : c.flags.filtered = false → c.op = .none →
    ∃ L, ar_Part c L ∧ ∀ p ∈ L, c.confirmed p.1 ≤ p.2
  post : c.flags.filtered = true → c.flags.selected = false →
    ∃ L, ar_Part c L ∧ ∀ p ∈ L, p.2 = c.confirmed p.1
  /-- `filtered = false` includes the states in which the filter is interrupted -/
  confLe : c.flags.filtered = false → ∀ a, c.confirmed a ≤ ar_size c.range a ∧
    ∀ r, c.range a = some r → r.first ≤ r.last
  confEq : c.flags.filtered = true → ∀ a, c.confirmed a = ar_size c.range a ∧
    ∀ r, c.range a = some r → r.first ≤ r.last
  disjF : c.flags.filtered = true → ∀ a b ra rb, a ≠ b → c.range a = some ra →
    c.range b = some rb → ra.last < rb.first ∨ rb.last < ra.first
  bndPre : c.flags.filtered = false → ∀ a r, c.range a = some r →
    1 ≤ r.first ∧ r.last ≤ c.lastTicketId

theorem ar_Tix.of_payBal {c : Core} {x : Nat} (h : ar_Tix { c with payBal := x }) : ar_Tix c := by
  refine ⟨fun h1 h2 => ?_, fun h1 h2 => ?_, h.confLe, h.confEq, h.disjF, h.bndPre⟩
  · obtain ⟨L, hp, hle⟩ := h.pre h1 h2
    exact ⟨L, ⟨hp.nodup, hp.pos, hp.chain, hp.last, hp.out⟩, hle⟩
  · obtain ⟨L, hp, hle⟩ := h.post h1 h2
    exact ⟨L, ⟨hp.nodup, hp.pos, hp.chain, hp.last, hp.out⟩, hle⟩

theorem ar_confLe_of_part {c : Core} {L : List (Nat × Nat)} (hp : ar_Part c L)
    (hle : ∀ p ∈ L, c.confirmed p.1 ≤ p.2) (a : Nat) :
    c.confirmed a ≤ ar_size c.range a ∧ ∀ r, c.range a = some r → r.first ≤ r.last := by
  refine ⟨?_, fun r hr => (hp.bounds hr).2.1⟩
  by_cases ha : a ∈ L.map Prod.fst
  · obtain ⟨p, hp', rfl⟩ := List.mem_map.mp ha
    rw [hp.size_eq hp']; exact hle p hp'
  · rw [(hp.out a ha).2]; exact Nat.zero_le _

theorem ar_confEq_of_part {c : Core} {L : List (Nat × Nat)} (hp : ar_Part c L)
    (hle : ∀ p ∈ L, p.2 = c.confirmed p.1) (a : Nat) :
    c.confirmed a = ar_size c.range a ∧ ∀ r, c.range a = some r → r.first ≤ r.last := by
  refine ⟨?_, fun r hr => (hp.bounds hr).2.1⟩
  by_cases ha : a ∈ L.map Prod.fst
  · obtain ⟨p, hp', rfl⟩ := List.mem_map.mp ha
    rw [hp.size_eq hp']; exact (hle p hp').symm
  · rw [(hp.out a ha).2, ar_size_none (hp.out a ha).1]

theorem ar_Tix_of_PhA {T0 : Nat} {c : Core} {L0 : List (Nat × Nat)} (hp : Pre T0 c L0)
    (ha : PhA c L0) : ar_Tix c := by
  have hpart : ar_Part c L0 :=
    ⟨hp.ok.nodup, hp.ok.pos, ha.chain, ha.last, fun a h => ⟨hp.outR a h, hp.outC a h⟩⟩
  refine ⟨fun _ _ => ⟨L0, hpart, hp.ok.le⟩, fun h => ?_, fun _ => ar_confLe_of_part hpart hp.ok.le,
    fun h => ?_, fun h => ?_,
    fun _ a r hr => ⟨(hpart.bounds hr).1, (hpart.bounds hr).2.2⟩⟩ <;>
    (rw [hp.notFiltered] at h; cases h)

/-- the record of `a` while the filter is interrupted (processed prefix `P`, compacted from ticket 1;
    untouched suffix `S`, still at its old place): absent only if `a` has nothing confirmed, otherwise
    a non-empty range inside the ticket space that holds at least the confirmed tickets -/
theorem ar_mid_record {conf : Nat → Nat} {last : Nat} {L0 : List (Nat × Nat)} {x : FilSt}
    (hok : AllocOK conf L0) (hout : ∀ a, a ∉ L0.map Prod.fst → conf a = 0)
    (hm : Mid conf last L0 x) (a : Nat) :
    match x.range a with
    | none => conf a = 0
    | some r => 1 ≤ r.first ∧ r.first ≤ r.last ∧ r.last ≤ last ∧ conf a ≤ rangeLen r := by
  obtain ⟨P, S, hL, hP, hS, hfirst, _, hend, hzero, hnone⟩ := hm
  by_cases ha : a ∈ L0.map Prod.fst
  · rw [hL, List.map_append, List.mem_append] at ha
    rcases ha with ha | ha
    · obtain ⟨p, hp, rfl⟩ := List.mem_map.mp ha
      by_cases h0 : conf p.1 = 0
      · rw [hzero p hp h0]; exact h0
      · have hmem : (p.1, conf p.1) ∈ survivors conf P := by
          unfold survivors
          rw [List.mem_filterMap]
          exact ⟨p, hp, by simp [h0]⟩
        obtain ⟨r, hr, h1, h2, h3, h4⟩ := Chain_bounds hP (survivors_pos conf P) _ hmem
        have hle := confSum_add_droppedSum conf P
          (fun q hq => hok.le q (by rw [hL]; exact List.mem_append_left _ hq))
        rw [ticketTotal_survivors] at h3
        rw [hr]
        simp only at h4
        exact ⟨h1, h2, by omega, by unfold rangeLen; omega⟩
    · obtain ⟨p, hp, rfl⟩ := List.mem_map.mp ha
      have hpL : p ∈ L0 := by rw [hL]; exact List.mem_append_right _ hp
      obtain ⟨r, hr, h1, h2, h3, h4⟩ := Chain_bounds hS
        (fun q hq => hok.pos q (by rw [hL]; exact List.mem_append_right _ hq)) p hp
      have := hok.le p hpL
      rw [hr]
      exact ⟨by omega, h2, by omega, by unfold rangeLen; omega⟩
  · rw [hnone a ha]; exact hout a ha

theorem ar_Tix_of_PhB {T0 : Nat} {c : Core} {L0 : List (Nat × Nat)} (hp : Pre T0 c L0)
    (hb : PhB c L0) : ar_Tix c := by
  obtain ⟨f, rm, hop, hmid⟩ := hb.mid
  have hrec := ar_mid_record hp.ok hp.outC hmid
  refine ⟨fun _ h => ?_, fun h => ?_, fun _ a => ?_, fun h => ?_, fun h => ?_, fun _ a r hr => ?_⟩
  · rw [hop] at h; cases h
  · rw [hp.notFiltered] at h; cases h
  · have := hrec a
    cases hr : c.range a with
    | none =>
      rw [show (FilSt.mk c.range c.batch f rm).range a = none from hr] at this
      exact ⟨by rw [this]; exact Nat.zero_le _, fun r h => by cases h⟩
    | some r =>
      rw [show (FilSt.mk c.range c.batch f rm).range a = some r from hr] at this
      refine ⟨by rw [ar_size_some hr]; exact this.2.2.2, fun r' h => ?_⟩
      injection h with h; subst h; exact this.2.1
  · rw [hp.notFiltered] at h; cases h
  · rw [hp.notFiltered] at h; cases h
  · have := hrec a
    rw [show (FilSt.mk c.range c.batch f rm).range a = some r from hr] at this
    exact ⟨this.1, this.2.2.1⟩

theorem ar_part_of_alloc {c : Core}
    (alloc : be_Alloc c) :
    ∃ L, ar_Part c L ∧ ∀ p ∈ L, p.2 = c.confirmed p.1 := by
  obtain ⟨Ls, hnd, hpos, hch, hlast, hout, _⟩ := alloc
  exact ⟨Ls, ⟨hnd, fun p hp => (hpos p hp).1, hch, hlast, hout⟩, fun p hp => (hpos p hp).2⟩

theorem be_Shape.arTix {c : Core} (h : be_Shape c) : ar_Tix c := by
  cases h with
  | pre hp hab => exact hab.elim (ar_Tix_of_PhA hp) (ar_Tix_of_PhB hp)
  | alloc _ hf _ alloc =>
    obtain ⟨Ls, hpart, heq⟩ := ar_part_of_alloc alloc
    refine ⟨fun h => ?_, fun _ _ => ⟨Ls, hpart, heq⟩, fun h => ?_,
      fun _ => ar_confEq_of_part hpart heq, fun _ a b ra rb hne hra hrb => hpart.disj hne hra hrb,
      fun h => ?_⟩ <;>
      (rw [hf] at h; cases h)
  | done hd _ =>
    have hf : c.flags.filtered = true := hd.filtered
    have hs : c.flags.selected = true := hd.selected
    refine ⟨fun h1 => ?_, fun _ h1 => ?_, fun h1 => ?_, fun _ a => ?_, fun _ => hd.disj,
      fun h1 => (by rw [hf] at h1; cases h1)⟩
    · rw [hf] at h1; cases h1
    · rw [hs] at h1; cases h1
    · rw [hf] at h1; cases h1
    · cases hr : c.range a with
      | none => exact ⟨by rw [ar_size_none hr]; exact hd.rngNone a hr, fun r h1 => by cases h1⟩
      | some r =>
        obtain ⟨h1, h2⟩ := hd.rngOk a r hr
        have h2' : r.last + 1 = r.first + c.confirmed a := h2
        refine ⟨by rw [ar_size_some hr]; unfold rangeLen; omega, fun r' h3 => ?_⟩
        injection h3 with h3; subst h3; exact h1

theorem ar_tix_covered {hash : List Nat → List Nat} {s : State} {r : Nat}
    (h : be_Covered hash s r) : ar_Tix s.core := by
  obtain ⟨x, hx⟩ := (be_covered_common h).shape
  exact hx.arTix.of_payBal

/-- the (address, size) pairs an allocation call creates (v1: staking + energy tickets; v2: the
    zero-size entries are skipped by the contract) -/
def ar_allocList : Call → Option (List (Nat × Nat))
  | .addTickets l => some l
  | .addTicketsV1 l => some (v1_proj l)
  | .addTicketsV2 l => some (v2Proj l)
  | _ => none

theorem ar_alloc_pos {e : Env} {c : Call} {L : List (Nat × Nat)} (hok : be_HistOK e c)
    (hL : ar_allocList c = some L) : ∀ p ∈ L, 1 ≤ p.2 := by
  cases c with
  | addTickets l =>
    simp only [ar_allocList, Option.some.injEq] at hL; subst hL
    exact hok.2.1
  | addTicketsV1 l =>
    simp only [ar_allocList, Option.some.injEq] at hL; subst hL
    intro p hp
    obtain ⟨q, hq, rfl⟩ := List.mem_map.mp hp
    exact hok.2.2 q hq
  | addTicketsV2 l =>
    simp only [ar_allocList, Option.some.injEq] at hL; subst hL
    exact v2Proj_pos l
  | _ => cases hL

theorem ar_exec_alloc {hash : List Nat → List Nat} {t t' : Tx} {e : Env} {c : Call}
    {L : List (Nat × Nat)} (hL : ar_allocList c = some L) (h : exec hash t e c = .ok t') :
    t.s.stage e = .addTickets ∧
    ∃ z', createMany L t.s = .ok z' ∧ t'.s.range = z'.range ∧ t'.s.batch = z'.batch ∧
      t'.s.lastTicketId = z'.lastTicketId := by
  cases c with
  | addTickets l =>
    simp only [ar_allocList, Option.some.injEq] at hL; subst hL
    simp only [exec, bind_ok_iff, pure_ok_iff, req_ok_iff, requireStage, exists_const] at h
    obtain ⟨hst, s1, h1, rfl⟩ := h
    exact ⟨by simpa using hst, s1, h1, rfl, rfl, rfl⟩
  | addTicketsV1 l =>
    simp only [ar_allocList, Option.some.injEq] at hL; subst hL
    simp only [exec, bind_ok_iff, pure_ok_iff] at h
    obtain ⟨s1, h1, rfl⟩ := h
    obtain ⟨hst, z', k1, k2, k3, k4, _⟩ := v1_addTicketsV1_inv h1
    exact ⟨hst, z', k1, k2, k3, k4⟩
  | addTicketsV2 l =>
    simp only [ar_allocList, Option.some.injEq] at hL; subst hL
    obtain ⟨hst, z', k1, wl, u, nw, tg, k2⟩ := v2_addTicketsV2_inv (by simpa only [exec] using h)
    exact ⟨hst, z', k1, by rw [k2], by rw [k2], by rw [k2]⟩
  | _ => cases hL

theorem ar_step_alloc {hash : List Nat → List Nat} {s s' : State} {e : Env} {c : Call} {o : Out}
    {L : List (Nat × Nat)} (hL : ar_allocList c = some L) (h : step hash s e c = .ok (s', o)) :
    s.stage e = .addTickets ∧
    (L.map Prod.fst).Nodup ∧ (∀ a ∈ L.map Prod.fst, s.range a = none) ∧
    s'.lastTicketId = s.lastTicketId + ticketTotal L ∧
    ((∀ p ∈ L, 1 ≤ p.2) → Chain L (s.lastTicketId + 1) s'.range s'.batch) ∧
    (∀ a, a ∉ L.map Prod.fst → s'.range a = s.range a) := by
  obtain ⟨m, t, _, _, _, hx, rfl, _⟩ := step_ok_inv h
  obtain ⟨hst, z', k1, k2, k3, k4⟩ := ar_exec_alloc hL hx
  obtain ⟨h1, h2, _, h4, h5, h6, _, _⟩ := createMany_ok L _ z' k1
  refine ⟨hst, h1, h2, by rw [k4, h4]; rfl, fun hpos => ?_, fun a ha => by rw [k2, h6 a ha]; rfl⟩
  rw [k2, k3]; exact h5 hpos

theorem ar_step_alloc_exact {hash : List Nat → List Nat} {s s' : State} {e : Env} {c : Call} {o : Out}
    {L : List (Nat × Nat)} (hL : ar_allocList c = some L) (hpos : ∀ p ∈ L, 1 ≤ p.2)
    (h : step hash s e c = .ok (s', o)) {P S : List (Nat × Nat)} {a n : Nat}
    (hsplit : L = P ++ (a, n) :: S) :
    s.range a = none ∧
    s'.range a = some ⟨s.lastTicketId + ticketTotal P + 1, s.lastTicketId + ticketTotal P + n⟩ ∧
    ar_size s'.range a = n := by
  obtain ⟨_, _, h2, _, h4, _⟩ := ar_step_alloc hL h
  have hch := h4 hpos
  rw [hsplit] at hch
  have hn : 1 ≤ n := hpos (a, n) (by rw [hsplit]; simp)
  have hr := (Chain_split hch).1
  have hr' : s'.range a = some ⟨s.lastTicketId + ticketTotal P + 1, s.lastTicketId + ticketTotal P + n⟩ := by
    rw [hr]
    show some (Range.mk _ _) = some (Range.mk _ _)
    congr 2 <;> omega
  refine ⟨h2 a (by rw [hsplit]; simp), hr', ?_⟩
  rw [ar_size_some hr']; unfold rangeLen; simp only; omega

theorem be_Shape.startedIff {c : Core} (h : be_Shape c) :
    c.flags.started = false ↔ (c.flags.filtered = false ∧ c.op = .none) := by
  cases h with
  | pre hp hab =>
    rcases hab with ha | hb
    · exact ⟨fun _ => ⟨hp.notFiltered, ha.op⟩, fun _ => ha.notStarted⟩
    · obtain ⟨f, rm, h1, _⟩ := hb.mid
      exact ⟨fun hs => (by rw [hb.started] at hs; cases hs), fun hf => (by rw [hf.2] at h1; cases h1)⟩
  | alloc hs hf _ _ =>
    exact ⟨fun h => (by rw [hs] at h; cases h), fun h => (by rw [hf] at h; cases h.1)⟩
  | done hd _ =>
    exact ⟨fun h => (by rw [hd.started] at h; cases h), fun h => (by rw [hd.filtered] at h; cases h.1)⟩

theorem gp_started_iff {hash : List Nat → List Nat} {s : State} {r : Nat}
    (h : be_Covered hash s r) :
    s.flags.started = false ↔ (s.flags.filtered = false ∧ s.op = .none) := by
  obtain ⟨x, hx⟩ := (be_covered_common h).shape
  exact hx.startedIff

theorem gp_filter_starts {hash : List Nat → List Nat} {s s' : State} {e : Env} {o : Out}
    (h : step hash s e .filter = .ok (s', o)) (hop : s.op = .none) : s'.flags.started = true := by
  obtain ⟨m, t, _, _, _, hx, rfl, _⟩ := step_ok_inv h
  simp only [exec] at hx
  obtain ⟨_, x, f, b, hfs, hcase⟩ := filterTickets_ok_cases _ _ _ hx
  have hop0 : (tx0 s e).s.op = .none := hop
  simp only [filStOf, hop0, Option.some.injEq] at hfs
  have hfirst : x.first = 1 := by rw [← hfs]
  have hfl := filterFlags_started (tx0 s e).s x.first (Or.inl hfirst)
  rcases hcase with ⟨_, hs'⟩ | ⟨_, _, hs'⟩
  · rw [hs']; exact hfl
  · rw [hs']; exact hfl

/-- the calls that write allocation records or batches (`range`, `batch`) -/
def Call.writesRB : Call → Bool
  | .addTickets _ | .addTicketsV1 _ | .addTicketsV2 _ | .filter | .claim => true
  | _ => false

theorem ar_step_cases {hash : List Nat → List Nat} {s s' : State} {e : Env} {c : Call} {o : Out}
    (h : step hash s e c = .ok (s', o)) :
    (∃ L, ar_allocList c = some L) ∨ c = .filter ∨ c = .claim ∨
      (s'.tk = s.tk ∧ c.writesRB = false) := by
  cases hw : c.writesRB with
  | false =>
    obtain ⟨m, t, _, _, _, hx, rfl, _⟩ := step_ok_inv h
    exact .inr (.inr (.inr ⟨exec_tk_eq (by rintro rfl; cases hw) (by rintro rfl; cases hw)
      (fun _ => by rintro rfl; cases hw) (fun _ => by rintro rfl; cases hw)
      (fun _ => by rintro rfl; cases hw) hx, rfl⟩))
  | true =>
    cases c
    case addTickets l => exact .inl ⟨l, rfl⟩
    case addTicketsV1 l => exact .inl ⟨v1_proj l, rfl⟩
    case addTicketsV2 l => exact .inl ⟨v2Proj l, rfl⟩
    case filter => exact .inr (.inl rfl)
    case claim => exact .inr (.inr (.inl rfl))
    all_goals cases hw

theorem gp_step_keeps {hash : List Nat → List Nat} {s s' : State} {r : Nat} {e : Env} {c : Call}
    {o : Out} (hs : be_Covered hash s r) (h : step hash s e c = .ok (s', o))
    (hns' : s'.flags.started = false) :
    s.flags.started = false ∧ ∀ a rg, s.range a = some rg → s'.range a = some rg := by
  have hns : s.flags.started = false := by
    cases h1 : s.flags.started with
    | false => rfl
    | true =>
      have := (step_flags_gain4 h).1 h1
      rw [hns'] at this; cases this
  refine ⟨hns, ?_⟩
  obtain ⟨hnf, hop⟩ := (gp_started_iff hs).mp hns
  have hg := (be_family_all hash).good hs
  intro a rg hrg
  rcases ar_step_cases h with ⟨L, hL⟩ | rfl | rfl | ⟨htk, _⟩
  · obtain ⟨_, _, h2, _, _, h5⟩ := ar_step_alloc hL h
    rw [h5 a (fun ha => by rw [h2 a ha] at hrg; cases hrg)]; exact hrg
  · have := gp_filter_starts h hop
    rw [hns'] at this; cases this
  · rcases C06.claim_gate hash s e _ h with h1 | ⟨hv, hcl⟩
    · have := hg.tix.selFil (stage_claim_iff.mp h1).1.1
      have : s.flags.filtered = true := this
      rw [hnf] at this; cases this
    · rw [hg.fresh hv hnf] at hcl; cases hcl
  · rw [tk_range htk]; exact hrg

theorem gp_later_keeps {hash : List Nat → List Nat} {s s' : State} {r r' : Nat}
    (hs : be_Covered hash s r) (hl : be_Later be_HistOK hash s r s' r')
    (hns' : s'.flags.started = false) :
    s.flags.started = false ∧ ∀ a rg, s.range a = some rg → s'.range a = some rg := by
  induction hl with
  | refl => exact ⟨hns', fun _ _ h => h⟩
  | call s1 r1 e c s2 o hl1 h1 h2 h3 ih =>
    have hc1 := (be_family_all hash).later hs hl1
    obtain ⟨hn1, hk⟩ := gp_step_keeps hc1 h3 hns'
    obtain ⟨hn0, hk0⟩ := ih hn1
    exact ⟨hn0, fun a rg hrg => hk a rg (hk0 a rg hrg)⟩
  | wait s1 r1 r2 _ h1 ih => exact ih hns'

/-- before the selection start round the filter cannot have started, so `gp_later_keeps` applies -/
theorem ar_later_keeps {hash : List Nat → List Nat} {s s' : State} {r r' : Nat}
    (hs : be_Covered hash s r) (hl : be_Later be_HistOK hash s r s' r') (hearly : r' < s'.cfg.sel) :
    ∀ a rg, s.range a = some rg → s'.range a = some rg := by
  have hs' := (be_family_all hash).later hs hl
  have hns' : s'.flags.started = false := by
    cases h1 : s'.flags.started with
    | false => rfl
    | true => have := ((be_covered_common hs').tlStarted h1).2; omega
  exact (gp_later_keeps hs hl hns').2

def ar_Bnd (s : State) : Prop :=
  ∀ a rg, s.range a = some rg → 1 ≤ rg.first ∧ rg.last ≤ s.lastTicketId

theorem ar_bnd_of_tix {s : State} (ht : ar_Tix s.core) (hsel : s.flags.selected = false) :
    ar_Bnd s := by
  intro a rg hr
  cases hf : s.flags.filtered with
  | false => exact ht.bndPre hf a rg hr
  | true =>
    obtain ⟨L, hp, _⟩ := ht.post hf hsel
    have := hp.bounds hr
    exact ⟨this.1, this.2.2⟩

theorem ar_bnd_init {v : Variant} {a : InitArgs} {e : Env} {s : State}
    (h : init v a e = .ok s) : ar_Bnd s := by
  obtain ⟨_, rfl⟩ := init_ok h
  intro x rg hr
  cases hr

/-- allocation keeps every record inside the (grown) ticket space — also for zero-size entries -/
theorem ar_createMany_bnd : ∀ (L : List (Nat × Nat)) (s s' : State), createMany L s = .ok s' →
    ar_Bnd s → ar_Bnd s'
  | [], s, s', h, hb => by
    simp only [createMany, Except.ok.injEq] at h; subst h; exact hb
  | (a, n) :: rest, s, s', h, hb => by
    obtain ⟨_, _, h⟩ := createMany_cons_inv s s' a n rest h
    refine ar_createMany_bnd rest _ s' h ?_
    intro x rg hr
    have hr' : upd s.range a (some ⟨s.lastTicketId + 1, s.lastTicketId + n⟩) x = some rg := hr
    show 1 ≤ rg.first ∧ rg.last ≤ s.lastTicketId + n
    rw [upd_apply] at hr'
    split at hr'
    · injection hr' with hr'; subst hr'
      exact ⟨by simp only; omega, Nat.le_refl _⟩
    · have := hb x rg hr'
      exact ⟨this.1, by omega⟩

/-- the filter is closed once the lottery has run, so an accepted `filter` ends unselected -/
theorem ar_filter_unselected {hash : List Nat → List Nat} {s s' : State} {r : Nat} {e : Env}
    {o : Out} (hs : be_Covered hash s r) (h : step hash s e .filter = .ok (s', o)) :
    s'.flags.selected = false := by
  have hnf := (C06.filter_gate hash s e _ h).2
  obtain ⟨m, t, _, _, _, hx, rfl, _⟩ := step_ok_inv h
  have h1 : t.s.flags.selected = s.flags.selected :=
    filterTickets_selected (by simpa only [exec] using hx)
  cases hsel : s.flags.selected with
  | false => exact h1.trans hsel
  | true =>
    have hfil : s.flags.filtered = true := ((be_family_all hash).good hs).tix.selFil hsel
    rw [hfil] at hnf; cases hnf

theorem ar_bnd_step {hash : List Nat → List Nat} {s s' : State} {r r' : Nat} {e : Env} {c : Call}
    {o : Out} (hs : be_Covered hash s r) (hs' : be_Covered hash s' r')
    (h : step hash s e c = .ok (s', o)) (hb : ar_Bnd s) : ar_Bnd s' := by
  cases hsel : s'.flags.selected with
  | false => exact ar_bnd_of_tix (ar_tix_covered hs') hsel
  | true =>
    rcases ar_step_cases h with ⟨L, hL⟩ | rfl | rfl | ⟨htk, _⟩
    · obtain ⟨m, t, _, _, _, hx, rfl, _⟩ := step_ok_inv h
      obtain ⟨_, z', k1, k2, _, k4⟩ := ar_exec_alloc hL hx
      have hz : ar_Bnd z' := ar_createMany_bnd L _ z' k1 hb
      intro a rg hr
      rw [k2] at hr
      have := hz a rg hr
      exact ⟨this.1, by rw [k4]; exact this.2⟩
    · exact absurd ((ar_filter_unselected hs h).symm.trans hsel) nofun
    · obtain ⟨m, t, _, _, _, hx, rfl, _⟩ := step_ok_inv h
      have hsh := exec_claim_shrink hx
      intro a rg hr
      have := hb a rg (hsh.2 a rg hr)
      exact ⟨this.1, by rw [hsh.1]; exact this.2⟩
    · intro a rg hr
      rw [tk_range htk] at hr
      have := hb a rg hr
      exact ⟨this.1, by rw [tk_last htk]; exact this.2⟩

theorem ar_bnd_covered {hash : List Nat → List Nat} {s : State} {r : Nat}
    (h : be_Covered hash s r) : ar_Bnd s :=
  be_covered_induct (Q := ar_Bnd) (fun _ _ _ _ hi => ar_bnd_init hi)
    (fun _ _ _ _ _ _ hs hs' _ hst hq => ar_bnd_step hs hs' hst hq) h

end LP
