import LP.Step
import LP.Proofs.Loop
import LP.Proofs.StepLemmas
/-
  The gas-resumable endpoints `selectWinners`, `selectNft`, `distribute`, `secondary`, each read ONCE as
      gates ; load the cursor ; tail                                   (`X_def`)
  with one exact lemma per part (`XGates_ok_iff`, `XLoadTx_ok_iff`) and the inversion of an accepted call
  `X_iff` (on `gated_ok_iff`).  Everything else goes through `X_def` / `X_iff`: the events and footprints
  (LP/Proofs/Events.lean, which takes `selectWinners_read`, the form of `selectWinners_def` with the loop on
  `SelSt`; Footprint.lean), the gates (Gate.lean), the schedules of chunked calls (Resume.lean), the
  overwrites they commute with (Overwrite.lean).  No other proof unfolds one of these endpoints.
  (`filterTickets` is read the same way in LP/Proofs/Filter.lean.)

  The loop of `selectWinners` carries the transaction record `tx : Tx` as draw source / draw log.  Only two
  components of it are ever touched by `Tx.draw`: the hook's script and the draw log; they are isolated as
  a *draw context* `DCtx`, and the loop body is the image, under a lifting map, of a *core* body that does
  not mention the transaction (`selectBody_lift`); `runWhile_map` transports whole runs.
-/
namespace LP

theorem gated_ok_iff {α β : Type} (gates : Res Unit) (load : Res α) (tail : α → Res β) (b : β) :
    (gates >>= fun _ => load >>= tail) = .ok b ↔
      gates = .ok () ∧ ∃ a, load = .ok a ∧ tail a = .ok b := by
  simp only [bind_ok_iff]
  exact ⟨fun ⟨⟨⟩, h⟩ => h, fun h => ⟨(), h⟩⟩


/-- the seed a call hands to its first `Random::default()` -/
def firstRng (seeds : List (List Nat)) : Rng := ⟨seeds.headD zeroSeed, 0⟩

/-- `Random::default()` takes the first seed off the list; nothing else of the record changes -/
theorem Tx.freshRng_eq (t : Tx) :
    t.freshRng = (firstRng t.c.seeds, { t with c := { t.c with seeds := t.c.seeds.tail } }) := by
  obtain ⟨s, ⟨b, sd, sc⟩, o⟩ := t
  cases sd <;> rfl

theorem Tx.freshRng_fp (t : Tx) : t.freshRng.2.s = t.s ∧ t.freshRng.2.o = t.o := by
  rw [Tx.freshRng_eq]; exact ⟨rfl, rfl⟩

@[simp] theorem Tx.freshRng_s (t : Tx) : t.freshRng.2.s = t.s := t.freshRng_fp.1
theorem Tx.g_freshRng_o (t : Tx) : t.freshRng.2.o = t.o := t.freshRng_fp.2


/-! ### the draw context -/

/-- the part of a transaction record that `Tx.draw` reads and writes -/
structure DCtx where
  script : List Nat
  log : List Nat

def DCtx.draw (hash : List Nat → List Nat) (d : DCtx) (rng : Rng) : Nat × Rng × DCtx :=
  match d.script with
  | [] => ((rng.next hash).1, (rng.next hash).2, ⟨[], d.log ++ [(rng.next hash).1]⟩)
  | x :: xs => (x, (rng.next hash).2, ⟨xs, d.log ++ [x]⟩)

def Tx.dctx (t : Tx) : DCtx := ⟨t.c.script, t.o.draws⟩

def Tx.withDctx (t : Tx) (d : DCtx) : Tx :=
  { t with c := { t.c with script := d.script }, o := { t.o with draws := d.log } }

theorem Tx.withDctx_dctx (t : Tx) : t.withDctx t.dctx = t := rfl
@[simp] theorem Tx.withDctx_s (t : Tx) (d : DCtx) : (t.withDctx d).s = t.s := rfl
@[simp] theorem Tx.dctx_withDctx (t : Tx) (d : DCtx) : (t.withDctx d).dctx = d := rfl
@[simp] theorem Tx.withDctx_withDctx (t : Tx) (d d' : DCtx) :
    (t.withDctx d).withDctx d' = t.withDctx d' := rfl

theorem Tx.draw_withDctx (hash : List Nat → List Nat) (t : Tx) (d : DCtx) (rng : Rng) :
    (t.withDctx d).draw hash rng =
      ((d.draw hash rng).1, (d.draw hash rng).2.1, t.withDctx (d.draw hash rng).2.2) := by
  obtain ⟨sc, lg⟩ := d
  cases sc <;> rfl

/-- a draw reads and writes the draw context only -/
theorem Tx.draw_eq (hash : List Nat → List Nat) (t : Tx) (rng : Rng) :
    t.draw hash rng =
      ((t.dctx.draw hash rng).1, (t.dctx.draw hash rng).2.1, t.withDctx (t.dctx.draw hash rng).2.2) :=
  Tx.draw_withDctx hash t t.dctx rng

def DCtx.shift (L : List Nat) (d : DCtx) : DCtx := ⟨d.script, L ++ d.log⟩

theorem DCtx.draw_shift (hash : List Nat → List Nat) (L : List Nat) (d : DCtx) (rng : Rng) :
    (d.shift L).draw hash rng =
      ((d.draw hash rng).1, (d.draw hash rng).2.1, (d.draw hash rng).2.2.shift L) := by
  obtain ⟨sc, lg⟩ := d
  cases sc <;> simp [DCtx.draw, DCtx.shift, List.append_assoc]

theorem DCtx.draw_script_nil (hash : List Nat → List Nat) (d : DCtx) (rng : Rng)
    (h : d.script = []) : (d.draw hash rng).2.2.script = [] := by
  obtain ⟨sc, lg⟩ := d
  simp only at h
  subst h
  rfl

theorem Tx.freshRng_fst (t : Tx) : t.freshRng.1 = firstRng t.c.seeds := by rw [Tx.freshRng_eq]

theorem Tx.freshRng_dctx (t : Tx) : t.freshRng.2.dctx = t.dctx := by rw [Tx.freshRng_eq]; rfl

theorem Tx.freshRng_budget (t : Tx) : t.freshRng.2.c.budget = t.c.budget := by rw [Tx.freshRng_eq]

theorem Tx.freshRng_seeds (t : Tx) : t.freshRng.2.c.seeds = t.c.seeds.tail := by rw [Tx.freshRng_eq]

/-- the loop state of `selectWinners` (`SelSt`) with the draw context in place of the transaction record -/
structure SelCore where
  status : Nat → Bool
  posToId : Nat → Nat
  rng : Rng
  pos : Nat
  d : DCtx

def SelCore.lift (t0 : Tx) (y : SelCore) : SelSt :=
  ⟨y.status, y.posToId, y.rng, y.pos, t0.withDctx y.d⟩

def SelSt.core (x : SelSt) : SelCore := ⟨x.status, x.posToId, x.rng, x.pos, x.tx.dctx⟩

theorem SelSt.lift_core (x : SelSt) : SelCore.lift x.tx x.core = x := rfl
theorem SelCore.core_lift (t0 : Tx) (y : SelCore) : (SelCore.lift t0 y).core = y := rfl

def selCoreBody (hash : List Nat → List Nat) (nr last : Nat) (y : SelCore) :
    Res (SelCore × Bool) :=
  if nr = 0 then .ok (y, false) else
  let r := y.d.draw hash y.rng
  let sp := shuffleStep last y.status y.posToId y.pos r.1
  if y.pos = nr then .ok (⟨sp.1, sp.2, r.2.1, y.pos, r.2.2⟩, false)
  else .ok (⟨sp.1, sp.2, r.2.1, y.pos + 1, r.2.2⟩, true)

theorem selectBody_lift (hash : List Nat → List Nat) (nr last : Nat) (t0 : Tx) (y : SelCore) :
    selectBody hash nr last (SelCore.lift t0 y) =
      (selCoreBody hash nr last y).map (fun p => (SelCore.lift t0 p.1, p.2)) := by
  unfold selectBody selCoreBody
  by_cases h0 : nr = 0
  · simp only [h0, if_true]; rfl
  · simp only [h0, if_false, SelCore.lift, Tx.draw_withDctx]
    by_cases hp : y.pos = nr
    · simp only [hp, if_true]; rfl
    · simp only [hp, if_false]; rfl


/-- storage after an interrupted `selectWinners` call that stopped in loop state `y` -/
def selectSaved (s : State) (y : SelCore) : State :=
  { s with status := y.status, posToId := y.posToId, op := .select y.rng y.pos }

/-- storage after a completed `selectWinners` call that ended in loop state `y` -/
def selectDone (s : State) (y : SelCore) : State :=
  { s with status := y.status, posToId := y.posToId, op := .none,
           flags := { s.flags with selected := true },
           claimablePayment := s.price * s.nrWinning }

structure SelectPre (s : State) (e : Env) : Prop where
  notPaused : s.paused = false
  stage : s.stage e = .winnerSelection
  caller : (e.caller == s.owner || !e.callerIsContract) = true
  filtered : s.flags.filtered = true
  notSelected : s.flags.selected = false

/-- the transaction record after the endpoint has taken its seed (only when it starts the
    operation); the same for all four endpoints -/
def selTxOf (t : Tx) : Tx :=
  match t.s.op with
  | .none => t.freshRng.2
  | _ => t

/-- the loop state the endpoint starts from: fresh generator from the call's first seed and
    position 1 when no operation is saved, the saved `(rng, pos)` otherwise -/
def selCoreOf (t : Tx) : Option SelCore :=
  match t.s.op with
  | .none => some ⟨t.s.status, t.s.posToId, t.freshRng.1, 1, t.dctx⟩
  | .select r p => some ⟨t.s.status, t.s.posToId, r, p, t.dctx⟩
  | _ => none

/-- `selCoreOf` with the transaction record as draw source -/
def selStOf (t : Tx) : Option SelSt := (selCoreOf t).map (SelCore.lift (selTxOf t))

def selectTxInt (t : Tx) (y : SelCore) (b : Option Nat) : Tx :=
  { s := selectSaved t.s y, c := { ((selTxOf t).withDctx y.d).c with budget := b },
    o := { ((selTxOf t).withDctx y.d).o with ret := [1] } }

def selectTxDone (t : Tx) (e : Env) (y : SelCore) (b : Option Nat) : Tx :=
  Tx.emit { s := selectDone t.s y, c := { ((selTxOf t).withDctx y.d).c with budget := b },
            o := { ((selTxOf t).withDctx y.d).o with ret := [0] } }
    ⟨"selectWinnersCompleted", topics e, [e.caller, e.round, e.epoch, t.s.nrWinning]⟩

def selectOutcome (t : Tx) (e : Env) : Res (SelCore × Option Nat × LoopStatus) → Res Tx
  | .error err => .error err
  | .ok (_, _, .outOfFuel) => .error (.vm "out of gas")
  | .ok (y, b, .interrupted) => .ok (selectTxInt t y b)
  | .ok (y, b, .completed) => .ok (selectTxDone t e y b)

theorem selTxOf_o (t : Tx) : (selTxOf t).o = t.o := by
  unfold selTxOf
  split
  · exact Tx.g_freshRng_o t
  · rfl

@[simp] theorem selTxOf_s (t : Tx) : (selTxOf t).s = t.s := by
  unfold selTxOf; split
  · exact Tx.freshRng_s t
  · rfl

@[simp] theorem selTxOf_budget (t : Tx) : (selTxOf t).c.budget = t.c.budget := by
  unfold selTxOf; split
  · exact Tx.freshRng_budget t
  · rfl

@[simp] theorem selTxOf_dctx (t : Tx) : (selTxOf t).dctx = t.dctx := by
  unfold selTxOf; split
  · exact Tx.freshRng_dctx t
  · rfl

theorem selTxOf_seeds (t : Tx) :
    (selTxOf t).c.seeds = (match t.s.op with | .none => t.c.seeds.tail | _ => t.c.seeds) := by
  cases hop : t.s.op <;> simp only [selTxOf, hop]
  exact Tx.freshRng_seeds t

/-- the five gates of `selectWinners` -/
def selGates (s : State) (e : Env) : Res Unit := do
  req (!s.paused) "Contract is paused"
  requireStage s e .winnerSelection "Not in winner selection period"
  ownerOrUser s e
  req s.flags.filtered "Must filter tickets first"
  req (!s.flags.selected) "Winners already selected"

theorem selGates_ok_iff (s : State) (e : Env) : selGates s e = .ok () ↔ SelectPre s e := by
  unfold selGates
  simp only [requireStage, ownerOrUser, bind_ok_iff, req_ok_iff, exists_const, Bool.not_eq_true',
    beq_iff_eq]
  exact ⟨fun ⟨g1, g2, g3, g4, g5⟩ => ⟨g1, g2, g3, g4, g5⟩,
    fun h => ⟨h.notPaused, h.stage, h.caller, h.filtered, h.notSelected⟩⟩

/-- load the saved generator and position or start the lottery (taking the call's first seed) -/
def selLoadTx (t : Tx) : Res (Rng × Nat × Tx) :=
  match t.s.op with
  | .none => let (r, t') := t.freshRng; pure (r, 1, t')
  | .select r p => pure (r, p, t)
  | _ => .error (.user "Another ongoing operation is in progress")

theorem selLoadTx_ok_iff (t : Tx) (r : Rng) (p : Nat) (t1 : Tx) :
    selLoadTx t = .ok (r, p, t1) ↔
      selCoreOf t = some ⟨t.s.status, t.s.posToId, r, p, t.dctx⟩ ∧ t1 = selTxOf t := by
  unfold selLoadTx selCoreOf selTxOf
  rcases hop : t.s.op with _ | _ | _ | d <;>
    simp only [pure, Except.pure, Except.ok.injEq, Prod.mk.injEq, Option.some.injEq, reduceCtorEq,
      false_and, SelCore.mk.injEq, true_and, and_true, eq_comm, and_assoc]

theorem selLoadTx_ok_cases {t : Tx} {r : Rng} {p : Nat} {t1 : Tx} (h : selLoadTx t = .ok (r, p, t1)) :
    (t.s.op = .none ∧ r = t.freshRng.1 ∧ p = 1 ∧ t1 = t.freshRng.2) ∨ (t.s.op = .select r p ∧ t1 = t) := by
  unfold selLoadTx at h
  split at h
  · cases h; exact .inl ⟨‹_›, rfl, rfl, rfl⟩
  · cases h; exact .inr ⟨‹_›, rfl⟩
  · cases h

namespace Events

/-- what `selectWinners` (winner_selection.rs:102-156) returns once its loop has stopped in state
    `x` with budget `b` -/
def selectEnd (e : Env) (s : State) (x : SelSt) (b : Option Nat) : LoopStatus → Res Tx
  | .outOfFuel => .error (.vm "out of gas")
  | .interrupted =>
    pure { s := { s with status := x.status, posToId := x.posToId, op := .select x.rng x.pos },
           c := { x.tx.c with budget := b }, o := { x.tx.o with ret := [1] } }
  | .completed =>
    pure (Tx.emit
      { s := { s with status := x.status, posToId := x.posToId, op := .none,
                      flags := { s.flags with selected := true },
                      claimablePayment := s.price * s.nrWinning },
        c := { x.tx.c with budget := b }, o := { x.tx.o with ret := [0] } }
      ⟨"selectWinnersCompleted", topics e, [e.caller, e.round, e.epoch, s.nrWinning]⟩)

end Events

/-- the endpoint as the model writes it: gates ; load the cursor ; the loop on `SelSt` ; `selectEnd` -/
theorem selectWinners_read (hash : List Nat → List Nat) (t : Tx) (e : Env) :
    selectWinners hash t e =
      (selGates t.s e >>= fun _ => selLoadTx t >>= fun p =>
        runWhile (selectBody hash t.s.nrWinning t.s.lastTicketId) (t.s.nrWinning + 2) p.2.2.c.budget
          ⟨t.s.status, t.s.posToId, p.1, p.2.1, p.2.2⟩ >>= fun r => Events.selectEnd e t.s r.1 r.2.1 r.2.2) := by
  unfold selectWinners selGates selLoadTx
  rcases hop : t.s.op with _ | _ | _ | d <;> simp only [hop, bind_assoc, pure_bind]
  any_goals rfl
  all_goals
    refine bind_congr fun _ => bind_congr fun _ => bind_congr fun _ => bind_congr fun _ =>
      bind_congr fun _ => bind_congr fun ⟨x, b, st⟩ => ?_
    cases st <;> rfl

/-- the same with the loop on the core state: the transaction record enters only as draw context -/
theorem selectWinners_def (hash : List Nat → List Nat) (t : Tx) (e : Env) :
    selectWinners hash t e =
      (selGates t.s e >>= fun _ => selLoadTx t >>= fun p =>
        selectOutcome t e (runWhile (selCoreBody hash t.s.nrWinning t.s.lastTicketId)
          (t.s.nrWinning + 2) t.c.budget ⟨t.s.status, t.s.posToId, p.1, p.2.1, t.dctx⟩)) := by
  rw [selectWinners_read]
  refine bind_congr fun _ => ?_
  cases hl : selLoadTx t with
  | error err => rfl
  | ok q =>
    obtain ⟨r, p, t1⟩ := q
    obtain ⟨_, rfl⟩ := (selLoadTx_ok_iff t r p t1).mp hl
    have hx : (⟨t.s.status, t.s.posToId, r, p, selTxOf t⟩ : SelSt) =
        SelCore.lift (selTxOf t) ⟨t.s.status, t.s.posToId, r, p, t.dctx⟩ := by
      rw [← selTxOf_dctx t]; rfl
    show (runWhile _ _ (selTxOf t).c.budget (⟨t.s.status, t.s.posToId, r, p, selTxOf t⟩ : SelSt) >>= _) =
      selectOutcome t e (runWhile (selCoreBody hash t.s.nrWinning t.s.lastTicketId) (t.s.nrWinning + 2)
        t.c.budget ⟨t.s.status, t.s.posToId, r, p, t.dctx⟩)
    rw [hx, runWhile_map _ _ _ (selectBody_lift hash _ _ _), selTxOf_budget]
    cases runWhile (selCoreBody hash t.s.nrWinning t.s.lastTicketId) (t.s.nrWinning + 2)
        t.c.budget ⟨t.s.status, t.s.posToId, r, p, t.dctx⟩ with
    | error err => rfl
    | ok q =>
      obtain ⟨y', b, st⟩ := q
      cases st <;> rfl

theorem selCoreOf_shape {t : Tx} {y : SelCore} (h : selCoreOf t = some y) :
    ∃ r p, y = ⟨t.s.status, t.s.posToId, r, p, t.dctx⟩ := by
  unfold selCoreOf at h
  cases hop : t.s.op <;> rw [hop] at h <;> cases h <;> exact ⟨_, _, rfl⟩

theorem selectWinners_iff (hash : List Nat → List Nat) (t t' : Tx) (e : Env) :
    selectWinners hash t e = .ok t' ↔
      SelectPre t.s e ∧ ∃ y, selCoreOf t = some y ∧
        selectOutcome t e (runWhile (selCoreBody hash t.s.nrWinning t.s.lastTicketId)
          (t.s.nrWinning + 2) t.c.budget y) = .ok t' := by
  rw [selectWinners_def, gated_ok_iff, selGates_ok_iff]
  constructor
  · rintro ⟨hp, ⟨r, p, t1⟩, hl, h⟩
    exact ⟨hp, _, ((selLoadTx_ok_iff t r p t1).mp hl).1, h⟩
  · rintro ⟨hp, y, hy, h⟩
    obtain ⟨r, p, rfl⟩ := selCoreOf_shape hy
    exact ⟨hp, (r, p, selTxOf t), (selLoadTx_ok_iff t r p _).mpr ⟨hy, rfl⟩, h⟩

theorem selectWinners_eq (hash : List Nat → List Nat) (t : Tx) (e : Env) (y : SelCore)
    (hp : SelectPre t.s e) (hy : selCoreOf t = some y) :
    selectWinners hash t e =
      selectOutcome t e (runWhile (selCoreBody hash t.s.nrWinning t.s.lastTicketId)
        (t.s.nrWinning + 2) t.c.budget y) := by
  obtain ⟨r, p, rfl⟩ := selCoreOf_shape hy
  rw [selectWinners_def, (selGates_ok_iff _ _).mpr hp, (selLoadTx_ok_iff t r p _).mpr ⟨hy, rfl⟩]
  rfl

theorem selectWinners_ok_cases (hash : List Nat → List Nat) (t t' : Tx) (e : Env)
    (h : selectWinners hash t e = .ok t') :
    SelectPre t.s e ∧ ∃ y y' b, selCoreOf t = some y ∧
      ((runWhile (selCoreBody hash t.s.nrWinning t.s.lastTicketId) (t.s.nrWinning + 2)
          t.c.budget y = .ok (y', b, .interrupted) ∧ t' = selectTxInt t y' b) ∨
       (runWhile (selCoreBody hash t.s.nrWinning t.s.lastTicketId) (t.s.nrWinning + 2)
          t.c.budget y = .ok (y', b, .completed) ∧ t' = selectTxDone t e y' b)) := by
  obtain ⟨hp, y, hy, h⟩ := (selectWinners_iff hash t t' e).mp h
  refine ⟨hp, ?_⟩
  cases hr : runWhile (selCoreBody hash t.s.nrWinning t.s.lastTicketId) (t.s.nrWinning + 2)
      t.c.budget y with
  | error err => rw [hr] at h; cases h
  | ok r =>
    obtain ⟨y', b, st⟩ := r
    rw [hr] at h
    cases st with
    | outOfFuel => cases h
    | interrupted =>
      simp only [selectOutcome, Except.ok.injEq] at h
      exact ⟨y, y', b, hy, Or.inl ⟨hr, h.symm⟩⟩
    | completed =>
      simp only [selectOutcome, Except.ok.injEq] at h
      exact ⟨y, y', b, hy, Or.inr ⟨hr, h.symm⟩⟩

/-! ### `selectNft` -/

structure NftPre (s : State) (e : Env) : Prop where
  stage : s.stage e = .winnerSelection
  selected : s.flags.selected = true
  notDone : s.flags.additional = false

def nftRngOf (t : Tx) : Option Rng :=
  match t.s.op with
  | .none => some t.freshRng.1
  | .additional (.nft r) => some r
  | _ => none

/-- the gates of the additional-step endpoints `selectNft` and `secondary` (they differ in the last
    message only) -/
def addGates (msg : String) (s : State) (e : Env) : Res Unit := do
  requireStage s e .winnerSelection "Not in winner selection period"
  req s.flags.selected "Must select winners for base launchpad first"
  req (!s.flags.additional) msg

theorem addGates_ok_iff (msg : String) (s : State) (e : Env) :
    addGates msg s e = .ok () ↔ NftPre s e := by
  unfold addGates
  simp only [requireStage, bind_ok_iff, req_ok_iff, exists_const, Bool.not_eq_true', beq_iff_eq]
  exact ⟨fun ⟨g1, g2, g3⟩ => ⟨g1, g2, g3⟩, fun h => ⟨h.stage, h.selected, h.notDone⟩⟩

/-- the tail of `selectNft` and of `secondary` after the NFT sub-step -/
def secNftFinish : Tx × Rng × LoopStatus → Res Tx
  | (t, rng, st) =>
    match st with
    | .completed =>
      pure { t with s := { t.s with flags := { t.s.flags with additional := true } },
                    o := { t.o with ret := [0] } }
    | _ => pure { t with s := { t.s with op := .additional (.nft rng) }, o := { t.o with ret := [1] } }

/-- load the saved generator of the NFT draw or start the draw (taking the call's first seed) -/
def nftLoadTx (t : Tx) : Res (Rng × Tx) :=
  match t.s.op with
  | .none => let (r, t') := t.freshRng; pure (r, t')
  | .additional (.nft r) => pure (r, t)
  | .additional (.guar _) => .error (.user "Failed to deserialize custom ongoing operation")
  | _ => .error (.user "Another ongoing operation is in progress")

theorem nftLoadTx_ok_iff (t : Tx) (r : Rng) (t1 : Tx) :
    nftLoadTx t = .ok (r, t1) ↔ nftRngOf t = some r ∧ t1 = selTxOf t := by
  unfold nftLoadTx nftRngOf selTxOf
  rcases hop : t.s.op with _ | _ | _ | (g0 | r0) <;>
    simp only [pure, Except.pure, Except.ok.injEq, Prod.mk.injEq, Option.some.injEq, reduceCtorEq,
      false_and, eq_comm]

theorem selectNft_def (hash : List Nat → List Nat) (t : Tx) (e : Env) :
    selectNft hash t e =
      (addGates "Already selected NFT winners" t.s e >>= fun _ => nftLoadTx t >>= fun p =>
        nftSubstep hash p.2 p.1 >>= secNftFinish) := by
  unfold selectNft addGates nftLoadTx
  rcases hop : t.s.op with _ | _ | _ | (g | r) <;> simp only [hop, bind_assoc, pure_bind] <;> rfl

theorem selectNft_iff (hash : List Nat → List Nat) (t t' : Tx) (e : Env) :
    selectNft hash t e = .ok t' ↔
      NftPre t.s e ∧ ∃ r, nftRngOf t = some r ∧
        (nftSubstep hash (selTxOf t) r >>= secNftFinish) = .ok t' := by
  rw [selectNft_def, gated_ok_iff, addGates_ok_iff]
  constructor
  · rintro ⟨hp, ⟨r, t1⟩, hl, h⟩
    obtain ⟨hr, rfl⟩ := (nftLoadTx_ok_iff t r t1).mp hl
    exact ⟨hp, r, hr, h⟩
  · rintro ⟨hp, r, hr, h⟩
    exact ⟨hp, (r, selTxOf t), (nftLoadTx_ok_iff t r _).mpr ⟨hr, rfl⟩, h⟩

/-! ### `distribute` -/

structure DistPre (s : State) (e : Env) : Prop where
  notPaused : s.variant.isV2 = true → s.paused = false
  stage : s.stage e = .winnerSelection
  caller : s.variant.isV2 = true → (e.caller == s.owner || !e.callerIsContract) = true
  selected : s.flags.selected = true
  notDone : s.flags.additional = false

/-- the cursor the endpoint starts from: counters 0 / offset 1 and a fresh generator from the
    call's first seed when no operation is saved, the saved `GuarOp` otherwise -/
def guarOpOf (t : Tx) : Option GuarOp :=
  match t.s.op with
  | .none => some { rng := t.freshRng.1 }
  | .additional (.guar g) => some g
  | _ => none

/-- the tail of `distribute` after `guaranteedSubstep` -/
def distFinish (e : Env) : Tx × GuarOp × LoopStatus → Res Tx
  | (t, g, st) =>
    match st with
    | .completed =>
      let s := creditAdditional t.s g.additional
      let t := { t with s := { s with flags := { s.flags with additional := true } },
                        o := { t.o with ret := [0] } }
      if s.variant.isV2 then
        pure (t.emit ⟨"distributeGuaranteedTicketsCompleted", topics e,
          [e.caller, e.round, e.epoch, g.additional]⟩)
      else pure t
    | _ =>
      pure { t with s := { t.s with op := .additional (.guar g) }, o := { t.o with ret := [1] } }

/-- the gates of `distribute`: five in guarV2; the other contracts have neither the pause nor the
    caller check -/
def distGates (s : State) (e : Env) : Res Unit := do
  if s.variant.isV2 then req (!s.paused) "Contract is paused"
  requireStage s e .winnerSelection "Not in winner selection period"
  if s.variant.isV2 then ownerOrUser s e
  req s.flags.selected "Must select winners for base launchpad first"
  req (!s.flags.additional) "Already distributed tickets"

/-- load the saved cursor or start the operation (taking the call's first seed) -/
def distLoadTx (t : Tx) : Res (GuarOp × Tx) :=
  match t.s.op with
  | .none => let (r, t') := t.freshRng; pure (({ rng := r } : GuarOp), t')
  | .additional (.guar g) => pure (g, t)
  | .additional (.nft _) => .error (.user "Failed to deserialize custom ongoing operation")
  | _ => .error (.user "Another ongoing operation is in progress")

theorem distribute_def (hash : List Nat → List Nat) (t : Tx) (e : Env) :
    distribute hash t e =
      (distGates t.s e >>= fun _ => distLoadTx t >>= fun p =>
        guaranteedSubstep hash p.2 p.1 >>= distFinish e) := by
  unfold distribute distGates distLoadTx
  cases hv : t.s.variant.isV2 <;> rcases hop : t.s.op with _ | _ | _ | (g0 | r0) <;>
    simp only [hv, hop, bind_assoc, pure_bind, if_true, if_false, Bool.false_eq_true] <;> rfl

theorem distGates_ok_iff (s : State) (e : Env) : distGates s e = .ok () ↔ DistPre s e := by
  unfold distGates
  cases hv : s.variant.isV2 <;>
    simp only [requireStage, ownerOrUser, bind_ok_iff, req_ok_iff, exists_const,
      if_true, if_false, Bool.false_eq_true, Bool.not_eq_true', beq_iff_eq]
  · exact ⟨fun ⟨g2, g4, g5⟩ => ⟨by rw [hv]; nofun, g2, by rw [hv]; nofun, g4, g5⟩,
      fun h => ⟨h.stage, h.selected, h.notDone⟩⟩
  · exact ⟨fun ⟨g1, g2, g3, g4, g5⟩ => ⟨fun _ => g1, g2, fun _ => g3, g4, g5⟩,
      fun h => ⟨h.notPaused hv, h.stage, h.caller hv, h.selected, h.notDone⟩⟩

theorem distLoadTx_ok_iff (t : Tx) (g : GuarOp) (t1 : Tx) :
    distLoadTx t = .ok (g, t1) ↔ guarOpOf t = some g ∧ t1 = selTxOf t := by
  unfold distLoadTx guarOpOf selTxOf
  rcases hop : t.s.op with _ | _ | _ | (g0 | r0) <;>
    simp only [pure, Except.pure, Except.ok.injEq, Prod.mk.injEq, Option.some.injEq, reduceCtorEq,
      false_and, eq_comm]

theorem distribute_iff (hash : List Nat → List Nat) (t t' : Tx) (e : Env) :
    distribute hash t e = .ok t' ↔
      DistPre t.s e ∧ ∃ g, guarOpOf t = some g ∧
        (guaranteedSubstep hash (selTxOf t) g >>= distFinish e) = .ok t' := by
  rw [distribute_def, gated_ok_iff, distGates_ok_iff]
  constructor
  · rintro ⟨hp, ⟨g, t1⟩, hl, h⟩
    obtain ⟨hg, rfl⟩ := (distLoadTx_ok_iff t g t1).mp hl
    exact ⟨hp, g, hg, h⟩
  · rintro ⟨hp, g, hg, h⟩
    exact ⟨hp, (g, selTxOf t), (distLoadTx_ok_iff t g _).mpr ⟨hg, rfl⟩, h⟩

theorem distFinish_completed {e : Env} {t t' : Tx} {g : GuarOp}
    (h : distFinish e (t, g, .completed) = .ok t') :
    t'.s = { creditAdditional t.s g.additional with
              flags := { t.s.flags with additional := true } } ∧
      t'.c = t.c ∧
      t'.o = { t.o with ret := [0], events := t.o.events ++
        if t.s.variant.isV2 then
          [⟨"distributeGuaranteedTicketsCompleted", topics e, [e.caller, e.round, e.epoch, g.additional]⟩]
        else [] } := by
  simp only [distFinish] at h
  by_cases hv : t.s.variant.isV2 = true
  · rw [if_pos (by exact hv)] at h
    cases h
    rw [if_pos hv]; exact ⟨rfl, rfl, rfl⟩
  · rw [if_neg (by exact hv)] at h
    cases h
    rw [if_neg hv, List.append_nil]; exact ⟨rfl, rfl, rfl⟩

theorem distribute_eq (hash : List Nat → List Nat) (t : Tx) (e : Env) (g : GuarOp)
    (hp : DistPre t.s e) (hg : guarOpOf t = some g) :
    distribute hash t e = (guaranteedSubstep hash (selTxOf t) g >>= distFinish e) := by
  rw [distribute_def, (distGates_ok_iff _ _).mpr hp, (distLoadTx_ok_iff t g _).mpr ⟨hg, rfl⟩]
  rfl

/-! ### `secondary` -/

/-- `secondary` loads the saved cursor of either phase, or starts the guaranteed-ticket phase -/
def secLoadTx (t : Tx) : Res (AddData × Tx) :=
  match t.s.op with
  | .none => let (r, t') := t.freshRng; pure (AddData.guar { rng := r }, t')
  | .additional d => pure (d, t)
  | _ => .error (.user "Another ongoing operation is in progress")

theorem secLoadTx_ok_iff (t : Tx) (cur : AddData) (t1 : Tx) :
    secLoadTx t = .ok (cur, t1) ↔ t1 = selTxOf t ∧
      ((∃ g, cur = .guar g ∧ guarOpOf t = some g) ∨
       (∃ r, cur = .nft r ∧ t.s.op = .additional (.nft r))) := by
  unfold secLoadTx guarOpOf selTxOf
  rcases hop : t.s.op with _ | _ | _ | (g0 | r0) <;>
    simp only [pure, Except.pure, Except.ok.injEq, Prod.mk.injEq, Option.some.injEq, reduceCtorEq,
      and_false, exists_false, or_false, false_or, exists_eq_right',
      AddData.nft.injEq, Op.additional.injEq]
  all_goals exact ⟨fun ⟨a, b⟩ => ⟨b.symm, a.symm⟩, fun ⟨a, b⟩ => ⟨b.symm, a.symm⟩⟩

/-- how the guaranteed-ticket sub-step of `secondary` ends: saved and returned (`inl`), or — the
    sub-step completed — credited and handed over to the NFT draw with a fresh generator (`inr`) -/
def secHandOver : Tx × GuarOp × LoopStatus → Tx ⊕ Tx × Rng
  | (t, g, .completed) =>
    .inr ((t.setS (creditAdditional t.s g.additional)).freshRng.2,
      (t.setS (creditAdditional t.s g.additional)).freshRng.1)
  | (t, g, _) =>
    .inl { t with s := { t.s with op := .additional (.guar g) }, o := { t.o with ret := [1] } }

/-- first stage of `secondary` on the loaded cursor: the guaranteed-ticket sub-step, skipped when
    the NFT draw is already under way -/
def secStage1 (hash : List Nat → List Nat) : AddData → Tx → Res (Tx ⊕ Tx × Rng)
  | .guar g, t => (guaranteedSubstep hash t g).map secHandOver
  | .nft r, t => .ok (.inr (t, r))

/-- second stage: nothing after a saved guaranteed-ticket cursor, the NFT sub-step and its tail
    otherwise -/
def secStage2 (hash : List Nat → List Nat) : Tx ⊕ Tx × Rng → Res Tx
  | .inl t => .ok t
  | .inr (t, r) => nftSubstep hash t r >>= secNftFinish

theorem secondary_def (hash : List Nat → List Nat) (t : Tx) (e : Env) :
    secondary hash t e =
      (addGates "Already performed this step" t.s e >>= fun _ => secLoadTx t >>= fun p =>
        secStage1 hash p.1 p.2 >>= secStage2 hash) := by
  unfold secondary addGates secLoadTx
  rcases hop : t.s.op with _ | _ | _ | (g | r) <;> simp only [hop, bind_assoc, pure_bind]
  any_goals rfl
  all_goals
    refine bind_congr fun _ => bind_congr fun _ => bind_congr fun _ => ?_
    simp only [secStage1]
    cases guaranteedSubstep hash _ _ with
    | error err => rfl
    | ok x => obtain ⟨t1, g1, st⟩ := x; cases st <;> rfl

theorem secondary_iff (hash : List Nat → List Nat) (t t' : Tx) (e : Env) :
    secondary hash t e = .ok t' ↔
      NftPre t.s e ∧ ∃ cur, secLoadTx t = .ok (cur, selTxOf t) ∧
        (secStage1 hash cur (selTxOf t) >>= secStage2 hash) = .ok t' := by
  rw [secondary_def, gated_ok_iff, addGates_ok_iff]
  constructor
  · rintro ⟨hp, ⟨cur, t1⟩, hl, h⟩
    obtain rfl := ((secLoadTx_ok_iff t cur t1).mp hl).1
    exact ⟨hp, cur, hl, h⟩
  · rintro ⟨hp, cur, hl, h⟩
    exact ⟨hp, (cur, selTxOf t), hl, h⟩

end LP
