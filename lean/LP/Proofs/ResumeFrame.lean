import LP.Proofs.Resume
import LP.Proofs.Filter
import LP.Proofs.Gate
import LP.Proofs.Frame
/-
  Between the calls of an interrupted operation no other endpoint can disturb the cursor: while
  `op ≠ .none`, a transaction accepted in the winner-selection stage either is the matching
  resumable endpoint or leaves the fields of `Cursor` unchanged: the saved operation, what the
  loops write and the ticket space they read.  (What else the loops read — `uts`, `minConfirmed`,
  `availNfts` — is not covered.)
-/
namespace LP

/-- the saved cursor, the storage the resumable loops write, and the ticket space they read
    (not `uts`, `minConfirmed`, `availNfts`, which `guarBody` / `nftBody` also read) -/
structure Cursor where
  op : Op
  status : Nat → Bool
  posToId : Nat → Nat
  whitelist : List Nat
  payers : List Nat
  nftWinners : List Nat
  range : Nat → Option Range
  batch : Nat → Option Batch
  confirmed : Nat → Nat
  lastTicketId : Nat
  nrWinning : Nat

def State.cursor (s : State) : Cursor :=
  ⟨s.op, s.status, s.posToId, s.whitelist, s.payers, s.nftWinners, s.range, s.batch, s.confirmed,
   s.lastTicketId, s.nrWinning⟩

def Call.resumes : Call → Op → Bool
  | .filter, .filter _ _ => true
  | .select, .select _ _ => true
  | .distribute, .additional (.guar _) => true
  | .selectNft, .additional (.nft _) => true
  | .secondary, .additional _ => true
  | _, _ => false

theorem creditPayments_cursor (s : State) (e : Env) : (creditPayments s e).cursor = s.cursor := rfl


theorem secondary_op (hash : List Nat → List Nat) (t t' : Tx) (e : Env)
    (h : secondary hash t e = .ok t') : t.s.op = .none ∨ ∃ d, t.s.op = .additional d := by
  obtain ⟨_, cur, hl, _⟩ := (secondary_iff hash t t' e).mp h
  unfold secLoadTx at hl
  rcases hop : t.s.op with _ | _ | _ | d <;> rw [hop] at hl <;>
    first | exact Or.inl rfl | exact Or.inr ⟨_, rfl⟩ | cases hl

/-- each selection endpoint loads its loop state from `op` and rejects a foreign cursor ("Another
    ongoing operation is in progress" / "Failed to deserialize custom ongoing operation") -/
theorem selection_accepted_resumes {hash : List Nat → List Nat} {s s' : State} {e : Env}
    {c : Call} {o : Out} (h : step hash s e c = .ok (s', o)) (hop : s.op ≠ .none)
    (hc : c.isSelection = true) : c.resumes s.op = true := by
  obtain ⟨m, t, _, _, _, hx, _, _⟩ := step_ok_inv h
  have hop0 : (tx0 s e).s.op = s.op := rfl
  cases c with
  | filter =>
    obtain ⟨_, x, hl⟩ := filterTickets_inv _ _ _ hx
    unfold filStOf at hl
    rw [hop0] at hl
    cases hs : s.op <;> rw [hs] at hl <;> first | rfl | exact absurd hs hop | cases hl
  | select =>
    obtain ⟨_, x, hl, _⟩ := (selectWinners_iff hash _ _ _).mp hx
    unfold selCoreOf at hl
    rw [hop0] at hl
    cases hs : s.op <;> rw [hs] at hl <;> first | rfl | exact absurd hs hop | cases hl
  | distribute =>
    obtain ⟨_, x, hl, _⟩ := (distribute_iff hash _ _ _).mp hx
    unfold guarOpOf at hl
    rw [hop0] at hl
    rcases hs : s.op with _ | _ | _ | (_ | _) <;> rw [hs] at hl <;>
      first | rfl | exact absurd hs hop | cases hl
  | selectNft =>
    obtain ⟨_, x, hl, _⟩ := (selectNft_iff hash _ _ _).mp hx
    unfold nftRngOf at hl
    rw [hop0] at hl
    rcases hs : s.op with _ | _ | _ | (_ | _) <;> rw [hs] at hl <;>
      first | rfl | exact absurd hs hop | cases hl
  | secondary =>
    rcases secondary_op hash _ _ _ hx with h1 | ⟨d, h1⟩
    · exact absurd (hop0 ▸ h1) hop
    · rw [← hop0, h1]; rfl
  | _ => simp [Call.isSelection] at hc


theorem claimVested_claimed_cursor {t t' : Tx} {e : Env} (h : claimVested t e = .ok t')
    (hcl : t.s.claimed e.caller = true) : t'.s.cursor = t.s.cursor := by
  rcases (claimVested_fp h).2 with ⟨_, bal, uc, hs⟩ | ⟨hf, _⟩
  · rw [hs]; rfl
  · rw [hcl] at hf; cases hf


/-- **cursor frame**: while an operation is saved (`op ≠ .none`), a transaction accepted in the
    winner-selection stage either is the endpoint that resumes exactly that operation, or
    leaves `op`, `status`, `posToId`, `whitelist`, `payers`, `nftWinners`, `range`, `batch`,
    `confirmed`, `lastTicketId`, `nrWinning` unchanged. -/
theorem cursor_frame {hash : List Nat → List Nat} {s s' : State} {e : Env} {c : Call} {o : Out}
    (h : step hash s e c = .ok (s', o)) (hop : s.op ≠ .none)
    (hst : s.stage e = .winnerSelection) :
    c.resumes s.op = true ∨ s'.cursor = s.cursor := by
  have hgate : ∀ st : Stage, s.stage e = st → st ≠ .winnerSelection → False := by
    intro st h1 h2; rw [hst] at h1; exact h2 h1.symm
  obtain ⟨m, t, _, _, _, hx, hs', _⟩ := step_ok_inv h
  have hf := (exec_fp hx).1
  have hS : (tx0 s e).s.cursor = s.cursor := creditPayments_cursor s e
  -- the calls that write a cursor field are gated to another stage, or resume the operation
  have g := step_gate h
  cases c with
  | addTickets l | addTicketsV1 l | addTicketsV2 l | confirmNft => exact (hgate _ g (by decide)).elim
  | confirm n => exact (hgate _ g.2 (by decide)).elim
  | blacklist l | refundUsers l | unblacklist l =>
    rcases g.2 with g | g <;> exact (hgate _ g (by decide)).elim
  | claim =>
    rcases g.1 with g | ⟨hv, hcl⟩
    · exact (hgate _ g (by decide)).elim
    · right
      simp only [exec] at hx
      have hv' : (tx0 s e).s.variant.vested = true := hv
      rw [if_pos hv'] at hx
      subst hs'
      exact (claimVested_claimed_cursor hx hcl).trans (creditPayments_cursor s e)
  | filter | select | distribute | selectNft | secondary =>
    exact Or.inl (selection_accepted_resumes h hop rfl)
  | issueSft | createSfts | setTransferRole _ => exact hf.elim
  -- every other call writes no cursor field (`exec_written`; with `tx0 s e` abstracted the overwritten
  -- state is compared with a variable, not with `creditPayments s e`)
  | _ =>
    subst hs'
    generalize tx0 s e = T at hx hS
    exact .inr ((congrArg State.cursor (exec_written hx)).trans hS)


/-- a non-resuming accepted transaction leaves the completion flags alone as well -/
theorem flags_frame_saved {hash : List Nat → List Nat} {s s' : State} {e : Env} {c : Call}
    {o : Out} (h : step hash s e c = .ok (s', o)) (hop : s.op ≠ .none)
    (hres : c.resumes s.op = false) : s'.flags = s.flags := by
  cases hsel : c.isSelection with
  | true =>
    have := selection_accepted_resumes h hop hsel
    rw [hres] at this; cases this
  | false => exact step_flags_eq h hsel

/-- once the selection round is reached, `cfg.conf` and `cfg.sel` are frozen -/
theorem cfg_sel_frozen {hash : List Nat → List Nat} {s s' : State} {e : Env} {c : Call} {o : Out}
    (h : step hash s e c = .ok (s', o)) (hconf : s.cfg.conf ≤ s.cfg.sel)
    (hsel : s.cfg.sel ≤ e.round) : s'.cfg.conf = s.cfg.conf ∧ s'.cfg.sel = s.cfg.sel :=
  ⟨conf_frozen_once_reached h (Nat.le_trans hconf hsel), sel_frozen_once_reached h hsel⟩

theorem stage_of_incomplete' (s : State) (e : Env) (hconf : s.cfg.conf ≤ s.cfg.sel)
    (hsel : s.cfg.sel ≤ e.round) (hfl : (s.flags.selected && s.flags.additional) = false) :
    s.stage e = .winnerSelection :=
  stageOf_selection (Nat.le_trans hconf hsel) hsel fun h => by rw [h.1, h.2.1] at hfl; cases hfl

/-- **cursor frame along a history**: while an operation is saved and the step it belongs to is
    not complete, any sequence of transactions (accepted or rejected, any callers, any rounds
    from the selection round on) none of which is the endpoint resuming that operation leaves
    the fields of `Cursor` and the completion flags as they were — so the next resuming call finds
    what the interrupted one saved. -/
theorem cursor_frame_run (hash : List Nat → List Nat) :
    ∀ (txs : List (Env × Call)) (s : State), s.op ≠ .none →
      (s.flags.selected && s.flags.additional) = false → s.cfg.conf ≤ s.cfg.sel →
      (∀ p ∈ txs, s.cfg.sel ≤ p.1.round) → (∀ p ∈ txs, p.2.resumes s.op = false) →
      (run hash s txs).cursor = s.cursor ∧ (run hash s txs).flags = s.flags := by
  intro txs
  induction txs with
  | nil => intro s _ _ _ _ _; exact ⟨rfl, rfl⟩
  | cons p rest ih =>
    obtain ⟨e, c⟩ := p
    intro s hop hfl hconf hround hres
    have hrest_round : ∀ q ∈ rest, s.cfg.sel ≤ q.1.round :=
      fun q hq => hround q (List.mem_cons_of_mem _ hq)
    have hrest_res : ∀ q ∈ rest, q.2.resumes s.op = false :=
      fun q hq => hres q (List.mem_cons_of_mem _ hq)
    simp only [run]
    cases hstep : step hash s e c with
    | error err => exact ih s hop hfl hconf hrest_round hrest_res
    | ok r =>
      obtain ⟨s', o⟩ := r
      have hr0 : s.cfg.sel ≤ e.round := hround (e, c) (List.mem_cons_self ..)
      have hres0 : c.resumes s.op = false := hres (e, c) (List.mem_cons_self ..)
      have hst := stage_of_incomplete' s e hconf hr0 hfl
      have hcur : s'.cursor = s.cursor := by
        rcases cursor_frame hstep hop hst with h1 | h1
        · rw [hres0] at h1; cases h1
        · exact h1
      have hflags : s'.flags = s.flags := flags_frame_saved hstep hop hres0
      obtain ⟨hc1, hc2⟩ := cfg_sel_frozen hstep hconf hr0
      have hop' : s'.op = s.op := congrArg Cursor.op hcur
      obtain ⟨h1, h2⟩ := ih s' (by rw [hop']; exact hop) (by rw [hflags]; exact hfl)
        (by rw [hc1, hc2]; exact hconf) (by rw [hc2]; exact hrest_round)
        (by rw [hop']; exact hrest_res)
      exact ⟨h1.trans hcur, h2.trans hflags⟩

end LP
