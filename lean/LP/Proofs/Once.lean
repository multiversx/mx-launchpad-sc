import LP.Proofs.Frame
import LP.Proofs.FieldFrames
import LP.Proofs.ReachBEGen
import LP.Props.C06gates
import LP.Props.C06run
import LP.Proofs.Later
import LP.Proofs.Resume
import LP.Proofs.LoopOutcome
/-
  For C06 "each selection step completes exactly once and in order".  A log entry is an accepted
  transaction with its output; an endpoint has completed when `o.ret = [0]` (the encoding of
  `OperationCompletionStatus::Completed`, see `statusRet`).  One accepted transaction sets each
  phase flag exactly when the corresponding step completes and never clears one
  (`step_flags_exact`: the footprint of the call for the flags it leaves alone, `LoopOutcome` for
  its own); since every gate needs its flag clear, "never again", "at most once" and
  "in this order" follow for any log, once for the three steps (`SelStage`: `no_call`, `count_le_one`,
  `before`).
-/
namespace LP
open LP.Props LP.Props.C17

abbrev Entry := Env × Call × Out

/-- the additional step of the variant: `distribute` (guarV1, guarV2, migration, lockedGuar),
    `selectNft` (nft), `secondary` (nftGuar) -/
def Call.isAdditional : Call → Bool
  | .distribute | .selectNft | .secondary => true
  | _ => false

/-- the endpoint returned `OperationCompletionStatus::Completed` (`statusRet .completed = 0`) -/
def Out.done (o : Out) : Bool := o.ret == [0]

def Entry.doneFilter (x : Entry) : Bool :=
  match x.2.1 with
  | .filter => x.2.2.done
  | _ => false

def Entry.doneSelect (x : Entry) : Bool :=
  match x.2.1 with
  | .select => x.2.2.done
  | _ => false

def Entry.doneAdditional (x : Entry) : Bool := x.2.1.isAdditional && x.2.2.done

/-- a participant's claim or the owner's withdrawal -/
def Entry.isClaim (x : Entry) : Bool :=
  match x.2.1 with
  | .claim | .claimPayment => true
  | _ => false

theorem isClaim_call {x : Entry} (h : x.isClaim = true) : x.2.1 = .claim ∨ x.2.1 = .claimPayment := by
  obtain ⟨e, c, o⟩ := x
  cases c with
  | claim => exact .inl rfl
  | claimPayment => exact .inr rfl
  | _ => cases h

def Flags.gain4 (f f' : Flags) : Prop :=
  (f.started = true → f'.started = true) ∧ (f.filtered = true → f'.filtered = true) ∧
  (f.selected = true → f'.selected = true) ∧ (f.additional = true → f'.additional = true)

theorem Flags.gain4_refl (f : Flags) : Flags.gain4 f f := ⟨id, id, id, id⟩

theorem Flags.gain4_trans {f g h : Flags} (a : Flags.gain4 f g) (b : Flags.gain4 g h) :
    Flags.gain4 f h :=
  ⟨fun x => b.1 (a.1 x), fun x => b.2.1 (a.2.1 x), fun x => b.2.2.1 (a.2.2.1 x),
   fun x => b.2.2.2 (a.2.2.2 x)⟩

theorem Flags.gain4.gain {f f' : Flags} (h : Flags.gain4 f f') : Flags.gain f f' := ⟨h.2.2.1, h.2.2.2⟩

structure FlagsEffect (f f' : Flags) (x : Entry) : Prop where
  filtered : f'.filtered = (f.filtered || x.doneFilter)
  selected : f'.selected = (f.selected || x.doneSelect)
  additional : f'.additional = (f.additional || x.doneAdditional)
  started : f.started = true → f'.started = true

theorem FlagsEffect.of_eq {f f' : Flags} {x : Entry} (h : f' = f)
    (h1 : x.doneFilter = false) (h2 : x.doneSelect = false) (h3 : x.doneAdditional = false) :
    FlagsEffect f f' x := by
  subst h
  exact ⟨by rw [h1, Bool.or_false], by rw [h2, Bool.or_false], by rw [h3, Bool.or_false], id⟩

theorem FlagsEffect.gain4 {f f' : Flags} {x : Entry} (h : FlagsEffect f f' x) : Flags.gain4 f f' :=
  ⟨h.started, fun hh => by rw [h.filtered, hh]; rfl, fun hh => by rw [h.selected, hh]; rfl,
   fun hh => by rw [h.additional, hh]; rfl⟩

theorem doneFilter_call {x : Entry} (h : x.doneFilter = true) : x.2.1 = .filter ∧ x.2.2.ret = [0] := by
  obtain ⟨e, c, o⟩ := x
  cases c with
  | filter => exact ⟨rfl, eq_of_beq h⟩
  | _ => cases h

theorem doneSelect_call {x : Entry} (h : x.doneSelect = true) : x.2.1 = .select ∧ x.2.2.ret = [0] := by
  obtain ⟨e, c, o⟩ := x
  cases c with
  | select => exact ⟨rfl, eq_of_beq h⟩
  | _ => cases h

theorem Call.isAdditional_cases {c : Call} (h : c.isAdditional = true) :
    c = .distribute ∨ c = .selectNft ∨ c = .secondary := by
  cases c with
  | distribute => exact .inl rfl
  | selectNft => exact .inr (.inl rfl)
  | secondary => exact .inr (.inr rfl)
  | _ => cases h

theorem doneAdditional_call {x : Entry} (h : x.doneAdditional = true) :
    (x.2.1 = .distribute ∨ x.2.1 = .selectNft ∨ x.2.1 = .secondary) ∧ x.2.2.ret = [0] := by
  obtain ⟨hc, ho⟩ := Bool.and_eq_true_iff.1 h
  exact ⟨Call.isAdditional_cases hc, eq_of_beq ho⟩

theorem Entry.not_done {x : Entry} (h : x.2.1.isSelection = false) :
    x.doneFilter = false ∧ x.doneSelect = false ∧ x.doneAdditional = false := by
  refine ⟨Bool.eq_false_iff.2 fun hd => ?_, Bool.eq_false_iff.2 fun hd => ?_,
    Bool.eq_false_iff.2 fun hd => ?_⟩
  · rw [(doneFilter_call hd).1] at h; cases h
  · rw [(doneSelect_call hd).1] at h; cases h
  · rcases (doneAdditional_call hd).1 with hc | hc | hc <;> (rw [hc] at h; cases h)

theorem LoopOutcome.flag_eq {f : Flags → Bool} {s s' : State} {o : Out} (h : LoopOutcome f s s' o) :
    f s'.flags = (f s.flags || o.done) := by
  rw [h.before, Bool.false_or, Out.done]
  rcases h.ret with ⟨h1, h2⟩ | ⟨h1, h2⟩ <;> rw [h1, h2] <;> rfl

/-- the footprint of the call says which flags it leaves alone, `LoopOutcome` when its own is set -/
theorem exec_flags_exact {hash : List Nat → List Nat} {t t' : Tx} {e : Env} {c : Call}
    (h : exec hash t e c = .ok t') : FlagsEffect t.s.flags t'.s.flags (e, c, t'.o) := by
  cases h5 : c.isSelection with
  | false =>
    obtain ⟨h1, h2, h3⟩ := Entry.not_done (x := (e, c, t'.o)) h5
    exact .of_eq ((exec_flags_cases h).2 h5) h1 h2 h3
  | true =>
    have hf := (exec_fp h).1
    cases c <;> first | (cases h5; done) | skip
    case filter =>
      have h' : filterTickets t e = .ok t' := h
      refine ⟨(filterTickets_outcome h').flag_eq, ?_, ?_, fun hst => ?_⟩
      · exact (congrArg (·.flags.selected) hf :).trans (Bool.or_false _).symm
      · exact (congrArg (·.flags.additional) hf :).trans (Bool.or_false _).symm
      · obtain ⟨_, x, f', b, _, hc⟩ := filterTickets_ok_cases t t' e h'
        rcases hc with ⟨_, hs'⟩ | ⟨_, _, hs'⟩ <;> rw [hs'] <;> exact filterFlags_started _ _ (.inr hst)
    case select =>
      have ho := (selectWinners_outcome h).flag_eq
      rcases hf.1 with hfl | hfl <;> rw [hfl] at ho ⊢ <;>
        exact ⟨(Bool.or_false _).symm, ho, (Bool.or_false _).symm, id⟩
    case distribute =>
      have ho := (distribute_outcome h).flag_eq
      rcases hf.1 with hfl | hfl <;> rw [hfl] at ho ⊢ <;>
        exact ⟨(Bool.or_false _).symm, (Bool.or_false _).symm, ho, id⟩
    case selectNft =>
      have ho := (selectNft_outcome h).flag_eq
      rcases hf.1 with hfl | hfl <;> rw [hfl] at ho ⊢ <;>
        exact ⟨(Bool.or_false _).symm, (Bool.or_false _).symm, ho, id⟩
    case secondary =>
      have ho := (secondary_outcome h).flag_eq
      rcases hf.1 with hfl | hfl <;> rw [hfl] at ho ⊢ <;>
        exact ⟨(Bool.or_false _).symm, (Bool.or_false _).symm, ho, id⟩

theorem step_flags_exact {hash : List Nat → List Nat} {s s' : State} {e : Env} {c : Call} {o : Out}
    (h : step hash s e c = .ok (s', o)) : FlagsEffect s.flags s'.flags (e, c, o) := by
  obtain ⟨m, t, _, _, _, hx, rfl, rfl⟩ := step_ok_inv h
  exact exec_flags_exact hx

theorem step_flags_gain4 {hash : List Nat → List Nat} {s s' : State} {e : Env} {c : Call} {o : Out}
    (h : step hash s e c = .ok (s', o)) : Flags.gain4 s.flags s'.flags :=
  (step_flags_exact h).gain4

theorem filter_needs {hash : List Nat → List Nat} {s s' : State} {e : Env} {o : Out}
    (h : step hash s e .filter = .ok (s', o)) : s.flags.filtered = false :=
  (C06.filter_gate hash s e _ h).2

theorem select_needs {hash : List Nat → List Nat} {s s' : State} {e : Env} {o : Out}
    (h : step hash s e .select = .ok (s', o)) : s.flags.filtered = true ∧ s.flags.selected = false :=
  (C06.select_gate hash s e _ h).2

theorem additional_needs {hash : List Nat → List Nat} {s s' : State} {e : Env} {c : Call} {o : Out}
    (hc : c.isAdditional = true) (h : step hash s e c = .ok (s', o)) :
    s.flags.selected = true ∧ s.flags.additional = false :=
  (C06.additional_gate hash s e c _ (Call.isAdditional_cases hc) h).2

/-- the order of the phase flags (`additional` is preset where the variant has no additional step);
    a participant can only have settled after all selection steps -/
structure PhaseOK (s : State) : Prop where
  sel_fil : s.flags.selected = true → s.flags.filtered = true
  add_sel : s.variant.noAdditionalStep = false → s.flags.additional = true → s.flags.selected = true
  preset : s.variant.noAdditionalStep = true → s.flags.additional = true
  claimed : ∀ a, s.claimed a = true → s.flags.selected = true ∧ s.flags.additional = true

theorem init_phaseOK {v : Variant} {a : InitArgs} {e : Env} {s : State} (h : init v a e = .ok s) :
    PhaseOK s := by
  obtain ⟨_, rfl⟩ := init_ok h
  refine ⟨?_, ?_, ?_, ?_⟩
  · intro hh; cases hh
  · intro hv hh; exact absurd (hv.symm.trans hh) Bool.false_ne_true
  · intro hv; exact hv
  · intro a hh; cases hh

theorem step_claimed_cases {hash : List Nat → List Nat} {s s' : State} {e : Env} {c : Call} {o : Out}
    (h : step hash s e c = .ok (s', o)) :
    (c ≠ .claim ∧ s'.claimed = s.claimed) ∨ (c = .claim ∧ s'.claimed = upd s.claimed e.caller true) := by
  obtain ⟨m, t, _, _, _, hx, rfl, _⟩ := step_ok_inv h
  by_cases hc : c = .claim
  · subst hc
    exact Or.inr ⟨rfl, exec_claim_claimed hx⟩
  · exact Or.inl ⟨hc, exec_claimed_eq hc hx⟩

/-- `PhaseOK.claimed` is needed for the vesting variants, where an already settled participant may
    call `claim` again at any time -/
theorem claim_needs {hash : List Nat → List Nat} {s s' : State} {e : Env} {c : Call} {o : Out}
    (hc : c = .claim ∨ c = .claimPayment) (hcl : ∀ a, s.claimed a = true → s.flags.selected = true ∧ s.flags.additional = true)
    (h : step hash s e c = .ok (s', o)) : s.flags.selected = true ∧ s.flags.additional = true := by
  rcases hc with rfl | rfl
  · rcases C06.claim_gate hash s e _ h with h1 | ⟨_, h1⟩
    · exact (stage_claim_iff.mp h1).1
    · exact hcl _ h1
  · exact (stage_claim_iff.mp (C06.claimPayment_gate hash s e _ h)).1

/-- `selected` is only set by a `select`, which needs `filtered` -/
theorem step_sel_fil {hash : List Nat → List Nat} {s s' : State} {e : Env} {c : Call} {o : Out}
    (hp : s.flags.selected = true → s.flags.filtered = true) (h : step hash s e c = .ok (s', o)) :
    s'.flags.selected = true → s'.flags.filtered = true := by
  have hf := step_flags_exact h
  intro hs
  rw [hf.selected] at hs
  cases h0 : s.flags.selected with
  | true => exact hf.gain4.2.1 (hp h0)
  | false =>
    rw [h0, Bool.false_or] at hs
    have hc := (doneSelect_call hs).1
    simp only at hc
    subst hc
    exact hf.gain4.2.1 (select_needs h).1

theorem step_phaseOK {hash : List Nat → List Nat} {s s' : State} {e : Env} {c : Call} {o : Out}
    (hp : PhaseOK s) (h : step hash s e c = .ok (s', o)) : PhaseOK s' := by
  have hf := step_flags_exact h
  have hg := hf.gain4
  have hv : s'.variant = s.variant := step_variant h
  refine ⟨step_sel_fil hp.sel_fil h, ?_, ?_, ?_⟩
  · intro hna ha
    rw [hv] at hna
    rw [hf.additional] at ha
    cases h0 : s.flags.additional with
    | true => exact hg.2.2.1 (hp.add_sel hna h0)
    | false =>
      rw [h0, Bool.false_or] at ha
      have hc : c.isAdditional = true := by
        simp only [Entry.doneAdditional, Bool.and_eq_true] at ha
        exact ha.1
      exact hg.2.2.1 (additional_needs hc h).1
  · intro hna
    rw [hv] at hna
    exact hg.2.2.2 (hp.preset hna)
  · intro a ha
    rcases step_claimed_cases h with ⟨_, h1⟩ | ⟨rfl, h1⟩
    · rw [h1] at ha
      have := hp.claimed a ha
      exact ⟨hg.2.2.1 this.1, hg.2.2.2 this.2⟩
    · have := claim_needs (Or.inl rfl) hp.claimed h
      exact ⟨hg.2.2.1 this.1, hg.2.2.2 this.2⟩

theorem run_phaseOK (hash : List Nat → List Nat) (p : Hist) (s : State) (hp : PhaseOK s) :
    PhaseOK (run hash s p) :=
  run_induct hash PhaseOK (fun _ _ _ _ _ hq hst => step_phaseOK hq hst) p s hp

theorem run_variant (hash : List Nat → List Nat) (p : Hist) (s : State) :
    (run hash s p).variant = s.variant :=
  run_induct hash (fun x => x.variant = s.variant)
    (fun _ _ _ _ _ hq hst => (step_variant hst).trans hq) p s rfl

def Entry.tx (x : Entry) : Env × Call := (x.1, x.2.1)

/-- same recursion as `run`: a rejected transaction leaves no trace -/
def runLog (hash : List Nat → List Nat) : State → List (Env × Call) → List Entry
  | _, [] => []
  | s, (e, c) :: rest =>
    match step hash s e c with
    | .ok (s', o) => (e, c, o) :: runLog hash s' rest
    | .error _ => runLog hash s rest

theorem runLog_cons_ok {hash : List Nat → List Nat} {s s' : State} {e : Env} {c : Call} {o : Out}
    {rest : Hist} (h : step hash s e c = .ok (s', o)) :
    runLog hash s ((e, c) :: rest) = (e, c, o) :: runLog hash s' rest := by
  simp only [runLog, h]

theorem runLog_cons_err {hash : List Nat → List Nat} {s : State} {e : Env} {c : Call} {err : Err}
    {rest : Hist} (h : step hash s e c = .error err) :
    runLog hash s ((e, c) :: rest) = runLog hash s rest := by
  simp only [runLog, h]

inductive LogChain (hash : List Nat → List Nat) : State → List Entry → State → Prop
  | nil (s : State) : LogChain hash s [] s
  | cons {s s' s'' : State} {e : Env} {c : Call} {o : Out} {l : List Entry} :
      step hash s e c = .ok (s', o) → LogChain hash s' l s'' → LogChain hash s ((e, c, o) :: l) s''

theorem runLog_chain (hash : List Nat → List Nat) : ∀ (p : Hist) (s : State),
    LogChain hash s (runLog hash s p) (run hash s p) :=
  run_rec hash (M := fun s p => LogChain hash s (runLog hash s p) (run hash s p))
    (fun s => .nil s)
    (fun _ _ _ _ _ hst ih => by rw [runLog_cons_err hst, run_cons_err hst]; exact ih)
    (fun _ _ _ _ _ _ hst ih => by rw [runLog_cons_ok hst, run_cons_ok hst]; exact .cons hst ih)

theorem runLog_sublist (hash : List Nat → List Nat) : ∀ (p : Hist) (s : State),
    ((runLog hash s p).map Entry.tx).Sublist p :=
  run_rec hash (M := fun s p => ((runLog hash s p).map Entry.tx).Sublist p)
    (fun _ => List.Sublist.slnil)
    (fun _ _ _ _ _ hst ih => by rw [runLog_cons_err hst]; exact ih.cons _)
    (fun _ _ _ _ _ _ hst ih => by rw [runLog_cons_ok hst]; exact ih.cons_cons _)

theorem LogChain.replay {hash : List Nat → List Nat} {s s' : State} {l : List Entry}
    (h : LogChain hash s l s') :
    runLog hash s (l.map Entry.tx) = l ∧ run hash s (l.map Entry.tx) = s' := by
  induction h with
  | nil s => exact ⟨rfl, rfl⟩
  | cons hst _ ih =>
    simp only [List.map_cons, Entry.tx, runLog, run, hst]
    exact ⟨by rw [ih.1], ih.2⟩

theorem runLog_append (hash : List Nat → List Nat) : ∀ (p q : Hist) (s : State),
    runLog hash s (p ++ q) = runLog hash s p ++ runLog hash (run hash s p) q :=
  fun p q s =>
  run_rec hash
    (M := fun s p => runLog hash s (p ++ q) = runLog hash s p ++ runLog hash (run hash s p) q)
    (fun _ => rfl)
    (fun _ _ _ _ _ hst ih => by
      rw [List.cons_append, runLog_cons_err hst, runLog_cons_err hst, run_cons_err hst]; exact ih)
    (fun _ _ _ _ _ _ hst ih => by
      rw [List.cons_append, runLog_cons_ok hst, runLog_cons_ok hst, run_cons_ok hst, ih]; rfl)
    p s

theorem LogChain.split {hash : List Nat → List Nat} : ∀ {l1 : List Entry} {s s'' : State} {x : Entry} {l2 : List Entry},
    LogChain hash s (l1 ++ x :: l2) s'' →
    ∃ s1 s2, LogChain hash s l1 s1 ∧ step hash s1 x.1 x.2.1 = .ok (s2, x.2.2) ∧ LogChain hash s2 l2 s''
  | [], s, s'', x, l2, h => by
    cases h with
    | cons hst hrest => exact ⟨s, _, .nil s, hst, hrest⟩
  | y :: l1, s, s'', x, l2, h => by
    cases h with
    | cons hst hrest =>
      obtain ⟨s1, s2, h1, h2, h3⟩ := LogChain.split hrest
      exact ⟨s1, s2, .cons hst h1, h2, h3⟩

theorem LogChain.preserves {hash : List Nat → List Nat} (P : State → Prop)
    (hstep : ∀ s e c s' o, P s → step hash s e c = .ok (s', o) → P s')
    {s s' : State} {l : List Entry} (h : LogChain hash s l s') (hp : P s) : P s' := by
  induction h with
  | nil s => exact hp
  | cons hst _ ih => exact ih (hstep _ _ _ _ _ hp hst)

theorem LogChain.phaseOK {hash : List Nat → List Nat} {s s' : State} {l : List Entry}
    (h : LogChain hash s l s') (hp : PhaseOK s) : PhaseOK s' :=
  h.preserves PhaseOK (fun _ _ _ _ _ hq hst => step_phaseOK hq hst) hp

theorem getElem?_split {α : Type} {l : List α} {j : Nat} {y : α} (h : l[j]? = some y) :
    l = l.take j ++ y :: l.drop (j + 1) := by
  obtain ⟨hj, rfl⟩ := List.getElem?_eq_some_iff.1 h
  rw [← List.drop_eq_getElem_cons hj, List.take_append_drop]

theorem mem_take_index {α : Type} {l : List α} {j : Nat} {x : α} (h : x ∈ l.take j) :
    ∃ i, i < j ∧ l[i]? = some x := by
  obtain ⟨i, hi⟩ := List.mem_iff_getElem?.1 h
  rw [List.getElem?_take] at hi
  split at hi
  · exact ⟨i, by assumption, hi⟩
  · cases hi

theorem mem_drop_of_index {α : Type} {l : List α} {i j : Nat} {x : α} (h : l[i]? = some x)
    (hij : j < i) : x ∈ l.drop (j + 1) := by
  refine List.mem_iff_getElem?.2 ⟨i - (j + 1), ?_⟩
  rw [List.getElem?_drop]
  have : j + 1 + (i - (j + 1)) = i := by omega
  rw [this]; exact h

theorem mem_drop_index {α : Type} {l : List α} {j : Nat} {x : α} (h : x ∈ l.drop (j + 1)) :
    ∃ k, j < k ∧ l[k]? = some x := by
  obtain ⟨i, hi⟩ := List.mem_iff_getElem?.1 h
  rw [List.getElem?_drop] at hi
  exact ⟨j + 1 + i, by omega, hi⟩

theorem LogChain.cut {hash : List Nat → List Nat} {s s' : State} {l : List Entry} {j : Nat} {y : Entry}
    (h : LogChain hash s l s') (hj : l[j]? = some y) :
    ∃ s1 s2, LogChain hash s (l.take j) s1 ∧ step hash s1 y.1 y.2.1 = .ok (s2, y.2.2) ∧
      LogChain hash s2 (l.drop (j + 1)) s' := by
  rw [getElem?_split hj] at h
  exact h.split

theorem countP_zero_of {l : List Entry} {p : Entry → Bool} (h : ∀ x ∈ l, p x = false) :
    l.countP p = 0 := by
  rw [List.countP_eq_zero]
  intro x hx
  rw [h x hx]
  exact Bool.false_ne_true

/-- One of the three selection steps as the log sees it: the calls that run it, the entries that
    complete it, and its flag, which every such call needs clear and which exactly a completing
    entry sets.  "Never again", "at most once" and "in this order" are proved for this notion. -/
structure SelStage (hash : List Nat → List Nat) where
  isCall : Call → Prop
  done : Entry → Bool
  flag : State → Bool
  call_of_done : ∀ {x : Entry}, done x = true → isCall x.2.1
  needs : ∀ {s s' : State} {e : Env} {c : Call} {o : Out},
    step hash s e c = .ok (s', o) → isCall c → flag s = false
  effect : ∀ {s s' : State} {e : Env} {c : Call} {o : Out},
    step hash s e c = .ok (s', o) → flag s' = (flag s || done (e, c, o))

def filterStage (hash : List Nat → List Nat) : SelStage hash where
  isCall := (· = .filter)
  done := Entry.doneFilter
  flag := (·.flags.filtered)
  call_of_done := fun h => (doneFilter_call h).1
  needs := fun h hc => by subst hc; exact filter_needs h
  effect := fun h => (step_flags_exact h).filtered

def selectStage (hash : List Nat → List Nat) : SelStage hash where
  isCall := (· = .select)
  done := Entry.doneSelect
  flag := (·.flags.selected)
  call_of_done := fun h => (doneSelect_call h).1
  needs := fun h hc => by subst hc; exact (select_needs h).2
  effect := fun h => (step_flags_exact h).selected

/-- in base/locked `additional` is set from deployment -/
def additionalStage (hash : List Nat → List Nat) : SelStage hash where
  isCall := (·.isAdditional = true)
  done := Entry.doneAdditional
  flag := (·.flags.additional)
  call_of_done := fun h => (Bool.and_eq_true_iff.1 h).1
  needs := fun h hc => (additional_needs hc h).2
  effect := fun h => (step_flags_exact h).additional

namespace SelStage
variable {hash : List Nat → List Nat} (S : SelStage hash)

theorem keeps {s s' : State} {e : Env} {c : Call} {o : Out} (h : step hash s e c = .ok (s', o))
    (hf : S.flag s = true) : S.flag s' = true := by
  rw [S.effect h, hf]; rfl

theorem flag_eq {s s' : State} {l : List Entry} (h : LogChain hash s l s') :
    S.flag s' = (S.flag s || l.any S.done) := by
  induction h with
  | nil s => simp
  | cons hst _ ih => rw [ih, S.effect hst, List.any_cons, Bool.or_assoc]

theorem no_call {s s' : State} {l : List Entry} (h : LogChain hash s l s') (hf : S.flag s = true) :
    ∀ x ∈ l, ¬ S.isCall x.2.1 := by
  induction h with
  | nil s => intro x hx; cases hx
  | @cons s s1 s2 e c o l hst _ ih =>
    intro x hx
    rcases List.mem_cons.1 hx with rfl | hx
    · intro hc
      rw [S.needs hst hc] at hf
      cases hf
    · exact ih (S.keeps hst hf) x hx

theorem no_done {s s' : State} {l : List Entry} (h : LogChain hash s l s') (hf : S.flag s = true) :
    ∀ x ∈ l, S.done x = false :=
  fun x hx => Bool.eq_false_iff.2 fun hd => S.no_call h hf x hx (S.call_of_done hd)

theorem count_le_one {s s' : State} {l : List Entry} (h : LogChain hash s l s') :
    l.countP S.done ≤ 1 := by
  induction h with
  | nil s => simp
  | @cons s s1 s2 e c o l hst hrest ih =>
    rw [List.countP_cons]
    cases hp : S.done (e, c, o) with
    | false => simpa using ih
    | true =>
      have hf : S.flag s1 = true := by rw [S.effect hst, hp, Bool.or_true]
      have := countP_zero_of (S.no_done hrest hf)
      simp [this]

/-- a completing entry of `B` lies after every completing entry of `A` when it shows that `A`'s
    flag is set (`hset`; for filter before the additional step along the chain so far) -/
theorem before (A B : SelStage hash) {s s' : State}
    {l : List Entry} (hAB : ∀ x, A.done x = true → B.done x = true → False)
    (hset : ∀ l1 s1 y s2, LogChain hash s l1 s1 → step hash s1 y.1 y.2.1 = .ok (s2, y.2.2) →
      B.done y = true → A.flag s2 = true)
    (h : LogChain hash s l s') {i j : Nat} {x y : Entry} (hi : l[i]? = some x) (hj : l[j]? = some y)
    (hx : A.done x = true) (hy : B.done y = true) : i < j := by
  rcases Nat.lt_trichotomy i j with hlt | rfl | hgt
  · exact hlt
  · rw [hi] at hj
    cases hj
    exact (hAB x hx hy).elim
  · obtain ⟨s1, s2, h1, h2, h3⟩ := h.cut hj
    have := A.no_done h3 (hset _ _ _ _ h1 h2 hy) x (mem_drop_of_index hi hgt)
    rw [hx] at this
    cases this

end SelStage

theorem doneSelect_needs {hash : List Nat → List Nat} {s s' : State} {x : Entry}
    (hd : x.doneSelect = true) (h : step hash s x.1 x.2.1 = .ok (s', x.2.2)) :
    s.flags.filtered = true ∧ s.flags.selected = false := by
  rw [(doneSelect_call hd).1] at h
  exact select_needs h

theorem doneAdditional_needs {hash : List Nat → List Nat} {s s' : State} {x : Entry}
    (hd : x.doneAdditional = true) (h : step hash s x.1 x.2.1 = .ok (s', x.2.2)) :
    s.flags.selected = true ∧ s.flags.additional = false :=
  additional_needs (Bool.and_eq_true_iff.1 hd).1 h

/-- `h` is an equation `SelStage.flag_eq` for the chain up to `j` -/
theorem set_earlier {l : List Entry} {j : Nat} {p : Entry → Bool} {b0 b1 : Bool}
    (h : b1 = (b0 || (l.take j).any p)) (h0 : b0 = false) (h1 : b1 = true) :
    ∃ (i : Nat) (x : Entry), i < j ∧ l[i]? = some x ∧ p x = true := by
  rw [h, h0, Bool.false_or] at h1
  obtain ⟨x, hx, hp⟩ := List.any_eq_true.mp h1
  obtain ⟨i, hi, hix⟩ := mem_take_index hx
  exact ⟨i, x, hi, hix, hp⟩

theorem LogChain.filter_before_select {hash : List Nat → List Nat} {s s' : State} {l : List Entry}
    (h : LogChain hash s l s') {i j : Nat} {x y : Entry} (hi : l[i]? = some x) (hj : l[j]? = some y)
    (hx : x.doneFilter = true) (hy : y.doneSelect = true) : i < j :=
  (filterStage hash).before (selectStage hash)
    (fun _ h1 h2 => Call.noConfusion ((doneFilter_call h1).1.symm.trans (doneSelect_call h2).1))
    (fun _ _ _ _ _ hst hq => (filterStage hash).keeps hst (doneSelect_needs hq hst).1) h hi hj hx hy

theorem LogChain.select_before_additional {hash : List Nat → List Nat} {s s' : State} {l : List Entry}
    (h : LogChain hash s l s') {i j : Nat} {x y : Entry} (hi : l[i]? = some x) (hj : l[j]? = some y)
    (hx : x.doneSelect = true) (hy : y.doneAdditional = true) : i < j :=
  (selectStage hash).before (additionalStage hash)
    (fun _ h1 h2 => by
      have hc := (Bool.and_eq_true_iff.1 h2).1
      rw [(doneSelect_call h1).1] at hc
      cases hc)
    (fun _ _ _ _ _ hst hq => (selectStage hash).keeps hst (doneAdditional_needs hq hst).1) h hi hj hx hy

/-- needs `selected → filtered` at the start: a completed additional step only shows `selected` -/
theorem LogChain.filter_before_additional {hash : List Nat → List Nat} {s s' : State} {l : List Entry}
    (h : LogChain hash s l s') (hord : s.flags.selected = true → s.flags.filtered = true)
    {i j : Nat} {x y : Entry} (hi : l[i]? = some x) (hj : l[j]? = some y)
    (hx : x.doneFilter = true) (hy : y.doneAdditional = true) : i < j :=
  (filterStage hash).before (additionalStage hash)
    (fun _ h1 h2 => by
      have hc := (Bool.and_eq_true_iff.1 h2).1
      rw [(doneFilter_call h1).1] at hc
      cases hc)
    (fun _ _ _ _ h1 hst hq => (filterStage hash).keeps hst
      (h1.preserves _ (fun _ _ _ _ _ => step_sel_fil) hord (doneAdditional_needs hq hst).1))
    h hi hj hx hy

theorem claim_frozen_once_reached {hash : List Nat → List Nat} {s s' : State} {e : Env} {c : Call} {o : Out}
    (h : step hash s e c = .ok (s', o)) (hr : s.cfg.claim ≤ e.round) : s'.cfg.claim = s.cfg.claim := by
  rcases step_static_cases h with ⟨_, h1⟩ | ⟨_, h1⟩
  · rw [static_cfg h1]
  · by_cases hc : ∃ r, c = .setClaimStart r
    · obtain ⟨r, rfl⟩ := hc
      obtain ⟨m, t, _, _, _, hx, rfl, _⟩ := step_ok_inv h
      have := (exec_setClaimStart_s hx).2.1
      have h2 : (tx0 s e).s.cfg = s.cfg := rfl
      rw [h2] at this
      omega
    · rw [h1]
      unfold ownerEdit
      split <;> first | rfl | exact absurd ⟨_, rfl⟩ hc

theorem frozen_along (hash : List Nat → List Nat) (g : State → Nat)
    (hstep : ∀ s s' e c o, step hash s e c = .ok (s', o) → g s ≤ e.round → g s' = g s) :
    ∀ (p : Hist) (s : State) (r : Nat), g s ≤ r → RoundsFrom r p → g (run hash s p) = g s :=
  fun p s r hr hp =>
  run_rec_rounds hash (M := fun s r p => g s ≤ r → g (run hash s p) = g s)
    (fun _ _ _ => rfl)
    (fun _ _ _ _ _ _ h1 _ hst ih hr => by rw [run_cons_err hst]; exact ih (Nat.le_trans hr h1))
    (fun s _ e c _ s' o h1 _ hst ih hr => by
      have h3 := hstep s s' e c o hst (Nat.le_trans hr h1)
      rw [run_cons_ok hst, ih (by rw [h3]; exact Nat.le_trans hr h1), h3])
    p s r hp hr

theorem conf_frozen_along (hash : List Nat → List Nat) (p : Hist) (s : State) (r : Nat)
    (hr : s.cfg.conf ≤ r) (hp : RoundsFrom r p) : (run hash s p).cfg.conf = s.cfg.conf :=
  frozen_along hash (fun s => s.cfg.conf) (fun _ _ _ _ _ h hh => conf_frozen_once_reached h hh) p s r hr hp

theorem sel_frozen_along (hash : List Nat → List Nat) (p : Hist) (s : State) (r : Nat)
    (hr : s.cfg.sel ≤ r) (hp : RoundsFrom r p) : (run hash s p).cfg.sel = s.cfg.sel :=
  frozen_along hash (fun s => s.cfg.sel) (fun _ _ _ _ _ h hh => sel_frozen_once_reached h hh) p s r hr hp

theorem claim_frozen_along (hash : List Nat → List Nat) (p : Hist) (s : State) (r : Nat)
    (hr : s.cfg.claim ≤ r) (hp : RoundsFrom r p) : (run hash s p).cfg.claim = s.cfg.claim :=
  frozen_along hash (fun s => s.cfg.claim) (fun _ _ _ _ _ h hh => claim_frozen_once_reached h hh) p s r hr hp

/-- the preset `additional` of base/locked counts -/
def Flags.phase (f : Flags) : Nat := f.filtered.toNat + f.selected.toNat + f.additional.toNat

theorem toNat_le_of_imp {a b : Bool} (h : a = true → b = true) : a.toNat ≤ b.toNat := by
  cases a with
  | false => exact Nat.zero_le _
  | true => rw [h rfl]; exact Nat.le_refl _

theorem Flags.gain4.phase_le {f f' : Flags} (h : Flags.gain4 f f') : f.phase ≤ f'.phase :=
  Nat.add_le_add (Nat.add_le_add (toNat_le_of_imp h.2.1) (toNat_le_of_imp h.2.2.1))
    (toNat_le_of_imp h.2.2.2)

theorem PhaseOK.staircase {s : State} (h : PhaseOK s) :
    (s.variant.noAdditionalStep = false →
      (s.flags.filtered = false ∧ s.flags.selected = false ∧ s.flags.additional = false) ∨
      (s.flags.filtered = true ∧ s.flags.selected = false ∧ s.flags.additional = false) ∨
      (s.flags.filtered = true ∧ s.flags.selected = true ∧ s.flags.additional = false) ∨
      (s.flags.filtered = true ∧ s.flags.selected = true ∧ s.flags.additional = true)) ∧
    (s.variant.noAdditionalStep = true →
      (s.flags.filtered = false ∧ s.flags.selected = false ∧ s.flags.additional = true) ∨
      (s.flags.filtered = true ∧ s.flags.selected = false ∧ s.flags.additional = true) ∨
      (s.flags.filtered = true ∧ s.flags.selected = true ∧ s.flags.additional = true)) := by
  obtain ⟨h1, h2, h3, _⟩ := h
  constructor
  · intro hv
    cases c : s.flags.additional with
    | true =>
      have b := h2 hv c
      exact .inr (.inr (.inr ⟨h1 b, b, rfl⟩))
    | false =>
      cases b : s.flags.selected with
      | true => exact .inr (.inr (.inl ⟨h1 b, rfl, rfl⟩))
      | false =>
        cases a : s.flags.filtered with
        | true => exact .inr (.inl ⟨rfl, rfl, rfl⟩)
        | false => exact .inl ⟨rfl, rfl, rfl⟩
  · intro hv
    have c := h3 hv
    cases b : s.flags.selected with
    | true => exact .inr (.inr ⟨h1 b, rfl, c⟩)
    | false =>
      cases a : s.flags.filtered with
      | true => exact .inr (.inl ⟨rfl, rfl, c⟩)
      | false => exact .inl ⟨rfl, rfl, c⟩

end LP

#print axioms LP.step_flags_exact
#print axioms LP.step_phaseOK
#print axioms LP.runLog_chain
#print axioms LP.SelStage.flag_eq
#print axioms LP.SelStage.count_le_one
#print axioms LP.frozen_along
