import LP.Proofs.Overwrite
import LP.Proofs.Later
import LP.Proofs.Gate
/-
  The `paused` flag is transparent.  `State.setP s b` overwrites the flag: the masked overwrite
  `ow s { P := some b }` of LP/Proofs/Overwrite.lean.  The flag is WRITTEN only by `pause`/`unpause`
  (`exec_paused`, read off `exec_written`) and READ only by the pause check of the gated bodies
  (`Gate.unpaused`), so every other call commutes with the overwriting, errors included (`step_setP`, an
  instance of `step_ow`).  For a gated call the equation is needed only with the flag's own value, where it
  says no more than that the call leaves the flag alone.  With `b := false`: transparency along histories
  (`run_erasePause`, `runOuts_erasePause`).
-/
namespace LP

def State.setP (s : State) (b : Bool) : State := { s with paused := b }
def Tx.setP (t : Tx) (b : Bool) : Tx := { t with s := t.s.setP b }

@[simp] theorem State.setP_paused (s : State) (b : Bool) : (s.setP b).paused = b := rfl
@[simp] theorem State.setP_variant (s : State) (b : Bool) : (s.setP b).variant = s.variant := rfl
@[simp] theorem State.setP_owner (s : State) (b : Bool) : (s.setP b).owner = s.owner := rfl
@[simp] theorem State.setP_lpTok (s : State) (b : Bool) : (s.setP b).lpTok = s.lpTok := rfl
@[simp] theorem State.setP_perTicket (s : State) (b : Bool) : (s.setP b).perTicket = s.perTicket := rfl
@[simp] theorem State.setP_payTok (s : State) (b : Bool) : (s.setP b).payTok = s.payTok := rfl
@[simp] theorem State.setP_price (s : State) (b : Bool) : (s.setP b).price = s.price := rfl
@[simp] theorem State.setP_nrWinning (s : State) (b : Bool) : (s.setP b).nrWinning = s.nrWinning := rfl
@[simp] theorem State.setP_cfg (s : State) (b : Bool) : (s.setP b).cfg = s.cfg := rfl
@[simp] theorem State.setP_flags (s : State) (b : Bool) : (s.setP b).flags = s.flags := rfl
@[simp] theorem State.setP_support (s : State) (b : Bool) : (s.setP b).support = s.support := rfl
@[simp] theorem State.setP_deposited (s : State) (b : Bool) : (s.setP b).deposited = s.deposited := rfl
@[simp] theorem State.setP_totalDeposited (s : State) (b : Bool) : (s.setP b).totalDeposited = s.totalDeposited := rfl
@[simp] theorem State.setP_claimablePayment (s : State) (b : Bool) : (s.setP b).claimablePayment = s.claimablePayment := rfl
@[simp] theorem State.setP_lastTicketId (s : State) (b : Bool) : (s.setP b).lastTicketId = s.lastTicketId := rfl
@[simp] theorem State.setP_range (s : State) (b : Bool) : (s.setP b).range = s.range := rfl
@[simp] theorem State.setP_batch (s : State) (b : Bool) : (s.setP b).batch = s.batch := rfl
@[simp] theorem State.setP_confirmed (s : State) (b : Bool) : (s.setP b).confirmed = s.confirmed := rfl
@[simp] theorem State.setP_status (s : State) (b : Bool) : (s.setP b).status = s.status := rfl
@[simp] theorem State.setP_posToId (s : State) (b : Bool) : (s.setP b).posToId = s.posToId := rfl
@[simp] theorem State.setP_blacklist (s : State) (b : Bool) : (s.setP b).blacklist = s.blacklist := rfl
@[simp] theorem State.setP_claimed (s : State) (b : Bool) : (s.setP b).claimed = s.claimed := rfl
@[simp] theorem State.setP_op (s : State) (b : Bool) : (s.setP b).op = s.op := rfl
@[simp] theorem State.setP_bal (s : State) (b : Bool) : (s.setP b).bal = s.bal := rfl
@[simp] theorem State.setP_minConfirmed (s : State) (b : Bool) : (s.setP b).minConfirmed = s.minConfirmed := rfl
@[simp] theorem State.setP_whitelist (s : State) (b : Bool) : (s.setP b).whitelist = s.whitelist := rfl
@[simp] theorem State.setP_totalGuaranteed (s : State) (b : Bool) : (s.setP b).totalGuaranteed = s.totalGuaranteed := rfl
@[simp] theorem State.setP_uts (s : State) (b : Bool) : (s.setP b).uts = s.uts := rfl
@[simp] theorem State.setP_blUts (s : State) (b : Bool) : (s.setP b).blUts = s.blUts := rfl
@[simp] theorem State.setP_sched1 (s : State) (b : Bool) : (s.setP b).sched1 = s.sched1 := rfl
@[simp] theorem State.setP_sched2 (s : State) (b : Bool) : (s.setP b).sched2 = s.sched2 := rfl
@[simp] theorem State.setP_userTotal (s : State) (b : Bool) : (s.setP b).userTotal = s.userTotal := rfl
@[simp] theorem State.setP_userClaimed (s : State) (b : Bool) : (s.setP b).userClaimed = s.userClaimed := rfl
@[simp] theorem State.setP_nftCost (s : State) (b : Bool) : (s.setP b).nftCost = s.nftCost := rfl
@[simp] theorem State.setP_availNfts (s : State) (b : Bool) : (s.setP b).availNfts = s.availNfts := rfl
@[simp] theorem State.setP_payers (s : State) (b : Bool) : (s.setP b).payers = s.payers := rfl
@[simp] theorem State.setP_nftWinners (s : State) (b : Bool) : (s.setP b).nftWinners = s.nftWinners := rfl
@[simp] theorem State.setP_claimableNft (s : State) (b : Bool) : (s.setP b).claimableNft = s.claimableNft := rfl
@[simp] theorem State.setP_sftToken (s : State) (b : Bool) : (s.setP b).sftToken = s.sftToken := rfl
@[simp] theorem State.setP_sftCreated (s : State) (b : Bool) : (s.setP b).sftCreated = s.sftCreated := rfl
@[simp] theorem State.setP_sftIssuedFlag (s : State) (b : Bool) : (s.setP b).sftIssuedFlag = s.sftIssuedFlag := rfl
@[simp] theorem State.setP_sftRole (s : State) (b : Bool) : (s.setP b).sftRole = s.sftRole := rfl
@[simp] theorem State.setP_lockPct (s : State) (b : Bool) : (s.setP b).lockPct = s.lockPct := rfl
@[simp] theorem State.setP_unlockEpoch (s : State) (b : Bool) : (s.setP b).unlockEpoch = s.unlockEpoch := rfl
@[simp] theorem State.setP_lockAddr (s : State) (b : Bool) : (s.setP b).lockAddr = s.lockAddr := rfl

@[simp] theorem Tx.setP_s (t : Tx) (b : Bool) : (t.setP b).s = t.s.setP b := rfl
@[simp] theorem Tx.setP_c (t : Tx) (b : Bool) : (t.setP b).c = t.c := rfl
@[simp] theorem Tx.setP_o (t : Tx) (b : Bool) : (t.setP b).o = t.o := rfl
theorem State.setP_self (s : State) : s.setP s.paused = s := rfl
theorem Tx.setP_self (t : Tx) : t.setP t.s.paused = t := rfl
@[simp] theorem State.setP_setP (s : State) (b c : Bool) : (s.setP b).setP c = s.setP c := rfl
@[simp] theorem Tx.setP_setP (t : Tx) (b c : Bool) : (t.setP b).setP c = t.setP c := rfl

/-- two states that agree after overwriting the flag with the same value differ at most in it -/
theorem State.eq_of_setP_eq {s s' : State} {b : Bool} (h : s.setP b = s'.setP b)
    (hp : s.paused = s'.paused) : s = s' := by
  have h1 : (s.setP b).setP s.paused = (s'.setP b).setP s.paused := by rw [h]
  rw [State.setP_setP, State.setP_setP, State.setP_self, hp, State.setP_self] at h1
  exact h1

@[simp] theorem creditPayments_setP (s : State) (e : Env) (b : Bool) :
    creditPayments (s.setP b) e = (creditPayments s e).setP b := rfl
@[simp] theorem Tx.mk_setP (s : State) (b : Bool) (c : Ctx) (o : Out) :
    Tx.mk (s.setP b) c o = (Tx.mk s c o).setP b := rfl
@[simp] theorem Tx.setS_setP (t : Tx) (b : Bool) (s : State) :
    (t.setP b).setS (s.setP b) = (t.setS s).setP b := rfl
@[simp] theorem Tx.emit_setP (t : Tx) (b : Bool) (ev : Ev) : (t.setP b).emit ev = (t.emit ev).setP b := rfl
@[simp] theorem requireStage_setP (s : State) (b : Bool) (e : Env) (st : Stage) (msg : String) :
    requireStage (s.setP b) e st msg = requireStage s e st msg := rfl
@[simp] theorem extendedPermissions_setP (s : State) (b : Bool) (e : Env) :
    extendedPermissions (s.setP b) e = extendedPermissions s e := rfl
@[simp] theorem ownerOrUser_setP (s : State) (b : Bool) (e : Env) :
    ownerOrUser (s.setP b) e = ownerOrUser s e := rfl
@[simp] theorem stageLt_setP (s : State) (b : Bool) (e : Env) (st : Stage) :
    stageLt (s.setP b) e st = stageLt s e st := rfl
@[simp] theorem ticketsFor_setP (s : State) (b : Bool) (a : Nat) :
    ticketsFor (s.setP b) a = ticketsFor s a := rfl
@[simp] theorem reservedForDeposit_setP (s : State) (b : Bool) :
    reservedForDeposit (s.setP b) = reservedForDeposit s := rfl
@[simp] theorem creditAdditional_setP (s : State) (b : Bool) (n : Nat) :
    creditAdditional (s.setP b) n = (creditAdditional s n).setP b := rfl
@[simp] theorem claimable1_setP (s : State) (b : Bool) (e : Env) (a : Nat) :
    claimable1 (s.setP b) e a = claimable1 s e a := rfl
@[simp] theorem claimable2_setP (s : State) (b : Bool) (e : Env) (a : Nat) :
    claimable2 (s.setP b) e a = claimable2 s e a := rfl
theorem guarBody_setP (s : State) (b : Bool) : guarBody (s.setP b) = guarBody s := rfl

def Call.isPauseCtl : Call → Bool
  | .pause | .unpause => true
  | _ => false

/-- the calls whose body reads the flag: confirm / filter / select in every variant, and the
    distribution step and claims in v2 -/
def gated (v : Variant) : Call → Bool
  | .confirm _ | .filter | .select => true
  | .distribute | .claim => v.isV2
  | _ => false

/-- the same list as a proposition -/
def GatedCall (v : Variant) (c : Call) : Prop :=
  (∃ n, c = .confirm n) ∨ c = .filter ∨ c = .select ∨ (v = .guarV2 ∧ (c = .distribute ∨ c = .claim))

theorem gated_iff (v : Variant) (c : Call) : gated v c = true ↔ GatedCall v c := by
  unfold GatedCall
  cases c <;> simp [gated, isV2_iff]

theorem gated_false_of {v : Variant} {c : Call} (h : ¬GatedCall v c) : gated v c = false := by
  cases hg : gated v c with
  | false => rfl
  | true => exact absurd ((gated_iff v c).mp hg) h

/-- the pause clause of `Gate`, for the calls `gated` lists -/
theorem Gate.unpaused {s : State} {e : Env} {c : Call} (g : Gate s e c) (hg : gated s.variant c = true) :
    s.paused = false := by
  cases c <;> first | exact Bool.noConfusion hg | exact g.1 | exact (g.2.2.2 hg).1 | exact g.2 hg

theorem exec_paused {hash : List Nat → List Nat} {t t' : Tx} {e : Env} {c : Call}
    (h : exec hash t e c = .ok t') (hc : c.isPauseCtl = false) : t'.s.paused = t.s.paused := by
  have hw := exec_written h
  cases c
  case pause | unpause => cases hc
  all_goals exact (congrArg State.paused hw :)

@[simp] theorem gated_setP (s : State) (b : Bool) (c : Call) : gated (s.setP b).variant c = gated s.variant c := rfl

theorem step_paused_eq {hash : List Nat → List Nat} {s s' : State} {e : Env} {c : Call} {o : Out}
    (h : step hash s e c = .ok (s', o)) (hc : c.isPauseCtl = false) : s'.paused = s.paused := by
  obtain ⟨m, t, _, _, _, hx, rfl, _⟩ := step_ok_inv h
  exact exec_paused hx hc

/-- a mask that only sets the pause flag avoids every call that neither reads nor writes it -/
theorem Ow.avoids_setP {v : Variant} {c : Call} (b : Bool) (hc : c.isPauseCtl = false) (hg : gated v c = false) :
    ({ P := some b } : Ow).Avoids v c := by
  cases c with
  | pause | unpause => cases hc
  | confirm n | filter | select => cases hg
  | claim => exact ⟨rfl, rfl, rfl, fun h => absurd (hg.symm.trans h) nofun⟩
  | distribute => exact ⟨rfl, rfl, rfl, fun h => absurd (hg.symm.trans h) nofun⟩
  | addTickets l => exact ⟨rfl, rfl⟩
  | addTicketsV1 l | addTicketsV2 l => exact ⟨rfl, rfl, rfl, rfl⟩
  | blacklist l | refundUsers l | unblacklist l => exact ⟨rfl, rfl, rfl, rfl, rfl⟩
  | secondary => exact ⟨rfl, rfl, rfl⟩
  | _ => trivial

/-- for a gated call: only with overwriting the flag by its own value; errors included -/
theorem step_setP (hash : List Nat → List Nat) (s : State) (b : Bool) (e : Env) (c : Call)
    (hc : c.isPauseCtl = false) (hg : gated s.variant c = true → b = s.paused) :
    step hash (s.setP b) e c = mapR (fst1 (·.setP b)) (step hash s e c) := by
  cases hgt : gated s.variant c
  case true =>
    obtain rfl := hg hgt
    exact (mapR_id' _ (step hash s e c) fun r h => by
      rw [← step_paused_eq (s' := r.1) (o := r.2) h hc]; rfl).symm
  exact step_ow hash s { P := some b } e c (Ow.avoids_setP b hc hgt)

theorem gated_ok_unpaused {hash : List Nat → List Nat} {s s' : State} {e : Env} {c : Call} {o : Out}
    (h : step hash s e c = .ok (s', o)) (hg : gated s.variant c = true) : s.paused = false :=
  (step_gate h).unpaused hg

theorem gated_paused_rejected {hash : List Nat → List Nat} {s : State} {e : Env} {c : Call}
    (hg : gated s.variant c = true) (hp : s.paused = true) : ∃ err, step hash s e c = .error err :=
  rejected_of_not_gate fun g => absurd ((g.unpaused hg).symm.trans hp) nofun

theorem Call.isPauseCtl_eq_false {c : Call} (h1 : c ≠ .pause) (h2 : c ≠ .unpause) :
    c.isPauseCtl = false := by
  cases c <;> first | rfl | exact absurd rfl h1 | exact absurd rfl h2

/-- an accepted call is accepted on the un-paused state, same output -/
theorem step_unpaused_of_ok {hash : List Nat → List Nat} {s s' : State} {e : Env} {c : Call} {o : Out}
    (h : step hash s e c = .ok (s', o)) (hc : c.isPauseCtl = false) :
    step hash (s.setP false) e c = .ok (s'.setP false, o) := by
  rw [step_setP hash s false e c hc (fun hg => (gated_ok_unpaused h hg).symm), h]
  rfl

/-- the converse, for calls that do not read the flag -/
theorem step_of_unpaused_ok {hash : List Nat → List Nat} {s s0' : State} {e : Env} {c : Call} {o : Out}
    (h : step hash (s.setP false) e c = .ok (s0', o)) (hc : c.isPauseCtl = false)
    (hg : gated s.variant c = false) :
    step hash s e c = .ok (s0'.setP s.paused, o) := by
  have h1 := step_setP hash (s.setP false) s.paused e c hc (by rw [gated_setP, hg]; intro h; cases h)
  rw [State.setP_setP, State.setP_self, h] at h1
  exact h1

theorem step_unpaused_of_error {hash : List Nat → List Nat} {s : State} {e : Env} {c : Call} {err : Err}
    (h : step hash s e c = .error err) (hd : (c.isPauseCtl || (gated s.variant c && s.paused)) = false) :
    step hash (s.setP false) e c = .error err := by
  obtain ⟨hc, hg⟩ := Bool.or_eq_false_iff.mp hd
  rw [step_setP hash s false e c hc, h]
  · rfl
  · intro hgt
    rw [hgt, Bool.true_and] at hg
    exact hg.symm

theorem step_pause_eq {hash : List Nat → List Nat} {s s' : State} {e : Env} {o : Out}
    (h : step hash s e .pause = .ok (s', o)) :
    s' = s.setP true ∧ o = { events := [⟨"pauseContract", [], []⟩] } := by
  obtain ⟨t, hx, rfl, rfl⟩ := step_np_out rfl h
  cases hx
  exact ⟨rfl, rfl⟩

theorem step_unpause_eq {hash : List Nat → List Nat} {s s' : State} {e : Env} {o : Out}
    (h : step hash s e .unpause = .ok (s', o)) :
    s' = s.setP false ∧ o = { events := [⟨"unpauseContract", [], []⟩] } := by
  obtain ⟨t, hx, rfl, rfl⟩ := step_np_out rfl h
  cases hx
  exact ⟨rfl, rfl⟩

theorem step_ctl_setP {hash : List Nat → List Nat} {s s' : State} {e : Env} {c : Call} {o : Out}
    (h : step hash s e c = .ok (s', o)) (hc : c.isPauseCtl = true) : s'.setP false = s.setP false := by
  cases c <;> try cases hc
  · rw [(step_pause_eq h).1]; rfl
  · rw [(step_unpause_eq h).1]; rfl

/-- drop `pause`/`unpause` and the calls rejected because of the pause (a gated call made while the
    flag is set), following the real run from `s` -/
def erasePause (hash : List Nat → List Nat) : State → List (Env × Call) → List (Env × Call)
  | _, [] => []
  | s, (e, c) :: rest =>
    match step hash s e c with
    | .ok (s', _) =>
      if c.isPauseCtl then erasePause hash s' rest else (e, c) :: erasePause hash s' rest
    | .error _ =>
      if c.isPauseCtl || (gated s.variant c && s.paused) then erasePause hash s rest
      else (e, c) :: erasePause hash s rest

theorem erasePause_cons_ok {hash : List Nat → List Nat} {s s' : State} {e : Env} {c : Call} {o : Out}
    (rest : List (Env × Call)) (h : step hash s e c = .ok (s', o)) :
    erasePause hash s ((e, c) :: rest)
      = if c.isPauseCtl then erasePause hash s' rest else (e, c) :: erasePause hash s' rest := by
  simp only [erasePause, h]

theorem erasePause_cons_error {hash : List Nat → List Nat} {s : State} {e : Env} {c : Call} {err : Err}
    (rest : List (Env × Call)) (h : step hash s e c = .error err) :
    erasePause hash s ((e, c) :: rest)
      = if c.isPauseCtl || (gated s.variant c && s.paused) then erasePause hash s rest
        else (e, c) :: erasePause hash s rest := by
  simp only [erasePause, h]

/-- the final state of any history equals, up to the flag, the final state of its pause-free
    sub-history run from the un-paused state -/
theorem run_erasePause (hash : List Nat → List Nat) : ∀ (h : List (Env × Call)) (s : State),
    (run hash s h).setP false = run hash (s.setP false) (erasePause hash s h) := by
  refine run_rec hash (fun _ => rfl) ?_ ?_
  · intro s e c rest err hst ih
    rw [run_cons_err hst, erasePause_cons_error rest hst, ih]
    split
    · rfl
    · rw [run_cons_err (step_unpaused_of_error hst (Bool.not_eq_true _ ▸ ‹_›))]
  · intro s e c rest s' o hst ih
    rw [run_cons_ok hst, erasePause_cons_ok rest hst, ih]
    cases hc : c.isPauseCtl
    · rw [if_neg nofun, run_cons_ok (step_unpaused_of_ok hst hc)]
    · rw [if_pos rfl, step_ctl_setP hst hc]

/-- `erasePause` one call at a time, without the case split on the result: what is not dropped —
    accepted calls and calls rejected for another reason than the pause — stays, in order -/
theorem erasePause_spec (hash : List Nat → List Nat) (s : State) (e : Env) (c : Call)
    (rest : List (Env × Call)) :
    erasePause hash s ((e, c) :: rest)
      = (if c.isPauseCtl || (gated s.variant c && s.paused) then [] else [(e, c)])
        ++ erasePause hash (run hash s [(e, c)]) rest := by
  cases hst : step hash s e c with
  | ok r =>
    obtain ⟨s', o⟩ := r
    rw [erasePause_cons_ok rest hst, run_cons_ok (rest := []) hst]
    cases hc : c.isPauseCtl with
    | true => simp [run]
    | false =>
      have : (gated s.variant c && s.paused) = false := by
        cases hg : gated s.variant c with
        | false => rfl
        | true => rw [gated_ok_unpaused hst hg]; rfl
      simp [run, this]
  | error err =>
    rw [erasePause_cons_error rest hst, run_cons_err (rest := []) hst]
    by_cases hd : (c.isPauseCtl || (gated s.variant c && s.paused)) = true
    · simp only [hd, if_true]; rfl
    · simp only [hd]; rfl

theorem run_all_rejected (hash : List Nat → List Nat) (s : State) : ∀ (l : List (Env × Call)),
    (∀ ec ∈ l, ∃ err, step hash s ec.1 ec.2 = .error err) → run hash s l = s
  | [], _ => rfl
  | (e, c) :: rest, hall => by
    obtain ⟨err, herr⟩ := hall (e, c) (by simp)
    rw [run_cons_err herr]
    exact run_all_rejected hash s rest (fun ec hec => hall ec (by simp [hec]))

/-- the accepted calls of a history with their outputs, in order -/
def runOuts (hash : List Nat → List Nat) : State → List (Env × Call) → List (Env × Call × Out)
  | _, [] => []
  | s, (e, c) :: rest =>
    match step hash s e c with
    | .ok (s', o) => (e, c, o) :: runOuts hash s' rest
    | .error _ => runOuts hash s rest

theorem runOuts_cons_ok {hash : List Nat → List Nat} {s s' : State} {e : Env} {c : Call} {o : Out}
    (rest : List (Env × Call)) (h : step hash s e c = .ok (s', o)) :
    runOuts hash s ((e, c) :: rest) = (e, c, o) :: runOuts hash s' rest := by
  simp only [runOuts, h]

theorem runOuts_cons_error {hash : List Nat → List Nat} {s : State} {e : Env} {c : Call} {err : Err}
    (rest : List (Env × Call)) (h : step hash s e c = .error err) :
    runOuts hash s ((e, c) :: rest) = runOuts hash s rest := by
  simp only [runOuts, h]

/-- the pause-free sub-history produces exactly the outputs of the accepted calls of the original
    history other than `pause`/`unpause`, in the same order -/
theorem runOuts_erasePause (hash : List Nat → List Nat) : ∀ (h : List (Env × Call)) (s : State),
    runOuts hash (s.setP false) (erasePause hash s h)
      = (runOuts hash s h).filter (fun x => !x.2.1.isPauseCtl) := by
  refine run_rec hash (fun _ => rfl) ?_ ?_
  · intro s e c rest err hst ih
    rw [runOuts_cons_error rest hst, erasePause_cons_error rest hst, ← ih]
    split
    · rfl
    · rw [runOuts_cons_error _ (step_unpaused_of_error hst (Bool.not_eq_true _ ▸ ‹_›))]
  · intro s e c rest s' o hst ih
    rw [runOuts_cons_ok rest hst, erasePause_cons_ok rest hst, List.filter_cons, ← ih]
    cases hc : c.isPauseCtl
    · rw [if_neg nofun, runOuts_cons_ok _ (step_unpaused_of_ok hst hc)]; rfl
    · rw [if_pos rfl, ← step_ctl_setP hst hc]; rfl

end LP
