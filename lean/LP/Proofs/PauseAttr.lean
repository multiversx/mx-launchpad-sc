import Lean
/-
  The simp set `setp` with which the scripts of `Overwrite` normalise: projections of the overwrites
  `ow` / `owt` and the laws pushing `mapR` through the `Res` monad.  (An attribute is registered in a
  module before the one that tags lemmas with it.  `PauseFrame` tags the projections of `State.setP` /
  `Tx.setP` with it as well; no script there calls the set.)
-/
register_simp_attr setp
