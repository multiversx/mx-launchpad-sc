import LP.Proofs.ReachBEGen
import LP.Proofs.ProceedsStep
import LP.Proofs.Vesting
import LP.Proofs.ReachV2Claim
/-
  Vesting, for both contracts that have it (guarV1: a periodic schedule `sched1`; guarV2: a list of
  milestones `sched2`).  `pctOf s now` is the percentage of an entitlement the stored schedule has
  released at round `now`; `Vest s r` is the booking invariant (`userClaimed a` is `0` or exactly
  the released part of `userTotal a` at some round `≤ r`); `ClaimVested s e s'` is what an accepted
  claim does to the records.  A family of states that has both and is closed under histories
  (`VestFam`) has path independence: a settled participant's entitlement is fixed, and after any
  history his claim at round `e.round` leaves him with exactly the part released at that round.
-/
namespace LP
open LP.Props

/-- percentage released at round `now` under the schedule stored in `s` -/
def pctOf (s : State) (now : Nat) : Nat :=
  if s.variant.isV2 = true then unlockedPct2 now (sched2Of s) else pct1 now s.sched1

theorem pctOf_v1 {s : State} (h : s.variant.isV2 = false) (now : Nat) :
    pctOf s now = pct1 now s.sched1 := if_neg (by rw [h]; nofun)

theorem pctOf_v2 {s : State} (h : s.variant.isV2 = true) (now : Nat) :
    pctOf s now = unlockedPct2 now (sched2Of s) := if_pos h

theorem pctOf_congr {s s' : State} (hv : s'.variant = s.variant) (h1 : s'.sched1 = s.sched1)
    (h2 : s'.sched2 = s.sched2) : pctOf s' = pctOf s := by
  funext now
  unfold pctOf sched2Of
  rw [hv, h1, h2]

/-- the booking invariant of vesting at round `r` -/
structure Vest (s : State) (r : Nat) : Prop where
  exact : ∀ a, s.userClaimed a = 0 ∨
    ∃ r', r' ≤ r ∧ s.userClaimed a = entitled (s.userTotal a) (pctOf s r')
  pctLe : ∀ now, pctOf s now ≤ 10000
  unsettled : ∀ a, s.claimed a = false → s.userTotal a = 0 ∧ s.userClaimed a = 0
  le : ∀ a, s.userClaimed a ≤ s.userTotal a

/-- an accepted vesting claim of `e.caller`, from `s` to `s'`: he is booked exactly the part of his
    entitlement released at `e.round` and paid the increment; the entitlement is written by his
    first claim (`winning tickets × perTicket`) and kept by a repeat; nobody else is touched -/
structure ClaimVested (s : State) (e : Env) (s' : State) : Prop where
  booked : s'.userClaimed e.caller = entitled (s'.userTotal e.caller) (pctOf s e.round)
  mono : s.userClaimed e.caller ≤ s'.userClaimed e.caller
  paid : s'.bal (.esdt s.lpTok) 0 + (s'.userClaimed e.caller - s.userClaimed e.caller)
    = s.bal (.esdt s.lpTok) 0
  others : ∀ a, a ≠ e.caller → s'.userClaimed a = s.userClaimed a ∧
    s'.userTotal a = s.userTotal a ∧ s'.claimed a = s.claimed a
  settled : s'.claimed e.caller = true
  again : s.claimed e.caller = true → s'.userTotal e.caller = s.userTotal e.caller
  first : s.claimed e.caller = false →
    s'.userTotal e.caller = winCountOf s e.caller * s.perTicket ∧ s.userClaimed e.caller = 0

/-- the state an accepted vesting claim leaves, with `pct` the percentage released at the round of
    the call: a repeat claim pays the instalment `c` that brings the booked amount to the released
    part of the entitlement; a first claim settles the caller's range `rg` (refund paid from `B`),
    writes the entitlement `redeemable tickets × perTicket` and pays its released part -/
def ClaimShape (s : State) (e : Env) (s' : State) (pct : Nat) : Prop :=
  ∃ c, c ≤ s.bal (.esdt s.lpTok) 0 ∧
    ((s.claimed e.caller = true ∧
      s.userClaimed e.caller + c = entitled (s.userTotal e.caller) pct ∧
      s' = { s with bal := s.bal.sub (.esdt s.lpTok) 0 c,
                    userClaimed := upd s.userClaimed e.caller (s.userClaimed e.caller + c) }) ∨
     (s.claimed e.caller = false ∧ s.userClaimed e.caller = 0 ∧
      ∃ (rg : Range) (B : Bal), s.range e.caller = some rg ∧
        B (.esdt s.lpTok) 0 = s.bal (.esdt s.lpTok) 0 ∧
        s.userClaimed e.caller + c = entitled (redeemOf s rg * s.perTicket) pct ∧
        s' = { settled s e.caller rg with
                 bal := B.sub (.esdt s.lpTok) 0 c,
                 userTotal := upd s.userTotal e.caller (redeemOf s rg * s.perTicket),
                 userClaimed := upd s.userClaimed e.caller (s.userClaimed e.caller + c) }))

theorem ClaimShape.claimVested {s s' : State} {e : Env}
    (h : ClaimShape s e s' (pctOf s e.round)) : ClaimVested s e s' := by
  obtain ⟨c, hcle, ⟨hcl, hex, rfl⟩ | ⟨hcl, huc0, rg, B, hrg, hBlp, hex, rfl⟩⟩ := h
  · refine ⟨?_, ?_, ?_, fun a ha => ⟨?_, rfl, rfl⟩, hcl, fun _ => rfl,
      fun hq => Bool.noConfusion (hq.symm.trans hcl)⟩
    · show upd s.userClaimed e.caller (s.userClaimed e.caller + c) e.caller = _
      rw [upd_same]; exact hex
    · show s.userClaimed e.caller ≤ upd s.userClaimed e.caller (s.userClaimed e.caller + c) e.caller
      rw [upd_same]; exact Nat.le_add_right _ _
    · show (s.bal.sub (.esdt s.lpTok) 0 c) (.esdt s.lpTok) 0 +
        (upd s.userClaimed e.caller (s.userClaimed e.caller + c) e.caller - s.userClaimed e.caller) = _
      rw [upd_same, Bal.sub_at]
      omega
    · show upd s.userClaimed e.caller (s.userClaimed e.caller + c) a = _
      rw [upd_other _ _ _ _ ha]
  · refine ⟨?_, ?_, ?_, fun a ha => ⟨?_, ?_, ?_⟩, ?_, fun hq => Bool.noConfusion (hcl.symm.trans hq),
      fun _ => ⟨?_, huc0⟩⟩
    · show upd s.userClaimed e.caller (s.userClaimed e.caller + c) e.caller
        = entitled (upd s.userTotal e.caller (redeemOf s rg * s.perTicket) e.caller) _
      rw [upd_same, upd_same]; exact hex
    · show s.userClaimed e.caller ≤ upd s.userClaimed e.caller (s.userClaimed e.caller + c) e.caller
      rw [upd_same]; exact Nat.le_add_right _ _
    · show (B.sub (.esdt s.lpTok) 0 c) (.esdt s.lpTok) 0 +
        (upd s.userClaimed e.caller (s.userClaimed e.caller + c) e.caller - s.userClaimed e.caller) = _
      rw [upd_same, Bal.sub_at, hBlp]
      omega
    · show upd s.userClaimed e.caller (s.userClaimed e.caller + c) a = _
      rw [upd_other _ _ _ _ ha]
    · show upd s.userTotal e.caller (redeemOf s rg * s.perTicket) a = _
      rw [upd_other _ _ _ _ ha]
    · show upd s.claimed e.caller true a = _
      rw [upd_other _ _ _ _ ha]
    · show upd s.claimed e.caller true e.caller = true
      rw [upd_same]
    · show upd s.userTotal e.caller (redeemOf s rg * s.perTicket) e.caller = _
      rw [upd_same, v2_winCountOf_redeem hrg]

/-- an accepted `claim` leaves schedules, timeline, terms and variant alone -/
theorem claim_static {hash : List Nat → List Nat} {s s' : State} {e : Env} {o : Out}
    (hs : step hash s e .claim = .ok (s', o)) :
    s'.sched1 = s.sched1 ∧ s'.sched2 = s.sched2 ∧ s'.cfg = s.cfg ∧ s'.perTicket = s.perTicket ∧
    s'.lpTok = s.lpTok ∧ pctOf s' = pctOf s := by
  rcases step_static_cases hs with ⟨_, h1⟩ | ⟨h0, _⟩
  · exact ⟨static_sched1 h1, static_sched2 h1, static_cfg h1, terms_perTicket (static_terms h1),
      terms_lpTok (static_terms h1),
      pctOf_congr (step_variant hs) (static_sched1 h1) (static_sched2 h1)⟩
  · cases h0

/-! ### the schedule is frozen once the confirmation period has started -/

/-- from a state (reachable or not) in which the confirmation start round has been reached, along
    any history: the milestones, a STORED periodic schedule, the confirmation start round,
    `perTicket` and the launchpad token stay what they are (an absent periodic schedule may still
    be set: `setSchedule1` is open until somebody has been released tokens) -/
theorem be_later_sched_frozen {P : Env → Call → Prop} {hash : List Nat → List Nat} {s : State}
    {r : Nat} (hconf : s.cfg.conf ≤ r) {s2 : State} {r2 : Nat} (hl : be_Later P hash s r s2 r2) :
    s2.sched2 = s.sched2 ∧ (∀ sc, s.sched1 = some sc → s2.sched1 = some sc) ∧
    s2.cfg.conf = s.cfg.conf ∧ s2.perTicket = s.perTicket ∧ s2.lpTok = s.lpTok ∧ r ≤ r2 := by
  induction hl with
  | refl => exact ⟨rfl, fun _ h => h, rfl, rfl, rfl, Nat.le_refl _⟩
  | call s1 r1 e c s2 o _ k1 _ k4 ih =>
    obtain ⟨i1, i2, i3, i4, i5, i6⟩ := ih
    have hge : s1.cfg.conf ≤ e.round := by rw [i3]; omega
    have hst : s1.stage e ≠ .addTickets := (C17.stage_ne_addTickets_iff s1 e).2 hge
    obtain ⟨ht, h1⟩ := C17.terms_frozen_after_confirmation_starts_all k4 hst
    refine ⟨h1.trans i1, fun sc hsc => ?_, (conf_frozen_once_reached k4 hge).trans i3,
      (terms_perTicket ht).trans i4, (terms_lpTok ht).trans i5, by omega⟩
    rw [C17.sched1_frozen k4 hst (by rw [i2 sc hsc]; exact nofun)]
    exact i2 sc hsc
  | wait s1 r1 r2 _ k1 ih =>
    exact ⟨ih.1, ih.2.1, ih.2.2.1, ih.2.2.2.1, ih.2.2.2.2.1, Nat.le_trans ih.2.2.2.2.2 k1⟩

/-- `hsc`: with the periodic schedule (guarV1), one is stored -/
theorem pctOf_frozen {P : Env → Call → Prop} {hash : List Nat → List Nat} {s : State} {r : Nat}
    (hconf : s.cfg.conf ≤ r) (hsc : s.variant.isV2 = false → ∃ sc, s.sched1 = some sc) {s2 : State}
    {r2 : Nat} (hl : be_Later P hash s r s2 r2) : pctOf s2 = pctOf s := by
  obtain ⟨f1, f2, _⟩ := be_later_sched_frozen hconf hl
  funext now
  cases hv : s.variant.isV2 with
  | true =>
    rw [pctOf_v2 (by rw [hl.variant]; exact hv), pctOf_v2 hv]
    unfold sched2Of
    rw [f1]
  | false =>
    obtain ⟨sc, h1⟩ := hsc hv
    rw [pctOf_v1 (by rw [hl.variant]; exact hv), pctOf_v1 hv, f2 sc h1, h1]

/-! ### families of states with vesting -/

/-- `R` is closed under histories of calls satisfying `P`, has the booking invariant, and its
    accepted claims (under the side condition `Q` on the transaction, which `P` implies) do what
    `ClaimVested` says -/
structure VestFam (hash : List Nat → List Nat) (P : Env → Call → Prop) (Q : Env → Prop)
    (R : State → Nat → Prop) : Prop where
  later : ∀ {s s' : State} {r r' : Nat}, R s r → be_Later P hash s r s' r' → R s' r'
  env : ∀ {e : Env} {c : Call}, P e c → Q e
  vest : ∀ {s : State} {r : Nat}, R s r → Vest s r
  claim : ∀ {s s' : State} {r : Nat} {e : Env} {o : Out}, R s r → r ≤ e.round → Q e →
    step hash s e .claim = .ok (s', o) → ClaimVested s e s'

namespace VestFam
variable {hash : List Nat → List Nat} {P : Env → Call → Prop} {Q : Env → Prop}
  {R : State → Nat → Prop}

/-- a settled participant stays settled, his entitlement never changes, his booked amount never
    decreases: only his own claims touch his records, and a repeat claim keeps the entitlement -/
theorem later_settled (F : VestFam hash P Q R) {s : State} {r : Nat} (hR : R s r) {a : Nat}
    (hcl : s.claimed a = true) {s2 : State} {r2 : Nat} (hl : be_Later P hash s r s2 r2) :
    s2.claimed a = true ∧ s2.userTotal a = s.userTotal a ∧ s.userClaimed a ≤ s2.userClaimed a := by
  induction hl with
  | refl => exact ⟨hcl, rfl, Nat.le_refl _⟩
  | call s1 r1 e c s2 o hl1 k1 k2 k4 ih =>
    obtain ⟨i1, i2, i3⟩ := ih
    by_cases hc : c = .claim
    · subst hc
      have j := F.claim (F.later hR hl1) k1 (F.env k2) k4
      by_cases hae : a = e.caller
      · subst hae
        exact ⟨j.settled, (j.again i1).trans i2, Nat.le_trans i3 j.mono⟩
      · obtain ⟨q1, q2, q3⟩ := j.others a hae
        exact ⟨q3.trans i1, q2.trans i2, q1 ▸ i3⟩
    · obtain ⟨q1, q2, q3⟩ := step_records_frame hc k4
      exact ⟨by rw [q3]; exact i1, by rw [q1]; exact i2, by rw [q2]; exact i3⟩
  | wait s1 r1 r2 _ _ ih => exact ih

/-- **path independence**: `e.caller` settled in `s`; whatever history follows (`hpct`: it has not
    changed the schedule), his accepted claim at `e.round` leaves his cumulative received amount at
    exactly the part of the entitlement fixed at his settlement that is released at `e.round` -/
theorem path_independent (F : VestFam hash P Q R) {s : State} {r : Nat} (hR : R s r) {e : Env}
    (hcl : s.claimed e.caller = true) {s1 : State} {r1 : Nat} (hl : be_Later P hash s r s1 r1)
    (hpct : pctOf s1 = pctOf s) {s2 : State} {o : Out} (hr : r1 ≤ e.round) (hq : Q e)
    (hs : step hash s1 e .claim = .ok (s2, o)) :
    s2.userTotal e.caller = s.userTotal e.caller ∧
    s2.userClaimed e.caller = entitled (s.userTotal e.caller) (pctOf s e.round) ∧
    s.userClaimed e.caller ≤ s2.userClaimed e.caller ∧
    s2.userClaimed e.caller ≤ s.userTotal e.caller := by
  obtain ⟨k1, k2, k3⟩ := F.later_settled hR hcl hl
  have hR1 := F.later hR hl
  have j := F.claim hR1 hr hq hs
  have hut : s2.userTotal e.caller = s.userTotal e.caller := (j.again k1).trans k2
  have hb : s2.userClaimed e.caller = entitled (s.userTotal e.caller) (pctOf s e.round) := by
    rw [j.booked, hut, hpct]
  exact ⟨hut, hb, Nat.le_trans k3 j.mono, hb ▸ entitled_le _ (hpct ▸ (F.vest hR1).pctLe _)⟩

/-- at every later state, not only right after a claim of `a` -/
theorem later_amount (F : VestFam hash P Q R) {s : State} {r : Nat} (hR : R s r) {a : Nat}
    (hcl : s.claimed a = true) {s2 : State} {r2 : Nat} (hl : be_Later P hash s r s2 r2)
    (hpct : pctOf s2 = pctOf s) :
    s2.claimed a = true ∧ s2.userTotal a = s.userTotal a ∧ s.userClaimed a ≤ s2.userClaimed a ∧
    s2.userClaimed a ≤ s.userTotal a ∧
    (s2.userClaimed a = 0 ∨
      ∃ r', r' ≤ r2 ∧ s2.userClaimed a = entitled (s.userTotal a) (pctOf s r')) := by
  obtain ⟨k1, k2, k3⟩ := F.later_settled hR hcl hl
  have hv := F.vest (F.later hR hl)
  refine ⟨k1, k2, k3, k2 ▸ hv.le a, (hv.exact a).imp id fun ⟨r', hr', h0⟩ => ⟨r', hr', ?_⟩⟩
  rw [h0, k2, hpct]

/-! ### with the periodic schedule (guarV1, whatever the admissible histories) -/

section periodic
variable {s : State} {r : Nat} {sc : Sched1}
  (F : VestFam hash P Q R) (hv1 : ∀ {s : State} {r : Nat}, R s r → s.variant.isV2 = false)
  (hval : ∀ {s : State} {r : Nat}, R s r → ∀ x, s.sched1 = some x → validSched1 x)
include F hv1 hval

theorem path_independent_v1 (hR : R s r) (hconf : s.cfg.conf ≤ r) (hsc : s.sched1 = some sc)
    {e : Env} (hcl : s.claimed e.caller = true) {s1 : State} {r1 : Nat}
    (hl : be_Later P hash s r s1 r1) {s2 : State} {o : Out} (hr : r1 ≤ e.round) (hq : Q e)
    (hs : step hash s1 e .claim = .ok (s2, o)) :
    s2.userTotal e.caller = s.userTotal e.caller ∧ s2.sched1 = some sc ∧
    s2.userClaimed e.caller = entitled (s.userTotal e.caller) (unlockedPct1 e.round sc) ∧
    s.userClaimed e.caller ≤ s2.userClaimed e.caller ∧
    s2.userClaimed e.caller ≤ s.userTotal e.caller ∧
    ((sc.start + sc.times * sc.period ≤ e.round ∨ (sc.initial = 10000 ∧ sc.start ≤ e.round)) →
      s2.userClaimed e.caller = s.userTotal e.caller) := by
  obtain ⟨k1, k2, k3, k4⟩ := F.path_independent hR hcl hl
    (pctOf_frozen hconf (fun _ => ⟨sc, hsc⟩) hl) hr hq hs
  rw [pctOf_v1 (hv1 hR), hsc] at k2
  refine ⟨k1, ?_, k2, k3, k4, fun hfull => ?_⟩
  · rw [(claim_static hs).1]; exact (be_later_sched_frozen hconf hl).2.1 sc hsc
  · rw [k2]
    show entitled _ (unlockedPct1 e.round sc) = _
    rw [unlockedPct1_full sc (hval hR sc hsc) hfull]
    exact entitled_full _

omit hval in
theorem later_amount_v1 (hR : R s r) (hconf : s.cfg.conf ≤ r) (hsc : s.sched1 = some sc) {a : Nat}
    (hcl : s.claimed a = true) {s2 : State} {r2 : Nat} (hl : be_Later P hash s r s2 r2) :
    s2.userTotal a = s.userTotal a ∧ s2.sched1 = some sc ∧
    s.userClaimed a ≤ s2.userClaimed a ∧ s2.userClaimed a ≤ s.userTotal a ∧
    (s2.userClaimed a = 0 ∨
      ∃ r', r' ≤ r2 ∧ s2.userClaimed a = entitled (s.userTotal a) (unlockedPct1 r' sc)) := by
  obtain ⟨_, k2, k3, k4, k5⟩ := F.later_amount hR hcl hl
    (pctOf_frozen hconf (fun _ => ⟨sc, hsc⟩) hl)
  refine ⟨k2, (be_later_sched_frozen hconf hl).2.1 sc hsc, k3, k4,
    k5.imp id fun ⟨r', hr', h0⟩ => ⟨r', hr', ?_⟩⟩
  rw [h0, pctOf_v1 (hv1 hR), hsc]
  rfl

end periodic

end VestFam

/-! ### the owner's withdrawal with vesting -/

/-- an accepted `claimPayment` of a contract with vesting, in any state whose payment token is not
    the launchpad token: it is in the claim stage, pays the recorded proceeds and `ownSurplus`
    launchpad tokens, clears both records, and leaves no surplus -/
theorem claimPayment_vested {hash : List Nat → List Nat} {s s' : State} {e : Env} {o : Out}
    (hv : s.variant.vested = true) (htok : s.payTok ≠ .esdt s.lpTok)
    (hs : step hash s e .claimPayment = .ok (s', o)) :
    AllDone s ∧ s'.claimablePayment = 0 ∧ s'.totalDeposited = 0 ∧ s'.nrWinning = s.nrWinning ∧
    s'.bal (.esdt s.lpTok) 0 + ownSurplus s = s.bal (.esdt s.lpTok) 0 ∧
    s'.bal s.payTok 0 + s.claimablePayment = s.bal s.payTok 0 ∧
    AllDone s' ∧ ownSurplus s' = 0 := by
  obtain ⟨t, hx, rfl⟩ := step_np rfl hs
  obtain ⟨hst, hle1, hle2, hts⟩ := v2_claimPaymentOwn_state hv htok hx
  obtain ⟨⟨hsel, hadd⟩, _⟩ := stage_claim_iff.mp hst
  have hne : Token.esdt s.lpTok ≠ s.payTok := fun hh => htok hh.symm
  refine ⟨⟨hsel, hadd⟩, by rw [hts], by rw [hts], by rw [hts], ?_, ?_, by rw [hts]; exact ⟨hsel, hadd⟩,
    ownSurplus_zero (by rw [hts])⟩
  · rw [hts]
    show ((s.bal.sub s.payTok 0 s.claimablePayment).sub (.esdt s.lpTok) 0 (ownSurplus s)) (.esdt s.lpTok) 0
      + ownSurplus s = _
    simp only [Bal.sub, hne, and_self, false_and, if_true, if_false]
    omega
  · rw [hts]
    show ((s.bal.sub s.payTok 0 s.claimablePayment).sub (.esdt s.lpTok) 0 (ownSurplus s)) s.payTok 0
      + s.claimablePayment = _
    simp only [Bal.sub, htok, and_self, false_and, if_true, if_false]
    omega

end LP
