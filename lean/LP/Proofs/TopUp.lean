import LP.Guaranteed
import LP.Proofs.FY
/-
  Counting winning flags (`countWinning` over a window, `countTrue` over `1..m`, which is the
  window starting at 1), and what `topUp`, `calcV1`, `calcV2` and `processGuaranteed`
  (distribution step, part 1) compute.  The counting facts all come from splitting a window
  (`countWinning_add`): two flag maps that agree outside a window differ in count as they do on it.
-/
namespace LP
open FY (countTrue)

theorem countWinning_le (status : Nat → Bool) (first len : Nat) :
    countWinning status first len ≤ len := by
  induction len with
  | zero => simp [countWinning]
  | succ k ih => simp only [countWinning]; split <;> omega

theorem countWinning_add (status : Nat → Bool) (first a b : Nat) :
    countWinning status first (a + b) =
      countWinning status first a + countWinning status (first + a) b := by
  induction b with
  | zero => rfl
  | succ b ih => rw [← Nat.add_assoc, countWinning, ih, countWinning, Nat.add_assoc first, Nat.add_assoc]

/-- peel the first element (the definition peels the last) -/
theorem countWinning_succ_front (status : Nat → Bool) (first len : Nat) :
    countWinning status first (len + 1) =
      (if status first then 1 else 0) + countWinning status (first + 1) len := by
  rw [Nat.add_comm len 1, countWinning_add]
  simp [countWinning]

theorem countWinning_congr (s1 s2 : Nat → Bool) (first len : Nat)
    (h : ∀ t, first ≤ t → t < first + len → s1 t = s2 t) :
    countWinning s1 first len = countWinning s2 first len := by
  induction len with
  | zero => rfl
  | succ k ih =>
    simp only [countWinning]
    rw [ih (fun t h1 h2 => h t h1 (by omega)), h (first + k) (by omega) (by omega)]

theorem countWinning_mono (s1 s2 : Nat → Bool) (first len : Nat)
    (h : ∀ t, first ≤ t → t < first + len → s1 t = true → s2 t = true) :
    countWinning s1 first len ≤ countWinning s2 first len := by
  induction len with
  | zero => simp [countWinning]
  | succ k ih =>
    simp only [countWinning]
    have h1 := ih (fun t h1 h2 => h t h1 (by omega))
    have h2 := h (first + k) (by omega) (by omega)
    by_cases hs : s1 (first + k) = true
    · simp [hs, h2 hs]; exact h1
    · simp [hs]; split <;> omega

theorem countWinning_upd_front (status : Nat → Bool) (cur len : Nat) (b : Bool) :
    countWinning (upd status cur b) (cur + 1) len = countWinning status (cur + 1) len := by
  apply countWinning_congr
  intro t h1 _
  exact upd_other _ _ _ _ (by omega)

theorem countWinning_window (st st' : Nat → Bool) (first a len b : Nat)
    (hout : ∀ t, t < first + a ∨ first + a + len ≤ t → st' t = st t) :
    countWinning st' first (a + len + b) + countWinning st (first + a) len =
      countWinning st first (a + len + b) + countWinning st' (first + a) len := by
  rw [countWinning_add, countWinning_add, countWinning_add st, countWinning_add st,
    countWinning_congr st' st first a (fun t _ h => hout t (by omega)),
    countWinning_congr st' st (first + (a + len)) b (fun t h _ => hout t (by omega))]
  omega

theorem countTrue_eq_countWinning (st : Nat → Bool) (m : Nat) :
    countTrue st m = countWinning st 1 m := by
  induction m with
  | zero => rfl
  | succ m ih => rw [countTrue, countWinning, ih, Nat.add_comm 1 m]

theorem countTrue_add (st : Nat → Bool) (m n : Nat) :
    countTrue st (m + n) = countTrue st m + countWinning st (m + 1) n := by
  rw [countTrue_eq_countWinning, countTrue_eq_countWinning, countWinning_add, Nat.add_comm 1 m]

theorem countTrue_window (st st' : Nat → Bool) (first len last : Nat)
    (h1 : 1 ≤ first) (h2 : first + len ≤ last + 1)
    (hout : ∀ t, t < first ∨ first + len ≤ t → st' t = st t) :
    countTrue st' last + countWinning st first len =
      countTrue st last + countWinning st' first len := by
  obtain ⟨a, rfl⟩ : ∃ a, first = 1 + a := ⟨first - 1, by omega⟩
  obtain ⟨b, rfl⟩ : ∃ b, last = a + len + b := ⟨last - (a + len), by omega⟩
  rw [countTrue_eq_countWinning, countTrue_eq_countWinning]
  exact countWinning_window st st' 1 a len b hout

theorem countTrue_le (st : Nat → Bool) (m : Nat) : countTrue st m ≤ m := by
  rw [countTrue_eq_countWinning]; exact countWinning_le st 1 m

theorem countTrue_congr (st st' : Nat → Bool) (m : Nat)
    (h : ∀ t, 1 ≤ t → t ≤ m → st' t = st t) : countTrue st' m = countTrue st m := by
  rw [countTrue_eq_countWinning, countTrue_eq_countWinning]
  exact countWinning_congr st' st 1 m fun t h1 h2 => h t h1 (by omega)

theorem countTrue_upd (st : Nat → Bool) (m t : Nat) (h1 : 1 ≤ t) (h2 : t ≤ m)
    (hf : st t = false) : countTrue (upd st t true) m = countTrue st m + 1 := by
  have := countTrue_window st (upd st t true) t 1 m h1 (by omega)
    fun u hu => upd_other _ _ _ _ (by omega)
  simpa [countWinning, hf, Nat.add_comm] using this

theorem countTrue_upd_out (st : Nat → Bool) (m t : Nat) (v : Bool) (h : t < 1 ∨ m < t) :
    countTrue (upd st t v) m = countTrue st m :=
  countTrue_congr _ _ _ (fun u h1 h2 => upd_other _ _ _ _ (by omega))

theorem topUp_sum (status : Nat → Bool) (cur len remaining : Nat) :
    (topUp status cur len remaining).2.1 + (topUp status cur len remaining).2.2 = remaining := by
  fun_induction topUp status cur len remaining with
  | case1 => simp
  | case2 => simp
  | case3 => assumption
  | case4 status cur len remaining hr hs st m r heq ih =>
    simp only [heq] at ih
    simp only
    omega

theorem topUp_outside (status : Nat → Bool) (cur len remaining t : Nat)
    (ht : t < cur ∨ cur + len ≤ t) :
    (topUp status cur len remaining).1 t = status t := by
  fun_induction topUp status cur len remaining with
  | case1 => rfl
  | case2 => rfl
  | case3 status cur len remaining hr hs ih => exact ih (by omega)
  | case4 status cur len remaining hr hs st m r heq ih =>
    simp only [heq] at ih
    simp only
    rw [ih (by omega)]
    exact upd_other _ _ _ _ (by omega)

theorem topUp_mono (status : Nat → Bool) (cur len remaining t : Nat)
    (h : status t = true) : (topUp status cur len remaining).1 t = true := by
  fun_induction topUp status cur len remaining with
  | case1 => exact h
  | case2 => exact h
  | case3 status cur len remaining hr hs ih => exact ih h
  | case4 status cur len remaining hr hs st m r heq ih =>
    simp only [heq] at ih
    simp only
    apply ih
    simp [upd_apply, h]

theorem topUp_count (status : Nat → Bool) (cur len remaining : Nat) :
    countWinning (topUp status cur len remaining).1 cur len =
      countWinning status cur len + (topUp status cur len remaining).2.1 := by
  fun_induction topUp status cur len remaining with
  | case1 => simp [countWinning]
  | case2 => simp
  | case3 status cur len remaining hr hs ih =>
    rw [countWinning_succ_front, countWinning_succ_front, ih,
      topUp_outside _ _ _ _ _ (by omega)]
    omega
  | case4 status cur len remaining hr hs st m r heq ih =>
    simp only [heq] at ih
    simp only
    rw [countWinning_succ_front, countWinning_succ_front, ih, countWinning_upd_front]
    have h1 : st cur = true := by
      have := topUp_outside (upd status cur true) (cur + 1) len (remaining - 1) cur (by omega)
      rw [heq] at this
      simp only at this
      rw [this]; simp
    simp [h1, hs]
    omega

/-- tickets marked: the minimum of the request and the free slots -/
theorem topUp_marked (status : Nat → Bool) (cur len remaining : Nat) :
    (topUp status cur len remaining).2.1 =
      min remaining (len - countWinning status cur len) := by
  fun_induction topUp status cur len remaining with
  | case1 => simp [countWinning]
  | case2 => simp
  | case3 status cur len remaining hr hs ih =>
    rw [ih, countWinning_succ_front]
    simp [hs]
    have := countWinning_le status (cur + 1) len
    omega
  | case4 status cur len remaining hr hs st m r heq ih =>
    simp only [heq] at ih
    simp only
    rw [ih, countWinning_succ_front, countWinning_upd_front]
    simp [hs]
    have := countWinning_le status (cur + 1) len
    omega

theorem topUp_enough (status : Nat → Bool) (cur len remaining : Nat)
    (h : remaining ≤ len - countWinning status cur len) :
    (topUp status cur len remaining).2.2 = 0 := by
  have h1 := topUp_sum status cur len remaining
  have h2 := topUp_marked status cur len remaining
  omega

theorem foldl_add_fst (l : List (Nat × Nat)) (a : Nat) :
    l.foldl (fun acc i => acc + i.1) a = a + (l.map (·.1)).sum := by
  induction l generalizing a with
  | nil => simp
  | cons x xs ih => simp [List.foldl_cons, ih]; omega

theorem sumG_eq (l : List (Nat × Nat)) : sumG l = (l.map (·.1)).sum := by
  simp [sumG, foldl_add_fst]

@[simp] theorem sumG_nil : sumG [] = 0 := rfl

theorem sumG_cons (x : Nat × Nat) (l : List (Nat × Nat)) : sumG (x :: l) = x.1 + sumG l := by
  simp [sumG_eq]

theorem sumG_filter_split (p : Nat × Nat → Bool) (l : List (Nat × Nat)) :
    sumG (l.filter p) + sumG (l.filter (fun i => !p i)) = sumG l := by
  induction l with
  | nil => rfl
  | cons x xs ih =>
    by_cases hp : p x = true
    · simp [hp, sumG_cons]; omega
    · simp [hp, sumG_cons]; omega

/-- the guarantees of `infos` whose threshold `minConfirmed` is met by `conf` -/
def metG (infos : List (Nat × Nat)) (conf : Nat) : Nat :=
  sumG (infos.filter (fun i => decide (conf ≥ i.2)))

theorem calcV2_fst (infos : List (Nat × Nat)) (conf : Nat) :
    (calcV2 infos conf).1 = min conf (metG infos conf) := by
  unfold calcV2 metG sumG
  simp only []
  generalize List.foldl (fun acc i => acc + i.1) 0
    (List.filter (fun i => decide (conf ≥ i.2)) infos) = a
  split
  · simp only; omega
  · simp only; omega

theorem calcV2_sum (infos : List (Nat × Nat)) (conf : Nat) :
    (calcV2 infos conf).1 + (calcV2 infos conf).2 = sumG infos := by
  have h := sumG_filter_split (fun i => decide (conf ≥ i.2)) infos
  unfold calcV2
  unfold sumG at h ⊢
  simp only []
  split
  · simp only; omega
  · simp only; omega

theorem calcV2_le_conf (infos : List (Nat × Nat)) (conf : Nat) :
    (calcV2 infos conf).1 ≤ conf := by
  rw [calcV2_fst]; omega

theorem calcV1_sum (st : UTS) (conf minc : Nat) :
    (calcV1 st conf minc).1 + (calcV1 st conf minc).2 = st.c + st.d := by
  unfold calcV1
  by_cases h1 : conf ≥ st.b <;> simp only [h1, if_true, if_false] <;> split <;> simp only <;> omega

theorem processGuaranteed_none (status : Nat → Bool) (g : Nat) :
    processGuaranteed status none g = (status, g, 0) := rfl

theorem processGuaranteed_some_general (status : Nat → Bool) (r : Range) (g : Nat) :
    let res := processGuaranteed status (some r) g
    let w := countWinning status r.first (rangeLen r)
    -- a reserved ticket is newly marked (third component, `add` in `guarBody`) or goes back to
    -- `leftover` (second component: covered by a lottery win, or no free slot in the range)
    res.2.1 + res.2.2 = g ∧
    countWinning res.1 r.first (rangeLen r) = w + res.2.2 ∧
    res.2.2 = min (g - w) (rangeLen r - w) ∧
    -- the guarantee is honoured as far as the range allows
    countWinning res.1 r.first (rangeLen r) ≥ min g (rangeLen r) ∧
    -- no other participant's ticket, no non-existent id
    (∀ t, (t < r.first ∨ r.first + rangeLen r ≤ t) → res.1 t = status t) ∧
    -- flags only gain
    (∀ t, status t = true → res.1 t = true) := by
  intro res w
  have hw : w ≤ rangeLen r := countWinning_le _ _ _
  by_cases hg : g > w
  · have hres : res = ((topUp status r.first (rangeLen r) (g - w)).1,
        w + (topUp status r.first (rangeLen r) (g - w)).2.2,
        (topUp status r.first (rangeLen r) (g - w)).2.1) := by
      show processGuaranteed status (some r) g = _
      simp only [processGuaranteed]
      rw [if_pos hg]
    have hs := topUp_sum status r.first (rangeLen r) (g - w)
    have hc := topUp_count status r.first (rangeLen r) (g - w)
    have hm := topUp_marked status r.first (rangeLen r) (g - w)
    rw [hres]
    refine ⟨by simp only; omega, by simp only; exact hc, by simp only; exact hm,
      by simp only; rw [hc]; omega, ?_, ?_⟩
    · intro t ht; exact topUp_outside _ _ _ _ _ ht
    · intro t ht; exact topUp_mono _ _ _ _ _ ht
  · have hres : res = (status, g, 0) := by
      show processGuaranteed status (some r) g = _
      simp only [processGuaranteed]
      rw [if_neg hg]
    rw [hres]
    refine ⟨by simp, by simp; rfl, by simp only; omega, by simp only; omega, ?_, ?_⟩
    · intro t _; rfl
    · intro t ht; exact ht

end LP
