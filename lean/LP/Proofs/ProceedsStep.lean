import LP.Proofs.PayOut
import LP.Proofs.ReachWF
import LP.Proofs.Gate
/-
  What an accepted call can do once the filter has completed, in any state of any variant: the
  acceptance table (`step_gate`) leaves the eleven `lateCall`s and the still open selection
  steps (`late_calls`), and `exec_fp` says what each of these writes (`LateStep`, `SelStep`;
  `after_filter_step`, `late_step`).  The frames of the later phases are case analyses on these two
  relations; here the frame of the owner's proceeds (`step_proceeds`): only his withdrawal changes
  them, to zero.
-/
namespace LP

theorem step_claimPayment_clears {hash : List Nat → List Nat} {s s' : State} {e : Env} {o : Out}
    (hs : step hash s e .claimPayment = .ok (s', o)) : s'.claimablePayment = 0 := by
  obtain ⟨t, hx, rfl⟩ := step_np rfl hs
  rw [(exec_claimPayment_out hx).2.1]
  unfold paymentState
  split <;> rfl

/-- the calls that can be accepted (the three SFT set-up calls never are) and are neither stage-gated
    to the allocation or confirmation period nor a selection step (filter included) -/
def lateCall : Call → Bool
  | .deposit | .setSchedule1 .. | .setConfStart _ | .setSelStart _ | .setClaimStart _
  | .setSupport _ | .pause | .unpause | .sftSetup | .claim | .claimPayment => true
  | _ => false

/-- the filter is complete and the stage is past confirmation: what is accepted is a `lateCall` or
    a selection step that is still open -/
theorem late_calls {hash : List Nat → List Nat} {s s' : State} {e : Env} {c : Call} {o : Out}
    (hf : s.flags.filtered = true) (hst : s.stage e ≠ .addTickets ∧ s.stage e ≠ .confirm)
    (hs : step hash s e c = .ok (s', o)) :
    lateCall c = true ∨ (c = .select ∧ s.flags.selected = false) ∨
    ((c = .distribute ∨ c = .selectNft ∨ c = .secondary) ∧ s.flags.additional = false) := by
  have g := step_gate hs
  cases c
  case addTickets | addTicketsV1 | addTicketsV2 | setSchedule2 => exact absurd g hst.1
  case setTicketPrice | setPerTicket | setNftCost => exact absurd g.1 hst.1
  case confirm => exact absurd g.2 hst.2
  case confirmNft => exact absurd g hst.2
  case blacklist | refundUsers | unblacklist => exact g.2.elim (absurd · hst.1) (absurd · hst.2)
  case filter => exact absurd (hf.symm.trans g.2.2) nofun
  case select => exact .inr (.inl ⟨rfl, g.2.2.2.2⟩)
  case distribute => exact .inr (.inr ⟨.inl rfl, g.2.2.1⟩)
  case selectNft => exact .inr (.inr ⟨.inr (.inl rfl), g.2.2⟩)
  case secondary => exact .inr (.inr ⟨.inr (.inr rfl), g.2.2⟩)
  case issueSft | createSfts | setTransferRole => exact g.elim
  all_goals exact .inl rfl

/-- what an accepted `lateCall` writes: a `claim` settles or pays an instalment (`ClaimFp`), the
    owner's withdrawal writes the two recorded proceeds, the recorded deposit and balances, a late
    `deposit` its two records and balances, and the rest are administrative edits of the timeline,
    the support address, the pause flag, the v1 schedule or the SFT flags -/
def LateStep (s : State) (e : Env) (c : Call) (s' : State) : Prop :=
  (c = .claim ∧ ClaimFp s s' e.caller) ∨
  (c = .claimPayment ∧ ∃ cp td bal cn,
    s' = { s with claimablePayment := cp, totalDeposited := td, bal := bal, claimableNft := cn }) ∨
  (c = .deposit ∧ s.deposited = false ∧
    ∃ td bal, s' = { s with deposited := true, totalDeposited := td, bal := bal }) ∨
  (c ≠ .claim ∧ c ≠ .claimPayment ∧ c ≠ .deposit ∧ ∃ cfg sup p s1 a b c2 d,
    s' = { s with cfg := cfg, support := sup, paused := p, sched1 := s1, sftToken := a,
                  sftCreated := b, sftIssuedFlag := c2, sftRole := d })

/-- what an open selection step writes; it can complete (set its flag) or not -/
def SelStep (s : State) (c : Call) (s' : State) : Prop :=
  (c = .select ∧ s.flags.selected = false ∧
    (s'.flags = s.flags ∨ s'.flags = { s.flags with selected := true }) ∧ s' = written s s' c) ∨
  ((c = .distribute ∨ c = .selectNft ∨ c = .secondary) ∧ s.flags.additional = false ∧
    (s'.flags = s.flags ∨ s'.flags = { s.flags with additional := true }) ∧ s' = written s s' c)

theorem after_filter_step {hash : List Nat → List Nat} {s s' : State} {e : Env} {c : Call} {o : Out}
    (hf : s.flags.filtered = true) (hst : s.stage e ≠ .addTickets ∧ s.stage e ≠ .confirm)
    (hs : step hash s e c = .ok (s', o)) : LateStep s e c s' ∨ SelStep s c s' := by
  rcases late_calls hf hst hs with hlate | ⟨rfl, hsel⟩ | ⟨hc, hadd⟩
  · left
    cases c <;> first | (cases hlate; done) | skip
    case deposit =>
      obtain ⟨m, t, _, _, _, hx, rfl, _⟩ := step_ok_inv hs
      simp only [exec, bind_ok_iff, pure_ok_iff] at hx
      obtain ⟨s1, h1, rfl⟩ := hx
      obtain ⟨hdep, rfl⟩ := depositLaunchpadTokens_eq h1
      exact .inr (.inr (.inl ⟨rfl, hdep, _, _, rfl⟩))
    case claim =>
      obtain ⟨t, hx, rfl⟩ := step_np rfl hs
      exact .inl ⟨rfl, (exec_fp hx).1⟩
    case claimPayment =>
      obtain ⟨t, hx, rfl⟩ := step_np rfl hs
      exact .inr (.inl ⟨rfl, _, _, _, _, (exec_fp hx).1⟩)
    all_goals
      obtain ⟨t, hx, rfl⟩ := step_np rfl hs
      exact .inr (.inr (.inr ⟨nofun, nofun, nofun, _, _, _, _, _, _, _, _,
        by rw [(exec_fp hx).1]; rfl⟩))
  · obtain ⟨t, hx, rfl⟩ := step_np rfl hs
    exact .inr (.inl ⟨rfl, hsel, (exec_fp hx).1⟩)
  · right; right
    refine ⟨hc, hadd, ?_⟩
    rcases hc with rfl | rfl | rfl <;>
    · obtain ⟨t, hx, rfl⟩ := step_np rfl hs
      exact (exec_fp hx).1

theorem late_calls_done {hash : List Nat → List Nat} {s s' : State} {e : Env} {c : Call} {o : Out}
    (hd : AllDone s) (hf : s.flags.filtered = true)
    (hst : s.stage e ≠ .addTickets ∧ s.stage e ≠ .confirm)
    (hs : step hash s e c = .ok (s', o)) : lateCall c = true := by
  rcases late_calls hf hst hs with h | ⟨_, h⟩ | ⟨_, h⟩
  · exact h
  · exact absurd (hd.1.symm.trans h) nofun
  · exact absurd (hd.2.symm.trans h) nofun

/-- every selection step is complete: no `SelStep` is left -/
theorem late_step {hash : List Nat → List Nat} {s s' : State} {e : Env} {c : Call} {o : Out}
    (hd : AllDone s) (hf : s.flags.filtered = true)
    (hst : s.stage e ≠ .addTickets ∧ s.stage e ≠ .confirm)
    (hs : step hash s e c = .ok (s', o)) : LateStep s e c s' := by
  rcases after_filter_step hf hst hs with h | ⟨_, h, _⟩ | ⟨_, h, _⟩
  · exact h
  · exact absurd (hd.1.symm.trans h) nofun
  · exact absurd (hd.2.symm.trans h) nofun

theorem stage_late_of_rounds {s : State} {e : Env} {r : Nat} (hc1 : s.cfg.conf ≤ r)
    (hc2 : s.cfg.sel ≤ r) (hr : r ≤ e.round) :
    s.stage e ≠ .addTickets ∧ s.stage e ≠ .confirm :=
  ⟨fun hh => by have := rb_stage_addTickets hh; omega,
    fun hh => by have := (rb_stage_confirm hh).2; omega⟩

/-- **the frame of the proceeds**: the base lottery is complete and its rounds are reached.  An
    accepted call keeps the price and `selected`; unless it is the (still open) additional step it
    keeps all flags, and leaves the recorded proceeds alone unless it is `claimPayment` -/
theorem step_proceeds {hash : List Nat → List Nat} {s s' : State} {e : Env} {c : Call} {o : Out}
    {r : Nat} (hc1 : s.cfg.conf ≤ r) (hc2 : s.cfg.sel ≤ r) (hr : r ≤ e.round)
    (hfil : s.flags.filtered = true) (hsel : s.flags.selected = true)
    (hs : step hash s e c = .ok (s', o)) :
    s'.price = s.price ∧ s'.flags.selected = true ∧
    (((c = .distribute ∨ c = .selectNft ∨ c = .secondary) ∧ s.flags.additional = false) ∨
      (s'.flags = s.flags ∧
        (s'.claimablePayment = s.claimablePayment ∨ (c = .claimPayment ∧ s'.claimablePayment = 0)))) := by
  rcases after_filter_step hfil (stage_late_of_rounds hc1 hc2 hr) hs with hL | hS
  · rcases hL with ⟨_, h⟩ | ⟨rfl, _, _, _, _, h⟩ | ⟨_, _, _, _, h⟩ |
      ⟨_, _, _, _, _, _, _, _, _, _, _, h⟩
    · rcases h with ⟨_, _, _, _, h⟩ | ⟨_, _, _, _, _, _, _, _, _, h⟩ <;> rw [h] <;>
        exact ⟨rfl, hsel, .inr ⟨rfl, .inl rfl⟩⟩
    · have hcp := step_claimPayment_clears hs
      rw [h] at hcp ⊢
      exact ⟨rfl, hsel, .inr ⟨rfl, .inr ⟨rfl, hcp⟩⟩⟩
    · rw [h]; exact ⟨rfl, hsel, .inr ⟨rfl, .inl rfl⟩⟩
    · rw [h]; exact ⟨rfl, hsel, .inr ⟨rfl, .inl rfl⟩⟩
  · rcases hS with ⟨_, h, _⟩ | ⟨hc, hadd, hfl, h⟩
    · exact absurd (hsel.symm.trans h) nofun
    · refine ⟨?_, by rcases hfl with hfl | hfl <;> rw [hfl] <;> exact hsel, .inl ⟨hc, hadd⟩⟩
      rcases hc with rfl | rfl | rfl <;> exact (congrArg State.price h :)

/-- every selection step complete: the additional step is closed as well, so the flags stay -/
theorem step_proceeds_done {hash : List Nat → List Nat} {s s' : State} {e : Env} {c : Call} {o : Out}
    {r : Nat} (hc1 : s.cfg.conf ≤ r) (hc2 : s.cfg.sel ≤ r) (hr : r ≤ e.round)
    (hfil : s.flags.filtered = true) (hd : AllDone s) (hs : step hash s e c = .ok (s', o)) :
    s'.price = s.price ∧ s'.flags = s.flags ∧
    (s'.claimablePayment = s.claimablePayment ∨ (c = .claimPayment ∧ s'.claimablePayment = 0)) := by
  obtain ⟨h1, _, ⟨_, hna⟩ | ⟨h2, h3⟩⟩ := step_proceeds hc1 hc2 hr hfil hd.1 hs
  · exact absurd (hd.2.symm.trans hna) nofun
  · exact ⟨h1, h2, h3⟩

/-- only `claim` writes the vesting records and the `claimed` marks (any state, any variant) -/
theorem step_records_frame {hash : List Nat → List Nat} {s s' : State} {e : Env} {c : Call} {o : Out}
    (hc : c ≠ .claim) (hs : step hash s e c = .ok (s', o)) :
    s'.userTotal = s.userTotal ∧ s'.userClaimed = s.userClaimed ∧ s'.claimed = s.claimed := by
  obtain ⟨m, t, _, _, _, hx, rfl, _⟩ := step_ok_inv hs
  have hw := exec_written hx
  show t.s.userTotal = (tx0 s e).s.userTotal ∧ t.s.userClaimed = (tx0 s e).s.userClaimed ∧
    t.s.claimed = (tx0 s e).s.claimed
  generalize (tx0 s e).s = s0 at hw ⊢
  rw [hw]
  cases c <;> first | exact absurd rfl hc | exact ⟨rfl, rfl, rfl⟩

end LP
