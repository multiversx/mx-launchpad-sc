import LP.Proofs.CorePhase
import LP.Proofs.Claim
import LP.Proofs.Later
import LP.Proofs.ProceedsStep
/-
  The plain launchpads (`Variant.base`, and `Variant.locked`, which differs only in how launchpad
  tokens are sent at claim): every accepted call keeps `WF` (`call_WF`, endpoint by endpoint below),
  so `WF` holds in every reachable state (`Reach`, `ReachA`; `reach_WF`).  The restrictions on
  histories are `EnvOK` (a call carries EGLD or ESDT, not both) and `CallOK` (ReachWF), both
  explicit in the `call` constructor.
-/
namespace LP
open LP.FY LP.Events

/-! ### calls that leave the projection alone -/

theorem rb_admin {T0 : Nat} {hash : List Nat → List Nat} {s s' : State} {e : Env} {c : Call} {o : Out}
    {r : Nat} (hc : c.isAdmin = true) (h : WF T0 s r) (hr : r ≤ e.round)
    (hs : step hash s e c = .ok (s', o)) : WF T0 s' e.round := by
  obtain ⟨cfg', p, su, rfl, hcfg⟩ := step_admin hc hs
  exact h.frame rfl rfl rfl rfl h.balOther hcfg hr

theorem rb_setPerTicket {T0 : Nat} {hash : List Nat → List Nat} {s s' : State} {e : Env} {o : Out}
    {r a : Nat} (h : WF T0 s r) (hr : r ≤ e.round)
    (hs : step hash s e (.setPerTicket a) = .ok (s', o)) : WF T0 s' e.round := by
  obtain ⟨t, hx, rfl⟩ := step_np rfl hs
  rw [(exec_setPerTicket_s hx).1]
  exact h.frame rfl rfl rfl rfl h.balOther (CfgMono.refl _ _) hr

theorem rb_deposit {T0 : Nat} {hash : List Nat → List Nat} {s s' : State} {e : Env} {o : Out}
    {r : Nat} (h : WF T0 s r) (hr : r ≤ e.round) (hok : EnvOK e)
    (hs : step hash s e .deposit = .ok (s', o)) : WF T0 s' e.round := by
  obtain ⟨_, rfl⟩ := step_deposit hok hs
  refine h.frame (s := s) ?_ rfl rfl rfl ?_ (CfgMono.refl _ _) hr
  · show ({ s.core with payBal := (s.bal.add (.esdt s.lpTok) 0 _) s.payTok 0 } : Core) = s.core
    rw [Bal.add_off _ _ _ _ h.tokNe]; rfl
  · exact fun t h1 h2 => (Bal.add_off s.bal 0 _ 0 h2).trans (h.balOther t h1 h2)

/-! ### the endpoints of phase A -/

/-- a call accepted before the winner selection finds the launchpad in phase A -/
theorem WF.phaseA {T0 : Nat} {s : State} {e : Env} {r : Nat} (h : WF T0 s r) (hr : r ≤ e.round)
    (hst : s.stage e = .addTickets ∨ s.stage e = .confirm) :
    s.flags.started = false ∧ ∃ L0, Pre T0 s.core L0 ∧ PhA s.core L0 := by
  have hns : s.flags.started = false := notStarted_of_stage h.tlStarted hr hst
  exact ⟨hns, rb_phase_notStarted h.phase hns⟩

theorem rb_setTicketPrice {T0 : Nat} {hash : List Nat → List Nat} {s s' : State} {e : Env} {o : Out}
    {r a : Nat} {tok : Token} (h : WF T0 s r) (hr : r ≤ e.round)
    (hs : step hash s e (.setTicketPrice tok a) = .ok (s', o)) : WF T0 s' e.round := by
  obtain ⟨t, hx, rfl⟩ := step_np rfl hs
  obtain ⟨h1, h2, h3, _, h5⟩ := exec_setTicketPrice_s hx
  have hlt : e.round < s.cfg.conf := rb_stage_addTickets h2
  have hz : ∀ a, s.confirmed a = 0 := h.tlConf (by omega)
  obtain ⟨hns, L0, hp, ha⟩ := h.phaseA hr (Or.inl h2)
  obtain ⟨hb0, hpre⟩ := hp.setTicketPrice hz h.balOther h5 a
  rw [h1]
  refine ⟨h.var, h3, h5, h.add, fun t _ h2 => hb0 t h2, fun _ => hz,
    fun hst => absurd (hns.symm.trans hst) nofun, Or.inl ⟨L0, hpre, Or.inl ha.setLedger⟩⟩

theorem rb_addTickets {T0 : Nat} {hash : List Nat → List Nat} {s s' : State} {e : Env} {o : Out}
    {r : Nat} {l : List (Nat × Nat)} (h : WF T0 s r) (hr : r ≤ e.round)
    (hpos : ∀ p ∈ l, 1 ≤ p.2)
    (hs : step hash s e (.addTickets l) = .ok (s', o)) : WF T0 s' e.round := by
  obtain ⟨hst', hcm'⟩ := step_addTickets hs
  have hlt : e.round < s.cfg.conf := rb_stage_addTickets hst'
  have hz : ∀ a, s.confirmed a = 0 := h.tlConf (by omega)
  obtain ⟨hns, L0, hp, ha⟩ := h.phaseA hr (Or.inl hst')
  obtain ⟨hp', ha'⟩ := hp.createMany ha rfl rfl rfl hz hpos hcm' hp.nrw
  obtain ⟨rg, bt, lt, rfl⟩ := (createMany_ok l s s' hcm').2.2.2.2.2.2.2
  exact h.ofPhase rfl rfl rfl h.pricePos h.add h.balOther (fun _ => hz)
    (fun hst => absurd (hns.symm.trans hst) nofun) (Or.inl ⟨L0 ++ l, hp', Or.inl ha'⟩)

theorem rb_confirm {T0 : Nat} {hash : List Nat → List Nat} {s s' : State} {e : Env} {o : Out}
    {r n : Nat} (h : WF T0 s r) (hr : r ≤ e.round) (hok : EnvOK e)
    (hs : step hash s e (.confirm n) = .ok (s', o)) : WF T0 s' e.round := by
  obtain ⟨total, ⟨_, _, hst, _, _, htix, hle⟩, rfl⟩ := step_confirm hok hs
  obtain ⟨hc1, hc2⟩ := rb_stage_confirm hst
  obtain ⟨hns, L0, hp, ha⟩ := h.phaseA hr (Or.inr hst)
  obtain ⟨hin, hout⟩ := hp.confirm_bound ha rfl rfl htix hle
  refine h.ofPhase rfl rfl rfl h.pricePos h.add ?_ ?_ (fun hst => absurd (hns.symm.trans hst) nofun)
    (Or.inl ⟨L0, ?_, Or.inl ha.setLedger⟩)
  · exact fun t h1 h2 => (Bal.add_off s.bal 0 _ 0 h1).trans (h.balOther t h1 h2)
  · exact fun hlt => absurd hc1 (Nat.not_le.mpr hlt)
  · show Pre _ { s.core with confirmed := upd s.confirmed e.caller (s.confirmed e.caller + n),
                             payBal := (s.bal.add s.payTok 0 (s.price * n)) s.payTok 0 } L0
    rw [Bal.add_at]
    exact hp.confirm hin hout

theorem rb_blacklist {T0 : Nat} {hash : List Nat → List Nat} {s s' : State} {e : Env} {o : Out}
    {r : Nat} {l : List Nat} (h : WF T0 s r) (hr : r ≤ e.round)
    (hs : step hash s e (.blacklist l) = .ok (s', o)) : WF T0 s' e.round := by
  obtain ⟨t, hx, rfl⟩ := step_np rfl hs
  obtain ⟨_, hv3, hv1, hv2, _⟩ := rb_plain_flags h.var
  simp only [exec, bind_ok_iff] at hx
  obtain ⟨t1, h1, hx⟩ := hx
  obtain ⟨_, hstage, hnd, hall, hle, rfl⟩ := (addUsersToBlacklist_ok_iff _ _ _ _).mp h1
  have hvar : (blTx (rbTx s e) e l).s.variant = s.variant := rfl
  simp only [hvar, hv1, hv2, hv3, Bool.false_eq_true, if_false, pure_bind, pure_ok_iff] at hx
  subst hx
  simp only [rbTx_s] at hstage hall hle
  obtain ⟨hns, L0, hp, ha⟩ := h.phaseA hr hstage
  have hall' := fun u hu => (hall u hu).2
  show WF T0 (blState s l) e.round
  refine h.ofPhase rfl rfl rfl h.pricePos h.add ?_ ?_ (fun hst => absurd (hns.symm.trans hst) nofun)
    (Or.inl ⟨L0, ?_, Or.inl ha.setLedger⟩)
  · exact fun t h1 h2 => (Bal.sub_off s.bal 0 _ 0 h1).trans (h.balOther t h1 h2)
  · intro hlt
    exact ite_mem_zero (h.tlConf (by have : e.round < s.cfg.conf := hlt; omega))
  · show Pre _ { s.core with confirmed := (fun a => if a ∈ l then 0 else s.confirmed a),
                             payBal := (s.bal.sub s.payTok 0 (s.price * blConfSum s l)) s.payTok 0 } L0
    rw [Bal.sub_at]
    exact hp.blacklist hnd hall'

end LP

namespace LP
open LP.FY

/-- `WF` once the winner selection has begun, from the phase alone (the filter, the lottery, the
    claim and the owner's withdrawal all end with it) -/
theorem WF.late {T0 : Nat} {s s' : State} {r r' : Nat} (h : WF T0 s r)
    (hv : s'.variant = s.variant) (hp : s'.payTok = s.payTok) (hl : s'.lpTok = s.lpTok)
    (hpr : s'.price = s.price) (hadd : s'.flags.additional = true)
    (hb : ∀ t, t ≠ s.payTok → t ≠ .esdt s.lpTok → s'.bal t 0 ≤ s.bal t 0)
    (hc : s'.cfg.conf ≤ r' ∧ s'.cfg.sel ≤ r') (hph : Phase T0 s'.core) : WF T0 s' r' :=
  h.ofPhase hv hp hl (hpr ▸ h.pricePos) hadd
    (fun t h1 h2 => Nat.le_zero.mp (Nat.le_trans (hb t h1 h2) (Nat.le_of_eq (h.balOther t h1 h2))))
    (fun hlt => absurd hc.1 (Nat.not_le.mpr hlt)) (fun _ => hc) hph

/-! ### `filterTickets` -/

theorem rb_filter {T0 : Nat} {hash : List Nat → List Nat} {s s' : State} {e : Env} {o : Out}
    {r : Nat} (h : WF T0 s r)
    (hs : step hash s e .filter = .ok (s', o)) : WF T0 s' e.round := by
  obtain ⟨t, hx, rfl⟩ := step_np rfl hs
  have hnf : s.flags.filtered = false := (filterTickets_inv _ _ _ hx).1.notFiltered
  obtain ⟨L0, hp, hab⟩ := rb_phase_notFiltered h.phase hnf
  obtain ⟨hpre, x, f, _, _, hcase⟩ := phase_filter (rbTx_s s e) hp hab hx
  have hadd : (filterFlags s x.first).additional = true := (rb_filterFlags s x.first).2.2.trans h.add
  have hc : s.cfg.conf ≤ e.round ∧ s.cfg.sel ≤ e.round := rb_stage_winnerSelection hpre.stage
  rcases hcase with ⟨hs', hp', hb'⟩ | ⟨hs', hc'⟩ <;> rw [hs']
  · exact h.late rfl rfl rfl rfl hadd (fun _ _ _ => Nat.le_refl _) hc (Or.inl ⟨L0, hp', Or.inr hb'⟩)
  · exact h.late rfl rfl rfl rfl hadd (fun _ _ _ => Nat.le_refl _) hc (Or.inr (Or.inl hc'))

/-! ### `selectWinners`: at completion the pre-selection ledger equation is handed over to the
post-selection one -/

/-- the two outcomes of an accepted `selectWinners`, with the lottery invariant `R` of the final
    loop state -/
theorem rb_select_cases {T0 : Nat} {hash : List Nat → List Nat} {s s' : State} {e : Env} {o : Out}
    {r : Nat} (h : WF T0 s r) (hs : step hash s e .select = .ok (s', o)) :
    s.stage e = .winnerSelection ∧ PhC T0 s.core ∧ ∃ x : SelSt,
      (s' = selInt s x ∧ 1 ≤ x.pos ∧ x.pos ≤ s.nrWinning ∧
        ∃ arr, R s.lastTicketId x.pos x.status x.posToId arr) ∨
      (s' = selDone s x ∧ ∃ arr, R s.lastTicketId (s.nrWinning + 1) x.status x.posToId arr) := by
  obtain ⟨t, hx, rfl⟩ := step_np rfl hs
  obtain ⟨hstage, hfil, hnsel, _⟩ := rb_selectWinners_cases hx
  have hC : PhC T0 s.core := rb_phase_C h.phase hfil hnsel
  exact ⟨hstage, hC, select_cases (rbTx_s s e) hC.nrw_le hC.sel hx⟩

theorem rb_select {T0 : Nat} {hash : List Nat → List Nat} {s s' : State} {e : Env} {o : Out}
    {r : Nat} (h : WF T0 s r)
    (hs : step hash s e .select = .ok (s', o)) : WF T0 s' e.round := by
  obtain ⟨hstage, hC, x, hcase⟩ := rb_select_cases h hs
  have hc := rb_stage_winnerSelection hstage
  rcases hcase with ⟨rfl, p1, p2, arr, hR⟩ | ⟨rfl, arr, hR⟩
  · exact h.late rfl rfl rfl rfl h.add (fun _ _ _ => Nat.le_refl _) hc
      (Or.inr (Or.inl (hC.selInt p1 p2 hR)))
  · exact h.late rfl rfl rfl rfl h.add (fun _ _ _ => Nat.le_refl _) hc
      (Or.inr (Or.inr (rb_handover hC hR).1))

theorem rb_select_completion {T0 : Nat} {hash : List Nat → List Nat} {s s' : State} {e : Env} {o : Out}
    {r : Nat} (h : WF T0 s r) (hs : step hash s e .select = .ok (s', o))
    (hsel : s'.flags.selected = true) :
    countTrue s'.status s'.lastTicketId = s'.nrWinning ∧
    s'.nrWinning = min T0 s'.lastTicketId ∧
    s'.claimablePayment = s'.price * s'.nrWinning ∧
    (∀ t, s'.status t = true → 1 ≤ t ∧ t ≤ s'.lastTicketId) := by
  obtain ⟨_, hC, x, hcase⟩ := rb_select_cases h hs
  rcases hcase with ⟨rfl, _⟩ | ⟨rfl, arr, hR⟩
  · exact absurd (hC.notSelected.symm.trans hsel) nofun
  · obtain ⟨_, h1, h2⟩ := rb_handover (c := s.core) hC (st' := x.status) (pi' := x.posToId) hR
    exact ⟨h1, hC.nrw, rfl, h2⟩

/-! ### a participant's settlement (`claim`) and the owner's withdrawal (`claimPayment`) -/

/-- `settledState` with the winners counted by `clearRange`, as `settle` does -/
def settled (s : State) (a : Nat) (r : Range) : State :=
  { s with status := (clearRange s.status s.posToId r.first (rangeLen r)).1,
           posToId := (clearRange s.status s.posToId r.first (rangeLen r)).2.1,
           confirmed := upd s.confirmed a 0,
           range := upd s.range a none,
           batch := upd s.batch r.first none,
           nrWinning := s.nrWinning - (clearRange s.status s.posToId r.first (rangeLen r)).2.2,
           claimed := upd s.claimed a true }

theorem settled_eq (s : State) (a : Nat) (r : Range) : settled s a r = settledState s a r := by
  unfold settled settledState
  rw [clearRange_count]

theorem rb_sub_le (b : Bal) (t : Token) (n a : Nat) (k : Token) (m : Nat) : (b.sub t n a) k m ≤ b k m := by
  unfold Bal.sub; split <;> omega

/-- `t'` differs from `t` only in balances, which did not grow and changed only at token `tok` -/
def BalOnly (tok : Token) (t t' : Tx) : Prop :=
  ∃ b : Bal, t'.s = { t.s with bal := b } ∧ (∀ k n, b k n ≤ t.s.bal k n) ∧
    (∀ k n, k ≠ tok → b k n = t.s.bal k n)

theorem BalOnly.refl (tok : Token) (t : Tx) : BalOnly tok t t :=
  ⟨t.s.bal, rfl, fun _ _ => Nat.le_refl _, fun _ _ _ => rfl⟩

theorem BalOnly.trans {tok : Token} {t t' t'' : Tx} (h1 : BalOnly tok t t') (h2 : BalOnly tok t' t'') :
    BalOnly tok t t'' := by
  obtain ⟨b1, e1, l1, o1⟩ := h1
  obtain ⟨b2, e2, l2, o2⟩ := h2
  have hb : t'.s.bal = b1 := by rw [e1]
  refine ⟨b2, by rw [e2, e1], ?_, ?_⟩
  · intro k n; have := l2 k n; rw [hb] at this; exact Nat.le_trans this (l1 k n)
  · intro k n hk; rw [o2 k n hk, hb, o1 k n hk]

theorem BalOnly.lpTok {tok : Token} {t t' : Tx} (h : BalOnly tok t t') : t'.s.lpTok = t.s.lpTok := by
  obtain ⟨b, e, _⟩ := h; rw [e]

theorem BalOnly.send {t t' : Tx} {a : Nat} {p : Pay} (h : t.send a p = .ok t') : BalOnly p.tok t t' := by
  obtain ⟨hs, _, _⟩ := Tx.send_s h
  refine ⟨_, hs, fun k n => rb_sub_le _ _ _ _ _ _, ?_⟩
  intro k n hk
  simp [Bal.sub, hk]

theorem rb_sendLocked {t t' : Tx} {e : Env} {d a : Nat} (h : t.sendLocked e d a = .ok t') :
    BalOnly (.esdt t.s.lpTok) t t' := by
  unfold Tx.sendLocked at h
  dsimp only at h
  generalize (if e.epoch < t.s.unlockEpoch then lockSplit a t.s.lockPct else 0) = la at h
  split at h
  · simp only [bind_ok_iff, pure_ok_iff] at h
    obtain ⟨t0, h0, t1, rfl, h2⟩ := h
    have e1 : BalOnly (.esdt t.s.lpTok) t t0 := BalOnly.send h0
    split at h2
    · have e2 := BalOnly.send h2
      have hl : t0.s.lpTok = t.s.lpTok := e1.lpTok
      simp only [hl] at e2
      exact e1.trans e2
    · cases h2; exact e1
  · simp only [bind_ok_iff, pure_ok_iff] at h
    obtain ⟨t1, rfl, h2⟩ := h
    split at h2
    · exact BalOnly.send h2
    · cases h2; exact BalOnly.refl _ _

theorem rb_sendLp {t t' : Tx} {e : Env} {a n : Nat} (h : t.sendLaunchpadTokens e a n = .ok t') :
    BalOnly (.esdt t.s.lpTok) t t' := by
  unfold Tx.sendLaunchpadTokens at h
  split at h
  · cases h; exact BalOnly.refl _ _
  · dsimp only at h
    split at h
    · exact rb_sendLocked h
    · exact BalOnly.send h

theorem rb_claim_state {hash : List Nat → List Nat} {s : State} {e : Env} {t : Tx}
    (hv : Plain s.variant) (hne : s.payTok ≠ .esdt s.lpTok)
    (hx : exec hash (rbTx s e) e .claim = .ok t) :
    s.stage e = .claim ∧ ∃ r B, s.range e.caller = some r ∧
      (clearRange s.status s.posToId r.first (rangeLen r)).2.2 ≤ s.confirmed e.caller ∧
      t.s = { settled s e.caller r with bal := B } ∧ (∀ k n, B k n ≤ s.bal k n) ∧
      B s.payTok 0 = s.bal s.payTok 0 -
        s.price * (s.confirmed e.caller - (clearRange s.status s.posToId r.first (rangeLen r)).2.2) := by
  obtain ⟨hv1, hv2, _⟩ := rb_plain_flags hv
  rw [exec_claim_nonvested _ _ _ hv1, claimBase_ok_iff] at hx
  obtain ⟨r, ⟨hst, _, hr, _, hle, _⟩, t2, hlp, hfin⟩ := hx
  obtain ⟨B, e2, l2, o2⟩ := rb_sendLp hlp
  rw [claimMid_state] at e2 l2 o2
  have hvar2 : t2.s.variant = s.variant := by rw [e2]; rfl
  rw [hvar2, hv2, if_neg Bool.false_ne_true, pure_ok_iff] at hfin
  subst hfin
  refine ⟨hst, r, B, hr, by rw [clearRange_count]; exact hle, ?_, ?_, ?_⟩
  · rw [e2, settled_eq]; rfl
  · exact fun k n => Nat.le_trans (l2 k n) (rb_sub_le _ _ _ _ _ _)
  · rw [o2 s.payTok 0 hne, clearRange_count]
    exact Bal.sub_at _ _ _ _

theorem rb_claim {T0 : Nat} {hash : List Nat → List Nat} {s s' : State} {e : Env} {o : Out}
    {r : Nat} (h : WF T0 s r)
    (hs : step hash s e .claim = .ok (s', o)) : WF T0 s' e.round := by
  obtain ⟨t, hx, rfl⟩ := step_np rfl hs
  obtain ⟨hst, rg, B, hrg, _, hs', hBle, hBpay⟩ := rb_claim_state h.var h.tokNe hx
  obtain ⟨⟨hsel, _⟩, hc1, hc2, _⟩ := stage_claim_iff.mp hst
  have hD : PhD s.core := rb_phase_D h.phase hsel
  have hD' := rb_claim_phase (c := s.core) hD (a := e.caller) (r := rg) hrg
    (bt := upd s.batch rg.first none) (pb := B s.payTok 0) hBpay
  rw [hs']
  exact h.late rfl rfl rfl rfl h.add (fun k _ _ => hBle k 0) ⟨hc1, hc2⟩ (Or.inr (Or.inr hD'))

/-- the owner's withdrawal on the launchpads without vesting and without NFTs (`payTok ≠ lpTok`:
    the surplus is computed on the balance the call started with) -/
theorem rb_claimPayment_state {hash : List Nat → List Nat} {s : State} {e : Env} {t : Tx}
    (hv : s.variant.vested = false) (hn : s.variant.hasNft = false)
    (hne : s.payTok ≠ .esdt s.lpTok) (hx : exec hash (rbTx s e) e .claimPayment = .ok t) :
    s.stage e = .claim ∧ s.perTicket * s.nrWinning ≤ s.bal (.esdt s.lpTok) 0 ∧
    t.s = { s with claimablePayment := 0,
                   bal := (s.bal.sub s.payTok 0 s.claimablePayment).sub (.esdt s.lpTok) 0
                     (s.bal (.esdt s.lpTok) 0 - s.perTicket * s.nrWinning) } := by
  simp only [exec, rbTx_s, hv, Bool.false_eq_true, if_false, bind_ok_iff] at hx
  obtain ⟨t1, h1, hfin⟩ := hx
  obtain ⟨hst, _, hcov, hs1, _⟩ := claimPaymentCommon_exact h1 hne
  rw [show t1.s.variant = s.variant by rw [hs1]; rfl, hn] at hfin
  simp only [Bool.false_eq_true, if_false, pure_ok_iff] at hfin
  subst hfin
  exact ⟨hst, hcov, hs1⟩

theorem rb_claimPayment {T0 : Nat} {hash : List Nat → List Nat} {s s' : State} {e : Env} {o : Out}
    {r : Nat} (h : WF T0 s r)
    (hs : step hash s e .claimPayment = .ok (s', o)) : WF T0 s' e.round := by
  obtain ⟨t, hx, rfl⟩ := step_np rfl hs
  obtain ⟨hv1, hv2, _⟩ := rb_plain_flags h.var
  obtain ⟨hst, _, hts⟩ := rb_claimPayment_state hv1 hv2 h.tokNe hx
  obtain ⟨⟨hsel, _⟩, hc1, hc2, _⟩ := stage_claim_iff.mp hst
  have hD : PhD s.core := rb_phase_D h.phase hsel
  rw [hts]
  refine h.late rfl rfl rfl rfl h.add
    (fun k _ _ => Nat.le_trans (rb_sub_le _ _ _ _ _ _) (rb_sub_le _ _ _ _ _ _)) ⟨hc1, hc2⟩
    (Or.inr (Or.inr (hD.withdraw ?_)))
  show ((s.bal.sub s.payTok 0 s.claimablePayment).sub (.esdt s.lpTok) 0 _) s.payTok 0 = _
  rw [Bal.sub_off _ _ _ _ h.tokNe, Bal.sub_at]
  rfl

/-! ### reachable states -/

/-- the two plain variants expose the same endpoints -/
theorem rb_exposed {hash : List Nat → List Nat} {s s' : State} {e : Env} {c : Call} {o : Out}
    (hv : Plain s.variant) (hs : step hash s e c = .ok (s', o)) : c.exposedIn .base = true := by
  have h := step_exposed hs
  rcases hv with hv | hv <;> rw [hv] at h
  · exact h
  · rw [← h]; cases c <;> rfl

theorem call_WF {T0 : Nat} {hash : List Nat → List Nat} {s s' : State} {e : Env} {c : Call} {o : Out}
    {r : Nat} (h : WF T0 s r) (hr : r ≤ e.round) (hok : EnvOK e) (hc : CallOK c)
    (hs : step hash s e c = .ok (s', o)) : WF T0 s' e.round := by
  have hex := rb_exposed h.var hs
  cases c with
  | addTickets l => exact rb_addTickets h hr hc hs
  | deposit => exact rb_deposit h hr hok hs
  | setTicketPrice tok a => exact rb_setTicketPrice h hr hs
  | setPerTicket a => exact rb_setPerTicket h hr hs
  | setConfStart _ | setSelStart _ | setClaimStart _ | setSupport _ | pause | unpause =>
    exact rb_admin rfl h hr hs
  | confirm n => exact rb_confirm h hr hok hs
  | filter => exact rb_filter h hs
  | select => exact rb_select h hs
  | claim => exact rb_claim h hs
  | claimPayment => exact rb_claimPayment h hs
  | blacklist l => exact rb_blacklist h hr hs
  | _ => exact (Bool.false_ne_true hex).elim

/-- states reachable from a deployment with arguments `a0`, paired with the round of the latest
    transaction (`wait` lets rounds pass without a transaction) -/
inductive ReachA (hash : List Nat → List Nat) (v : Variant) (a0 : InitArgs) : State → Nat → Prop
  | init (e : Env) (s : State) : init v a0 e = .ok s → ReachA hash v a0 s e.round
  | call (s : State) (r : Nat) (e : Env) (c : Call) (s' : State) (o : Out) :
      ReachA hash v a0 s r → r ≤ e.round → EnvOK e → CallOK c →
      step hash s e c = .ok (s', o) → ReachA hash v a0 s' e.round
  | wait (s : State) (r r' : Nat) : ReachA hash v a0 s r → r ≤ r' → ReachA hash v a0 s r'

/-- states reachable by the launchpad `v` from any deployment -/
inductive Reach (hash : List Nat → List Nat) (v : Variant) : State → Nat → Prop
  | init (a : InitArgs) (e : Env) (s : State) : init v a e = .ok s → Reach hash v s e.round
  | call (s : State) (r : Nat) (e : Env) (c : Call) (s' : State) (o : Out) :
      Reach hash v s r → r ≤ e.round → EnvOK e → CallOK c →
      step hash s e c = .ok (s', o) → Reach hash v s' e.round
  | wait (s : State) (r r' : Nat) : Reach hash v s r → r ≤ r' → Reach hash v s r'

theorem reachA_iff_later {hash : List Nat → List Nat} {v : Variant} {a0 : InitArgs} {s : State} {r : Nat} :
    ReachA hash v a0 s r ↔ be_From (be_OK CallOK) hash v a0 s r := by
  constructor <;> intro h
  · induction h with
    | init e s h => exact .init h
    | call _ _ _ _ _ _ _ h1 h2 h3 h4 ih => exact ih.call h1 ⟨h2, h3⟩ h4
    | wait _ _ _ _ h1 ih => exact ih.wait h1
  · exact h.induct .init (fun s r e c s' o ih h1 h2 h3 => .call s r e c s' o ih h1 h2.1 h2.2 h3)
      fun s r r' ih h1 => .wait s r r' ih h1

theorem reach_iff_later {hash : List Nat → List Nat} {v : Variant} {s : State} {r : Nat} :
    Reach hash v s r ↔ ∃ a0, be_From (be_OK CallOK) hash v a0 s r := by
  constructor
  · intro h
    induction h with
    | init a e s h => exact ⟨a, .init h⟩
    | call _ _ _ _ _ _ _ h1 h2 h3 h4 ih => exact ih.imp fun _ ih => ih.call h1 ⟨h2, h3⟩ h4
    | wait _ _ _ _ h1 ih => exact ih.imp fun _ ih => ih.wait h1
  · rintro ⟨a0, h⟩
    exact h.induct (.init a0) (fun s r e c s' o ih h1 h2 h3 => .call s r e c s' o ih h1 h2.1 h2.2 h3)
      fun s r r' ih h1 => .wait s r r' ih h1

theorem Reach_iff {hash : List Nat → List Nat} {v : Variant} {s : State} {r : Nat} :
    Reach hash v s r ↔ ∃ a0, ReachA hash v a0 s r :=
  reach_iff_later.trans (exists_congr fun _ => reachA_iff_later.symm)

/-- `Reach` is closed under `be_Later` (with the side conditions of `Reach.call`) -/
theorem be_Reach_later {hash : List Nat → List Nat} {v : Variant} {s s' : State} {r r' : Nat}
    (hs : Reach hash v s r) (h : be_Later (fun e c => EnvOK e ∧ CallOK c) hash s r s' r') :
    Reach hash v s' r' :=
  reach_iff_later.mpr ((reach_iff_later.mp hs).imp fun _ hf => hf.later h)

theorem reach_WF {hash : List Nat → List Nat} {v : Variant} (hv : Plain v) {a0 : InitArgs}
    {s : State} {r : Nat} (h : ReachA hash v a0 s r) : WF a0.nrWinning s r :=
  (reachA_iff_later.mp h).induct (fun _ _ => init_WF hv)
    (fun _ _ _ _ _ _ ih h1 h2 => call_WF ih h1 h2.1 h2.2) fun _ _ _ => wait_WF

end LP

#print axioms LP.init_WF
#print axioms LP.call_WF
#print axioms LP.wait_WF
#print axioms LP.reach_WF

namespace LP
open LP.FY

/-- one list `L` of participants serves both ledger equations -/
theorem rb_WF_ledger {T0 : Nat} {s : State} {r : Nat} (h : WF T0 s r) :
    ∃ L : List Nat, Covers s L ∧ (¬ AllDone s → PayEqPre s L) ∧
      (AllDone s → PayEqPost s L ∧ sumOver (winCountOf s) L = s.nrWinning ∧
        (∀ a, winCountOf s a ≤ s.confirmed a) ∧
        (∀ a rg, s.range a = some rg → a ∈ L ∧ rg.first ≤ rg.last ∧
          rg.last + 1 = rg.first + s.confirmed a)) :=
  ledger_of_phases
    (fun hd => h.phase.payList (Bool.eq_false_iff.mpr fun hsel => hd ⟨hsel, h.add⟩))
    (fun hd => rb_phase_D h.phase hd.1)

end LP
