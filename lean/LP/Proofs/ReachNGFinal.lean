import LP.Proofs.ReachNG
import LP.Proofs.Later
import LP.Proofs.LoopOutcome
import LP.Proofs.ReachBEGen
import LP.Proofs.Frame
/-
  `ng_WF` (ReachNG) holds in every reachable state of `Variant.nftGuar` (`ng_reach_WF`), and what
  is read off it.  In order: preservation by `claim` and `claimPayment`; the reachability relations
  `ng_ReachA` / `ng_Reach` and the induction; what the completing `secondary` call establishes and
  the launchpad-token consequences; `ng_call_frozen` (a call after the filter has started and before
  the additional step completes keeps the NFT participants) and the history relation `ng_Later` of
  LP/Props/C14reachG.lean.
-/

/-
  `ng_WF` is preserved by a participant's settlement (`claim` = common claim + `claimNft`) and by
  the owner's withdrawal (`claimPayment` = common withdrawal + `claimNftPayment`) of
  `Variant.nftGuar`.  The fee / ticket-payment part is that of
  `LP/Proofs/ReachNft.lean` (whose shape lemmas are stated for every variant with the NFT
  hook); added is the launchpad-token coverage (`lp`), which uses that the fee slot is not the
  launchpad-token slot (`ng_LpSep`).
-/
namespace LP
open LP.FY LP.Props.C09 LP.Props.C14

theorem ng_claim {T0 : Nat} {hash : List Nat → List Nat} {s s' : State} {e : Env} {o : Out}
    {r : Nat} (h : ng_WF T0 s r)
    (hs : step hash s e .claim = .ok (s', o)) : ng_WF T0 s' e.round := by
  obtain ⟨rg, P, W, hacc, rfl, hside, hD'⟩ :=
    nf_claim_side (ng_flags h.var).2.1 h.tokNe h.side (ng_phase_D h.phase) hs
  obtain ⟨_, _, hst, _, hrg, hnw, _, _, _⟩ := hacc
  obtain ⟨⟨_, hadd⟩, hc1, hc2, _⟩ := stage_claim_iff.mp hst
  have hD : PhD (nf_core s) := ng_phase_D h.phase hadd
  have hw : winCount s e.caller = countWinning s.status rg.first (rangeLen rg) := winCount_of_range hrg
  refine ng_WF_build _ rfl hside h.var h.pricePos h.tokNe h.static ?_ (fun _ => ⟨hc1, hc2⟩) ?_ ?_
    (Or.inl (Or.inr ⟨hadd, hD'⟩))
  · intro hlt; exfalso; have : e.round < s.cfg.conf := hlt; omega
  · -- the fee refund leaves the launchpad-token slot alone; the winners' tokens leave it
    intro hq hd
    have hnl : ¬ (nf_side s).isLp := hq.resolve_right (Nat.not_lt.mpr hc1)
    have hopn : ∀ rg, s.op ≠ .additional (.nft rg) := by
      intro rg; have : s.op = .none := hD.op; rw [this]; nofun
    have h0 := h.lp (Or.inl hnl) hd
    rw [ng_owed_of_not hopn, v1_owed_done hadd] at h0
    have hBlp : ((balAfterClaim s e.caller).sub s.nftCost.tok s.nftCost.nonce (nf_delta s e.caller))
        (.esdt s.lpTok) 0 = s.bal (.esdt s.lpTok) 0 - winCount s e.caller * s.perTicket := by
      unfold balAfterClaim
      rw [Bal.sub_apply, Bal.sub_apply, Bal.sub_apply,
        if_neg (show ¬ (Token.esdt s.lpTok = s.nftCost.tok ∧ 0 = s.nftCost.nonce) from
          fun hh => hnl ⟨hh.1.symm, hh.2.symm⟩),
        if_neg (show ¬ (Token.esdt s.lpTok = s.payTok ∧ (0 : Nat) = 0) from
          fun hh => h.tokNe hh.1.symm),
        if_pos (show Token.esdt s.lpTok = Token.esdt s.lpTok ∧ (0 : Nat) = 0 from ⟨rfl, rfl⟩)]
      rfl
    show s.perTicket * ((s.nrWinning - countWinning s.status rg.first (rangeLen rg)) +
        if s.flags.additional = true then 0 else s.totalGuaranteed) ≤
      ((balAfterClaim s e.caller).sub s.nftCost.tok s.nftCost.nonce (nf_delta s e.caller))
        (.esdt s.lpTok) 0
    rw [hadd, hBlp, ← hw]
    simp only [if_true, Nat.add_zero]
    exact (LP.Props.C02.cover_after_payout s.perTicket s.nrWinning _ _ hnw h0).2
  · intro hq
    have hq' : s.flags.additional = false := hq
    rw [hadd] at hq'; cases hq'

theorem ng_claimPayment {T0 : Nat} {hash : List Nat → List Nat} {s s' : State} {e : Env} {o : Out}
    {r : Nat} (h : ng_WF T0 s r)
    (hs : step hash s e .claimPayment = .ok (s', o)) : ng_WF T0 s' e.round := by
  obtain ⟨t, hx, rfl⟩ := step_np rfl hs
  obtain ⟨hst, b, hs', hsur, hside, hD'⟩ :=
    nf_claimPayment_side (ng_flags h.var).2.1 h.tokNe h.side (ng_phase_D h.phase) hx
  obtain ⟨⟨_, hadd⟩, hc1, hc2, _⟩ := stage_claim_iff.mp hst
  rw [hs'] at hside hD' ⊢
  refine ng_WF_build _ rfl hside h.var h.pricePos h.tokNe h.static ?_ (fun _ => ⟨hc1, hc2⟩) ?_ ?_
    (Or.inl (Or.inr ⟨hadd, hD'⟩))
  · intro hlt; exfalso; have : e.round < s.cfg.conf := hlt; omega
  · -- the NFT proceeds leave the launchpad-token slot alone: exactly the winners' tokens stay
    intro hq _
    have hnl : ¬ (nf_side s).isLp := hq.resolve_right (Nat.not_lt.mpr hc1)
    show s.perTicket * (s.nrWinning + if s.flags.additional = true then 0 else s.totalGuaranteed)
      ≤ (b.sub s.nftCost.tok s.nftCost.nonce s.claimableNft) (.esdt s.lpTok) 0
    rw [hadd, Bal.sub_apply, hsur,
      if_neg (show ¬ (Token.esdt s.lpTok = s.nftCost.tok ∧ 0 = s.nftCost.nonce) from
        fun hh => hnl ⟨hh.1.symm, hh.2.symm⟩)]
    simp
  · intro hq
    have hq' : s.flags.additional = false := hq
    rw [hadd] at hq'; cases hq'

end LP

/-
  The induction.  Restriction on histories: exactly `v1_CallOK` (ReachV1) plus `EnvOK` (a
  transaction carries EGLD or ESDT, not both).  No assumption on the tokens: `setNftCost` /
  `setTicketPrice` may change the fee token / payment token (in the AddTickets stage) in any way
  the contract accepts.  `filter`, `select` and `secondary` may be interrupted by any budget, any
  number of times, in any of their loops.
-/
namespace LP
open LP.FY

theorem ng_call_WF {T0 : Nat} {hash : List Nat → List Nat} {s s' : State} {e : Env} {c : Call} {o : Out}
    {r : Nat} (h : ng_WF T0 s r) (hr : r ≤ e.round) (hok : EnvOK e) (hc : v1_CallOK c)
    (hs : step hash s e c = .ok (s', o)) : ng_WF T0 s' e.round := by
  have hex : c.exposedIn .nftGuar = true := h.var ▸ step_exposed hs
  cases c with
  | addTicketsV1 l => exact ng_addTicketsV1 h hr hc hs
  | deposit => exact ng_deposit h hr hok hs
  | setTicketPrice tok a => exact ng_setTicketPrice h hr hs
  | setPerTicket a => exact ng_setPerTicket h hr hs
  | setConfStart _ | setSelStart _ | setClaimStart _ | setSupport _ | pause | unpause =>
    exact ng_admin rfl h hr hs
  | confirm n => exact ng_confirm h hr hok hs
  | filter => exact ng_filter h hs
  | select => exact ng_select h hs
  | claim => exact ng_claim h hs
  | claimPayment => exact ng_claimPayment h hs
  | blacklist l => exact ng_blacklist h hr hs
  | confirmNft => exact ng_confirmNft h hr hok hs
  | secondary => exact ng_secondary h hr hs
  | setNftCost c => exact ng_setNftCost h hr hs
  | sftSetup => exact ng_sftSetup h hr hs
  | issueSft | createSfts | setTransferRole _ => exact (step_sft_rejected hs).elim
  | _ => exact (Bool.false_ne_true hex).elim

/-- states of launchpad-nft-and-guaranteed-tickets reachable from a deployment with arguments
    `a0`, paired with the round of the latest transaction (`wait` lets rounds pass) -/
inductive ng_ReachA (hash : List Nat → List Nat) (a0 : InitArgs) : State → Nat → Prop
  | init (e : Env) (s : State) : init .nftGuar a0 e = .ok s → ng_ReachA hash a0 s e.round
  | call (s : State) (r : Nat) (e : Env) (c : Call) (s' : State) (o : Out) :
      ng_ReachA hash a0 s r → r ≤ e.round → EnvOK e → v1_CallOK c →
      step hash s e c = .ok (s', o) → ng_ReachA hash a0 s' e.round
  | wait (s : State) (r r' : Nat) : ng_ReachA hash a0 s r → r ≤ r' → ng_ReachA hash a0 s r'

/-- states reachable from any deployment -/
inductive ng_Reach (hash : List Nat → List Nat) : State → Nat → Prop
  | init (a : InitArgs) (e : Env) (s : State) : init .nftGuar a e = .ok s → ng_Reach hash s e.round
  | call (s : State) (r : Nat) (e : Env) (c : Call) (s' : State) (o : Out) :
      ng_Reach hash s r → r ≤ e.round → EnvOK e → v1_CallOK c →
      step hash s e c = .ok (s', o) → ng_Reach hash s' e.round
  | wait (s : State) (r r' : Nat) : ng_Reach hash s r → r ≤ r' → ng_Reach hash s r'

theorem ng_reachA_iff_later {hash : List Nat → List Nat} {a0 : InitArgs} {s : State} {r : Nat} :
    ng_ReachA hash a0 s r ↔ be_From (be_OK v1_CallOK) hash .nftGuar a0 s r := by
  constructor <;> intro h
  · induction h with
    | init e s h => exact .init h
    | call _ _ _ _ _ _ _ h1 h2 h3 h4 ih => exact ih.call h1 ⟨h2, h3⟩ h4
    | wait _ _ _ _ h1 ih => exact ih.wait h1
  · exact h.induct .init (fun s r e c s' o ih h1 h2 h3 => .call s r e c s' o ih h1 h2.1 h2.2 h3)
      fun s r r' ih h1 => .wait s r r' ih h1

theorem ng_reach_iff_later {hash : List Nat → List Nat} {s : State} {r : Nat} :
    ng_Reach hash s r ↔ ∃ a0, be_From (be_OK v1_CallOK) hash .nftGuar a0 s r := by
  constructor
  · intro h
    induction h with
    | init a e s h => exact ⟨a, .init h⟩
    | call _ _ _ _ _ _ _ h1 h2 h3 h4 ih => exact ih.imp fun _ ih => ih.call h1 ⟨h2, h3⟩ h4
    | wait _ _ _ _ h1 ih => exact ih.imp fun _ ih => ih.wait h1
  · rintro ⟨a0, h⟩
    exact h.induct (.init a0) (fun s r e c s' o ih h1 h2 h3 => .call s r e c s' o ih h1 h2.1 h2.2 h3)
      fun s r r' ih h1 => .wait s r r' ih h1

theorem ng_Reach_iff {hash : List Nat → List Nat} {s : State} {r : Nat} :
    ng_Reach hash s r ↔ ∃ a0, ng_ReachA hash a0 s r :=
  ng_reach_iff_later.trans (exists_congr fun _ => ng_reachA_iff_later.symm)

theorem ng_reach_WF {hash : List Nat → List Nat} {a0 : InitArgs} {s : State} {r : Nat}
    (h : ng_ReachA hash a0 s r) : ng_WF a0.nrWinning s r :=
  (ng_reachA_iff_later.mp h).induct (fun _ _ => ng_init_WF)
    (fun _ _ _ _ _ _ ih h1 h2 => ng_call_WF ih h1 h2.1 h2.2) fun _ _ _ => ng_wait_WF

theorem ng_WF.facts {T0 : Nat} {s : State} {r : Nat} (h : ng_WF T0 s r) : NftFacts s := by
  refine ⟨(ng_flags h.var).2.1, h.side, fun hna => ?_, ng_phase_D h.phase⟩
  rcases h.phase with (⟨_, _, ⟨L0, hp, _⟩ | ⟨hC, _⟩ | hE⟩ | ⟨hadd, _⟩) | ⟨hF, _⟩
  · exact payList_of_out hp.ok.nodup hp.outC hp.pay
  · obtain ⟨Ls, hnd, _, _, _, hout, hpay⟩ := hC.alloc
    exact payList_of_out hnd (fun a ha => (hout a ha).2) hpay
  · obtain ⟨Ls, hnd, _, _, _, hout, hpay⟩ := hE.alloc
    exact payList_of_out hnd (fun a ha => (hout a ha).2) hpay
  · have hadd' : s.flags.additional = true := hadd
    rw [hna] at hadd'; cases hadd'
  · exact hF.pre

theorem ng_reach_facts {hash : List Nat → List Nat} {s : State} {r : Nat}
    (h : ng_Reach hash s r) : NftFacts s := by
  obtain ⟨a0, h⟩ := ng_Reach_iff.mp h
  exact (ng_reach_WF h).facts

end LP

#print axioms LP.ng_init_WF
#print axioms LP.ng_call_WF
#print axioms LP.ng_wait_WF
#print axioms LP.ng_reach_WF

/-
  What the completing `secondary` call establishes (final ticket winners, honoured guarantees, the
  NFT draw), and the launchpad-token consequences of `ng_WF` (counterparts of ReachV1Final).
-/
namespace LP
open LP.FY LP.Props.C14

theorem ng_secondary_exec {hash : List Nat → List Nat} {s s' : State} {e : Env} {o : Out}
    (hs : step hash s e .secondary = .ok (s', o)) :
    ∃ t, secondary hash (rbTx s e) e = .ok t ∧ s' = t.s ∧ o = t.o := by
  obtain ⟨t, hx, h1, h2⟩ := step_np_out rfl hs
  have hx' : exec hash (rbTx s e) e .secondary = .ok t := hx
  exact ⟨t, by simpa only [exec] using hx', h1, h2⟩

/-- the `secondary` call that completes the additional step (`ret = [0]`) from a well-formed state
    (whatever interruptions happened before, in whichever of the three loops) -/
theorem ng_secondary_completion {T0 : Nat} {hash : List Nat → List Nat} {s s' : State} {e : Env}
    {o : Out} {r : Nat} (h : ng_WF T0 s r) (hr : r ≤ e.round)
    (hs : step hash s e .secondary = .ok (s', o)) (hret : o.ret = [0]) :
    s'.flags.selected = true ∧ s'.flags.additional = true ∧
    s'.lastTicketId = s.lastTicketId ∧ s'.price = s.price ∧
    countTrue s'.status s'.lastTicketId = s'.nrWinning ∧
    s'.nrWinning = min T0 s'.lastTicketId ∧
    s'.claimablePayment = s'.price * s'.nrWinning ∧
    (∀ t, s'.status t = true → 1 ≤ t ∧ t ≤ s'.lastTicketId) ∧
    (∀ t, s.status t = true → s'.status t = true) ∧
    (∀ u st, s'.uts u = some st →
      min (calcV1 st (s'.confirmed u) s'.minConfirmed).1 (s'.confirmed u) ≤ winCountOf s' u) ∧
    s'.nftWinners.length = min s.availNfts (s.payers.length + s.nftWinners.length) ∧
    s'.claimableNft = s.nftCost.amount * s'.nftWinners.length ∧
    NftOk s' ∧ (∀ a, (a ∈ s'.payers ∨ a ∈ s'.nftWinners) ↔ (a ∈ s.payers ∨ a ∈ s.nftWinners)) ∧
    s.nftWinners <+: s'.nftWinners := by
  obtain ⟨t, hx, rfl, rfl⟩ := ng_secondary_exec hs
  obtain ⟨hsel, _, hcase⟩ := ng_secondary_split h hr hx
  rcases hcase with ⟨_, h1, _⟩ | ⟨m, t2, rng, hmid, ht2, htail, hrel⟩
  · rw [hret] at h1; cases h1
  have hs0 := hmid.side
  obtain ⟨P, W, hokPW, _, hlen, hun, hpre, hcase⟩ :=
    ng_tail_shape ⟨hs0.nodupP, hs0.nodupW, hs0.disj⟩ hs0.winLe ht2 htail
  rcases hcase with ⟨hs', _, hWlen⟩ | ⟨_, _, h1⟩
  rotate_left
  · rw [hret] at h1; cases h1
  have hF := hmid.phF
  rw [hs']
  have hselm : m.flags.selected = true := hF.post.selected
  refine ⟨hselm, rfl, hrel.last, hrel.price, hF.count, hF.nrw, hF.claimable, hF.inside, hrel.mono,
    ?_, ?_, ?_, ⟨hokPW.nodupP, hokPW.nodupW, hokPW.disj⟩, ?_, ?_⟩
  · intro u st hu
    exact hF.hon u st hu
  · show W.length = _
    rw [hWlen, hrel.avail, hrel.payers, hrel.winners]
  · show m.nftCost.amount * W.length = s.nftCost.amount * W.length
    rw [hrel.cost]
  · intro a
    have := hun a
    rw [hrel.payers, hrel.winners] at this
    exact this
  · have := hpre
    rw [hrel.winners] at this
    exact this

/-- as long as the additional step is incomplete and no draw cursor is saved (the guaranteed-ticket
    sub-step has not completed), nobody has been drawn: the state the NFT draw starts from -/
theorem ng_no_winner_before_draw {T0 : Nat} {s : State} {r : Nat} (h : ng_WF T0 s r)
    (hna : s.flags.additional = false) (hop : ∀ rg, s.op ≠ .additional (.nft rg)) :
    s.nftWinners = [] := h.noWinE hna hop

/-- before the filter has completed the reserve is intact: `nrWinning + totalGuaranteed = T0` -/
theorem ng_reserve_before_filter {T0 : Nat} {s : State} {r : Nat} (h : ng_WF T0 s r)
    (hf : s.flags.filtered = false) : s.nrWinning + s.totalGuaranteed = T0 := by
  obtain ⟨_, htg, L0, hp, _⟩ := ng_phase_notFiltered h.phase hf
  exact v1_reserve_of_pre htg hp

/-- as long as the guaranteed-ticket sub-step is not complete, outstanding winners plus reserve
    never exceed `T0`; afterwards the winners alone do not -/
theorem ng_owed_le_T0 {T0 : Nat} {s : State} {r : Nat} (h : ng_WF T0 s r)
    (hna : s.flags.additional = false) : ng_owed s ≤ T0 := by
  rcases h.phase with h1 | ⟨hF, rg, hop⟩
  · rw [ng_owed_of_not (fun rg => ng_op_not_nft h1 rg), v1_owed_open hna]
    exact h1.owed_le hna
  · have hop' : s.op = .additional (.nft rg) := hop
    rw [ng_owed_nft hop']
    have : s.nrWinning = min T0 s.lastTicketId := hF.nrw
    omega

/-- until the first `secondary` call is accepted, the whitelist is exactly the set of holders of
    a positive guarantee -/
theorem ng_whitelist_intact {T0 : Nat} {s : State} {r : Nat} (h : ng_WF T0 s r)
    (hna : s.flags.additional = false) (hop : s.flags.selected = true → s.op = .none) (u : Nat) :
    u ∈ s.whitelist ↔ ∃ st, s.uts u = some st ∧ st.c + st.d > 0 := by
  rcases h.phase with h1 | ⟨hF, rg, hopF⟩
  · exact (h1.gw hna hop).mem_iff u
  · have h1 : s.op = .none := hop hF.post.selected
    have h2 : s.op = .additional (.nft rg) := hopF
    rw [h1] at h2; cases h2

/-- during the additional step (lottery complete, step not): the winning flags never exceed
    `min T0 lastTicketId`, are at least the stored winners, and lie in `1..lastTicketId` -/
theorem ng_winners_bound {T0 : Nat} {s : State} {r : Nat} (h : ng_WF T0 s r)
    (hsel : s.flags.selected = true) (hna : s.flags.additional = false) :
    s.nrWinning ≤ countTrue s.status s.lastTicketId ∧
    countTrue s.status s.lastTicketId ≤ min T0 s.lastTicketId ∧
    (∀ t, s.status t = true → 1 ≤ t ∧ t ≤ s.lastTicketId) := by
  rcases ng_phase_sel h.phase hsel hna with ⟨htg, hE⟩ | ⟨hF, _⟩
  · exact hE.winners_bound htg
  · have h1 : countTrue s.status s.lastTicketId = s.nrWinning := hF.count
    have h2 : s.nrWinning = min T0 s.lastTicketId := hF.nrw
    exact ⟨by omega, by omega, hF.inside⟩

theorem ng_all_settled_nrWinning {T0 : Nat} {s : State} {r : Nat} (h : ng_WF T0 s r)
    (hd : AllDone s) (hall : ∀ a, s.range a = none) : s.nrWinning = 0 :=
  (ng_phase_D h.phase hd.2).nrWinning_zero fun a => by
    unfold winOf; rw [show (nf_core s).range a = none from hall a]

/-- the owner's withdrawal, when the fee slot is not the launchpad-token slot: exactly the
    outstanding winners' launchpad tokens stay -/
theorem ng_owner_surplus {T0 : Nat} {hash : List Nat → List Nat} {s s' : State} {e : Env} {o : Out}
    {r : Nat} (h : ng_WF T0 s r) (hnl : ¬ (nf_side s).isLp)
    (hs : step hash s e .claimPayment = .ok (s', o)) :
    s'.bal (.esdt s'.lpTok) 0 = s'.perTicket * s'.nrWinning ∧ s'.nrWinning = s.nrWinning ∧
    s'.claimablePayment = 0 ∧ s'.claimableNft = 0 := by
  obtain ⟨t, hx, rfl⟩ := step_np rfl hs
  obtain ⟨_, _, _, b, hs', _, hsur, _, _⟩ := nf_claimPayment_exact (ng_flags h.var).2.1 h.tokNe hx
  have hnl' : ¬ (Token.esdt s.lpTok = s.nftCost.tok ∧ 0 = s.nftCost.nonce) := by
    intro hh; exact hnl ⟨hh.1.symm, hh.2.symm⟩
  rw [hs']
  refine ⟨?_, rfl, rfl, rfl⟩
  show (b.sub s.nftCost.tok s.nftCost.nonce s.claimableNft) (.esdt s.lpTok) 0 = s.perTicket * s.nrWinning
  simp only [Bal.sub, hnl', if_false]
  exact hsur

end LP

/-
  Frames read off `ng_WF`, used by LP/Props/C14reachG.lean: once the filter has started and until
  the additional step completes, an accepted call keeps the set of NFT participants
  (`payers ∪ nftWinners`), their number, the fee and the number of NFTs; only `secondary` moves
  participants from `payers` to `nftWinners` (`nf_Frozen` and the stage argument `nf_frozen_call`
  of ReachNft are reused).
-/
namespace LP
open LP.FY LP.Props.C09 LP.Props.C14

theorem ng_started_of_selected {T0 : Nat} {c : Core} {g : v1_G} (h : ng_Phase T0 c g)
    (hsel : c.flags.selected = true) : c.flags.started = true := by
  rcases h with (⟨_, _, ⟨L0, hp, _⟩ | ⟨hC, _⟩ | hE⟩ | ⟨_, hD⟩) | ⟨hF, _⟩
  · rw [hp.notSelected] at hsel; cases hsel
  · rw [hC.notSelected] at hsel; cases hsel
  · exact hE.started
  · exact hD.started
  · exact hF.post.started

theorem ng_call_frozen {T0 : Nat} {hash : List Nat → List Nat} {s s' : State} {e : Env} {c : Call}
    {o : Out} {r : Nat} (h : ng_WF T0 s r) (hr : r ≤ e.round) (hstd : s.flags.started = true)
    (hadd : s.flags.additional = false) (hs : step hash s e c = .ok (s', o)) :
    nf_Frozen s s' ∧ s'.flags.started = true := by
  obtain ⟨hc1, hc2⟩ := h.tlStarted hstd
  have hex : c.exposedIn .nftGuar = true := h.var ▸ step_exposed hs
  have hcall := nf_frozen_call (c := c) (ng_flags h.var).2.1 (by omega) (by omega) hstd hadd hs
  cases c with
  | secondary =>
    have hwf' := ng_secondary h hr hs
    obtain ⟨t, hx, rfl, rfl⟩ := ng_secondary_exec hs
    obtain ⟨hsel, _, hcase⟩ := ng_secondary_split h hr hx
    have hterms := secondary_terms hx
    have hav : t.s.availNfts = s.availNfts := congrArg Terms.availNfts hterms
    have hco : t.s.nftCost = s.nftCost := congrArg Terms.nftCost hterms
    have hsel' : t.s.flags.selected = true := (step_flags_gain hs).1 hsel
    refine ⟨?_, ng_started_of_selected hwf'.phase hsel'⟩
    rcases hcase with ⟨_, _, _, _, _, hp, hw⟩ | ⟨m, t2, rng, hmid, ht2, htail, hrel⟩
    · exact nf_Frozen.of_eq hp hw hav hco
    · have hs0 := hmid.side
      obtain ⟨P, W, _, _, hlen, hun, hpre, hcase2⟩ :=
        ng_tail_shape ⟨hs0.nodupP, hs0.nodupW, hs0.disj⟩ hs0.winLe ht2 htail
      rw [hrel.payers, hrel.winners] at hlen hun
      rw [hrel.winners] at hpre
      have e12 : t.s.payers = P ∧ t.s.nftWinners = W := by
        rcases hcase2 with ⟨hs', _, _⟩ | ⟨rng', hs', _⟩ <;> (rw [hs']; exact ⟨rfl, rfl⟩)
      exact ⟨by rw [e12.1, e12.2]; exact hun, by rw [e12.1, e12.2]; exact hlen,
        by rw [e12.2]; exact hpre, hav, hco⟩
  | addTicketsV2 _ | refundUsers _ | unblacklist _ | distribute | setSchedule1 _ _ _ _ _ | setSchedule2 _
  | selectNft => exact (Bool.false_ne_true hex).elim
  | issueSft | createSfts | setTransferRole _ => exact (step_sft_rejected hs).elim
  | _ => exact hcall trivial

/-- `ng_Later hash s r s2 r2`: `s2` (at round `r2`) is reached from `s` (at round `r`) by accepted
    calls (under `EnvOK` and `v1_CallOK`; any budgets) and by the passing of time -/
inductive ng_Later (hash : List Nat → List Nat) (s : State) (r : Nat) : State → Nat → Prop
  | refl : ng_Later hash s r s r
  | call (s1 : State) (r1 : Nat) (e : Env) (c : Call) (s2 : State) (o : Out) :
      ng_Later hash s r s1 r1 → r1 ≤ e.round → EnvOK e → v1_CallOK c →
      step hash s1 e c = .ok (s2, o) → ng_Later hash s r s2 e.round
  | wait (s1 : State) (r1 r2 : Nat) : ng_Later hash s r s1 r1 → r1 ≤ r2 → ng_Later hash s r s1 r2

theorem ng_later_iff {hash : List Nat → List Nat} {s s2 : State} {r r2 : Nat} :
    ng_Later hash s r s2 r2 ↔ be_Later (fun e c => EnvOK e ∧ v1_CallOK c) hash s r s2 r2 := by
  constructor <;> intro h
  · induction h with
    | refl => exact .refl
    | call s1 r1 e c s2 o _ h1 h2 h3 h4 ih => exact .call s1 r1 e c s2 o ih h1 ⟨h2, h3⟩ h4
    | wait s1 r1 r2 _ h1 ih => exact .wait s1 r1 r2 ih h1
  · induction h with
    | refl => exact .refl
    | call s1 r1 e c s2 o _ h1 h2 h3 ih => exact .call s1 r1 e c s2 o ih h1 h2.1 h2.2 h3
    | wait s1 r1 r2 _ h1 ih => exact .wait s1 r1 r2 ih h1

end LP
