import LP.Proofs.Receipts
import LP.Proofs.Gaps
import LP.Proofs.ReachV2Claim
import LP.Proofs.ReachPL
import LP.Proofs.OwnerStep
/-
  What the owner (prefix `ow_`) receives from `claimPayment` over whole histories, all eight
  contracts; for `LP/Props/C01owner.lean`.  After the selection steps nothing but `claimPayment`
  changes his entitlement `ow_due`, and the first accepted one pays all of it
  (`ow_first_withdrawal`).
-/
namespace LP
open LP.FY LP.Props.C09 LP.Props.C14

/-! ## what the other calls do to the owner's records -/

/-- the owner-side records: recorded proceeds, recorded NFT proceeds, recorded deposit -/
structure ow_V where
  cp : Nat
  cn : Nat
  td : Nat

def State.ow_v (s : State) : ow_V := ⟨s.claimablePayment, s.claimableNft, s.totalDeposited⟩

theorem ow_send_v {t t' : Tx} {to : Nat} {p : Pay} (h : t.send to p = .ok t') : t'.s.ow_v = t.s.ow_v := by
  obtain ⟨_, _, rfl⟩ := Tx.send_fp h; rfl

theorem ow_exec_claim_v {hash : List Nat → List Nat} {t t' : Tx} {e : Env}
    (h : exec hash t e .claim = .ok t') : t'.s.ow_v = t.s.ow_v := by
  rcases (exec_fp h).1 with ⟨_, _, _, _, hs⟩ | ⟨_, _, _, _, _, _, _, _, _, hs⟩ <;> rw [hs] <;> rfl

/-- the same `k` in both: this is what keeps `ow_surplus` of the non-vested variants under `claim` -/
theorem ow_claimBase_lp {t t' : Tx} {e : Env} (h : claimBase t e = .ok t')
    (hne : t.s.payTok ≠ .esdt t.s.lpTok) (hfee : t.s.nftCost.tok ≠ .esdt t.s.lpTok)
    (hpct : t.s.lockPct ≤ 10000) :
    ∃ k, k ≤ t.s.nrWinning ∧ k * t.s.perTicket ≤ t.s.bal (.esdt t.s.lpTok) 0 ∧
      t'.s.nrWinning = t.s.nrWinning - k ∧
      t'.s.bal (.esdt t.s.lpTok) 0 = t.s.bal (.esdt t.s.lpTok) 0 - k * t.s.perTicket := by
  have hpay : ∀ (b : Bal) (x : Nat), (b.sub t.s.payTok 0 x) (.esdt t.s.lpTok) 0 = b (.esdt t.s.lpTok) 0 :=
    fun b x => Bal.sub_off b 0 x 0 hne.symm
  cases hn : t.s.variant.hasNft
  · obtain ⟨r, ⟨_, _, _, hnw, _, _⟩, hle, hs⟩ := claimBase_state hn (fun _ => hpct) h
    rw [hpay] at hle
    refine ⟨_, hnw, hle, by rw [hs]; rfl, ?_⟩
    rw [hs]
    show ((t.s.bal.sub _ _ _).sub _ _ _) _ _ = _
    rw [Bal.sub_at, hpay]
  · obtain ⟨r, ⟨_, _, _, hnw, _, _⟩, hle, _, _, hs⟩ := claimBase_nft_state hn h
    rw [hpay] at hle
    refine ⟨_, hnw, hle, by rw [hs]; rfl, ?_⟩
    rw [hs]
    show (((t.s.bal.sub _ _ _).sub _ _ _).sub _ _ _) _ _ = _
    rw [Bal.sub_off _ _ _ _ hfee.symm, Bal.sub_at, hpay]

/-! ## after all selection steps -/

/-- what an accepted call other than `claimPayment` keeps once all selection steps are complete -/
structure ow_Kept (s s' : State) : Prop where
  v : s'.ow_v = s.ow_v
  sur : ow_surplus s' = ow_surplus s
  price : s'.price = s.price
  payTok : s'.payTok = s.payTok
  perTicket : s'.perTicket = s.perTicket
  nftCost : s'.nftCost = s.nftCost

/-- claims of participants included; `hdep` because a late `deposit` would raise the surplus -/
theorem ow_post_frame {hash : List Nat → List Nat} {s s' : State} {e : Env} {c : Call} {o : Out}
    (hd : AllDone s) (hf : s.flags.filtered = true) (hv : validPeriods s.cfg = true)
    (hsel : s.cfg.sel ≤ e.round) (hS : cr_Static s) (hdep : s.deposited = true)
    (hs : step hash s e c = .ok (s', o)) (hc : c ≠ .claimPayment) : ow_Kept s s' := by
  have hvar := step_variant hs
  have hlp := step_lpTok hs
  by_cases hcl : c = .claim
  · subst hcl
    have hp := price_frame hs nofun
    have hpt := perTicket_frame hs nofun
    obtain ⟨t, hx, rfl, _⟩ := step_np_out rfl hs
    have hvv : t.s.ow_v = s.ow_v := ow_exec_claim_v hx
    refine ⟨hvv, ?_, hp.1, hp.2, hpt, nftCost_frame hs nofun⟩
    cases hvs : s.variant.vested
    · rw [exec_claim_nonvested hash _ e hvs] at hx
      obtain ⟨k, k1, k2, k3, k4⟩ := ow_claimBase_lp hx hS.tokNe hS.feeNe hS.pct
      have k1' : k ≤ s.nrWinning := k1
      have k2' : k * s.perTicket ≤ s.bal (.esdt s.lpTok) 0 := k2
      have k3' : t.s.nrWinning = s.nrWinning - k := k3
      have k4' : t.s.bal (.esdt s.lpTok) 0 = s.bal (.esdt s.lpTok) 0 - k * s.perTicket := k4
      rw [ow_surplus_plain (hvar ▸ hvs), ow_surplus_plain hvs, hlp, hpt, k3', k4']
      have e1 : s.perTicket * (s.nrWinning - k) = s.perTicket * s.nrWinning - s.perTicket * k :=
        Nat.mul_sub ..
      have e2 : k * s.perTicket = s.perTicket * k := Nat.mul_comm ..
      have e3 : s.perTicket * k ≤ s.perTicket * s.nrWinning := Nat.mul_le_mul_left _ k1'
      rw [e1, e2]
      rw [e2] at k2'
      omega
    · have htd : t.s.totalDeposited = s.totalDeposited := congrArg ow_V.td hvv
      have hcp : t.s.claimablePayment = s.claimablePayment := congrArg ow_V.cp hvv
      rw [ow_surplus_vested (hvar ▸ hvs), ow_surplus_vested hvs, htd, hcp, hp.1, hpt]
  · rcases late_step hd hf (be_stage_late hv hsel) hs with ⟨rfl, _⟩ | ⟨rfl, _⟩ | ⟨_, h0, _⟩ |
      ⟨_, _, _, _, _, _, _, _, _, _, _, rfl⟩
    · exact absurd rfl hcl
    · exact absurd rfl hc
    · rw [hdep] at h0; cases h0
    · exact ⟨rfl, rfl, rfl, rfl, rfl, rfl⟩

theorem ow_nftPart_kept {s s' : State} (h : ow_Kept s s') (hvar : s'.variant = s.variant) (tok : Token) :
    ow_nftPart s' tok = ow_nftPart s tok :=
  ow_nftPart_congr hvar h.nftCost (congrArg ow_V.cn h.v) tok

/-- the payment-side records kept by an accepted call other than `claimPayment` (no deposit
    condition) -/
structure ow_KeptPay (s s' : State) : Prop where
  cp : s'.claimablePayment = s.claimablePayment
  cn : s'.claimableNft = s.claimableNft
  price : s'.price = s.price
  payTok : s'.payTok = s.payTok
  nftCost : s'.nftCost = s.nftCost

theorem ow_post_pay {hash : List Nat → List Nat} {s s' : State} {e : Env} {c : Call} {o : Out}
    (hd : AllDone s) (hf : s.flags.filtered = true) (hv : validPeriods s.cfg = true)
    (hsel : s.cfg.sel ≤ e.round) (hs : step hash s e c = .ok (s', o)) (hc : c ≠ .claimPayment) :
    ow_KeptPay s s' := by
  rcases late_step hd hf (be_stage_late hv hsel) hs with ⟨_, h⟩ | ⟨rfl, _⟩ | ⟨_, _, _, _, rfl⟩ |
    ⟨_, _, _, _, _, _, _, _, _, _, _, rfl⟩
  · rcases h with ⟨_, _, _, _, h⟩ | ⟨_, _, _, _, _, _, _, _, _, h⟩ <;> rw [h] <;>
      exact ⟨rfl, rfl, rfl, rfl, rfl⟩
  · exact absurd rfl hc
  all_goals exact ⟨rfl, rfl, rfl, rfl, rfl⟩

theorem ow_due_kept {hash : List Nat → List Nat} {s s' : State} {e : Env} {c : Call} {o : Out}
    (hd : AllDone s) (hf : s.flags.filtered = true) (hv : validPeriods s.cfg = true)
    (hsel : s.cfg.sel ≤ e.round) (hS : cr_Static s) (tok : Token)
    (hdep : tok = .esdt s.lpTok → s.deposited = true)
    (hs : step hash s e c = .ok (s', o)) (hc : c ≠ .claimPayment) :
    ow_due s' tok = ow_due s tok := by
  have hvar := step_variant hs
  have hlp := step_lpTok hs
  by_cases htk : tok = .esdt s.lpTok
  · subst htk
    have hk := ow_post_frame hd hf hv hsel hS (hdep rfl) hs hc
    have e1 : ow_due s' (.esdt s.lpTok) = ow_due s' (.esdt s'.lpTok) := by rw [hlp]
    rw [e1, ow_due_lp (cr_step_static hS hs), ow_due_lp hS, hk.sur]
  · have hk := ow_post_pay hd hf hv hsel hs hc
    have htk' : tok ≠ .esdt s'.lpTok := by rw [hlp]; exact htk
    rw [ow_due_other htk, ow_due_other htk', hk.cp, hk.payTok, ow_nftPart_congr hvar hk.nftCost hk.cn]

theorem ow_due_zero_after {hash : List Nat → List Nat} {s s' : State} {e : Env} {o : Out}
    (hS : cr_Static s) (hs : step hash s e .claimPayment = .ok (s', o)) (tok : Token) :
    ow_due s' tok = 0 := by
  obtain ⟨_, _, _, k4, k5, k6, k7, _⟩ := ow_claimPayment_exact hS.tokNe hS.feeNe hs
  have hvar := step_variant hs
  unfold ow_due ow_nftPart
  rw [k4, k7, hvar]
  cases hn : s.variant.hasNft
  · simp
  · rw [k5 hn]; simp

/-! ## sums over the log of accepted transactions -/

def ow_isWithdrawal (x : State × Env × Call × Out) : Bool :=
  match x.2.2.1 with
  | .claimPayment => true
  | _ => false

/-- what the `claimPayment` calls of a log send to `a` in the fungible token `tok` -/
def ow_withdrawn (tok : Token) (a : Nat) : List (State × Env × Call × Out) → Nat
  | [] => 0
  | x :: rest =>
    (if ow_isWithdrawal x = true then cr_paid tok a x.2.2.2.xfers else 0) + ow_withdrawn tok a rest

theorem ow_isWithdrawal_iff (s : State) (e : Env) (c : Call) (o : Out) :
    ow_isWithdrawal (s, e, c, o) = true ↔ c = .claimPayment := by
  cases c <;> simp [ow_isWithdrawal]

theorem ow_withdrawn_zero (tok : Token) (a : Nat) (l : List (State × Env × Call × Out))
    (h : ∀ x ∈ l, ow_isWithdrawal x = true → cr_paid tok a x.2.2.2.xfers = 0) :
    ow_withdrawn tok a l = 0 := by
  induction l with
  | nil => rfl
  | cons x rest ih =>
    simp only [ow_withdrawn]
    rw [ih (fun y hy => h y (List.mem_cons_of_mem _ hy))]
    by_cases hw : ow_isWithdrawal x = true
    · rw [if_pos hw, h x (List.mem_cons_self ..) hw]
    · rw [if_neg hw]

theorem ow_after_empty (hash : List Nat → List Nat) (tok : Token) (hist : LP.Props.C17.Hist)
    (s : State) (r : Nat) (hcov : be_Covered hash s r) (hd : AllDone s) (hz : ow_due s tok = 0)
    (hdep : tok = .esdt s.lpTok → s.deposited = true) (hr : LP.Props.C17.RoundsFrom r hist)
    (hok : ∀ x ∈ hist, be_HistOK x.1 x.2) :
    ∀ x ∈ lk_runLog hash s hist, ow_isWithdrawal x = true → cr_paid tok s.owner x.2.2.2.xfers = 0 :=
  lk_log_rec_rounds hash
    (I := fun s r => be_Covered hash s r ∧ AllDone s ∧ ow_due s tok = 0 ∧
      (tok = .esdt s.lpTok → s.deposited = true))
    (M := fun s l _ => ∀ x ∈ l, ow_isWithdrawal x = true → cr_paid tok s.owner x.2.2.2.xfers = 0)
    (fun _ _ _ h hr => ⟨(be_family_all hash).wait h.1 hr, h.2⟩)
    (fun _ _ hx => nomatch hx)
    (fun s r e c s' o ⟨hcov, hd, hz, hdep⟩ hr hok hs => by
      obtain ⟨hf, hv, hsel⟩ := ow_covered_sel hcov hd.1
      have hS := cr_static_covered hcov
      have hz' : ow_due s' tok = 0 := by
        by_cases hc : c = .claimPayment
        · subst hc; exact ow_due_zero_after hS hs tok
        · rw [ow_due_kept hd hf hv (Nat.le_trans hsel hr) hS tok hdep hs hc]; exact hz
      refine ⟨⟨(be_family_all hash).call hcov hr hok hs, hd.step hs, hz',
        by rw [step_lpTok hs]; exact fun h => deposited_mono hs (hdep h)⟩, fun l _ ih x hx hw => ?_⟩
      rw [step_owner hs] at ih
      rcases List.mem_cons.mp hx with rfl | hx
      · obtain rfl := (ow_isWithdrawal_iff s e c o).mp hw
        exact ((ow_claimPayment_exact hS.tokNe hS.feeNe hs).2.2.1 tok).trans hz
      · exact ih x hx hw)
    hist s r hr ⟨hcov, hd, hz, hdep⟩ hok

/-- the first accepted `claimPayment` pays everything, the later ones nothing.  `I` is any invariant
    of covered states kept by waiting and by every accepted call other than `claimPayment`; for the
    launchpad token it must include "deposit made". -/
theorem ow_first_withdrawal (hash : List Nat → List Nat) (tok : Token) (I : State → Nat → Prop)
    (hIwait : ∀ s r r', I s r → r ≤ r' → I s r')
    (hIstep : ∀ s r e c s' o, I s r → r ≤ e.round → be_HistOK e c → c ≠ .claimPayment →
      step hash s e c = .ok (s', o) → I s' e.round)
    (hIcov : ∀ s r, I s r → be_Covered hash s r ∧ (tok = .esdt s.lpTok → s.deposited = true)) :
    ∀ (hist : List (Env × Call)) (s : State) (r : Nat), LP.Props.C17.RoundsFrom r hist → I s r →
      (∀ x ∈ hist, be_HistOK x.1 x.2) →
      ow_withdrawn tok s.owner (lk_runLog hash s hist) =
        (match (lk_runLog hash s hist).find? ow_isWithdrawal with
         | some x => ow_due x.1 tok
         | none => 0) ∧
      (∀ x, (lk_runLog hash s hist).find? ow_isWithdrawal = some x →
        (∃ r', I x.1 r') ∧ AllDone x.1) ∧
      (∀ x ∈ ((lk_runLog hash s hist).filter ow_isWithdrawal).tail,
        cr_paid tok s.owner x.2.2.2.xfers = 0) := by
  refine run_rec_rounds hash ?_ ?_ ?_
  · exact fun _ _ _ _ => ⟨rfl, (fun _ h => by cases h), (fun _ h => by cases h)⟩
  · intro s r e c rest er hr1 _ hs ih hI hok
    rw [lk_runLog_cons_err hs]
    exact ih (hIwait s r _ hI hr1) (fun x hx => hok x (List.mem_cons_of_mem _ hx))
  · intro s r e c rest s' o hr1 hr2 hs ih hI hok
    have hok' : ∀ x ∈ rest, be_HistOK x.1 x.2 := fun x hx => hok x (List.mem_cons_of_mem _ hx)
    rw [lk_runLog_cons_ok hs]
    obtain ⟨hcov, hdep⟩ := hIcov s r hI
    by_cases hc : c = .claimPayment
    · -- the first withdrawal pays `ow_due s tok` and leaves nothing
      subst hc
      have hw : ow_isWithdrawal (s, e, Call.claimPayment, o) = true := rfl
      have hS := cr_static_covered hcov
      have hst := LP.Props.C06.claimPayment_gate hash s e _ hs
      have hafter := ow_after_empty hash tok rest s' e.round
        ((be_family_all hash).call hcov hr1 (hok _ (List.mem_cons_self ..)) hs)
        ((stage_claim_iff.mp hst).1.step hs)
        (ow_due_zero_after hS hs tok)
        (by rw [step_lpTok hs]; exact fun h => deposited_mono hs (hdep h)) hr2 hok'
      rw [step_owner hs] at hafter
      have hp : cr_paid tok s.owner o.xfers = ow_due s tok :=
        (ow_claimPayment_exact hS.tokNe hS.feeNe hs).2.2.1 tok
      rw [List.find?_cons_of_pos (by simp [hw]), List.filter_cons_of_pos (by simp [hw])]
      refine ⟨?_, ?_, ?_⟩
      · show (if ow_isWithdrawal (s, e, Call.claimPayment, o) = true then
            cr_paid tok s.owner o.xfers else 0) + ow_withdrawn tok s.owner (lk_runLog hash s' rest) = _
        rw [if_pos hw, hp, ow_withdrawn_zero tok s.owner _ hafter]
        rfl
      · intro x hx
        cases hx
        exact ⟨⟨r, hI⟩, (stage_claim_iff.mp hst).1⟩
      · intro x hx
        have hx' : x ∈ (lk_runLog hash s' rest).filter ow_isWithdrawal := hx
        rw [List.mem_filter] at hx'
        exact hafter x hx'.1 hx'.2
    · have hw : ¬ (ow_isWithdrawal (s, e, c, o) = true) := fun h =>
        hc ((ow_isWithdrawal_iff s e c o).mp h)
      obtain ⟨k1, k2, k3⟩ := ih (hIstep s r e c s' o hI hr1 (hok _ (List.mem_cons_self ..)) hc hs) hok'
      rw [step_owner hs] at k1 k3
      rw [List.find?_cons_of_neg (by simpa using hw), List.filter_cons_of_neg (by simpa using hw)]
      refine ⟨?_, k2, k3⟩
      show (if ow_isWithdrawal (s, e, c, o) = true then cr_paid tok s.owner o.xfers else 0)
        + ow_withdrawn tok s.owner (lk_runLog hash s' rest) = _
      rw [if_neg hw, Nat.zero_add, k1]

/-! ## the owner as a participant -/

/-- what the `claimPayment` calls of a log send to `a` in the payment token of their pre-state -/
def ow_withdrawnPay (a : Nat) : List (State × Env × Call × Out) → Nat
  | [] => 0
  | x :: rest =>
    (if ow_isWithdrawal x = true then cr_paid x.1.payTok a x.2.2.2.xfers else 0)
      + ow_withdrawnPay a rest

/-- for the owner both terms can be non-zero: he may also be a participant -/
theorem ow_totalPay_split (hash : List Nat → List Nat) (a : Nat) (hist : List (Env × Call))
    (s : State) (hne : s.payTok ≠ .esdt s.lpTok) :
    cr_totalPay a (lk_runLog hash s hist)
      = ow_withdrawnPay a (lk_runLog hash s hist) + cr_totalOwed a (lk_runLog hash s hist) :=
  lk_log_rec hash (I := fun s => s.payTok ≠ .esdt s.lpTok)
    (M := fun _ l => cr_totalPay a l = ow_withdrawnPay a l + cr_totalOwed a l) (fun _ => rfl)
    (fun s e c s' o hne hx => ⟨step_tokNe hx hne, fun l ih => by
      show cr_paid s.payTok a o.xfers + cr_totalPay a l
        = ((if ow_isWithdrawal (s, e, c, o) = true then cr_paid s.payTok a o.xfers else 0)
            + ow_withdrawnPay a l) + (cr_owedPay s e c a + cr_totalOwed a l)
      rw [ih]
      by_cases hc : c = .claimPayment
      · subst hc
        have hw : ow_isWithdrawal (s, e, Call.claimPayment, o) = true := rfl
        rw [if_pos hw]
        show _ = _ + (0 + _)
        omega
      · have hw : ¬ (ow_isWithdrawal (s, e, c, o) = true) := fun h =>
          hc ((ow_isWithdrawal_iff s e c o).mp h)
        rw [if_neg hw, cr_step_pay_of hne (fun h => absurd h hc) hx]
        omega⟩)
    hist s hne

/-- from a covered state whose ticket selection is complete the payment token never changes, so
    `ow_withdrawnPay` is `ow_withdrawn` at the payment token of the starting state -/
theorem ow_withdrawnPay_eq (hash : List Nat → List Nat) (a : Nat) (hist : LP.Props.C17.Hist)
    (s : State) (r : Nat) (hcov : be_Covered hash s r) (hsl : s.flags.selected = true)
    (hr : LP.Props.C17.RoundsFrom r hist) (hok : ∀ x ∈ hist, be_HistOK x.1 x.2) :
    ow_withdrawnPay a (lk_runLog hash s hist) = ow_withdrawn s.payTok a (lk_runLog hash s hist) ∧
    cr_totalPay a (lk_runLog hash s hist) = cr_total s.payTok a (lk_runLog hash s hist) :=
  lk_log_rec_rounds hash (I := fun s r => be_Covered hash s r ∧ s.flags.selected = true)
    (M := fun s l _ => ow_withdrawnPay a l = ow_withdrawn s.payTok a l ∧
      cr_totalPay a l = cr_total s.payTok a l)
    (fun _ _ _ h hr => ⟨(be_family_all hash).wait h.1 hr, h.2⟩)
    (fun _ => ⟨rfl, rfl⟩)
    (fun s r e c s' o ⟨hcov, hsl⟩ hr hok hs => by
      obtain ⟨_, hv, hsel⟩ := ow_covered_sel hcov hsl
      refine ⟨⟨(be_family_all hash).call hcov hr hok hs, (step_flags_gain4 hs).2.2.1 hsl⟩,
        fun l _ ih => ?_⟩
      rw [cr_late_payTok hv (Nat.le_trans hsel hr) hs] at ih
      constructor
      · show (if ow_isWithdrawal (s, e, c, o) = true then cr_paid s.payTok a o.xfers else 0)
          + ow_withdrawnPay a l = _
        rw [ih.1]; rfl
      · show cr_paid s.payTok a o.xfers + cr_totalPay a l = _
        rw [ih.2]; rfl)
    hist s r hr ⟨hcov, hsl⟩ hok

end LP

#print axioms LP.ow_claimPayment_exact
#print axioms LP.ow_post_frame
#print axioms LP.ow_post_pay
#print axioms LP.ow_due_kept
#print axioms LP.ow_after_empty
#print axioms LP.ow_first_withdrawal
#print axioms LP.ow_totalPay_split
#print axioms LP.ow_withdrawnPay_eq
