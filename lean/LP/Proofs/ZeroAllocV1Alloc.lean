import LP.Proofs.ZeroAllocSim
import LP.Proofs.Reserve
import LP.Proofs.NftDraw
/-
  The v1 allocation loop on the erased state, for the two families whose total simulation allows
  zero-size entries without migration flag (`guarV1`, `nftGuar`).  `addV1Many` on `s` and `addV1Many` of
  the entries with at least one ticket on `er s K C U` do the same whatever the records `U` are; what
  they have done to `U` and `s.uts` is said address by address (`AddFx`), and each family reads its own
  clause about the records off that.  `ESim.addV1` is the call as a step of the erased state.
-/
namespace LP
open LP.FY LP.Props.C18

/-- the erasure of `s` with address flags `K C` and guarantee records `U` -/
def er (s : State) (K C : Nat → Bool) (U : Nat → Option UTS) : State :=
  ow s { R := some (z_eraseR s.range), B := some (z_eraseB s.batch), K := some K, C := some C, U := some U }

/-- What `addV1Many l` on `s` and `addV1Many` of the entries with at least one ticket on the erased
    state have done, address by address: nothing; or, for an address without range before, either a
    range with tickets and the same record on both sides, or an empty range, a record without
    guarantee in `s` and nothing on the erased side.  The whitelist gains holders of tickets only. -/
structure AddFx (s s' : State) (U U' : Nat → Option UTS) : Prop where
  at_ : ∀ a, (U' a = U a ∧ s'.uts a = s.uts a ∧ s'.range a = s.range a) ∨
    (s.range a = none ∧
      ((U' a = s'.uts a ∧ (z_eraseR s'.range a).isSome = true) ∨
       (U' a = U a ∧ z_eraseR s'.range a = none ∧ (∃ rg, s'.range a = some rg) ∧
          ∃ st, s'.uts a = some st ∧ st.c = 0 ∧ st.d = 0)))
  wl : ∀ a, a ∈ s'.whitelist → a ∈ s.whitelist ∨ (s.range a = none ∧ (z_eraseR s'.range a).isSome = true)

theorem AddFx.refl (s : State) (U : Nat → Option UTS) : AddFx s s U U :=
  ⟨fun _ => Or.inl ⟨rfl, rfl, rfl⟩, fun _ h => Or.inl h⟩

theorem AddFx.trans {s s2 s' : State} {U U2 U' : Nat → Option UTS} (h1 : AddFx s s2 U U2)
    (h2 : AddFx s2 s' U2 U') : AddFx s s' U U' := by
  have hno : ∀ a, s2.range a = none → U2 a = U a ∧ s.range a = none := by
    intro a ha
    rcases h1.at_ a with ⟨q1, _, q3⟩ | ⟨_, ⟨_, q⟩ | ⟨_, _, ⟨rg, q⟩, _⟩⟩
    · exact ⟨q1, q3 ▸ ha⟩
    · rw [z_eraseR_of_none ha] at q; cases q
    · rw [ha] at q; cases q
  constructor
  · intro a
    rcases h2.at_ a with ⟨p1, p2, p3⟩ | ⟨p0, p⟩
    · have he : z_eraseR s'.range a = z_eraseR s2.range a := z_eraseR_congr p3
      rcases h1.at_ a with ⟨q1, q2, q3⟩ | ⟨q0, ⟨q1, q2⟩ | ⟨q1, q2, ⟨rg, q3⟩, q4⟩⟩
      · exact Or.inl ⟨p1.trans q1, p2.trans q2, p3.trans q3⟩
      · exact Or.inr ⟨q0, Or.inl ⟨by rw [p1, p2]; exact q1, by rw [he]; exact q2⟩⟩
      · exact Or.inr ⟨q0, Or.inr ⟨p1.trans q1, by rw [he]; exact q2, ⟨rg, p3.trans q3⟩, by rw [p2]; exact q4⟩⟩
    · obtain ⟨e1, e2⟩ := hno a p0
      rcases p with ⟨p1, p2⟩ | ⟨p1, p2, p3, p4⟩
      · exact Or.inr ⟨e2, Or.inl ⟨p1, p2⟩⟩
      · exact Or.inr ⟨e2, Or.inr ⟨p1.trans e1, p2, p3, p4⟩⟩
  · intro a ha
    rcases h2.wl a ha with hm | ⟨p0, p1⟩
    · rcases h1.wl a hm with hm | ⟨q0, q1⟩
      · exact Or.inl hm
      · right
        refine ⟨q0, ?_⟩
        rcases h2.at_ a with ⟨_, _, p3⟩ | ⟨p0, _⟩
        · rw [z_eraseR_congr p3]; exact q1
        · rw [z_eraseR_of_none p0] at q1; cases q1
    · exact Or.inr ⟨(hno a p0).2, p1⟩

theorem er_tryCreate_pos {s s' : State} {a n : Nat} (K C : Nat → Bool) (U : Nat → Option UTS)
    (hn : 1 ≤ n) (h : tryCreateTickets s a n = .ok s') (hd : z_Hd s) :
    tryCreateTickets (er s K C U) a n = .ok (er s' K C U) ∧ z_Hd s' := by
  have h' : tryCreateTickets { s with uts := U } a n = .ok { s' with uts := U } := by
    rw [tryCreateTickets_ok_iff] at h ⊢
    obtain ⟨h1, h2, rfl⟩ := h
    exact ⟨h1, h2, rfl⟩
  exact z_tryCreate_pos K C hn h' (by exact hd)

theorem er_tryCreate_zero {s s' : State} {a : Nat} (K C : Nat → Bool) (U : Nat → Option UTS)
    (h : tryCreateTickets s a 0 = .ok s') (hd : z_Hd s) :
    er s' K C U = er s K C U ∧ z_Hd s' := by
  have h' : tryCreateTickets { s with uts := U } a 0 = .ok { s' with uts := U } := by
    rw [tryCreateTickets_ok_iff] at h ⊢
    obtain ⟨h1, h2, rfl⟩ := h
    exact ⟨h1, h2, rfl⟩
  exact z_tryCreate_zero K C h' (by exact hd)

/-- **`addV1Many` on the erased state**: the entries with at least one ticket do there what all
    entries do on `s`, provided a zero-size entry carries no migration flag (it would reserve a
    ticket for a holder the erased state does not know).  Nothing is assumed of `U`. -/
theorem er_addV1Many (K C : Nat → Bool) :
    ∀ (l : List (Nat × Nat × Nat × Bool)) {s s' : State} {tw tg tw' tg' : Nat} (U : Nat → Option UTS),
    addV1Many l (s, tw, tg) = .ok (s', tw', tg') → z_Hd s → 0 < s.minConfirmed →
    (∀ q ∈ l, q.2.1 + q.2.2.1 = 0 → q.2.2.2 = false) →
    ∃ U', addV1Many (l.filter (fun q => decide (1 ≤ q.2.1 + q.2.2.1))) (er s K C U, tw, tg)
        = .ok (er s' K C U', tw', tg') ∧
      z_Hd s' ∧ AddFx s s' U U' ∧
      s'.blacklist = s.blacklist ∧ s'.claimed = s.claimed ∧ s'.flags = s.flags ∧ s'.blUts = s.blUts
  | [], s, s', tw, tg, tw', tg', U, h, hd, _, _ => by
    simp only [addV1Many, Except.ok.injEq, Prod.mk.injEq] at h
    obtain ⟨rfl, rfl, rfl⟩ := h
    exact ⟨U, rfl, hd, .refl _ _, rfl, rfl, rfl, rfl⟩
  | (b, st, en, mg) :: rest, s, s', tw, tg, tw', tg', U, h, hd, hmin, hz => by
    rw [addV1Many_cons] at h
    obtain ⟨s1, h1, h⟩ := (bind_ok_iff _ _ _).mp h
    by_cases htw : tw < (if st ≥ s1.minConfirmed then 1 else 0) + (if mg = true then 1 else 0)
    · simp only [if_pos htw] at h; cases h
    simp only [if_neg htw] at h
    let c : Nat := if st ≥ s1.minConfirmed then 1 else 0
    let d : Nat := if mg = true then 1 else 0
    obtain ⟨hb0, _, hs1⟩ := (tryCreateTickets_ok_iff _ _ _ _).mp h1
    have hmin1 : s1.minConfirmed = s.minConfirmed := by rw [hs1]
    have hrng1 : s1.range = upd s.range b (some ⟨s.lastTicketId + 1, s.lastTicketId + 1 + (st + en) - 1⟩) := by
      rw [hs1]
    have hfr1 : s1.blacklist = s.blacklist ∧ s1.claimed = s.claimed ∧ s1.flags = s.flags ∧
        s1.blUts = s.blUts ∧ s1.uts = s.uts ∧ s1.whitelist = s.whitelist := by
      rw [hs1]; exact ⟨rfl, rfl, rfl, rfl, rfl, rfl⟩
    have hzrest : ∀ q ∈ rest, q.2.1 + q.2.2.1 = 0 → q.2.2.2 = false :=
      fun q hq => hz q (List.mem_cons_of_mem _ hq)
    have huts : ∀ (rc : UTS) (a : Nat), a ≠ b → upd s1.uts b (some rc) a = s.uts a := fun rc a hab => by
      rw [upd_other _ _ _ _ hab, hfr1.2.2.2.2.1]
    have hrng : ∀ a, a ≠ b → s1.range a = s.range a := fun a hab => by
      rw [hrng1, upd_other _ _ _ _ hab]
    by_cases hn : 1 ≤ st + en
    · obtain ⟨k1, k2⟩ := er_tryCreate_pos K C U hn h1 hd
      have hnb : (z_eraseR s1.range b).isSome = true := by
        have : z_eraseR s1.range b = some ⟨s.lastTicketId + 1, s.lastTicketId + 1 + (st + en) - 1⟩ := by
          rw [hrng1]
          exact z_eraseR_of_ne (by simp) (by show s.lastTicketId + 1 ≤ s.lastTicketId + 1 + (st + en) - 1; omega)
        rw [this]; rfl
      obtain ⟨U', i1, i2, i3, i4, i5, i6, i7⟩ := er_addV1Many K C rest
        (upd U b (some { a := st, b := en, c := c, d := d })) h k2 (by show 0 < s1.minConfirmed; omega) hzrest
      refine ⟨U', ?_, i2, AddFx.trans ⟨fun a => ?_, fun a ha => ?_⟩ i3, i4.trans hfr1.1,
        i5.trans hfr1.2.1, i6.trans hfr1.2.2.1, i7.trans hfr1.2.2.2.1⟩
      · rw [List.filter_cons_of_pos (by simpa using hn), addV1Many_cons, k1]
        show (if tw < c + d then _ else _) = _
        rw [if_neg htw]
        exact i1
      · by_cases hab : a = b
        · subst hab
          exact Or.inr ⟨hb0, Or.inl ⟨by show upd U a _ a = upd s1.uts a _ a; rw [upd_same, upd_same], hnb⟩⟩
        · exact Or.inl ⟨upd_other _ _ _ _ hab, huts _ a hab, hrng a hab⟩
      · have ha' : a ∈ (if c + d > 0 then (setInsert s1.whitelist b).1 else s1.whitelist) := ha
        have : a ∈ s1.whitelist ∨ a = b := by
          by_cases hcd : c + d > 0
          · rw [if_pos hcd] at ha'; exact (mem_setInsert _ _ _).mp ha'
          · rw [if_neg hcd] at ha'; exact Or.inl ha'
        rcases this with hm | rfl
        · exact Or.inl (hfr1.2.2.2.2.2 ▸ hm)
        · exact Or.inr ⟨hb0, hnb⟩
    · have hst : st = 0 := by omega
      have hen : en = 0 := by omega
      subst hst hen
      have hmg : mg = false := hz (b, 0, 0, mg) (List.mem_cons_self ..) rfl
      subst hmg
      have hc0 : (if 0 ≥ s1.minConfirmed then 1 else 0) = 0 := if_neg (by omega)
      simp only [hc0, Bool.false_eq_true, if_false, Nat.add_zero, Nat.sub_zero, gt_iff_lt,
        Nat.lt_irrefl] at h
      obtain ⟨k1, k2⟩ := er_tryCreate_zero K C U h1 hd
      have hemp : z_eraseR s1.range b = none := by
        rw [hrng1]
        exact z_eraseR_of_empty (r := ⟨s.lastTicketId + 1, s.lastTicketId + 1 + (0 + 0) - 1⟩) (by simp)
          (by show ¬ s.lastTicketId + 1 ≤ s.lastTicketId + 1 + (0 + 0) - 1; omega)
      obtain ⟨U', i1, i2, i3, i4, i5, i6, i7⟩ := er_addV1Many K C rest U h k2
        (by show 0 < s1.minConfirmed; omega) hzrest
      refine ⟨U', ?_, i2, AddFx.trans ⟨fun a => ?_, fun a ha => Or.inl (by rw [← hfr1.2.2.2.2.2]; exact ha)⟩ i3,
        i4.trans hfr1.1, i5.trans hfr1.2.1, i6.trans hfr1.2.2.1, i7.trans hfr1.2.2.2.1⟩
      · rw [List.filter_cons_of_neg (by simp), ← k1]
        exact i1
      · by_cases hab : a = b
        · subst hab
          refine Or.inr ⟨hb0, Or.inr ⟨rfl, hemp, ⟨_, by show s1.range a = _; rw [hrng1, upd_same]⟩,
            ⟨{ a := 0, b := 0, c := 0, d := 0 }, ?_, rfl, rfl⟩⟩⟩
          show upd s1.uts a _ a = _
          rw [upd_same]
        · exact Or.inl ⟨rfl, huts _ a hab, hrng a hab⟩

theorem er_exec_addTicketsV1 {hash : List Nat → List Nat} {t t' : Tx} {e : Env}
    {l : List (Nat × Nat × Nat × Bool)} (K C : Nat → Bool) (U : Nat → Option UTS)
    (h : exec hash t e (.addTicketsV1 l) = .ok t') (hd : z_Hd t.s) (hmin : 0 < t.s.minConfirmed)
    (hz : ∀ q ∈ l, q.2.1 + q.2.2.1 = 0 → q.2.2.2 = false) :
    ∃ U', exec hash { t with s := er t.s K C U } e
          (.addTicketsV1 (l.filter (fun q => decide (1 ≤ q.2.1 + q.2.2.1))))
        = .ok { t' with s := er t'.s K C U' } ∧
      z_Hd t'.s ∧ AddFx t.s t'.s U U' ∧ t'.s.blacklist = t.s.blacklist ∧ t'.s.claimed = t.s.claimed ∧
      t'.s.flags = t.s.flags := by
  simp only [exec, addTicketsV1, bind_ok_iff, pure_ok_iff, requireStage, req_ok_iff, exists_const,
    Prod.exists] at h ⊢
  obtain ⟨s2, ⟨hst, s1, tw, tg, hcm, rfl⟩, rfl⟩ := h
  obtain ⟨U', i1, i2, i3, i4, i5, i6, _⟩ := er_addV1Many K C l U hcm hd hmin hz
  exact ⟨U', ⟨_, ⟨hst, _, _, _, i1, rfl⟩, rfl⟩, i2, ⟨i3.at_, i3.wl⟩, i4, i5, i6⟩

namespace ESim
variable {hash : List Nat → List Nat} {s z s' : State} {e : Env} {o : Out}

/-- `addTicketsV1` with zero-size entries that carry no migration flag: the erased state takes the
    entries with tickets.  A zero-size entry leaves a record without guarantee in `s` and none in the
    erased state (`hI`: an address without range has no record there). -/
theorem addV1 {l : List (Nat × Nat × Nat × Bool)} (h : ESim s z)
    (hs : step hash s e (.addTicketsV1 l) = .ok (s', o)) (hnf : s.flags.filtered = false)
    (hd : z_Hd s) (hmin : 0 < s.minConfirmed)
    (hz : ∀ q ∈ l, q.2.1 + q.2.2.1 = 0 → q.2.2.2 = false)
    (hI : ∀ a, s.range a = none → z.uts a = none) :
    ∃ U', ESim s' (er s' z.blacklist z.claimed U') ∧
      step hash z e (.addTicketsV1 (l.filter (fun q => decide (1 ≤ q.2.1 + q.2.2.1))))
        = .ok (er s' z.blacklist z.claimed U', o) ∧
      z_Hd s' ∧ AddFx s s' z.uts U' ∧ s'.blacklist = s.blacklist ∧ s'.claimed = s.claimed ∧
      s'.flags = s.flags := by
  obtain ⟨m, t, _, _, _, hx, rfl, rfl⟩ := step_ok_inv hs
  obtain ⟨U', k1, k2, fx, k4, k5, k6⟩ := er_exec_addTicketsV1 z.blacklist z.claimed z.uts hx hd hmin hz
  have hw : Ov.of z = ⟨z_eraseR s.range, z_eraseB s.batch, z.blacklist, z.claimed, z.uts, s.blUts,
      s.whitelist⟩ := by
    unfold Ov.of
    rw [h.range, h.batch hnf, h.bu, h.wl]
  refine ⟨U', ⟨rfl, rfl, fun _ => rfl, fun a ha => ?_, fun a ha => ?_, fun a => ?_, rfl, rfl⟩, ?_,
    k2, ⟨fx.at_, fx.wl⟩, k4, k5, k6⟩
  · show t.s.blacklist a = true
    rw [k4]; exact h.bl a ha
  · show t.s.claimed a = true
    rw [k5]; exact h.cl a ha
  · show U' a = t.s.uts a ∨ (U' a = none ∧ _)
    rcases fx.at_ a with ⟨p1, p2, _⟩ | ⟨p0, ⟨p1, _⟩ | ⟨p1, _, _, p4⟩⟩
    · rw [p1, p2]; exact h.uts a
    · exact Or.inl p1
    · exact Or.inr ⟨p1.trans (hI a p0), p4⟩
  · have := step_ov_match (w := .of z)
      (w' := ⟨z_eraseR t.s.range, z_eraseB t.s.batch, z.blacklist, z.claimed, U', t.s.blUts, t.s.whitelist⟩)
      (c' := .addTicketsV1 (l.filter (fun q => decide (1 ≤ q.2.1 + q.2.2.1)))) hs rfl hx
      (by rw [hw]; exact k1)
    rw [← h.rest] at this
    exact this

end ESim

end LP
