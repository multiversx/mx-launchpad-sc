import LP.Proofs.ReachPlain
import LP.Proofs.CorePhase
import LP.Props.C12reserve
import LP.Props.C11topup
import LP.Props.C03final
import LP.Props.C04select
import LP.Props.C02
import LP.Proofs.DistLoops
/-
  The inductive invariant `v1_WF T0 s r` of the v1 guaranteed-ticket launchpads on the common claim
  path, `Variant.migration` and `Variant.lockedGuar` (prefix `v1_`).  The plain invariant (ReachWF:
  `Pre`, `PhA` … `PhD` on `State.core`) is reused; added are
    * a second projection `v1_gv` (whitelist, guarantee records, reserve, blacklist flags,
      `minConfirmed`);
    * the reserve: `nrWinning + totalGuaranteed = T0` until the filter completes
      (`Pre (T0 - totalGuaranteed)`), the reserve invariant `GI false` of C12 in phase A, its
      range-free clauses (`v1_GW`) in phases B and C;
    * a phase E between the lottery and the completion of `distribute` (`v1_PhE`): `PosInv` of the
      leftover loop (monotone in the flags, so it also covers the top-up loop), the flag count, the
      reserve split `leftover + additional + Σ_{whitelist} = totalGuaranteed`, and "every holder of
      a positive guarantee is still whitelisted or already honoured";
    * the launchpad-token coverage `lp` (from the deposit on).
  Everything except `lp` and `lockPct ≤ 10000` is also the invariant of `Variant.guarV1` (`g1_WF`,
  ReachG1): that part is `v1_Inv`.  The endpoint lemmas are stated
  for it, with a `v1_Frame` saying how the call moves what the launchpad-token clauses read;
  `v1_WF.frame` and `g1_WF.frame` then carry each clause along.  `claim`, `claimPayment` and the
  induction over histories are in ReachV1Final.

  Restriction on histories (`v1_CallOK`): every entry of an `addTicketsV1` call allocates at least
  one ticket.  A zero-size entry `(a, 0, 0, false)` creates the empty range `[f, f-1]` and a batch
  slot that the next allocation overwrites.
-/
namespace LP
open LP.FY

/-- the v1 guaranteed-ticket variants on the common claim path -/
def v1_Fam (v : Variant) : Prop := v = .migration ∨ v = .lockedGuar

theorem v1_fam_flags {v : Variant} (hv : v1_Fam v) :
    v.vested = false ∧ v.hasNft = false ∧ v.isV2 = false ∧ v.v1Alloc = true ∧
    v.hasGuaranteed = true ∧ v.noAdditionalStep = false ∧ (v != .nftGuar) = true := by
  rcases hv with rfl | rfl <;> exact ⟨rfl, rfl, rfl, rfl, rfl, rfl, rfl⟩

def v1_CallOK : Call → Prop
  | .addTicketsV1 l => ∀ q ∈ l, 1 ≤ q.2.1 + q.2.2.1
  | _ => True

structure v1_G where
  whitelist : List Nat
  uts : Nat → Option UTS
  blUts : Nat → Option UTS
  tg : Nat
  blacklist : Nat → Bool
  minConfirmed : Nat

def v1_gv (s : State) : v1_G :=
  { whitelist := s.whitelist, uts := s.uts, blUts := s.blUts, tg := s.totalGuaranteed,
    blacklist := s.blacklist, minConfirmed := s.minConfirmed }

/-- phase A: the reserve invariant of C12 (v1) and "blacklisted users hold a range" -/
structure v1_GX (c : Core) (g : v1_G) : Prop where
  gi : GI false g.whitelist g.uts g.blUts c.range g.tg
  bl_range : ∀ u, g.blacklist u = true → (c.range u).isSome = true

/-- the range-free clauses of the reserve invariant, which survive the filter -/
structure v1_GW (g : v1_G) : Prop where
  total : g.tg = gSum false g.uts g.whitelist
  mem_of_pos : ∀ u st, g.uts u = some st → gOf false st > 0 → u ∈ g.whitelist
  pos_of_mem : ∀ u, u ∈ g.whitelist → ∃ st, g.uts u = some st ∧ gOf false st > 0

theorem v1_GX.toGW {c : Core} {g : v1_G} (h : v1_GX c g) : v1_GW g :=
  ⟨h.gi.total, h.gi.mem_of_pos, h.gi.pos_of_mem⟩

theorem v1_GX_iff (s : State) (hv : s.variant.isV2 = false) :
    GuarInvX s ↔ v1_GX s.core (v1_gv s) := by
  constructor
  · intro h
    have hb := h.base
    rw [hv] at hb
    exact ⟨hb, h.bl_range⟩
  · intro h
    refine ⟨by rw [hv]; exact h.gi, ?_, h.bl_range⟩
    intro h2; rw [hv] at h2; cases h2

/-- the guarantee of holder `u` with record `st` is honoured -/
def v1_Hon (c : Core) (g : v1_G) (u : Nat) (st : UTS) : Prop :=
  min (calcV1 st (c.confirmed u) g.minConfirmed).1 (c.confirmed u) ≤ winOf c.range c.status u

/-- phase E: the lottery is complete, the distribution is not -/
structure v1_PhE (T0 : Nat) (c : Core) (g : v1_G) : Prop where
  started : c.flags.started = true
  filtered : c.flags.filtered = true
  selected : c.flags.selected = true
  nrw : c.nrWinning = min (T0 - g.tg) c.lastTicketId
  claimable : c.claimable = c.price * c.nrWinning
  alloc : ∃ Ls : List (Nat × Nat), (Ls.map Prod.fst).Nodup ∧
    (∀ p ∈ Ls, 1 ≤ p.2 ∧ p.2 = c.confirmed p.1) ∧ Chain Ls 1 c.range c.batch ∧
    c.lastTicketId = ticketTotal Ls ∧
    (∀ a, a ∉ Ls.map Prod.fst → c.range a = none ∧ c.confirmed a = 0) ∧
    PayPre c (Ls.map Prod.fst)
  /-- as long as no `distribute` call has been accepted the whitelist is intact -/
  wl0 : c.op = .none → v1_GW g
  dist : ∃ lo off add,
    ((c.op = .none ∧ lo = 0 ∧ off = 1 ∧ add = 0) ∨
      ∃ rng, c.op = .additional (.guar ⟨rng, lo, off, add⟩)) ∧
    PosInv c.lastTicketId c.status c.posToId (c.nrWinning + off) ∧
    countTrue c.status c.lastTicketId = c.nrWinning + add ∧
    lo + add + gSum false g.uts g.whitelist = g.tg ∧
    (∀ u st, g.uts u = some st → gOf false st > 0 → u ∈ g.whitelist ∨ v1_Hon c g u st)

def v1_PhaseC (T0 : Nat) (c : Core) (g : v1_G) : Prop :=
  (c.flags.additional = false ∧ g.tg ≤ T0 ∧
    ((∃ L0, Pre (T0 - g.tg) c L0 ∧ ((PhA c L0 ∧ v1_GX c g) ∨ (PhB c L0 ∧ v1_GW g))) ∨
     (PhC (T0 - g.tg) c ∧ v1_GW g) ∨ v1_PhE T0 c g)) ∨
  (c.flags.additional = true ∧ PhD c)

/-- launchpad tokens that may still have to be paid out: the outstanding winners plus, until the
    distribution is complete, the whole reserve -/
def v1_owed (s : State) : Nat :=
  s.nrWinning + (if s.flags.additional then 0 else s.totalGuaranteed)

theorem v1_owed_open {s : State} (h : s.flags.additional = false) :
    v1_owed s = s.nrWinning + s.totalGuaranteed := by
  unfold v1_owed; rw [h]; rfl

theorem v1_owed_done {s : State} (h : s.flags.additional = true) : v1_owed s = s.nrWinning := by
  unfold v1_owed; rw [h]; rfl

theorem v1_owed_le_add (s : State) : v1_owed s ≤ s.nrWinning + s.totalGuaranteed := by
  unfold v1_owed; split <;> omega

/-- the inductive invariant; `r` is the round of the latest transaction, `T0` the number of
    winning tickets configured at deployment -/
structure v1_WF (T0 : Nat) (s : State) (r : Nat) : Prop where
  var : v1_Fam s.variant
  pricePos : 0 < s.price
  tokNe : s.payTok ≠ .esdt s.lpTok
  /-- never written after deployment: the qualification threshold is positive, the lock
      percentage (locked variant) is at most 100 % -/
  static : 0 < s.minConfirmed ∧ s.lockPct ≤ 10000
  balOther : ∀ t, t ≠ s.payTok → t ≠ .esdt s.lpTok → s.bal t 0 = 0
  tlConf : r < s.cfg.conf → ∀ a, s.confirmed a = 0
  tlStarted : s.flags.started = true → s.cfg.conf ≤ r ∧ s.cfg.sel ≤ r
  lp : s.deposited = true → s.perTicket * v1_owed s ≤ s.bal (.esdt s.lpTok) 0
  phase : v1_PhaseC T0 s.core (v1_gv s)

/-- the three v1 guaranteed-ticket launchpads: the two on the common claim path and the vested
    `guarV1`, whose invariant `g1_WF` (LP/Proofs/ReachG1.lean) shares `v1_Inv` with `v1_WF` -/
def V1Like (v : Variant) : Prop := v1_Fam v ∨ v = .guarV1

theorem V1Like.flags {v : Variant} (hv : V1Like v) :
    v.hasNft = false ∧ v.isV2 = false ∧ v.hasGuaranteed = true ∧ v.v1Alloc = true ∧
    v.noAdditionalStep = false := by
  rcases hv with (rfl | rfl) | rfl <;> exact ⟨rfl, rfl, rfl, rfl, rfl⟩

/-- everything in `v1_WF` and `g1_WF` except the launchpad-token clause and `lockPct ≤ 10000` -/
structure v1_Inv (T0 : Nat) (s : State) (r : Nat) : Prop where
  var : V1Like s.variant
  pricePos : 0 < s.price
  tokNe : s.payTok ≠ .esdt s.lpTok
  minPos : 0 < s.minConfirmed
  balOther : ∀ t, t ≠ s.payTok → t ≠ .esdt s.lpTok → s.bal t 0 = 0
  tlConf : r < s.cfg.conf → ∀ a, s.confirmed a = 0
  tlStarted : s.flags.started = true → s.cfg.conf ≤ r ∧ s.cfg.sel ≤ r
  phase : v1_PhaseC T0 s.core (v1_gv s)

theorem v1_WF.toInv {T0 : Nat} {s : State} {r : Nat} (h : v1_WF T0 s r) : v1_Inv T0 s r :=
  ⟨Or.inl h.var, h.pricePos, h.tokNe, h.static.1, h.balOther, h.tlConf, h.tlStarted, h.phase⟩

theorem v1_WF.of_inv {T0 : Nat} {s : State} {r : Nat} (h : v1_Inv T0 s r) (hv : v1_Fam s.variant)
    (hlk : s.lockPct ≤ 10000)
    (hlp : s.deposited = true → s.perTicket * v1_owed s ≤ s.bal (.esdt s.lpTok) 0) : v1_WF T0 s r :=
  ⟨hv, h.pricePos, h.tokNe, ⟨h.minPos, hlk⟩, h.balOther, h.tlConf, h.tlStarted, hlp, h.phase⟩

/-- the third projection: what the launchpad-token clauses of `v1_WF` and `g1_WF` read apart from
    `core` and `v1_gv`, together with the fields fixed at deployment -/
structure v1_L where
  variant : Variant
  lpTok : Nat
  lockPct : Nat
  lpBal : Nat
  deposited : Bool
  totalDeposited : Nat
  perTicket : Nat
  userTotal : Nat → Nat
  userClaimed : Nat → Nat
  claimed : Nat → Bool
  sched1 : Option Sched1

def v1_lv (s : State) : v1_L :=
  { variant := s.variant, lpTok := s.lpTok, lockPct := s.lockPct,
    lpBal := s.bal (.esdt s.lpTok) 0, deposited := s.deposited,
    totalDeposited := s.totalDeposited, perTicket := s.perTicket, userTotal := s.userTotal,
    userClaimed := s.userClaimed, claimed := s.claimed, sched1 := s.sched1 }

/-- how an accepted call other than `deposit`, `setPerTicket`, `setSchedule1`, `claim` and
    `claimPayment` moves what the launchpad-token clauses read -/
inductive v1_Frame (s s' : State) : Prop
  /-- setters of the timeline, the support address and the pause flag, in any phase -/
  | same : s'.core = s.core → v1_gv s' = v1_gv s → v1_lv s' = v1_lv s → v1_Frame s s'
  /-- before and after, the distribution is incomplete: outstanding winners plus reserve do not
      grow, and nothing is confirmed after the call if nothing was before (unless deposited) -/
  | early : s.flags.additional = false → s'.flags.additional = false → v1_lv s' = v1_lv s →
      s'.nrWinning + s'.totalGuaranteed ≤ s.nrWinning + s.totalGuaranteed →
      (s.deposited = false → (∀ a, s.confirmed a = 0) → ∀ a, s'.confirmed a = 0) → v1_Frame s s'
  /-- the call completes the distribution: the winners drawn from the reserve join `nrWinning`
      and their price the recorded proceeds -/
  | done : s.flags.additional = false → s'.flags.additional = true → v1_lv s' = v1_lv s →
      s'.confirmed = s.confirmed → s'.nrWinning ≤ s.nrWinning + s.totalGuaranteed →
      s'.claimablePayment = s'.price * s'.nrWinning → v1_Frame s s'

theorem v1_WF.frame {T0 : Nat} {s s' : State} {r r' : Nat} (h : v1_WF T0 s r)
    (h' : v1_Inv T0 s' r') (hf : v1_Frame s s') : v1_WF T0 s' r' := by
  have key : v1_lv s' = v1_lv s → v1_owed s' ≤ v1_owed s → v1_WF T0 s' r' := by
    intro hl ho
    have hv : s'.variant = s.variant := congrArg v1_L.variant hl
    have hk : s'.lockPct = s.lockPct := congrArg v1_L.lockPct hl
    have hd : s'.deposited = s.deposited := congrArg v1_L.deposited hl
    have hp : s'.perTicket = s.perTicket := congrArg v1_L.perTicket hl
    have hb : s'.bal (.esdt s'.lpTok) 0 = s.bal (.esdt s.lpTok) 0 := congrArg v1_L.lpBal hl
    refine .of_inv h' (by rw [hv]; exact h.var) (by rw [hk]; exact h.static.2) ?_
    rw [hd, hp, hb]
    exact fun hdep => Nat.le_trans (Nat.mul_le_mul_left _ ho) (h.lp hdep)
  unfold v1_owed at key
  rcases hf with ⟨hc, hg, hl⟩ | ⟨ha, ha', hl, hle, _⟩ | ⟨ha, ha', hl, _, hle, _⟩
  · have h1 : s'.nrWinning = s.nrWinning := congrArg Core.nrWinning hc
    have h2 : s'.flags = s.flags := congrArg Core.flags hc
    have h3 : s'.totalGuaranteed = s.totalGuaranteed := congrArg v1_G.tg hg
    exact key hl (by rw [h1, h2, h3]; exact Nat.le_refl _)
  · exact key hl (by rw [ha, ha']; exact hle)
  · exact key hl (by rw [ha, ha']; exact hle)

theorem v1_phase_notStarted {T0 : Nat} {c : Core} {g : v1_G} (h : v1_PhaseC T0 c g)
    (hs : c.flags.started = false) :
    c.flags.additional = false ∧ g.tg ≤ T0 ∧ ∃ L0, Pre (T0 - g.tg) c L0 ∧ PhA c L0 ∧ v1_GX c g := by
  rcases h with ⟨ha, htg, ⟨L0, hp, ⟨h1, h2⟩ | ⟨hb, _⟩⟩ | ⟨hc, _⟩ | he⟩ | ⟨_, hd⟩
  · exact ⟨ha, htg, L0, hp, h1, h2⟩
  · rw [hb.started] at hs; cases hs
  · rw [hc.started] at hs; cases hs
  · rw [he.started] at hs; cases hs
  · rw [hd.started] at hs; cases hs

theorem v1_phase_notFiltered {T0 : Nat} {c : Core} {g : v1_G} (h : v1_PhaseC T0 c g)
    (hs : c.flags.filtered = false) :
    c.flags.additional = false ∧ g.tg ≤ T0 ∧
      ∃ L0, Pre (T0 - g.tg) c L0 ∧ ((PhA c L0 ∧ v1_GX c g) ∨ (PhB c L0 ∧ v1_GW g)) := by
  rcases h with ⟨ha, htg, ⟨L0, hp, hab⟩ | ⟨hc, _⟩ | he⟩ | ⟨_, hd⟩
  · exact ⟨ha, htg, L0, hp, hab⟩
  · rw [hc.filtered] at hs; cases hs
  · rw [he.filtered] at hs; cases hs
  · rw [hd.filtered] at hs; cases hs

theorem v1_phase_C {T0 : Nat} {c : Core} {g : v1_G} (h : v1_PhaseC T0 c g)
    (hf : c.flags.filtered = true) (hs : c.flags.selected = false) :
    c.flags.additional = false ∧ g.tg ≤ T0 ∧ PhC (T0 - g.tg) c ∧ v1_GW g := by
  rcases h with ⟨ha, htg, ⟨L0, hp, _⟩ | ⟨hc, hg⟩ | he⟩ | ⟨_, hd⟩
  · rw [hp.notFiltered] at hf; cases hf
  · exact ⟨ha, htg, hc, hg⟩
  · rw [he.selected] at hs; cases hs
  · rw [hd.selected] at hs; cases hs

theorem v1_phase_E {T0 : Nat} {c : Core} {g : v1_G} (h : v1_PhaseC T0 c g)
    (hs : c.flags.selected = true) (ha : c.flags.additional = false) :
    g.tg ≤ T0 ∧ v1_PhE T0 c g := by
  rcases h with ⟨_, htg, ⟨L0, hp, _⟩ | ⟨hc, hg⟩ | he⟩ | ⟨hd, _⟩
  · rw [hp.notSelected] at hs; cases hs
  · rw [hc.notSelected] at hs; cases hs
  · exact ⟨htg, he⟩
  · rw [hd] at ha; cases ha

theorem v1_phase_D {T0 : Nat} {c : Core} {g : v1_G} (h : v1_PhaseC T0 c g)
    (ha : c.flags.additional = true) : PhD c := by
  rcases h with ⟨hn, _⟩ | ⟨_, hd⟩
  · rw [hn] at ha; cases ha
  · exact hd

theorem v1_Inv.of_core {T0 : Nat} {s s' : State} {r r' : Nat} (h : v1_Inv T0 s r)
    (hcore : s'.core = s.core) (hgv : v1_gv s' = v1_gv s) (hv : s'.variant = s.variant)
    (hp : s'.payTok = s.payTok) (hl : s'.lpTok = s.lpTok) (hb : ∀ t, t ≠ s.payTok → t ≠ .esdt s.lpTok → s'.bal t 0 = 0)
    (htl1 : r' < s'.cfg.conf → ∀ a, s.confirmed a = 0)
    (htl2 : s.flags.started = true → s'.cfg.conf ≤ r' ∧ s'.cfg.sel ≤ r') :
    v1_Inv T0 s' r' := by
  have hprice : s'.price = s.price := congrArg Core.price hcore
  have hflags : s'.flags = s.flags := congrArg Core.flags hcore
  have hconf : s'.confirmed = s.confirmed := congrArg Core.confirmed hcore
  have hmc : s'.minConfirmed = s.minConfirmed := congrArg v1_G.minConfirmed hgv
  refine ⟨by rw [hv]; exact h.var, by rw [hprice]; exact h.pricePos, by rw [hp, hl]; exact h.tokNe,
    by rw [hmc]; exact h.minPos, by rw [hp, hl]; exact hb, by rw [hconf]; exact htl1,
    by rw [hflags]; exact htl2, by rw [hcore, hgv]; exact h.phase⟩

theorem v1_Inv.same_cfg {T0 : Nat} {s s' : State} {r r' : Nat} (h : v1_Inv T0 s r)
    (hcore : s'.core = s.core) (hgv : v1_gv s' = v1_gv s) (hv : s'.variant = s.variant)
    (hp : s'.payTok = s.payTok) (hl : s'.lpTok = s.lpTok) (hb : ∀ t, t ≠ s.payTok → t ≠ .esdt s.lpTok → s'.bal t 0 = 0)
    (hcfg : s'.cfg = s.cfg) (hr : r ≤ r') : v1_Inv T0 s' r' := by
  apply h.of_core hcore hgv hv hp hl hb
  · intro h1; rw [hcfg] at h1; exact h.tlConf (by omega)
  · intro h1; rw [hcfg]; have := h.tlStarted h1; omega

theorem v1_init_Inv {v : Variant} (hv : V1Like v) {a : InitArgs} {e : Env} {s : State}
    (h : init v a e = .ok s) : v1_Inv a.nrWinning s e.round := by
  obtain ⟨hok, rfl⟩ := init_ok h
  obtain ⟨_, hv2, _, hal, hna⟩ := hv.flags
  have hadd : (initState v a e).flags.additional = false := hna
  have hmc : (initState v a e).minConfirmed = a.minConfirmed := if_pos hal
  refine ⟨hv, hok.price, hok.tokNe, by rw [hmc]; exact hok.minConfirmed hal, fun _ _ _ => rfl,
    fun _ _ => rfl, nofun, ?_⟩
  refine Or.inl ⟨hadd, Nat.zero_le _, Or.inl ⟨[], ?_, Or.inl ⟨⟨rfl, rfl, trivial, rfl⟩, ?_, nofun⟩⟩⟩
  · exact ⟨rfl, rfl, rfl, rfl, rfl, ⟨List.nodup_nil, nofun, nofun⟩, fun _ _ => rfl, fun _ _ => rfl,
      (Nat.mul_zero _).symm⟩
  · have := (GuarInvX_initial (initState v a e) rfl rfl rfl rfl rfl).base
    rw [show (initState v a e).variant.isV2 = false from hv2] at this
    exact this

theorem v1_init_inv {v : Variant} (hv : v1_Fam v) {a : InitArgs} {e : Env} {s : State}
    (h : init v a e = .ok s) :
    s.variant = v ∧ 0 < a.price ∧ 0 < a.nrWinning ∧ a.payTok ≠ .esdt a.lpTok ∧
    s.price = a.price ∧ s.payTok = a.payTok ∧ s.lpTok = a.lpTok ∧ s.nrWinning = a.nrWinning ∧
    s.flags = {} ∧ s.bal = (fun _ _ => 0) ∧ s.confirmed = (fun _ => 0) ∧
    s.status = (fun _ => false) ∧ s.posToId = (fun _ => 0) ∧ s.range = (fun _ => none) ∧
    s.batch = (fun _ => none) ∧ s.lastTicketId = 0 ∧ s.op = .none ∧ s.claimablePayment = 0 ∧
    0 < s.minConfirmed ∧ s.whitelist = [] ∧ s.totalGuaranteed = 0 ∧ s.uts = (fun _ => none) ∧
    s.blacklist = (fun _ => false) ∧ s.deposited = false ∧ s.lockPct ≤ 10000 := by
  obtain ⟨hok, rfl⟩ := init_ok h
  have hlk : (if v.hasLock then a.lockPct else 0) ≤ 10000 := by
    split
    · exact (hok.lock ‹_›).2.1
    · exact Nat.zero_le _
  rcases hv with rfl | rfl <;>
    exact ⟨rfl, hok.price, hok.nrWinning, hok.tokNe, rfl, rfl, rfl, rfl, rfl, rfl, rfl, rfl, rfl, rfl, rfl,
      rfl, rfl, rfl, hok.minConfirmed rfl, rfl, rfl, rfl, rfl, rfl, hlk⟩

theorem v1_init_WF {v : Variant} (hv : v1_Fam v) {a : InitArgs} {e : Env} {s : State}
    (h : init v a e = .ok s) : v1_WF a.nrWinning s e.round := by
  refine .of_inv (v1_init_Inv (Or.inl hv) h) ?_ ?_ ?_ <;> obtain ⟨hok, rfl⟩ := init_ok h
  · exact hv
  · show (if v.hasLock then a.lockPct else 0) ≤ 10000
    split
    · exact (hok.lock ‹_›).2.1
    · exact Nat.zero_le _
  · nofun

theorem v1_Inv.wait {T0 : Nat} {s : State} {r r' : Nat} (h : v1_Inv T0 s r) (hr : r ≤ r') :
    v1_Inv T0 s r' :=
  { h with tlConf := fun h1 => h.tlConf (by omega)
           tlStarted := fun h1 => by have := h.tlStarted h1; omega }

theorem v1_wait_WF {T0 : Nat} {s : State} {r r' : Nat} (h : v1_WF T0 s r) (hr : r ≤ r') :
    v1_WF T0 s r' :=
  .of_inv (h.toInv.wait hr) h.var h.static.2 h.lp

end LP

/-
  The endpoints without a loop and without a claim: setters, `setSupport`, `pause`, `unpause`,
  `deposit`, `setTicketPrice`, `confirm`.  Each is shown once, for the three variants of `V1Like`,
  to keep the shared invariant `v1_Inv` and to move the launchpad-token fields along a `v1_Frame`;
  `deposit` and `setPerTicket`, which write those fields, come with their exact effect, and with
  the launchpad-token clause of `v1_WF` at the end of the section.
-/
namespace LP
open LP.FY LP.Events

theorem v1_admin {T0 : Nat} {hash : List Nat → List Nat} {s s' : State} {e : Env} {c : Call} {o : Out}
    {r : Nat} (h : v1_Inv T0 s r) (hr : r ≤ e.round) (hc : c.isAdmin = true)
    (hs : step hash s e c = .ok (s', o)) : v1_Inv T0 s' e.round ∧ v1_Frame s s' := by
  obtain ⟨cfg, pz, sup, rfl, hm⟩ := step_admin hc hs
  have hw := h.wait hr
  exact ⟨hw.of_core rfl rfl rfl rfl rfl hw.balOther (fun hlt => hw.tlConf (hm.confLt hlt))
    (fun hst => ⟨hm.conf (hw.tlStarted hst).1, hm.sel (hw.tlStarted hst).2⟩), .same rfl rfl rfl⟩

theorem v1_setPerTicket {T0 : Nat} {hash : List Nat → List Nat} {s s' : State} {e : Env} {o : Out}
    {r a : Nat} (h : v1_Inv T0 s r) (hr : r ≤ e.round)
    (hs : step hash s e (.setPerTicket a) = .ok (s', o)) :
    v1_Inv T0 s' e.round ∧ s' = { s with perTicket := a } ∧ s.deposited = false ∧
      s.flags.additional = false := by
  obtain ⟨t, hx, rfl⟩ := step_np rfl hs
  obtain ⟨h1, hst, h3, _⟩ := exec_setPerTicket_s hx
  have hns := notStarted_of_lt h.tlStarted hr (Or.inl (rb_stage_addTickets hst))
  have hw := h.wait hr
  rw [h1]
  exact ⟨⟨hw.var, hw.pricePos, hw.tokNe, hw.minPos, hw.balOther, hw.tlConf, hw.tlStarted, hw.phase⟩,
    rfl, h3, (v1_phase_notStarted h.phase hns).1⟩

theorem v1_deposit {T0 : Nat} {hash : List Nat → List Nat} {s s' : State} {e : Env} {o : Out}
    {r : Nat} (h : v1_Inv T0 s r) (hr : r ≤ e.round) (hok : EnvOK e)
    (hs : step hash s e .deposit = .ok (s', o)) :
    s.deposited = false ∧ v1_Inv T0 s' e.round ∧ s'.core = s.core ∧
    s' = { s with bal := s.bal.add (.esdt s.lpTok) 0 (s.perTicket * (s.nrWinning + s.totalGuaranteed)),
                  deposited := true,
                  totalDeposited := s.perTicket * (s.nrWinning + s.totalGuaranteed) } := by
  obtain ⟨hnd, rfl⟩ := step_deposit hok hs
  rw [show reservedForDeposit s = s.totalGuaranteed from if_pos h.var.flags.2.2.1]
  obtain ⟨amt, hamt⟩ : ∃ amt, amt = s.perTicket * (s.nrWinning + s.totalGuaranteed) := ⟨_, rfl⟩
  rw [← hamt]
  have hc : ({ s.core with payBal := (s.bal.add (.esdt s.lpTok) 0 amt) s.payTok 0 } : Core) = s.core := by
    rw [Bal.add_off _ _ _ _ h.tokNe]; rfl
  have hw := h.wait hr
  refine ⟨hnd, ⟨hw.var, hw.pricePos, hw.tokNe, hw.minPos, ?_, hw.tlConf, hw.tlStarted, ?_⟩, hc, rfl⟩
  · exact fun t h1 h2 => (Bal.add_off s.bal 0 amt 0 h2).trans (h.balOther t h1 h2)
  · show v1_PhaseC T0 { s.core with payBal := _ } (v1_gv s)
    rw [hc]; exact h.phase

theorem v1_mk_phaseA {T0 : Nat} {c : Core} {g : v1_G} (ha : c.flags.additional = false)
    (htg : g.tg ≤ T0) {L0 : List (Nat × Nat)} (hp : Pre (T0 - g.tg) c L0) (hA : PhA c L0)
    (hg : v1_GX c g) : v1_PhaseC T0 c g :=
  Or.inl ⟨ha, htg, Or.inl ⟨L0, hp, Or.inl ⟨hA, hg⟩⟩⟩

theorem v1_setTicketPrice {T0 : Nat} {hash : List Nat → List Nat} {s s' : State} {e : Env} {o : Out}
    {r a : Nat} {tok : Token} (h : v1_Inv T0 s r) (hr : r ≤ e.round)
    (hs : step hash s e (.setTicketPrice tok a) = .ok (s', o)) :
    v1_Inv T0 s' e.round ∧ v1_Frame s s' := by
  obtain ⟨t, hx, rfl⟩ := step_np rfl hs
  obtain ⟨h1, h2, h3, _, h5⟩ := exec_setTicketPrice_s hx
  have hlt : e.round < s.cfg.conf := rb_stage_addTickets h2
  have hz : ∀ a, s.confirmed a = 0 := h.tlConf (by omega)
  have hns : s.flags.started = false := notStarted_of_lt h.tlStarted hr (Or.inl hlt)
  obtain ⟨hadd, htg, L0, hp, ha, hg⟩ := v1_phase_notStarted h.phase hns
  obtain ⟨hb0, hpre⟩ := hp.setTicketPrice hz h.balOther h5 a
  rw [h1]
  refine ⟨⟨h.var, h3, h5, h.minPos, fun t _ h2 => hb0 t h2, fun _ => hz, ?_, ?_⟩,
    .early hadd hadd rfl (Nat.le_refl _) (fun _ _ => hz)⟩
  · exact (h.wait hr).tlStarted
  · exact v1_mk_phaseA hadd htg (L0 := L0) hpre ha.setLedger ⟨hg.gi, hg.bl_range⟩

theorem v1_confirm {T0 : Nat} {hash : List Nat → List Nat} {s s' : State} {e : Env} {o : Out}
    {r n : Nat} (h : v1_Inv T0 s r) (hr : r ≤ e.round) (hok : EnvOK e)
    (hs : step hash s e (.confirm n) = .ok (s', o)) : v1_Inv T0 s' e.round ∧ v1_Frame s s' := by
  obtain ⟨total, ⟨_, _, hst, hdep, _, htix, hle⟩, rfl⟩ := step_confirm hok hs
  obtain ⟨hc1, hc2⟩ := rb_stage_confirm hst
  have hns : s.flags.started = false := notStarted_of_lt h.tlStarted hr (Or.inr hc2)
  obtain ⟨hadd, htg, L0, hp, ha, hg⟩ := v1_phase_notStarted h.phase hns
  obtain ⟨hin, hout⟩ := hp.confirm_bound ha rfl rfl htix hle
  have hne : Token.esdt s.lpTok ≠ s.payTok := fun hh => h.tokNe hh.symm
  refine ⟨⟨h.var, h.pricePos, h.tokNe, h.minPos, ?_, ?_, ?_, ?_⟩, .early hadd hadd ?_ (Nat.le_refl _) ?_⟩
  · exact fun t h1 h2 => (Bal.add_off s.bal 0 _ 0 h1).trans (h.balOther t h1 h2)
  · exact fun hlt => absurd hc1 (Nat.not_le.mpr hlt)
  · exact (h.wait hr).tlStarted
  · refine v1_mk_phaseA hadd htg (L0 := L0) ?_ ha.setLedger ⟨hg.gi, hg.bl_range⟩
    show Pre _ { s.core with confirmed := upd s.confirmed e.caller (s.confirmed e.caller + n),
                             payBal := (s.bal.add s.payTok 0 (s.price * n)) s.payTok 0 } L0
    rw [Bal.add_at]
    exact hp.confirm hin hout
  · show ({ v1_lv s with lpBal := (s.bal.add s.payTok 0 (s.price * n)) (.esdt s.lpTok) 0 } : v1_L) = v1_lv s
    rw [Bal.add_off _ _ _ _ hne]; rfl
  · intro hq; rw [hdep] at hq; cases hq

/-! ### the launchpad-token clause of `v1_WF` at the two calls that write its fields -/

theorem v1_deposit_WF {T0 : Nat} {hash : List Nat → List Nat} {s s' : State} {e : Env} {o : Out}
    {r : Nat} (h : v1_WF T0 s r) (hr : r ≤ e.round) (hok : EnvOK e)
    (hs : step hash s e .deposit = .ok (s', o)) : v1_WF T0 s' e.round := by
  obtain ⟨_, hi, _, rfl⟩ := v1_deposit h.toInv hr hok hs
  refine .of_inv hi h.var h.static.2 (fun _ => ?_)
  show s.perTicket * v1_owed s ≤
    (s.bal.add (.esdt s.lpTok) 0 (s.perTicket * (s.nrWinning + s.totalGuaranteed))) (.esdt s.lpTok) 0
  rw [Bal.add_at]
  exact Nat.le_trans (Nat.mul_le_mul_left s.perTicket (v1_owed_le_add s)) (Nat.le_add_left _ _)

theorem v1_setPerTicket_WF {T0 : Nat} {hash : List Nat → List Nat} {s s' : State} {e : Env} {o : Out}
    {r a : Nat} (h : v1_WF T0 s r) (hr : r ≤ e.round)
    (hs : step hash s e (.setPerTicket a) = .ok (s', o)) : v1_WF T0 s' e.round := by
  obtain ⟨hi, rfl, hd, _⟩ := v1_setPerTicket h.toInv hr hs
  refine .of_inv hi h.var h.static.2 (fun hq => ?_)
  have hq' : s.deposited = true := hq
  rw [hd] at hq'; cases hq'

end LP

/-
  `v1_Inv` is preserved by the three endpoints that move the guaranteed-ticket reserve before
  the selection: `addTicketsV1`, `blacklist` (with the v1 clear hook) and `unblacklist` (with the
  v1 restore hook; not exposed by `lockedGuar`).
  The reserve part (`nrWinning + totalGuaranteed` conserved, `GuarInvX` re-established) is
  `step_guar` of `LP/Proofs/ReserveSeq.lean` (C12), read in the terms of phase A by `v1_guar_move`;
  the ticket space of `addV1Many` is reduced to that of `createMany` on the projected list.
-/
namespace LP
open LP.FY LP.Events

/-- the allocation list of a v1 call as (address, tickets) pairs -/
def v1_proj (l : List (Nat × Nat × Nat × Bool)) : List (Nat × Nat) :=
  l.map (fun q => (q.1, q.2.1 + q.2.2.1))

/-- a call that moves the reserve before the filter starts: the conservation and the invariant of
    C12, in the terms of phase A -/
theorem v1_guar_move {T0 : Nat} {hash : List Nat → List Nat} {s s' : State} {e : Env} {c : Call}
    {o : Out} (hiv2 : s.variant.isV2 = false) (hc : isGuarCall c = true)
    (htg : s.totalGuaranteed ≤ T0) (hnrw : s.nrWinning = T0 - s.totalGuaranteed)
    (hg : v1_GX s.core (v1_gv s)) (hs : step hash s e c = .ok (s', o)) :
    s'.nrWinning + s'.totalGuaranteed = s.nrWinning + s.totalGuaranteed ∧
    s'.totalGuaranteed ≤ T0 ∧ s'.nrWinning = T0 - s'.totalGuaranteed ∧
    v1_GX s'.core (v1_gv s') := by
  obtain ⟨hcons, hX', _⟩ := step_guar_ok hc ((v1_GX_iff s hiv2).mpr hg) hs
  exact ⟨hcons, by omega, by omega, (v1_GX_iff s' (by rw [step_variant hs]; exact hiv2)).mp hX'⟩

/-! ### `addV1Many` allocates like `createMany` on the projected list -/

theorem v1_addV1Many_cons {b st en : Nat} {mg : Bool} {rest : List (Nat × Nat × Nat × Bool)}
    {s : State} {tw tg : Nat} {r : State × Nat × Nat}
    (h : addV1Many ((b, st, en, mg) :: rest) (s, tw, tg) = .ok r) :
    s.range b = none ∧ s.lastTicketId + 1 + (st + en) < usizeMax ∧
    ∃ wl u tw2 tg2,
      addV1Many rest ({ allocState s b (st + en) with whitelist := wl, uts := u }, tw2, tg2) = .ok r := by
  rw [addV1Many_cons] at h
  obtain ⟨s1, hc, h⟩ := (bind_ok_iff _ _ _).mp h
  obtain ⟨hr, hb, rfl⟩ := tryCreateTickets_iff.mp hc
  exact ⟨hr, hb, _, _, _, _, ok_of_ite_error h⟩

theorem v1_addV1Many_sim : ∀ (l : List (Nat × Nat × Nat × Bool)) (s s0 : State) (tw tg : Nat)
    (s' : State) (tw' tg' : Nat),
    s.range = s0.range → s.batch = s0.batch → s.lastTicketId = s0.lastTicketId →
    addV1Many l (s, tw, tg) = .ok (s', tw', tg') →
    ∃ s0', createMany (v1_proj l) s0 = .ok s0' ∧ s'.range = s0'.range ∧ s'.batch = s0'.batch ∧
      s'.lastTicketId = s0'.lastTicketId ∧
      ∃ wl u, s' = { s with range := s'.range, batch := s'.batch, lastTicketId := s'.lastTicketId,
                            whitelist := wl, uts := u } := by
  intro l
  induction l with
  | nil =>
    intro s s0 tw tg s' tw' tg' h1 h2 h3 h
    simp only [addV1Many, Except.ok.injEq, Prod.mk.injEq] at h
    obtain ⟨rfl, _, _⟩ := h
    exact ⟨s0, rfl, h1, h2, h3, s.whitelist, s.uts, rfl⟩
  | cons q rest ih =>
    obtain ⟨b, st, en, mg⟩ := q
    intro s s0 tw tg s' tw' tg' h1 h2 h3 h
    obtain ⟨hr, hb, wl1, u1, tw2, tg2, h⟩ := v1_addV1Many_cons h
    have hr0 : s0.range b = none := by rw [← h1]; exact hr
    have hb0 : s0.lastTicketId + 1 + (st + en) < usizeMax := by rw [← h3]; exact hb
    obtain ⟨s0', k1, k2, k3, k4, wl, u, k5⟩ := ih _ (allocState s0 b (st + en)) _ _ _ _ _
      (by show upd s.range b _ = upd s0.range b _; rw [h1, h3])
      (by show upd s.batch _ _ = upd s0.batch _ _; rw [h2, h3])
      (by show s.lastTicketId + (st + en) = s0.lastTicketId + (st + en); rw [h3]) h
    refine ⟨s0', ?_, k2, k3, k4, wl, u, k5.trans rfl⟩
    show createMany ((b, st + en) :: v1_proj rest) s0 = .ok s0'
    rw [createMany_cons_ok s0 b (st + en) _ hr0 hb0]
    exact k1

theorem v1_addTicketsV1_inv {s s' : State} {e : Env} {l : List (Nat × Nat × Nat × Bool)}
    (h : addTicketsV1 s e l = .ok s') :
    s.stage e = .addTickets ∧ ∃ s0', createMany (v1_proj l) s = .ok s0' ∧
      s'.range = s0'.range ∧ s'.batch = s0'.batch ∧ s'.lastTicketId = s0'.lastTicketId ∧
      ∃ wl u tw tg, s' = { s with range := s'.range, batch := s'.batch,
                                  lastTicketId := s'.lastTicketId, whitelist := wl, uts := u,
                                  totalGuaranteed := tg, nrWinning := tw } := by
  unfold addTicketsV1 at h
  simp only [bind_ok_iff, pure_ok_iff, requireStage, req_ok_iff, exists_const, Prod.exists] at h
  obtain ⟨hst, s1, tw, tg, hm, rfl⟩ := h
  obtain ⟨s0', k1, k2, k3, k4, wl, u, k5⟩ := v1_addV1Many_sim l s s _ _ _ _ _ rfl rfl rfl hm
  refine ⟨by simpa using hst, s0', k1, k2, k3, k4, wl, u, tw, tg, ?_⟩
  show ({ s1 with totalGuaranteed := tg, nrWinning := tw } : State) = _
  rw [k5]

theorem v1_addTicketsV1 {T0 : Nat} {hash : List Nat → List Nat} {s s' : State} {e : Env} {o : Out}
    {r : Nat} {l : List (Nat × Nat × Nat × Bool)} (h : v1_Inv T0 s r) (hr : r ≤ e.round)
    (hpos : ∀ q ∈ l, 1 ≤ q.2.1 + q.2.2.1)
    (hs : step hash s e (.addTicketsV1 l) = .ok (s', o)) :
    v1_Inv T0 s' e.round ∧ v1_Frame s s' := by
  have hiv2 : s.variant.isV2 = false := h.var.flags.2.1
  obtain ⟨t, hx, rfl⟩ := step_np rfl hs
  simp only [exec, bind_ok_iff, pure_ok_iff] at hx
  obtain ⟨s1, hat, rfl⟩ := hx
  have hat' : addTicketsV1 s e l = .ok s1 := hat
  obtain ⟨hst, s0', hcm, hrg, hbt, hlt1, wl, u, tw, tg, heq⟩ := v1_addTicketsV1_inv hat'
  have hlt : e.round < s.cfg.conf := rb_stage_addTickets hst
  have hz : ∀ a, s.confirmed a = 0 := h.tlConf (by omega)
  have hns : s.flags.started = false := notStarted_of_lt h.tlStarted hr (Or.inl hlt)
  obtain ⟨hadd, htg, L0, hp, ha, hg⟩ := v1_phase_notStarted h.phase hns
  obtain ⟨hcons, htg', hnw, hg'⟩ :=
    v1_guar_move (c := .addTicketsV1 l) hiv2 rfl htg hp.nrw hg hs
  have hpos' : ∀ p ∈ v1_proj l, 1 ≤ p.2 := by
    intro p hp1
    obtain ⟨q, hq, rfl⟩ := List.mem_map.mp hp1
    exact hpos q hq
  rw [hrg, hbt, hlt1] at heq
  subst heq
  obtain ⟨hp', ha'⟩ := hp.createMany (T' := T0 - tg) (nw := tw) ha rfl rfl rfl hz hpos' hcm hnw
  have hw := h.wait hr
  exact ⟨⟨hw.var, hw.pricePos, hw.tokNe, hw.minPos, hw.balOther, fun _ => hz, hw.tlStarted,
      v1_mk_phaseA (L0 := L0 ++ v1_proj l) hadd htg' hp' ha' hg'⟩,
    .early hadd hadd rfl (Nat.le_of_eq hcons) (fun _ _ => hz)⟩

theorem v1_blacklist {T0 : Nat} {hash : List Nat → List Nat} {s s' : State} {e : Env} {o : Out}
    {r : Nat} {l : List Nat} (h : v1_Inv T0 s r) (hr : r ≤ e.round)
    (hs : step hash s e (.blacklist l) = .ok (s', o)) : v1_Inv T0 s' e.round ∧ v1_Frame s s' := by
  have hiv2 : s.variant.isV2 = false := h.var.flags.2.1
  have hnft : s.variant.hasNft = false := h.var.flags.1
  obtain ⟨t, hx, rfl⟩ := step_np rfl hs
  obtain ⟨hadd1, _, _, _, _, _, s1, py, bal, hgh, hts, hpb⟩ := exec_blacklist_out hx
  obtain ⟨_, hstage, hnd, hall, _⟩ := (addUsersToBlacklist_ok_iff _ _ _ _).mp hadd1
  simp only [rbTx_s] at hstage hall hgh hpb
  obtain ⟨hpy, hbal⟩ := hpb hnft
  have hts' : t.s = s1 := by rw [hts, hpy, hbal]
  rw [hts'] at hs ⊢
  have hns : s.flags.started = false := notStarted_of_stage h.tlStarted hr hstage
  obtain ⟨hadd, htg, L0, hp, ha, hg⟩ := v1_phase_notStarted h.phase hns
  obtain ⟨hcons, htg', hnw, hg'⟩ := v1_guar_move (c := .blacklist l) hiv2 rfl htg hp.nrw hg hs
  obtain ⟨⟨wl, uu, bb, nw, tg, hs1⟩, _⟩ := hgh
  subst hs1
  have hall' := fun u hu => (hall u hu).2
  have hne : Token.esdt s.lpTok ≠ s.payTok := fun hh => h.tokNe hh.symm
  refine ⟨⟨h.var, h.pricePos, h.tokNe, h.minPos,
      fun t h1 h2 => (Bal.sub_off s.bal 0 _ 0 h1).trans (h.balOther t h1 h2),
      fun hlt => ite_mem_zero (h.tlConf (Nat.lt_of_le_of_lt hr hlt)), (h.wait hr).tlStarted,
      v1_mk_phaseA (L0 := L0) hadd htg' ?_ (ha.setLedger.set_nrw nw) hg'⟩,
    .early hadd hadd ?_ (Nat.le_of_eq hcons) (fun _ => ite_mem_zero)⟩
  · show Pre _ { s.core with confirmed := (fun a => if a ∈ l then 0 else s.confirmed a),
                             payBal := (s.bal.sub s.payTok 0 (s.price * blConfSum s l)) s.payTok 0,
                             nrWinning := nw } L0
    rw [Bal.sub_at]
    exact (hp.blacklist hnd hall').set_nrw hnw
  · show ({ v1_lv s with lpBal := (s.bal.sub s.payTok 0 (s.price * blConfSum s l)) (.esdt s.lpTok) 0 }
      : v1_L) = v1_lv s
    rw [Bal.sub_off _ _ _ _ hne]; rfl

theorem v1_unblacklist {T0 : Nat} {hash : List Nat → List Nat} {s s' : State} {e : Env} {o : Out}
    {r : Nat} {l : List Nat} (h : v1_Inv T0 s r) (hr : r ≤ e.round)
    (hs : step hash s e (.unblacklist l) = .ok (s', o)) : v1_Inv T0 s' e.round ∧ v1_Frame s s' := by
  have hiv2 : s.variant.isV2 = false := h.var.flags.2.1
  obtain ⟨_, _, hstage, _, _, _, _, _, ⟨wl, uu, bb, nw, tg, hs1⟩, _⟩ :=
    LP.Props.C10.unblacklist_effect hash s e l s' o hs
  have hns : s.flags.started = false := notStarted_of_stage h.tlStarted hr hstage
  obtain ⟨hadd, htg, L0, hp, ha, hg⟩ := v1_phase_notStarted h.phase hns
  obtain ⟨hcons, htg', hnw, hg'⟩ := v1_guar_move (c := .unblacklist l) hiv2 rfl htg hp.nrw hg hs
  subst hs1
  have hw := h.wait hr
  refine ⟨⟨hw.var, hw.pricePos, hw.tokNe, hw.minPos, hw.balOther, hw.tlConf, hw.tlStarted, ?_⟩,
    .early hadd hadd rfl (Nat.le_of_eq hcons) (fun _ hz => hz)⟩
  exact v1_mk_phaseA (L0 := L0) hadd htg' (hp.set_nrw hnw) (ha.set_nrw nw) hg'

end LP

/-
  `v1_Inv` is preserved by `filterTickets`, interrupted or completed, from a fresh or a saved
  loop state (`phase_filter`; the guaranteed-ticket records are not touched, and the reserve
  invariant is cut down to its range-free clauses `v1_GW`).  The phase step is `v1_filter_first`,
  stated for any ticket part `pb` of the holdings and from `v1_GW` alone, so that `ng_filter`
  (ReachNG) and the zero-size hand-over (ZeroAllocV1, ZeroAllocG1Full, ZeroAllocNGFull) read it too.
-/
namespace LP
open LP.FY

/-- `phase_filter` under the reserve bookkeeping, with the reserve invariant cut down to `v1_GW`
    (`pb`: the ticket part of the payment-token holdings) -/
theorem v1_filter_first {T0 : Nat} {s : State} {e : Env} {t t' : Tx} {L0 : List (Nat × Nat)}
    {pb : Nat} (hts : t.s = s) (hadd : s.flags.additional = false) (htg : s.totalGuaranteed ≤ T0)
    (hp : Pre (T0 - s.totalGuaranteed) (s.core.withPay pb) L0)
    (hab : PhA (s.core.withPay pb) L0 ∨ PhB (s.core.withPay pb) L0)
    (hgw : v1_GW (v1_gv s)) (hx : filterTickets t e = .ok t') :
    FilterPre s e ∧ ∃ R B fl op nw last,
      t'.s = { s with range := R, batch := B, flags := fl, op := op, nrWinning := nw,
                      lastTicketId := last } ∧
      fl.started = true ∧ fl.selected = s.flags.selected ∧ fl.additional = s.flags.additional ∧
      nw ≤ s.nrWinning ∧ v1_PhaseC T0 (t'.s.core.withPay pb) (v1_gv s) := by
  obtain ⟨hpre, x, f, _, hst, hcase⟩ := phase_filter hts hp hab hx
  obtain ⟨_, hfs, hfa⟩ := rb_filterFlags s x.first
  rcases hcase with ⟨hs', hp', hb'⟩ | ⟨hs', hc'⟩
  · refine ⟨hpre, _, _, _, _, _, _, hs', hst, hfs, hfa, Nat.le_refl _, ?_⟩
    rw [hs']
    exact Or.inl ⟨hfa.trans hadd, htg, Or.inl ⟨L0, hp', Or.inr ⟨hb', hgw⟩⟩⟩
  · refine ⟨hpre, _, _, _, _, _, _, hs', hst, hfs, hfa, filterDone_nrWinning_le s x f, ?_⟩
    rw [hs']
    exact Or.inl ⟨hfa.trans hadd, htg, Or.inr (Or.inl ⟨hc', hgw⟩)⟩

theorem v1_filter {T0 : Nat} {hash : List Nat → List Nat} {s s' : State} {e : Env} {o : Out}
    {r : Nat} (h : v1_Inv T0 s r)
    (hs : step hash s e .filter = .ok (s', o)) : v1_Inv T0 s' e.round ∧ v1_Frame s s' := by
  obtain ⟨t, hx, rfl⟩ := step_np rfl hs
  have hnf : s.flags.filtered = false := (filterTickets_inv _ _ _ hx).1.notFiltered
  obtain ⟨hadd, htg, L0, hp, hab⟩ := v1_phase_notFiltered h.phase hnf
  have hgw : v1_GW (v1_gv s) := hab.elim (fun h1 => h1.2.toGW) (fun h1 => h1.2)
  obtain ⟨hpre, R, B, fl, op, nw, last, hs', _, _, hfa, hnw, hph⟩ :=
    v1_filter_first (pb := s.core.payBal) (rbTx_s s e) hadd htg hp (hab.imp And.left And.left) hgw hx
  have hc := rb_stage_winnerSelection hpre.stage
  rw [hs'] at hph ⊢
  exact ⟨⟨h.var, h.pricePos, h.tokNe, h.minPos, h.balOther,
      fun hlt => absurd hc.1 (Nat.not_le.mpr hlt), fun _ => hc, hph⟩,
    .early hadd (hfa.trans hadd) rfl (Nat.add_le_add_right hnw _) (fun _ hz => hz)⟩

end LP

/-
  `v1_Inv` is preserved by `selectWinners` (interrupted or completed, fresh or saved loop state,
  scripted draws or not).  The lottery is the common one
  (`flags.additional = false` plays no role in it); at its completion the state enters phase E
  (`v1_PhE`): the position/flag invariant of the leftover loop holds at offset 1 with no
  additional winner, the whole reserve is still to be handed out.
-/
namespace LP
open LP.FY

theorem v1_select {T0 : Nat} {hash : List Nat → List Nat} {s s' : State} {e : Env} {o : Out}
    {r : Nat} (h : v1_Inv T0 s r)
    (hs : step hash s e .select = .ok (s', o)) : v1_Inv T0 s' e.round ∧ v1_Frame s s' := by
  obtain ⟨t, hx, rfl⟩ := step_np rfl hs
  obtain ⟨hstage, hfil, hnsel, _⟩ := rb_selectWinners_cases hx
  obtain ⟨hadd, htg, hC, hgw⟩ := v1_phase_C h.phase hfil hnsel
  have hadd' : s.flags.additional = false := hadd
  obtain ⟨x, hcase⟩ := select_cases (rbTx_s s e) hC.nrw_le hC.sel hx
  have hc := rb_stage_winnerSelection hstage
  rcases hcase with ⟨hs', p1, p2, arr, hR⟩ | ⟨hs', arr, hR⟩ <;> rw [hs']
  · exact ⟨⟨h.var, h.pricePos, h.tokNe, h.minPos, h.balOther,
        fun hlt => absurd hc.1 (Nat.not_le.mpr hlt), fun _ => hc,
        Or.inl ⟨hadd, htg, Or.inr (Or.inl ⟨hC.selInt p1 p2 hR, hgw⟩)⟩⟩,
      .early hadd' hadd' rfl (Nat.le_refl _) (fun _ hz => hz)⟩
  · have hcount : countTrue x.status s.lastTicketId = s.nrWinning := hR.count hC.nrw_le
    have hinv := LInv_init (additional := 0) hR (fun _ ht => ht) hR.flagsIn (by rw [hcount]; rfl)
      default 0 default
    refine ⟨⟨h.var, h.pricePos, h.tokNe, h.minPos, h.balOther,
        fun hlt => absurd hc.1 (Nat.not_le.mpr hlt), fun _ => hc,
        Or.inl ⟨hadd, htg, Or.inr (Or.inr ⟨hC.started, hC.filtered, rfl, hC.nrw, rfl, hC.alloc,
          fun _ => hgw, 0, 1, 0, Or.inl ⟨rfl, rfl, rfl, rfl⟩, hinv.pinv, hcount, ?_,
          fun u st hu hpos => Or.inl (hgw.mem_of_pos u st hu hpos)⟩)⟩⟩,
      .early hadd' hadd' rfl (Nat.le_refl _) (fun _ hz => hz)⟩
    show 0 + 0 + gSum false s.uts s.whitelist = s.totalGuaranteed
    have h2 : s.totalGuaranteed = gSum false s.uts s.whitelist := hgw.total
    omega

end LP

/-
  The v1-like variants (`isV2 = false`) on the shared analysis of the distribution step
  (`DistLoops`): the cursor invariant `DCur` is the `dist` clause of `v1_PhE`.
-/
namespace LP
open LP.FY

/-- the guarantee of holder `u` (record `st`) is honoured by the flags `status` -/
def v1_HonS (s : State) (status : Nat → Bool) (u : Nat) (st : UTS) : Prop :=
  min (calcV1 st (s.confirmed u) s.minConfirmed).1 (s.confirmed u) ≤ winOf s.range status u

theorem qualOf_v1 {s : State} (hv : s.variant.isV2 = false) (u : Nat) (rc : UTS) :
    qualOf s u rc = (calcV1 rc (s.confirmed u) s.minConfirmed).1 := by
  unfold qualOf; rw [hv]; rfl

theorem Hon_v1 {s : State} (hv : s.variant.isV2 = false) (st : Nat → Bool) (u : Nat) (rc : UTS) :
    Hon s st u rc ↔ v1_HonS s st u rc := by
  unfold Hon v1_HonS; rw [qualOf_v1 hv]

theorem DCur.iff_v1 {s : State} (hv : s.variant.isV2 = false) {wl : List Nat} {st : Nat → Bool}
    {pi : Nat → Nat} {lo off add : Nat} :
    DCur s wl st pi lo off add ↔
      PosInv s.lastTicketId st pi (s.nrWinning + off) ∧
      countTrue st s.lastTicketId = s.nrWinning + add ∧
      lo + add + gSum false s.uts wl = s.totalGuaranteed ∧
      (∀ u rc, s.uts u = some rc → gOf false rc > 0 → u ∈ wl ∨ v1_HonS s st u rc) := by
  constructor
  · rintro ⟨h1, h2, h3, h4⟩
    rw [hv] at h3
    exact ⟨h1, h2, h3, fun u rc hu _ => (h4 u rc hu).imp id (Hon_v1 hv st u rc).mp⟩
  · rintro ⟨h1, h2, h3, h4⟩
    refine ⟨h1, h2, by rw [hv]; exact h3, fun u rc hu => ?_⟩
    by_cases hp : gOf false rc > 0
    · exact (h4 u rc hu hp).imp id (Hon_v1 hv st u rc).mpr
    · right
      have := qualOf_le_gOf s u rc
      rw [hv] at this
      unfold Hon
      have : qualOf s u rc = 0 := by omega
      rw [this]; simp

end LP

/-
  `v1_Inv` is preserved by `distribute` (v1 top-up + v1 leftover re-draw), for ANY budget and
  from a fresh or a saved operation: interrupted in the first loop, interrupted in the second
  loop, or completed (`distribute_ok_cases`, LP/Proofs/Resume.lean; the two loops are read off
  `dist_runs`, LP/Proofs/DistLoops.lean, through the bridge `DCur.iff_v1`).
  At completion the hand-over to the post-selection ledger equation is made with
  `claimablePayment += price × additional`, `nrWinning += additional`.
-/
namespace LP
open LP.FY

theorem v1_handover {c : Core} (hst : c.flags.started = true) (hfil : c.flags.filtered = true)
    (hsel : c.flags.selected = true)
    (halloc : ∃ Ls : List (Nat × Nat), (Ls.map Prod.fst).Nodup ∧
      (∀ p ∈ Ls, 1 ≤ p.2 ∧ p.2 = c.confirmed p.1) ∧ Chain Ls 1 c.range c.batch ∧
      c.lastTicketId = ticketTotal Ls ∧
      (∀ a, a ∉ Ls.map Prod.fst → c.range a = none ∧ c.confirmed a = 0) ∧
      PayPre c (Ls.map Prod.fst))
    {st' : Nat → Bool} {pi' : Nat → Nat} {n' cl : Nat}
    (hcount : countTrue st' c.lastTicketId = n') (hcl : cl = c.price * n') :
    PhD { c with status := st', posToId := pi', op := .none,
                 flags := { c.flags with additional := true },
                 claimable := cl, nrWinning := n' } := by
  obtain ⟨Ls, hA⟩ := Alloc.exists_iff.mp halloc
  exact PhD_of_alloc hA hst hfil hsel hcount hcl

theorem v1_distribute_cases {T0 : Nat} {hash : List Nat → List Nat} {s s' : State} {e : Env}
    {o : Out} (hiv2 : s.variant.isV2 = false) (hph : v1_PhaseC T0 s.core (v1_gv s))
    (hs : step hash s e .distribute = .ok (s', o)) :
    s.stage e = .winnerSelection ∧ s.flags.additional = false ∧ s.totalGuaranteed ≤ T0 ∧
    v1_PhE T0 s.core (v1_gv s) ∧
    ∃ (g : GuarOp) (x : GSt),
      ((s' = distSaved1 s g x ∧ o.ret = [1] ∧
          DCur s x.whitelist x.status s.posToId x.leftover g.offset x.additional) ∨
       (x.whitelist = [] ∧ ∃ z : LCore,
          ((s' = distSaved2 s x z ∧ o.ret = [1] ∧
              DCur s x.whitelist z.status z.posToId z.leftover z.offset z.additional) ∨
           (s' = distDone s x z ∧ o.ret = [0] ∧ DEnd s z)))) := by
  obtain ⟨t, hx, rfl, rfl⟩ := step_np_out rfl hs
  simp only [exec] at hx
  have hx' : distribute hash (rbTx s e) e = .ok t := hx
  obtain ⟨hpre, g, x, b1, hg, _, hcase⟩ := distribute_ok_cases hash (rbTx s e) t e hx'
  simp only [rbTx_s] at hpre hcase
  obtain ⟨htg, hE⟩ := v1_phase_E hph hpre.selected hpre.notDone
  refine ⟨hpre.stage, hpre.notDone, htg, hE, g, x, ?_⟩
  obtain ⟨lo, off, add, hop, hcur⟩ := hE.dist
  obtain ⟨rfl, rfl, rfl⟩ := v1_guarOpOf hg hop
  have hc : DCur s s.whitelist s.status s.posToId g.leftover g.offset g.additional :=
    (DCur.iff_v1 hiv2).mpr hcur
  have hRI : DistRanges s := distRanges_of_alloc hE.alloc
  rcases hcase with ⟨hrun, hs', hret, _⟩ | ⟨hrun, z, b2, hcase2⟩
  · exact Or.inl ⟨hs', hret, (dist_runs hRI hc hrun).1⟩
  · obtain ⟨hnil, h2⟩ := (dist_runs hRI hc hrun).2 rfl
    refine Or.inr ⟨hnil, z, ?_⟩
    rcases hcase2 with ⟨hrun2, hs', hret, _⟩ | ⟨hrun2, hs', hret, _⟩
    · exact Or.inl ⟨hs', hret, (h2 hrun2).1 rfl⟩
    · exact Or.inr ⟨hs', hret, (h2 hrun2).2 rfl⟩

theorem v1_PhE_next {T0 : Nat} {s s' : State} (hv : s.variant.isV2 = false)
    (hE : v1_PhE T0 s.core (v1_gv s))
    (hcore : s'.core = { s.core with status := s'.status, posToId := s'.posToId, op := s'.op })
    (hgv : v1_gv s' = { v1_gv s with whitelist := s'.whitelist })
    {rng : Rng} {lo off add : Nat} (hop : s'.op = .additional (.guar ⟨rng, lo, off, add⟩))
    (hc : DCur s s'.whitelist s'.status s'.posToId lo off add) :
    v1_PhE T0 s'.core (v1_gv s') := by
  rw [hcore, hgv]
  refine ⟨hE.started, hE.filtered, hE.selected, hE.nrw, hE.claimable, hE.alloc, ?_, lo, off, add,
    Or.inr ⟨rng, hop⟩, (DCur.iff_v1 hv).mp hc⟩
  intro h0
  have h0' : s'.op = .none := h0
  rw [hop] at h0'; cases h0'

theorem v1_distribute {T0 : Nat} {hash : List Nat → List Nat} {s s' : State} {e : Env} {o : Out}
    {r : Nat} (h : v1_Inv T0 s r)
    (hs : step hash s e .distribute = .ok (s', o)) : v1_Inv T0 s' e.round ∧ v1_Frame s s' := by
  have hv := h.var.flags.2.1
  obtain ⟨hstage, hnadd, htg, hE, g, x, hcase⟩ := v1_distribute_cases hv h.phase hs
  obtain ⟨hc1, hc2⟩ := rb_stage_winnerSelection hstage
  have key : ∀ s1 : State, s1.price = s.price → s1.payTok = s.payTok → s1.lpTok = s.lpTok →
      s1.variant = s.variant → s1.minConfirmed = s.minConfirmed → s1.bal = s.bal → s1.cfg = s.cfg →
      v1_PhaseC T0 s1.core (v1_gv s1) → v1_Inv T0 s1 e.round := by
    intro s1 e1 e2 e3 e4 e5 e6 e7 hph
    refine ⟨by rw [e4]; exact h.var, by rw [e1]; exact h.pricePos, by rw [e2, e3]; exact h.tokNe,
      by rw [e5]; exact h.minPos, by rw [e2, e3, e6]; exact h.balOther, ?_, ?_, hph⟩
    · intro hlt; exfalso; rw [e7] at hlt; omega
    · intro _; rw [e7]; exact ⟨hc1, hc2⟩
  rcases hcase with ⟨rfl, _, hcur⟩ | ⟨hnil, z, ⟨rfl, _, hcur⟩ | ⟨rfl, _, hEnd⟩⟩
  · -- interrupted in the first loop
    exact ⟨key _ rfl rfl rfl rfl rfl rfl rfl (Or.inl ⟨hnadd, htg, Or.inr (Or.inr
        (v1_PhE_next (s := s) (s' := distSaved1 s g x) hv hE rfl rfl (rng := g.rng) rfl hcur))⟩),
      .early hnadd hnadd rfl (Nat.le_refl _) (fun _ hz => hz)⟩
  · -- interrupted in the second loop
    exact ⟨key _ rfl rfl rfl rfl rfl rfl rfl (Or.inl ⟨hnadd, htg, Or.inr (Or.inr
        (v1_PhE_next (s := s) (s' := distSaved2 s x z) hv hE rfl rfl (rng := z.rng) rfl hcur))⟩),
      .early hnadd hnadd rfl (Nat.le_refl _) (fun _ hz => hz)⟩
  · -- completed
    have hcl : s.claimablePayment = s.price * s.nrWinning := hE.claimable
    have hcl' : s.claimablePayment + s.price * z.additional = s.price * (s.nrWinning + z.additional) := by
      rw [hcl, Nat.mul_add]
    have hle : z.additional ≤ s.totalGuaranteed := by rw [hEnd.add]; exact Nat.min_le_left _ _
    refine ⟨key _ rfl rfl rfl rfl rfl rfl rfl (Or.inr ⟨rfl, ?_⟩),
      .done hnadd rfl rfl rfl (Nat.add_le_add_left hle _) hcl'⟩
    exact v1_handover (c := s.core) hE.started hE.filtered hE.selected hE.alloc
      (st' := z.status) (pi' := z.posToId) (n' := s.nrWinning + z.additional)
      (cl := s.claimablePayment + s.price * z.additional) hEnd.inv.count hcl'

end LP
