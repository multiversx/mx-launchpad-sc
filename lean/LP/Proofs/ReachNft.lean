import LP.Proofs.ReachNftWF
import LP.Props.C02
import LP.Proofs.PayOut
import LP.Proofs.ReachBEGen
import LP.Proofs.Frame
import LP.Proofs.Gate
/-
  `nf_WF` holds in every reachable state of `Variant.nft` (`nf_reach_WF`).  Preservation is proved
  endpoint by endpoint, in the order of a launch: the endpoints that neither loop over tickets nor
  claim (the setters, `sftSetup`, `deposit`, `setTicketPrice`, `setNftCost`, `addTickets`,
  `confirm`, `confirmNft`); `addUsersToBlacklist`; the three loops; `claim` and `claimPayment`;
  then the induction, and what LP/Props/C14reach.lean reads off the invariant.  What a call does to
  the fee ledger (`nf_confirmNft_side`, `nf_blacklist_side`, `nf_selectNft_cases`, `nf_claim_side`,
  `nf_claimPayment_side`, `nf_frozen_call`) is stated without `nf_WF` (from `nf_SideInv (nf_side s)`
  where the ledger is needed) and for any variant with the NFT hook: ReachNG and ReachNGFinal use it
  for `ng_WF` (all but `nf_selectNft_cases`: the draw of nftGuar runs inside `secondary`).
-/
namespace LP
open LP.FY LP.Events LP.Props.C14

/-- nothing is held for tickets: the contract holds at most the launchpad tokens -/
theorem nf_side_empty {s : State} (hs : nf_SideInv (nf_side s)) (hna : s.flags.additional = false)
    (hz : ∀ a, s.confirmed a = 0) {L : List Nat}
    (hpay : (nf_side s).tix = s.price * sumOver s.confirmed L) :
    (nf_side s).held = 0 ∧ ∀ t k, ¬ (t = .esdt s.lpTok ∧ k = 0) → s.bal t k = 0 :=
  hs.empty hna hz (by rw [hpay, sumOver_zero _ _ (fun a _ => hz a)]; rfl)

theorem nf_addTickets_bal0 {T0 : Nat} {s : State} {r : Nat} (h : nf_WF T0 s r) {n : Nat} (hr : r ≤ n)
    (hlt : n < s.cfg.conf) :
    (nf_side s).held = 0 ∧ ∀ t k, ¬ (t = .esdt s.lpTok ∧ k = 0) → s.bal t k = 0 := by
  have hns : s.flags.started = false := notStarted_of_lt h.tlStarted hr (Or.inl hlt)
  obtain ⟨hna, _, L0, hp, _⟩ := nf_phase_notStarted h.phase hns
  exact nf_side_empty h.side hna (h.tlConf (by omega)) hp.pay

theorem nf_admin {T0 : Nat} {hash : List Nat → List Nat} {s s' : State} {e : Env} {c : Call} {o : Out}
    {r : Nat} (hc : c.isAdmin = true) (h : nf_WF T0 s r) (hr : r ≤ e.round)
    (hs : step hash s e c = .ok (s', o)) : nf_WF T0 s' e.round := by
  obtain ⟨cfg', p, su, rfl, hcfg⟩ := step_admin hc hs
  exact h.frame rfl rfl rfl rfl h.side hcfg hr

theorem nf_sftSetup {T0 : Nat} {hash : List Nat → List Nat} {s s' : State} {e : Env} {o : Out}
    {r : Nat} (h : nf_WF T0 s r) (hr : r ≤ e.round)
    (hs : step hash s e .sftSetup = .ok (s', o)) : nf_WF T0 s' e.round := by
  obtain ⟨t, hx, rfl⟩ := step_np rfl hs
  simp only [exec, pure_ok_iff] at hx
  subst hx
  exact h.frame rfl rfl rfl rfl h.side (CfgMono.refl _ _) hr

theorem nf_setPerTicket {T0 : Nat} {hash : List Nat → List Nat} {s s' : State} {e : Env} {o : Out}
    {r a : Nat} (h : nf_WF T0 s r) (hr : r ≤ e.round)
    (hs : step hash s e (.setPerTicket a) = .ok (s', o)) : nf_WF T0 s' e.round := by
  obtain ⟨t, hx, rfl⟩ := step_np rfl hs
  rw [(exec_setPerTicket_s hx).1]
  exact h.frame rfl rfl rfl rfl h.side (CfgMono.refl _ _) hr

theorem nf_deposit {T0 : Nat} {hash : List Nat → List Nat} {s s' : State} {e : Env} {o : Out}
    {r : Nat} (h : nf_WF T0 s r) (hr : r ≤ e.round) (hok : EnvOK e)
    (hs : step hash s e .deposit = .ok (s', o)) : nf_WF T0 s' e.round := by
  obtain ⟨_, rfl⟩ := step_deposit hok hs
  have hbal : ∀ t n, ¬ (t = .esdt s.lpTok ∧ n = 0) →
      (s.bal.add (.esdt s.lpTok) 0 (s.perTicket * (s.nrWinning + reservedForDeposit s))) t n
        = s.bal t n := by
    intro t n ht; simp [Bal.add, ht]
  refine h.frame ?_ rfl rfl rfl (nf_SideInv_lpBal h.side h.tokNe _ hbal) (CfgMono.refl _ _) hr
  show ({ s.core with
      payBal := (s.bal.add (.esdt s.lpTok) 0 _) s.payTok 0 - (nf_side s).feeIn } : Core) = nf_core s
  rw [hbal _ _ (fun hh => h.tokNe hh.1)]; rfl

/-- a call accepted before the winner selection finds the launchpad in phase A, no NFT drawn -/
theorem nf_WF.phaseA {T0 : Nat} {s : State} {e : Env} {r : Nat} (h : nf_WF T0 s r) (hr : r ≤ e.round)
    (hst : s.stage e = .addTickets ∨ s.stage e = .confirm) :
    s.flags.started = false ∧ s.flags.additional = false ∧ s.nftWinners = [] ∧
    ∃ L0, Pre T0 (nf_core s) L0 ∧ PhA (nf_core s) L0 := by
  have hns : s.flags.started = false := notStarted_of_stage h.tlStarted hr hst
  obtain ⟨hna, hnsel, hL⟩ := nf_phase_notStarted h.phase hns
  exact ⟨hns, hna, h.side.noWin hnsel, hL⟩

/-- the owner sets the payment token, the price or the NFT fee: allowed in the first stage only,
    when the contract holds nothing but launchpad tokens, so the ticket part stays 0 -/
theorem nf_setTerms {T0 : Nat} {s : State} {e : Env} {r : Nat} (h : nf_WF T0 s r) (hr : r ≤ e.round)
    (hst : s.stage e = .addTickets) {tok : Token} {a : Nat} (c : Pay) (ha : 0 < a)
    (hne : tok ≠ .esdt s.lpTok) :
    nf_WF T0 { s with payTok := tok, price := a, nftCost := c } e.round := by
  have hlt : e.round < s.cfg.conf := rb_stage_addTickets hst
  have hz : ∀ a, s.confirmed a = 0 := h.tlConf (by omega)
  obtain ⟨hns, hna, _, L0, hp, hA⟩ := h.phaseA hr (Or.inl hst)
  obtain ⟨_, hb0⟩ := nf_addTickets_bal0 h hr hlt
  obtain ⟨hside, htix⟩ := nf_SideInv_terms
    (q := nf_side { s with payTok := tok, price := a, nftCost := c }) h.side hna hz hb0 hne rfl
  refine h.early rfl ha hne rfl hns (fun _ => hz) hside (L0 := L0) ?_ hA.setLedger
  show Pre T0 { nf_core s with
    price := a, payBal := (nf_side { s with payTok := tok, price := a, nftCost := c }).tix } L0
  rw [htix]
  exact hp.setPrice hz a

theorem nf_setTicketPrice {T0 : Nat} {hash : List Nat → List Nat} {s s' : State} {e : Env} {o : Out}
    {r a : Nat} {tok : Token} (h : nf_WF T0 s r) (hr : r ≤ e.round)
    (hs : step hash s e (.setTicketPrice tok a) = .ok (s', o)) : nf_WF T0 s' e.round := by
  obtain ⟨t, hx, rfl⟩ := step_np rfl hs
  obtain ⟨h1, h2, h3, _, h5⟩ := exec_setTicketPrice_s hx
  rw [h1]
  exact nf_setTerms h hr h2 s.nftCost h3 h5

theorem nf_setNftCost {T0 : Nat} {hash : List Nat → List Nat} {s s' : State} {e : Env} {o : Out}
    {r : Nat} {c : Pay} (h : nf_WF T0 s r) (hr : r ≤ e.round)
    (hs : step hash s e (.setNftCost c) = .ok (s', o)) : nf_WF T0 s' e.round := by
  obtain ⟨t, hx, rfl⟩ := step_np rfl hs
  obtain ⟨h1, h2, _⟩ := exec_setNftCost_s hx
  rw [h1]
  exact nf_setTerms h hr h2 c h.pricePos h.tokNe

/-- `hpos` is the `CallOK` restriction -/
theorem nf_addTickets {T0 : Nat} {hash : List Nat → List Nat} {s s' : State} {e : Env} {o : Out}
    {r : Nat} {l : List (Nat × Nat)} (h : nf_WF T0 s r) (hr : r ≤ e.round)
    (hpos : ∀ p ∈ l, 1 ≤ p.2)
    (hs : step hash s e (.addTickets l) = .ok (s', o)) : nf_WF T0 s' e.round := by
  obtain ⟨hst', hcm'⟩ := step_addTickets hs
  have hlt : e.round < s.cfg.conf := rb_stage_addTickets hst'
  have hz : ∀ a, s.confirmed a = 0 := h.tlConf (by omega)
  obtain ⟨hns, _, _, L0, hp, ha⟩ := h.phaseA hr (Or.inl hst')
  obtain ⟨hp', ha'⟩ := hp.createMany ha rfl rfl rfl hz hpos hcm' hp.nrw
  obtain ⟨rg, bt, lt, rfl⟩ := (createMany_ok l s s' hcm').2.2.2.2.2.2.2
  exact h.early rfl h.pricePos h.tokNe rfl hns (fun _ => hz) h.side hp' ha'

theorem nf_confirm {T0 : Nat} {hash : List Nat → List Nat} {s s' : State} {e : Env} {o : Out}
    {r n : Nat} (h : nf_WF T0 s r) (hr : r ≤ e.round) (hok : EnvOK e)
    (hs : step hash s e (.confirm n) = .ok (s', o)) : nf_WF T0 s' e.round := by
  obtain ⟨total, ⟨_, _, hst, _, _, htix, hle⟩, rfl⟩ := step_confirm hok hs
  obtain ⟨hc1, hc2⟩ := rb_stage_confirm hst
  obtain ⟨hns, _, _, L0, hp, ha⟩ := h.phaseA hr (Or.inr hst)
  obtain ⟨hin, hout⟩ := hp.confirm_bound ha rfl rfl htix hle
  obtain ⟨hside, htx⟩ := nf_SideInv_payIn h.side (Y := s.price * n) e.caller n rfl
  refine h.early rfl h.pricePos h.tokNe rfl hns ?_ hside (L0 := L0) ?_ ha.setLedger
  · intro hlt; exfalso; have : e.round < s.cfg.conf := hlt; omega
  · have := hp.confirm hin hout
    rw [show (nf_core s).payBal + (nf_core s).price * n = _ from htx.symm] at this
    exact this

/-- storage after an accepted fee payment -/
def nf_cnState (s : State) (a : Nat) : State :=
  { s with bal := s.bal.add s.nftCost.tok s.nftCost.nonce s.nftCost.amount,
           payers := s.payers ++ [a] }

/-- an accepted fee payment before the filter has started (nobody drawn, nobody settled): the fee
    ledger is kept and the ticket part of the holdings is untouched -/
theorem nf_confirmNft_side {hash : List Nat → List Nat} {s s' : State} {e : Env} {o : Out}
    (hs0 : nf_SideInv (nf_side s))
    (hearly : e.round < s.cfg.sel → s.flags.additional = false ∧ s.nftWinners = []) (hok : EnvOK e)
    (hs : step hash s e .confirmNft = .ok (s', o)) :
    (s.cfg.conf ≤ e.round ∧ e.round < s.cfg.sel) ∧ s' = nf_cnState s e.caller ∧
    nf_SideInv (nf_side s') ∧ nf_core s' = nf_core s := by
  obtain ⟨hacc, rfl, _⟩ := confirmNft_effect hash s e s' o hs
  have hbal := confirmNft_holdings s e hacc hok
  obtain ⟨_, hst, _, hcpos, hnotin, _⟩ := hacc
  obtain ⟨hc1, hc2⟩ := rb_stage_confirm hst
  obtain ⟨hna, hw0⟩ := hearly hc2
  have hcp : ({ creditPayments s e with payers := s.payers ++ [e.caller] } : State)
      = nf_cnState s e.caller := by
    have : creditPayments s e = { s with bal := (creditPayments s e).bal } := rfl
    rw [this, hbal]
    rfl
  rw [hcp]
  obtain ⟨hside, htix⟩ := nf_SideInv_feeIn (q := nf_side (nf_cnState s e.caller)) hs0 hna hw0 hnotin
    hcpos rfl
  refine ⟨⟨hc1, hc2⟩, rfl, hside, ?_⟩
  show ({ s.core with payBal := (nf_side (nf_cnState s e.caller)).tix } : Core) = _
  rw [htix]; rfl

theorem nf_confirmNft {T0 : Nat} {hash : List Nat → List Nat} {s s' : State} {e : Env} {o : Out}
    {r : Nat} (h : nf_WF T0 s r) (hr : r ≤ e.round) (hok : EnvOK e)
    (hs : step hash s e .confirmNft = .ok (s', o)) : nf_WF T0 s' e.round := by
  obtain ⟨_, rfl, hside, hcore⟩ := nf_confirmNft_side h.side (fun hlt =>
    have he := nf_early_side h (notStarted_of_lt h.tlStarted hr (Or.inr hlt))
    ⟨he.1, he.2.2⟩) hok hs
  exact h.frame hcore rfl rfl rfl hside (CfgMono.refl _ _) hr

end LP

/-
  `nf_WF` is preserved by `addUsersToBlacklist` of `Variant.nft`:
  the ticket payments of the listed users are refunded and, for those who had paid the NFT fee,
  the fee as well (`refundNftMany`); both ledgers move by exactly the refunded amounts.
-/
namespace LP
open LP.FY LP.Events LP.Props.C14

/-- the fee refunds of a blacklisting, after the ticket refunds `blState` (`t2` differs from
    `blState s l` at most outside the side projection): before the filter starts (nobody drawn,
    nobody settled) the ticket part loses exactly the ticket refunds, the fee liability the refunded
    fees, and the listed users leave `payers` -/
theorem nf_blacklist_side {s : State} {l : List Nat} {t2 t3 : Tx} (hs0 : nf_SideInv (nf_side s))
    (hne : s.payTok ≠ .esdt s.lpTok) (hna : s.flags.additional = false) (hw0 : s.nftWinners = [])
    (hnd : l.Nodup) (hX : s.price * blConfSum s l ≤ (nf_side s).tix)
    (ht2 : nf_side t2.s = nf_side (blState s l)) (h2 : refundNftMany l t2 = .ok t3) :
    ∃ P B, t3.s = { t2.s with payers := P, bal := B } ∧
      nf_SideInv { nf_side s with bal := B, payers := P, confirmed := (blState s l).confirmed } ∧
      ({ nf_side s with bal := B, payers := P, confirmed := (blState s l).confirmed } : nf_Side).tix
        = (nf_side s).tix - s.price * blConfSum s l ∧
      ∀ t n, B t n = s.bal t n - (if t = s.payTok ∧ n = 0 then s.price * blConfSum s l else 0)
        - (if t = s.nftCost.tok ∧ n = s.nftCost.nonce
            then s.nftCost.amount * s.payers.length - s.nftCost.amount * P.length else 0) := by
  obtain ⟨P, B, hshape⟩ := (Events.refundNftMany_frame l _ _ h2).1
  have hP2 : t2.s.payers = s.payers := congrArg nf_Side.payers ht2
  have hC2 : t2.s.nftCost = s.nftCost := congrArg nf_Side.cost ht2
  have hB2 : t2.s.bal = s.bal.sub s.payTok 0 (s.price * blConfSum s l) := congrArg nf_Side.bal ht2
  obtain ⟨a1, a2, _, _, _, _, a7⟩ := refundNftMany_recon l h2
  obtain ⟨_, hPnd, hPmem, _⟩ := refundNftMany_exact l _ _ (by rw [hP2]; exact hs0.nodupP) hnd h2
  have hP3 : t3.s.payers = P := by rw [hshape]
  have hB3 : t3.s.bal = B := by rw [hshape]
  rw [hP3, hB3, hP2, hC2, hB2] at a1
  rw [hP3, hP2] at a2 hPmem
  rw [hP3] at hPnd
  rw [hB3, hC2, hB2] at a7
  have hmul : s.nftCost.amount * P.length ≤ s.nftCost.amount * s.payers.length :=
    Nat.mul_le_mul_left _ a2
  have hB : ∀ t n, B t n = s.bal t n - (if t = s.payTok ∧ n = 0 then s.price * blConfSum s l else 0)
      - (if t = s.nftCost.tok ∧ n = s.nftCost.nonce
          then s.nftCost.amount * s.payers.length - s.nftCost.amount * P.length else 0) := by
    intro t n
    by_cases hf : t = s.nftCost.tok ∧ n = s.nftCost.nonce
    · rw [if_pos hf, hf.1, hf.2]
      rw [Bal.sub_apply] at a1
      omega
    · rw [if_neg hf, a7 t n hf, Bal.sub_apply]; rfl
  refine ⟨P, B, hshape, and_assoc.mp ⟨nf_SideInv_move (X := s.price * blConfSum s l)
    (δ := s.nftCost.amount * s.payers.length - s.nftCost.amount * P.length) hs0 hne rfl hX ?_
    (fun t n _ => hB t n) hPnd hs0.nodupW ?_ hs0.winLe ?_ hs0.fresh ?_ hs0.noWin, hB⟩⟩
  · rw [nf_held_of_not_done (p := nf_side s) hna, nf_held_of_not_done (by exact hna)]
    show s.nftCost.amount * (P.length + s.nftWinners.length) + _
      = s.nftCost.amount * (s.payers.length + s.nftWinners.length)
    rw [hw0]
    show s.nftCost.amount * P.length + _ = s.nftCost.amount * s.payers.length
    omega
  · intro a _
    show a ∉ s.nftWinners
    rw [hw0]; exact List.not_mem_nil
  · intro a ha
    show 0 < (if a ∈ l then 0 else s.confirmed a)
    have ha' : a ∈ P ∨ a ∈ s.nftWinners := ha
    rcases ha' with ha' | ha'
    · obtain ⟨m1, m2⟩ := (hPmem a).mp ha'
      rw [if_neg m2]
      exact hs0.conf a (Or.inl m1)
    · rw [hw0] at ha'; cases ha'
  · intro a hcl
    have hcl' : s.claimed a = true := hcl
    have : s.claimed a = false := hs0.fresh hna a
    rw [this] at hcl'; cases hcl'

/-- an accepted `blacklist` of a launchpad with NFT draw, on the state: the ticket refunds
    (`blState`), the guaranteed-ticket hook (`GHook`; the identity for `Variant.nft`), then the fee
    refunds of `refundNftMany` -/
theorem exec_blacklist_nft {hash : List Nat → List Nat} {t t' : Tx} {e : Env} {l : List Nat}
    (hn : t.s.variant.hasNft = true) (h : exec hash t e (.blacklist l) = .ok t') :
    addUsersToBlacklist t e l = .ok (blTx t e l) ∧
    ∃ t2 t3, GHook l (blState t.s l) t2.s ∧
      (t.s.variant.isV2 = false → t.s.variant.v1Alloc = false → t2.s = blState t.s l) ∧
      refundNftMany l t2 = .ok t3 ∧ t'.s = t3.s := by
  rw [exec_blacklist_eq] at h
  simp only [bind_ok_iff, pure_ok_iff] at h
  obtain ⟨t1, h1, t2, h2, t3, h3, rfl⟩ := h
  have h1' := h1
  obtain ⟨_, _, _, _, _, rfl⟩ := (addUsersToBlacklist_ok_iff _ _ _ _).mp h1
  refine ⟨h1', ?_⟩
  have hv1 : (blTx t e l).s.variant = t.s.variant := rfl
  have hg : GHook l (blState t.s l) t2.s ∧
      (t.s.variant.isV2 = false → t.s.variant.v1Alloc = false → t2.s = blState t.s l) := by
    unfold blHookG at h2
    rw [hv1] at h2
    split at h2
    · rename_i hq
      simp only [bind_ok_iff, pure_ok_iff] at h2
      obtain ⟨s2, hs2, rfl⟩ := h2
      exact ⟨clearGuaranteedV2_frame hs2, fun hf => absurd (hf.symm.trans hq) nofun⟩
    · split at h2
      · rename_i hq
        simp only [bind_ok_iff, pure_ok_iff] at h2
        obtain ⟨s2, hs2, rfl⟩ := h2
        exact ⟨clearGuaranteedV1_frame hs2, fun _ hf => absurd (hf.symm.trans hq) nofun⟩
      · simp only [pure_ok_iff] at h2
        subst h2
        exact ⟨⟨⟨_, _, _, _, _, rfl⟩, fun _ _ => ⟨rfl, rfl⟩⟩, fun _ _ => rfl⟩
  obtain ⟨hg, hid⟩ := hg
  have hv2 : t2.s.variant = t.s.variant := by
    obtain ⟨⟨_, _, _, _, _, hs⟩, _⟩ := hg
    rw [hs]; rfl
  unfold blHookN at h3
  rw [hv2, hn, if_pos rfl] at h3
  refine ⟨t2, t3, hg, hid, h3, ?_⟩
  unfold blHookE
  split <;> rfl

theorem nf_blacklist {T0 : Nat} {hash : List Nat → List Nat} {s s' : State} {e : Env} {o : Out}
    {r : Nat} {l : List Nat} (h : nf_WF T0 s r) (hr : r ≤ e.round)
    (hs : step hash s e (.blacklist l) = .ok (s', o)) : nf_WF T0 s' e.round := by
  obtain ⟨t, hx, rfl⟩ := step_np rfl hs
  obtain ⟨_, hv1, hv3, hv2, _⟩ := nf_flags h.var
  obtain ⟨h1, t1, t2, _, hid, h2, ht2⟩ := exec_blacklist_nft (t := rbTx s e) hv1 hx
  obtain ⟨_, hstage, hnd, hall, hle, _⟩ := (addUsersToBlacklist_ok_iff _ _ _ _).mp h1
  have ht1 : t1.s = blState s l := hid hv3 hv2
  rw [ht2]
  simp only [rbTx_s] at hstage hall
  obtain ⟨hns, hna, hw0, L0, hp, ha⟩ := h.phaseA hr hstage
  have hall' := fun u hu => (hall u hu).2
  obtain ⟨P, B, hs', hside, htix, _⟩ :=
    nf_blacklist_side h.side h.tokNe hna hw0 hnd (hp.blacklist_le hnd hall') (congrArg nf_side ht1) h2
  have hs'' : t2.s = { blState s l with payers := P, bal := B } := ht1 ▸ hs'
  rw [hs'']
  refine h.early rfl h.pricePos h.tokNe rfl hns ?_ hside (L0 := L0) ?_ ha.setLedger
  · intro hlt
    exact ite_mem_zero (h.tlConf (by have : e.round < s.cfg.conf := hlt; omega))
  · have := hp.blacklist hnd hall'
    rw [show (nf_core s).payBal - (nf_core s).price * (l.map (nf_core s).confirmed).sum = _
      from htix.symm] at this
    exact this

end LP

/-
  `nf_WF` is preserved by `filterTickets`, by the base lottery `selectWinners` and by the NFT
  draw `selectNftWinners` (each interrupted or completed, from a fresh or a saved loop state).
  `flags.additional` stays `false` until the draw completes.
-/
namespace LP
open LP.FY LP.Props.C14

theorem nf_filter {T0 : Nat} {hash : List Nat → List Nat} {s s' : State} {e : Env} {o : Out}
    {r : Nat} (h : nf_WF T0 s r)
    (hs : step hash s e .filter = .ok (s', o)) : nf_WF T0 s' e.round := by
  obtain ⟨t, hx, rfl⟩ := step_np rfl hs
  have hnf : s.flags.filtered = false := (filterTickets_inv _ _ _ hx).1.notFiltered
  obtain ⟨hna, hnsel, hph⟩ := nf_phase_notFiltered h.phase hnf
  obtain ⟨L0, hp, hab⟩ := rb_phase_notFiltered hph hnf
  obtain ⟨hpre, x, f, _, _, hcase⟩ := phase_filter (rbTx_s s e) hp hab hx
  obtain ⟨_, hfs, hfa⟩ := rb_filterFlags s x.first
  have hc := rb_stage_winnerSelection hpre.stage
  -- the filter writes no field of the fee ledger but the (unchanged) flags
  have hside : ∀ s1 : State, nf_side s1 = { nf_side s with
      additional := (filterFlags s x.first).additional, selected := (filterFlags s x.first).selected } →
      nf_side s1 = nf_side s := fun s1 h1 => by rw [h1, hfa, hfs]; rfl
  rcases hcase with ⟨hs', hp', hb'⟩ | ⟨hs', hc'⟩ <;> rw [hs']
  · have hsd := hside (filterSaved s x f) rfl
    refine h.late rfl rfl rfl rfl hc (by rw [hsd]; exact h.side) ?_
    rw [nf_core_eq hsd]
    exact Or.inl ⟨hfa.trans hna, hfs.trans hnsel, Or.inl ⟨L0, hp', Or.inr hb'⟩⟩
  · have hsd := hside (filterDone s x f) rfl
    refine h.late rfl rfl rfl rfl hc (by rw [hsd]; exact h.side) ?_
    rw [nf_core_eq hsd]
    exact Or.inl ⟨hfa.trans hna, hfs.trans hnsel, Or.inr (Or.inl hc')⟩

/-- the two outcomes of an accepted `selectWinners`, with the lottery invariant `R` of the final
    loop state -/
theorem nf_select_cases {T0 : Nat} {hash : List Nat → List Nat} {s s' : State} {e : Env} {o : Out}
    {r : Nat} (h : nf_WF T0 s r) (hs : step hash s e .select = .ok (s', o)) :
    s.stage e = .winnerSelection ∧ s.flags.additional = false ∧ PhC T0 (nf_core s) ∧ ∃ x : SelSt,
      (s' = selInt s x ∧ 1 ≤ x.pos ∧ x.pos ≤ s.nrWinning ∧
        ∃ arr, R s.lastTicketId x.pos x.status x.posToId arr) ∨
      (s' = selDone s x ∧ ∃ arr, R s.lastTicketId (s.nrWinning + 1) x.status x.posToId arr) := by
  obtain ⟨t, hx, rfl⟩ := step_np rfl hs
  obtain ⟨hstage, hfil, hnsel, _⟩ := rb_selectWinners_cases hx
  obtain ⟨hna, hph⟩ := nf_phase_early h.phase hnsel
  have hC : PhC T0 (nf_core s) := rb_phase_C hph hfil hnsel
  exact ⟨hstage, hna, hC, select_cases (rbTx_s s e) hC.nrw_le hC.sel hx⟩

theorem nf_select {T0 : Nat} {hash : List Nat → List Nat} {s s' : State} {e : Env} {o : Out}
    {r : Nat} (h : nf_WF T0 s r)
    (hs : step hash s e .select = .ok (s', o)) : nf_WF T0 s' e.round := by
  obtain ⟨hstage, hna, hC, x, hcase⟩ := nf_select_cases h hs
  have hc := rb_stage_winnerSelection hstage
  rcases hcase with ⟨rfl, p1, p2, arr, hR⟩ | ⟨rfl, arr, hR⟩
  · exact h.late rfl rfl rfl rfl hc h.side
      (Or.inl ⟨hna, hC.notSelected, Or.inr (Or.inl (hC.selInt p1 p2 hR))⟩)
  · -- both ledger equations hold until the draw completes
    obtain ⟨Ls, hA⟩ := hC.Alloc
    exact h.late rfl rfl rfl rfl hc (nf_SideInv_selected h.side)
      (Or.inr (Or.inl ⟨hna, (rb_handover hC hR).1, Or.inl rfl, Ls.map Prod.fst, hA.nodup, hA.covers,
        hA.pay⟩))

theorem nf_select_completion {T0 : Nat} {hash : List Nat → List Nat} {s s' : State} {e : Env} {o : Out}
    {r : Nat} (h : nf_WF T0 s r) (hs : step hash s e .select = .ok (s', o))
    (hsel : s'.flags.selected = true) :
    countTrue s'.status s'.lastTicketId = s'.nrWinning ∧
    s'.nrWinning = min T0 s'.lastTicketId ∧
    s'.claimablePayment = s'.price * s'.nrWinning ∧
    (∀ t, s'.status t = true → 1 ≤ t ∧ t ≤ s'.lastTicketId) := by
  obtain ⟨_, _, hC, x, hcase⟩ := nf_select_cases h hs
  rcases hcase with ⟨rfl, _⟩ | ⟨rfl, arr, hR⟩
  · exact absurd (hC.notSelected.symm.trans hsel) nofun
  · obtain ⟨_, h1, h2⟩ := rb_handover (c := nf_core s) hC (st' := x.status) (pi' := x.posToId) hR
    exact ⟨h1, hC.nrw, rfl, h2⟩

/-- `PhD` does not read the `additional` flag nor (beyond being `none`) the saved operation -/
theorem nf_PhD_flags {c : Core} (h : PhD c) (f : Flags) (h1 : f.started = c.flags.started)
    (h2 : f.filtered = c.flags.filtered) (h3 : f.selected = c.flags.selected) :
    PhD { c with flags := f, op := .none } :=
  ⟨h1.trans h.started, h2.trans h.filtered, h3.trans h.selected, rfl, h.rngOk, h.rngNone, h.disj, h.led⟩

theorem nf_selectNft_cases {hash : List Nat → List Nat} {s : State} {e : Env} {t : Tx}
    (hx : exec hash (rbTx s e) e .selectNft = .ok t)
    (hok : NftOk s) (hle : s.nftWinners.length ≤ s.availNfts) :
    s.stage e = .winnerSelection ∧ s.flags.selected = true ∧ s.flags.additional = false ∧
    ∃ P W, NftOk { s with payers := P, nftWinners := W } ∧ W.length ≤ s.availNfts ∧
      P.length + W.length = s.payers.length + s.nftWinners.length ∧
      (∀ a, (a ∈ P ∨ a ∈ W) ↔ (a ∈ s.payers ∨ a ∈ s.nftWinners)) ∧
      s.nftWinners <+: W ∧
      ((∃ rng, t.s = nf_drawInt s P W rng ∧ t.o.ret = [1]) ∨
       (t.s = nf_drawDone s P W ∧ t.o.ret = [0] ∧
        W.length = min s.availNfts (s.payers.length + s.nftWinners.length))) := by
  simp only [exec] at hx
  obtain ⟨hst, hsel, hadd, t0, rng, h0, htail⟩ := selectNft_tail hx
  simp only [rbTx_s] at hst hsel hadd h0
  obtain ⟨P, W, h1, h2, h3, h4, h5, hcase⟩ := ng_tail_shape hok hle h0 htail
  exact ⟨hst, hsel, hadd, P, W, h1, h2, h3, h4, h5, hcase.symm⟩

theorem nf_selectNft {T0 : Nat} {hash : List Nat → List Nat} {s s' : State} {e : Env} {o : Out}
    {r : Nat} (h : nf_WF T0 s r)
    (hs : step hash s e .selectNft = .ok (s', o)) : nf_WF T0 s' e.round := by
  obtain ⟨t, hx, rfl⟩ := step_np rfl hs
  have hs0 := h.side
  obtain ⟨hstage, hsel, hadd, P, W, hokPW, hWle, hlen, hun, _, hcase⟩ :=
    nf_selectNft_cases hx ⟨hs0.nodupP, hs0.nodupW, hs0.disj⟩ hs0.winLe
  have hok' : NftOk { s with payers := P, nftWinners := W } := hokPW
  have hc := rb_stage_winnerSelection hstage
  obtain ⟨hD, _, L, hLnd, hLsupp, hLpay⟩ := nf_phase_mid h.phase hsel hadd
  have hdraw := fun q => nf_SideInv_draw (q := q) (P := P) (W := W) hs0 hadd hsel hok'.nodupP hok'.nodupW
    hok'.disj hWle hlen hun
  rcases hcase with ⟨rng, hs', _⟩ | ⟨hs', _, _⟩ <;> rw [hs']
  · obtain ⟨hside, htix⟩ := hdraw (nf_side (nf_drawInt s P W rng)) (Or.inl rfl)
    refine h.late rfl rfl rfl rfl hc hside (Or.inr (Or.inl ?_))
    unfold nf_core
    rw [htix]
    exact ⟨hadd, hD, Or.inr ⟨rng, rfl⟩, L, hLnd, hLsupp, hLpay⟩
  · obtain ⟨hside, htix⟩ := hdraw (nf_side (nf_drawDone s P W)) (Or.inr rfl)
    refine h.late rfl rfl rfl rfl hc hside (Or.inr (Or.inr ?_))
    unfold nf_core
    rw [htix]
    exact ⟨rfl, nf_PhD_flags hD { s.flags with additional := true } rfl rfl rfl⟩

end LP

/-
  Preservation of `nf_WF` by a participant's settlement (`claim` = common claim + `claimNft`) and
  by the owner's withdrawal (`claimPayment` = common withdrawal + `claimNftPayment`) of
  `Variant.nft`.
-/
namespace LP
open LP.FY LP.Props.C09 LP.Props.C14

/-- storage after a settlement of `a` (range `r`) that left lists `P`, `W` and balances `B` -/
def nf_claimState (s : State) (a : Nat) (r : Range) (P W : List Nat) (B : Bal) : State :=
  { settledState s a r with payers := P, nftWinners := W, bal := B }

/-- the fee refund of a claim: the full fee for category 2, nothing otherwise -/
def nf_delta (s : State) (a : Nat) : Nat := if nftCategory s a = 2 then s.nftCost.amount else 0

/-- an accepted `claim` of a variant with the NFT hook, as a state transformer -/
theorem nf_claim_shape (hash : List Nat → List Nat) (s : State) (e : Env) (s' : State) (o : Out)
    (hn : s.variant.hasNft = true) (h : step hash s e .claim = .ok (s', o)) :
    ∃ r, ClaimAccepts s e r ∧
      nf_delta s e.caller ≤ (balAfterClaim s e.caller) s.nftCost.tok s.nftCost.nonce ∧
      s' = nf_claimState s e.caller r
        (if nftCategory s e.caller = 2 then (swapRemove s.payers e.caller).1 else s.payers)
        (swapRemove s.nftWinners e.caller).1
        ((balAfterClaim s e.caller).sub s.nftCost.tok s.nftCost.nonce (nf_delta s e.caller)) := by
  obtain ⟨r, hacc, _, hbal, rfl⟩ := claim_nft_state hash s e s' o hn h
  refine ⟨r, hacc, ?_, ?_⟩
  · unfold nf_delta
    split
    · rename_i h2c; exact hbal h2c
    · exact Nat.zero_le _
  · unfold nf_claimState nf_delta
    rfl

theorem nf_claim_lists {P W : List Nat} (a : Nat) (hP : P.Nodup) (hW : W.Nodup) (cat2 : Prop) [Decidable cat2] (hc : cat2 ↔ a ∈ P) :
    let P' := if cat2 then (swapRemove P a).1 else P
    let W' := (swapRemove W a).1
    P'.Nodup ∧ W'.Nodup ∧ (∀ x, x ∈ P' ↔ x ∈ P ∧ x ≠ a) ∧ (∀ x, x ∈ W' ↔ x ∈ W ∧ x ≠ a) ∧
    W'.length ≤ W.length ∧ (cat2 → P'.length + 1 = P.length) ∧ (¬ cat2 → P' = P) := by
  intro P' W'
  have hWm : ∀ x, x ∈ W' ↔ x ∈ W ∧ x ≠ a := fun x => mem_swapRemove a x hW
  have hWl : W'.length ≤ W.length := by
    by_cases hm : a ∈ W
    · have := Nat.eq_sub_of_add_eq (swapRemove_length hm)
      show (swapRemove W a).1.length ≤ _
      omega
    · show (swapRemove W a).1.length ≤ _
      rw [swapRemove_not_mem hm]; exact Nat.le_refl _
  by_cases h2 : cat2
  · have hm : a ∈ P := hc.mp h2
    have hP' : P' = (swapRemove P a).1 := if_pos h2
    refine ⟨by rw [hP']; exact swapRemove_nodup a hP, swapRemove_nodup a hW, ?_, hWm, hWl, ?_,
      fun hh => absurd h2 hh⟩
    · intro x; rw [hP']; exact mem_swapRemove a x hP
    · intro _
      rw [hP', Nat.eq_sub_of_add_eq (swapRemove_length hm)]
      have := List.length_pos_of_mem hm
      omega
  · have hm : a ∉ P := fun hh => h2 (hc.mpr hh)
    have hP' : P' = P := if_neg h2
    refine ⟨by rw [hP']; exact hP, swapRemove_nodup a hW, ?_, hWm, hWl, fun hh => absurd hh h2,
      fun _ => hP'⟩
    intro x; rw [hP']
    exact ⟨fun hx => ⟨hx, fun hxa => hm (hxa ▸ hx)⟩, fun hx => hx.1⟩

/-- an accepted settlement of a variant with the NFT hook (everything is complete then): the fee
    ledger and the ticket ledger after it.  The ticket part loses the ticket refund, the fee
    liability the fee refund `nf_delta`; the caller leaves both NFT lists. -/
theorem nf_claim_side {hash : List Nat → List Nat} {s s' : State} {e : Env} {o : Out}
    (hn : s.variant.hasNft = true) (hne : s.payTok ≠ .esdt s.lpTok) (hs0 : nf_SideInv (nf_side s))
    (hph : s.flags.additional = true → PhD (nf_core s))
    (hs : step hash s e .claim = .ok (s', o)) :
    ∃ rg P W, ClaimAccepts s e rg ∧
      s' = nf_claimState s e.caller rg P W
        ((balAfterClaim s e.caller).sub s.nftCost.tok s.nftCost.nonce (nf_delta s e.caller)) ∧
      nf_SideInv (nf_side s') ∧ PhD (nf_core s') := by
  obtain ⟨rg, hacc, _, rfl⟩ := nf_claim_shape hash s e s' o hn hs
  have hst : s.stage e = .claim := hacc.2.2.1
  have hrg : s.range e.caller = some rg := hacc.2.2.2.2.1
  obtain ⟨⟨hsel, hadd⟩, _⟩ := stage_claim_iff.mp hst
  have hD : PhD (nf_core s) := hph hadd
  have hok : NftOk s := ⟨hs0.nodupP, hs0.nodupW, hs0.disj⟩
  obtain ⟨l1, l2, l3, l4, l5, l6, l7⟩ :=
    nf_claim_lists (P := s.payers) (W := s.nftWinners) e.caller hs0.nodupP hs0.nodupW
      (nftCategory s e.caller = 2) (nftCategory_iff s e.caller hok).2.1
  obtain ⟨P', hP'⟩ : ∃ P', P' = (if nftCategory s e.caller = 2 then (swapRemove s.payers e.caller).1
    else s.payers) := ⟨_, rfl⟩
  obtain ⟨W', hW'⟩ : ∃ W', W' = (swapRemove s.nftWinners e.caller).1 := ⟨_, rfl⟩
  obtain ⟨X, hX⟩ : ∃ X, X = s.price * (s.confirmed e.caller - winCount s e.caller) := ⟨_, rfl⟩
  rw [← hP'] at l1 l3 l6 l7
  rw [← hW'] at l2 l4 l5
  rw [← hP', ← hW']
  have hw : winCount s e.caller = countWinning s.status rg.first (rangeLen rg) := winCount_of_range hrg
  -- the fee liability drops by the refund
  have hheld' : (nf_side (nf_claimState s e.caller rg P' W'
      ((balAfterClaim s e.caller).sub s.nftCost.tok s.nftCost.nonce (nf_delta s e.caller)))).held
        + nf_delta s e.caller = (nf_side s).held := by
    rw [nf_held_of_done (p := nf_side s) hadd, nf_held_of_done (by exact hadd)]
    show s.claimableNft + s.nftCost.amount * P'.length + _ = s.claimableNft + s.nftCost.amount * s.payers.length
    unfold nf_delta
    by_cases h2c : nftCategory s e.caller = 2
    · rw [if_pos h2c, ← l6 h2c, Nat.mul_add]; omega
    · rw [if_neg h2c, l7 h2c]; omega
  -- the ticket refund is covered by the ticket part
  have hXle : X ≤ (nf_side s).tix := by
    obtain ⟨L, _, hsupp, hpost, _⟩ := hD.led
    have hpost' : (nf_side s).tix = s.claimablePayment + sumOver (dueC (nf_core s)) L := hpost
    by_cases hc0 : s.confirmed e.caller = 0
    · rw [hX, hc0]; simp
    · have hle := rb_le_sumOver (dueC (nf_core s)) L e.caller (hsupp e.caller hc0)
      have hdue : dueC (nf_core s) e.caller = X := by
        have hwo : winOf (nf_core s).range (nf_core s).status e.caller
            = countWinning s.status rg.first (rangeLen rg) := by
          show winOf s.range s.status e.caller = _
          simp only [winOf, hrg]
        have : (nf_core s).range e.caller = some rg := hrg
        simp only [dueC, this]
        rw [hwo, hX, hw]
        rfl
      omega
  obtain ⟨hside, htix⟩ := nf_SideInv_move (X := X) (δ := nf_delta s e.caller) hs0 hne
    (q := nf_side (nf_claimState s e.caller rg P' W'
      ((balAfterClaim s e.caller).sub s.nftCost.tok s.nftCost.nonce (nf_delta s e.caller)))) rfl hXle hheld'
    (fun t n hlp => by
      show ((balAfterClaim s e.caller).sub s.nftCost.tok s.nftCost.nonce (nf_delta s e.caller)) t n = _
      unfold balAfterClaim
      rw [Bal.sub_apply, Bal.sub_apply, Bal.sub_apply,
        if_neg (show ¬ (t = Token.esdt s.lpTok ∧ n = 0) from hlp), Nat.sub_zero, hX]
      rfl)
    l1 l2 (fun a ha hw' => hs0.disj a ((l3 a).mp ha).1 ((l4 a).mp hw').1) (Nat.le_trans l5 hs0.winLe)
    (fun a ha => by
      show 0 < upd s.confirmed e.caller 0 a
      have hne : a ≠ e.caller := by
        rcases ha with h1 | h1
        · exact ((l3 a).mp h1).2
        · exact ((l4 a).mp h1).2
      rw [upd_other _ _ _ _ hne]
      rcases ha with h1 | h1
      · exact hs0.conf a (Or.inl ((l3 a).mp h1).1)
      · exact hs0.conf a (Or.inr ((l4 a).mp h1).1))
    (fun hq => by have hq' : s.flags.additional = false := hq; rw [hadd] at hq'; cases hq')
    (fun a hcl => by
      have hcl' : upd s.claimed e.caller true a = true := hcl
      by_cases hae : a = e.caller
      · subst hae
        exact ⟨fun hh => ((l3 _).mp hh).2 rfl, fun hh => ((l4 _).mp hh).2 rfl⟩
      · rw [upd_other _ _ _ _ hae] at hcl'
        obtain ⟨c1, c2⟩ := hs0.claimedOut a hcl'
        exact ⟨fun hh => c1 ((l3 a).mp hh).1, fun hh => c2 ((l4 a).mp hh).1⟩)
    (fun hq => by have hq' : s.flags.selected = false := hq; rw [hsel] at hq'; cases hq')
  refine ⟨rg, P', W', hacc, rfl, hside, ?_⟩
  -- the ticket ledger
  have hcw := (rb_clearRange_spec (nf_core s).status (nf_core s).posToId rg.first (rangeLen rg)).2.2
  have hD' := rb_claim_phase (c := nf_core s) hD (a := e.caller) (r := rg) hrg
    (bt := upd s.batch rg.first none) (pb := (nf_side s).tix - X) (by
      rw [hcw, hX, hw]; rfl)
  unfold claimCore at hD'
  rw [hcw] at hD'
  unfold nf_core
  rw [htix]
  exact hD'

theorem nf_claim {T0 : Nat} {hash : List Nat → List Nat} {s s' : State} {e : Env} {o : Out}
    {r : Nat} (h : nf_WF T0 s r)
    (hs : step hash s e .claim = .ok (s', o)) : nf_WF T0 s' e.round := by
  obtain ⟨rg, P, W, hacc, rfl, hside, hD'⟩ :=
    nf_claim_side (nf_flags h.var).2.1 h.tokNe h.side (nf_phase_done h.phase) hs
  have hst := hacc.2.2.1
  obtain ⟨⟨_, hadd⟩, hc1, hc2, _⟩ := stage_claim_iff.mp hst
  exact h.late rfl rfl rfl rfl ⟨hc1, hc2⟩ hside (Or.inr (Or.inr ⟨hadd, hD'⟩))

def nf_cpState (s : State) (B : Bal) (cp cn : Nat) : State :=
  { s with bal := B, claimablePayment := cp, claimableNft := cn }

/-- an accepted owner's withdrawal of a variant with the NFT hook, exactly: the common part
    (`b`: proceeds out of the payment slot, surplus out of the launchpad-token slot), then the NFT
    proceeds out of the fee slot -/
theorem nf_claimPayment_exact {hash : List Nat → List Nat} {s : State} {e : Env} {t : Tx}
    (hn : s.variant.hasNft = true) (hne : s.payTok ≠ .esdt s.lpTok)
    (hx : exec hash (rbTx s e) e .claimPayment = .ok t) :
    s.stage e = .claim ∧ s.claimablePayment ≤ s.bal s.payTok 0 ∧
    s.perTicket * s.nrWinning ≤ s.bal (.esdt s.lpTok) 0 ∧
    ∃ b : Bal, t.s = nf_cpState s (b.sub s.nftCost.tok s.nftCost.nonce s.claimableNft) 0 0 ∧
      b s.payTok 0 = s.bal s.payTok 0 - s.claimablePayment ∧
      b (.esdt s.lpTok) 0 = s.perTicket * s.nrWinning ∧
      (∀ k n, ¬ (k = s.payTok ∧ n = 0) → ¬ (k = .esdt s.lpTok ∧ n = 0) → b k n = s.bal k n) ∧
      s.claimableNft ≤ b s.nftCost.tok s.nftCost.nonce := by
  obtain ⟨hok, hts, _⟩ := exec_claimPayment_out hx
  rw [rbTx_s] at hok hts
  have hv := (hasNft_flags hn).2
  have hlp : (s.bal.sub s.payTok 0 s.claimablePayment) (.esdt s.lpTok) 0 = s.bal (.esdt s.lpTok) 0 :=
    Bal.sub_off _ _ _ _ (fun hh => hne hh.symm)
  have hcov := hok.cover hv
  rw [hlp] at hcov
  obtain ⟨b, hb⟩ : ∃ b : Bal, b = (s.bal.sub s.payTok 0 s.claimablePayment).sub (.esdt s.lpTok) 0
    (s.bal (.esdt s.lpTok) 0 - s.perTicket * s.nrWinning) := ⟨_, rfl⟩
  -- without vesting the fungible part leaves `b`
  have hfb : (fungibleState s).bal = b := by
    unfold fungibleState surplusOut
    simp only [hv, Bool.false_eq_true, if_false]
    rw [hlp, hb]
  have hbp : b s.payTok 0 = s.bal s.payTok 0 - s.claimablePayment := by
    rw [hb, Bal.sub_apply, Bal.sub_apply,
      if_neg (show ¬ (s.payTok = Token.esdt s.lpTok ∧ (0 : Nat) = 0) from fun hh => hne hh.1),
      if_pos (show s.payTok = s.payTok ∧ (0 : Nat) = 0 from ⟨rfl, rfl⟩)]
    rfl
  have hsur : b (.esdt s.lpTok) 0 = s.perTicket * s.nrWinning := by
    rw [hb, Bal.sub_apply, Bal.sub_apply,
      if_pos (show Token.esdt s.lpTok = Token.esdt s.lpTok ∧ (0 : Nat) = 0 from ⟨rfl, rfl⟩),
      if_neg (show ¬ (Token.esdt s.lpTok = s.payTok ∧ (0 : Nat) = 0) from fun hh => hne hh.1.symm)]
    omega
  have hbo : ∀ k n, ¬ (k = s.payTok ∧ n = 0) → ¬ (k = .esdt s.lpTok ∧ n = 0) → b k n = s.bal k n := by
    intro k n c1 c2
    rw [hb, Bal.sub_apply, Bal.sub_apply, if_neg c2, if_neg c1]; rfl
  have hle2 := hok.nft hn
  rw [hfb] at hle2
  refine ⟨hok.stage, hok.proceeds, hcov, b, ?_, hbp, hsur, hbo, hle2⟩
  rw [hts, paymentState, if_pos hn, hfb]
  unfold fungibleState nf_cpState
  simp only [hv, Bool.false_eq_true, if_false]

/-- an accepted owner's withdrawal (everything is complete then) on the fee ledger and the ticket
    ledger: the ticket part loses the recorded proceeds, the fee liability the NFT proceeds -/
theorem nf_claimPayment_side {hash : List Nat → List Nat} {s : State} {e : Env} {t : Tx}
    (hn : s.variant.hasNft = true) (hne : s.payTok ≠ .esdt s.lpTok) (hs0 : nf_SideInv (nf_side s))
    (hph : s.flags.additional = true → PhD (nf_core s))
    (hx : exec hash (rbTx s e) e .claimPayment = .ok t) :
    s.stage e = .claim ∧ ∃ b : Bal,
      t.s = nf_cpState s (b.sub s.nftCost.tok s.nftCost.nonce s.claimableNft) 0 0 ∧
      b (.esdt s.lpTok) 0 = s.perTicket * s.nrWinning ∧
      nf_SideInv (nf_side t.s) ∧ PhD (nf_core t.s) := by
  obtain ⟨hst, _, _, b, hs', hbp, hsur, hbo, _⟩ := nf_claimPayment_exact hn hne hx
  obtain ⟨⟨hsel, hadd⟩, _⟩ := stage_claim_iff.mp hst
  have hD : PhD (nf_core s) := hph hadd
  obtain ⟨L, hnd, hsupp, hpost, hwin⟩ := hD.led
  have hpost' : (nf_side s).tix = s.claimablePayment + sumOver (dueC (nf_core s)) L := hpost
  have hb : ∀ k n, ¬ (k = .esdt s.lpTok ∧ n = 0) →
      b k n = s.bal k n - (if k = s.payTok ∧ n = 0 then s.claimablePayment else 0) := by
    intro k n hlp
    by_cases hp : k = s.payTok ∧ n = 0
    · rw [if_pos hp, hp.1, hp.2, hbp]
    · rw [if_neg hp, hbo k n hp hlp]; rfl
  rw [hs']
  obtain ⟨hside, htix⟩ := nf_SideInv_move (X := s.claimablePayment) (δ := s.claimableNft) hs0 hne
    (q := nf_side (nf_cpState s (b.sub s.nftCost.tok s.nftCost.nonce s.claimableNft) 0 0)) rfl
    (by omega)
    (by
      rw [nf_held_of_done (p := nf_side s) hadd, nf_held_of_done (by exact hadd)]
      show 0 + s.nftCost.amount * s.payers.length + s.claimableNft
        = s.claimableNft + s.nftCost.amount * s.payers.length
      omega)
    (fun k n hlp => by
      show (b.sub s.nftCost.tok s.nftCost.nonce s.claimableNft) k n = _
      rw [Bal.sub_apply, hb k n hlp]; rfl)
    hs0.nodupP hs0.nodupW hs0.disj hs0.winLe hs0.conf hs0.fresh hs0.claimedOut hs0.noWin
  refine ⟨hst, b, rfl, hsur, hside, ?_⟩
  unfold nf_core
  rw [htix]
  refine ⟨hD.started, hD.filtered, hD.selected, hD.op, hD.rngOk, hD.rngNone, hD.disj,
    L, hnd, hsupp, ?_, hwin⟩
  show (nf_side s).tix - s.claimablePayment = 0 + sumOver (dueC (nf_core s)) L
  omega

theorem nf_claimPayment {T0 : Nat} {hash : List Nat → List Nat} {s s' : State} {e : Env} {o : Out}
    {r : Nat} (h : nf_WF T0 s r)
    (hs : step hash s e .claimPayment = .ok (s', o)) : nf_WF T0 s' e.round := by
  obtain ⟨t, hx, rfl⟩ := step_np rfl hs
  obtain ⟨hst, b, hs', _, hside, hD'⟩ :=
    nf_claimPayment_side (nf_flags h.var).2.1 h.tokNe h.side (nf_phase_done h.phase) hx
  obtain ⟨⟨_, hadd⟩, hc1, hc2, _⟩ := stage_claim_iff.mp hst
  rw [hs'] at hside hD' ⊢
  exact h.late rfl rfl rfl rfl ⟨hc1, hc2⟩ hside (Or.inr (Or.inr ⟨hadd, hD'⟩))

end LP

/-
  The induction.  `Reach` / `ReachA` are those of ReachPlain: every transaction carries EGLD or ESDT
  but not both (`EnvOK`), every `addTickets` entry allocates at least one ticket (`CallOK`).  No
  assumption is made on the tokens: `setNftCost` / `setTicketPrice` may change the fee token /
  payment token (in the AddTickets stage) in any way the contract accepts.
-/
namespace LP
open LP.FY

theorem nf_call_WF {T0 : Nat} {hash : List Nat → List Nat} {s s' : State} {e : Env} {c : Call} {o : Out}
    {r : Nat} (h : nf_WF T0 s r) (hr : r ≤ e.round) (hok : EnvOK e) (hc : CallOK c)
    (hs : step hash s e c = .ok (s', o)) : nf_WF T0 s' e.round := by
  have hex : c.exposedIn .nft = true := h.var ▸ step_exposed hs
  cases c with
  | addTickets l => exact nf_addTickets h hr hc hs
  | deposit => exact nf_deposit h hr hok hs
  | setTicketPrice tok a => exact nf_setTicketPrice h hr hs
  | setPerTicket a => exact nf_setPerTicket h hr hs
  | setConfStart _ | setSelStart _ | setClaimStart _ | setSupport _ | pause | unpause =>
    exact nf_admin rfl h hr hs
  | confirm n => exact nf_confirm h hr hok hs
  | filter => exact nf_filter h hs
  | select => exact nf_select h hs
  | claim => exact nf_claim h hs
  | claimPayment => exact nf_claimPayment h hs
  | blacklist l => exact nf_blacklist h hr hs
  | confirmNft => exact nf_confirmNft h hr hok hs
  | selectNft => exact nf_selectNft h hs
  | setNftCost c => exact nf_setNftCost h hr hs
  | sftSetup => exact nf_sftSetup h hr hs
  | issueSft | createSfts | setTransferRole _ => exact (step_sft_rejected hs).elim
  | _ => exact (Bool.false_ne_true hex).elim

theorem nf_reach_WF {hash : List Nat → List Nat} {a0 : InitArgs} {s : State} {r : Nat}
    (h : ReachA hash .nft a0 s r) : nf_WF a0.nrWinning s r := by
  induction h with
  | init e s h => exact nf_init_WF h
  | call s r e c s' o _ h1 h2 h3 h4 ih => exact nf_call_WF ih h1 h2 h3 h4
  | wait s r r' _ h1 ih => exact nf_wait_WF ih h1

end LP

#print axioms LP.nf_init_WF
#print axioms LP.nf_call_WF
#print axioms LP.nf_wait_WF
#print axioms LP.nf_reach_WF

/-
  Consequences of `nf_WF` used by LP/Props/C14reach.lean: the invariant gives `NftFacts` (from
  which the ledger, solvency and fee theorems follow), and once the filter has started and until
  the NFT draw completes, accepted calls keep the set of NFT participants (`payers ∪ nftWinners`),
  their number, the fee and the number of NFTs; only `selectNft` moves participants from `payers`
  to `nftWinners` (`nf_call_frozen`; `ReachOfA.later_frozen` in ReachOf carries it along a history,
  and `nf_Later` is the history relation in which C14reach states it).
-/
namespace LP
open LP.FY LP.Props.C09 LP.Props.C14

theorem nf_WF.facts {T0 : Nat} {s : State} {r : Nat} (h : nf_WF T0 s r) : NftFacts s := by
  refine ⟨(nf_flags h.var).2.1, h.side, fun hna => ?_, nf_phase_done h.phase⟩
  rcases h.phase with ⟨_, hns, ⟨L0, hp, _⟩ | hC | hD⟩ | ⟨_, _, _, hL⟩ | ⟨hadd, _⟩
  · exact payList_of_out hp.ok.nodup hp.outC hp.pay
  · obtain ⟨Ls, hnd, _, _, _, hout, hpay⟩ := hC.alloc
    exact payList_of_out hnd (fun a ha => (hout a ha).2) hpay
  · rw [hD.selected] at hns; cases hns
  · exact hL
  · have hadd' : s.flags.additional = true := hadd
    rw [hna] at hadd'; cases hadd'

theorem nf_reach_facts {hash : List Nat → List Nat} {s : State} {r : Nat}
    (h : Reach hash .nft s r) : NftFacts s := by
  obtain ⟨a0, h⟩ := Reach_iff.mp h
  exact (nf_reach_WF h).facts

/-- `s'` has the same NFT participants as `s` (possibly more of them drawn) -/
structure nf_Frozen (s s' : State) : Prop where
  mem : ∀ a, (a ∈ s'.payers ∨ a ∈ s'.nftWinners) ↔ (a ∈ s.payers ∨ a ∈ s.nftWinners)
  len : s'.payers.length + s'.nftWinners.length = s.payers.length + s.nftWinners.length
  pre : s.nftWinners <+: s'.nftWinners
  avail : s'.availNfts = s.availNfts
  cost : s'.nftCost = s.nftCost

theorem nf_Frozen.refl (s : State) : nf_Frozen s s :=
  ⟨fun _ => Iff.rfl, rfl, List.prefix_refl _, rfl, rfl⟩

theorem nf_Frozen.of_eq {s s' : State} (h1 : s'.payers = s.payers) (h2 : s'.nftWinners = s.nftWinners)
    (h3 : s'.availNfts = s.availNfts) (h4 : s'.nftCost = s.nftCost) : nf_Frozen s s' :=
  ⟨fun _ => by rw [h1, h2], by rw [h1, h2], by rw [h2]; exact List.prefix_refl _, h3, h4⟩

theorem nf_Frozen.trans {a b c : State} (h1 : nf_Frozen a b) (h2 : nf_Frozen b c) : nf_Frozen a c :=
  ⟨fun x => (h2.mem x).trans (h1.mem x), h2.len.trans h1.len, h1.pre.trans h2.pre,
    h2.avail.trans h1.avail, h2.cost.trans h1.cost⟩

/-- one more accepted call after a continuation that kept the participants (`hcall`: what the call
    does from a started, incomplete state); `additional` is never cleared, so the draw was incomplete
    before the call if it is after -/
theorem nf_Frozen.step {hash : List Nat → List Nat} {s s1 s2 : State} {e : Env} {c : Call} {o : Out}
    (ih : s1.flags.additional = false → nf_Frozen s s1 ∧ s1.flags.started = true)
    (hs : step hash s1 e c = .ok (s2, o))
    (hcall : s1.flags.started = true → s1.flags.additional = false →
      nf_Frozen s1 s2 ∧ s2.flags.started = true)
    (hadd2 : s2.flags.additional = false) : nf_Frozen s s2 ∧ s2.flags.started = true := by
  have hadd1 : s1.flags.additional = false := by
    cases hq : s1.flags.additional with
    | false => rfl
    | true =>
      have := (step_flags_gain hs).2 hq
      rw [hadd2] at this; cases this
  obtain ⟨j1, j2⟩ := ih hadd1
  obtain ⟨k1, k2⟩ := hcall j2 hadd1
  exact ⟨j1.trans k1, k2⟩

/-- once the filter has started (so the confirmation and selection periods have begun) and until the
    additional step completes, an accepted call other than the draw itself (`selectNft`,
    `secondary`) keeps the NFT participants, for any variant with the NFT hook: the stage rules out
    every endpoint that writes the lists, the fee or the number of NFTs; the others do not touch
    them.  `hc` also leaves out the endpoints that neither variant with the hook exposes and the
    three SFT endpoints that always reject; the two callers discharge those. -/
theorem nf_frozen_call {hash : List Nat → List Nat} {s s' : State} {e : Env} {c : Call} {o : Out}
    (hn : s.variant.hasNft = true) (hc1 : s.cfg.conf ≤ e.round) (hc2 : s.cfg.sel ≤ e.round)
    (hstd : s.flags.started = true) (hadd : s.flags.additional = false)
    (hs : step hash s e c = .ok (s', o))
    (hc : match c with
      | .selectNft | .secondary | .addTicketsV2 _ | .refundUsers _ | .unblacklist _ | .distribute
      | .setSchedule1 .. | .setSchedule2 _ | .issueSft | .createSfts | .setTransferRole _ => False
      | _ => True) :
    nf_Frozen s s' ∧ s'.flags.started = true := by
  have hnotAdd : s.stage e ≠ .addTickets := fun hh => by have := rb_stage_addTickets hh; omega
  have hnotConf : s.stage e ≠ .confirm := fun hh => by have := (rb_stage_confirm hh).2; omega
  have hnotClaim : s.stage e ≠ .claim := fun hh => by
    have := (stage_claim_iff.mp hh).1.2
    rw [hadd] at this; cases this
  cases c with
  -- the acceptance table rules out every endpoint whose stage is over or has not come
  | addTickets _ | addTicketsV1 _ => exact absurd (step_gate hs) hnotAdd
  | setTicketPrice _ _ | setPerTicket _ | setNftCost _ => exact absurd (step_gate hs).1 hnotAdd
  | confirm _ => exact absurd (step_gate hs).2 hnotConf
  | confirmNft => exact absurd (step_gate hs) hnotConf
  | blacklist _ =>
    exact (step_gate hs).2.elim (fun hh => absurd hh hnotAdd) fun hh => absurd hh hnotConf
  | claim =>
    exact (step_gate hs).1.elim (fun hh => absurd hh hnotClaim)
      fun hh => absurd hh.1 (by rw [(hasNft_flags hn).2]; nofun)
  | claimPayment => exact absurd (step_gate hs) hnotClaim
  | setConfStart _ | setSelStart _ | setClaimStart _ | setSupport _ | pause | unpause =>
    obtain ⟨_, _, _, rfl, _⟩ := step_admin rfl hs
    exact ⟨nf_Frozen.of_eq rfl rfl rfl rfl, hstd⟩
  | sftSetup =>
    obtain ⟨t, hx, rfl⟩ := step_np rfl hs
    simp only [exec, pure_ok_iff] at hx
    subst hx
    exact ⟨nf_Frozen.of_eq rfl rfl rfl rfl, hstd⟩
  | deposit =>
    obtain ⟨m, t, _, _, _, hx, rfl, _⟩ := step_ok_inv hs
    rw [(exec_deposit_s hx).2]
    exact ⟨nf_Frozen.of_eq rfl rfl rfl rfl, hstd⟩
  | filter =>
    obtain ⟨t, hx, rfl⟩ := step_np rfl hs
    simp only [exec] at hx
    obtain ⟨_, x, f, b, _, hcase⟩ := filterTickets_ok_cases _ _ _ hx
    simp only [rbTx_s] at hcase
    have hfs := filterFlags_started s x.first (Or.inr hstd)
    rcases hcase with ⟨_, hs'⟩ | ⟨_, _, hs'⟩
    · rw [hs']; exact ⟨nf_Frozen.of_eq rfl rfl rfl rfl, hfs⟩
    · rw [hs']; exact ⟨nf_Frozen.of_eq rfl rfl rfl rfl, hfs⟩
  | select =>
    obtain ⟨t, hx, rfl⟩ := step_np rfl hs
    simp only [exec] at hx
    obtain ⟨_, _, _, rng, pos, t0, _, x, b, st, _, hfin⟩ := rb_selectWinners_cases hx
    simp only [rbTx_s] at hfin
    rcases hfin with ⟨_, hs'⟩ | ⟨_, hs'⟩
    · rw [hs']; exact ⟨nf_Frozen.of_eq rfl rfl rfl rfl, hstd⟩
    · rw [hs']; exact ⟨nf_Frozen.of_eq rfl rfl rfl rfl, hstd⟩
  | _ => exact absurd hc id

theorem nf_call_frozen {T0 : Nat} {hash : List Nat → List Nat} {s s' : State} {e : Env} {c : Call}
    {o : Out} {r : Nat} (h : nf_WF T0 s r) (hr : r ≤ e.round) (hstd : s.flags.started = true)
    (hadd : s.flags.additional = false) (hs : step hash s e c = .ok (s', o)) :
    nf_Frozen s s' ∧ s'.flags.started = true := by
  obtain ⟨hc1, hc2⟩ := h.tlStarted hstd
  have hex : c.exposedIn .nft = true := h.var ▸ step_exposed hs
  have hcall := nf_frozen_call (c := c) (nf_flags h.var).2.1 (by omega) (by omega) hstd hadd hs
  cases c with
  | selectNft =>
    obtain ⟨t, hx, rfl⟩ := step_np rfl hs
    have hs0 := h.side
    obtain ⟨_, _, _, P, W, _, _, hlen, hun, hpre, hcase⟩ :=
      nf_selectNft_cases hx ⟨hs0.nodupP, hs0.nodupW, hs0.disj⟩ hs0.winLe
    rcases hcase with ⟨rng, hs', _⟩ | ⟨hs', _, _⟩
    · rw [hs']; exact ⟨⟨hun, hlen, hpre, rfl, rfl⟩, hstd⟩
    · rw [hs']; exact ⟨⟨hun, hlen, hpre, rfl, rfl⟩, hstd⟩
  | addTicketsV2 _ | refundUsers _ | unblacklist _ | distribute | setSchedule1 _ _ _ _ _ | setSchedule2 _
  | secondary => exact (Bool.false_ne_true hex).elim
  | issueSft | createSfts | setTransferRole _ => exact (step_sft_rejected hs).elim
  | _ => exact hcall trivial

/-- `nf_Later hash s r s2 r2`: `s2` (at round `r2`) is reached from `s` (at round `r`) by accepted
    calls (under `EnvOK` and `CallOK`; any budgets) and by the passing of time -/
inductive nf_Later (hash : List Nat → List Nat) (s : State) (r : Nat) : State → Nat → Prop
  | refl : nf_Later hash s r s r
  | call (s1 : State) (r1 : Nat) (e : Env) (c : Call) (s2 : State) (o : Out) :
      nf_Later hash s r s1 r1 → r1 ≤ e.round → EnvOK e → CallOK c →
      step hash s1 e c = .ok (s2, o) → nf_Later hash s r s2 e.round
  | wait (s1 : State) (r1 r2 : Nat) : nf_Later hash s r s1 r1 → r1 ≤ r2 → nf_Later hash s r s1 r2

theorem nf_later_iff {hash : List Nat → List Nat} {s s2 : State} {r r2 : Nat} :
    nf_Later hash s r s2 r2 ↔ be_Later (fun e c => EnvOK e ∧ CallOK c) hash s r s2 r2 := by
  constructor <;> intro h
  · induction h with
    | refl => exact .refl
    | call s1 r1 e c s2 o _ h1 h2 h3 h4 ih => exact .call s1 r1 e c s2 o ih h1 ⟨h2, h3⟩ h4
    | wait s1 r1 r2 _ h1 ih => exact .wait s1 r1 r2 ih h1
  · induction h with
    | refl => exact .refl
    | call s1 r1 e c s2 o _ h1 h2 h3 ih => exact .call s1 r1 e c s2 o ih h1 h2.1 h2.2 h3
    | wait s1 r1 r2 _ h1 ih => exact .wait s1 r1 r2 ih h1

end LP
