import LP.Proofs.ZeroAllocSim
import LP.Proofs.ZeroAllocV1Alloc
import LP.Props.C01reachG1
/-
  Zero-size allocations for `Variant.guarV1` (prefix `zg_`): the overwrite, the relation of the guarantee
  records, and the vested claim on the erased state.  `zg_w s w` overwrites the four fields of `z_w` plus the guarantee records `uts`: a zero-size entry
  `(a, 0, 0, false)` stores the record `{a := 0, b := 0, c := 0, d := 0}` for `a`, which the erased state does
  not have (`zg_mask`: a masked overwrite of LP/Proofs/Overwrite.lean).  What `addTicketsV1` does to the records
  is read off `AddFx` of LP/Proofs/ZeroAllocV1Alloc.lean (`zg_AddFx`); `blacklist` and `unblacklist` are
  `ESim.blacklist`, `ESim.unblacklist` of LP/Proofs/ZeroAllocSim.lean, for every family.
-/
namespace LP

structure zg_O where
  R : Nat → Option Range
  B : Nat → Option Batch
  K : Nat → Bool
  C : Nat → Bool
  U : Nat → Option UTS

def zg_w (s : State) (w : zg_O) : State :=
  { s with range := w.R, batch := w.B, blacklist := w.K, claimed := w.C, uts := w.U }

def zg_wt (t : Tx) (w : zg_O) : Tx := { t with s := zg_w t.s w }

def zg_of (s : State) : zg_O := ⟨s.range, s.batch, s.blacklist, s.claimed, s.uts⟩

section
variable {w : zg_O}

/-- `zg_w` as a masked overwrite (LP/Proofs/Overwrite.lean): `zg_w s w = ow s (zg_mask w)` by `rfl` -/
def zg_mask (w : zg_O) : Ow := { R := some w.R, B := some w.B, K := some w.K, C := some w.C, U := some w.U }

theorem zg_send (t : Tx) (a : Nat) (p : Pay) :
    (zg_wt t w).send a p = mapR (zg_wt · w) (t.send a p) :=
  ow_send t (zg_mask w) a p

theorem zg_credit (s : State) (e : Env) :
    creditPayments (zg_w s w) e = zg_w (creditPayments s e) w := rfl

end

end LP

/-! ### `guarV1`: the records of the erased state (`zg_Urel`, `zg_Emp`) and what `addTicketsV1` does to them. -/
namespace LP
open LP.Props.C18

/-- the records `U` of the erasure against the records `uts` of a state with range map `R`: equal,
    or no record and no range where the original record carries no guarantee -/
def zg_Urel (R : Nat → Option Range) (uts U : Nat → Option UTS) : Prop :=
  ∀ a, U a = uts a ∨
    (U a = none ∧ z_eraseR R a = none ∧ ∃ st, uts a = some st ∧ st.c = 0 ∧ st.d = 0)

/-- an address with an empty range has a guarantee record -/
def zg_Emp (s : State) : Prop :=
  ∀ a rg, s.range a = some rg → rg.last < rg.first → (s.uts a).isSome = true

/-- what `ZGSim` keeps through `addTicketsV1` (`ESim.addV1`), read off `AddFx`: the relation of the
    records and `zg_Emp` -/
theorem zg_AddFx {s s' : State} {U U' : Nat → Option UTS} (fx : AddFx s s' U U')
    (hU : zg_Urel s.range s.uts U) (hUn : ∀ a, s.range a = none → U a = none) (hE : zg_Emp s) :
    zg_Urel s'.range s'.uts U' ∧ zg_Emp s' ∧ (∀ a, s'.range a = s.range a ∨ s.range a = none) := by
  refine ⟨fun a => ?_, fun a rg hr hlt => ?_, fun a => ?_⟩
  · rcases fx.at_ a with ⟨p1, p2, p3⟩ | ⟨p0, ⟨p1, _⟩ | ⟨p1, p2, _, p4⟩⟩
    · rw [p1, p2, z_eraseR_congr p3]; exact hU a
    · exact Or.inl p1
    · exact Or.inr ⟨p1.trans (hUn a p0), p2, p4⟩
  · rcases fx.at_ a with ⟨_, p2, p3⟩ | ⟨_, ⟨_, p2⟩ | ⟨_, _, _, st, p4, _⟩⟩
    · rw [p2]; exact hE a rg (p3 ▸ hr) hlt
    · rw [z_eraseR_of_empty hr (by omega)] at p2; cases p2
    · rw [p4]; rfl
  · rcases fx.at_ a with ⟨_, _, p3⟩ | ⟨p0, _⟩
    · exact Or.inl p3
    · exact Or.inr p0

end LP

/-! ### `guarV1`: the vested claim on the erased state (`zg_exec_claim`), and the two claims of the real
  state that the erased state answers by no step (`zg_claim_noop`, `zg_claim_stutter`). -/
namespace LP
open LP.FY LP.Events

section
variable {w : zg_O}

theorem zg_refund (t : Tx) (e : Env) (a n : Nat) :
    (zg_wt t w).refund e a n = mapR (zg_wt · w) (t.refund e a n) :=
  ow_refund t (zg_mask w) e a n

theorem zg_claimPay (v2 : Bool) (t : Tx) (e : Env) (c : Nat) :
    claimPay v2 (zg_wt t w) e c = mapR (zg_wt · w) (claimPay v2 t e c) := by
  unfold claimPay
  by_cases hc : c > 0
  · rw [if_pos hc, if_pos hc]
    simp only [mapR_bind]
    refine bind_eq_bind_of_mapR (zg_wt · w) ?_ ?_
    · rhs_exact zg_send _ _ _
    · intro t1
      cases v2 <;> rfl
  · rw [if_neg hc, if_neg hc]; rfl

theorem zg_claimBody_of_settle (t : Tx) (e : Env) (w' : zg_O)
    (h : claimSettle (zg_wt t w) e = mapR (zg_wt · w') (claimSettle t e)) :
    claimBody false (zg_wt t w) e = mapR (zg_wt · w') (claimBody false t e) := by
  unfold claimBody
  rw [h]
  simp only [mapR_bind, bind_mapR, Bool.false_eq_true, if_false]
  refine bind_congr_fun ?_
  intro t1
  show (claimable1 t1.s e e.caller >>= _) = _
  refine bind_congr_fun ?_
  intro c
  exact zg_claimPay false t1 e c

theorem zg_settle (s : State) (e : Env) (r : Range) (hr : s.range e.caller = some r)
    (hR : w.R e.caller = some r) (hC : w.C e.caller = s.claimed e.caller) :
    settle (zg_w s w) e
      = mapR (fun p => (zg_w p.1 ⟨upd w.R e.caller none, upd w.B r.first none, w.K,
                                  upd w.C e.caller true, w.U⟩, p.2))
          (settle s e) := by
  unfold settle
  simp only [mapR_bind]
  show (requireStage s e .claim _ >>= fun _ => _) = _
  refine bind_congr_fun ?_; intro _
  show (req (!w.C e.caller) _ >>= fun _ => _) = _
  rw [hC]
  refine bind_congr_fun ?_; intro _
  show (match w.R e.caller with | none => _ | some r => _) = _
  rw [hR, hr]
  simp only [mapR_bind, mapR_ite, pure_bind]
  repeat' (first | rfl | (refine bind_congr_fun ?_; intro _) | ite_both)

theorem zg_claimSettle_done (t : Tx) (e : Env) (hcl : t.s.claimed e.caller = true)
    (hC : w.C e.caller = true) :
    claimSettle (zg_wt t w) e = mapR (zg_wt · w) (claimSettle t e) := by
  unfold claimSettle
  have hC' : (zg_wt t w).s.claimed e.caller = true := hC
  rw [if_pos hcl, if_pos hC']; rfl

theorem zg_claimSettle_real (t : Tx) (e : Env) (r : Range) (hcl : t.s.claimed e.caller = false)
    (hC : w.C e.caller = false) (hr : t.s.range e.caller = some r) (hR : w.R e.caller = some r) :
    claimSettle (zg_wt t w) e
      = mapR (zg_wt · ⟨upd w.R e.caller none, upd w.B r.first none, w.K, upd w.C e.caller true, w.U⟩)
          (claimSettle t e) := by
  unfold claimSettle
  have hC' : (zg_wt t w).s.claimed e.caller = false := hC
  rw [if_neg (by rw [hC']; simp), if_neg (by rw [hcl]; simp)]
  have hs : settle (zg_wt t w).s e = _ := zg_settle (w := w) t.s e r hr hR (by rw [hC, hcl])
  rw [hs]
  simp only [mapR_bind, bind_mapR]
  refine bind_congr_fun ?_
  intro ⟨s1, rd, rf⟩
  simp only
  refine bind_eq_bind_of_mapR
    (zg_wt · ⟨upd w.R e.caller none, upd w.B r.first none, w.K, upd w.C e.caller true, w.U⟩) ?_ ?_
  · rhs_exact zg_refund _ _ _ _
  · intro t1
    by_cases hrd : rd > 0
    · simp only [hrd, if_true]; rfl
    · simp only [hrd, if_false]; rfl

end

/-- caller settled on both sides, or unsettled with the same range on both sides (against the erasure:
    a non-empty range) -/
theorem zg_exec_claim {hash : List Nat → List Nat} {t t' : Tx} {e : Env} (w : zg_O)
    (hv : t.s.variant = .guarV1) (h : exec hash t e .claim = .ok t')
    (hcase : (t.s.claimed e.caller = true ∧ w.C e.caller = true) ∨
      (t.s.claimed e.caller = false ∧ w.C e.caller = false ∧
        ∃ r, t.s.range e.caller = some r ∧ w.R e.caller = some r)) :
    ∃ w', exec hash (zg_wt t w) e .claim = .ok (zg_wt t' w') ∧
      ((t.s.claimed e.caller = true ∧ w' = w) ∨
       (t.s.claimed e.caller = false ∧ ∃ r, t.s.range e.caller = some r ∧
          w' = ⟨upd w.R e.caller none, upd w.B r.first none, w.K, upd w.C e.caller true, w.U⟩)) := by
  obtain ⟨f1, _, f3, _⟩ := g1_flags hv
  have f1' : (zg_wt t w).s.variant.vested = true := f1
  have f3' : (zg_wt t w).s.variant.isV2 = false := f3
  simp only [exec, f1, f1', if_true] at h ⊢
  rw [claimVested_eq] at h ⊢
  simp only [f3, f3', Bool.false_eq_true, if_false] at h ⊢
  rcases hcase with ⟨hcl, hC⟩ | ⟨hcl, hC, r, hr, hR⟩
  · refine ⟨w, ?_, Or.inl ⟨hcl, rfl⟩⟩
    rw [zg_claimBody_of_settle t e w (zg_claimSettle_done t e hcl hC), h]; rfl
  · refine ⟨_, ?_, Or.inr ⟨hcl, r, hr, rfl⟩⟩
    rw [zg_claimBody_of_settle t e _ (zg_claimSettle_real t e r hcl hC hr hR), h]; rfl

/-- a repeat claim by an address without entitlement -/
theorem zg_claim_noop {hash : List Nat → List Nat} {s s' : State} {e : Env} {o : Out}
    (hv : s.variant = .guarV1) (hs : step hash s e .claim = .ok (s', o))
    (hcl : s.claimed e.caller = true) (hut : s.userTotal e.caller = 0) : s' = s := by
  obtain ⟨t, hx, rfl⟩ := step_np rfl hs
  obtain ⟨hvest, _, hv2, _⟩ := g1_flags hv
  simp only [exec, rbTx_s, hvest, if_true] at hx
  obtain ⟨t1, c, h1, hcl1, hts, _⟩ := g1_claimVested_state hv2 hx
  rcases v2_claimSettle_state h1 with ⟨_, rfl⟩ | ⟨hcl', _⟩
  · simp only [rbTx_s] at hcl1 hts
    have hc : c = 0 := by
      unfold claimable1 at hcl1
      simp only [hut, if_true] at hcl1
      injection hcl1 with hcl1; exact hcl1.symm
    subst hc
    rw [hts, Bal.sub_zero, Nat.add_zero, upd_self_val]
  · rw [hcl] at hcl'; cases hcl'

/-- `z_claim_stutter` for the vested claim: nothing is paid and no entitlement is recorded -/
theorem zg_claim_stutter {hash : List Nat → List Nat} {s s' : State} {e : Env} {o : Out} {r : Range}
    (hv : s.variant = .guarV1) (hs : step hash s e .claim = .ok (s', o))
    (hcl : s.claimed e.caller = false)
    (hr : s.range e.caller = some r) (he : r.last < r.first) (hc : s.confirmed e.caller = 0)
    (hut : s.userTotal e.caller = 0) :
    s' = zg_w s ⟨upd s.range e.caller none, upd s.batch r.first none, s.blacklist,
                 upd s.claimed e.caller true, s.uts⟩ := by
  obtain ⟨t, hx, rfl⟩ := step_np rfl hs
  obtain ⟨hvest, _, hv2, _⟩ := g1_flags hv
  simp only [exec, rbTx_s, hvest, if_true] at hx
  obtain ⟨t1, c, h1, hcl1, hts, _⟩ := g1_claimVested_state hv2 hx
  have hlen : rangeLen r = 0 := by unfold rangeLen; omega
  rcases (claimSettle_ok_iff _ e t1).mp h1 with ⟨h0, _⟩ | ⟨r', ⟨_, _, hr', _⟩, rfl⟩
  · rw [rbTx_s, hcl] at h0; cases h0
  obtain rfl : r = r' := Option.some.inj (hr.symm.trans (by rw [rbTx_s] at hr'; exact hr'))
  -- nothing is won and nothing was confirmed: the settled state is `s` but for the three fields
  have hs1 := claimSettled_state (rbTx s e) e r
  rw [rbTx_s, hlen] at hs1
  have hcw : countWinning s.status r.first 0 = 0 := rfl
  rw [hcw, hc, Nat.zero_sub, Nat.mul_zero, Bal.sub_zero, if_neg (Nat.lt_irrefl 0)] at hs1
  have hc0 : c = 0 := by
    have hcl1' := hcl1
    unfold claimable1 at hcl1'
    rw [hs1] at hcl1'
    simp only [settledState, hut, if_true] at hcl1'
    injection hcl1' with hcl1'; exact hcl1'.symm
  subst hc0
  have hconf : upd s.confirmed e.caller 0 = s.confirmed := by
    funext x
    by_cases hx : x = e.caller
    · subst hx; simp [hc]
    · simp [upd, hx]
  rw [hts, hs1, Bal.sub_zero, Nat.add_zero, upd_self_val]
  unfold settledState
  rw [hlen, hconf]
  rfl

end LP
