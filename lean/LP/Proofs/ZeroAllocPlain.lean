import LP.Proofs.ZeroAllocSim
/-
  The simulation for the plain launchpads (`z_sim`): a state reachable without the restriction
  `CallOK` (`ReachZ`) is `ZSim`-related to a `Reach` state of the same deployment at the same round.
  Each call is one of the `z_core_*` lemmas of LP/Proofs/ZeroAllocSim.lean plus `ReachA.call`; `ledger_Z` reads
  the payment ledger through the relation.
-/
namespace LP
open LP.FY

theorem z_sim_indep {hash : List Nat → List Nat} {v : Variant} {a0 : InitArgs} {s z : State} {r : Nat}
    {e : Env} {c : Call} {s' : State} {o : Out} (hc : ov_indep c = true)
    (hz : ReachA hash v a0 z r) (hsim : ZSim s z) (hd : s.flags.started = false → z_Hd s)
    (hr : r ≤ e.round) (hok : EnvOK e) (hs : step hash s e c = .ok (s', o)) :
    ∃ z', ReachA hash v a0 z' e.round ∧ ZSim s' z' ∧ (s'.flags.started = false → z_Hd s') ∧
      step hash z e c = .ok (z', o) := by
  obtain ⟨z', hsim', _, hstep⟩ := z_core_indep hc hsim hs
  exact ⟨z', .call z r e c z' o hz hr hok (z_indep_CallOK hc) hstep, hsim', z_indep_Hd hc hs hd, hstep⟩

theorem z_sim_add {hash : List Nat → List Nat} {v : Variant} {a0 : InitArgs} {s z : State} {r : Nat}
    {e : Env} {l : List (Nat × Nat)} {s' : State} {o : Out} (hv : Plain v)
    (hz : ReachA hash v a0 z r) (hsim : ZSim s z) (hd : s.flags.started = false → z_Hd s)
    (hr : r ≤ e.round) (hok : EnvOK e) (hs : step hash s e (.addTickets l) = .ok (s', o)) :
    ∃ z', ReachA hash v a0 z' e.round ∧ ZSim s' z' ∧ (s'.flags.started = false → z_Hd s') ∧
      step hash z e (.addTickets (l.filter (fun p => decide (1 ≤ p.2)))) = .ok (z', o) := by
  have hwf := reach_WF hv hz
  obtain ⟨hcfg, hfl, _⟩ := hsim.fields
  have hst : s.stage e = .addTickets :=
    LP.Props.C06.alloc_only_in_addTickets hash s e _ _ (Or.inl ⟨l, rfl⟩) hs
  have hns : z.flags.started = false :=
    notStarted_of_lt hwf.tlStarted hr (Or.inl (by rw [hcfg]; exact rb_stage_addTickets hst))
  obtain ⟨L0, hp, _⟩ := rb_phase_notStarted hwf.phase hns
  obtain ⟨z', h1, h2, _, h4⟩ := z_core_add hsim (by rw [← hfl]; exact hp.notFiltered)
    (hd (by rw [← hfl]; exact hns)) hs
  exact ⟨z', .call z r e (.addTickets _) _ _ hz hr hok
    (fun p hp => of_decide_eq_true (List.mem_filter.mp hp).2) h4, h1, fun _ => h2, h4⟩

theorem z_sim_confirm {hash : List Nat → List Nat} {v : Variant} {a0 : InitArgs} {s z : State} {r : Nat}
    {e : Env} {n : Nat} {s' : State} {o : Out}
    (hz : ReachA hash v a0 z r) (hsim : ZSim s z) (hd : s.flags.started = false → z_Hd s)
    (hr : r ≤ e.round) (hok : EnvOK e) (hs : step hash s e (.confirm n) = .ok (s', o)) :
    ∃ z', ReachA hash v a0 z' e.round ∧ ZSim s' z' ∧ (s'.flags.started = false → z_Hd s') ∧
      step hash z e (.confirm n) = .ok (z', o) := by
  obtain ⟨z', hsim', _, hstep⟩ := z_core_confirm hsim hs
  exact ⟨z', .call z r e (.confirm n) z' o hz hr hok trivial hstep, hsim', z_confirm_Hd hs hd, hstep⟩

theorem z_noRange_noConf {T0 : Nat} {z : State} {r : Nat} (hwf : WF T0 z r)
    (hns : z.flags.started = false) {a : Nat} (ha : z.range a = none) : z.confirmed a = 0 := by
  obtain ⟨L0, hp, hA⟩ := rb_phase_notStarted hwf.phase hns
  exact z_PhA_noRange_noConf hp hA ha

theorem z_sim_blacklist {hash : List Nat → List Nat} {v : Variant} {a0 : InitArgs} {s z : State} {r : Nat}
    {e : Env} {l : List Nat} {s' : State} {o : Out} (hv : Plain v)
    (hz : ReachA hash v a0 z r) (hsim : ZSim s z) (hd : s.flags.started = false → z_Hd s)
    (hr : r ≤ e.round) (hok : EnvOK e) (hs : step hash s e (.blacklist l) = .ok (s', o)) :
    ∃ z', ReachA hash v a0 z' e.round ∧ ZSim s' z' ∧ (s'.flags.started = false → z_Hd s') ∧
      step hash z e (.blacklist (l.filter (fun a => (z_eraseR s.range a).isSome))) = .ok (z', o) := by
  have hwf := reach_WF hv hz
  obtain ⟨hcfg, _, hvz, _, hcf, _, _⟩ := hsim.fields
  have hns : z.flags.started = false := by
    rcases LP.Props.C06.blacklist_only_before_selection hash s e _ _ (Or.inl ⟨l, rfl⟩) hs with hst | hst
    · exact notStarted_of_lt hwf.tlStarted hr (Or.inl (by rw [hcfg]; exact rb_stage_addTickets hst))
    · exact notStarted_of_lt hwf.tlStarted hr (Or.inr (by rw [hcfg]; exact (rb_stage_confirm hst).2))
  have hd' := z_Hd_keep hs (z_step_tk hs rfl) hd
  obtain ⟨_, f2, f3, f4, _⟩ := rb_plain_flags (v := s.variant) (by rw [← hvz]; exact hwf.var)
  obtain ⟨z', h1, _, h3⟩ := z_core_blacklist hsim f3 f4 hs
    (fun a _ hnone => by rw [← hcf]; exact z_noRange_noConf hwf hns hnone)
    (fun hn => absurd (f2.symm.trans hn) nofun)
  exact ⟨z', .call z r e (.blacklist _) _ _ hz hr hok trivial h3, h1, hd', h3⟩

theorem z_sim_filter {hash : List Nat → List Nat} {v : Variant} {a0 : InitArgs} {s z : State} {r : Nat}
    {e : Env} {s' : State} {o : Out} (hv : Plain v)
    (hz : ReachA hash v a0 z r) (hsim : ZSim s z)
    (hr : r ≤ e.round) (hok : EnvOK e) (hs : step hash s e .filter = .ok (s', o)) :
    ∃ z', ReachA hash v a0 z' e.round ∧ ZSim s' z' ∧ (s'.flags.started = false → z_Hd s') ∧
      step hash z e .filter = .ok (z', o) := by
  obtain ⟨z', hsim', _, hstep⟩ := z_core_filter hsim (fun hnf => by
    obtain ⟨L0, hp, hab⟩ := rb_phase_notFiltered (reach_WF hv hz).phase hnf
    exact ⟨L0, z_filter_facts hp hab rfl rfl rfl rfl rfl⟩) hs
  have hreach : ReachA hash v a0 z' e.round := .call z r e .filter _ _ hz hr hok trivial hstep
  refine ⟨z', hreach, hsim', ?_, hstep⟩
  intro hst
  obtain ⟨_, hfl', _, _, _, hop', _⟩ := hsim'.fields
  obtain ⟨L1, hp1, hA1⟩ := rb_phase_notStarted (reach_WF hv hreach).phase
    (by show z'.flags.started = false; rw [hfl']; exact hst)
  exact (filter_started_of hs ⟨by rw [← hfl']; exact hp1.notFiltered, by rw [← hop']; exact hA1.op⟩).elim

/-- a claim by an address with an empty range is matched by NO step: the erased state stays -/
theorem z_sim_claim {hash : List Nat → List Nat} {v : Variant} {a0 : InitArgs} {s z : State} {r : Nat}
    {e : Env} {s' : State} {o : Out} (hv : Plain v)
    (hz : ReachA hash v a0 z r) (hsim : ZSim s z)
    (hr : r ≤ e.round) (hok : EnvOK e) (hs : step hash s e .claim = .ok (s', o)) :
    ∃ z', ReachA hash v a0 z' e.round ∧ ZSim s' z' ∧ (s'.flags.started = false → z_Hd s') ∧
      (step hash z e .claim = .ok (z', o) ∨
        (z' = z ∧ ∃ rg, s.range e.caller = some rg ∧ rg.last < rg.first ∧
          s' = z_w s (upd s.range e.caller none) (upd s.batch rg.first none) s.blacklist
                (upd s.claimed e.caller true))) := by
  have hwf := reach_WF hv hz
  have hBz : pl_Base z := (pl_reachA hv hz).base
  obtain ⟨_, hfl, _, _, hcf, _, _⟩ := hsim.fields
  have hBs : pl_Base s := by
    have h := hsim.rest
    rw [h] at hBz
    exact ⟨hBz.var, hBz.tokNe, hBz.perPos, hBz.pct⟩
  obtain ⟨rg, ⟨_, _, hst, hncl, hrg, _⟩, hs'eq⟩ := pl_claim_state hBs hs
  have hD := rb_phase_D hwf.phase (by show z.flags.selected = true; rw [hfl]; exact (stage_claim_iff.mp hst).1.1)
  have hsta : s'.flags.started = true := by rw [hs'eq]; show s.flags.started = true; rw [← hfl]; exact hD.started
  obtain ⟨f1, f2, _⟩ := rb_plain_flags hBs.var
  obtain ⟨z', h1, h2⟩ := z_core_claim hsim f1 f2 hs (by rw [← hfl]; exact hD.filtered) hrg hncl
    (by rw [hs'eq]; rfl) (by rw [hs'eq]; rfl) (fun hzn => by rw [← hcf]; exact hD.rngNone _ hzn)
  refine ⟨z', ?_, h1, (fun hf => by rw [hsta] at hf; cases hf), h2.imp id (fun ⟨q1, q2, q3⟩ => ⟨q1, rg, hrg, q2, q3⟩)⟩
  rcases h2 with h2 | ⟨rfl, _⟩
  · exact .call z r e .claim _ _ hz hr hok trivial h2
  · exact .wait _ r e.round hz hr

theorem z_sim_step {hash : List Nat → List Nat} {v : Variant} {a0 : InitArgs} {s z : State} {r : Nat}
    {e : Env} {c : Call} {s' : State} {o : Out} (hv : Plain v)
    (hz : ReachA hash v a0 z r) (hsim : ZSim s z) (hd : s.flags.started = false → z_Hd s)
    (hr : r ≤ e.round) (hok : EnvOK e) (hs : step hash s e c = .ok (s', o)) :
    ∃ z', ReachA hash v a0 z' e.round ∧ ZSim s' z' ∧ (s'.flags.started = false → z_Hd s') := by
  have hwf := reach_WF hv hz
  have hpl : Plain s.variant := by rw [← hsim.fields.2.2.1]; exact hwf.var
  have hex := rb_exposed hpl hs
  cases c with
  | addTickets l =>
    obtain ⟨z', h1, h2, h3, _⟩ := z_sim_add hv hz hsim hd hr hok hs; exact ⟨z', h1, h2, h3⟩
  | confirm n =>
    obtain ⟨z', h1, h2, h3, _⟩ := z_sim_confirm hz hsim hd hr hok hs; exact ⟨z', h1, h2, h3⟩
  | filter =>
    obtain ⟨z', h1, h2, h3, _⟩ := z_sim_filter hv hz hsim hr hok hs; exact ⟨z', h1, h2, h3⟩
  | claim =>
    obtain ⟨z', h1, h2, h3, _⟩ := z_sim_claim hv hz hsim hr hok hs; exact ⟨z', h1, h2, h3⟩
  | blacklist l =>
    obtain ⟨z', h1, h2, h3, _⟩ := z_sim_blacklist hv hz hsim hd hr hok hs; exact ⟨z', h1, h2, h3⟩
  | deposit | setTicketPrice _ _ | setPerTicket _ | setConfStart _ | setSelStart _ | setClaimStart _
  | setSupport _ | pause | unpause | select | claimPayment =>
    obtain ⟨z', h1, h2, h3, _⟩ := z_sim_indep rfl hz hsim hd hr hok hs; exact ⟨z', h1, h2, h3⟩
  | _ => exact (Bool.false_ne_true hex).elim

/-- **SIMULATION**: every state reachable WITHOUT the restriction `CallOK` is `ZSim`-related to a
    `ReachA` state (same deployment arguments, same round); `z_Hd` rides along while `started` is
    not set. -/
theorem z_sim {hash : List Nat → List Nat} {v : Variant} (hv : Plain v) {a0 : InitArgs}
    {s : State} {r : Nat} (h : ReachZA hash v a0 s r) :
    ∃ z, ReachA hash v a0 z r ∧ ZSim s z ∧ (s.flags.started = false → z_Hd s) := by
  induction h with
  | init e s h =>
    obtain ⟨_, _, _, _, _, _, _, _, _, _, _, _, _, h14, h15, h16, _, _⟩ := rb_init_inv hv h
    refine ⟨s, .init e s h, ZSim.refl_of_clean ?_ ?_, ?_⟩
    · rw [h14]; rfl
    · rw [h15]; rfl
    · intro _ i b _ hb
      rw [h15] at hb; cases hb
  | call s r e c s' o _ h1 h2 h3 ih =>
    obtain ⟨z, hz, hsim, hd⟩ := ih
    exact z_sim_step hv hz hsim hd h1 h2 h3
  | wait s r r' _ h1 ih =>
    obtain ⟨z, hz, hsim, hd⟩ := ih
    exact ⟨z, .wait z r r' hz h1, hsim, hd⟩

theorem z_sim_reach {hash : List Nat → List Nat} {v : Variant} (hv : Plain v)
    {s : State} {r : Nat} (h : ReachZ hash v s r) :
    ∃ z, Reach hash v z r ∧ ZSim s z := by
  obtain ⟨a0, h⟩ := ReachZ_iff.mp h
  obtain ⟨z, hz, hsim, _⟩ := z_sim hv h
  exact ⟨z, Reach_iff.mpr ⟨a0, hz⟩, hsim⟩

theorem z_done_rngNone {hash : List Nat → List Nat} {v : Variant} (hv : Plain v) {a0 : InitArgs}
    {z : State} {r : Nat} (hz : ReachA hash v a0 z r) (hsel : z.flags.selected = true) :
    ∀ a, z.range a = none → z.confirmed a = 0 :=
  (rb_phase_D (reach_WF hv hz).phase hsel).rngNone

/-- the payment ledger and the three counts of every plain launchpad, zero-size entries allowed: the
    conclusion of `rb_WF_ledger` with its last clause weakened — a range may be empty (then nothing is
    confirmed, `rangeLen rg = 0`) and its holder need not be in `L` -/
theorem ledger_Z {hash : List Nat → List Nat} {v : Variant} (hv : Plain v) {s : State} {r : Nat}
    (h : ReachZ hash v s r) :
    ∃ L : List Nat, Covers s L ∧ (¬ AllDone s → PayEqPre s L) ∧
      (AllDone s → PayEqPost s L ∧ sumOver (winCountOf s) L = s.nrWinning ∧
        (∀ a, winCountOf s a ≤ s.confirmed a) ∧
        (∀ a rg, s.range a = some rg → rangeLen rg = s.confirmed a ∧ (rg.first ≤ rg.last → a ∈ L))) := by
  obtain ⟨a0, h⟩ := ReachZ_iff.mp h
  obtain ⟨z, hz, hsim, _⟩ := z_sim hv h
  obtain ⟨L, h1, h2, h3⟩ := rb_WF_ledger (reach_WF hv hz)
  have := hsim.esim.ledger (fun hd => z_done_rngNone hv hz hd.1) h1 h2 h3
  obtain ⟨R, B, K, C, rfl⟩ := hsim.shape'
  exact ⟨L, this⟩

end LP

#print axioms LP.z_sim
#print axioms LP.z_sim_reach
