import LP.Proofs.Events
import LP.Proofs.Claim
import LP.Proofs.Loop
import LP.Proofs.Footprint
import LP.Proofs.NftDraw
/-
  Single fields after an accepted call, each read off the footprint of the call (new values from
  `exec_fp`, untouched fields from `exec_written`): the pair (`confirmed`, `blacklist`) (`cbAfter`,
  `step_cb`), the `claimed` map, and the calls that log no event (`silent`).  Before them, for C10 (blacklisting): the per-user view of the refund
  transfers (`blXfer_filter`), the invariant "blacklisted ⇒ nothing confirmed" (`BlZero`) and the
  exact NFT-fee refund (`refundNftMany_exact`).
-/
namespace LP.Events

theorem blXfer_fst {s : State} {a : Nat} {p : Nat × Pay} (h : blXfer s a = some p) : p.1 = a := by
  unfold blXfer at h
  split at h
  · injection h with h; subst h; rfl
  · cases h

/-- in a duplicate-free list the refund transfers addressed to `u` are exactly `blXfer s u` -/
theorem blXfer_filter (s : State) (u : Nat) : ∀ (l : List Nat), l.Nodup → u ∈ l →
    (l.filterMap (blXfer s)).filter (fun x => x.1 = u) = (blXfer s u).toList := by
  have hnot : ∀ (l : List Nat), u ∉ l → (l.filterMap (blXfer s)).filter (fun x => x.1 = u) = [] := by
    intro l hu
    rw [List.filter_eq_nil_iff]
    intro x hx
    obtain ⟨a, ha, hax⟩ := List.mem_filterMap.mp hx
    have := blXfer_fst hax
    simp only [decide_eq_true_eq]
    intro hxu
    exact hu (by rw [← hxu, this]; exact ha)
  intro l
  induction l with
  | nil => intro _ hu; cases hu
  | cons a rest ih =>
    intro hnd hu
    obtain ⟨ha, hnd'⟩ := List.nodup_cons.mp hnd
    rcases List.mem_cons.mp hu with rfl | hu'
    · simp only [List.filterMap_cons]
      cases hx : blXfer s u with
      | none => simpa using hnot rest ha
      | some p =>
        have hp : p.1 = u := blXfer_fst hx
        simp only [List.filter_cons, hp, decide_true, ↓reduceIte, Option.toList_some, hnot rest ha]
    · have hne : a ≠ u := fun h => ha (h ▸ hu')
      simp only [List.filterMap_cons]
      cases hx : blXfer s a with
      | none => exact ih hnd' hu'
      | some p =>
        have hp : p.1 = a := blXfer_fst hx
        simp only [List.filter_cons, hp, hne, decide_false, Bool.false_eq_true, ↓reduceIte]
        exact ih hnd' hu'

def BlZero (s : State) : Prop := ∀ u, s.blacklist u = true → s.confirmed u = 0

/-- `refund_nft_cost_after_blacklist`: with duplicate-free `payers` and list, the fee is returned
    to exactly the listed users that were in `payers` (in list order), and exactly those are
    removed from `payers` -/
theorem refundNftMany_exact (l : List Nat) : ∀ (t t' : Tx), t.s.payers.Nodup → l.Nodup →
    refundNftMany l t = .ok t' →
    t'.o.xfers = t.o.xfers ++ (l.filter (fun u => decide (u ∈ t.s.payers))).map (fun u => (u, t.s.nftCost)) ∧
    t'.s.payers.Nodup ∧ (∀ x, x ∈ t'.s.payers ↔ x ∈ t.s.payers ∧ x ∉ l) ∧
    t'.s.nftCost = t.s.nftCost := by
  induction l with
  | nil =>
    intro t t' _ _ h
    simp only [refundNftMany] at h
    injection h with h; subst h
    rename_i hp _
    exact ⟨by simp, hp, by simp, rfl⟩
  | cons u rest ih =>
    intro t t' hpn hnd h
    obtain ⟨hu, hnd'⟩ := List.nodup_cons.mp hnd
    have hdid := swapRemove_snd t.s.payers u
    have hpyn := swapRemove_nodup u hpn
    have hmem := fun x => mem_swapRemove u x hpn
    rw [refundNftMany] at h
    simp only at h
    split at h
    · rename_i hd
      have hup : u ∈ t.s.payers := hdid.mp hd
      split at h; · cases h
      rename_i t1 hsend
      obtain ⟨_, rfl⟩ := (send_ok_iff _ _ _ _).mp hsend
      obtain ⟨h1, h2, h3, h4⟩ := ih _ _ (by simpa [Tx.setS, sendResult] using hpyn) hnd' h
      simp only [Tx.setS, sendResult] at h1 h2 h3 h4
      refine ⟨?_, h2, ?_, h4⟩
      · rw [h1, List.filter_cons, if_pos (by simpa using hup)]
        simp only [List.map_cons, List.append_assoc, List.singleton_append]
        congr 3
        apply List.filter_congr
        intro x hx
        have hne : x ≠ u := fun h => hu (h ▸ hx)
        simp [hmem x, hne]
      · intro x
        rw [h3, hmem x]
        simp only [List.mem_cons, not_or]
        exact ⟨fun ⟨⟨a, b⟩, c⟩ => ⟨a, b, c⟩, fun ⟨a, b, c⟩ => ⟨⟨a, b⟩, c⟩⟩
    · rename_i hd
      have hup : u ∉ t.s.payers := fun hm => hd (hdid.mpr hm)
      obtain ⟨h1, h2, h3, h4⟩ := ih _ _ hpn hnd' h
      refine ⟨?_, h2, ?_, h4⟩
      · rw [h1]
        simp [List.filter_cons, hup]
      · intro x
        rw [h3]
        simp only [List.mem_cons, not_or]
        constructor
        · rintro ⟨a, b⟩
          exact ⟨a, fun hxu => hup (hxu ▸ a), b⟩
        · rintro ⟨a, _, b⟩
          exact ⟨a, b⟩

end LP.Events

/-
  The pair (`confirmed`, `blacklist`) after an accepted call (`cbAfter`): `confirm`, the blacklist
  calls and `claim` write it, with the exact values the footprint of the call gives (`exec_fp`);
  every other call leaves it alone (`exec_written`).
-/
namespace LP

structure CB where
  confirmed : Nat → Nat
  blacklist : Nat → Bool

@[reducible] def State.cb (s : State) : CB := ⟨s.confirmed, s.blacklist⟩

theorem cb_confirmed {s s' : State} (h : s'.cb = s.cb) : s'.confirmed = s.confirmed :=
  congrArg CB.confirmed h
theorem cb_blacklist {s s' : State} (h : s'.cb = s.cb) : s'.blacklist = s.blacklist :=
  congrArg CB.blacklist h

theorem GHook_cb {l : List Nat} {s s' : State} (h : Events.GHook l s s') : s'.cb = s.cb := by
  obtain ⟨⟨_, _, _, _, _, rfl⟩, _⟩ := h
  rfl

theorem clearGuaranteedV1_cb {s s' : State} {l : List Nat}
    (h : clearGuaranteedV1 s l = .ok s') : s'.cb = s.cb := GHook_cb (Events.clearGuaranteedV1_frame h)
theorem clearGuaranteedV2_cb {s s' : State} {l : List Nat}
    (h : clearGuaranteedV2 s l = .ok s') : s'.cb = s.cb := GHook_cb (Events.clearGuaranteedV2_frame h)
theorem restoreGuaranteedV1_cb {s s' : State} {l : List Nat}
    (h : restoreGuaranteedV1 s l = .ok s') : s'.cb = s.cb := GHook_cb (Events.restoreGuaranteedV1_frame h)
theorem restoreGuaranteedV2_cb {s s' : State} {l : List Nat}
    (h : restoreGuaranteedV2 s l = .ok s') : s'.cb = s.cb := GHook_cb (Events.restoreGuaranteedV2_frame h)

/-- `r`, if accepted, ends with the pair `c0`; the `KeepsCB_*` rules walk a `do` body with it
    (`exec_cb` reads the footprint and does not need them) -/
def KeepsCB (c0 : CB) (r : Res Tx) : Prop := ∀ t', r = .ok t' → t'.s.cb = c0

theorem KeepsCB_error (c0 : CB) (err : Err) : KeepsCB c0 (.error err) := by
  intro t' h; cases h

theorem KeepsCB_ok (c0 : CB) (t : Tx) (h : t.s.cb = c0) : KeepsCB c0 (.ok t) := by
  intro t' h'; cases h'; exact h

theorem KeepsCB_bind {α : Type} (c0 : CB) (x : Res α) (f : α → Res Tx)
    (h : ∀ a, x = .ok a → KeepsCB c0 (f a)) : KeepsCB c0 (x >>= f) := by
  intro t' h'
  obtain ⟨a, ha, hf⟩ := (bind_ok_iff _ _ _).mp h'
  exact h a ha t' hf

theorem KeepsCB_bind_nft (c0 : CB) (hash : List Nat → List Nat) (t0 : Tx) (r : Rng)
    (f : Tx × Rng × LoopStatus → Res Tx)
    (h : ∀ a : Tx × Rng × LoopStatus, a.1.s.cb = t0.s.cb → KeepsCB c0 (f a)) :
    KeepsCB c0 (nftSubstep hash t0 r >>= f) := by
  refine KeepsCB_bind _ _ _ fun a ha => h a ?_
  obtain ⟨_, _, _, _, _, _, h1⟩ := nftSubstep_fp (t' := a.1) (r' := a.2.1) (st := a.2.2) ha
  rw [h1]

theorem KeepsCB_bind_tx (c0 c1 : CB) (x : Res Tx) (f : Tx → Res Tx)
    (hx : ∀ a, x = .ok a → a.s.cb = c1)
    (h : ∀ a : Tx, a.s.cb = c1 → KeepsCB c0 (f a)) : KeepsCB c0 (x >>= f) :=
  KeepsCB_bind _ _ _ fun a ha => h a (hx a ha)

theorem KeepsCB_bind_st (c0 c1 : CB) (x : Res State) (f : State → Res Tx)
    (hx : ∀ a, x = .ok a → a.cb = c1)
    (h : ∀ a : State, a.cb = c1 → KeepsCB c0 (f a)) : KeepsCB c0 (x >>= f) :=
  KeepsCB_bind _ _ _ fun a ha => h a (hx a ha)

def cbAfter (s : State) (e : Env) : Call → CB
  | .confirm n => ⟨upd s.confirmed e.caller (s.confirmed e.caller + n), s.blacklist⟩
  | .blacklist l | .refundUsers l =>
    ⟨fun a => if a ∈ l then 0 else s.confirmed a, fun a => if a ∈ l then true else s.blacklist a⟩
  | .unblacklist l => ⟨s.confirmed, fun a => if a ∈ l then false else s.blacklist a⟩
  | .claim =>
    ⟨if s.variant.vested && s.claimed e.caller then s.confirmed else upd s.confirmed e.caller 0,
     s.blacklist⟩
  | _ => s.cb

theorem exec_cb {hash : List Nat → List Nat} {t t' : Tx} {e : Env} {c : Call}
    (h : exec hash t e c = .ok t') : t'.s.cb = cbAfter t.s e c := by
  have hf := (exec_fp h).1
  have hw := exec_written h
  cases c
  case claim =>
    -- a repeated claim happens only in a vesting variant; the first claim of a vesting variant and
    -- every claim of the others find `claimed caller = false`
    rcases hf with ⟨hv, hcl, _, _, hs⟩ | ⟨hcl, _, _, _, _, _, _, _, _, hs⟩ <;> rw [hs]
    · simp only [cbAfter, hv, hcl, Bool.and_self, if_true]
    · simp only [cbAfter, hcl, Bool.and_false, Bool.false_eq_true, if_false]
      rfl
  case confirm | blacklist | refundUsers | unblacklist => exact (congrArg State.cb hf :)
  all_goals exact (congrArg State.cb hw :)

theorem cbAfter_credit (s : State) (e : Env) (c : Call) :
    cbAfter (creditPayments s e) e c = cbAfter s e c := by
  cases c <;> rfl

theorem step_cb {hash : List Nat → List Nat} {s s' : State} {e : Env} {c : Call} {o : Out}
    (h : step hash s e c = .ok (s', o)) : s'.cb = cbAfter s e c := by
  obtain ⟨m, t, _, _, _, hx, rfl, _⟩ := step_ok_inv h
  rw [exec_cb hx]
  exact cbAfter_credit s e c

end LP

/-
  The `claimed` map: `claim` sets exactly the caller's flag (`exec_fp`), every other endpoint leaves
  the map alone (`exec_written`).
-/
namespace LP

/-- as `KeepsCB`, for the `claimed` map -/
def KeepsC (c0 : Nat → Bool) (r : Res Tx) : Prop := ∀ t', r = .ok t' → t'.s.claimed = c0

theorem KeepsC_error (c0 : Nat → Bool) (err : Err) : KeepsC c0 (.error err) := by
  intro t' h; cases h

theorem KeepsC_ok (c0 : Nat → Bool) (t : Tx) (h : t.s.claimed = c0) : KeepsC c0 (.ok t) := by
  intro t' h'; cases h'; exact h

theorem KeepsC_bind_nft (c0 : Nat → Bool) (hash : List Nat → List Nat) (t0 : Tx) (r : Rng)
    (f : Tx × Rng × LoopStatus → Res Tx)
    (h : ∀ a : Tx × Rng × LoopStatus, a.1.s.claimed = t0.s.claimed → KeepsC c0 (f a)) :
    KeepsC c0 (nftSubstep hash t0 r >>= f) := by
  intro t' h'
  obtain ⟨a, ha, hf⟩ := (bind_ok_iff _ _ _).mp h'
  refine h a ?_ t' hf
  obtain ⟨_, _, _, _, _, _, h1⟩ := nftSubstep_fp (t' := a.1) (r' := a.2.1) (st := a.2.2) ha
  rw [h1]

theorem exec_claimed_eq {hash : List Nat → List Nat} {t t' : Tx} {e : Env} {c : Call}
    (hc : c ≠ .claim) (h : exec hash t e c = .ok t') : t'.s.claimed = t.s.claimed := by
  have hw := exec_written h
  cases c
  case claim => exact absurd rfl hc
  all_goals exact (congrArg State.claimed hw :)

/-- a no-op on the repeated claim of a vesting variant, whose flag is set already -/
theorem exec_claim_claimed {hash : List Nat → List Nat} {t t' : Tx} {e : Env}
    (h : exec hash t e .claim = .ok t') : t'.s.claimed = upd t.s.claimed e.caller true := by
  rcases (exec_fp h).1 with ⟨_, hcl, _, _, hs⟩ | ⟨_, _, _, _, _, _, _, _, _, hs⟩ <;> rw [hs]
  · funext u
    rw [upd_apply]
    split
    · rename_i hu; rw [hu]; exact hcl
    · rfl
  · rfl

end LP

/-
  The endpoints outside `LP.Props.C20.emitting`, `pause` and `unpause` apart, append nothing to the
  event log: the output footprint of such a call (`OutFp`) does not list `events`.
-/
namespace LP.Events

/-- everything outside `C20.emitting` except `pause`/`unpause` -/
def silent : Call → Bool
  | .addTickets _ | .addTicketsV1 _ | .deposit | .setPerTicket _ | .setConfStart _ | .setSelStart _
  | .setClaimStart _ | .setSupport _ | .claimPayment | .setSchedule1 .. | .confirmNft | .selectNft
  | .secondary | .setNftCost _ | .issueSft | .createSfts | .setTransferRole _ | .sftSetup => true
  | _ => false

theorem exec_no_events {hash : List Nat → List Nat} {t t' : Tx} {e : Env} {c : Call}
    (hc : silent c = true) (h : exec hash t e c = .ok t') : t'.o.events = t.o.events := by
  have hf := (exec_fp h).2
  cases c <;> first | exact hf.elim | (cases hc; done) | skip
  all_goals
    lp_peel hf
    exact (congrArg Out.events hf :)

end LP.Events
