import LP.Proofs.Frame
import LP.Proofs.ReachNft
import LP.Proofs.ReachBEGen
import LP.Props.C02
/-
  The launchpad-token side of the launchpad with NFT draw (prefix `fl_`), in two parts: the NFT
  fee token differs from the launchpad token along every history, for every variant with the NFT
  hook; then, for `Variant.nft`, the coverage of the winners' launchpad tokens (`fl_NftLp`).

  The first part.  `validCost lp c` ends with `req (c.tok != .esdt lp) …` (repair 4830c00,
  nft_config.rs:36-41); it is called by `init` (variants with the NFT hook) and by `setNftCost`.
  `lpTok` is never written after `init`, `nftCost` only by `setNftCost`.  Hence deployment
  establishes `fl_FeeNeLp` and every accepted call of any variant keeps it.
-/
namespace LP

/-- the NFT fee token is not the launchpad token (whatever the nonce) -/
def fl_FeeNeLp (s : State) : Prop := s.nftCost.tok ≠ .esdt s.lpTok

instance (s : State) : Decidable (fl_FeeNeLp s) := by unfold fl_FeeNeLp; infer_instance

theorem fl_setNftCost_valid {hash : List Nat → List Nat} {s s' : State} {e : Env} {p : Pay} {o : Out}
    (h : step hash s e (.setNftCost p) = .ok (s', o)) :
    validCost s.lpTok p = .ok () ∧ s'.nftCost = p := by
  obtain ⟨m, t, _, _, _, hx, rfl, _⟩ := step_ok_inv h
  simp only [exec, requireStage, bind_ok_iff, pure_ok_iff, req_ok_iff, exists_const] at hx
  obtain ⟨_, _, hc, rfl⟩ := hx
  exact ⟨hc, rfl⟩

theorem fl_setNftCost_checked {hash : List Nat → List Nat} {s s' : State} {e : Env} {p : Pay} {o : Out}
    (h : step hash s e (.setNftCost p) = .ok (s', o)) :
    p.tok ≠ .esdt s.lpTok ∧ s'.nftCost = p :=
  (fl_setNftCost_valid h).imp_left validCost_ne_lp

/-- `nftCost` is written only by `setNftCost`, which runs `validCost` on the new value -/
theorem fl_step_nftCost {hash : List Nat → List Nat} {s s' : State} {e : Env} {c : Call} {o : Out}
    (h : step hash s e c = .ok (s', o)) :
    s'.nftCost = s.nftCost ∨ validCost s.lpTok s'.nftCost = .ok () := by
  by_cases hc : ∃ p, c = .setNftCost p
  · obtain ⟨p, rfl⟩ := hc
    obtain ⟨h1, h2⟩ := fl_setNftCost_valid h
    rw [h2]; exact .inr h1
  · exact .inl (nftCost_frame h fun p hp => hc ⟨p, hp⟩)

theorem fl_step_fee_ne_lp {hash : List Nat → List Nat} {s s' : State} {e : Env} {c : Call} {o : Out}
    (h : step hash s e c = .ok (s', o)) (hinv : fl_FeeNeLp s) : fl_FeeNeLp s' := by
  unfold fl_FeeNeLp at *
  rw [step_lpTok h]
  rcases fl_step_nftCost h with h1 | h1
  · rw [h1]; exact hinv
  · exact validCost_ne_lp h1

theorem fl_init_inv {v : Variant} {a : InitArgs} {e : Env} {s : State} (h : init v a e = .ok s)
    (hv : v.hasNft = true) :
    s.lpTok = a.lpTok ∧ s.nftCost = a.nftCost ∧ validCost a.lpTok a.nftCost = .ok () := by
  obtain ⟨hok, rfl⟩ := init_ok h
  exact ⟨rfl, if_pos hv, (hok.nft hv).2⟩

theorem fl_init_fee_ne_lp {v : Variant} {a : InitArgs} {e : Env} {s : State}
    (h : init v a e = .ok s) (hv : v.hasNft = true) : fl_FeeNeLp s := by
  obtain ⟨h1, h2, h3⟩ := fl_init_inv h hv
  unfold fl_FeeNeLp
  rw [h1, h2]
  exact validCost_ne_lp h3

theorem fl_run_preserves (hash : List Nat → List Nat) :
    ∀ (h : List (Env × Call)) (s : State), fl_FeeNeLp s → fl_FeeNeLp (run hash s h) :=
  run_induct hash fl_FeeNeLp fun _ _ _ _ _ hp hs => fl_step_fee_ne_lp hs hp

theorem fl_run_lpTok (hash : List Nat → List Nat) :
    ∀ (h : List (Env × Call)) (s : State), (run hash s h).lpTok = s.lpTok :=
  fun h s => run_induct hash (fun s' => s'.lpTok = s.lpTok)
    (fun _ _ _ _ _ hp hs => (step_lpTok hs).trans hp) h s rfl

theorem fl_run_fee_ne_lp (hash : List Nat → List Nat) {v : Variant} {a : InitArgs} {e : Env}
    {s0 : State} (hi : init v a e = .ok s0) (hv : v.hasNft = true) (h : List (Env × Call)) :
    (run hash s0 h).nftCost.tok ≠ .esdt (run hash s0 h).lpTok :=
  fl_run_preserves hash h s0 (fl_init_fee_ne_lp hi hv)

/-! ### EGLD has no nonce (first check of `validCost`) -/

/-- an EGLD fee has nonce 0 -/
def fl_FeeNonceOk (s : State) : Prop := s.nftCost.tok = .egld → s.nftCost.nonce = 0

theorem fl_validCost_egld {lp : Nat} {c : Pay} (h : validCost lp c = .ok ()) :
    c.tok = .egld → c.nonce = 0 := by
  intro ht
  unfold validCost at h
  split at h
  · simp only [bind_ok_iff, req_ok_iff, exists_const] at h
    simpa using h.1
  · rename_i hne
    simp [ht] at hne

theorem fl_step_nonceOk {hash : List Nat → List Nat} {s s' : State} {e : Env} {c : Call} {o : Out}
    (h : step hash s e c = .ok (s', o)) (hinv : fl_FeeNonceOk s) : fl_FeeNonceOk s' := by
  unfold fl_FeeNonceOk at *
  rcases fl_step_nftCost h with h1 | h1
  · rw [h1]; exact hinv
  · exact fl_validCost_egld h1

theorem fl_init_nonceOk {v : Variant} {a : InitArgs} {e : Env} {s : State}
    (h : init v a e = .ok s) (hv : v.hasNft = true) : fl_FeeNonceOk s := by
  obtain ⟨_, h2, h3⟩ := fl_init_inv h hv
  unfold fl_FeeNonceOk
  rw [h2]
  exact fl_validCost_egld h3

theorem fl_run_nonceOk_preserves (hash : List Nat → List Nat) :
    ∀ (h : List (Env × Call)) (s : State), fl_FeeNonceOk s → fl_FeeNonceOk (run hash s h) :=
  run_induct hash fl_FeeNonceOk fun _ _ _ _ _ hp hs => fl_step_nonceOk hs hp

end LP

#print axioms LP.fl_step_fee_ne_lp
#print axioms LP.fl_init_fee_ne_lp
#print axioms LP.fl_run_fee_ne_lp

/-
  The launchpad-token side of `Variant.nft` (launchpad-with-nft), which the invariant `nf_WF` does
  not cover.  `fl_NftLp s`: variant, "payment token ≠ launchpad token", "fee token ≠
  launchpad token" and the coverage `deposited → perTicket × nrWinning ≤ bal lpTok`
  (`LP.Props.C02.LpCover`).  Every accepted call keeps it, whatever its arguments or call value
  (`fl_step_NftLp`), and after an accepted `claimPayment` exactly `perTicket × nrWinning` stay
  (`fl_owner_surplus_step`).

  For the coverage most calls are inert (`fl_exec_inert`: the body keeps what the coverage reads,
  and the call value only adds to a balance); `deposit` establishes it, `setPerTicket` is refused
  once deposited, and `claim`, `blacklist`, `claimPayment` pay out.  "Fee token ≠ launchpad token"
  is needed because these three send NFT fees out of the slot `(nftCost.tok, nftCost.nonce)`; with
  the repair 4830c00 that slot is never the launchpad-token slot, so these transfers do not touch
  the winners' tokens.
-/
namespace LP
open LP.FY LP.Events LP.Props.C09 LP.Props.C14

structure fl_NftLp (s : State) : Prop where
  var : s.variant = .nft
  tokNe : s.payTok ≠ .esdt s.lpTok
  feeNe : s.nftCost.tok ≠ .esdt s.lpTok
  cover : s.deposited = true → s.perTicket * s.nrWinning ≤ s.bal (.esdt s.lpTok) 0

theorem fl_foldl_add_le (l : List Pay) : ∀ (b : Bal) (t : Token) (n : Nat),
    b t n ≤ (l.foldl (fun b p => b.add p.tok p.nonce p.amount) b) t n := by
  induction l with
  | nil => intro b t n; exact Nat.le_refl _
  | cons p rest ih =>
    intro b t n
    simp only [List.foldl_cons]
    refine Nat.le_trans ?_ (ih _ t n)
    unfold Bal.add; split <;> omega

theorem fl_credit_le (s : State) (e : Env) (t : Token) (n : Nat) :
    s.bal t n ≤ (creditPayments s e).bal t n := by
  unfold creditPayments
  refine Nat.le_trans ?_ (fl_foldl_add_le e.esdts _ t n)
  unfold Bal.add; split <;> omega

theorem fl_credit_single_ge {s : State} {e : Env} {tok : Token} {amt : Nat}
    (h : singleFungible e = .ok (tok, amt)) : s.bal tok 0 + amt ≤ (creditPayments s e).bal tok 0 := by
  rw [creditPayments_single s (singleFungible_ok h)]
  show s.bal tok 0 + amt ≤ ((s.bal.add .egld 0 e.egld).add tok 0 amt) tok 0
  rw [Bal.add_at]
  exact Nat.add_le_add_right (by unfold Bal.add; split <;> omega) _

/-- the coverage is kept when nothing it reads gets worse -/
theorem fl_cover_keep {s s' : State}
    (h : s.deposited = true → s.perTicket * s.nrWinning ≤ s.bal (.esdt s.lpTok) 0)
    (hd : s'.deposited = s.deposited) (hp : s'.perTicket = s.perTicket) (hl : s'.lpTok = s.lpTok)
    (hn : s'.nrWinning ≤ s.nrWinning)
    (hb : s.bal (.esdt s.lpTok) 0 ≤ s'.bal (.esdt s.lpTok) 0) :
    s'.deposited = true → s'.perTicket * s'.nrWinning ≤ s'.bal (.esdt s'.lpTok) 0 := by
  intro hd'
  rw [hd] at hd'
  rw [hp, hl]
  exact Nat.le_trans (Nat.le_trans (Nat.mul_le_mul_left _ hn) (h hd')) hb

/-- `nftSubstep` changes only `payers`, `nftWinners`, `op`, `claimableNft` — in particular neither
    the outstanding winners nor a balance -/
theorem fl_nftSubstep_view {hash : List Nat → List Nat} {t t' : Tx} {r r' : Rng} {st : LoopStatus}
    (h : nftSubstep hash t r = .ok (t', r', st)) :
    t'.s.nrWinning = t.s.nrWinning ∧ t'.s.bal = t.s.bal := by
  unfold nftSubstep at h
  simp only [bind_ok_iff, Prod.exists] at h
  obtain ⟨x, b, st1, h1, h⟩ := h
  have hx := runWhile_nftBody_tx_s h1
  simp only at hx
  cases st1 with
  | outOfFuel => cases h
  | interrupted =>
    simp only [pure_ok_iff, Prod.mk.injEq] at h
    obtain ⟨rfl, _, _⟩ := h
    refine ⟨?_, ?_⟩ <;> simp only [hx]
  | completed =>
    simp only [pure_ok_iff, Prod.mk.injEq] at h
    obtain ⟨rfl, _, _⟩ := h
    refine ⟨?_, ?_⟩ <;> simp only [Tx.setS_s, hx]

/-- the calls whose body keeps `deposited`, `perTicket`, `lpTok` and every balance and does not
    raise `nrWinning` (the call value of `confirm` and `confirmNft` is credited before the body) -/
def fl_inert : Call → Bool
  | .addTickets _ | .setTicketPrice .. | .setNftCost _ | .setConfStart _ | .setSelStart _
  | .setClaimStart _ | .setSupport _ | .pause | .unpause | .sftSetup | .confirm _ | .confirmNft
  | .filter | .select | .selectNft => true
  | _ => false

theorem fl_exec_inert {hash : List Nat → List Nat} {t t' : Tx} {e : Env} {c : Call}
    (hc : fl_inert c = true) (h : exec hash t e c = .ok t') :
    t'.s.deposited = t.s.deposited ∧ t'.s.perTicket = t.s.perTicket ∧ t'.s.lpTok = t.s.lpTok ∧
    t'.s.nrWinning ≤ t.s.nrWinning ∧ t'.s.bal = t.s.bal := by
  have hf := (exec_fp h).1
  cases c
  case filter =>
    simp only [exec] at h
    obtain ⟨_, x, f, b, _, ⟨_, h1⟩ | ⟨_, _, h1⟩⟩ := filterTickets_ok_cases _ _ _ h
    · rw [h1]
      exact ⟨rfl, rfl, rfl, Nat.le_refl _, rfl⟩
    · rw [h1]
      refine ⟨rfl, rfl, rfl, ?_, rfl⟩
      show (if t.s.nrWinning > t.s.lastTicketId - f.removed then t.s.lastTicketId - f.removed
        else t.s.nrWinning) ≤ t.s.nrWinning
      split <;> omega
  case selectNft =>
    simp only [exec] at h
    have hst := selectNft_static h
    obtain ⟨_, _, _, t0, t1, rng, rng', st, h0, hsub, hfin⟩ := g_selectNft_inv h
    obtain ⟨v1, v2⟩ := fl_nftSubstep_view hsub
    rw [h0] at v1 v2
    refine ⟨static_deposited hst, terms_perTicket (static_terms hst), terms_lpTok (static_terms hst),
      ?_⟩
    rcases hfin with ⟨_, h1, _⟩ | ⟨_, h1, _⟩ <;> (rw [h1]; exact ⟨Nat.le_of_eq v1, v2⟩)
  -- the other inert calls: the footprint names the fields written, none of them read here
  case addTickets | confirmNft | select =>
    have hw := exec_written h
    exact ⟨(congrArg State.deposited hw :), (congrArg State.perTicket hw :), (congrArg State.lpTok hw :),
      Nat.le_of_eq (congrArg State.nrWinning hw :), (congrArg State.bal hw :)⟩
  case setTicketPrice | setNftCost | setConfStart | setSelStart | setClaimStart
      | setSupport | pause | unpause | sftSetup | confirm =>
    rw [hf]
    exact ⟨rfl, rfl, rfl, Nat.le_refl _, rfl⟩
  all_goals cases hc

section calls
variable {hash : List Nat → List Nat} {s s' : State} {e : Env} {o : Out}

theorem fl_cover_deposit (hs : step hash s e .deposit = .ok (s', o)) :
    s'.deposited = true → s'.perTicket * s'.nrWinning ≤ s'.bal (.esdt s'.lpTok) 0 := by
  obtain ⟨_, _, hsf⟩ := (LP.Props.C02.deposit_accepted_iff hash s e).mp ⟨_, hs⟩
  obtain ⟨rfl, _⟩ := LP.Props.C02.deposit_effect hash s s' e o hs
  have hge := fl_credit_single_ge (s := s) hsf
  intro _
  show s.perTicket * s.nrWinning ≤ (creditPayments s e).bal (.esdt s.lpTok) 0
  have : s.perTicket * s.nrWinning ≤ s.perTicket * LP.Props.C02.maxWinners s :=
    Nat.mul_le_mul_left _ (by unfold LP.Props.C02.maxWinners; omega)
  omega

theorem fl_cover_blacklist {l : List Nat} (hI : fl_NftLp s)
    (hs : step hash s e (.blacklist l) = .ok (s', o)) :
    s'.deposited = true → s'.perTicket * s'.nrWinning ≤ s'.bal (.esdt s'.lpTok) 0 := by
  obtain ⟨t, hx, rfl⟩ := step_np rfl hs
  obtain ⟨_, hv3, hv1, hv2, _⟩ := nf_flags hI.var
  simp only [exec, bind_ok_iff] at hx
  obtain ⟨t1, h1, hx⟩ := hx
  obtain ⟨_, _, _, _, _, rfl⟩ := (addUsersToBlacklist_ok_iff _ _ _ _).mp h1
  have hvar : (blTx (rbTx s e) e l).s.variant = s.variant := rfl
  simp only [hvar, hv1, hv2, hv3, Bool.false_eq_true, if_false, if_true, pure_bind, bind_ok_iff] at hx
  obtain ⟨t2, h2, hx⟩ := hx
  obtain ⟨P, B, hshape⟩ := (Events.refundNftMany_frame l _ _ h2).1
  have hvar2 : t2.s.variant = s.variant := by rw [hshape]; rfl
  simp only [hvar2, hv1, Bool.false_eq_true, if_false, pure_ok_iff] at hx
  subst hx
  obtain ⟨_, _, _, _, _, _, a7⟩ := refundNftMany_recon l h2
  have hbs : (blTx (rbTx s e) e l).s = blState s l := rfl
  rw [hbs] at a7 hshape
  have hlp : t2.s.bal (.esdt s.lpTok) 0 = s.bal (.esdt s.lpTok) 0 := by
    rw [a7 _ _ (by intro hh; exact hI.feeNe hh.1.symm)]
    show (s.bal.sub s.payTok 0 _) (.esdt s.lpTok) 0 = _
    have hne2 : Token.esdt s.lpTok ≠ s.payTok := fun hh => hI.tokNe hh.symm
    simp only [Bal.sub, hne2, false_and, if_false]
  have e1 : t2.s.deposited = s.deposited := by rw [hshape]; rfl
  have e2 : t2.s.perTicket = s.perTicket := by rw [hshape]; rfl
  have e3 : t2.s.lpTok = s.lpTok := by rw [hshape]; rfl
  have e4 : t2.s.nrWinning = s.nrWinning := by rw [hshape]; rfl
  exact fl_cover_keep hI.cover e1 e2 e3 (by rw [e4]; exact Nat.le_refl _) (by rw [hlp]; exact Nat.le_refl _)

theorem fl_cover_claim (hI : fl_NftLp s) (hs : step hash s e .claim = .ok (s', o)) :
    s'.deposited = true → s'.perTicket * s'.nrWinning ≤ s'.bal (.esdt s'.lpTok) 0 := by
  obtain ⟨rg, hacc, _, rfl⟩ := nf_claim_shape hash s e s' o (by rw [hI.var]; rfl) hs
  obtain ⟨_, _, _, _, hrg, hnw, _, _, _⟩ := hacc
  have hw : winCount s e.caller = countWinning s.status rg.first (rangeLen rg) :=
    winCount_of_range hrg
  intro hd
  have h0 := hI.cover hd
  have hne : Token.esdt s.lpTok ≠ s.payTok := fun hh => hI.tokNe hh.symm
  have hnl' : ¬ (Token.esdt s.lpTok = s.nftCost.tok ∧ 0 = s.nftCost.nonce) :=
    fun hh => hI.feeNe hh.1.symm
  show s.perTicket * (s.nrWinning - countWinning s.status rg.first (rangeLen rg)) ≤
    ((balAfterClaim s e.caller).sub s.nftCost.tok s.nftCost.nonce (nf_delta s e.caller))
      (.esdt s.lpTok) 0
  have hB : ((balAfterClaim s e.caller).sub s.nftCost.tok s.nftCost.nonce (nf_delta s e.caller))
      (.esdt s.lpTok) 0 = s.bal (.esdt s.lpTok) 0 - winCount s e.caller * s.perTicket := by
    simp only [Bal.sub, hnl', if_false]
    unfold balAfterClaim
    simp only [Bal.sub, and_self, if_true, hne, false_and, if_false]
  rw [hB, ← hw]
  exact (LP.Props.C02.cover_after_payout s.perTicket s.nrWinning _ _ hnw h0).2

/-- **the owner can withdraw only the surplus** (`Variant.nft`): an accepted `claimPayment` needs
    the coverage and leaves exactly the outstanding winners' launchpad tokens; both recorded
    proceeds are zero afterwards -/
theorem fl_owner_surplus_step (hI : fl_NftLp s) (hs : step hash s e .claimPayment = .ok (s', o)) :
    s.perTicket * s.nrWinning ≤ s.bal (.esdt s.lpTok) 0 ∧
    s'.bal (.esdt s'.lpTok) 0 = s'.perTicket * s'.nrWinning ∧ s'.nrWinning = s.nrWinning ∧
    s'.perTicket = s.perTicket ∧ s'.lpTok = s.lpTok ∧ s'.deposited = s.deposited ∧
    s'.claimablePayment = 0 ∧ s'.claimableNft = 0 ∧ ∃ B, s' = nf_cpState s B 0 0 := by
  obtain ⟨t, hx, rfl⟩ := step_np rfl hs
  obtain ⟨_, _, hcov, b, hs', _, hsur, _, _⟩ :=
    nf_claimPayment_exact (nf_flags hI.var).2.1 hI.tokNe hx
  rw [hs']
  refine ⟨hcov, ?_, rfl, rfl, rfl, rfl, rfl, rfl, _, rfl⟩
  show (b.sub s.nftCost.tok s.nftCost.nonce s.claimableNft) (.esdt s.lpTok) 0 = s.perTicket * s.nrWinning
  rw [Bal.sub_apply, if_neg (fun hh => hI.feeNe hh.1.symm), hsur]; rfl

end calls

/-- **preservation**: every accepted call of the launchpad with NFT draw keeps `fl_NftLp` — no
    restriction on the call, its arguments or its call value -/
theorem fl_step_NftLp {hash : List Nat → List Nat} {s s' : State} {e : Env} {c : Call} {o : Out}
    (hI : fl_NftLp s) (hs : step hash s e c = .ok (s', o)) : fl_NftLp s' := by
  refine ⟨(step_variant hs).trans hI.var, step_tokNe hs hI.tokNe,
    fl_step_fee_ne_lp hs hI.feeNe, ?_⟩
  cases hq : fl_inert c with
  | true =>
    obtain ⟨m, t, _, _, _, hx, rfl, _⟩ := step_ok_inv hs
    obtain ⟨h1, h2, h3, h4, h5⟩ := fl_exec_inert hq hx
    exact fl_cover_keep hI.cover h1 h2 h3 h4 (by rw [h5]; exact fl_credit_le s e _ _)
  | false =>
    have hex : c.exposedIn .nft = true := hI.var ▸ step_exposed hs
    cases c with
    | deposit => exact fl_cover_deposit hs
    | setPerTicket a =>
      intro hd
      rw [(deposited_frame hs).1 nofun, (setPerTicket_terms hs).2.2.2.1] at hd
      cases hd
    | claim => exact fl_cover_claim hI hs
    | blacklist l => exact fl_cover_blacklist hI hs
    | claimPayment =>
      intro _
      rw [(fl_owner_surplus_step hI hs).2.1]
      exact Nat.le_refl _
    | addTicketsV1 _ | addTicketsV2 _ | refundUsers _ | unblacklist _ | distribute
    | setSchedule1 _ _ _ _ _ | setSchedule2 _ | secondary => exact (Bool.false_ne_true hex).elim
    | issueSft | createSfts | setTransferRole _ => exact (step_sft_rejected hs).elim
    | _ => cases hq

theorem fl_init_NftLp {a : InitArgs} {e : Env} {s : State} (h : init .nft a e = .ok s) :
    fl_NftLp s := by
  have hfee := fl_init_fee_ne_lp h rfl
  obtain ⟨_, _, h3, _, rfl⟩ := nf_init_inv h
  exact ⟨rfl, h3, hfee, fun hd => by cases hd⟩

theorem fl_run_NftLp_preserves (hash : List Nat → List Nat) :
    ∀ (h : List (Env × Call)) (s : State), fl_NftLp s → fl_NftLp (run hash s h) :=
  run_induct hash fl_NftLp fun _ _ _ _ _ hp hs => fl_step_NftLp hp hs

theorem fl_run_NftLp (hash : List Nat → List Nat) {a : InitArgs} {e : Env} {s0 : State}
    (hi : init .nft a e = .ok s0) (h : List (Env × Call)) : fl_NftLp (run hash s0 h) :=
  fl_run_NftLp_preserves hash h s0 (fl_init_NftLp hi)

theorem fl_reach_NftLp {hash : List Nat → List Nat} {s : State} {r : Nat}
    (h : Reach hash .nft s r) : fl_NftLp s := by
  induction h with
  | init a e s h => exact fl_init_NftLp h
  | call s r e c s' o _ _ _ _ h4 ih => exact fl_step_NftLp ih h4
  | wait s r r' _ _ ih => exact ih

end LP

#print axioms LP.fl_step_NftLp
#print axioms LP.fl_init_NftLp
#print axioms LP.fl_run_NftLp
#print axioms LP.fl_reach_NftLp
#print axioms LP.fl_owner_surplus_step
