import LP.Proofs.StepLemmas
import LP.Proofs.Loop
import LP.Proofs.Vesting
import LP.Proofs.Claim
import LP.Proofs.Footprint
import LP.Proofs.PauseAttr
/-
  Non-interference of `exec`.  `Ow` is a masked overwrite of the pause flag and the seven fields of the
  allocation bookkeeping (`range`, `batch`, `blacklist`, `claimed`, `uts`, `blUts`, `whitelist`): `none`
  leaves a field as it is.  Every part `X` of the model satisfies the *equation*
      X (owt t w) = mapR (owt · w) (X t)          (errors included)
  provided `w` is `none` on the fields among the eight that `X` reads or writes; the loops carry the state
  only inside a `Tx`, so `runWhile` gets a commutation rule (`runWhile_commutes`).  `Ow.Avoids w v c` is
  that proviso for the body of call `c`: the read/write table of the model for these eight fields.
  `exec_ow`, `step_ow` are the theorem.  `State.setP` (PauseFrame), `ov` (ZeroAllocErase) and the partial
  overwrites `z_w`, `zg_w`, `zc_w` of the zero-size layer are `ow s w` for some `w`, by `rfl`.

  Each script first lets `simp only [setp]` normalise the reads `(ow s w).f` to `s.f` and push `mapR` under
  the binds, then descends under the binds the two sides share (`bind_congr_fun`) and splits the `match`es
  that `mapR` cannot be pushed through.  A hypothesis `w.F = none` is made definitional first
  (`obtain ⟨P, R, B, K, C, U, BU, W⟩ := w; subst …`): the closing `rfl`s compare states field by field.
-/
set_option linter.unusedSimpArgs false

namespace LP

def mapR {α β : Type} (f : α → β) : Res α → Res β
  | .ok a => .ok (f a)
  | .error e => .error e

@[simp, setp] theorem mapR_ok {α β : Type} (f : α → β) (a : α) : mapR f (.ok a : Res α) = .ok (f a) := rfl
@[simp, setp] theorem mapR_pure {α β : Type} (f : α → β) (a : α) : mapR f (pure a : Res α) = pure (f a) := rfl
@[simp, setp] theorem mapR_error {α β : Type} (f : α → β) (e : Err) :
    mapR f (.error e : Res α) = .error e := rfl
@[setp] theorem mapR_bind {α β γ : Type} (f : β → γ) (x : Res α) (g : α → Res β) :
    mapR f (x >>= g) = x >>= fun a => mapR f (g a) := by
  cases x <;> rfl
@[setp] theorem bind_mapR {α β γ : Type} (f : α → β) (x : Res α) (g : β → Res γ) :
    mapR f x >>= g = x >>= fun a => g (f a) := by
  cases x <;> rfl
@[setp] theorem mapR_ite {α β : Type} (f : α → β) (c : Prop) [Decidable c] (x y : Res α) :
    mapR f (if c then x else y) = if c then mapR f x else mapR f y := by
  split <;> rfl
attribute [setp] pure_bind

theorem mapR_ok_iff {α β : Type} (f : α → β) (x : Res α) (b : β) :
    mapR f x = .ok b ↔ ∃ a, x = .ok a ∧ f a = b := by
  cases x <;> simp [mapR]
theorem mapR_id' {α : Type} (f : α → α) (x : Res α) (h : ∀ a, x = .ok a → f a = a) : mapR f x = x := by
  cases x with
  | error e => rfl
  | ok a => simp only [mapR_ok, h a rfl]

theorem ite_eq_ite {α : Type} (c : Prop) [Decidable c] {a a' b b' : α}
    (h1 : c → a = a') (h2 : ¬c → b = b') : ite c a b = ite c a' b' := by
  split
  · exact h1 ‹_›
  · exact h2 ‹_›

theorem ite_eq_ite' {α : Type} (c c' : Prop) [Decidable c] [Decidable c'] {a a' b b' : α}
    (hc : c ↔ c') (h1 : c → a = a') (h2 : ¬c → b = b') : ite c a b = ite c' a' b' := by
  by_cases h : c
  · rw [if_pos h, if_pos (hc.mp h)]; exact h1 h
  · rw [if_neg h, if_neg (fun h' => h (hc.mpr h'))]; exact h2 h

theorem ite_eq_mapR_ite {α β : Type} (f : α → β) (c c' : Prop) [Decidable c] [Decidable c']
    {a b : Res β} {a' b' : Res α}
    (hc : c ↔ c') (h1 : c → a = mapR f a') (h2 : ¬c → b = mapR f b') :
    ite c a b = mapR f (ite c' a' b') := by
  by_cases h : c
  · rw [if_pos h, if_pos (hc.mp h)]; exact h1 h
  · rw [if_neg h, if_neg (fun h' => h (hc.mpr h'))]; exact h2 h

/-- split an equation between two conditionals on the same condition (up to unfolding) -/
macro "ite_both" : tactic => `(tactic| first
  | refine ite_eq_ite _ (fun _ => ?_) (fun _ => ?_)
  | refine ite_eq_ite' _ _ Iff.rfl (fun _ => ?_) (fun _ => ?_)
  | refine ite_eq_mapR_ite _ _ _ Iff.rfl (fun _ => ?_) (fun _ => ?_))

/-- close `lhs = rhs` with an equation whose right-hand side matches `rhs` syntactically and whose
    left-hand side matches `lhs` up to unfolding -/
macro "rhs_exact " t:term : tactic => `(tactic| (refine Eq.trans ?_ $t; rfl))

/-- congruence for a bind whose first action commutes with `φ` -/
theorem bind_eq_bind_of_mapR {α β : Type} (φ : α → α) {x' x : Res α} {g' h : α → Res β}
    (hx : x' = mapR φ x) (hg : ∀ a, g' (φ a) = h a) : x' >>= g' = x >>= h := by
  subst hx
  cases x with
  | error e => rfl
  | ok a => exact hg a

theorem bind_congr_fun {α β : Type} {x : Res α} {f g : α → Res β} (h : ∀ a, f a = g a) :
    x >>= f = x >>= g := by
  cases x with
  | error e => rfl
  | ok a => exact h a

def fst1 {α β : Type} (f : α → α) : α × β → α × β := fun p => (f p.1, p.2)
@[simp, setp] theorem fst1_mk {α β : Type} (f : α → α) (a : α) (b : β) : fst1 f (a, b) = (f a, b) := rfl
@[simp, setp] theorem fst1_fst {α β : Type} (f : α → α) (p : α × β) : (fst1 f p).1 = f p.1 := rfl
@[simp, setp] theorem fst1_snd {α β : Type} (f : α → α) (p : α × β) : (fst1 f p).2 = p.2 := rfl
def snd1 {α β : Type} (f : β → β) : α × β → α × β := fun p => (p.1, f p.2)
@[simp, setp] theorem snd1_fst {α β : Type} (f : β → β) (p : α × β) : (snd1 f p).1 = p.1 := rfl
@[simp, setp] theorem snd1_snd {α β : Type} (f : β → β) (p : α × β) : (snd1 f p).2 = f p.2 := rfl
@[simp, setp] theorem snd1_mk {α β : Type} (f : β → β) (a : α) (b : β) : snd1 f (a, b) = (a, f b) := rfl

theorem runWhile_commutes {σ : Type} (φ : σ → σ) (body : σ → Res (σ × Bool))
    (hb : ∀ x, body (φ x) = mapR (fst1 φ) (body x)) :
    ∀ (fuel : Nat) (bud : Option Nat) (x : σ),
      runWhile body fuel bud (φ x) = mapR (fst1 φ) (runWhile body fuel bud x) := by
  intro fuel bud x
  rw [runWhile_map φ body body fun y => by rw [hb]; cases body y <;> rfl]
  cases runWhile body fuel bud x <;> rfl

@[setp] theorem Tx.setS_s' (t : Tx) (s : State) : (t.setS s).s = s := rfl
@[setp] theorem Tx.setS_o' (t : Tx) (s : State) : (t.setS s).o = t.o := rfl
@[setp] theorem Tx.setS_c' (t : Tx) (s : State) : (t.setS s).c = t.c := rfl
@[setp] theorem Tx.emit_s' (t : Tx) (ev : Ev) : (t.emit ev).s = t.s := rfl
@[setp] theorem Tx.emit_c' (t : Tx) (ev : Ev) : (t.emit ev).c = t.c := rfl

/-- masked overwrite of `paused` and the seven fields of the allocation bookkeeping; `none` = leave alone -/
structure Ow where
  P : Option Bool := none
  R : Option (Nat → Option Range) := none
  B : Option (Nat → Option Batch) := none
  K : Option (Nat → Bool) := none
  C : Option (Nat → Bool) := none
  U : Option (Nat → Option UTS) := none
  BU : Option (Nat → Option UTS) := none
  W : Option (List Nat) := none

def ow (s : State) (w : Ow) : State :=
  { s with paused := w.P.getD s.paused, range := w.R.getD s.range, batch := w.B.getD s.batch,
           blacklist := w.K.getD s.blacklist, claimed := w.C.getD s.claimed, uts := w.U.getD s.uts,
           blUts := w.BU.getD s.blUts, whitelist := w.W.getD s.whitelist }

def owt (t : Tx) (w : Ow) : Tx := { t with s := ow t.s w }

@[setp] theorem ow_variant (s : State) (w : Ow) : (ow s w).variant = s.variant := rfl
@[setp] theorem ow_owner (s : State) (w : Ow) : (ow s w).owner = s.owner := rfl
@[setp] theorem ow_lpTok (s : State) (w : Ow) : (ow s w).lpTok = s.lpTok := rfl
@[setp] theorem ow_perTicket (s : State) (w : Ow) : (ow s w).perTicket = s.perTicket := rfl
@[setp] theorem ow_payTok (s : State) (w : Ow) : (ow s w).payTok = s.payTok := rfl
@[setp] theorem ow_price (s : State) (w : Ow) : (ow s w).price = s.price := rfl
@[setp] theorem ow_nrWinning (s : State) (w : Ow) : (ow s w).nrWinning = s.nrWinning := rfl
@[setp] theorem ow_cfg (s : State) (w : Ow) : (ow s w).cfg = s.cfg := rfl
@[setp] theorem ow_flags (s : State) (w : Ow) : (ow s w).flags = s.flags := rfl
@[setp] theorem ow_support (s : State) (w : Ow) : (ow s w).support = s.support := rfl
@[setp] theorem ow_paused (s : State) (w : Ow) : (ow s w).paused = w.P.getD s.paused := rfl
@[setp] theorem ow_deposited (s : State) (w : Ow) : (ow s w).deposited = s.deposited := rfl
@[setp] theorem ow_totalDeposited (s : State) (w : Ow) : (ow s w).totalDeposited = s.totalDeposited := rfl
@[setp] theorem ow_claimablePayment (s : State) (w : Ow) : (ow s w).claimablePayment = s.claimablePayment := rfl
@[setp] theorem ow_lastTicketId (s : State) (w : Ow) : (ow s w).lastTicketId = s.lastTicketId := rfl
@[setp] theorem ow_range (s : State) (w : Ow) : (ow s w).range = w.R.getD s.range := rfl
@[setp] theorem ow_batch (s : State) (w : Ow) : (ow s w).batch = w.B.getD s.batch := rfl
@[setp] theorem ow_confirmed (s : State) (w : Ow) : (ow s w).confirmed = s.confirmed := rfl
@[setp] theorem ow_status (s : State) (w : Ow) : (ow s w).status = s.status := rfl
@[setp] theorem ow_posToId (s : State) (w : Ow) : (ow s w).posToId = s.posToId := rfl
@[setp] theorem ow_blacklist (s : State) (w : Ow) : (ow s w).blacklist = w.K.getD s.blacklist := rfl
@[setp] theorem ow_claimed (s : State) (w : Ow) : (ow s w).claimed = w.C.getD s.claimed := rfl
@[setp] theorem ow_op (s : State) (w : Ow) : (ow s w).op = s.op := rfl
@[setp] theorem ow_bal (s : State) (w : Ow) : (ow s w).bal = s.bal := rfl
@[setp] theorem ow_minConfirmed (s : State) (w : Ow) : (ow s w).minConfirmed = s.minConfirmed := rfl
@[setp] theorem ow_whitelist (s : State) (w : Ow) : (ow s w).whitelist = w.W.getD s.whitelist := rfl
@[setp] theorem ow_totalGuaranteed (s : State) (w : Ow) : (ow s w).totalGuaranteed = s.totalGuaranteed := rfl
@[setp] theorem ow_uts (s : State) (w : Ow) : (ow s w).uts = w.U.getD s.uts := rfl
@[setp] theorem ow_blUts (s : State) (w : Ow) : (ow s w).blUts = w.BU.getD s.blUts := rfl
@[setp] theorem ow_sched1 (s : State) (w : Ow) : (ow s w).sched1 = s.sched1 := rfl
@[setp] theorem ow_sched2 (s : State) (w : Ow) : (ow s w).sched2 = s.sched2 := rfl
@[setp] theorem ow_userTotal (s : State) (w : Ow) : (ow s w).userTotal = s.userTotal := rfl
@[setp] theorem ow_userClaimed (s : State) (w : Ow) : (ow s w).userClaimed = s.userClaimed := rfl
@[setp] theorem ow_nftCost (s : State) (w : Ow) : (ow s w).nftCost = s.nftCost := rfl
@[setp] theorem ow_availNfts (s : State) (w : Ow) : (ow s w).availNfts = s.availNfts := rfl
@[setp] theorem ow_payers (s : State) (w : Ow) : (ow s w).payers = s.payers := rfl
@[setp] theorem ow_nftWinners (s : State) (w : Ow) : (ow s w).nftWinners = s.nftWinners := rfl
@[setp] theorem ow_claimableNft (s : State) (w : Ow) : (ow s w).claimableNft = s.claimableNft := rfl
@[setp] theorem ow_sftToken (s : State) (w : Ow) : (ow s w).sftToken = s.sftToken := rfl
@[setp] theorem ow_sftCreated (s : State) (w : Ow) : (ow s w).sftCreated = s.sftCreated := rfl
@[setp] theorem ow_sftIssuedFlag (s : State) (w : Ow) : (ow s w).sftIssuedFlag = s.sftIssuedFlag := rfl
@[setp] theorem ow_sftRole (s : State) (w : Ow) : (ow s w).sftRole = s.sftRole := rfl
@[setp] theorem ow_lockPct (s : State) (w : Ow) : (ow s w).lockPct = s.lockPct := rfl
@[setp] theorem ow_unlockEpoch (s : State) (w : Ow) : (ow s w).unlockEpoch = s.unlockEpoch := rfl
@[setp] theorem ow_lockAddr (s : State) (w : Ow) : (ow s w).lockAddr = s.lockAddr := rfl

@[setp] theorem owt_s (t : Tx) (w : Ow) : (owt t w).s = ow t.s w := rfl
@[setp] theorem owt_c (t : Tx) (w : Ow) : (owt t w).c = t.c := rfl
@[setp] theorem owt_o (t : Tx) (w : Ow) : (owt t w).o = t.o := rfl
@[setp] theorem Tx.mk_ow (s : State) (w : Ow) (c : Ctx) (o : Out) : Tx.mk (ow s w) c o = owt (Tx.mk s c o) w := rfl
@[setp] theorem Tx.setS_ow (t : Tx) (w : Ow) (s : State) : (owt t w).setS (ow s w) = owt (t.setS s) w := rfl
@[setp] theorem Tx.emit_ow (t : Tx) (w : Ow) (ev : Ev) : (owt t w).emit ev = owt (t.emit ev) w := rfl
@[setp] theorem creditPayments_ow (s : State) (e : Env) (w : Ow) :
    creditPayments (ow s w) e = ow (creditPayments s e) w := rfl
@[setp] theorem requireStage_ow (s : State) (w : Ow) (e : Env) (st : Stage) (msg : String) :
    requireStage (ow s w) e st msg = requireStage s e st msg := rfl
@[setp] theorem ownerOrUser_ow (s : State) (w : Ow) (e : Env) : ownerOrUser (ow s w) e = ownerOrUser s e := rfl
@[setp] theorem extendedPermissions_ow (s : State) (w : Ow) (e : Env) :
    extendedPermissions (ow s w) e = extendedPermissions s e := rfl
@[setp] theorem reservedForDeposit_ow (s : State) (w : Ow) : reservedForDeposit (ow s w) = reservedForDeposit s := rfl

theorem ow_freshRng (t : Tx) (w : Ow) : (owt t w).freshRng = (t.freshRng.1, owt t.freshRng.2 w) := by
  rw [Tx.freshRng_eq, Tx.freshRng_eq]; rfl

theorem ow_draw (hash : List Nat → List Nat) (t : Tx) (w : Ow) (rng : Rng) :
    (owt t w).draw hash rng = ((t.draw hash rng).1, (t.draw hash rng).2.1, owt (t.draw hash rng).2.2 w) := by
  rw [Tx.draw_eq, Tx.draw_eq]; rfl

theorem ow_send (t : Tx) (w : Ow) (a : Nat) (p : Pay) : (owt t w).send a p = mapR (owt · w) (t.send a p) := by
  unfold Tx.send
  simp only [setp] <;> rfl

theorem ow_refund (t : Tx) (w : Ow) (e : Env) (a n : Nat) :
    (owt t w).refund e a n = mapR (owt · w) (t.refund e a n) := by
  unfold Tx.refund
  simp only [setp, pure_bind, ow_send] <;> rfl

theorem ow_claimPaymentCommon (t : Tx) (w : Ow) (e : Env) :
    claimPaymentCommon (owt t w) e = mapR (owt · w) (claimPaymentCommon t e) := by
  unfold claimPaymentCommon
  simp only [setp]
  refine bind_congr_fun fun _ => ?_
  refine ite_eq_ite _ (fun _ => bind_eq_bind_of_mapR (owt · w) ?_ fun t1 => ?_) fun _ => ?_
  · rhs_exact ow_send _ w _ _
  all_goals
    refine bind_congr_fun fun extra => ?_
    ite_both
    · rhs_exact ow_send _ w _ _
    · rfl

theorem ow_claimPaymentOwn (t : Tx) (w : Ow) (e : Env) :
    claimPaymentOwn (owt t w) e = mapR (owt · w) (claimPaymentOwn t e) := by
  unfold claimPaymentOwn
  simp only [setp]
  refine bind_congr_fun fun _ => ?_
  refine ite_eq_ite _ (fun _ => bind_eq_bind_of_mapR (owt · w) ?_ fun t1 => ?_) fun _ => ?_
  · rhs_exact ow_send _ w _ _
  all_goals
    ite_both
    · rfl
    ite_both
    · rfl
    rhs_exact ow_send _ w _ _

theorem ow_claimNftPayment (t : Tx) (w : Ow) (e : Env) :
    claimNftPayment (owt t w) e = mapR (owt · w) (claimNftPayment t e) := by
  unfold claimNftPayment
  simp only [setp, ow_send]
  refine bind_congr_fun fun _ => ?_
  ite_both
  · exact bind_congr_fun fun _ => rfl
  · rfl

theorem ow_tryCreateTickets (s : State) (w : Ow) (a n : Nat) (hR : w.R = none) (hB : w.B = none) :
    tryCreateTickets (ow s w) a n = mapR (ow · w) (tryCreateTickets s a n) := by
  obtain ⟨P, R, B, K, C, U, BU, W⟩ := w
  subst hR hB
  unfold tryCreateTickets
  simp only [setp, Option.getD_none] <;> rfl

theorem ow_createMany (w : Ow) (hR : w.R = none) (hB : w.B = none) : ∀ (l : List (Nat × Nat)) (s : State),
    createMany l (ow s w) = mapR (ow · w) (createMany l s)
  | [], s => rfl
  | (a, n) :: rest, s => by
    unfold createMany
    rw [ow_tryCreateTickets s w a n hR hB]
    cases tryCreateTickets s a n with
    | error e => rfl
    | ok s1 => exact ow_createMany w hR hB rest s1

theorem ow_confirmTickets (t : Tx) (w : Ow) (e : Env) (n : Nat) (hP : w.P = none) (hR : w.R = none)
    (hK : w.K = none) : confirmTickets (owt t w) e n = mapR (owt · w) (confirmTickets t e n) := by
  obtain ⟨P, R, B, K, C, U, BU, W⟩ := w
  subst hP hR hK
  have ht : ∀ s a, ticketsFor (ow s ⟨none, none, B, none, C, U, BU, W⟩) a = ticketsFor s a := fun _ _ => rfl
  unfold confirmTickets
  simp only [setp, Option.getD_none, ht] <;> rfl

theorem ow_depositLaunchpadTokens (s : State) (w : Ow) (e : Env) (tw : Nat) :
    depositLaunchpadTokens (ow s w) e tw = mapR (ow · w) (depositLaunchpadTokens s e tw) := by
  unfold depositLaunchpadTokens
  simp only [setp] <;> rfl

theorem ow_trySetTicketPrice (s : State) (w : Ow) (tok : Token) (amount : Nat) :
    trySetTicketPrice (ow s w) tok amount = mapR (ow · w) (trySetTicketPrice s tok amount) := by
  unfold trySetTicketPrice
  simp only [setp] <;> rfl

theorem ow_setSchedule1 (s : State) (w : Ow) (e : Env) (a1 a2 a3 a4 a5 : Nat) :
    setSchedule1 (ow s w) e a1 a2 a3 a4 a5 = mapR (ow · w) (setSchedule1 s e a1 a2 a3 a4 a5) := by
  unfold setSchedule1
  simp only [setp] <;> rfl

theorem ow_confirmNft (s : State) (w : Ow) (e : Env) : confirmNft (ow s w) e = mapR (ow · w) (confirmNft s e) := by
  unfold confirmNft
  simp only [setp] <;> rfl

def own (x : NSt) (w : Ow) : NSt := { x with tx := owt x.tx w }

theorem ow_nftBody (hash : List Nat → List Nat) (total : Nat) (w : Ow) (x : NSt) :
    nftBody hash total (own x w) = mapR (fst1 (own · w)) (nftBody hash total x) := by
  unfold nftBody
  simp only [own]
  simp only [setp, ow_draw]
  ite_both
  · rfl
  split <;> rfl

theorem ow_nftSubstep (hash : List Nat → List Nat) (t : Tx) (w : Ow) (rng : Rng) :
    nftSubstep hash (owt t w) rng = mapR (fst1 (owt · w)) (nftSubstep hash t rng) := by
  unfold nftSubstep
  simp only [setp]
  refine bind_eq_bind_of_mapR (fst1 (own · w)) ?_ ?_
  · rhs_exact runWhile_commutes (own · w) _ (ow_nftBody hash _ w) _ _ _
  · intro ⟨y, b2, st2⟩
    cases st2 <;> rfl

def owl (y : LSt) (w : Ow) : LSt := { y with tx := owt y.tx w }

theorem ow_leftoverBody (hash : List Nat → List Nat) (v2 : Bool) (nr last : Nat) (w : Ow) (y : LSt) :
    leftoverBody hash v2 nr last (owl y w) = mapR (fst1 (owl · w)) (leftoverBody hash v2 nr last y) := by
  unfold leftoverBody
  simp only [owl]
  by_cases h : nr + y.additional ≥ last
  · simp only [h, if_true, setp, ow_draw]
    repeat' ite_both
    all_goals rfl
  · simp only [h, if_false, setp, ow_draw]
    repeat' ite_both
    all_goals rfl

/-- stated with the hypothesis the zero-size layer needs (there `guarBody` reads the same by an
    invariant); a mask that leaves `range`, `uts` alone gives it (`guarBody_ow`) -/
theorem ow_guaranteedSubstep (hash : List Nat → List Nat) (t : Tx) (w : Ow) (g : GuarOp) (hW : w.W = none)
    (hg : guarBody (ow t.s w) = guarBody t.s) :
    guaranteedSubstep hash (owt t w) g = mapR (fst1 (owt · w)) (guaranteedSubstep hash t g) := by
  obtain ⟨P, R, B, K, C, U, BU, W⟩ := w
  subst hW
  unfold guaranteedSubstep
  simp only [setp, Option.getD_none, hg]
  congr 1
  funext ⟨x, b1, st⟩
  cases st with
  | completed =>
    simp only [setp]
    refine bind_eq_bind_of_mapR (fst1 (owl · ⟨P, R, B, K, C, U, BU, none⟩)) ?_ ?_
    · rhs_exact runWhile_commutes (owl · ⟨P, R, B, K, C, U, BU, none⟩) _ (ow_leftoverBody hash _ _ _ _) _ _ _
    · intro ⟨y, b2, st2⟩
      cases st2 <;> rfl
  | _ => rfl

@[setp] theorem creditAdditional_ow (s : State) (w : Ow) (n : Nat) :
    creditAdditional (ow s w) n = ow (creditAdditional s n) w := rfl

theorem ow_sendLocked (t : Tx) (w : Ow) (e : Env) (d a : Nat) :
    (owt t w).sendLocked e d a = mapR (owt · w) (t.sendLocked e d a) := by
  unfold Tx.sendLocked
  simp only [setp, pure_bind, ow_send] <;> rfl

theorem ow_sendLaunchpadTokens (t : Tx) (w : Ow) (e : Env) (a n : Nat) :
    (owt t w).sendLaunchpadTokens e a n = mapR (owt · w) (t.sendLaunchpadTokens e a n) := by
  unfold Tx.sendLaunchpadTokens
  simp only [setp, ow_send, ow_sendLocked] <;> rfl

theorem ow_settle (s : State) (w : Ow) (e : Env) (hR : w.R = none) (hB : w.B = none) (hC : w.C = none) :
    settle (ow s w) e = mapR (fst1 (ow · w)) (settle s e) := by
  obtain ⟨P, R, B, K, C, U, BU, W⟩ := w
  subst hR hB hC
  unfold settle
  simp only [setp, Option.getD_none]
  congr 1; funext _; congr 1; funext _
  split <;> simp only [setp] <;> rfl

theorem ow_claimNft (t : Tx) (w : Ow) (e : Env) : claimNft (owt t w) e = mapR (owt · w) (claimNft t e) := by
  unfold claimNft
  simp only [setp]
  by_cases hw : (swapRemove t.s.nftWinners e.caller).2 = true
  · simp only [hw, if_true, setp]
    refine bind_congr_fun fun _ => ?_
    rfl
  · simp only [hw, if_false, setp]
    by_cases hp : (swapRemove t.s.payers e.caller).2 = true
    · simp only [hp, if_true, setp]
      refine bind_congr_fun fun _ => ?_
      rhs_exact ow_send _ w _ _
    · simp only [hp, if_false, setp]
      refine bind_congr_fun fun _ => ?_
      rfl

@[setp] theorem stageLt_ow (s : State) (w : Ow) (e : Env) (st : Stage) : stageLt (ow s w) e st = stageLt s e st := rfl

theorem ow_blacklistMany (e : Env) (w : Ow) (hR : w.R = none) (hK : w.K = none) : ∀ (l : List Nat) (t : Tx),
    blacklistMany e l (owt t w) = mapR (owt · w) (blacklistMany e l t)
  | [], t => rfl
  | a :: rest, t => by
    obtain ⟨P, R, B, K, C, U, BU, W⟩ := w
    subst hR hK
    unfold blacklistMany
    simp only [setp, Option.getD_none]
    ite_both
    · rfl
    ite_both
    · rfl
    by_cases hc : t.s.confirmed a > 0
    · simp only [hc, if_true, ow_refund]
      cases t.refund e a (t.s.confirmed a) with
      | error err => rfl
      | ok t1 =>
        simp only [setp]
        rhs_exact ow_blacklistMany e ⟨P, none, B, none, C, U, BU, W⟩ rfl rfl rest _
    · simp only [hc, if_false]
      rhs_exact ow_blacklistMany e ⟨P, none, B, none, C, U, BU, W⟩ rfl rfl rest _

theorem ow_addUsersToBlacklist (t : Tx) (w : Ow) (e : Env) (l : List Nat) (hR : w.R = none) (hK : w.K = none) :
    addUsersToBlacklist (owt t w) e l = mapR (owt · w) (addUsersToBlacklist t e l) := by
  unfold addUsersToBlacklist
  simp only [setp, ow_blacklistMany e w hR hK] <;> rfl

theorem ow_refundNftMany (w : Ow) : ∀ (l : List Nat) (t : Tx),
    refundNftMany l (owt t w) = mapR (owt · w) (refundNftMany l t)
  | [], t => rfl
  | u :: rest, t => by
    unfold refundNftMany
    simp only [setp]
    ite_both
    · have h1 := ow_send (t.setS { t.s with payers := (swapRemove t.s.payers u).1 }) w u t.s.nftCost
      refine Eq.trans (b := match mapR (owt · w) ((t.setS { t.s with payers := (swapRemove t.s.payers u).1 }).send u t.s.nftCost) with
        | .error e => .error e
        | .ok t' => refundNftMany rest t') ?_ ?_
      · rw [← h1]; rfl
      · cases (t.setS { t.s with payers := (swapRemove t.s.payers u).1 }).send u t.s.nftCost with
        | error err => rfl
        | ok t1 => exact ow_refundNftMany w rest t1
    · exact ow_refundNftMany w rest t

theorem ow_clearV1Many (w : Ow) (hU : w.U = none) (hBU : w.BU = none) (hW : w.W = none) :
    ∀ (l : List Nat) (s : State) (r : Nat × Nat),
    clearV1Many l (ow s w, r) = mapR (fst1 (ow · w)) (clearV1Many l (s, r))
  | [], s, r => rfl
  | u :: rest, s, (removed, tg) => by
    obtain ⟨P, R, B, K, C, U, BU, W⟩ := w
    subst hU hBU hW
    unfold clearV1Many
    simp only [setp, Option.getD_none]
    ite_both
    · rhs_exact ow_clearV1Many ⟨P, R, B, K, C, none, none, none⟩ rfl rfl rfl rest _ _
    cases csub tg ((s.uts u).getD {}).c "guaranteed_tickets_init.rs:95 total_guaranteed -= staking" with
    | error e => rfl
    | ok tg1 =>
      simp only []
      cases csub tg1 ((s.uts u).getD {}).d "guaranteed_tickets_init.rs:96 total_guaranteed -= migration" with
      | error e => rfl
      | ok tg2 => rhs_exact ow_clearV1Many ⟨P, R, B, K, C, none, none, none⟩ rfl rfl rfl rest _ _

theorem ow_clearGuaranteedV1 (s : State) (w : Ow) (l : List Nat) (hU : w.U = none) (hBU : w.BU = none)
    (hW : w.W = none) : clearGuaranteedV1 (ow s w) l = mapR (ow · w) (clearGuaranteedV1 s l) := by
  unfold clearGuaranteedV1
  simp only [setp, ow_clearV1Many w hU hBU hW] <;> rfl

theorem ow_clearV2Many (w : Ow) (hU : w.U = none) (hBU : w.BU = none) (hW : w.W = none) :
    ∀ (l : List Nat) (s : State) (r : Nat × Nat),
    clearV2Many l (ow s w, r) = mapR (fst1 (ow · w)) (clearV2Many l (s, r))
  | [], s, r => rfl
  | u :: rest, s, (nw, tg) => by
    obtain ⟨P, R, B, K, C, U, BU, W⟩ := w
    subst hU hBU hW
    unfold clearV2Many
    simp only [setp, Option.getD_none]
    cases csub tg (sumG ((s.uts u).getD {}).infos) "v2 guaranteed_tickets_init.rs:142 total_guaranteed -= recovered" with
    | error e => rfl
    | ok tg1 => rhs_exact ow_clearV2Many ⟨P, R, B, K, C, none, none, none⟩ rfl rfl rfl rest _ _

theorem ow_clearGuaranteedV2 (s : State) (w : Ow) (l : List Nat) (hU : w.U = none) (hBU : w.BU = none)
    (hW : w.W = none) : clearGuaranteedV2 (ow s w) l = mapR (ow · w) (clearGuaranteedV2 s l) := by
  unfold clearGuaranteedV2
  simp only [setp, ow_clearV2Many w hU hBU hW] <;> rfl

theorem ow_setSchedule2 (t : Tx) (w : Ow) (e : Env) (ms : List (Nat × Nat)) :
    setSchedule2 (owt t w) e ms = mapR (owt · w) (setSchedule2 t e ms) := by
  unfold setSchedule2
  simp only [setp] <;> rfl

theorem ow_unblacklistMany (w : Ow) (hK : w.K = none) : ∀ (l : List Nat) (s : State),
    unblacklistMany l (ow s w) = mapR (ow · w) (unblacklistMany l s)
  | [], s => rfl
  | a :: rest, s => by
    obtain ⟨P, R, B, K, C, U, BU, W⟩ := w
    subst hK
    unfold unblacklistMany
    simp only [setp, Option.getD_none]
    ite_both
    · rhs_exact ow_unblacklistMany ⟨P, R, B, none, C, U, BU, W⟩ rfl rest _
    · rfl

theorem ow_removeUsersFromBlacklist (s : State) (w : Ow) (e : Env) (l : List Nat) (hK : w.K = none) :
    removeUsersFromBlacklist (ow s w) e l = mapR (ow · w) (removeUsersFromBlacklist s e l) := by
  unfold removeUsersFromBlacklist
  simp only [setp, ow_unblacklistMany w hK] <;> rfl

theorem ow_restoreV1Many (w : Ow) (hR : w.R = none) (hU : w.U = none) (hBU : w.BU = none) (hW : w.W = none) :
    ∀ (l : List Nat) (s : State) (r : Nat × Nat),
    restoreV1Many l (ow s w, r) = mapR (fst1 (ow · w)) (restoreV1Many l (s, r))
  | [], s, r => rfl
  | u :: rest, s, (nw, tg) => by
    obtain ⟨P, R, B, K, C, U, BU, W⟩ := w
    subst hR hU hBU hW
    unfold restoreV1Many
    simp only [setp, Option.getD_none]
    ite_both
    · exact ow_restoreV1Many ⟨P, none, B, K, C, none, none, none⟩ rfl rfl rfl rfl rest _ _
    ite_both
    · exact ow_restoreV1Many ⟨P, none, B, K, C, none, none, none⟩ rfl rfl rfl rfl rest _ _
    ite_both
    · rfl
    rhs_exact ow_restoreV1Many ⟨P, none, B, K, C, none, none, none⟩ rfl rfl rfl rfl rest _ _

theorem ow_restoreGuaranteedV1 (s : State) (w : Ow) (l : List Nat) (hR : w.R = none) (hU : w.U = none) (hBU : w.BU = none)
    (hW : w.W = none) : restoreGuaranteedV1 (ow s w) l = mapR (ow · w) (restoreGuaranteedV1 s l) := by
  unfold restoreGuaranteedV1
  simp only [setp, ow_restoreV1Many w hR hU hBU hW] <;> rfl

theorem ow_restoreV2Many (w : Ow) (hR : w.R = none) (hU : w.U = none) (hBU : w.BU = none) (hW : w.W = none) :
    ∀ (l : List Nat) (s : State) (r : Nat × Nat),
    restoreV2Many l (ow s w, r) = mapR (fst1 (ow · w)) (restoreV2Many l (s, r))
  | [], s, r => rfl
  | u :: rest, s, (nw, tg) => by
    obtain ⟨P, R, B, K, C, U, BU, W⟩ := w
    subst hR hU hBU hW
    unfold restoreV2Many
    simp only [setp, Option.getD_none]
    ite_both
    · exact ow_restoreV2Many ⟨P, none, B, K, C, none, none, none⟩ rfl rfl rfl rfl rest _ _
    ite_both
    · ite_both
      · rfl
      · rhs_exact ow_restoreV2Many ⟨P, none, B, K, C, none, none, none⟩ rfl rfl rfl rfl rest _ _
    · rhs_exact ow_restoreV2Many ⟨P, none, B, K, C, none, none, none⟩ rfl rfl rfl rfl rest _ _

theorem ow_restoreGuaranteedV2 (s : State) (w : Ow) (l : List Nat) (hR : w.R = none) (hU : w.U = none) (hBU : w.BU = none)
    (hW : w.W = none) : restoreGuaranteedV2 (ow s w) l = mapR (ow · w) (restoreGuaranteedV2 s l) := by
  unfold restoreGuaranteedV2
  simp only [setp, ow_restoreV2Many w hR hU hBU hW] <;> rfl

theorem ow_addV1Many (w : Ow) (hR : w.R = none) (hB : w.B = none) (hU : w.U = none) (hW : w.W = none) :
    ∀ (l : List (Nat × Nat × Nat × Bool)) (s : State) (tw tg : Nat),
    addV1Many l (ow s w, tw, tg) = mapR (fst1 (ow · w)) (addV1Many l (s, tw, tg))
  | [], s, tw, tg => rfl
  | (buyer, staking, energy, migrated) :: rest, s, tw, tg => by
    unfold addV1Many
    rw [ow_tryCreateTickets s w buyer (staking + energy) hR hB]
    cases tryCreateTickets s buyer (staking + energy) with
    | error e => rfl
    | ok s1 =>
      obtain ⟨P, R, B, K, C, U, BU, W⟩ := w
      subst hR hB hU hW
      simp only [setp, Option.getD_none]
      ite_both
      · rfl
      ite_both
      · rfl
      rhs_exact ow_addV1Many ⟨P, none, none, K, C, none, BU, none⟩ rfl rfl rfl rfl rest _ _ _

theorem ow_addTicketsV1 (s : State) (w : Ow) (e : Env) (l : List (Nat × Nat × Nat × Bool))
    (hR : w.R = none) (hB : w.B = none) (hU : w.U = none) (hW : w.W = none) :
    addTicketsV1 (ow s w) e l = mapR (ow · w) (addTicketsV1 s e l) := by
  unfold addTicketsV1
  simp only [setp, ow_addV1Many w hR hB hU hW] <;> rfl

theorem ow_addV2Many (e : Env) (w : Ow) (hR : w.R = none) (hB : w.B = none) (hU : w.U = none)
    (hW : w.W = none) : ∀ (l : List (Nat × Nat × List (Nat × Nat))) (s : State) (r : Nat × Nat × Nat × Nat × Nat),
    addV2Many e l (ow s w, r) = mapR (fst1 (ow · w)) (addV2Many e l (s, r))
  | [], s, r => rfl
  | (buyer, n, infos) :: rest, s, (tw, tg, uc, ta, ga) => by
    unfold addV2Many
    simp only [setp]
    ite_both
    · exact ow_addV2Many e w hR hB hU hW rest s _
    ite_both
    · rfl
    ite_both
    · rfl
    ite_both
    · rfl
    rw [ow_tryCreateTickets s w buyer n hR hB]
    cases tryCreateTickets s buyer n with
    | error e => rfl
    | ok s1 =>
      obtain ⟨P, R, B, K, C, U, BU, W⟩ := w
      subst hR hB hU hW
      simp only [setp, Option.getD_none]
      ite_both
      · rfl
      ite_both
      · ite_both
        · rfl
        · rhs_exact ow_addV2Many e ⟨P, none, none, K, C, none, BU, none⟩ rfl rfl rfl rfl rest _ _
      · rhs_exact ow_addV2Many e ⟨P, none, none, K, C, none, BU, none⟩ rfl rfl rfl rfl rest _ _

theorem ow_addTicketsV2 (t : Tx) (w : Ow) (e : Env) (l : List (Nat × Nat × List (Nat × Nat)))
    (hR : w.R = none) (hB : w.B = none) (hU : w.U = none) (hW : w.W = none) :
    addTicketsV2 (owt t w) e l = mapR (owt · w) (addTicketsV2 t e l) := by
  unfold addTicketsV2
  simp only [setp, ow_addV2Many e w hR hB hU hW] <;> rfl

@[setp] theorem claimable1_ow (s : State) (w : Ow) (e : Env) (a : Nat) :
    claimable1 (ow s w) e a = claimable1 s e a := rfl
@[setp] theorem claimable2_ow (s : State) (w : Ow) (e : Env) (a : Nat) :
    claimable2 (ow s w) e a = claimable2 s e a := rfl

theorem ow_claimSettle (t : Tx) (w : Ow) (e : Env) (hR : w.R = none) (hB : w.B = none) (hC : w.C = none) :
    claimSettle (owt t w) e = mapR (owt · w) (claimSettle t e) := by
  unfold claimSettle
  simp only [setp, ow_settle _ w e hR hB hC]
  rw [hC, Option.getD_none]
  ite_both
  · rfl
  refine bind_congr_fun ?_
  intro ⟨s, redeem, refund⟩
  simp only [setp, ow_refund]
  refine bind_congr_fun ?_
  intro t1
  by_cases h : redeem > 0 <;> simp only [h, if_true, if_false] <;> rfl

theorem ow_claimPay (v2 : Bool) (t : Tx) (w : Ow) (e : Env) (c : Nat) :
    claimPay v2 (owt t w) e c = mapR (owt · w) (claimPay v2 t e c) := by
  unfold claimPay
  simp only [setp, ow_send]
  ite_both
  · refine bind_congr_fun ?_
    intro t1
    cases v2 <;> rfl
  · rfl

theorem ow_claimBody (v2 : Bool) (t : Tx) (w : Ow) (e : Env) (hR : w.R = none) (hB : w.B = none)
    (hC : w.C = none) : claimBody v2 (owt t w) e = mapR (owt · w) (claimBody v2 t e) := by
  unfold claimBody
  simp only [setp, ow_claimSettle _ w e hR hB hC, ow_claimPay]

theorem ow_claimVested (t : Tx) (w : Ow) (e : Env) (hR : w.R = none) (hB : w.B = none) (hC : w.C = none)
    (hP : t.s.variant.isV2 = true → w.P = none) :
    claimVested (owt t w) e = mapR (owt · w) (claimVested t e) := by
  rw [claimVested_eq, claimVested_eq]
  cases hv : t.s.variant.isV2
  · simp only [setp, hv, Bool.false_eq_true, if_false, ow_claimBody _ _ w e hR hB hC]
  · simp only [setp, hv, if_true, hP hv, Option.getD_none, ow_claimBody _ _ w e hR hB hC]

/-! The resumable endpoints, part by part along their readings gates ; load ; tail (`X_def`:
  LP/Proofs/EndpointDef.lean, Filter.lean). -/

@[setp] theorem owt_dctx (t : Tx) (w : Ow) : (owt t w).dctx = t.dctx := rfl

theorem selTxOf_ow (t : Tx) (w : Ow) : selTxOf (owt t w) = owt (selTxOf t) w := by
  unfold selTxOf
  show (match t.s.op with | .none => _ | _ => _) = _
  cases t.s.op <;> simp only [ow_freshRng]

theorem selLoadTx_ow (t : Tx) (w : Ow) :
    selLoadTx (owt t w) = mapR (fun p => (p.1, p.2.1, owt p.2.2 w)) (selLoadTx t) := by
  unfold selLoadTx
  show (match t.s.op with | .none => _ | .select r p => _ | _ => _) = _
  cases t.s.op <;> simp only [ow_freshRng] <;> rfl

theorem nftLoadTx_ow (t : Tx) (w : Ow) : nftLoadTx (owt t w) = mapR (snd1 (owt · w)) (nftLoadTx t) := by
  unfold nftLoadTx
  show (match t.s.op with | .none => _ | .additional (.nft r) => _ | .additional (.guar _) => _ | _ => _) = _
  rcases t.s.op with _ | _ | _ | (g | r) <;> simp only [ow_freshRng] <;> rfl

theorem distLoadTx_ow (t : Tx) (w : Ow) : distLoadTx (owt t w) = mapR (snd1 (owt · w)) (distLoadTx t) := by
  unfold distLoadTx
  show (match t.s.op with | .none => _ | .additional (.guar g) => _ | .additional (.nft _) => _ | _ => _) = _
  rcases t.s.op with _ | _ | _ | (g | r) <;> simp only [ow_freshRng] <;> rfl

theorem secLoadTx_ow (t : Tx) (w : Ow) : secLoadTx (owt t w) = mapR (snd1 (owt · w)) (secLoadTx t) := by
  unfold secLoadTx
  show (match t.s.op with | .none => _ | .additional d => _ | _ => _) = _
  rcases t.s.op with _ | _ | _ | d <;> simp only [ow_freshRng] <;> rfl

theorem selGates_ow (s : State) (w : Ow) (e : Env) (hP : w.P = none) : selGates (ow s w) e = selGates s e := by
  obtain ⟨P, R, B, K, C, U, BU, W⟩ := w
  subst hP
  rfl

theorem filGates_ow (s : State) (w : Ow) (e : Env) (hP : w.P = none) : filGates (ow s w) e = filGates s e := by
  obtain ⟨P, R, B, K, C, U, BU, W⟩ := w
  subst hP
  rfl

@[setp] theorem addGates_ow (msg : String) (s : State) (w : Ow) (e : Env) :
    addGates msg (ow s w) e = addGates msg s e := rfl

theorem distGates_ow (s : State) (w : Ow) (e : Env) (hP : s.variant.isV2 = true → w.P = none) :
    distGates (ow s w) e = distGates s e := by
  unfold distGates
  cases hv : s.variant.isV2
  · simp only [setp, hv, Bool.false_eq_true, if_false]
  · simp only [setp, hv, if_true, hP hv, Option.getD_none]

theorem ow_selectOutcome (t : Tx) (w : Ow) (e : Env) (R : Res (SelCore × Option Nat × LoopStatus)) :
    selectOutcome (owt t w) e R = mapR (owt · w) (selectOutcome t e R) := by
  rcases R with err | ⟨y, b, _ | _ | _⟩ <;>
    simp only [selectOutcome, selectTxInt, selectTxDone, selTxOf_ow] <;> rfl

theorem ow_secNftFinish (w : Ow) (x : Tx × Rng × LoopStatus) :
    secNftFinish (fst1 (owt · w) x) = mapR (owt · w) (secNftFinish x) := by
  obtain ⟨t, r, st⟩ := x
  cases st <;> rfl

theorem ow_distFinish (e : Env) (w : Ow) (x : Tx × GuarOp × LoopStatus) :
    distFinish e (fst1 (owt · w) x) = mapR (owt · w) (distFinish e x) := by
  obtain ⟨t, g, st⟩ := x
  cases st
  case completed =>
    simp only [distFinish, fst1_mk]
    ite_both <;> rfl
  all_goals rfl

theorem ow_selectWinners (hash : List Nat → List Nat) (t : Tx) (w : Ow) (e : Env) (hP : w.P = none) :
    selectWinners hash (owt t w) e = mapR (owt · w) (selectWinners hash t e) := by
  rw [selectWinners_def, selectWinners_def]
  simp only [setp, selGates_ow _ w e hP, selLoadTx_ow, ow_selectOutcome]

theorem ow_selectNft (hash : List Nat → List Nat) (t : Tx) (w : Ow) (e : Env) :
    selectNft hash (owt t w) e = mapR (owt · w) (selectNft hash t e) := by
  rw [selectNft_def, selectNft_def]
  simp only [setp, nftLoadTx_ow, ow_nftSubstep, ow_secNftFinish]

theorem ow_distribute (hash : List Nat → List Nat) (t : Tx) (w : Ow) (e : Env) (hW : w.W = none)
    (hg : guarBody (ow t.s w) = guarBody t.s) (hP : t.s.variant.isV2 = true → w.P = none) :
    distribute hash (owt t w) e = mapR (owt · w) (distribute hash t e) := by
  rw [distribute_def, distribute_def]
  simp only [setp, distGates_ow _ w e hP, distLoadTx_ow]
  refine bind_congr_fun fun _ => ?_
  cases hl : distLoadTx t with
  | error err => rfl
  | ok p =>
    obtain ⟨g, t1⟩ := p
    obtain ⟨_, rfl⟩ := (distLoadTx_ok_iff t g t1).mp hl
    show (guaranteedSubstep hash (owt (selTxOf t) w) g >>= distFinish e) = _
    rw [ow_guaranteedSubstep hash _ w g hW (by rw [selTxOf_s]; exact hg), bind_mapR]
    exact bind_congr_fun fun a => ow_distFinish e w a

/-- `owt` on either outcome of the first stage of `secondary` -/
def owSec (w : Ow) : Tx ⊕ Tx × Rng → Tx ⊕ Tx × Rng
  | .inl t => .inl (owt t w)
  | .inr (t, r) => .inr (owt t w, r)

theorem ow_secHandOver (w : Ow) (x : Tx × GuarOp × LoopStatus) :
    secHandOver (fst1 (owt · w) x) = owSec w (secHandOver x) := by
  obtain ⟨t, g, st⟩ := x
  cases st
  case completed =>
    simp only [secHandOver, fst1_mk, setp, ow_freshRng]
    rfl
  all_goals rfl

theorem ow_secStage1 (hash : List Nat → List Nat) (cur : AddData) (t : Tx) (w : Ow) (hW : w.W = none)
    (hg : guarBody (ow t.s w) = guarBody t.s) :
    secStage1 hash cur (owt t w) = mapR (owSec w) (secStage1 hash cur t) := by
  cases cur with
  | nft r => rfl
  | guar g =>
    rw [secStage1, secStage1, ow_guaranteedSubstep hash t w g hW hg]
    cases guaranteedSubstep hash t g with
    | error err => rfl
    | ok x => exact congrArg Except.ok (ow_secHandOver w x)

theorem ow_secStage2 (hash : List Nat → List Nat) (w : Ow) (x : Tx ⊕ Tx × Rng) :
    secStage2 hash (owSec w x) = mapR (owt · w) (secStage2 hash x) := by
  rcases x with t | ⟨t, r⟩
  · rfl
  · show (nftSubstep hash (owt t w) r >>= secNftFinish) = _
    rw [ow_nftSubstep, bind_mapR, secStage2, mapR_bind]
    exact bind_congr_fun fun a => ow_secNftFinish w a

theorem ow_secondary (hash : List Nat → List Nat) (t : Tx) (w : Ow) (e : Env) (hW : w.W = none)
    (hg : guarBody (ow t.s w) = guarBody t.s) :
    secondary hash (owt t w) e = mapR (owt · w) (secondary hash t e) := by
  rw [secondary_def, secondary_def]
  simp only [setp, secLoadTx_ow]
  refine bind_congr_fun fun _ => ?_
  cases hl : secLoadTx t with
  | error err => rfl
  | ok p =>
    obtain ⟨cur, t1⟩ := p
    obtain rfl := ((secLoadTx_ok_iff t cur t1).mp hl).1
    show (secStage1 hash cur (owt (selTxOf t) w) >>= secStage2 hash) = _
    rw [ow_secStage1 hash cur _ w hW (by rw [selTxOf_s]; exact hg), bind_mapR]
    exact bind_congr_fun fun a => ow_secStage2 hash w a

theorem ow_filterOutcome (t : Tx) (w : Ow) (e : Env) (x : FilSt) (hR : w.R = none) (hB : w.B = none)
    (R : Res (FilSt × Option Nat × LoopStatus)) :
    filterOutcome (owt t w) e x R = mapR (owt · w) (filterOutcome t e x R) := by
  obtain ⟨P, Rm, B, K, C, U, BU, W⟩ := w
  subst hR hB
  rcases R with err | ⟨f, b, _ | _ | _⟩
  case ok.completed =>
    simp only [filterOutcome]
    ite_both <;> rfl
  all_goals rfl

theorem ow_filterTickets (t : Tx) (w : Ow) (e : Env) (hP : w.P = none) (hR : w.R = none) (hB : w.B = none) :
    filterTickets (owt t w) e = mapR (owt · w) (filterTickets t e) := by
  rw [filterTickets_def, filterTickets_def]
  simp only [setp, filGates_ow _ w e hP, hR, hB, Option.getD_none, ow_filterOutcome _ w e _ hR hB]
  rfl

/-- `w` leaves alone every field among the eight that the body of `c` reads or writes: the read/write
    table of the model for `paused` and the allocation bookkeeping (`P` only where the variant makes the
    body look at the flag) -/
def Ow.Avoids (w : Ow) (v : Variant) : Call → Prop
  | .deposit | .setTicketPrice .. | .setPerTicket _ | .setConfStart _ | .setSelStart _ | .setClaimStart _
  | .setSupport _ | .setSchedule1 .. | .setSchedule2 _ | .setNftCost _ | .sftSetup | .confirmNft | .selectNft
  | .claimPayment | .issueSft | .createSfts | .setTransferRole _ => True
  | .pause | .unpause | .select => w.P = none
  | .addTickets _ => w.R = none ∧ w.B = none
  | .addTicketsV1 _ | .addTicketsV2 _ => w.R = none ∧ w.B = none ∧ w.U = none ∧ w.W = none
  | .confirm _ => w.P = none ∧ w.R = none ∧ w.K = none
  | .filter => w.P = none ∧ w.R = none ∧ w.B = none
  | .claim => w.R = none ∧ w.B = none ∧ w.C = none ∧ (v.isV2 = true → w.P = none)
  | .blacklist _ | .refundUsers _ | .unblacklist _ =>
    w.R = none ∧ w.K = none ∧ w.U = none ∧ w.BU = none ∧ w.W = none
  | .distribute => w.R = none ∧ w.U = none ∧ w.W = none ∧ (v.isV2 = true → w.P = none)
  | .secondary => w.R = none ∧ w.U = none ∧ w.W = none

/-- a mask that leaves `range` and `uts` alone does not change what the guarantee loop reads -/
theorem guarBody_ow (s : State) (w : Ow) (hR : w.R = none) (hU : w.U = none) : guarBody (ow s w) = guarBody s := by
  obtain ⟨P, R, B, K, C, U, BU, W⟩ := w
  subst hR hU
  rfl

theorem exec_ow (hash : List Nat → List Nat) (t : Tx) (w : Ow) (e : Env) (c : Call)
    (hc : w.Avoids t.s.variant c) : exec hash (owt t w) e c = mapR (owt · w) (exec hash t e c) := by
  cases c with
  | setSupport a | sftSetup => rfl
  | pause | unpause =>
    obtain ⟨P, R, B, K, C, U, BU, W⟩ := w
    cases (hc : P = none)
    rfl
  | select => exact ow_selectWinners hash t w e hc
  | selectNft => exact ow_selectNft hash t w e
  | confirm n => exact ow_confirmTickets t w e n hc.1 hc.2.1 hc.2.2
  | filter => exact ow_filterTickets t w e hc.1 hc.2.1 hc.2.2
  | setSchedule2 l => exact ow_setSchedule2 t w e l
  | addTicketsV2 l => exact ow_addTicketsV2 t w e l hc.1 hc.2.1 hc.2.2.1 hc.2.2.2
  | distribute => exact ow_distribute hash t w e hc.2.2.1 (guarBody_ow _ w hc.1 hc.2.1) hc.2.2.2
  | secondary => exact ow_secondary hash t w e hc.2.2 (guarBody_ow _ w hc.1 hc.2.1)
  | addTickets l => simp only [exec, setp, ow_createMany w hc.1 hc.2]
  | addTicketsV1 l => simp only [exec, setp, ow_addTicketsV1 _ w e l hc.1 hc.2.1 hc.2.2.1 hc.2.2.2]
  | claimPayment =>
    simp only [exec, setp]
    ite_both
    · exact ow_claimPaymentOwn t w e
    · simp only [setp, ow_claimPaymentCommon, ow_claimNftPayment]
  | claim =>
    obtain ⟨hR, hB, hC, hP⟩ := hc
    simp only [exec, setp]
    ite_both
    · exact ow_claimVested t w e hR hB hC hP
    · simp only [setp, ow_settle _ w e hR hB hC, ow_refund, ow_sendLaunchpadTokens, ow_claimNft]
  | blacklist l =>
    obtain ⟨hR, hK, hU, hBU, hW⟩ := hc
    -- without `Tx.setS_s'`, which would rewrite the conditions `(t.setS s).s.variant.f` but not their
    -- `Decidable` instances and so keep `mapR_ite` from applying
    simp only [exec, mapR_bind, mapR_ite, mapR_pure, bind_mapR, pure_bind, owt_s, ow_variant, Tx.setS_ow, Tx.emit_ow,
      ow_addUsersToBlacklist _ w e l hR hK, ow_clearGuaranteedV2 _ w l hU hBU hW,
      ow_clearGuaranteedV1 _ w l hU hBU hW, ow_refundNftMany]
    rfl
  | refundUsers l =>
    obtain ⟨hR, hK, hU, hBU, hW⟩ := hc
    simp only [exec, setp, ow_addUsersToBlacklist _ w e l hR hK, ow_clearGuaranteedV2 _ w l hU hBU hW]
  | unblacklist l =>
    obtain ⟨hR, hK, hU, hBU, hW⟩ := hc
    simp only [exec, setp, ow_removeUsersFromBlacklist _ w e l hK, ow_restoreGuaranteedV2 _ w l hR hU hBU hW,
      ow_restoreGuaranteedV1 _ w l hR hU hBU hW]
  | setPerTicket _ | setConfStart _ | setSelStart _ | setClaimStart _ | setNftCost _ =>
    simp only [exec, setp]
    rfl
  | deposit | setTicketPrice _ _ | setSchedule1 _ _ _ _ _ | confirmNft | issueSft | createSfts | setTransferRole _ =>
    simp only [exec, setp, ow_depositLaunchpadTokens, ow_trySetTicketPrice, ow_setSchedule1, ow_confirmNft]

/-- errors included -/
theorem step_ow (hash : List Nat → List Nat) (s : State) (w : Ow) (e : Env) (c : Call)
    (hc : w.Avoids s.variant c) : step hash (ow s w) e c = mapR (fst1 (ow · w)) (step hash s e c) := by
  unfold step
  simp only [setp]
  cases endpointMeta s.variant c with
  | none => rfl
  | some m =>
    simp only []
    ite_both
    · rfl
    ite_both
    · rfl
    rw [exec_ow hash ⟨creditPayments s e, ⟨e.budget, e.seeds, e.script⟩, {}⟩ w e c hc]
    cases exec hash ⟨creditPayments s e, ⟨e.budget, e.seeds, e.script⟩, {}⟩ e c <;> rfl

end LP

#print axioms LP.exec_ow
