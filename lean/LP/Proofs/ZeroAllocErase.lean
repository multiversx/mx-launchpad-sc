import LP.Proofs.PauseFrame
import LP.Props.C14
import LP.Props.C02reach
import LP.Props.C07
import LP.Props.C18
/-
  Zero-size allocation entries (entries of `addTickets` / `addTicketsV1` with zero tickets, which `CallOK` /
  `v1_CallOK` exclude from the reachability relations): what lies below the simulation relations (which
  states are related, and how a call is matched, is said in LP/Proofs/ZeroAllocSim.lean).
  `ov s w` overwrites the seven fields of the allocation bookkeeping — `range`, `batch`, `blacklist`,
  `claimed`, `uts`, `blUts`, `whitelist` (the masked overwrite `ow s w.toOw` of LP/Proofs/Overwrite.lean).
  The endpoints of `ov_indep` neither read nor write any of them, in any variant: `step` commutes with the
  overwriting (`step_ov`) and leaves the seven fields alone (`step_ov_frame`).  The partial overwrites `z_w`,
  `zg_w` of the families are masks as well (`z_mask`, `zg_mask`), and what commutes with them is read off
  Overwrite.lean directly (`ow_send`, …).  Then: when a claim without vesting is accepted
  (`claim_accepts`); the erasure of empty ranges and zero-size batches (`z_eraseR`, `z_eraseB`), the relation
  `ZSim` of the families without guarantee records, and the bodies of `addTickets`, `confirm`, `blacklist`
  and `unblacklist` (`ov_exec_blacklist`, `ov_exec_unblacklist`: loop and hooks one by one, for every variant
  outside v2), `claim`, `filter` on the erased state.
-/
namespace LP

structure Ov where
  R : Nat → Option Range
  B : Nat → Option Batch
  K : Nat → Bool
  C : Nat → Bool
  U : Nat → Option UTS
  BU : Nat → Option UTS
  W : List Nat

def ov (s : State) (w : Ov) : State :=
  { s with range := w.R, batch := w.B, blacklist := w.K, claimed := w.C, uts := w.U, blUts := w.BU,
           whitelist := w.W }

def ovt (t : Tx) (w : Ov) : Tx := { t with s := ov t.s w }

def Ov.of (s : State) : Ov := ⟨s.range, s.batch, s.blacklist, s.claimed, s.uts, s.blUts, s.whitelist⟩

theorem ov_self (s : State) : ov s (.of s) = s := rfl

theorem Ov.of_ov (s : State) (w : Ov) : Ov.of (ov s w) = w := rfl

section
variable {w : Ov}

def ov_indep : Call → Bool
  | .deposit | .setTicketPrice _ _ | .setPerTicket _ | .setConfStart _ | .setSelStart _
  | .setClaimStart _ | .setSupport _ | .pause | .unpause | .select | .claimPayment
  | .setSchedule1 .. | .confirmNft | .selectNft | .setNftCost _ | .sftSetup => true
  | _ => false

def Ov.toOw (w : Ov) : Ow := ⟨none, some w.R, some w.B, some w.K, some w.C, some w.U, some w.BU, some w.W⟩

/-- the calls of `ov_indep` touch none of the seven fields: every mask that leaves the pause flag alone
    avoids them -/
theorem Ow.avoids_of_indep {w : Ow} (v : Variant) {c : Call} (hP : w.P = none) (hc : ov_indep c = true) :
    w.Avoids v c := by
  cases c <;> first | trivial | exact hP | cases hc

theorem Ov.avoids (v : Variant) {c : Call} (hc : ov_indep c = true) : w.toOw.Avoids v c :=
  Ow.avoids_of_indep v rfl hc

theorem step_ov_eq (hash : List Nat → List Nat) (s : State) (e : Env) (c : Call) (hc : ov_indep c = true) :
    step hash (ov s w) e c = mapR (fun p => (ov p.1 w, p.2)) (step hash s e c) :=
  step_ow hash s w.toOw e c (Ov.avoids _ hc)

theorem step_ov {hash : List Nat → List Nat} {s s' : State} {e : Env} {c : Call} {o : Out}
    (hc : ov_indep c = true) (h : step hash s e c = .ok (s', o)) :
    step hash (ov s w) e c = .ok (ov s' w, o) := by
  rw [step_ov_eq hash s e c hc, h]; rfl

end

theorem step_ov_frame {hash : List Nat → List Nat} {s s' : State} {e : Env} {c : Call} {o : Out}
    (hc : ov_indep c = true) (h : step hash s e c = .ok (s', o)) : Ov.of s' = Ov.of s := by
  have h2 := step_ov (w := .of s) hc h
  rw [ov_self, h] at h2
  injection h2 with h2
  injection h2 with h2
  exact (congrArg Ov.of h2).trans (Ov.of_ov s' _)

theorem step_ov_fields {hash : List Nat → List Nat} {s s' : State} {e : Env} {c : Call} {o : Out}
    (hc : ov_indep c = true) (h : step hash s e c = .ok (s', o)) :
    s'.range = s.range ∧ s'.batch = s.batch ∧ s'.blacklist = s.blacklist ∧ s'.claimed = s.claimed ∧
    s'.uts = s.uts ∧ s'.blUts = s.blUts ∧ s'.whitelist = s.whitelist := by
  have hf := step_ov_frame hc h
  exact ⟨congrArg Ov.R hf, congrArg Ov.B hf, congrArg Ov.K hf, congrArg Ov.C hf, congrArg Ov.U hf,
    congrArg Ov.BU hf, congrArg Ov.W hf⟩

end LP

/-! ### When a claim in a variant without vesting is accepted.  The common part accepts iff
  `ClaimAccepts` (C09); a variant with the NFT hook (prefix `zn_`) also needs the SFT collection
  and, for a fee payer that was not drawn, the fee refund covered after the common part.
  `claimAccepts_of_cover` derives `ClaimAccepts` from the coverage inequalities that every ledger
  invariant provides after completion. -/
namespace LP
open LP.Props.C09 LP.Props.C14

theorem zn_claim_accepts (hash : List Nat → List Nat) (s : State) (e : Env) (rg : Range)
    (hn : s.variant.hasNft = true) (hacc : ClaimAccepts s e rg) (hsft : s.sftToken = true)
    (hfee : nftCategory s e.caller = 2 →
      s.nftCost.amount ≤ (balAfterClaim s e.caller) s.nftCost.tok s.nftCost.nonce) :
    ∃ x, step hash s e .claim = .ok x := by
  obtain ⟨hl, hv⟩ := hasNft_props hn
  obtain ⟨he1, he2, hst, hcl, hr, hnw, hle, hb, hb2⟩ := hacc
  have hw : winCount s e.caller = countWinning s.status rg.first (rangeLen rg) := winCount_of_range hr
  have hvar : (claimMid (txc s e) e rg).s.variant = s.variant := by rw [claimMid_state]; rfl
  have hl' : (claimMid (txc s e) e rg).s.variant.hasLock = false := by rw [hvar]; exact hl
  obtain ⟨t2, ht2⟩ : ∃ t2, t2 = sendTokensResult (claimMid (txc s e) e rg) e.caller
      (countWinning s.status rg.first (rangeLen rg)) := ⟨_, rfl⟩
  have hst2 : t2.s = { settledState s e.caller rg with bal := balAfterClaim s e.caller } := by
    rw [ht2, sendTokensResult_state, claimMid_state]
    simp only [balAfterClaim, hw, txc]
    rfl
  have hn' : t2.s.variant.hasNft = true := by rw [hst2]; exact hn
  have hcat : nftCategory t2.s e.caller = nftCategory s e.caller :=
    nftCategory_congr e.caller (by rw [hst2]; rfl) (by rw [hst2]; rfl)
  refine ⟨((claimNftResult t2 e).s, (claimNftResult t2 e).o), ?_⟩
  rw [step_claim_ok_iff, exec_claim_nonvested hash _ e hv]
  refine ⟨he1, he2, claimNftResult t2 e, ?_, rfl, rfl⟩
  rw [claimBase_ok_iff]
  refine ⟨rg, ⟨hst, hcl, hr, ?_, ?_, ?_⟩, t2, ?_, ?_⟩
  · rw [txc_s, ← hw]; exact hnw
  · rw [txc_s, ← hw]; exact hle
  · rw [txc_s, ← hw]; exact hb
  · rw [sendLaunchpadTokens_nolock_ok_iff _ e _ _ _ hl']
    refine ⟨?_, by rw [txc_s]; exact ht2⟩
    rw [claimMid_state, txc_s, ← hw]
    exact hb2
  · rw [if_pos hn', claimNft_ok_iff]
    refine ⟨by rw [hst2]; exact hsft, ?_, rfl⟩
    intro h2
    rw [hcat] at h2
    have := hfee h2
    rw [hst2]
    exact this

theorem claim_accepts (hash : List Nat → List Nat) (s : State) (e : Env) (rg : Range)
    (hv : s.variant.vested = false) (hp : s.lockPct ≤ 10000) (hacc : ClaimAccepts s e rg)
    (hnft : s.variant.hasNft = true → s.sftToken = true ∧ (nftCategory s e.caller = 2 →
      s.nftCost.amount ≤ (balAfterClaim s e.caller) s.nftCost.tok s.nftCost.nonce)) :
    ∃ x, step hash s e .claim = .ok x := by
  cases hn : s.variant.hasNft with
  | true => exact zn_claim_accepts hash s e rg hn hacc (hnft hn).1 (hnft hn).2
  | false =>
    cases hl : s.variant.hasLock with
    | true => exact (claim_lock_accepted_iff hash s e hv hl hp).mpr ⟨rg, hacc⟩
    | false =>
      refine ⟨({ settledState s e.caller rg with bal := balAfterClaim s e.caller },
        { xfers := refundXfers s e.caller ++ tokenXfers s e.caller,
          events := (if s.confirmed e.caller - winCount s e.caller = 0 then []
                      else [refundEvent s e (s.confirmed e.caller - winCount s e.caller)]) }), ?_⟩
      rw [claim_base_iff hash s e _ _ hv hl hn]
      exact ⟨rg, hacc, rfl, rfl, rfl, rfl, rfl, rfl, rfl⟩

/-- The two tokens differ, so the refund does not touch the launchpad-token slot. -/
theorem claimAccepts_of_cover {s : State} {e : Env} {rg : Range}
    (he1 : e.egld = 0) (he2 : e.esdts = []) (hst : s.stage e = .claim)
    (hcl : s.claimed e.caller = false) (hrg : s.range e.caller = some rg)
    (htok : s.payTok ≠ .esdt s.lpTok)
    (hwn : winCount s e.caller ≤ s.nrWinning) (hle : winCount s e.caller ≤ s.confirmed e.caller)
    (hpay : s.price * (s.confirmed e.caller - winCount s e.caller) ≤ s.bal s.payTok 0)
    (hlp : s.perTicket * winCount s e.caller ≤ s.bal (.esdt s.lpTok) 0) :
    ClaimAccepts s e rg := by
  have hne : ¬ (Token.esdt s.lpTok = s.payTok) := fun hh => htok hh.symm
  refine ⟨he1, he2, hst, hcl, hrg, hwn, hle, hpay, ?_⟩
  have : (s.bal.sub s.payTok 0 (s.price * (s.confirmed e.caller - winCount s e.caller)))
      (.esdt s.lpTok) 0 = s.bal (.esdt s.lpTok) 0 := by simp [Bal.sub, hne]
  rw [this, Nat.mul_comm]; exact hlp

end LP

section
/-! ### The overwrite of the families without guarantee records: `z_w s R B K C` overwrites the fields
  `range`, `batch`, `blacklist`, `claimed`, a masked overwrite (`z_mask`) of LP/Proofs/Overwrite.lean. -/
namespace LP

def z_w (s : State) (R : Nat → Option Range) (B : Nat → Option Batch) (K C : Nat → Bool) : State :=
  { s with range := R, batch := B, blacklist := K, claimed := C }

def z_wt (t : Tx) (R : Nat → Option Range) (B : Nat → Option Batch) (K C : Nat → Bool) : Tx :=
  { t with s := z_w t.s R B K C }

section
variable {R : Nat → Option Range} {B : Nat → Option Batch} {K C : Nat → Bool}

/-- `z_w` as a masked overwrite (LP/Proofs/Overwrite.lean): `z_w s R B K C = ow s (z_mask R B K C)` by `rfl` -/
def z_mask (R : Nat → Option Range) (B : Nat → Option Batch) (K C : Nat → Bool) : Ow :=
  { R := some R, B := some B, K := some K, C := some C }

theorem z_send (t : Tx) (a : Nat) (p : Pay) :
    (z_wt t R B K C).send a p = mapR (z_wt · R B K C) (t.send a p) :=
  ow_send t (z_mask R B K C) a p

theorem z_refund (t : Tx) (e : Env) (a n : Nat) :
    (z_wt t R B K C).refund e a n = mapR (z_wt · R B K C) (t.refund e a n) :=
  ow_refund t (z_mask R B K C) e a n

theorem z_exec_indep (hash : List Nat → List Nat) (t : Tx) (e : Env) (c : Call) (hc : ov_indep c = true) :
    exec hash (z_wt t R B K C) e c = mapR (z_wt · R B K C) (exec hash t e c) :=
  exec_ow hash t (z_mask R B K C) e c (Ow.avoids_of_indep _ rfl hc)

theorem z_credit (s : State) (e : Env) :
    creditPayments (z_w s R B K C) e = z_w (creditPayments s e) R B K C := rfl

end

end LP
end

/-! ### The erasure of empty ranges and zero-size batches -/
namespace LP

/-- drop the empty ranges `[f, f-1]` -/
def z_eraseR (f : Nat → Option Range) : Nat → Option Range := fun a =>
  match f a with
  | some r => if r.first ≤ r.last then some r else none
  | none => none

def z_eraseB (f : Nat → Option Batch) : Nat → Option Batch := fun i =>
  match f i with
  | some b => if b.n = 0 then none else some b
  | none => none

theorem z_eraseR_some {f : Nat → Option Range} {a : Nat} {r : Range} :
    z_eraseR f a = some r ↔ f a = some r ∧ r.first ≤ r.last := by
  unfold z_eraseR
  cases h : f a with
  | none => simp
  | some r' =>
    by_cases hr : r'.first ≤ r'.last
    · simp only [hr, if_true, Option.some.injEq]
      constructor
      · rintro rfl; exact ⟨rfl, hr⟩
      · rintro ⟨h1, _⟩; exact h1
    · simp only [hr, if_false, Option.some.injEq, reduceCtorEq, false_iff, not_and]
      rintro rfl; exact hr

theorem z_eraseR_of_ne {f : Nat → Option Range} {a : Nat} {r : Range} (h : f a = some r)
    (hr : r.first ≤ r.last) : z_eraseR f a = some r := z_eraseR_some.mpr ⟨h, hr⟩

theorem z_eraseR_of_empty {f : Nat → Option Range} {a : Nat} {r : Range} (h : f a = some r)
    (hr : ¬ r.first ≤ r.last) : z_eraseR f a = none := by
  unfold z_eraseR; rw [h]; simp [hr]

theorem z_eraseR_of_none {f : Nat → Option Range} {a : Nat} (h : f a = none) : z_eraseR f a = none := by
  unfold z_eraseR; rw [h]

theorem z_eraseR_none {f : Nat → Option Range} {a : Nat} (h : z_eraseR f a = none) :
    f a = none ∨ ∃ r, f a = some r ∧ r.last < r.first := by
  cases hf : f a with
  | none => exact Or.inl rfl
  | some r =>
    right
    refine ⟨r, rfl, ?_⟩
    apply Classical.byContradiction
    intro hlt
    have := z_eraseR_of_ne hf (by omega)
    rw [h] at this; cases this

theorem z_eraseR_congr {f g : Nat → Option Range} {a : Nat} (h : f a = g a) :
    z_eraseR f a = z_eraseR g a := by
  unfold z_eraseR; rw [h]

theorem z_eraseR_upd_ne (f : Nat → Option Range) (a : Nat) (r : Range) (hr : r.first ≤ r.last) :
    z_eraseR (upd f a (some r)) = upd (z_eraseR f) a (some r) := by
  funext x
  by_cases hx : x = a
  · subst hx; simp [z_eraseR, upd, hr]
  · simp [z_eraseR, upd, hx]

theorem z_eraseR_upd_none (f : Nat → Option Range) (a : Nat) :
    z_eraseR (upd f a none) = upd (z_eraseR f) a none := by
  funext x
  by_cases hx : x = a
  · subst hx; simp [z_eraseR, upd]
  · simp [z_eraseR, upd, hx]

theorem z_eraseR_upd_empty (f : Nat → Option Range) (a : Nat) (r : Range) (hr : ¬ r.first ≤ r.last) :
    z_eraseR (upd f a (some r)) = upd (z_eraseR f) a none := by
  funext x
  by_cases hx : x = a
  · subst hx; simp [z_eraseR, upd, hr]
  · simp [z_eraseR, upd, hx]

theorem z_upd_none_self {α : Type} (f : Nat → Option α) (a : Nat) (h : f a = none) : upd f a none = f := by
  funext x
  by_cases hx : x = a
  · subst hx; simp [upd, h]
  · simp [upd, hx]

theorem z_eraseB_some {f : Nat → Option Batch} {i : Nat} {b : Batch} :
    z_eraseB f i = some b ↔ f i = some b ∧ b.n ≠ 0 := by
  unfold z_eraseB
  cases h : f i with
  | none => simp
  | some b' =>
    by_cases hb : b'.n = 0
    · simp only [hb, if_true, reduceCtorEq, Option.some.injEq, false_iff, not_and, Decidable.not_not]
      rintro rfl; exact hb
    · simp only [hb, if_false, Option.some.injEq]
      constructor
      · rintro rfl; exact ⟨rfl, hb⟩
      · rintro ⟨h1, _⟩; exact h1

theorem z_eraseB_upd_pos (f : Nat → Option Batch) (i : Nat) (b : Batch) (hb : b.n ≠ 0) :
    z_eraseB (upd f i (some b)) = upd (z_eraseB f) i (some b) := by
  funext x
  by_cases hx : x = i
  · subst hx; simp [z_eraseB, upd, hb]
  · simp [z_eraseB, upd, hx]

theorem z_eraseB_upd_none (f : Nat → Option Batch) (i : Nat) :
    z_eraseB (upd f i none) = upd (z_eraseB f) i none := by
  funext x
  by_cases hx : x = i
  · subst hx; simp [z_eraseB, upd]
  · simp [z_eraseB, upd, hx]

theorem z_eraseB_upd_zero (f : Nat → Option Batch) (i : Nat) (b : Batch) (hb : b.n = 0) :
    z_eraseB (upd f i (some b)) = upd (z_eraseB f) i none := by
  funext x
  by_cases hx : x = i
  · subst hx; simp [z_eraseB, upd, hb]
  · simp [z_eraseB, upd, hx]

/-- the top-up of an empty range = the top-up of no range: everything becomes leftover -/
theorem z_processGuaranteed (st : Nat → Bool) (f : Nat → Option Range) (u g : Nat) :
    processGuaranteed st (z_eraseR f u) g = processGuaranteed st (f u) g := by
  cases hf : f u with
  | none => rw [z_eraseR_of_none hf]
  | some r =>
    by_cases hne : r.first ≤ r.last
    · rw [z_eraseR_of_ne hf hne]
    · rw [z_eraseR_of_empty hf hne]
      have hl : rangeLen r = 0 := by unfold rangeLen; omega
      unfold processGuaranteed
      simp only [hl, countWinning]
      by_cases hg : g > 0
      · simp [hg, topUp]
      · simp [hg]

/-! ### the simulation relation of the families without guarantee records -/

/-- `z` is the state `s` with the empty ranges and (until the filter has completed) the zero-size
    batches removed; the two address flags of `z` are below those of `s` (an address with an empty
    range may be blacklisted and may "claim" in `s`; `z` does not see it).  Every other field is
    the same. -/
structure ZSim (s z : State) : Prop where
  rest : z = z_w s z.range z.batch z.blacklist z.claimed
  range : z.range = z_eraseR s.range
  batch : s.flags.filtered = false → z.batch = z_eraseB s.batch
  bl : ∀ a, z.blacklist a = true → s.blacklist a = true
  cl : ∀ a, z.claimed a = true → s.claimed a = true

theorem ZSim.refl_of_clean {s : State} (hR : z_eraseR s.range = s.range)
    (hB : z_eraseB s.batch = s.batch) : ZSim s s :=
  ⟨rfl, hR.symm, fun _ => hB.symm, fun _ h => h, fun _ h => h⟩

theorem ZSim.mk' (s : State) (R : Nat → Option Range) (B : Nat → Option Batch) (K C : Nat → Bool)
    (hR : R = z_eraseR s.range) (hB : s.flags.filtered = false → B = z_eraseB s.batch)
    (hK : ∀ a, K a = true → s.blacklist a = true) (hC : ∀ a, C a = true → s.claimed a = true) :
    ZSim s (z_w s R B K C) := ⟨rfl, hR, hB, hK, hC⟩

theorem ZSim.eq {s z : State} (h : ZSim s z) :
    z = z_w s (z_eraseR s.range) z.batch z.blacklist z.claimed := by
  have := h.rest
  rw [h.range] at this
  exact this

/-- Invariant while allocating.  A zero-size allocation stores its batch at `lastTicketId + 1` and
    leaves `lastTicketId` where it was, so the next allocation overwrites that slot: every batch
    above `lastTicketId` has size zero, and the erased batch map is empty there. -/
def z_Hd (s : State) : Prop := ∀ i b, s.lastTicketId < i → s.batch i = some b → b.n = 0

theorem z_step_intro {hash : List Nat → List Nat} {s : State} {e : Env} {c : Call} {m : Meta} {t : Tx}
    (hm : endpointMeta s.variant c = some m)
    (hpay : m.payable = true ∨ (e.egld = 0 ∧ e.esdts = []))
    (hown : m.ownerOnly = true → e.caller = s.owner)
    (hx : exec hash (tx0 s e) e c = .ok t) : step hash s e c = .ok (t.s, t.o) := by
  rw [step_eq_of_meta hm hpay hown, hx]

/-! ### `addTickets` and `confirm` on the erased state -/

open LP.Props.C18 in
theorem z_tryCreate_frame {s s' : State} {a n : Nat} (h : tryCreateTickets s a n = .ok s') :
    s'.blacklist = s.blacklist ∧ s'.claimed = s.claimed ∧ s'.flags = s.flags := by
  rw [tryCreateTickets_ok_iff] at h
  obtain ⟨_, _, rfl⟩ := h
  exact ⟨rfl, rfl, rfl⟩

open LP.Props.C18 in
theorem z_tryCreate_pos {s s' : State} {a n : Nat} (K C : Nat → Bool) (hn : 1 ≤ n)
    (h : tryCreateTickets s a n = .ok s') (hd : z_Hd s) :
    tryCreateTickets (z_w s (z_eraseR s.range) (z_eraseB s.batch) K C) a n
      = .ok (z_w s' (z_eraseR s'.range) (z_eraseB s'.batch) K C) ∧ z_Hd s' := by
  rw [tryCreateTickets_ok_iff] at h
  obtain ⟨h1, h2, rfl⟩ := h
  constructor
  · rw [tryCreateTickets_ok_iff]
    refine ⟨z_eraseR_of_none h1, h2, ?_⟩
    have e1 : z_eraseR (upd s.range a (some ⟨s.lastTicketId + 1, s.lastTicketId + 1 + n - 1⟩))
        = upd (z_eraseR s.range) a (some ⟨s.lastTicketId + 1, s.lastTicketId + 1 + n - 1⟩) :=
      z_eraseR_upd_ne _ _ _ (by show s.lastTicketId + 1 ≤ s.lastTicketId + 1 + n - 1; omega)
    have e2 : z_eraseB (upd s.batch (s.lastTicketId + 1) (some ⟨a, n⟩))
        = upd (z_eraseB s.batch) (s.lastTicketId + 1) (some ⟨a, n⟩) :=
      z_eraseB_upd_pos _ _ _ (by show n ≠ 0; omega)
    show z_w _ (z_eraseR (upd s.range a _)) (z_eraseB (upd s.batch _ _)) K C = _
    rw [e1, e2]; rfl
  · intro i b hi hb
    have hi' : s.lastTicketId + 1 + n - 1 < i := hi
    have hb' : upd s.batch (s.lastTicketId + 1) (some ⟨a, n⟩) i = some b := hb
    rw [upd_other _ _ _ _ (by omega)] at hb'
    exact hd i b (by omega) hb'

/-- the erasure does not see a zero-size allocation: its range is empty, its batch has size zero and
    stands above `lastTicketId`, where the erased batch map is empty (`z_Hd`) -/
theorem z_erase_alloc_zero {s : State} {a l : Nat} (hr : s.range a = none) (hd : z_Hd s)
    (hl : l ≤ s.lastTicketId) :
    z_eraseR (upd s.range a (some ⟨s.lastTicketId + 1, l⟩)) = z_eraseR s.range ∧
    z_eraseB (upd s.batch (s.lastTicketId + 1) (some ⟨a, 0⟩)) = z_eraseB s.batch := by
  constructor
  · rw [z_eraseR_upd_empty _ _ _ (by show ¬ s.lastTicketId + 1 ≤ l; omega)]
    exact z_upd_none_self _ _ (z_eraseR_of_none hr)
  · rw [z_eraseB_upd_zero _ _ _ rfl]
    apply z_upd_none_self
    cases hb : z_eraseB s.batch (s.lastTicketId + 1) with
    | none => rfl
    | some b =>
      obtain ⟨k1, k2⟩ := z_eraseB_some.mp hb
      exact absurd (hd _ b (by omega) k1) k2

open LP.Props.C18 in
theorem z_tryCreate_zero {s s' : State} {a : Nat} (K C : Nat → Bool)
    (h : tryCreateTickets s a 0 = .ok s') (hd : z_Hd s) :
    z_w s' (z_eraseR s'.range) (z_eraseB s'.batch) K C
      = z_w s (z_eraseR s.range) (z_eraseB s.batch) K C ∧ z_Hd s' := by
  rw [tryCreateTickets_ok_iff] at h
  obtain ⟨h1, h2, rfl⟩ := h
  have hl : s.lastTicketId + 1 + 0 - 1 = s.lastTicketId := by omega
  constructor
  · obtain ⟨e1, e2⟩ := z_erase_alloc_zero (a := a) (l := s.lastTicketId + 1 + 0 - 1) h1 hd (by omega)
    show z_w _ (z_eraseR (upd s.range a _)) (z_eraseB (upd s.batch _ _)) K C = _
    rw [e1, e2]
    show ({ s with lastTicketId := s.lastTicketId + 1 + 0 - 1, range := _, batch := _, blacklist := K,
                   claimed := C } : State) = _
    rw [hl]; rfl
  · intro i b hi hb
    have hi' : s.lastTicketId + 1 + 0 - 1 < i := hi
    have hb' : upd s.batch (s.lastTicketId + 1) (some ⟨a, 0⟩) i = some b := hb
    by_cases hx : i = s.lastTicketId + 1
    · rw [hx, upd_same] at hb'
      injection hb' with hb'; rw [← hb']
    · rw [upd_other _ _ _ _ hx] at hb'
      exact hd i b (by omega) hb'

theorem z_createMany (K C : Nat → Bool) : ∀ (l : List (Nat × Nat)) {s s' : State},
    createMany l s = .ok s' → z_Hd s →
    createMany (l.filter (fun p => decide (1 ≤ p.2))) (z_w s (z_eraseR s.range) (z_eraseB s.batch) K C)
      = .ok (z_w s' (z_eraseR s'.range) (z_eraseB s'.batch) K C) ∧ z_Hd s' ∧
    s'.blacklist = s.blacklist ∧ s'.claimed = s.claimed ∧ s'.flags = s.flags
  | [], s, s', h, hd => by
    simp only [createMany, Except.ok.injEq] at h
    subst h
    exact ⟨rfl, hd, rfl, rfl, rfl⟩
  | (a, n) :: rest, s, s', h, hd => by
    simp only [createMany] at h
    cases h1 : tryCreateTickets s a n with
    | error err => rw [h1] at h; cases h
    | ok s1 =>
      rw [h1] at h
      obtain ⟨f1, f2, f3⟩ := z_tryCreate_frame h1
      by_cases hn : 1 ≤ n
      · obtain ⟨k1, k2⟩ := z_tryCreate_pos K C hn h1 hd
        obtain ⟨i1, i2, i3, i4, i5⟩ := z_createMany K C rest h k2
        refine ⟨?_, i2, i3.trans f1, i4.trans f2, i5.trans f3⟩
        rw [List.filter_cons_of_pos (by simpa using hn)]
        simp only [createMany, k1]
        exact i1
      · have hn0 : n = 0 := by omega
        subst hn0
        obtain ⟨k1, k2⟩ := z_tryCreate_zero K C h1 hd
        obtain ⟨i1, i2, i3, i4, i5⟩ := z_createMany K C rest h k2
        refine ⟨?_, i2, i3.trans f1, i4.trans f2, i5.trans f3⟩
        rw [List.filter_cons_of_neg (by simp)]
        rw [← k1]
        exact i1

theorem z_exec_addTickets {hash : List Nat → List Nat} {t t' : Tx} {e : Env} {l : List (Nat × Nat)}
    (K C : Nat → Bool) (h : exec hash t e (.addTickets l) = .ok t') (hd : z_Hd t.s) :
    exec hash (z_wt t (z_eraseR t.s.range) (z_eraseB t.s.batch) K C) e
        (.addTickets (l.filter (fun p => decide (1 ≤ p.2))))
      = .ok (z_wt t' (z_eraseR t'.s.range) (z_eraseB t'.s.batch) K C) ∧ z_Hd t'.s ∧
    t'.s.blacklist = t.s.blacklist ∧ t'.s.claimed = t.s.claimed ∧ t'.s.flags = t.s.flags ∧
    t'.o = t.o := by
  simp only [exec, bind_ok_iff, pure_ok_iff, requireStage, req_ok_iff, exists_const] at h ⊢
  obtain ⟨hst, s1, hcm, rfl⟩ := h
  obtain ⟨i1, i2, i3, i4, i5⟩ := z_createMany K C l hcm hd
  exact ⟨⟨hst, _, i1, rfl⟩, i2, i3, i4, i5, rfl⟩

theorem z_ticketsFor {s s' : State} {a total : Nat} (hR : s'.range = z_eraseR s.range)
    (h : ticketsFor s a = .ok total) : ticketsFor s' a = .ok total := by
  unfold ticketsFor at h ⊢
  rw [hR]
  cases hr : s.range a with
  | none => rw [hr] at h; rw [z_eraseR_of_none hr]; exact h
  | some r =>
    rw [hr] at h
    by_cases hle : r.first ≤ r.last
    · rw [z_eraseR_of_ne hr hle]; exact h
    · simp [csub, hle, bind, Except.bind] at h

/-- an empty range makes the allocation view (and hence `confirm`) panic -/
theorem z_ticketsFor_empty {s : State} {a : Nat} {r : Range} (hr : s.range a = some r)
    (he : r.last < r.first) : ∃ err, ticketsFor s a = .error err := by
  unfold ticketsFor
  rw [hr]
  have : ¬ r.first ≤ r.last := by omega
  refine ⟨.panic "tickets.rs:96 last_id - first_id", ?_⟩
  simp [csub, this, bind, Except.bind]

open LP.Props.C07 in
/-- `confirm` on a state overwritten by `w`, where the overwritten ranges are the erased ones and
    the caller's overwritten blacklist flag is below the real one; the call writes none of the
    seven fields -/
theorem ov_exec_confirm (w : Ov) {hash : List Nat → List Nat} {t t' : Tx} {e : Env} {n : Nat}
    (h : exec hash t e (.confirm n) = .ok t') (hR : w.R = z_eraseR t.s.range)
    (hK : w.K e.caller = true → t.s.blacklist e.caller = true) :
    exec hash (ovt t w) e (.confirm n) = .ok (ovt t' w) ∧ Ov.of t'.s = Ov.of t.s := by
  simp only [exec] at h ⊢
  rw [confirmTickets_ok_iff] at h ⊢
  obtain ⟨total, ⟨a1, a2, a3, a4, a5, a6, a7⟩, rfl⟩ := h
  refine ⟨⟨total, ⟨a1, a2, a3, a4, ?_, z_ticketsFor hR a6, a7⟩, rfl⟩, rfl⟩
  show w.K e.caller = false
  cases hk : w.K e.caller with
  | false => rfl
  | true => rw [hK hk] at a5; cases a5

/-! ### `blacklist` on an overwritten state with fewer ranges: the loop, the two hooks, the call -/

open LP.Events in
/-- **the blacklisting loop on an overwritten state whose ranges `w.R` are fewer**: the addresses
    without a range in `w.R` are skipped (they have nothing confirmed, so the original loop only
    sets their flag); the flags `K` of the overwritten state stay below those of the original, and
    agree with them at every address with a range in `w.R` where they agreed before -/
theorem ov_blacklistMany (e : Env) (w : Ov) : ∀ (l : List Nat) {t t' : Tx} (K : Nat → Bool),
    blacklistMany e l t = .ok t' →
    (∀ a, K a = true → t.s.blacklist a = true) →
    (∀ a ∈ l, w.R a = none → t.s.confirmed a = 0) →
    ∃ K', blacklistMany e (l.filter (fun a => (w.R a).isSome)) (ovt t { w with K := K })
        = .ok (ovt t' { w with K := K' }) ∧
      (∀ a, K' a = true → t'.s.blacklist a = true) ∧
      (∀ a, (w.R a).isSome = true → K a = t.s.blacklist a → K' a = t'.s.blacklist a)
  | [], t, t', K, h, hK, _ => by
    simp only [blacklistMany, Except.ok.injEq] at h
    subst h
    exact ⟨K, rfl, hK, fun _ _ h => h⟩
  | a :: rest, t, t', K, h, hK, hc => by
    obtain ⟨hb, _, hle, hrest⟩ := (blacklistMany_cons e a rest t t').mp h
    have hbl : ∀ x, (blTx t e [a]).s.blacklist x = if x ∈ [a] then true else t.s.blacklist x := fun _ => rfl
    have hc' : ∀ b ∈ rest, w.R b = none → (blTx t e [a]).s.confirmed b = 0 := by
      intro b hb' hz
      show (if b ∈ [a] then 0 else t.s.confirmed b) = 0
      split
      · rfl
      · exact hc b (List.mem_cons_of_mem _ hb') hz
    cases hz : w.R a with
    | none =>
      rw [List.filter_cons_of_neg (by simp [hz])]
      have h0 : t.s.confirmed a = 0 := hc a (List.mem_cons_self ..) hz
      obtain ⟨K', k1, k2, k3⟩ := ov_blacklistMany e w rest K hrest
        (fun x hx => by rw [hbl]; split; rfl; exact hK x hx) hc'
      rw [blTx_single_zero t e a h0] at k1
      refine ⟨K', k1, k2, fun x hx hxk => k3 x hx ?_⟩
      have hxa : x ∉ [a] := by
        intro hm; rw [List.mem_singleton.mp hm, hz] at hx; cases hx
      rw [hbl, if_neg hxa]; exact hxk
    | some r =>
      rw [List.filter_cons_of_pos (by simp [hz])]
      have hKa : K a = false := by
        cases hk : K a with
        | false => rfl
        | true => rw [hK a hk] at hb; cases hb
      obtain ⟨K', k1, k2, k3⟩ := ov_blacklistMany e w rest (fun x => if x ∈ [a] then true else K x) hrest
        (fun x hx => by
          rw [hbl]
          split
          · rfl
          · rename_i hxa; rw [if_neg hxa] at hx; exact hK x hx) hc'
      refine ⟨K', ?_, k2, fun x hx hxk => k3 x hx ?_⟩
      · rw [blacklistMany_cons]
        exact ⟨hKa, by show (w.R a).isSome = true; rw [hz]; rfl, hle, k1⟩
      · rw [hbl, hxk]

open LP.Events in
/-- the body of `blacklist` before the hooks: the guards do not read the overwritten fields, the loop is
    `ov_blacklistMany` -/
theorem ov_addUsersToBlacklist (w : Ov) {t t1 : Tx} {e : Env} {l : List Nat}
    (h : addUsersToBlacklist t e l = .ok t1)
    (hK : ∀ a, w.K a = true → t.s.blacklist a = true)
    (hc : ∀ a ∈ l, w.R a = none → t.s.confirmed a = 0) :
    ∃ K', addUsersToBlacklist (ovt t w) e (l.filter (fun a => (w.R a).isSome))
        = .ok (ovt t1 { w with K := K' }) ∧
      (∀ a, K' a = true → t1.s.blacklist a = true) ∧
      (∀ a, (w.R a).isSome = true → w.K a = t.s.blacklist a → K' a = t1.s.blacklist a) := by
  unfold addUsersToBlacklist at h
  simp only [bind_ok_iff, req_ok_iff, exists_const] at h
  obtain ⟨p1, p2, p3, p4⟩ := h
  obtain ⟨K', k1, k2, k3⟩ := ov_blacklistMany e w l w.K p4 hK hc
  refine ⟨K', ?_, k2, k3⟩
  unfold addUsersToBlacklist
  simp only [bind_ok_iff, req_ok_iff, exists_const]
  exact ⟨p1, p2, p3, k1⟩

/-- What `clearV1Many l` on `s` and `clearV1Many (l.filter good)` on `{ s with uts := U }` have done:
    a record is as it was on both sides, or gone on both sides (a whitelisted member of the list);
    only whitelist, records and retired records of `s` have changed. -/
structure ClearFx (good : Nat → Bool) (s s' : State) (U U' : Nat → Option UTS) : Prop where
  at_ : ∀ a, (U' a = U a ∧ s'.uts a = s.uts a) ∨ (U' a = none ∧ s'.uts a = none ∧ good a = true)
  wl : ∀ a, a ∈ s'.whitelist → a ∈ s.whitelist
  rest : s' = { s with whitelist := s'.whitelist, uts := s'.uts, blUts := s'.blUts }

theorem z_mem_swapRemove {l : List Nat} {a x : Nat} (h : x ∈ (swapRemove l a).1) : x ∈ l :=
  List.mem_of_mem_erase ((swapRemove_perm l a).mem_iff.mp h)

/-- **`clearV1Many` with other records**: the loop acts on whitelisted addresses only, so it does the
    same on the shorter list and with records `U` as long as the whitelisted members of the list are
    kept (`good`) and have the same record.  (The overwrite of the other fields of the erased state
    commutes with the loop: `ow_clearV1Many`.) -/
theorem clearV1Many_uts (good : Nat → Bool) :
    ∀ (l : List Nat) {s s' : State} {rm tg rm' tg' : Nat} (U : Nat → Option UTS),
    clearV1Many l (s, rm, tg) = .ok (s', rm', tg') →
    (∀ a ∈ l, a ∈ s.whitelist → good a = true ∧ U a = s.uts a) →
    ∃ U', clearV1Many (l.filter good) ({ s with uts := U }, rm, tg) = .ok ({ s' with uts := U' }, rm', tg') ∧
      ClearFx good s s' U U'
  | [], s, s', rm, tg, rm', tg', U, h, _ => by
    simp only [clearV1Many, Except.ok.injEq, Prod.mk.injEq] at h
    obtain ⟨rfl, rfl, rfl⟩ := h
    exact ⟨U, rfl, fun _ => Or.inl ⟨rfl, rfl⟩, fun _ h => h, rfl⟩
  | u :: rest, s, s', rm, tg, rm', tg', U, h, hg => by
    have hrest : ∀ (U2 uts2 : Nat → Option UTS), (∀ a, U a = s.uts a → U2 a = uts2 a) →
        ∀ a ∈ rest, a ∈ (swapRemove s.whitelist u).1 → good a = true ∧ U2 a = uts2 a :=
      fun U2 uts2 h2 a ha hm =>
        have := hg a (List.mem_cons_of_mem _ ha) (z_mem_swapRemove hm)
        ⟨this.1, h2 a this.2⟩
    unfold clearV1Many at h
    simp only at h
    by_cases hm : u ∈ s.whitelist
    · -- a whitelisted member: kept, same record; the guarantee is given back on both sides
      obtain ⟨hgu, hUu⟩ := hg u (List.mem_cons_self ..) hm
      have hw : (swapRemove s.whitelist u).2 = true := by exact (swapRemove_snd _ _).mpr hm
      rw [hw] at h
      simp only [Bool.not_true, Bool.false_eq_true, if_false] at h
      rw [List.filter_cons_of_pos hgu]
      unfold clearV1Many
      simp only
      show ∃ U', (if (!(swapRemove s.whitelist u).2) = true then _ else _) = _ ∧ _
      rw [hw, hUu]
      simp only [Bool.not_true, Bool.false_eq_true, if_false]
      cases h1 : csub tg ((s.uts u).getD {}).c "guaranteed_tickets_init.rs:95 total_guaranteed -= staking" with
      | error err => rw [h1] at h; cases h
      | ok tg1 =>
        rw [h1] at h
        simp only at h ⊢
        cases h2 : csub tg1 ((s.uts u).getD {}).d "guaranteed_tickets_init.rs:96 total_guaranteed -= migration" with
        | error err => rw [h2] at h; cases h
        | ok tg2 =>
          rw [h2] at h
          simp only at h ⊢
          obtain ⟨U', i1, fx⟩ := clearV1Many_uts good rest (upd U u none) h
            (hrest (upd U u none) (upd s.uts u none) (fun a ha => by
              by_cases hau : a = u
              · subst hau; rw [upd_same, upd_same]
              · rw [upd_other _ _ _ _ hau, upd_other _ _ _ _ hau]; exact ha))
          refine ⟨U', i1, fun a => ?_, fun a ha => z_mem_swapRemove (fx.wl a ha), ?_⟩
          · rcases fx.at_ a with ⟨p1, p2⟩ | p
            · by_cases hau : a = u
              · subst hau
                exact Or.inr ⟨p1.trans (upd_same ..), p2.trans (upd_same ..), hgu⟩
              · exact Or.inl ⟨p1.trans (upd_other _ _ _ _ hau), p2.trans (upd_other _ _ _ _ hau)⟩
            · exact Or.inr p
          · have := fx.rest
            rw [this]
    · -- not whitelisted: the loop passes on, on the erased side as well if the address is there at all
      rw [swapRemove_not_mem hm] at h
      simp only [Bool.not_false, if_true] at h
      obtain ⟨U', i1, fx⟩ := clearV1Many_uts good rest U h
        (fun a ha hma => hg a (List.mem_cons_of_mem _ ha) hma)
      refine ⟨U', ?_, fx⟩
      cases hgu : good u with
      | false => rw [List.filter_cons_of_neg (by simp [hgu])]; exact i1
      | true =>
        rw [List.filter_cons_of_pos hgu]
        unfold clearV1Many
        simp only
        show (if (!(swapRemove s.whitelist u).2) = true then _ else _) = _
        rw [swapRemove_not_mem hm]
        simp only [Bool.not_false, if_true]
        exact i1

open LP.Events in
/-- the guaranteed-ticket hook of `blacklist` outside v2: with the v1 allocation it is `clearV1Many_uts`
    under the overwrite of the other fields (`ow_clearV1Many`), otherwise nothing -/
theorem ov_blHookG (w : Ov) (good : Nat → Bool) {t t2 : Tx} {l : List Nat} (h : blHookG t l = .ok t2)
    (hv2 : t.s.variant.isV2 = false) (hBU : w.BU = t.s.blUts) (hW : w.W = t.s.whitelist)
    (hg : t.s.variant.v1Alloc = true → ∀ a ∈ l, a ∈ t.s.whitelist → good a = true ∧ w.U a = t.s.uts a) :
    ∃ U', blHookG (ovt t w) (l.filter good)
        = .ok (ovt t2 { w with U := U', BU := t2.s.blUts, W := t2.s.whitelist }) ∧
      (∀ a, (U' a = w.U a ∧ t2.s.uts a = t.s.uts a) ∨ (U' a = none ∧ t2.s.uts a = none ∧ good a = true)) ∧
      (∀ a, a ∈ t2.s.whitelist → a ∈ t.s.whitelist) ∧
      ∃ wl u b nw tg, t2.s =
        { t.s with whitelist := wl, uts := u, blUts := b, nrWinning := nw, totalGuaranteed := tg } := by
  obtain ⟨R, B, K, C, U, BU, W⟩ := w
  dsimp only at hBU hW hg
  subst hBU hW
  unfold blHookG at h
  rw [if_neg (by rw [hv2]; simp)] at h
  by_cases hv1 : t.s.variant.v1Alloc = true
  · rw [if_pos hv1] at h
    simp only [bind_ok_iff, pure_ok_iff] at h
    obtain ⟨s2, hs2, rfl⟩ := h
    unfold clearGuaranteedV1 at hs2
    simp only [bind_ok_iff, pure_ok_iff, Prod.exists] at hs2
    obtain ⟨s3, rm, tg, hcm, rfl⟩ := hs2
    obtain ⟨U', i1, fx⟩ := clearV1Many_uts good l U hcm (hg hv1)
    have i2 := ow_clearV1Many { R := some R, B := some B, K := some K, C := some C } rfl rfl rfl
      (l.filter good) { t.s with uts := U } (0, t.s.totalGuaranteed)
    rw [i1] at i2
    refine ⟨U', ?_, fx.at_, fx.wl, ?_⟩
    · have hcz : clearGuaranteedV1 (ov t.s ⟨R, B, K, C, U, t.s.blUts, t.s.whitelist⟩) (l.filter good)
          = .ok (ov { s3 with nrWinning := s3.nrWinning + rm, totalGuaranteed := tg }
              ⟨R, B, K, C, U', s3.blUts, s3.whitelist⟩) := by
        unfold clearGuaranteedV1
        simp only [bind_ok_iff, pure_ok_iff, Prod.exists]
        exact ⟨_, _, _, i2, rfl⟩
      unfold blHookG
      rw [if_neg (by show ¬ (t.s.variant.isV2 = true); rw [hv2]; simp),
        if_pos (by show t.s.variant.v1Alloc = true; exact hv1)]
      show (clearGuaranteedV1 (ov t.s _) _ >>= _) = _
      rw [hcz]
      rfl
    · have := fx.rest
      exact ⟨s3.whitelist, s3.uts, s3.blUts, s3.nrWinning + rm, tg, by rw [this]; rfl⟩
  · rw [if_neg hv1] at h
    cases h
    refine ⟨U, ?_, fun a => Or.inl ⟨rfl, rfl⟩, fun a h => h, _, _, _, _, _, rfl⟩
    unfold blHookG
    rw [if_neg (by show ¬ (t.s.variant.isV2 = true); rw [hv2]; simp),
      if_neg (by show ¬ (t.s.variant.v1Alloc = true); exact hv1)]
    rfl

/-- the NFT-fee hook of `blacklist` passes over the addresses that have not paid the fee (with
    `ow_refundNftMany` this is the hook on the erased state) -/
theorem zn_refundNftMany_filter (p : Nat → Bool) : ∀ (l : List Nat) (t : Tx),
    (∀ a ∈ l, p a = false → a ∉ t.s.payers) →
    refundNftMany l t = refundNftMany (l.filter p) t
  | [], _, _ => rfl
  | u :: rest, t, h => by
    by_cases hp : p u = true
    · rw [List.filter_cons_of_pos hp]
      unfold refundNftMany
      by_cases hd : (swapRemove t.s.payers u).2 = true
      · simp only [hd, if_true]
        cases hs : (t.setS { t.s with payers := (swapRemove t.s.payers u).1 }).send u t.s.nftCost with
        | error err => rfl
        | ok t1 =>
          simp only
          apply zn_refundNftMany_filter p rest t1
          intro a ha hpa
          rw [send_ok_iff] at hs
          rw [hs.2]
          show a ∉ (swapRemove t.s.payers u).1
          have hnot := h a (List.mem_cons_of_mem _ ha) hpa
          intro hin
          exact hnot (List.mem_of_mem_erase ((swapRemove_perm _ _).subset hin))
      · simp only [hd, if_false, Bool.false_eq_true]
        exact zn_refundNftMany_filter p rest t (fun a ha => h a (List.mem_cons_of_mem _ ha))
    · have hp' : p u = false := by cases h' : p u <;> simp_all
      rw [List.filter_cons_of_neg (by simp [hp'])]
      have hnot : u ∉ t.s.payers := h u (List.mem_cons_self ..) hp'
      conv => lhs; unfold refundNftMany
      rw [LP.swapRemove_not_mem hnot]
      simp only [Bool.false_eq_true, if_false]
      exact zn_refundNftMany_filter p rest t (fun a ha => h a (List.mem_cons_of_mem _ ha))

open LP.Events in
/-- the NFT-fee hook of `blacklist` on the overwritten state: it commutes with the overwrite
    (`ow_refundNftMany`) and passes over the addresses dropped from the list, which have not paid -/
theorem ov_blHookN (w : Ov) (good : Nat → Bool) {t t3 : Tx} {l : List Nat} (h : blHookN t l = .ok t3)
    (hp : t.s.variant.hasNft = true → ∀ a ∈ l, good a = false → a ∉ t.s.payers) :
    blHookN (ovt t w) (l.filter good) = .ok (ovt t3 w) ∧
      ∃ py bal, t3.s = { t.s with payers := py, bal := bal } := by
  unfold blHookN at h ⊢
  show (if t.s.variant.hasNft = true then _ else _) = _ ∧ _
  by_cases hn : t.s.variant.hasNft = true
  · rw [if_pos hn] at h ⊢
    refine ⟨?_, (refundNftMany_frame l _ _ h).1⟩
    have := ow_refundNftMany w.toOw (l.filter good) t
    rw [← zn_refundNftMany_filter good l t (hp hn), h] at this
    exact this
  · rw [if_neg hn] at h ⊢
    cases h
    exact ⟨rfl, _, _, rfl⟩

open LP.Events in
/-- **`blacklist` on an overwritten state with fewer ranges**, outside v2, hook by hook
    (`exec_blacklist_eq`): the blacklisting loop skips the addresses without a range in `w.R`, which
    have nothing confirmed; the guaranteed-ticket hook acts on whitelisted addresses only, which have a
    range in `w.R` and the same record; the NFT-fee hook on fee payers only, which have a range in
    `w.R`.  The flags `K'` are as in `ov_blacklistMany`, the records `U'` as in `ClearFx`. -/
theorem ov_exec_blacklist {hash : List Nat → List Nat} {t t' : Tx} {e : Env} {l : List Nat} (w : Ov)
    (h : exec hash t e (.blacklist l) = .ok t') (hv2 : t.s.variant.isV2 = false)
    (hBU : w.BU = t.s.blUts) (hW : w.W = t.s.whitelist)
    (hK : ∀ a, w.K a = true → t.s.blacklist a = true)
    (hc : ∀ a ∈ l, w.R a = none → t.s.confirmed a = 0)
    (hg : t.s.variant.v1Alloc = true → ∀ a ∈ l, a ∈ t.s.whitelist →
      (w.R a).isSome = true ∧ w.U a = t.s.uts a)
    (hp : t.s.variant.hasNft = true → ∀ a ∈ l, w.R a = none → a ∉ t.s.payers) :
    ∃ K' U', exec hash (ovt t w) e (.blacklist (l.filter (fun a => (w.R a).isSome)))
        = .ok (ovt t' { w with K := K', U := U', BU := t'.s.blUts, W := t'.s.whitelist }) ∧
      (∀ a, K' a = true → t'.s.blacklist a = true) ∧
      (∀ a, (w.R a).isSome = true → w.K a = t.s.blacklist a → K' a = t'.s.blacklist a) ∧
      (∀ a, (U' a = w.U a ∧ t'.s.uts a = t.s.uts a) ∨
        (U' a = none ∧ t'.s.uts a = none ∧ (w.R a).isSome = true)) ∧
      (∀ a, a ∈ t'.s.whitelist → a ∈ t.s.whitelist) := by
  have hnone : ∀ a, (w.R a).isSome = false → w.R a = none := fun a ha => by
    cases hq : w.R a with
    | none => rfl
    | some _ => rw [hq] at ha; cases ha
  rw [exec_blacklist_eq] at h
  simp only [bind_ok_iff, pure_ok_iff] at h
  obtain ⟨t1, h1, t2, h2, t3, h3, ht'⟩ := h
  obtain ⟨K', a1, k2, k3⟩ := ov_addUsersToBlacklist w h1 hK hc
  obtain ⟨_, _, _, _, _, rfl⟩ := (addUsersToBlacklist_ok_iff _ _ _ _).mp h1
  obtain ⟨U', g1, g2, g3, wl, u, b, nw, tg, ht2⟩ := ov_blHookG { w with K := K' }
    (fun a => (w.R a).isSome) h2 hv2 hBU hW hg
  obtain ⟨n1, py, bal, ht3⟩ := ov_blHookN { w with K := K', U := U', BU := t2.s.blUts, W := t2.s.whitelist }
    (fun a => (w.R a).isSome) h3 (fun hn a ha hga => by
      rw [ht2]
      exact hp (by rw [ht2] at hn; exact hn) a ha (hnone a hga))
  have he : ∀ Y : Tx, Y.s.variant = t.s.variant → ∀ l', blHookE Y e l' = Y := fun Y hv l' => by
    unfold blHookE
    rw [if_neg (by rw [hv, hv2]; simp)]
  rw [he t3 (by rw [ht3, ht2]; rfl)] at ht'
  subst ht'
  refine ⟨K', U', ?_, ?_, ?_, ?_, ?_⟩
  · rw [exec_blacklist_eq, a1]
    show (blHookG _ _ >>= _) = _
    rw [g1]
    show (blHookN _ _ >>= _) = _
    rw [n1]
    show (pure (blHookE _ _ _) : Res Tx) = _
    rw [he _ (by show t3.s.variant = _; rw [ht3, ht2]; rfl), ht3]
    rfl
  · intro a ha; rw [ht3, ht2]; exact k2 a ha
  · intro a ha hk; rw [ht3, ht2]; exact k3 a ha hk
  · intro a; rw [ht3]; exact g2 a
  · intro a ha; rw [ht3] at ha; exact g3 a ha

/-! ### `unblacklist` on an overwritten state with fewer ranges: the restore hook, the call -/


/-- What `restoreV1Many l` on `s` and `restoreV1Many (l.filter good)` on `{ s with uts := U, range := R }`
    have done: a record is as it was on both sides, or restored on both sides (a kept member of the
    list); only whitelist, records and retired records of `s` have changed. -/
structure RestoreFx (good : Nat → Bool) (s s' : State) (U U' : Nat → Option UTS) : Prop where
  at_ : ∀ a, (U' a = U a ∧ s'.uts a = s.uts a) ∨
    (U' a = s'.uts a ∧ (s'.uts a).isSome = true ∧ good a = true)
  rest : s' = { s with whitelist := s'.whitelist, uts := s'.uts, blUts := s'.blUts }

open LP.Events in
/-- **`restoreV1Many` with other records and fewer ranges**: the loop passes over an address with a
    live record or without range, so it does the same on the shorter list, with records `U` and
    ranges `R`, as long as the members that are kept (`good`) have the same record and a range on
    both sides, and the others are passed over in `s`. -/
theorem restoreV1Many_uts (good : Nat → Bool) (R : Nat → Option Range) :
    ∀ (l : List Nat) {s s' : State} {nw tg nw' tg' : Nat} (U : Nat → Option UTS),
    restoreV1Many l (s, nw, tg) = .ok (s', nw', tg') →
    (∀ a ∈ l, good a = true → U a = s.uts a ∧ (R a).isNone = (s.range a).isNone) →
    (∀ a ∈ l, good a = false → ((s.uts a).isSome || (s.range a).isNone) = true) →
    ∃ U', restoreV1Many (l.filter good) ({ s with uts := U, range := R }, nw, tg)
        = .ok ({ s' with uts := U', range := R }, nw', tg') ∧ RestoreFx good s s' U U'
  | [], s, s', nw, tg, nw', tg', U, h, _, _ => by
    simp only [restoreV1Many, Except.ok.injEq, Prod.mk.injEq] at h
    obtain ⟨rfl, rfl, rfl⟩ := h
    exact ⟨U, rfl, fun _ => Or.inl ⟨rfl, rfl⟩, rfl⟩
  | u :: rest, s, s', nw, tg, nw', tg', U, h, hg, hk => by
    rw [restoreV1Many] at h
    simp only at h
    have hg' : ∀ a ∈ rest, good a = true → U a = s.uts a ∧ (R a).isNone = (s.range a).isNone :=
      fun a ha => hg a (List.mem_cons_of_mem _ ha)
    have hk' : ∀ a ∈ rest, good a = false → ((s.uts a).isSome || (s.range a).isNone) = true :=
      fun a ha => hk a (List.mem_cons_of_mem _ ha)
    cases hgu : good u with
    | false =>
      rw [if_pos (hk u (List.mem_cons_self ..) hgu)] at h
      rw [List.filter_cons_of_neg (by simp [hgu])]
      exact restoreV1Many_uts good R rest U h hg' hk'
    | true =>
      obtain ⟨hUu, hRu⟩ := hg u (List.mem_cons_self ..) hgu
      rw [List.filter_cons_of_pos hgu, restoreV1Many]
      simp only
      show ∃ U', (if ((U u).isSome || (R u).isNone) = true then _ else _) = _ ∧ _
      rw [hUu, hRu]
      by_cases hc1 : ((s.uts u).isSome || (s.range u).isNone) = true
      · rw [if_pos hc1] at h ⊢
        exact restoreV1Many_uts good R rest U h hg' hk'
      · rw [if_neg hc1] at h ⊢
        by_cases hc2 : (!(setInsert s.whitelist u).2) = true
        · rw [if_pos hc2] at h ⊢
          exact restoreV1Many_uts good R rest U h hg' hk'
        · rw [if_neg hc2] at h ⊢
          by_cases hc3 : ((s.blUts u).getD {}).c + ((s.blUts u).getD {}).d > nw
          · rw [if_pos hc3] at h; cases h
          · rw [if_neg hc3] at h ⊢
            obtain ⟨U', i1, fx⟩ := restoreV1Many_uts good R rest
              (s := { s with whitelist := (setInsert s.whitelist u).1, blUts := upd s.blUts u none,
                             uts := upd s.uts u (some ((s.blUts u).getD {})) })
              (upd U u (some ((s.blUts u).getD {}))) h
              (fun a ha hga => by
                refine ⟨?_, (hg' a ha hga).2⟩
                show upd U u _ a = upd s.uts u _ a
                by_cases hau : a = u
                · subst hau; rw [upd_same, upd_same]
                · rw [upd_other _ _ _ _ hau, upd_other _ _ _ _ hau]; exact (hg' a ha hga).1)
              (fun a ha hga => by
                show ((upd s.uts u _ a).isSome || (s.range a).isNone) = true
                by_cases hau : a = u
                · subst hau; rw [upd_same]; rfl
                · rw [upd_other _ _ _ _ hau]; exact hk' a ha hga)
            refine ⟨U', i1, fun a => ?_, ?_⟩
            · by_cases hau : a = u
              · subst hau
                rcases fx.at_ a with ⟨p1, p2⟩ | p
                · refine Or.inr ⟨p1.trans ((upd_same ..).trans ((upd_same ..).symm.trans p2.symm)), ?_, hgu⟩
                  rw [p2]; show (upd s.uts a _ a).isSome = true; rw [upd_same]; rfl
                · exact Or.inr p
              · rcases fx.at_ a with ⟨p1, p2⟩ | p
                · exact Or.inl ⟨p1.trans (upd_other _ _ _ _ hau), p2.trans (upd_other _ _ _ _ hau)⟩
                · exact Or.inr p
            · have := fx.rest
              rw [this]


open LP.Events in
/-- `removeUsersFromBlacklist` on an overwritten state with fewer ranges (closed form
    `removeUsersFromBlacklist_ok_iff`): the flags `w.K` are below those of `s`, agree with them where
    `w.R` has a range, and are set only there -/
theorem ov_removeUsersFromBlacklist (w : Ov) {s s' : State} {e : Env} {l : List Nat}
    (h : removeUsersFromBlacklist s e l = .ok s')
    (hK : ∀ a, w.K a = true → s.blacklist a = true)
    (hX : ∀ a, (w.R a).isSome = true → w.K a = s.blacklist a)
    (hKR : ∀ a, w.K a = true → (w.R a).isSome = true) :
    ∃ K', removeUsersFromBlacklist (ov s w) e (l.filter (fun a => (w.R a).isSome))
        = .ok (ov s' { w with K := K' }) ∧
      (∀ a, K' a = true → s'.blacklist a = true) ∧
      (∀ a, (w.R a).isSome = true → K' a = s'.blacklist a) := by
  obtain ⟨p1, p2, p3, p4, rfl⟩ := (removeUsersFromBlacklist_ok_iff _ _ _ _).mp h
  have hmem : ∀ a, a ∈ l.filter (fun a => (w.R a).isSome) ↔ a ∈ l ∧ (w.R a).isSome = true :=
    fun a => List.mem_filter
  refine ⟨fun a => if a ∈ l.filter (fun a => (w.R a).isSome) then false else w.K a, ?_, ?_, ?_⟩
  · rw [removeUsersFromBlacklist_ok_iff]
    exact ⟨p1, p2, p3.filter _, fun u hu => by
      obtain ⟨h1, h2⟩ := (hmem u).mp hu
      show w.K u = true
      rw [hX u h2]; exact p4 u h1, rfl⟩
  · intro a ha
    have ha : (if a ∈ l.filter (fun a => (w.R a).isSome) then false else w.K a) = true := ha
    by_cases h1 : a ∈ l.filter (fun a => (w.R a).isSome)
    · rw [if_pos h1] at ha; cases ha
    · rw [if_neg h1] at ha
      show (if a ∈ l then false else s.blacklist a) = true
      rw [if_neg (fun hl => h1 ((hmem a).mpr ⟨hl, hKR a ha⟩))]
      exact hK a ha
  · intro a ha
    show (if a ∈ l.filter (fun a => (w.R a).isSome) then false else w.K a)
      = (if a ∈ l then false else s.blacklist a)
    by_cases hl : a ∈ l
    · rw [if_pos ((hmem a).mpr ⟨hl, ha⟩), if_pos hl]
    · rw [if_neg (fun hh => hl ((hmem a).mp hh).1), if_neg hl]
      exact hX a ha

open LP.Events in
/-- the un-blacklist hook of the v1 allocation on the overwritten state: `restoreV1Many_uts` under the
    overwrite of the other fields (`ow_restoreV1Many`) -/
theorem ov_restoreGuaranteedV1 (w : Ov) (good : Nat → Bool) {s s' : State} {l : List Nat}
    (h : restoreGuaranteedV1 s l = .ok s') (hBU : w.BU = s.blUts) (hW : w.W = s.whitelist)
    (hg : ∀ a ∈ l, good a = true → w.U a = s.uts a ∧ (w.R a).isNone = (s.range a).isNone)
    (hk : ∀ a ∈ l, good a = false → ((s.uts a).isSome || (s.range a).isNone) = true) :
    ∃ U', restoreGuaranteedV1 (ov s w) (l.filter good)
        = .ok (ov s' { w with U := U', BU := s'.blUts, W := s'.whitelist }) ∧
      (∀ a, (U' a = w.U a ∧ s'.uts a = s.uts a) ∨
        (U' a = s'.uts a ∧ (s'.uts a).isSome = true ∧ good a = true)) ∧
      ∃ wl u b nw tg, s' =
        { s with whitelist := wl, uts := u, blUts := b, nrWinning := nw, totalGuaranteed := tg } := by
  obtain ⟨R, B, K, C, U, BU, W⟩ := w
  dsimp only at hBU hW hg
  subst hBU hW
  unfold restoreGuaranteedV1 at h
  simp only [bind_ok_iff, pure_ok_iff, Prod.exists] at h
  obtain ⟨s3, nw, tg, hrm, rfl⟩ := h
  obtain ⟨U', i1, fx⟩ := restoreV1Many_uts good R l U hrm hg hk
  have i2 := ow_restoreV1Many { B := some B, K := some K, C := some C } rfl rfl rfl rfl
    (l.filter good) { s with uts := U, range := R } (s.nrWinning, s.totalGuaranteed)
  rw [i1] at i2
  refine ⟨U', ?_, fx.at_, ?_⟩
  · unfold restoreGuaranteedV1
    simp only [bind_ok_iff, pure_ok_iff, Prod.exists]
    exact ⟨_, _, _, i2, rfl⟩
  · have := fx.rest
    exact ⟨s3.whitelist, s3.uts, s3.blUts, nw, tg, by rw [this]⟩

open LP.Events in
/-- **`unblacklist` on an overwritten state with fewer ranges**, outside v2: the list without the
    addresses that have no range in `w.R`.  Those are blacklisted in `s` alone and the restore hook
    passes over them (`hk`); the others have the same flag and the same record on both sides. -/
theorem ov_exec_unblacklist {hash : List Nat → List Nat} {t t' : Tx} {e : Env} {l : List Nat} (w : Ov)
    (h : exec hash t e (.unblacklist l) = .ok t') (hv2 : t.s.variant.isV2 = false)
    (hBU : w.BU = t.s.blUts) (hW : w.W = t.s.whitelist)
    (hK : ∀ a, w.K a = true → t.s.blacklist a = true)
    (hX : ∀ a, (w.R a).isSome = true → w.K a = t.s.blacklist a)
    (hKR : ∀ a, w.K a = true → (w.R a).isSome = true)
    (hg : ∀ a ∈ l, (w.R a).isSome = true → w.U a = t.s.uts a ∧ (t.s.range a).isSome = true)
    (hk : ∀ a ∈ l, w.R a = none → ((t.s.uts a).isSome || (t.s.range a).isNone) = true) :
    ∃ K' U', exec hash (ovt t w) e (.unblacklist (l.filter (fun a => (w.R a).isSome)))
        = .ok (ovt t' { w with K := K', U := U', BU := t'.s.blUts, W := t'.s.whitelist }) ∧
      (∀ a, K' a = true → t'.s.blacklist a = true) ∧
      (∀ a, (w.R a).isSome = true → K' a = t'.s.blacklist a) ∧
      (∀ a, (U' a = w.U a ∧ t'.s.uts a = t.s.uts a) ∨
        (U' a = t'.s.uts a ∧ (t'.s.uts a).isSome = true ∧ (w.R a).isSome = true)) := by
  simp only [exec, bind_ok_iff] at h
  obtain ⟨s1, h1, h2⟩ := h
  obtain ⟨K', a1, k2, k3⟩ := ov_removeUsersFromBlacklist w h1 hK hX hKR
  obtain ⟨_, _, _, _, rfl⟩ := (removeUsersFromBlacklist_ok_iff _ _ _ _).mp h1
  have hv : (unblState t.s l).variant.isV2 = false := hv2
  rw [hv] at h2
  simp only [Bool.false_eq_true, if_false, bind_ok_iff, pure_ok_iff] at h2
  obtain ⟨s2, hrs, rfl⟩ := h2
  obtain ⟨U', g1, g2, wl, u, b, nw, tg, hs2⟩ := ov_restoreGuaranteedV1 { w with K := K' }
    (fun a => (w.R a).isSome) hrs hBU hW
    (fun a ha hga => by
      obtain ⟨q1, q2⟩ := hg a ha hga
      refine ⟨q1, ?_⟩
      show (w.R a).isNone = (t.s.range a).isNone
      cases hr : w.R a with
      | none => rw [hr] at hga; cases hga
      | some _ => cases hq : t.s.range a with
        | none => rw [hq] at q2; cases q2
        | some _ => rfl)
    (fun a ha hga => hk a ha (by cases hr : w.R a with | none => rfl | some _ => rw [hr] at hga; cases hga))
  refine ⟨K', U', ?_, ?_, ?_, g2⟩
  · simp only [exec]
    show (removeUsersFromBlacklist (ov t.s w) e _ >>= _) = _
    rw [a1]
    show (if (ov (unblState t.s l) { w with K := K' }).variant.isV2 = true then _ else _) = _
    rw [if_neg (by show ¬ (t.s.variant.isV2 = true); rw [hv2]; simp)]
    show (restoreGuaranteedV1 _ _ >>= _) = _
    rw [g1]
    rfl
  · intro a ha; show s2.blacklist a = true; rw [hs2]; exact k2 a ha
  · intro a ha; show K' a = s2.blacklist a; rw [hs2]; exact k3 a ha

/-! ### the claim without vesting on the erased state -/

section
variable {R : Nat → Option Range} {B : Nat → Option Batch} {K C : Nat → Bool}

theorem z_sendLocked (t : Tx) (e : Env) (d a : Nat) :
    (z_wt t R B K C).sendLocked e d a = mapR (z_wt · R B K C) (t.sendLocked e d a) := by
  unfold Tx.sendLocked
  have tail : ∀ (t1 : Tx) (u : Nat),
      (if u > 0 then (z_wt t1 R B K C).send d ⟨.esdt (z_wt t1 R B K C).s.lpTok, 0, u⟩
        else pure (z_wt t1 R B K C))
      = mapR (z_wt · R B K C) (if u > 0 then t1.send d ⟨.esdt t1.s.lpTok, 0, u⟩ else pure t1) := by
    intro t1 u
    by_cases hc : u > 0
    · rw [if_pos hc, if_pos hc]
      rhs_exact z_send _ _ _
    · rw [if_neg hc, if_neg hc]; rfl
  show (if (if e.epoch < t.s.unlockEpoch then lockSplit a t.s.lockPct else 0) > 0 then _ else _) = _
  by_cases hc : (if e.epoch < t.s.unlockEpoch then lockSplit a t.s.lockPct else 0) > 0
  · rw [if_pos hc, if_pos hc]
    simp only [mapR_bind, pure_bind]
    refine bind_eq_bind_of_mapR (z_wt · R B K C) ?_ ?_
    · rhs_exact z_send _ _ _
    · intro t1
      rhs_exact tail _ _
  · rw [if_neg hc, if_neg hc]
    simp only [pure_bind]
    rhs_exact tail _ _

theorem z_sendLp (t : Tx) (e : Env) (a n : Nat) :
    (z_wt t R B K C).sendLaunchpadTokens e a n
      = mapR (z_wt · R B K C) (t.sendLaunchpadTokens e a n) := by
  unfold Tx.sendLaunchpadTokens
  by_cases hn : n = 0
  · rw [if_pos hn, if_pos hn]; rfl
  · rw [if_neg hn, if_neg hn]
    show (if t.s.variant.hasLock = true then _ else _) = _
    by_cases hl : t.s.variant.hasLock = true
    · rw [if_pos hl, if_pos hl]
      rhs_exact z_sendLocked _ _ _ _
    · rw [if_neg hl, if_neg hl]
      rhs_exact z_send _ _ _

theorem z_settle (s : State) (e : Env) (r : Range) (hr : s.range e.caller = some r)
    (hR : R e.caller = some r) (hC : C e.caller = s.claimed e.caller) :
    settle (z_w s R B K C) e
      = mapR (fun p => (z_w p.1 (upd R e.caller none) (upd B r.first none) K (upd C e.caller true), p.2))
          (settle s e) := by
  unfold settle
  simp only [mapR_bind]
  show (requireStage s e .claim _ >>= fun _ => _) = _
  refine bind_congr_fun ?_; intro _
  show (req (!C e.caller) _ >>= fun _ => _) = _
  rw [hC]
  refine bind_congr_fun ?_; intro _
  show (match R e.caller with | none => _ | some r => _) = _
  rw [hR, hr]
  simp only [mapR_bind, mapR_ite, pure_bind]
  repeat' (first | rfl | (refine bind_congr_fun ?_; intro _) | ite_both)

end

section
variable {R : Nat → Option Range} {B : Nat → Option Batch} {K C : Nat → Bool}

theorem zn_claimNft (t : Tx) (e : Env) :
    claimNft (z_wt t R B K C) e = mapR (z_wt · R B K C) (claimNft t e) := by
  rw [claimNft_eq, claimNft_eq]
  by_cases hw : (swapRemove t.s.nftWinners e.caller).2 = true
  · have hw' : (swapRemove (z_wt t R B K C).s.nftWinners e.caller).2 = true := hw
    simp only [hw, hw', if_true, mapR_bind]
    refine bind_congr_fun ?_; intro _
    rfl
  · have hw' : ¬ (swapRemove (z_wt t R B K C).s.nftWinners e.caller).2 = true := hw
    simp only [hw, hw']
    by_cases hp : (swapRemove t.s.payers e.caller).2 = true
    · have hp' : (swapRemove ((z_wt t R B K C).setS
          { (z_wt t R B K C).s with nftWinners := (swapRemove (z_wt t R B K C).s.nftWinners e.caller).1 }).s.payers
          e.caller).2 = true := hp
      have hp2 : (swapRemove (t.setS
          { t.s with nftWinners := (swapRemove t.s.nftWinners e.caller).1 }).s.payers
          e.caller).2 = true := hp
      simp only [hp2, hp', if_true, mapR_bind]
      refine bind_congr_fun ?_; intro _
      rhs_exact z_send _ _ _
    · have hp' : ¬ (swapRemove ((z_wt t R B K C).setS
          { (z_wt t R B K C).s with nftWinners := (swapRemove (z_wt t R B K C).s.nftWinners e.caller).1 }).s.payers
          e.caller).2 = true := hp
      have hp2 : ¬ (swapRemove (t.setS
          { t.s with nftWinners := (swapRemove t.s.nftWinners e.caller).1 }).s.payers
          e.caller).2 = true := hp
      simp only [hp2, hp', mapR_bind]
      refine bind_congr_fun ?_; intro _
      rfl

theorem zn_claimBase {t t' : Tx} {e : Env} {r : Range}
    (h : claimBase t e = .ok t') (hr : t.s.range e.caller = some r)
    (hR : R e.caller = some r) (hC : C e.caller = t.s.claimed e.caller) :
    claimBase (z_wt t R B K C) e
      = .ok (z_wt t' (upd R e.caller none) (upd B r.first none) K (upd C e.caller true)) := by
  unfold claimBase at h ⊢
  simp only [bind_ok_iff] at h
  obtain ⟨x, hx, t1, h1, t2, h2, h3⟩ := h
  have hs : settle (z_wt t R B K C).s e
      = .ok (z_w x.1 (upd R e.caller none) (upd B r.first none) K (upd C e.caller true), x.2) := by
    show settle (z_w t.s R B K C) e = _
    rw [z_settle t.s e r hr hR hC, hx]; rfl
  rw [hs]
  show ((z_wt (t.setS x.1) (upd R e.caller none) (upd B r.first none) K (upd C e.caller true)).refund
      e e.caller x.2.2 >>= _) = _
  rw [z_refund, h1]
  show ((z_wt t1 (upd R e.caller none) (upd B r.first none) K (upd C e.caller true)).sendLaunchpadTokens
      e e.caller x.2.1 >>= _) = _
  rw [z_sendLp, h2]
  show (if t2.s.variant.hasNft = true then claimNft (z_wt t2 _ _ _ _) e else pure (z_wt t2 _ _ _ _)) = _
  by_cases hn : t2.s.variant.hasNft = true
  · rw [if_pos hn] at h3 ⊢
    rw [zn_claimNft, h3]; rfl
  · rw [if_neg hn] at h3 ⊢
    simp only [pure_ok_iff] at h3
    subst h3; rfl

end

/-- a claim by an address whose range is empty: nothing is paid; only the caller's `claimed` flag,
    its range and the batch slot at the range's first id change -/
theorem z_claim_stutter {hash : List Nat → List Nat} {s s' : State} {e : Env} {o : Out} {r : Range}
    (hv : s.variant.vested = false) (hn : s.variant.hasNft = false)
    (hs : step hash s e .claim = .ok (s', o))
    (hr : s.range e.caller = some r) (he : r.last < r.first) (hc : s.confirmed e.caller = 0) :
    s' = z_w s (upd s.range e.caller none) (upd s.batch r.first none) s.blacklist
          (upd s.claimed e.caller true) := by
  rw [LP.Props.C09.step_claim_ok_iff] at hs
  obtain ⟨_, _, t, hx, rfl, rfl⟩ := hs
  rw [exec_claim_nonvested hash _ e (by exact hv)] at hx
  obtain ⟨r', ⟨_, _, hr', _⟩, t2, h2, h3⟩ := (claimBase_ok_iff _ e t).mp hx
  obtain rfl : r = r' := Option.some.inj (hr.symm.trans hr')
  have hlen : rangeLen r = 0 := by unfold rangeLen; omega
  -- nothing is won, so nothing is delivered, and nothing was confirmed, so nothing is refunded
  rw [hlen] at h2
  obtain rfl : claimMid (LP.Props.C09.txc s e) e r = t2 := by
    unfold Tx.sendLaunchpadTokens at h2
    simpa [countWinning] using h2
  have hm := claimMid_state (LP.Props.C09.txc s e) e r
  have hn2 : (claimMid (LP.Props.C09.txc s e) e r).s.variant.hasNft = false := by rw [hm]; exact hn
  rw [hn2, if_neg Bool.false_ne_true, pure_ok_iff] at h3
  subst h3
  rw [hm]
  have hconf : upd s.confirmed e.caller 0 = s.confirmed := by
    funext x
    by_cases hx : x = e.caller
    · subst hx; simp [hc]
    · simp [upd, hx]
  show ({ settledState s e.caller r with bal := s.bal.sub s.payTok 0 (s.price * (s.confirmed e.caller - _)) } : State) = _
  unfold settledState
  rw [hlen, hconf, hc, Nat.zero_sub, Nat.mul_zero, Bal.sub_zero]
  rfl

/-! ### the filter on the erased maps -/

open LP.FY

def z_ef (f : FilSt) : FilSt := ⟨z_eraseR f.range, z_eraseB f.batch, f.first, f.removed⟩

/-- needs that the batch read (if any) survives the erasure -/
theorem z_filterBody (conf : Nat → Nat) (last : Nat) (f : FilSt)
    (hP : f.first ≠ last + 1 → ∃ b, z_eraseB f.batch f.first = some b) :
    filterBody conf last (z_ef f) = mapR (fst1 z_ef) (filterBody conf last f) := by
  unfold filterBody
  show (if f.first = last + 1 then _ else _) = _
  by_cases h1 : f.first = last + 1
  · rw [if_pos h1, if_pos h1]; rfl
  · rw [if_neg h1, if_neg h1]
    obtain ⟨b, hb⟩ := hP h1
    obtain ⟨hb1, hb2⟩ := z_eraseB_some.mp hb
    have hbz : (z_ef f).batch (z_ef f).first = some b := hb
    rw [hbz, hb1]
    simp only
    by_cases hle : conf b.addr ≤ b.n
    · simp only [csub, hle, if_true]
      by_cases h0 : conf b.addr = 0
      · simp only [h0, if_true, mapR_ok, fst1_mk]
        unfold z_ef
        simp only [z_eraseR_upd_none, z_eraseB_upd_none]
      · simp only [h0, if_false]
        by_cases h2 : f.removed > 0 ∨ conf b.addr < b.n
        · have h2' : (z_ef f).removed > 0 ∨ conf b.addr < b.n := h2
          rw [if_pos h2, if_pos h2']
          by_cases h3 : f.removed ≤ f.first
          · have h3' : (z_ef f).removed ≤ (z_ef f).first := h3
            simp only [h3, h3', if_true, mapR_ok, fst1_mk]
            unfold z_ef
            simp only
            rw [z_eraseR_upd_ne _ _ _ (by show f.first - f.removed ≤ f.first - f.removed + conf b.addr - 1; omega),
              z_eraseB_upd_pos _ _ _ (by show conf b.addr ≠ 0; exact h0), z_eraseB_upd_none]
          · have h3' : ¬ (z_ef f).removed ≤ (z_ef f).first := h3
            simp only [h3, h3', if_false]; rfl
        · have h2' : ¬ ((z_ef f).removed > 0 ∨ conf b.addr < b.n) := h2
          rw [if_neg h2, if_neg h2']
          rfl
    · simp only [csub, hle, if_false]; rfl

theorem z_runWhile_commutes {σ : Type} (φ : σ → σ) (body : σ → Res (σ × Bool)) (P : σ → Prop)
    (hb : ∀ x, P x → body (φ x) = mapR (fst1 φ) (body x))
    (hP : ∀ x x', P x → body x = .ok (x', true) → P x') :
    ∀ (fuel : Nat) (bud : Option Nat) (x : σ), P x →
      runWhile body fuel bud (φ x) = mapR (fst1 φ) (runWhile body fuel bud x) := by
  intro fuel
  induction fuel with
  | zero => intro bud x _; rfl
  | succ n ih =>
    intro bud x hx
    cases hbx : body x with
    | error err =>
      have h2 : body (φ x) = .error err := by rw [hb x hx, hbx]; rfl
      rw [runWhile_err hbx, runWhile_err h2]; rfl
    | ok r =>
      obtain ⟨x1, c⟩ := r
      have h2 : body (φ x) = .ok (φ x1, c) := by rw [hb x hx, hbx]; rfl
      cases c
      · rw [runWhile_stop hbx, runWhile_stop h2]; rfl
      · have hx1 := hP x x1 hx hbx
        cases bud with
        | none => rw [runWhile_cont_none hbx, runWhile_cont_none h2]; exact ih _ _ hx1
        | some k =>
          cases k with
          | zero => rw [runWhile_cont_zero hbx, runWhile_cont_zero h2]; rfl
          | succ k => rw [runWhile_cont_succ hbx, runWhile_cont_succ h2]; exact ih _ _ hx1

/-- under the loop invariant `Mid` on the erased maps, the batch read next survives the erasure -/
theorem z_Mid_reads {conf : Nat → Nat} {last : Nat} {L0 : List (Nat × Nat)} {y : FilSt}
    (hm : Mid conf last L0 (z_ef y)) (h1 : y.first ≠ last + 1) :
    ∃ b, z_eraseB y.batch y.first = some b := by
  obtain ⟨P, S, _, _, hcS, _, _, hlast, _, _⟩ := hm
  cases S with
  | nil =>
    simp only [ticketTotal, Nat.add_zero] at hlast
    exact absurd hlast h1
  | cons p S' => exact ⟨_, hcS.1⟩

theorem z_filter_loop {conf : Nat → Nat} {last : Nat} {L0 : List (Nat × Nat)} (hok : AllocOK conf L0)
    (fuel : Nat) (bud : Option Nat) (x : FilSt) (hm : Mid conf last L0 (z_ef x)) :
    runWhile (filterBody conf last) fuel bud (z_ef x)
      = mapR (fst1 z_ef) (runWhile (filterBody conf last) fuel bud x) := by
  refine z_runWhile_commutes z_ef (filterBody conf last) (fun y => Mid conf last L0 (z_ef y))
    (fun y hy => z_filterBody conf last y (z_Mid_reads hy)) ?_ fuel bud x hm
  intro y y' hy hby
  have h2 : filterBody conf last (z_ef y) = .ok (z_ef y', true) := by
    rw [z_filterBody conf last y (z_Mid_reads hy), hby]; rfl
  exact rb_filterBody_Mid hok h2 hy

/-- the erased maps in place of `range` and `batch`, the rest of `w` as it is -/
def z_we (w : Ov) (s : State) : Ov := { w with R := z_eraseR s.range, B := z_eraseB s.batch }

theorem ov_filStOf {s : State} {x : FilSt} (w : Ov) (h : filStOf s = some x) :
    filStOf (ov s (z_we w s)) = some (z_ef x) := by
  unfold filStOf at h ⊢
  show (match s.op with | .none => _ | .filter f r => _ | _ => _) = _
  cases hop : s.op <;> rw [hop] at h <;> simp only at h ⊢
  · injection h with h; subst h; rfl
  · injection h with h; subst h; rfl
  · cases h
  · cases h

theorem ov_filterTickets {t t' : Tx} {e : Env} {L0 : List (Nat × Nat)} (w : Ov)
    (h : filterTickets t e = .ok t') (hok : AllocOK t.s.confirmed L0)
    (hmid : ∀ x, filStOf t.s = some x → Mid t.s.confirmed t.s.lastTicketId L0 (z_ef x)) :
    filterTickets (ovt t (z_we w t.s)) e = .ok (ovt t' (z_we w t'.s)) ∧
    t'.s.blacklist = t.s.blacklist ∧ t'.s.claimed = t.s.claimed ∧ t'.s.uts = t.s.uts ∧
    t'.s.blUts = t.s.blUts ∧ t'.s.whitelist = t.s.whitelist := by
  obtain ⟨hpre, x, hxs⟩ := filterTickets_inv t t' e h
  have hpre' : FilterPre (ovt t (z_we w t.s)).s e := ⟨hpre.notPaused, hpre.stage, hpre.notFiltered⟩
  have hxs' : filStOf (ovt t (z_we w t.s)).s = some (z_ef x) := ov_filStOf w hxs
  have hloop := z_filter_loop hok (t.s.lastTicketId + 2) t.c.budget x (hmid x hxs)
  cases hrun : runWhile (filterBody t.s.confirmed t.s.lastTicketId) (t.s.lastTicketId + 2)
      t.c.budget x with
  | error err =>
    have := filterTickets_error t e x err hpre hxs hrun
    rw [this] at h; cases h
  | ok q =>
    obtain ⟨f, b, st⟩ := q
    rw [hrun] at hloop
    have hrun' : runWhile (filterBody (ovt t (z_we w t.s)).s.confirmed (ovt t (z_we w t.s)).s.lastTicketId)
        ((ovt t (z_we w t.s)).s.lastTicketId + 2) (ovt t (z_we w t.s)).c.budget (z_ef x)
          = .ok (z_ef f, b, st) := hloop
    cases st with
    | outOfFuel =>
      have := filterTickets_outOfFuel t e x f b hpre hxs hrun
      rw [this] at h; cases h
    | interrupted =>
      have h1 := filterTickets_interrupted t e x f b hpre hxs hrun
      rw [h1] at h
      injection h with h
      subst h
      rw [filterTickets_interrupted _ e (z_ef x) (z_ef f) b hpre' hxs' hrun']
      exact ⟨rfl, rfl, rfl, rfl, rfl, rfl⟩
    | completed =>
      by_cases hle : f.removed ≤ t.s.lastTicketId
      · have h1 := filterTickets_completed t e x f b hpre hxs hrun hle
        rw [h1] at h
        injection h with h
        subst h
        rw [filterTickets_completed _ e (z_ef x) (z_ef f) b hpre' hxs' hrun' hle]
        exact ⟨rfl, rfl, rfl, rfl, rfl, rfl⟩
      · obtain ⟨err, this⟩ := filterTickets_underflow t e x f b hpre hxs hrun hle
        rw [this] at h; cases h

/-- what the filter needs of the allocation list `L0`, read off the phase of the core `c` -/
theorem z_filter_facts {T : Nat} {c : Core} {L0 : List (Nat × Nat)} (hp : Pre T c L0)
    (hab : PhA c L0 ∨ PhB c L0) {z : State} (h1 : z.range = c.range) (h2 : z.batch = c.batch)
    (h3 : z.op = c.op) (h4 : z.confirmed = c.confirmed) (h5 : z.lastTicketId = c.lastTicketId) :
    AllocOK z.confirmed L0 ∧ ∀ x, filStOf z = some x → Mid z.confirmed z.lastTicketId L0 x := by
  rw [h4, h5]
  refine ⟨hp.ok, ?_⟩
  intro x hx
  rcases hab with ha | hb
  · simp only [filStOf, h3, ha.op, Option.some.injEq] at hx
    subst hx
    rw [ha.last, h1, h2]
    exact rb_Mid_start ha.chain hp.outR
  · obtain ⟨f0, rm, hop0, hm0⟩ := hb.mid
    simp only [filStOf, h3, hop0, Option.some.injEq] at hx
    subst hx
    rw [h1, h2]
    exact hm0

/-- the same facts carried from `z` to the unerased `s` at the start of its `filter` call -/
theorem z_filter_facts_tx {L0 : List (Nat × Nat)} {s z : State} (e : Env)
    (hokz : AllocOK z.confirmed L0)
    (hmidz : ∀ x, filStOf z = some x → Mid z.confirmed z.lastTicketId L0 x)
    (h1 : z.range = z_eraseR s.range) (h2 : z.batch = z_eraseB s.batch) (h3 : z.op = s.op)
    (h4 : z.confirmed = s.confirmed) (h5 : z.lastTicketId = s.lastTicketId) :
    AllocOK (tx0 s e).s.confirmed L0 ∧ ∀ x, filStOf (tx0 s e).s = some x →
      Mid (tx0 s e).s.confirmed (tx0 s e).s.lastTicketId L0 (z_ef x) := by
  have hfz : filStOf z = (filStOf s).map z_ef := by
    simp only [filStOf, h3, h1, h2]
    cases s.op <;> rfl
  rw [h4, h5] at hmidz
  rw [h4] at hokz
  refine ⟨hokz, ?_⟩
  intro x hxs
  have hxs' : filStOf s = some x := hxs
  exact hmidz _ (by rw [hfz, hxs']; rfl)

/-! ### quantities that do not see the erasure -/

/-- an empty range wins nothing -/
theorem z_winCountOf_eq {s z : State} (hR : z.range = z_eraseR s.range) (hst : z.status = s.status)
    (a : Nat) : winCountOf s a = winCountOf z a := by
  unfold winCountOf
  rw [hR, hst]
  cases hr : s.range a with
  | none => rw [z_eraseR_of_none hr]
  | some rg =>
    by_cases hne : rg.first ≤ rg.last
    · rw [z_eraseR_of_ne hr hne]
    · rw [z_eraseR_of_empty hr hne]
      have : rangeLen rg = 0 := by unfold rangeLen; omega
      simp only [this, countWinning]

/-- nor does the refund due, once the addresses without range in `z` have nothing confirmed -/
theorem z_refundDue_eq {s z : State} (hR : z.range = z_eraseR s.range) (hst : z.status = s.status)
    (hc : z.confirmed = s.confirmed) (hp : z.price = s.price)
    (hnone : ∀ a, z.range a = none → z.confirmed a = 0) (a : Nat) : refundDue s a = refundDue z a := by
  have hw := z_winCountOf_eq hR hst a
  unfold refundDue
  rw [← hw, hc, hp, hR]
  cases hr : s.range a with
  | none => rw [z_eraseR_of_none hr]
  | some rg =>
    by_cases hne : rg.first ≤ rg.last
    · rw [z_eraseR_of_ne hr hne]
    · have hz : z.range a = none := by rw [hR]; exact z_eraseR_of_empty hr hne
      rw [z_eraseR_of_empty hr hne]
      have := hnone a hz
      rw [hc] at this
      simp [this]

end LP
