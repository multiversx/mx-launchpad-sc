import LP.Proofs.AllocReach
import LP.Proofs.Once
import LP.Proofs.FieldFrames
/-
  For `LP/Props/C03proceeds.lean` and `LP/Props/C18reach.lean`, over the covered states `be_Covered`
  (prefix `gp_`, as for the lemmas on the `started` flag in `AllocReach`): the partition of the
  ticket space established when the filter completed persists as long as nobody has claimed.
-/
namespace LP
open LP.Props LP.Events LP.FY LP.Props.C17

theorem gp_part_congr {c c' : Core} {L : List (Nat × Nat)} (h1 : c'.range = c.range)
    (h2 : c'.batch = c.batch) (h3 : c'.lastTicketId = c.lastTicketId)
    (h4 : c'.confirmed = c.confirmed) (h : ar_Part c L) : ar_Part c' L :=
  ⟨h.nodup, h.pos, by rw [h1, h2]; exact h.chain, by rw [h3]; exact h.last,
    fun a ha => by rw [h1, h4]; exact h.out a ha⟩

def gp_PartInv (s : State) : Prop :=
  s.flags.filtered = true → (∀ a, s.claimed a = false) →
    ∃ L, ar_Part s.core L ∧ ∀ p ∈ L, p.2 = s.confirmed p.1

theorem gp_doneFilter_false {e : Env} {c : Call} {o : Out} (hc : c ≠ .filter) :
    Entry.doneFilter (e, c, o) = false := by
  cases c <;> first | rfl | exact absurd rfl hc

theorem gp_part_keeps {s s' : State} {L : List (Nat × Nat)} (htk : s'.tk = s.tk)
    (hconf : s'.confirmed = s.confirmed)
    (h : ar_Part s.core L ∧ ∀ p ∈ L, p.2 = s.confirmed p.1) :
    ar_Part s'.core L ∧ ∀ p ∈ L, p.2 = s'.confirmed p.1 :=
  ⟨gp_part_congr (c := s.core) (c' := s'.core) (tk_range htk) (tk_batch htk) (tk_last htk) hconf h.1,
    fun p hp => by rw [hconf]; exact h.2 p hp⟩

/-- once the filter has completed: allocation, confirmation and the blacklist endpoints are closed,
    the filter cannot run again; `select`, `selectNft`, `secondary`, `distribute`, the owner's
    endpoints and `claimPayment` do not touch the ticket space or the confirmations -/
theorem gp_step_tk_after_filter {hash : List Nat → List Nat} {s s' : State} {r : Nat} {e : Env}
    {c : Call} {o : Out} (hs : be_Covered hash s r) (hr : r ≤ e.round)
    (h : step hash s e c = .ok (s', o)) (hf : s.flags.filtered = true) (hcc : c ≠ .claim) :
    s'.tk = s.tk ∧ s'.confirmed = s.confirmed := by
  obtain ⟨hc1, hc2⟩ := be_filtered_rounds hs hf
  rcases after_filter_step hf (stage_late_of_rounds hc1 hc2 hr) h with hL | hS
  · rcases hL with ⟨rfl, _⟩ | ⟨_, _, _, _, _, rfl⟩ | ⟨_, _, _, _, rfl⟩ |
      ⟨_, _, _, _, _, _, _, _, _, _, _, rfl⟩
    · exact absurd rfl hcc
    all_goals exact ⟨rfl, rfl⟩
  · rcases hS with ⟨rfl, _, _, hw⟩ | ⟨hc, _, _, hw⟩
    · exact ⟨(congrArg State.tk hw :), (congrArg State.confirmed hw :)⟩
    · have hw' : s' = written s s' .distribute := by
        rcases hc with rfl | rfl | rfl <;> exact hw
      exact ⟨(congrArg State.tk hw' :), (congrArg State.confirmed hw' :)⟩

theorem gp_part_step {hash : List Nat → List Nat} {s s' : State} {r : Nat} {e : Env} {c : Call}
    {o : Out} (hs : be_Covered hash s r) (hs' : be_Covered hash s' e.round) (hr : r ≤ e.round)
    (h : step hash s e c = .ok (s', o)) (hi : gp_PartInv s) : gp_PartInv s' := by
  intro hf' hcl'
  cases hsel' : s'.flags.selected with
  | false => exact (ar_tix_covered hs').post hf' hsel'
  | true =>
    by_cases hcc : c = .claim
    · exfalso
      rcases step_claimed_cases h with ⟨h1, _⟩ | ⟨_, h1⟩
      · exact h1 hcc
      · have := hcl' e.caller
        rw [h1, upd_apply] at this
        simp at this
    · have hcl : s'.claimed = s.claimed := by
        rcases step_claimed_cases h with ⟨_, h1⟩ | ⟨h1, _⟩
        · exact h1
        · exact absurd h1 hcc
      by_cases hcf : c = .filter
      · subst hcf
        exact absurd ((ar_filter_unselected hs h).symm.trans hsel') nofun
      · have hf : s.flags.filtered = true := by
          have := (step_flags_exact h).filtered
          rw [gp_doneFilter_false hcf, Bool.or_false] at this
          rw [← this]; exact hf'
        obtain ⟨htk, hconf⟩ := gp_step_tk_after_filter hs hr h hf hcc
        obtain ⟨L, hp⟩ := hi hf (by rw [← hcl]; exact hcl')
        exact ⟨L, gp_part_keeps htk hconf hp⟩

theorem gp_part_covered {hash : List Nat → List Nat} {s : State} {r : Nat}
    (h : be_Covered hash s r) : gp_PartInv s :=
  be_covered_induct (Q := gp_PartInv)
    (fun _ _ _ s hi hf => by obtain ⟨_, rfl⟩ := init_ok hi; cases hf)
    (fun _ _ _ _ _ _ hs hs' hr hst hq => gp_part_step hs hs' hr hst hq) h

/-- all eight variants: from the completed filter the compacted partition stands while a selection
    step is still open (nobody can have claimed) -/
theorem gp_part_open {hash : List Nat → List Nat} {s : State} {r : Nat} (h : be_Covered hash s r)
    (hf : s.flags.filtered = true) (hna : s.flags.selected = false ∨ s.flags.additional = false) :
    ∃ L, ar_Part s.core L ∧ ∀ p ∈ L, p.2 = s.confirmed p.1 :=
  gp_part_covered h hf (be_unclaimed_covered h hna)

/-- the ticket space and the confirmations are frozen from the completed filter until the first
    claim -/
theorem gp_later_tk {hash : List Nat → List Nat} {s s' : State} {r r' : Nat}
    (hs : be_Covered hash s r) (hf : s.flags.filtered = true)
    (hl : be_Later be_HistOK hash s r s' r') (hcl' : ∀ a, s'.claimed a = false) :
    (∀ a, s.claimed a = false) ∧ s'.flags.filtered = true ∧ s'.tk = s.tk ∧
    s'.confirmed = s.confirmed := by
  induction hl with
  | refl => exact ⟨hcl', hf, rfl, rfl⟩
  | call s1 r1 e c s2 o hl1 h1 h2 h3 ih =>
    have hc1 := (be_family_all hash).later hs hl1
    have hcc : c ≠ .claim := by
      rintro rfl
      rcases step_claimed_cases h3 with ⟨k1, _⟩ | ⟨_, k1⟩
      · exact k1 rfl
      · have := hcl' e.caller
        rw [k1, upd_apply] at this
        simp at this
    have hcl1 : s2.claimed = s1.claimed := by
      rcases step_claimed_cases h3 with ⟨_, k1⟩ | ⟨k1, _⟩
      · exact k1
      · exact absurd k1 hcc
    obtain ⟨i1, i2, i3, i4⟩ := ih (by rw [← hcl1]; exact hcl')
    obtain ⟨j1, j2⟩ := gp_step_tk_after_filter hc1 h1 h3 i2 hcc
    exact ⟨i1, (step_flags_gain4 h3).2.1 i2, j1.trans i3, j2.trans i4⟩
  | wait s1 r1 r2 _ h1 ih => exact ih hcl'

end LP
