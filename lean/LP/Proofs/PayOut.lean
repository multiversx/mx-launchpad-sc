import LP.Props.C09
import LP.Proofs.Claim
import LP.Proofs.Footprint
import LP.Proofs.ClaimVested
import LP.Proofs.ClaimPayment
/-
  What an accepted call sends, as lists computed from the state it ran in: the transfers of every
  call (`xfersOf`, `exec_xfers`, `step_xfers`; no hypothesis on the tokens), and for a settlement
  also the lock calls and the SFT (`sendLp_out`, `claimBase_out`, `claimVested_out`,
  `locksOf`, `sftsOf`).  `exec_fp` says which fields and channels a call writes; this file says what
  goes out.  The owner's withdrawal is read in full on the way: its guards `PaymentOk`, the state
  `paymentState` it leaves, its transfers `paymentXfers` (`exec_claimPayment_out`).  The ledgers along histories (receipts `cr_`, recipients `rc_`, lock calls `lk_`, the
  owner `ow_`) are sums and memberships over these lists.
-/
namespace LP
open LP.FY LP.Props.C09

/-- delivery of `n` tickets' worth of launchpad tokens to `a`: nothing for `n = 0`; with a lock the
    locked part to the lock contract and the rest directly (a part of amount zero is not sent);
    without a lock one transfer -/
def lpXfersN (s : State) (e : Env) (a n : Nat) : List (Nat × Pay) :=
  if n = 0 then [] else
  if s.variant.hasLock = true then
    (if pl_lockedAmt s e (n * s.perTicket) > 0
      then [(s.lockAddr, (⟨.esdt s.lpTok, 0, pl_lockedAmt s e (n * s.perTicket)⟩ : Pay))] else []) ++
    (if n * s.perTicket - pl_lockedAmt s e (n * s.perTicket) > 0
      then [(a, (⟨.esdt s.lpTok, 0, n * s.perTicket - pl_lockedAmt s e (n * s.perTicket)⟩ : Pay))]
      else [])
  else [(a, (⟨.esdt s.lpTok, 0, n * s.perTicket⟩ : Pay))]

def lpLocksN (s : State) (e : Env) (a n : Nat) : List (Nat × Nat × Nat) :=
  if n ≠ 0 ∧ s.variant.hasLock = true ∧ pl_lockedAmt s e (n * s.perTicket) > 0
  then [(s.unlockEpoch, a, pl_lockedAmt s e (n * s.perTicket))] else []

/-- the output of `sendLaunchpadTokens`, exact, lock or not, for any `lockPct` (the state is
    `Tx.sendLaunchpadTokens_fp`: only `bal`) -/
theorem sendLp_out {t t' : Tx} {e : Env} {a n : Nat} (h : t.sendLaunchpadTokens e a n = .ok t') :
    t'.o = { t.o with xfers := t.o.xfers ++ lpXfersN t.s e a n,
                      locks := t.o.locks ++ lpLocksN t.s e a n } := by
  unfold Tx.sendLaunchpadTokens at h
  unfold lpXfersN lpLocksN
  by_cases hz : n = 0
  · rw [if_pos hz] at h
    cases h
    simp [hz]
  · rw [if_neg hz] at h
    dsimp only at h
    cases hl : t.s.variant.hasLock
    · rw [hl] at h
      rw [(Tx.send_s h).2.1]
      simp [hz]
    · rw [hl, if_pos rfl] at h
      rw [sendLocked_o h, sendLockedResult]
      simp only [hz, lockedPart_eq, ne_eq, not_false_eq_true, true_and, if_true, if_false,
        List.append_assoc]
      rfl

/-- the NFT fee handed back at a settlement (paid and not drawn) -/
def feeXfers (s : State) (a : Nat) : List (Nat × Pay) :=
  if s.variant.hasNft = true ∧ nftCategory s a = 2 then [(a, s.nftCost)] else []

/-- the transfers of an accepted settlement, in order: refund of the losing tickets, launchpad
    tokens for the winning ones, NFT fee -/
def claimXfers (s : State) (e : Env) : List (Nat × Pay) :=
  refundXfers s e.caller ++ lpXfersN s e e.caller (winCount s e.caller) ++ feeXfers s e.caller

def claimSfts (s : State) (a : Nat) : List (Nat × Nat) :=
  if s.variant.hasNft = true then [(a, nftCategory s a)] else []

theorem claimBase_out {t t' : Tx} {e : Env} (h : claimBase t e = .ok t') :
    t'.o.xfers = t.o.xfers ++ claimXfers t.s e ∧
    t'.o.locks = t.o.locks ++ lpLocksN t.s e e.caller (winCount t.s e.caller) ∧
    t'.o.sfts = t.o.sfts ++ claimSfts t.s e.caller := by
  rw [claimBase_ok_iff] at h
  obtain ⟨r, ⟨_, _, hr, _, _, _⟩, t2, h2, h3⟩ := h
  have hw : winCount t.s e.caller = countWinning t.s.status r.first (rangeLen r) := winCount_of_range hr
  have hm := claimMid_state t e r
  have ho2 := sendLp_out h2
  obtain ⟨b, _, _, hs2'⟩ := Tx.sendLaunchpadTokens_fp h2
  have hs2 : t2.s = { (claimMid t e r).s with bal := b } := by rw [hs2']
  have x2 : t2.o.xfers = t.o.xfers ++ refundXfers t.s e.caller
      ++ lpXfersN t.s e e.caller (winCount t.s e.caller) := by
    rw [ho2]
    show (claimMid t e r).o.xfers ++ lpXfersN (claimMid t e r).s e e.caller _ = _
    rw [claimMid_o, hm, refundXfers, hw]
    rfl
  have l2 : t2.o.locks = t.o.locks ++ lpLocksN t.s e e.caller (winCount t.s e.caller) := by
    rw [ho2]
    show (claimMid t e r).o.locks ++ lpLocksN (claimMid t e r).s e e.caller _ = _
    rw [claimMid_o, hm, hw]
    rfl
  have f2 : t2.o.sfts = t.o.sfts := by rw [ho2]; show (claimMid t e r).o.sfts = _; rw [claimMid_o]
  have hvar : t2.s.variant = t.s.variant := by rw [hs2, hm]; rfl
  have hcat : nftCategory t2.s e.caller = nftCategory t.s e.caller := by
    unfold nftCategory; rw [hs2, hm]; rfl
  have hcost : t2.s.nftCost = t.s.nftCost := by rw [hs2, hm]; rfl
  rw [hvar] at h3
  unfold claimXfers feeXfers claimSfts
  by_cases hn : t.s.variant.hasNft = true
  · rw [if_pos hn, claimNft_ok_iff] at h3
    obtain ⟨_, _, rfl⟩ := h3
    obtain ⟨k1, k2, k3, _⟩ := claimNftResult_effect t2 e
    rw [k1, k2, k3, x2, hcat, hcost, f2, if_pos hn]
    refine ⟨?_, l2, rfl⟩
    simp only [hn, true_and, List.append_assoc]
  · rw [if_neg hn] at h3
    cases h3
    rw [if_neg (fun hh => hn hh.1), if_neg hn, List.append_nil, List.append_nil, x2, List.append_assoc]
    exact ⟨rfl, l2, f2⟩

/-- who receives what in the delivery: launchpad tokens (nonce 0) to `a`, or, with a lock, to the
    lock contract -/
theorem lpXfersN_mem {s : State} {e : Env} {a n : Nat} {x : Nat × Pay} (hx : x ∈ lpXfersN s e a n) :
    x.2.tok = .esdt s.lpTok ∧ x.2.nonce = 0 ∧
    (x.1 = a ∨ s.variant.hasLock = true ∧ x.1 = s.lockAddr) := by
  unfold lpXfersN at hx
  split at hx
  · cases hx
  split at hx
  · rename_i hl
    rcases List.mem_append.mp hx with h | h <;> split at h
    · cases List.mem_singleton.mp h; exact ⟨rfl, rfl, Or.inr ⟨hl, rfl⟩⟩
    · cases h
    · cases List.mem_singleton.mp h; exact ⟨rfl, rfl, Or.inl rfl⟩
    · cases h
  · cases List.mem_singleton.mp hx; exact ⟨rfl, rfl, Or.inl rfl⟩

theorem refundXfers_mem {s : State} {a : Nat} {x : Nat × Pay} (hx : x ∈ refundXfers s a) :
    x.1 = a ∧ x.2.tok = s.payTok ∧ x.2.nonce = 0 := by
  unfold refundXfers at hx
  split at hx
  · cases hx
  · cases List.mem_singleton.mp hx; exact ⟨rfl, rfl, rfl⟩

/-! ### the two deliveries, spelt out -/

theorem pl_lockedAmt_le {s : State} (hp : s.lockPct ≤ 10000) (e : Env) (amount : Nat) :
    pl_lockedAmt s e amount ≤ amount := by
  unfold pl_lockedAmt
  split
  · exact lockSplit_le hp
  · exact Nat.zero_le _

theorem pl_lockedAmt_zero (s : State) (e : Env) : pl_lockedAmt s e 0 = 0 := by
  unfold pl_lockedAmt lockSplit; split <;> simp

theorem lpXfersN_lock {s : State} (hl : s.variant.hasLock = true) (e : Env) (a n : Nat) :
    lpXfersN s e a n =
      (if pl_lockedAmt s e (n * s.perTicket) > 0
        then [(s.lockAddr, (⟨.esdt s.lpTok, 0, pl_lockedAmt s e (n * s.perTicket)⟩ : Pay))] else []) ++
      (if n * s.perTicket - pl_lockedAmt s e (n * s.perTicket) > 0
        then [(a, (⟨.esdt s.lpTok, 0, n * s.perTicket - pl_lockedAmt s e (n * s.perTicket)⟩ : Pay))]
        else []) := by
  unfold lpXfersN
  by_cases hz : n = 0
  · subst hz; simp [pl_lockedAmt_zero]
  · rw [if_neg hz, if_pos hl]

theorem lpLocksN_lock {s : State} (hl : s.variant.hasLock = true) (e : Env) (a n : Nat) :
    lpLocksN s e a n = if pl_lockedAmt s e (n * s.perTicket) > 0
      then [(s.unlockEpoch, a, pl_lockedAmt s e (n * s.perTicket))] else [] := by
  unfold lpLocksN
  by_cases hz : n = 0
  · subst hz; simp [pl_lockedAmt_zero]
  · simp [hz, hl]

theorem lpLocksN_noLock {s : State} (hl : s.variant.hasLock = false) (e : Env) (a n : Nat) :
    lpLocksN s e a n = [] := by
  rw [lpLocksN, if_neg (fun hh => by rw [hl] at hh; exact nomatch hh.2.1)]

theorem feeXfers_noNft {s : State} (hn : s.variant.hasNft = false) (a : Nat) : feeXfers s a = [] := by
  rw [feeXfers, if_neg (fun hh => by rw [hn] at hh; exact nomatch hh.1)]

/-! ### vesting variants -/

/-- the transfers of an accepted claim of a vesting variant: the refund at the first claim, then
    what became claimable (the increase of `userClaimed`) -/
def claimXfersV (s s' : State) (e : Env) : List (Nat × Pay) :=
  (if s.claimed e.caller = false then refundXfers s e.caller else []) ++
  (if s'.userClaimed e.caller - s.userClaimed e.caller > 0
    then [(e.caller, (⟨.esdt s.lpTok, 0, s'.userClaimed e.caller - s.userClaimed e.caller⟩ : Pay))] else [])

theorem claimVested_out {t t' : Tx} {e : Env} (h : claimVested t e = .ok t') :
    t'.o.xfers = t.o.xfers ++ claimXfersV t.s t'.s e ∧ t'.o.locks = t.o.locks ∧
    t'.o.sfts = t.o.sfts := by
  obtain ⟨⟨_, _, ho⟩, _⟩ := claimVested_fp h
  refine ⟨?_, by rw [ho], by rw [ho]⟩
  obtain ⟨t1, c, hset, _, huc, _, _, _, _, hx⟩ := claimVested_inv h
  have hlp := (claimSettle_out hset).1
  have hx1 := congrArg Out.xfers (claimSettle_out hset).2
  have hc : t'.s.userClaimed e.caller - t.s.userClaimed e.caller = c := by omega
  rw [hx, hx1, hlp, claimXfersV, hc, refundXfers, List.append_assoc]
  congr 2
  by_cases hcl : t.s.claimed e.caller = false
  · by_cases hz : t.s.confirmed e.caller - winCount t.s e.caller = 0 <;> simp [hcl, hz]
  · simp [hcl]

/-! ### the owner's withdrawal -/

theorem returnSurplus_out {t2 t : Tx} {e : Env} {dep won : Nat}
    (h : (if dep = 0 then pure t2 else if won ≥ dep then pure t2
      else t2.send e.caller ⟨.esdt t2.s.lpTok, 0, dep - won⟩) = .ok t) :
    dep - won ≤ t2.s.bal (.esdt t2.s.lpTok) 0 ∧
    t.s = { t2.s with bal := t2.s.bal.sub (.esdt t2.s.lpTok) 0 (dep - won) } ∧
    t.o.xfers = t2.o.xfers ++ (if dep - won > 0
      then [(e.caller, (⟨.esdt t2.s.lpTok, 0, dep - won⟩ : Pay))] else []) := by
  by_cases hd : dep = 0
  · rw [if_pos hd, pure_ok_iff] at h
    rw [if_neg (by omega), List.append_nil, h, show dep - won = 0 by omega, Bal.sub_zero]
    exact ⟨Nat.zero_le _, rfl, rfl⟩
  · rw [if_neg hd] at h
    by_cases hw : won ≥ dep
    · rw [if_pos hw, pure_ok_iff] at h
      rw [if_neg (by omega), List.append_nil, h, show dep - won = 0 by omega, Bal.sub_zero]
      exact ⟨Nat.zero_le _, rfl, rfl⟩
    · rw [if_neg hw] at h
      obtain ⟨hle, rfl⟩ := (send_ok_iff _ _ _ _).mp h
      rw [if_pos (by omega)]
      exact ⟨hle, rfl, rfl⟩

/-- the withdrawal of the vesting variants: proceeds, then what the recorded deposit exceeds the
    winners' share by -/
theorem claimPaymentOwn_out {t t' : Tx} {e : Env} (h : claimPaymentOwn t e = .ok t') :
    t.s.stage e = .claim ∧ t.s.claimablePayment ≤ t.s.bal t.s.payTok 0 ∧
    t.s.totalDeposited - t.s.claimablePayment / t.s.price * t.s.perTicket ≤
      (t.s.bal.sub t.s.payTok 0 t.s.claimablePayment) (.esdt t.s.lpTok) 0 ∧
    t'.s = { t.s with claimablePayment := 0, totalDeposited := 0,
                      bal := (t.s.bal.sub t.s.payTok 0 t.s.claimablePayment).sub (.esdt t.s.lpTok) 0
                        (t.s.totalDeposited - t.s.claimablePayment / t.s.price * t.s.perTicket) } ∧
    t'.o.xfers = t.o.xfers
      ++ (if t.s.claimablePayment > 0
          then [(e.caller, (⟨t.s.payTok, 0, t.s.claimablePayment⟩ : Pay))] else [])
      ++ (if t.s.totalDeposited - t.s.claimablePayment / t.s.price * t.s.perTicket > 0
          then [(e.caller, (⟨.esdt t.s.lpTok, 0,
            t.s.totalDeposited - t.s.claimablePayment / t.s.price * t.s.perTicket⟩ : Pay))] else []) := by
  unfold claimPaymentOwn at h
  simp only [bind_ok_iff] at h
  obtain ⟨_, hst, h⟩ := h
  refine ⟨by simpa [requireStage, req_ok_iff] using hst, ?_⟩
  by_cases hpos : t.s.claimablePayment > 0
  · simp only [hpos, ↓reduceIte, bind_ok_iff] at h
    obtain ⟨t1, h1, h2⟩ := h
    obtain ⟨hle, rfl⟩ := (send_ok_iff _ _ _ _).mp h1
    obtain ⟨k0, k1, k2⟩ := returnSurplus_out h2
    rw [k1, k2, if_pos hpos]
    -- on variables the two records are compared field by field; through `t.s` the unifier unfolds
    -- the nested updates once per field
    obtain ⟨s0, c0, o0⟩ := t
    cases s0
    exact ⟨hle, k0, rfl, rfl⟩
  · simp only [hpos, ↓reduceIte, pure_bind] at h
    obtain ⟨k0, k1, k2⟩ := returnSurplus_out h
    have h0 : t.s.claimablePayment = 0 := by omega
    rw [k1, k2, if_neg hpos, List.append_nil]
    refine ⟨by omega, ?_, ?_, rfl⟩
    · rw [h0, Bal.sub_zero]
      rw [h0] at k0
      exact k0
    -- the record still holds `claimablePayment`, which is `0`: compare field by field
    obtain ⟨s0, c0, o0⟩ := t
    cases s0
    dsimp only at h0
    subst h0
    dsimp only [Tx.setS]
    rw [Bal.sub_zero]

/-- launchpad tokens a withdrawal returns to the owner: from the recorded deposit on the vesting
    variants (`claimPaymentOwn`); otherwise what the balance holds beyond `perTicket × nrWinning`
    once the proceeds have left it (`claimPaymentCommon`, tickets.rs:40-71) -/
def surplusOut (s : State) : Nat :=
  if s.variant.vested = true then s.totalDeposited - s.claimablePayment / s.price * s.perTicket
  else (s.bal.sub s.payTok 0 s.claimablePayment) (.esdt s.lpTok) 0 - s.perTicket * s.nrWinning

/-- the transfers of an accepted `claimPayment`, in order: recorded proceeds, launchpad-token
    surplus, recorded NFT proceeds (each omitted if zero) -/
def paymentXfers (s : State) (e : Env) : List (Nat × Pay) :=
  (if s.claimablePayment > 0 then [(e.caller, (⟨s.payTok, 0, s.claimablePayment⟩ : Pay))] else []) ++
  (if surplusOut s > 0 then [(e.caller, (⟨.esdt s.lpTok, 0, surplusOut s⟩ : Pay))] else []) ++
  (if s.variant.hasNft = true ∧ s.claimableNft > 0
    then [(e.caller, { s.nftCost with amount := s.claimableNft })] else [])

theorem paymentXfers_noNft {s : State} (hn : s.variant.hasNft = false) (e : Env) :
    paymentXfers s e =
      (if s.claimablePayment > 0
        then [(e.caller, (⟨s.payTok, 0, s.claimablePayment⟩ : Pay))] else []) ++
      (if surplusOut s > 0 then [(e.caller, (⟨.esdt s.lpTok, 0, surplusOut s⟩ : Pay))] else []) := by
  have h0 : (if s.variant.hasNft = true ∧ s.claimableNft > 0
      then [(e.caller, { s.nftCost with amount := s.claimableNft })]
      else ([] : List (Nat × Pay))) = [] := if_neg fun hh => by rw [hn] at hh; exact nomatch hh.1
  rw [paymentXfers, h0, List.append_nil]

theorem paymentXfers_mem {s : State} {e : Env} {p : Nat × Pay} (hp : p ∈ paymentXfers s e) :
    p.1 = e.caller := by
  unfold paymentXfers at hp
  rcases List.mem_append.mp hp with hp | hp
  · rcases List.mem_append.mp hp with hp | hp <;> split at hp <;>
      first | (cases List.mem_singleton.mp hp; rfl) | cases hp
  · split at hp <;> first | (cases List.mem_singleton.mp hp; rfl) | cases hp

/-- the owner-only dispatcher check: an accepted `claimPayment` was sent by the owner -/
theorem step_claimPayment_owner {hash : List Nat → List Nat} {s s' : State} {e : Env} {o : Out}
    (h : step hash s e .claimPayment = .ok (s', o)) : e.caller = s.owner := by
  obtain ⟨m, t, hm, _, ho, _⟩ := step_ok_inv h
  simp only [endpointMeta, Option.some.injEq] at hm
  subst hm
  exact ho rfl

/-- the state an accepted `claimPayment` leaves: the fungible part, then the recorded NFT
    proceeds on the two launchpads with NFTs -/
def fungibleState (s : State) : State :=
  { s with claimablePayment := 0,
           totalDeposited := if s.variant.vested = true then 0 else s.totalDeposited,
           bal := (s.bal.sub s.payTok 0 s.claimablePayment).sub (.esdt s.lpTok) 0 (surplusOut s) }

def paymentState (s : State) : State :=
  if s.variant.hasNft = true then
    { fungibleState s with
      claimableNft := 0,
      bal := (fungibleState s).bal.sub s.nftCost.tok s.nftCost.nonce s.claimableNft }
  else fungibleState s

/-- what the sends of an accepted `claimPayment` demand: claim stage; the recorded proceeds are
    there; once they have left, so are the launchpad tokens of the outstanding winners (without
    vesting) resp. the surplus to return (with vesting); and after the fungible part the recorded
    NFT proceeds -/
structure PaymentOk (s : State) (e : Env) : Prop where
  stage : s.stage e = .claim
  proceeds : s.claimablePayment ≤ s.bal s.payTok 0
  cover : s.variant.vested = false →
    s.perTicket * s.nrWinning ≤ (s.bal.sub s.payTok 0 s.claimablePayment) (.esdt s.lpTok) 0
  surplus : s.variant.vested = true →
    surplusOut s ≤ (s.bal.sub s.payTok 0 s.claimablePayment) (.esdt s.lpTok) 0
  nft : s.variant.hasNft = true →
    s.claimableNft ≤ (fungibleState s).bal s.nftCost.tok s.nftCost.nonce

/-- the owner's withdrawal, read once: its guards, the state it leaves, its transfers -/
theorem exec_claimPayment_out {hash : List Nat → List Nat} {t t' : Tx} {e : Env}
    (h : exec hash t e .claimPayment = .ok t') :
    PaymentOk t.s e ∧ t'.s = paymentState t.s ∧ t'.o.xfers = t.o.xfers ++ paymentXfers t.s e := by
  have hs1 : (cpTailResult (cpPaid t e) e).s =
      { t.s with
        claimablePayment := 0,
        bal := (t.s.bal.sub t.s.payTok 0 t.s.claimablePayment).sub (.esdt t.s.lpTok) 0
          ((t.s.bal.sub t.s.payTok 0 t.s.claimablePayment) (.esdt t.s.lpTok) 0
            - t.s.perTicket * t.s.nrWinning) } := rfl
  have hx1 : (cpTailResult (cpPaid t e) e).o.xfers = t.o.xfers
      ++ (if t.s.claimablePayment > 0
          then [(e.caller, (⟨t.s.payTok, 0, t.s.claimablePayment⟩ : Pay))] else [])
      ++ (if (t.s.bal.sub t.s.payTok 0 t.s.claimablePayment) (.esdt t.s.lpTok) 0
            - t.s.perTicket * t.s.nrWinning > 0
          then [(e.caller, (⟨.esdt t.s.lpTok, 0,
            (t.s.bal.sub t.s.payTok 0 t.s.claimablePayment) (.esdt t.s.lpTok) 0
              - t.s.perTicket * t.s.nrWinning⟩ : Pay))] else []) := rfl
  unfold paymentState paymentXfers fungibleState surplusOut
  by_cases hn : t.s.variant.hasNft = true
  · -- no vesting on the launchpads with NFTs: the common part, then the NFT proceeds
    have hv := (hasNft_flags hn).2
    simp only [exec, hv, Bool.false_eq_true, if_false, bind_ok_iff] at h
    obtain ⟨t1, h1, h2⟩ := h
    obtain ⟨hst, hle, hcov, rfl⟩ := (claimPaymentCommon_ok_iff t e t1).mp h1
    have hvar : (cpTailResult (cpPaid t e) e).s.variant = t.s.variant := rfl
    rw [hvar, if_pos hn] at h2
    obtain ⟨_, hle2, hs2⟩ := claimNftPayment_state h2
    obtain ⟨_, _, rfl⟩ := (claimNftPayment_ok_iff _ e t').mp h2
    have hcn : (cpTailResult (cpPaid t e) e).s.claimableNft = t.s.claimableNft := rfl
    have hco : (cpTailResult (cpPaid t e) e).s.nftCost = t.s.nftCost := rfl
    have hnft : t.s.claimableNft ≤ (fungibleState t.s).bal t.s.nftCost.tok t.s.nftCost.nonce := by
      have hb : (fungibleState t.s).bal = (cpTailResult (cpPaid t e) e).s.bal := by
        unfold fungibleState surplusOut
        simp only [hv, Bool.false_eq_true, if_false]
        rfl
      rw [hcn, hco] at hle2
      rw [hb]
      exact hle2
    have hok : PaymentOk t.s e :=
      { stage := hst, proceeds := hle, cover := fun _ => hcov,
        surplus := fun h1 => absurd (hv.symm.trans h1) nofun, nft := fun _ => hnft }
    rw [hv, if_pos hn]
    refine ⟨hok, by rw [hs2, hs1]; simp only [Bool.false_eq_true, if_false], ?_⟩
    rw [hcn, hco]
    by_cases hc : t.s.claimableNft > 0
    · simp only [hn, hc, if_true, true_and, Bool.false_eq_true, if_false]
      show (cpTailResult (cpPaid t e) e).o.xfers ++ _ = _
      rw [hx1]
      simp only [List.append_assoc]
    · simp only [hc, if_false, and_false, hx1, List.append_nil, List.append_assoc,
        Bool.false_eq_true]
  · rw [if_neg hn]
    have hnft : (if t.s.variant.hasNft = true ∧ t.s.claimableNft > 0
        then [(e.caller, { t.s.nftCost with amount := t.s.claimableNft })]
        else ([] : List (Nat × Pay))) = [] := if_neg fun hh => hn hh.1
    simp only [exec] at h
    cases hv : t.s.variant.vested
    · rw [hv] at h
      simp only [Bool.false_eq_true, if_false, bind_ok_iff] at h ⊢
      obtain ⟨t1, h1, h2⟩ := h
      obtain ⟨hst, hle, hcov, rfl⟩ := (claimPaymentCommon_ok_iff t e t1).mp h1
      have hvar : (cpTailResult (cpPaid t e) e).s.variant = t.s.variant := rfl
      rw [hvar, if_neg hn] at h2
      cases h2
      have hok : PaymentOk t.s e :=
        { stage := hst, proceeds := hle, cover := fun _ => hcov,
          surplus := fun h1 => absurd (hv.symm.trans h1) nofun, nft := fun h1 => absurd h1 hn }
      refine ⟨hok, by rw [hs1], ?_⟩
      rw [hx1, hnft, List.append_nil]
      simp only [List.append_assoc]
    · rw [hv, if_pos rfl] at h
      obtain ⟨hst, hle, hsur, k1, k2⟩ := claimPaymentOwn_out h
      have hok : PaymentOk t.s e :=
        { stage := hst, proceeds := hle, cover := fun h1 => absurd (hv.symm.trans h1) nofun,
          surplus := fun _ => by unfold surplusOut; rw [if_pos hv]; exact hsur,
          nft := fun h1 => absurd h1 hn }
      refine ⟨hok, ?_⟩
      rw [k1, k2]
      refine ⟨?_, ?_⟩
      · simp only [if_true]
      · rw [hnft, List.append_nil]
        simp only [if_true, List.append_assoc]

/-! ### blacklisting -/

/-- a blacklisting refund goes to a listed user, in the payment token -/
theorem blXfer_mem {s : State} {l : List Nat} {p : Nat × Pay}
    (hp : p ∈ l.filterMap (Events.blXfer s)) : p.1 ∈ l ∧ p.2.tok = s.payTok := by
  obtain ⟨u, hu, hq⟩ := List.mem_filterMap.mp hp
  unfold Events.blXfer at hq
  split at hq
  · cases hq; exact ⟨hu, rfl⟩
  · cases hq

theorem exec_blacklist_xfers {hash : List Nat → List Nat} {t t' : Tx} {e : Env} {l : List Nat}
    (h : exec hash t e (.blacklist l) = .ok t') :
    t'.o.xfers = t.o.xfers ++ (l.filterMap (Events.blXfer t.s) ++
      (if t.s.variant.hasNft = true
        then (l.filter (fun x => decide (x ∈ t.s.payers))).map (fun u => (u, t.s.nftCost)) else [])) :=
  (Events.exec_blacklist_out h).2.2.1.trans (List.append_assoc ..)

/-! ### every call -/

/-- the endpoints that can move anything out of the contract -/
def Call.pays : Call → Bool
  | .claim | .claimPayment | .blacklist _ | .refundUsers _ => true
  | _ => false

theorem exec_quiet {hash : List Nat → List Nat} {t t' : Tx} {e : Env} {c : Call}
    (hc : c.pays = false) (h : exec hash t e c = .ok t') :
    t'.o.xfers = t.o.xfers ∧ t'.o.sfts = t.o.sfts ∧ t'.o.locks = t.o.locks := by
  have hf := (exec_fp h).2
  cases c <;> first | exact hf.elim | (cases hc; done) | skip
  all_goals
    lp_peel hf
    exact ⟨(congrArg Out.xfers hf :), (congrArg Out.sfts hf :), (congrArg Out.locks hf :)⟩

/-- the transfers of an accepted call, in the order they are made, as a function of the state it
    ran in (for a vesting claim also of the caller's `userClaimed` afterwards) -/
def xfersOf (s s' : State) (e : Env) : Call → List (Nat × Pay)
  | .claim => if s.variant.vested = true then claimXfersV s s' e else claimXfers s e
  | .claimPayment => paymentXfers s e
  | .blacklist l => l.filterMap (Events.blXfer s) ++
      (if s.variant.hasNft = true
        then (l.filter (fun x => decide (x ∈ s.payers))).map (fun u => (u, s.nftCost)) else [])
  | .refundUsers l => l.filterMap (Events.blXfer s)
  | _ => []

theorem exec_xfers {hash : List Nat → List Nat} {t t' : Tx} {e : Env} {c : Call}
    (h : exec hash t e c = .ok t') : t'.o.xfers = t.o.xfers ++ xfersOf t.s t'.s e c := by
  cases hp : c.pays with
  | false =>
    rw [(exec_quiet hp h).1]
    cases c <;> first | exact (List.append_nil _).symm | cases hp
  | true =>
    cases c <;> simp only [Call.pays, Bool.false_eq_true] at hp
    case claim =>
      unfold xfersOf
      cases hv : t.s.variant.vested
      · rw [exec_claim_nonvested hash t e hv] at h
        rw [if_neg (by simp), (claimBase_out h).1]
      · rw [exec_claim_vested hash t e hv] at h
        rw [if_pos rfl, (claimVested_out h).1]
    case claimPayment => exact (exec_claimPayment_out h).2.2
    case refundUsers l =>
      obtain ⟨_, ho, _, _⟩ := Events.exec_refundUsers_out h
      rw [ho]
      rfl
    case blacklist l => exact exec_blacklist_xfers h

theorem step_xfers {hash : List Nat → List Nat} {s s' : State} {e : Env} {c : Call} {o : Out}
    (hs : step hash s e c = .ok (s', o)) : o.xfers = xfersOf s s' e c := by
  cases hp : c.pays with
  | false =>
    obtain ⟨m, t, _, _, _, hx, _, rfl⟩ := step_ok_inv hs
    rw [(exec_quiet hp hx).1]
    cases c <;> first | rfl | cases hp
  | true =>
    -- the four paying endpoints take no call value: the body starts from `s` itself
    cases c <;> simp only [Call.pays, Bool.false_eq_true] at hp
    all_goals
      obtain ⟨t, hx, rfl, rfl⟩ := step_np_out rfl hs
      exact (exec_xfers hx).trans (List.nil_append _)

/-- lock calls and SFTs: only a settlement of a variant without vesting makes any -/
def locksOf (s : State) (e : Env) : Call → List (Nat × Nat × Nat)
  | .claim => if s.variant.vested = true then [] else lpLocksN s e e.caller (winCount s e.caller)
  | _ => []

def sftsOf (s : State) (e : Env) : Call → List (Nat × Nat)
  | .claim => if s.variant.vested = true then [] else claimSfts s e.caller
  | _ => []

theorem exec_locks_sfts {hash : List Nat → List Nat} {t t' : Tx} {e : Env} {c : Call}
    (h : exec hash t e c = .ok t') :
    t'.o.locks = t.o.locks ++ locksOf t.s e c ∧ t'.o.sfts = t.o.sfts ++ sftsOf t.s e c := by
  have hf := (exec_fp h).2
  cases c
  case claim =>
    unfold locksOf sftsOf
    cases hv : t.s.variant.vested
    · rw [exec_claim_nonvested hash t e hv] at h
      rw [if_neg (by simp), if_neg (by simp)]
      exact (claimBase_out h).2
    · rw [exec_claim_vested hash t e hv] at h
      rw [if_pos rfl, if_pos rfl, List.append_nil, List.append_nil]
      exact (claimVested_out h).2
  case issueSft | createSfts | setTransferRole => exact hf.elim
  all_goals
    lp_peel hf
    exact ⟨((congrArg Out.locks hf).trans (List.append_nil _).symm :),
      ((congrArg Out.sfts hf).trans (List.append_nil _).symm :)⟩

theorem step_locks_sfts {hash : List Nat → List Nat} {s s' : State} {e : Env} {c : Call} {o : Out}
    (hs : step hash s e c = .ok (s', o)) : o.locks = locksOf s e c ∧ o.sfts = sftsOf s e c := by
  obtain ⟨m, t, _, _, _, hx, _, rfl⟩ := step_ok_inv hs
  obtain ⟨h1, h2⟩ := exec_locks_sfts hx
  rw [h1, h2]
  cases c <;> exact ⟨List.nil_append _, List.nil_append _⟩

theorem step_quiet {hash : List Nat → List Nat} {s s' : State} {e : Env} {c : Call} {o : Out}
    (h : step hash s e c = .ok (s', o)) (hc : c.pays = false) :
    o.xfers = [] ∧ o.sfts = [] ∧ o.locks = [] := by
  obtain ⟨m, t, _, _, _, hx, _, rfl⟩ := step_ok_inv h
  exact exec_quiet hc hx

end LP

#print axioms LP.sendLp_out
#print axioms LP.claimBase_out
#print axioms LP.claimVested_out
#print axioms LP.step_xfers
