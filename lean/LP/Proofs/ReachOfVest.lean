import LP.Proofs.ReachOf
import LP.Proofs.VestFam
/-
  The two contracts with vesting as one family of states (`ReachOf hash v` with `v.vested`): each
  invariant provides the booking invariant `Vest` and the effect `ClaimVested` of a claim, so the
  theorems of `VestFam` hold for both.
-/
namespace LP.Props.AllVariants
open LP LP.FY

variable {hash : List Nat → List Nat} {v : Variant} {T0 : Nat} {s s' : State} {r : Nat} {e : Env}
  {o : Out}

theorem _root_.LP.g1_WF.vest (h : g1_WF T0 s r) : Vest s r := by
  have hv : s.variant.isV2 = false := (g1_flags h.var).2.2.1
  refine ⟨fun a => (h.vs.exact a).imp id fun ⟨r', hr', h0⟩ => ⟨r', hr', by rw [pctOf_v1 hv]; exact h0⟩,
    fun now => by rw [pctOf_v1 hv]; exact g1_pct1_le h.vs.sch now,
    fun a => (h.vs.lp.records a).1, fun a => (h.vs.lp.records a).2⟩

theorem _root_.LP.WF2.vest (h : WF2 T0 s r) (hx : vv_Exact s r) : Vest s r := by
  have hv : s.variant.isV2 = true := (v2_flags h.var).2.2.1
  refine ⟨fun a => (hx.exact a).imp id fun ⟨r', hr', h0⟩ => ⟨r', hr', by rw [pctOf_v2 hv]; exact h0⟩,
    fun now => by rw [pctOf_v2 hv]; exact vv_pct_le h now,
    fun a => (h.lp.records a).1, fun a => (h.lp.records a).2⟩

theorem ReachOf.vest (h : ReachOf hash v s r) (hv : v.vested = true) : Vest s r := by
  obtain ⟨a0, hA⟩ := ReachOf_iff.mp h
  cases v <;> first | cases hv | skip
  · exact (g1_reach_WF hA).vest
  · exact (reach_WF2 hA).vest (vv_reach_Exact hA)

theorem ReachOf.claimVested (h : ReachOf hash v s r) (hv : v.vested = true) (hr : r ≤ e.round)
    (hs : step hash s e .claim = .ok (s', o)) : ClaimVested s e s' := by
  obtain ⟨a0, hA⟩ := ReachOf_iff.mp h
  cases v <;> first | cases hv | skip
  · exact (g1_reach_WF hA).claimVested hr hs
  · exact (reach_WF2 hA).claimVested (vv_reach_Exact hA) hr hs

/-- the reachable states of a contract with vesting -/
theorem vestFam (hash : List Nat → List Nat) (hv : v.vested = true) :
    VestFam hash (HistOKOf v) (fun _ => True) (ReachOf hash v) :=
  ⟨fun h hl => h.later hl, fun _ => trivial, fun h => h.vest hv,
    fun h hr _ hs => h.claimVested hv hr hs⟩

end LP.Props.AllVariants
