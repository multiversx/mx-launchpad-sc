import LP.Proofs.Claim
import LP.Proofs.Loop
import LP.Proofs.Reserve
import LP.Proofs.StepLemmas
import LP.Proofs.Filter
/-
  For C20 (events) and C10 (blacklist): what the blacklist calls, `setTicketPrice`, the three
  selection steps, `addTicketsV2`, the refund and the vested payment append to the event log, the
  paying ones among them (the blacklist calls, the refund, the vested payment) also to the
  transfer list — that the others send nothing is `step_quiet` of LP/Proofs/PayOut.lean —, and the
  exact effect of the blacklisting loop (`blTx`).  (`confirm` and the
  pause calls are read in LP/Props/C07.lean and LP/Props/C20.lean, `setSchedule2` in
  LP/Proofs/Vesting.lean.)
  The resumable endpoints are read through their inversions `X_iff` (LP/Proofs/EndpointDef.lean,
  `filterTickets` in LP/Proofs/Filter.lean; `selectWinners_ok` is the one on the model's own loop
  state); the `_out` lemmas here and the footprints (`_fp`) are projections of these.  `Tx.send`
  has its normal form in LP/Proofs/Locked.lean, `Tx.refund` and `settle` in LP/Proofs/Claim.lean.
-/
namespace LP.Events

/-! ### every element of a list built from `[]`, `[x]`, `if p then [x] else []`, `++` -/

section allMem
variable {α : Type} {P : α → Prop}

theorem all_nil : ∀ x ∈ ([] : List α), P x := fun _ h => nomatch h

theorem all_one {a : α} (h : P a) : ∀ x ∈ [a], P x := fun x hx => List.mem_singleton.mp hx ▸ h

theorem all_opt {p : Prop} [Decidable p] {a : α} (h : P a) : ∀ x ∈ (if p then [a] else []), P x := by
  split
  · exact all_one h
  · exact all_nil

theorem all_append {l₁ l₂ : List α} (h₁ : ∀ x ∈ l₁, P x) (h₂ : ∀ x ∈ l₂, P x) : ∀ x ∈ l₁ ++ l₂, P x :=
  fun x hx => (List.mem_append.mp hx).elim (h₁ x) (h₂ x)

end allMem

/-! ### refund -/

def refundEv (s : State) (e : Env) (n : Nat) : Ev :=
  ⟨"refundTicketPayment", [e.caller, e.round, e.epoch],
    [e.caller, e.round, e.epoch, n, s.payTok.code, 0, s.price * n]⟩

def refundPay (s : State) (n : Nat) : Pay := ⟨s.payTok, 0, s.price * n⟩

/-! ### blacklistMany -/

theorem upd_self_val {α : Type} (f : Nat → α) (k : Nat) : upd f k (f k) = f := by
  funext x; unfold upd; split <;> simp_all

def blEvent (s : State) (e : Env) (u : Nat) : Option Ev :=
  if s.confirmed u > 0 then some (refundEv s e (s.confirmed u)) else none

def blXfer (s : State) (u : Nat) : Option (Nat × Pay) :=
  if s.confirmed u > 0 then some (u, refundPay s (s.confirmed u)) else none

def blConfSum (s : State) (l : List Nat) : Nat := (l.map s.confirmed).sum

def blState (s : State) (l : List Nat) : State :=
  { s with blacklist := fun a => if a ∈ l then true else s.blacklist a,
           confirmed := fun a => if a ∈ l then 0 else s.confirmed a,
           bal := s.bal.sub s.payTok 0 (s.price * blConfSum s l) }

/-- events and transfers are read against the confirmations of the starting state: for a list
    without duplicates no user's count changes before his turn (`blTx_cons`) -/
def blTx (t : Tx) (e : Env) (l : List Nat) : Tx :=
  { s := blState t.s l, c := t.c,
    o := { t.o with events := t.o.events ++ l.filterMap (blEvent t.s e),
                    xfers := t.o.xfers ++ l.filterMap (blXfer t.s) } }

theorem blTx_nil (t : Tx) (e : Env) : blTx t e [] = t := by
  unfold blTx blState blConfSum
  simp [Bal.sub_zero]

theorem blTx_single_pos (t : Tx) (e : Env) (a : Nat) (h : t.s.confirmed a > 0) :
    blTx t e [a] =
      (refundResult t e a (t.s.confirmed a)).setS
        { (refundResult t e a (t.s.confirmed a)).s with
            confirmed := upd t.s.confirmed a 0, blacklist := upd t.s.blacklist a true } := by
  unfold blTx blState blConfSum blEvent blXfer refundResult Tx.setS
  rw [if_neg (Nat.ne_of_gt h)]
  simp only [List.map_cons, List.map_nil, List.sum_cons, List.sum_nil, Nat.add_zero,
    List.filterMap_cons, List.filterMap_nil, h, ↓reduceIte, List.mem_singleton]
  congr 2

theorem blTx_single_zero (t : Tx) (e : Env) (a : Nat) (h0 : t.s.confirmed a = 0) :
    blTx t e [a] = t.setS { t.s with blacklist := upd t.s.blacklist a true } := by
  have hc : (fun x => if x ∈ [a] then 0 else t.s.confirmed x) = t.s.confirmed := by
    funext x; by_cases hx : x = a <;> simp [hx, h0]
  have hb : (fun x => if x ∈ [a] then true else t.s.blacklist x) = upd t.s.blacklist a true := by
    funext x; simp [upd]
  unfold blTx blState blConfSum blEvent blXfer Tx.setS
  rw [hc, hb]
  simp [h0, Bal.sub_zero]

theorem blacklistMany_cons (e : Env) (a : Nat) (rest : List Nat) (t t' : Tx) :
    blacklistMany e (a :: rest) t = .ok t' ↔
      t.s.blacklist a = false ∧ (t.s.range a).isSome = true ∧
      t.s.price * t.s.confirmed a ≤ t.s.bal t.s.payTok 0 ∧
      blacklistMany e rest (blTx t e [a]) = .ok t' := by
  rw [blacklistMany]
  cases hb : t.s.blacklist a
  · cases hr : t.s.range a with
    | none => simp
    | some r =>
      simp only [Bool.false_eq_true, ↓reduceIte, Option.isNone_some, Option.isSome_some, true_and]
      by_cases hc : t.s.confirmed a > 0
      · simp only [hc, ↓reduceIte]
        cases hre : t.refund e a (t.s.confirmed a) with
        | error err =>
          constructor
          · intro h; cases h
          · rintro ⟨hle, _⟩
            have := (refund_ok_iff t e a _ _).mpr ⟨hle, rfl⟩
            rw [hre] at this; cases this
        | ok t1 =>
          obtain ⟨hle, rfl⟩ := (refund_ok_iff t e a _ t1).mp hre
          simp only [hle, true_and]
          rw [blTx_single_pos t e a hc]
          unfold refundResult
          rw [if_neg (Nat.ne_of_gt hc)]
      · have h0 : t.s.confirmed a = 0 := by omega
        simp only [hc, ↓reduceIte]
        rw [blTx_single_zero t e a h0]
        simp only [h0, Nat.mul_zero, Nat.zero_le, true_and]
  · simp

theorem filterMap_congr_mem {α β : Type} {f g : α → Option β} {l : List α}
    (h : ∀ x ∈ l, f x = g x) : l.filterMap f = l.filterMap g := by
  induction l with
  | nil => rfl
  | cons a rest ih =>
    have h1 := h a (List.mem_cons_self ..)
    have h2 := ih (fun x hx => h x (List.mem_cons_of_mem _ hx))
    simp only [List.filterMap_cons, h1, h2]

theorem blTx_cons (t : Tx) (e : Env) (a : Nat) (rest : List Nat) (ha : a ∉ rest) :
    blTx (blTx t e [a]) e rest = blTx t e (a :: rest) := by
  have hconf : ∀ u ∈ rest, (if u ∈ [a] then 0 else t.s.confirmed u) = t.s.confirmed u := by
    intro u hu
    have : u ≠ a := fun h => ha (h ▸ hu)
    simp [this]
  have hsum : (rest.map (fun u => if u ∈ [a] then 0 else t.s.confirmed u)).sum
      = (rest.map t.s.confirmed).sum := by
    congr 1
    exact List.map_congr_left hconf
  have hev : rest.filterMap (blEvent (blState t.s [a]) e) = rest.filterMap (blEvent t.s e) := by
    apply filterMap_congr_mem
    intro u hu
    unfold blEvent blState refundEv
    simp only [hconf u hu]
  have hxf : rest.filterMap (blXfer (blState t.s [a])) = rest.filterMap (blXfer t.s) := by
    apply filterMap_congr_mem
    intro u hu
    unfold blXfer blState refundPay
    simp only [hconf u hu]
  unfold blTx
  simp only [hev, hxf]
  unfold blState blConfSum
  simp only [hsum, List.map_cons, List.sum_cons, List.map_nil, List.sum_nil, Nat.add_zero,
    Bal.sub_sub, ← Nat.mul_add, List.filterMap_cons, List.filterMap_nil, List.append_assoc]
  congr 2
  · funext x; by_cases hx : x = a <;> simp [hx]
  · funext x; by_cases hx : x = a <;> simp [hx]
  · cases blEvent t.s e a <;> rfl
  · cases blXfer t.s a <;> rfl

/-- duplicates are rejected because the first occurrence sets the flag the second one checks -/
theorem blacklistMany_ok_iff (e : Env) (l : List Nat) (t t' : Tx) :
    blacklistMany e l t = .ok t' ↔
      l.Nodup ∧ (∀ u ∈ l, t.s.blacklist u = false ∧ (t.s.range u).isSome = true) ∧
      t.s.price * blConfSum t.s l ≤ t.s.bal t.s.payTok 0 ∧ t' = blTx t e l := by
  induction l generalizing t with
  | nil =>
    simp only [blacklistMany, List.nodup_nil, List.not_mem_nil, false_imp_iff, implies_true,
      true_and, blTx_nil, blConfSum, List.map_nil, List.sum_nil, Nat.mul_zero, Nat.zero_le]
    constructor
    · intro h; injection h with h; exact h.symm
    · rintro rfl; rfl
  | cons a rest ih =>
    rw [blacklistMany_cons, ih]
    have hbl : ∀ u, (blTx t e [a]).s.blacklist u = (if u = a then true else t.s.blacklist u) := by
      intro u; simp [blTx, blState]
    have hrg : (blTx t e [a]).s.range = t.s.range := rfl
    have hpr : (blTx t e [a]).s.price = t.s.price := rfl
    have hpt : (blTx t e [a]).s.payTok = t.s.payTok := rfl
    have hbal : (blTx t e [a]).s.bal t.s.payTok 0 = t.s.bal t.s.payTok 0 - t.s.price * t.s.confirmed a := by
      simp [blTx, blState, blConfSum, Bal.sub]
    have hcs : a ∉ rest → blConfSum (blTx t e [a]).s rest = blConfSum t.s rest := by
      intro ha
      unfold blConfSum
      congr 1
      apply List.map_congr_left
      intro u hu
      have : u ≠ a := fun h => ha (h ▸ hu)
      simp [blTx, blState, this]
    simp only [hrg, hpr, hpt, hbal, hbl, List.nodup_cons, List.mem_cons, forall_eq_or_imp]
    constructor
    · rintro ⟨hb, hr, hle, hnd, hall, hle2, rfl⟩
      have ha : a ∉ rest := by
        intro ha
        have := (hall a ha).1
        simp at this
      refine ⟨⟨ha, hnd⟩, ⟨⟨hb, hr⟩, ?_⟩, ?_, blTx_cons t e a rest ha⟩
      · intro u hu
        have hne : u ≠ a := fun h => ha (h ▸ hu)
        have := hall u hu
        simpa [hne] using this
      · rw [hcs ha] at hle2
        simp only [blConfSum, List.map_cons, List.sum_cons, Nat.mul_add] at hle2 ⊢
        omega
    · rintro ⟨⟨ha, hnd⟩, ⟨⟨hb, hr⟩, hall⟩, hle, rfl⟩
      simp only [blConfSum, List.map_cons, List.sum_cons, Nat.mul_add] at hle
      refine ⟨hb, hr, by omega, hnd, ?_, ?_, (blTx_cons t e a rest ha).symm⟩
      · intro u hu
        have hne : u ≠ a := fun h => ha (h ▸ hu)
        simpa [hne] using hall u hu
      · rw [hcs ha]
        unfold blConfSum
        omega

/-! ### setTicketPrice -/

def setPriceEv (e : Env) (tok : Token) (a : Nat) : Ev :=
  ⟨"setTicketPrice", [e.caller, e.round, e.epoch], [e.caller, e.round, e.epoch, tok.code, 0, a]⟩

theorem exec_setTicketPrice_ok_iff (hash : List Nat → List Nat) (t t' : Tx) (e : Env) (tok : Token) (a : Nat) :
    exec hash t e (.setTicketPrice tok a) = .ok t' ↔
      t.s.stage e = .addTickets ∧ tok.valid = true ∧ tok ≠ .esdt t.s.lpTok ∧ 0 < a ∧
      t' = (t.setS { t.s with payTok := tok, price := a }).emit (setPriceEv e tok a) := by
  simp only [exec, trySetTicketPrice, requireStage, bind_ok_iff, pure_ok_iff, req_ok_iff,
    exists_const, beq_iff_eq, bne_iff_ne, ne_eq, decide_eq_true_eq, setPriceEv, topics]
  constructor
  · rintro ⟨h1, s1, ⟨h2, h3, h4, rfl⟩, rfl⟩
    exact ⟨h1, h2, h3, h4, rfl⟩
  · rintro ⟨h1, h2, h3, h4, rfl⟩
    exact ⟨h1, _, ⟨h2, h3, h4, rfl⟩, rfl⟩

/-! ### `DrawFrame`: a draw touches only the draw source and the draw log -/

/-- `t'` differs from `t` at most in the draw source / draw log -/
def DrawFrame (t t' : Tx) : Prop :=
  t'.s = t.s ∧ t'.c.budget = t.c.budget ∧ t'.o.ret = t.o.ret ∧ t'.o.events = t.o.events ∧
  t'.o.xfers = t.o.xfers ∧ t'.o.locks = t.o.locks ∧ t'.o.sfts = t.o.sfts

theorem DrawFrame.refl (t : Tx) : DrawFrame t t := ⟨rfl, rfl, rfl, rfl, rfl, rfl, rfl⟩

theorem DrawFrame.trans {a b c : Tx} (h1 : DrawFrame a b) (h2 : DrawFrame b c) : DrawFrame a c := by
  obtain ⟨a1, a2, a3, a4, a5, a6, a7⟩ := h1
  obtain ⟨b1, b2, b3, b4, b5, b6, b7⟩ := h2
  exact ⟨b1.trans a1, b2.trans a2, b3.trans a3, b4.trans a4, b5.trans a5, b6.trans a6, b7.trans a7⟩

theorem DrawFrame.draw (hash : List Nat → List Nat) (t : Tx) (rng : Rng) :
    DrawFrame t (t.draw hash rng).2.2 := by
  rw [Tx.draw_eq]; exact ⟨rfl, rfl, rfl, rfl, rfl, rfl, rfl⟩

theorem DrawFrame.freshRng (t : Tx) : DrawFrame t t.freshRng.2 := by
  rw [Tx.freshRng_eq]; exact ⟨rfl, rfl, rfl, rfl, rfl, rfl, rfl⟩

/-! ### filterTickets -/

def filterDoneEv (e : Env) (n : Nat) : Ev :=
  ⟨"filterTicketsCompleted", [e.caller, e.round, e.epoch], [e.caller, e.round, e.epoch, n]⟩

theorem filterTickets_out {t t' : Tx} {e : Env} (h : filterTickets t e = .ok t') :
    (t'.o.ret = [0] ∧ t'.o.events = t.o.events ++ [filterDoneEv e t'.s.lastTicketId] ∧
        t'.s.flags.filtered = true ∧ t'.s.op = .none) ∨
     (t'.o.ret = [1] ∧ t'.o.events = t.o.events ∧ t'.s.flags.filtered = false ∧
        t'.s.lastTicketId = t.s.lastTicketId ∧ ∃ f r, t'.s.op = .filter f r) := by
  obtain ⟨hp, x, hx⟩ := filterTickets_inv t t' e h
  rw [filterTickets_eq t e x hp hx] at h
  generalize runWhile (filterBody t.s.confirmed t.s.lastTicketId) _ _ x = R at h
  obtain err | ⟨f, b, st⟩ := R
  · cases h
  cases st with
  | outOfFuel => cases h
  | interrupted =>
    cases h
    refine Or.inr ⟨rfl, rfl, ?_, rfl, _, _, rfl⟩
    show (filterFlags t.s x.first).filtered = false
    unfold filterFlags
    split <;> exact hp.notFiltered
  | completed =>
    simp only [filterOutcome] at h
    split at h
    · cases h
      exact Or.inl ⟨rfl, rfl, rfl, rfl⟩
    · cases h

/-! ### selectWinners -/

def selectDoneEv (e : Env) (n : Nat) : Ev :=
  ⟨"selectWinnersCompleted", [e.caller, e.round, e.epoch], [e.caller, e.round, e.epoch, n]⟩

theorem selectBody_frame (hash : List Nat → List Nat) (nr last : Nat) (t0 : Tx) (x x' : SelSt) (c : Bool)
    (hp : DrawFrame t0 x.tx) (h : selectBody hash nr last x = .ok (x', c)) : DrawFrame t0 x'.tx := by
  unfold selectBody at h
  split at h
  · injection h with h; injection h with h1 h2; subst h1; exact hp
  · have hd := DrawFrame.draw hash x.tx x.rng
    simp only at h
    split at h <;> (injection h with h; injection h with h1 h2; subst h1; exact hp.trans hd)

theorem selectWinners_ok {hash : List Nat → List Nat} {t t' : Tx} {e : Env}
    (h : selectWinners hash t e = .ok t') :
    (t.s.paused = false ∧ t.s.stage e = .winnerSelection ∧
     (e.caller == t.s.owner || !e.callerIsContract) = true ∧
     t.s.flags.filtered = true ∧ t.s.flags.selected = false) ∧
    ∃ rng pos t0 x b st,
      ((t.s.op = .none ∧ rng = t.freshRng.1 ∧ pos = 1 ∧ t0 = t.freshRng.2) ∨
       (t.s.op = .select rng pos ∧ t0 = t)) ∧
      runWhile (selectBody hash t.s.nrWinning t.s.lastTicketId) (t.s.nrWinning + 2) t0.c.budget
        ⟨t.s.status, t.s.posToId, rng, pos, t0⟩ = .ok (x, b, st) ∧
      DrawFrame t x.tx ∧ selectEnd e t.s x b st = .ok t' := by
  rw [selectWinners_read, gated_ok_iff, selGates_ok_iff] at h
  obtain ⟨hp, ⟨rng, pos, t0⟩, hl, h⟩ := h
  obtain ⟨⟨x, b, st⟩, hrun, h⟩ := (bind_ok_iff _ _ _).mp h
  have hop := selLoadTx_ok_cases hl
  have ht0 : DrawFrame t t0 := by
    rcases hop with ⟨_, _, _, rfl⟩ | ⟨_, rfl⟩
    · exact DrawFrame.freshRng t
    · exact DrawFrame.refl _
  exact ⟨⟨hp.notPaused, hp.stage, hp.caller, hp.filtered, hp.notSelected⟩, rng, pos, t0, x, b, st, hop, hrun,
    runWhile_preserves (fun y : SelSt => DrawFrame t y.tx) _
      (fun y y' c hb hp => selectBody_frame hash _ _ t y y' c hp hb) _ _ _ _ _ _ hrun ht0, h⟩

theorem selectWinners_out {hash : List Nat → List Nat} {t t' : Tx} {e : Env}
    (h : selectWinners hash t e = .ok t') :
    t'.s.price = t.s.price ∧ t'.s.nrWinning = t.s.nrWinning ∧
    ((t'.o.ret = [0] ∧ t'.o.events = t.o.events ++ [selectDoneEv e t.s.nrWinning] ∧
        t'.s.claimablePayment = t.s.price * t.s.nrWinning ∧
        t'.s.flags.selected = true ∧ t'.s.op = .none) ∨
     (t'.o.ret = [1] ∧ t'.o.events = t.o.events ∧ t'.s.flags = t.s.flags ∧
        t'.s.claimablePayment = t.s.claimablePayment ∧ ∃ r p, t'.s.op = .select r p)) := by
  obtain ⟨_, rng, pos, t0, x, b, st, _, _, ⟨_, _, _, hev, _⟩, h⟩ := selectWinners_ok h
  cases st with
  | outOfFuel => cases h
  | interrupted =>
    cases h
    exact ⟨rfl, rfl, Or.inr ⟨rfl, hev, rfl, rfl, _, _, rfl⟩⟩
  | completed =>
    cases h
    exact ⟨rfl, rfl, Or.inl ⟨rfl, congrArg (· ++ _) hev, rfl, rfl, rfl⟩⟩

/-! ### distribute -/

theorem leftoverBody_frame (hash : List Nat → List Nat) (v2 : Bool) (nrOrig last : Nat) (t0 : Tx)
    (x x' : LSt) (c : Bool)
    (hp : DrawFrame t0 x.tx) (h : leftoverBody hash v2 nrOrig last x = .ok (x', c)) :
    DrawFrame t0 x'.tx := by
  have hd := DrawFrame.draw hash x.tx x.rng
  unfold leftoverBody at h
  by_cases h0 : nrOrig + x.additional ≥ last
  all_goals
    simp only [h0, ↓reduceIte] at h
    repeat' split at h
    all_goals
      injection h with h; injection h with h1 h2; subst h1
      first | exact hp | exact hp.trans hd

/-- the storage fields written by the two loops of the distribution step -/
def GuarFrame (t t' : Tx) : Prop :=
  (∃ wl st p op, t'.s = { t.s with whitelist := wl, status := st, posToId := p, op := op }) ∧
  t'.o.ret = t.o.ret ∧ t'.o.events = t.o.events ∧
  t'.o.xfers = t.o.xfers ∧ t'.o.locks = t.o.locks ∧ t'.o.sfts = t.o.sfts

theorem guaranteedSubstep_frame {hash : List Nat → List Nat} {t t' : Tx} {g g' : GuarOp} {st : LoopStatus}
    (h : guaranteedSubstep hash t g = .ok (t', g', st)) :
    GuarFrame t t' ∧ ((st = .completed ∧ t'.s.op = .none) ∨ st = .interrupted) := by
  unfold guaranteedSubstep at h
  simp only [bind_ok_iff, Prod.exists] at h
  obtain ⟨x, b, st1, _, h⟩ := h
  cases st1 with
  | outOfFuel => cases h
  | interrupted =>
    simp only [pure_ok_iff] at h
    injection h with h1 h2; injection h2 with h2 h3
    subst h1 h3
    exact ⟨⟨⟨_, _, _, _, rfl⟩, rfl, rfl, rfl, rfl, rfl⟩, Or.inr rfl⟩
  | completed =>
    simp only [bind_ok_iff, Prod.exists] at h
    obtain ⟨y, b2, st2, hrun, h⟩ := h
    have hy : DrawFrame _ y.tx := runWhile_preserves (fun (z : LSt) => DrawFrame _ z.tx) _
      (fun z z' c hb hp => leftoverBody_frame hash _ _ _ _ z z' c hp hb) _ _ _ _ _ _ hrun (DrawFrame.refl _)
    obtain ⟨hs, _, hret, hev, hxf, hlk, hsf⟩ := hy
    cases st2 with
    | outOfFuel => cases h
    | interrupted =>
      simp only [pure_ok_iff] at h
      injection h with h1 h2; injection h2 with h2 h3
      subst h1 h3
      refine ⟨⟨⟨x.whitelist, y.status, y.posToId, .none, ?_⟩, hret, hev, hxf, hlk, hsf⟩, Or.inr rfl⟩
      simp only [hs, Tx.setS]
    | completed =>
      simp only [pure_ok_iff] at h
      injection h with h1 h2; injection h2 with h2 h3
      subst h1 h3
      refine ⟨⟨⟨x.whitelist, y.status, y.posToId, .none, ?_⟩, hret, hev, hxf, hlk, hsf⟩, Or.inl ⟨rfl, rfl⟩⟩
      simp only [hs, Tx.setS]

def distributeDoneEv (e : Env) (n : Nat) : Ev :=
  ⟨"distributeGuaranteedTicketsCompleted", [e.caller, e.round, e.epoch], [e.caller, e.round, e.epoch, n]⟩

theorem creditAdditional_variant (s : State) (n : Nat) : (creditAdditional s n).variant = s.variant := rfl

theorem distribute_out {hash : List Nat → List Nat} {t t' : Tx} {e : Env}
    (h : distribute hash t e = .ok t') :
    t'.s.price = t.s.price ∧
    ((t'.o.ret = [0] ∧ t'.s.flags.additional = true ∧ t'.s.op = .none ∧
        ∃ add, t'.s.nrWinning = t.s.nrWinning + add ∧
          t'.s.claimablePayment = t.s.claimablePayment + t.s.price * add ∧
          t'.o.events = t.o.events ++ (if t.s.variant.isV2 then [distributeDoneEv e add] else [])) ∨
     (t'.o.ret = [1] ∧ t'.o.events = t.o.events ∧ t'.s.flags = t.s.flags ∧
        t'.s.nrWinning = t.s.nrWinning ∧ t'.s.claimablePayment = t.s.claimablePayment ∧
        ∃ g, t'.s.op = .additional (.guar g))) := by
  obtain ⟨_, g, _, h⟩ := (distribute_iff hash t t' e).mp h
  obtain ⟨⟨t1, g1, st⟩, hsub, hfin⟩ := (bind_ok_iff _ _ _).mp h
  obtain ⟨⟨⟨wl, st', p, op, hs⟩, _, hev, _⟩, hst⟩ := guaranteedSubstep_frame hsub
  rw [selTxOf_s] at hs
  rw [selTxOf_o] at hev
  rcases hst with ⟨rfl, hopn⟩ | rfl
  · obtain ⟨hs', _, ho'⟩ := distFinish_completed hfin
    rw [hs', ho']
    refine ⟨?_, Or.inl ⟨rfl, rfl, hopn, g1.additional, ?_, ?_, ?_⟩⟩
    · rw [hs]; rfl
    · rw [hs]; rfl
    · rw [hs]; rfl
    · rw [hs]; exact congrArg (· ++ _) hev
  · cases hfin
    refine ⟨?_, Or.inr ⟨rfl, hev, ?_, ?_, ?_, _, rfl⟩⟩ <;> simp only [hs]

/-! ### addTicketsV2 -/

theorem tryCreateTickets_last {s s' : State} {a n : Nat} (h : tryCreateTickets s a n = .ok s') :
    s'.lastTicketId = s.lastTicketId + n ∧ s'.totalGuaranteed = s.totalGuaranteed ∧
    s'.nrWinning = s.nrWinning := by
  obtain ⟨_, _, rfl⟩ := tryCreateTickets_iff.mp h
  exact ⟨rfl, rfl, rfl⟩

theorem addV2Many_cons_ok {e : Env} {buyer n : Nat} {infos : List (Nat × Nat)}
    {rest : List (Nat × Nat × List (Nat × Nat))} {s : State} {tw tg uc ta ga : Nat}
    {acc' : State × Nat × Nat × Nat × Nat × Nat}
    (h : addV2Many e ((buyer, n, infos) :: rest) (s, tw, tg, uc, ta, ga) = .ok acc') :
    (n = 0 ∧ addV2Many e rest (s, tw, tg, uc, ta, ga) = .ok acc') ∨
    (n ≠ 0 ∧ ∃ s1 wl u, tryCreateTickets s buyer n = .ok s1 ∧ sumG infos ≤ tw ∧
      addV2Many e rest ({ s1 with whitelist := wl, uts := u },
        tw - sumG infos, tg + sumG infos, uc + 1, ta + n, ga + sumG infos) = .ok acc') := by
  rw [addV2Many_cons] at h
  by_cases hn : n = 0
  · exact Or.inl ⟨hn, by rwa [if_pos hn] at h⟩
  · rw [if_neg hn] at h
    obtain ⟨_, h⟩ := ok_of_guard h
    obtain ⟨_, h⟩ := ok_of_guard h
    obtain ⟨_, h⟩ := ok_of_guard h
    obtain ⟨s1, h1, h⟩ := (bind_ok_iff _ _ _).mp h
    obtain ⟨_, h⟩ := ok_of_guard h
    obtain ⟨hle, h⟩ := ok_of_guard h
    exact Or.inr ⟨hn, s1, _, _, h1, Nat.le_of_not_lt hle, h⟩

/-- users with a non-zero allowance -/
def v2Users (l : List (Nat × Nat × List (Nat × Nat))) : Nat := (l.filter (fun p => p.2.1 ≠ 0)).length

theorem addV2Many_acc (e : Env) (l : List (Nat × Nat × List (Nat × Nat))) :
    ∀ (s : State) (tw tg uc ta ga : Nat) (s' : State) (tw' tg' uc' ta' ga' : Nat),
      addV2Many e l (s, tw, tg, uc, ta, ga) = .ok (s', tw', tg', uc', ta', ga') →
      s'.lastTicketId + ta = s.lastTicketId + ta' ∧ tg' + ga = tg + ga' ∧ tw' + ga' = tw + ga ∧
      uc' = uc + v2Users l ∧ ta ≤ ta' ∧ ga ≤ ga' := by
  induction l with
  | nil =>
    intro s tw tg uc ta ga s' tw' tg' uc' ta' ga' h
    cases h
    exact ⟨rfl, rfl, rfl, rfl, Nat.le_refl _, Nat.le_refl _⟩
  | cons p rest ih =>
    obtain ⟨buyer, n, infos⟩ := p
    intro s tw tg uc ta ga s' tw' tg' uc' ta' ga' h
    rcases addV2Many_cons_ok h with ⟨hn, h⟩ | ⟨hn, s1, _, _, h1, hle, h⟩
    · have hu : v2Users ((buyer, n, infos) :: rest) = v2Users rest := by simp [v2Users, hn]
      rw [hu]
      exact ih _ _ _ _ _ _ _ _ _ _ _ _ h
    · have hu : v2Users ((buyer, n, infos) :: rest) = v2Users rest + 1 := by simp [v2Users, hn]
      have hl : s1.lastTicketId = s.lastTicketId + n := (tryCreateTickets_last h1).1
      have := ih _ _ _ _ _ _ _ _ _ _ _ _ h
      dsimp only at this
      rw [hu]
      omega

def addTicketsEv (e : Env) (users tickets guaranteed : Nat) : Ev :=
  ⟨"addTickets", [e.caller, e.round, e.epoch], [e.caller, e.round, e.epoch, users, tickets, guaranteed]⟩

theorem addTicketsV2_out {t t' : Tx} {e : Env} {l : List (Nat × Nat × List (Nat × Nat))}
    (h : addTicketsV2 t e l = .ok t') :
    t'.o.events = t.o.events ++
      [addTicketsEv e (v2Users l) (t'.s.lastTicketId - t.s.lastTicketId)
        (t'.s.totalGuaranteed - t.s.totalGuaranteed)] ∧
    t.s.lastTicketId ≤ t'.s.lastTicketId ∧ t.s.totalGuaranteed ≤ t'.s.totalGuaranteed ∧
    t'.s.nrWinning + (t'.s.totalGuaranteed - t.s.totalGuaranteed) = t.s.nrWinning := by
  unfold addTicketsV2 at h
  simp only [bind_ok_iff, pure_ok_iff, requireStage, req_ok_iff, exists_const, Prod.exists] at h
  obtain ⟨_, s1, tw, tg, uc, ta, ga, hm, rfl⟩ := h
  obtain ⟨h1, h2, h3, h4, _, _⟩ := addV2Many_acc e l _ _ _ _ _ _ _ _ _ _ _ _ hm
  have e1 : s1.lastTicketId - t.s.lastTicketId = ta := by omega
  have e2 : tg - t.s.totalGuaranteed = ga := by omega
  refine ⟨?_, ?_, ?_, ?_⟩
  · simp only [Tx.emit, Tx.setS, addTicketsEv, topics, e1, e2, h4, Nat.zero_add]
  · show t.s.lastTicketId ≤ s1.lastTicketId; omega
  · show t.s.totalGuaranteed ≤ tg; omega
  · show tw + (tg - t.s.totalGuaranteed) = t.s.nrWinning; omega

/-! ### the guaranteed-ticket hooks of blacklisting only touch their own records -/

/-- `s'` differs from `s` at most in `whitelist`, `uts`, `blUts` (hence the name), and the two
    per-user records agree with the old ones outside `l` -/
def WUB (l : List Nat) (s s' : State) : Prop :=
  (∃ wl u b, s' = { s with whitelist := wl, uts := u, blUts := b }) ∧
  ∀ a, a ∉ l → s'.uts a = s.uts a ∧ s'.blUts a = s.blUts a

theorem WUB.nil (s : State) : WUB [] s s := ⟨⟨_, _, _, rfl⟩, fun _ _ => ⟨rfl, rfl⟩⟩

theorem WUB.cons {u : Nat} {rest : List Nat} {s s1 s' : State}
    (h1 : WUB [u] s s1) (h2 : WUB rest s1 s') : WUB (u :: rest) s s' := by
  obtain ⟨⟨wl1, u1, b1, rfl⟩, f1⟩ := h1
  obtain ⟨⟨wl2, u2, b2, rfl⟩, f2⟩ := h2
  refine ⟨⟨wl2, u2, b2, rfl⟩, ?_⟩
  intro a ha
  simp only [List.mem_cons, not_or] at ha
  have a1 := f1 a (by simp [ha.1])
  have a2 := f2 a ha.2
  exact ⟨a2.1.trans a1.1, a2.2.trans a1.2⟩

theorem WUB.one (s : State) (u : Nat) (wl : List Nat) (x y : Option UTS) :
    WUB [u] s { s with whitelist := wl, uts := upd s.uts u x, blUts := upd s.blUts u y } := by
  refine ⟨⟨_, _, _, rfl⟩, ?_⟩
  intro a ha
  have : a ≠ u := by simpa using ha
  simp [upd, this]

theorem WUB.one_wl (s : State) (u : Nat) (wl : List Nat) :
    WUB [u] s { s with whitelist := wl } :=
  ⟨⟨_, _, _, rfl⟩, fun _ _ => ⟨rfl, rfl⟩⟩

/-- a recursion over the list that at `u :: rest` either fails or goes on from a state that differs from the
    present one as `WUB [u]` allows: the shape of the four hooks below -/
theorem WUB.of_rec (f : List Nat → State × Nat × Nat → Res (State × Nat × Nat))
    (hnil : ∀ acc, f [] acc = .ok acc)
    (hcons : ∀ u rest s a b r, f (u :: rest) (s, a, b) = .ok r →
      ∃ s1 a1 b1, WUB [u] s s1 ∧ f rest (s1, a1, b1) = .ok r) :
    ∀ (l : List Nat) (s : State) (a b : Nat) (s' : State) (a' b' : Nat),
      f l (s, a, b) = .ok (s', a', b') → WUB l s s'
  | [], s, a, b, s', a', b', h => by
    rw [hnil] at h
    cases h
    exact WUB.nil s
  | u :: rest, s, a, b, s', a', b', h => by
    obtain ⟨s1, a1, b1, h1, h2⟩ := hcons u rest s a b _ h
    exact WUB.cons h1 (WUB.of_rec f hnil hcons rest s1 a1 b1 s' a' b' h2)

theorem clearV1Many_frame (l : List Nat) : ∀ (s : State) (r tg : Nat) (s' : State) (r' tg' : Nat),
    clearV1Many l (s, r, tg) = .ok (s', r', tg') → WUB l s s' :=
  WUB.of_rec clearV1Many (fun _ => rfl) (fun u rest s r tg x h => by
    rw [clearV1Many] at h
    simp only at h
    split at h
    · exact ⟨_, _, _, WUB.one_wl s u _, h⟩
    · split at h; · cases h
      split at h; · cases h
      exact ⟨_, _, _, WUB.one s u _ _ _, h⟩) l

theorem clearV2Many_frame (l : List Nat) : ∀ (s : State) (nw tg : Nat) (s' : State) (nw' tg' : Nat),
    clearV2Many l (s, nw, tg) = .ok (s', nw', tg') → WUB l s s' :=
  WUB.of_rec clearV2Many (fun _ => rfl) (fun u rest s nw tg x h => by
    rw [clearV2Many] at h
    simp only at h
    split at h; · cases h
    exact ⟨_, _, _, WUB.one s u _ _ _, h⟩) l

theorem restoreV1Many_frame (l : List Nat) : ∀ (s : State) (nw tg : Nat) (s' : State) (nw' tg' : Nat),
    restoreV1Many l (s, nw, tg) = .ok (s', nw', tg') → WUB l s s' :=
  WUB.of_rec restoreV1Many (fun _ => rfl) (fun u rest s nw tg x h => by
    rw [restoreV1Many] at h
    simp only at h
    split at h
    · exact ⟨_, _, _, WUB.one_wl s u s.whitelist, h⟩
    · split at h
      · exact ⟨_, _, _, WUB.one_wl s u s.whitelist, h⟩
      · split at h; · cases h
        exact ⟨_, _, _, WUB.one s u (setInsert s.whitelist u).1 (some ((s.blUts u).getD {})) none, h⟩) l

theorem restoreV2Many_frame (l : List Nat) : ∀ (s : State) (nw tg : Nat) (s' : State) (nw' tg' : Nat),
    restoreV2Many l (s, nw, tg) = .ok (s', nw', tg') → WUB l s s' :=
  WUB.of_rec restoreV2Many (fun _ => rfl) (fun u rest s nw tg x h => by
    rw [restoreV2Many] at h
    simp only at h
    split at h
    · exact ⟨_, _, _, WUB.one_wl s u s.whitelist, h⟩
    · split at h
      · split at h; · cases h
        exact ⟨_, _, _, WUB.one s u (setInsert s.whitelist u).1 (some ((s.blUts u).getD {})) none, h⟩
      · exact ⟨_, _, _, WUB.one s u s.whitelist (some ((s.blUts u).getD {})) none, h⟩) l

/-- the frame of the four guaranteed-ticket hooks: `WUB` plus `nrWinning` and `totalGuaranteed` -/
def GHook (l : List Nat) (s s' : State) : Prop :=
  (∃ wl u b nw tg, s' = { s with whitelist := wl, uts := u, blUts := b, nrWinning := nw,
                                 totalGuaranteed := tg }) ∧
  ∀ a, a ∉ l → s'.uts a = s.uts a ∧ s'.blUts a = s.blUts a

theorem WUB.toGHook {l : List Nat} {s s1 : State} (h : WUB l s s1) (nw tg : Nat) :
    GHook l s { s1 with nrWinning := nw, totalGuaranteed := tg } := by
  obtain ⟨⟨wl, u, b, rfl⟩, f⟩ := h
  exact ⟨⟨wl, u, b, nw, tg, rfl⟩, f⟩

theorem clearGuaranteedV1_frame {s s' : State} {l : List Nat} (h : clearGuaranteedV1 s l = .ok s') :
    GHook l s s' := by
  unfold clearGuaranteedV1 at h
  simp only [bind_ok_iff, pure_ok_iff, Prod.exists] at h
  obtain ⟨s1, r, tg, hm, rfl⟩ := h
  exact (clearV1Many_frame l _ _ _ _ _ _ hm).toGHook _ _

theorem clearGuaranteedV2_frame {s s' : State} {l : List Nat} (h : clearGuaranteedV2 s l = .ok s') :
    GHook l s s' := by
  unfold clearGuaranteedV2 at h
  simp only [bind_ok_iff, pure_ok_iff, Prod.exists] at h
  obtain ⟨s1, r, tg, hm, rfl⟩ := h
  exact (clearV2Many_frame l _ _ _ _ _ _ hm).toGHook _ _

theorem restoreGuaranteedV1_frame {s s' : State} {l : List Nat} (h : restoreGuaranteedV1 s l = .ok s') :
    GHook l s s' := by
  unfold restoreGuaranteedV1 at h
  simp only [bind_ok_iff, pure_ok_iff, Prod.exists] at h
  obtain ⟨s1, r, tg, hm, rfl⟩ := h
  exact (restoreV1Many_frame l _ _ _ _ _ _ hm).toGHook _ _

theorem restoreGuaranteedV2_frame {s s' : State} {l : List Nat} (h : restoreGuaranteedV2 s l = .ok s') :
    GHook l s s' := by
  unfold restoreGuaranteedV2 at h
  simp only [bind_ok_iff, pure_ok_iff, Prod.exists] at h
  obtain ⟨s1, r, tg, hm, rfl⟩ := h
  exact (restoreV2Many_frame l _ _ _ _ _ _ hm).toGHook _ _

/-! ### refundNftMany: frame -/

def NftRefundFrame (t t' : Tx) : Prop :=
  (∃ py bal, t'.s = { t.s with payers := py, bal := bal }) ∧ t'.c = t.c ∧
  ∃ xf, t'.o = { t.o with xfers := t.o.xfers ++ xf }

theorem refundNftMany_cons (u : Nat) (rest : List Nat) (t : Tx) :
    refundNftMany (u :: rest) t =
      if (swapRemove t.s.payers u).2 then
        (t.setS { t.s with payers := (swapRemove t.s.payers u).1 }).send u t.s.nftCost >>= refundNftMany rest
      else refundNftMany rest t := by
  rw [refundNftMany]
  generalize swapRemove t.s.payers u = p
  obtain ⟨l, did⟩ := p
  cases did
  · rfl
  · dsimp only [if_true]
    cases (t.setS { t.s with payers := l }).send u t.s.nftCost <;> rfl

theorem refundNftMany_frame (l : List Nat) : ∀ (t t' : Tx), refundNftMany l t = .ok t' → NftRefundFrame t t' := by
  induction l with
  | nil => intro t t' h; cases h; exact ⟨⟨_, _, rfl⟩, rfl, [], by rw [List.append_nil]⟩
  | cons u rest ih =>
    intro t t' h
    rw [refundNftMany_cons] at h
    split at h
    · obtain ⟨t1, hsend, h⟩ := (bind_ok_iff _ _ _).mp h
      obtain ⟨_, rfl⟩ := (send_ok_iff _ _ _ _).mp hsend
      obtain ⟨⟨py, bal, hs⟩, hc, xf, ho⟩ := ih _ _ h
      -- flatten the nested record updates before comparing
      dsimp only [sendResult, Tx.setS] at hs hc ho
      exact ⟨⟨py, bal, hs⟩, hc, (u, t.s.nftCost) :: xf, by rw [ho, List.append_assoc]; rfl⟩
    · exact ih _ _ h

theorem _root_.LP.cr_mem_swapRemove_ne {l : List Nat} {u a : Nat} (h : a ≠ u) :
    a ∈ (swapRemove l u).1 ↔ a ∈ l := by
  rw [(swapRemove_perm l u).mem_iff]
  exact List.mem_erase_of_ne h

theorem filter_mem_swapRemove {payers rest : List Nat} {u : Nat} (hu : u ∉ rest) :
    rest.filter (fun x => decide (x ∈ (swapRemove payers u).1)) =
      rest.filter (fun x => decide (x ∈ payers)) := by
  apply List.filter_congr
  intro x hx
  have hxu : x ≠ u := fun hh => hu (hh ▸ hx)
  rw [decide_eq_decide]
  exact cr_mem_swapRemove_ne hxu

/-- the NFT-fee refunds of a blacklisting, as a list: in a list without duplicates (an accepted
    blacklisting has none, `blacklistMany_ok_iff`) every listed payer gets the fee back -/
theorem refundNftMany_xfers : ∀ (l : List Nat) (t t' : Tx), l.Nodup → refundNftMany l t = .ok t' →
    t'.o.xfers = t.o.xfers ++
      (l.filter (fun x => decide (x ∈ t.s.payers))).map (fun u => (u, t.s.nftCost))
  | [], t, t', _, h => by
    cases h
    simp
  | u :: rest, t, t', hnd, h => by
    obtain ⟨hu, hnd'⟩ := List.nodup_cons.mp hnd
    rw [refundNftMany_cons] at h
    split at h
    · rename_i hdid
      have hup : u ∈ t.s.payers := (swapRemove_snd _ _).mp hdid
      obtain ⟨t1, hsend, h⟩ := (bind_ok_iff _ _ _).mp h
      obtain ⟨_, rfl⟩ := (send_ok_iff _ _ _ _).mp hsend
      rw [refundNftMany_xfers rest _ t' hnd' h]
      show (t.o.xfers ++ [(u, t.s.nftCost)]) ++
        (rest.filter (fun x => decide (x ∈ (swapRemove t.s.payers u).1))).map
          (fun v => (v, t.s.nftCost)) = _
      rw [filter_mem_swapRemove hu, List.filter_cons_of_pos (by simpa using hup)]
      simp
    · rename_i hdid
      have hup : u ∉ t.s.payers := fun hh => hdid ((swapRemove_snd _ _).mpr hh)
      rw [refundNftMany_xfers rest t t' hnd' h, List.filter_cons_of_neg (by simpa using hup)]

/-! ### the blacklist endpoints -/

theorem stageLt_winnerSelection (s : State) (e : Env) :
    stageLt s e .winnerSelection = true ↔ (s.stage e = .addTickets ∨ s.stage e = .confirm) := by
  unfold stageLt
  cases s.stage e <;> simp [Stage.toNat]

theorem addUsersToBlacklist_ok_iff (t t' : Tx) (e : Env) (l : List Nat) :
    addUsersToBlacklist t e l = .ok t' ↔
      (e.caller = t.s.owner ∨ e.caller = t.s.support) ∧
      (t.s.stage e = .addTickets ∨ t.s.stage e = .confirm) ∧
      l.Nodup ∧ (∀ u ∈ l, t.s.blacklist u = false ∧ (t.s.range u).isSome = true) ∧
      t.s.price * blConfSum t.s l ≤ t.s.bal t.s.payTok 0 ∧ t' = blTx t e l := by
  unfold addUsersToBlacklist extendedPermissions
  simp only [bind_ok_iff, req_ok_iff, exists_const, blacklistMany_ok_iff, stageLt_winnerSelection,
    Bool.or_eq_true, beq_iff_eq]

def blacklistEv (e : Env) (l : List Nat) : Ev :=
  ⟨"addUsersToBlacklist", [e.caller, e.round, e.epoch], [e.caller, e.round, e.epoch, l.length] ++ l⟩

def unblacklistEv (e : Env) (l : List Nat) : Ev :=
  ⟨"removeGuaranteedUsersFromBlacklist", [e.caller, e.round, e.epoch],
    [e.caller, e.round, e.epoch, l.length] ++ l⟩

/-- the three hooks `exec` runs after `addUsersToBlacklist` (`exec_blacklist_eq`): guaranteed
    tickets, NFT fees, the v2 event -/
def blHookG (t : Tx) (l : List Nat) : Res Tx :=
  if t.s.variant.isV2 then do let s ← clearGuaranteedV2 t.s l; pure (t.setS s)
  else if t.s.variant.v1Alloc then do let s ← clearGuaranteedV1 t.s l; pure (t.setS s)
  else pure t

def blHookN (t : Tx) (l : List Nat) : Res Tx :=
  if t.s.variant.hasNft then refundNftMany l t else pure t

def blHookE (t : Tx) (e : Env) (l : List Nat) : Tx :=
  if t.s.variant.isV2 then
    t.emit ⟨"addUsersToBlacklist", topics e, [e.caller, e.round, e.epoch, l.length] ++ l⟩
  else t

theorem exec_blacklist_eq (hash : List Nat → List Nat) (t : Tx) (e : Env) (l : List Nat) :
    exec hash t e (.blacklist l) =
      (addUsersToBlacklist t e l >>= fun t1 => blHookG t1 l >>= fun t2 => blHookN t2 l >>= fun t3 =>
        pure (blHookE t3 e l)) := by
  have hE : ∀ t3 : Tx, pure (blHookE t3 e l) =
      (if t3.s.variant.isV2 then
        pure (t3.emit ⟨"addUsersToBlacklist", topics e, [e.caller, e.round, e.epoch, l.length] ++ l⟩)
       else pure t3 : Res Tx) := fun t3 => by
    unfold blHookE; split <;> rfl
  -- in `exec` the continuation of each hook sits inside the hook's branches
  simp only [exec, blHookG, blHookN, hE, ite_bind, bind_assoc, pure_bind]

theorem exec_blacklist_out {hash : List Nat → List Nat} {t t' : Tx} {e : Env} {l : List Nat}
    (h : exec hash t e (.blacklist l) = .ok t') :
    addUsersToBlacklist t e l = .ok (blTx t e l) ∧
    t'.o.events = t.o.events ++ l.filterMap (blEvent t.s e) ++
      (if t.s.variant.isV2 then [blacklistEv e l] else []) ∧
    t'.o.xfers = t.o.xfers ++ l.filterMap (blXfer t.s) ++
      (if t.s.variant.hasNft = true
        then (l.filter (fun x => decide (x ∈ t.s.payers))).map (fun u => (u, t.s.nftCost))
        else []) ∧
    t'.o.ret = t.o.ret ∧ t'.o.locks = t.o.locks ∧ t'.o.sfts = t.o.sfts ∧
    ∃ s1 py bal, GHook l (blState t.s l) s1 ∧ t'.s = { s1 with payers := py, bal := bal } ∧
      (t.s.variant.hasNft = false → py = s1.payers ∧ bal = s1.bal) := by
  rw [exec_blacklist_eq] at h
  simp only [bind_ok_iff, pure_ok_iff] at h
  obtain ⟨t1, h1, t2, h2, t3, h3, h4⟩ := h
  have h1' := h1
  obtain ⟨_, _, hnd, _, _, rfl⟩ := (addUsersToBlacklist_ok_iff _ _ _ _).mp h1
  refine ⟨h1', ?_⟩
  have hv1 : (blTx t e l).s.variant = t.s.variant := rfl
  have hg : GHook l (blState t.s l) t2.s ∧ t2.c = t.c ∧ t2.o = (blTx t e l).o := by
    unfold blHookG at h2
    split at h2
    · simp only [bind_ok_iff, pure_ok_iff] at h2
      obtain ⟨s1, hs1, rfl⟩ := h2
      exact ⟨clearGuaranteedV2_frame hs1, rfl, rfl⟩
    · split at h2
      · simp only [bind_ok_iff, pure_ok_iff] at h2
        obtain ⟨s1, hs1, rfl⟩ := h2
        exact ⟨clearGuaranteedV1_frame hs1, rfl, rfl⟩
      · simp only [pure_ok_iff] at h2
        subst h2
        exact ⟨⟨⟨_, _, _, _, _, rfl⟩, fun _ _ => ⟨rfl, rfl⟩⟩, rfl, rfl⟩
  obtain ⟨hg1, hg2, hg3⟩ := hg
  have hv2 : t2.s.variant = t.s.variant := by
    obtain ⟨⟨_, _, _, _, _, hs⟩, _⟩ := hg1
    rw [hs]; rfl
  have hpc : t2.s.payers = t.s.payers ∧ t2.s.nftCost = t.s.nftCost := by
    obtain ⟨⟨_, _, _, _, _, hs⟩, _⟩ := hg1
    rw [hs]; exact ⟨rfl, rfl⟩
  have hn : (∃ py bal, t3.s = { t2.s with payers := py, bal := bal } ∧
        (t.s.variant.hasNft = false → py = t2.s.payers ∧ bal = t2.s.bal)) ∧
      t3.o = { t2.o with xfers := t2.o.xfers ++
        (if t.s.variant.hasNft = true
          then (l.filter (fun x => decide (x ∈ t.s.payers))).map (fun u => (u, t.s.nftCost))
          else []) } := by
    unfold blHookN at h3
    rw [hv2] at h3
    split at h3
    · rename_i hnft
      obtain ⟨⟨py, bal, hs⟩, _, xf, ho⟩ := refundNftMany_frame l _ _ h3
      have hx := refundNftMany_xfers l _ _ hnd h3
      rw [ho, hpc.1, hpc.2] at hx
      refine ⟨⟨py, bal, hs, fun hf => by simp [hf] at hnft⟩, ?_⟩
      rw [ho, if_pos hnft, List.append_cancel_left hx]
    · rename_i hnft
      simp only [pure_ok_iff] at h3
      subst h3
      refine ⟨⟨_, _, rfl, fun _ => ⟨rfl, rfl⟩⟩, ?_⟩
      rw [if_neg hnft, List.append_nil]
  obtain ⟨⟨py, bal, hs3, hpy⟩, ho3⟩ := hn
  have hv3 : t3.s.variant = t.s.variant := by rw [hs3]; exact hv2
  have hout : t'.o = { t3.o with events := t3.o.events ++ (if t.s.variant.isV2 then [blacklistEv e l] else []) }
      ∧ t'.s = t3.s := by
    subst h4
    unfold blHookE
    rw [hv3]
    split <;> simp [Tx.emit, blacklistEv, topics]
  obtain ⟨ho, hs⟩ := hout
  rw [ho, ho3, hg3, hs, hs3]
  refine ⟨?_, ?_, rfl, rfl, rfl, t2.s, py, bal, hg1, rfl, hpy⟩
  · simp [blTx]
  · simp [blTx]

/-! ### refundUsers (v2) -/

theorem exec_refundUsers_out {hash : List Nat → List Nat} {t t' : Tx} {e : Env} {l : List Nat}
    (h : exec hash t e (.refundUsers l) = .ok t') :
    addUsersToBlacklist t e l = .ok (blTx t e l) ∧
    t'.o = (blTx t e l).o ∧ t'.c = t.c ∧ GHook l (blState t.s l) t'.s := by
  simp only [exec, bind_ok_iff, pure_ok_iff] at h
  obtain ⟨t1, h1, s1, h2, rfl⟩ := h
  have h1' := h1
  obtain ⟨_, _, _, _, _, rfl⟩ := (addUsersToBlacklist_ok_iff _ _ _ _).mp h1
  exact ⟨h1', rfl, rfl, clearGuaranteedV2_frame h2⟩

/-! ### un-blacklisting -/

def unblState (s : State) (l : List Nat) : State :=
  { s with blacklist := fun a => if a ∈ l then false else s.blacklist a }

theorem unblacklistMany_ok_iff (l : List Nat) : ∀ (s s' : State),
    unblacklistMany l s = .ok s' ↔
      l.Nodup ∧ (∀ u ∈ l, s.blacklist u = true) ∧ s' = unblState s l := by
  induction l with
  | nil =>
    intro s s'
    simp only [unblacklistMany, List.nodup_nil, List.not_mem_nil, false_imp_iff, implies_true, true_and]
    have : unblState s [] = s := by simp [unblState]
    rw [this]
    constructor
    · intro h; injection h with h; exact h.symm
    · rintro rfl; rfl
  | cons a rest ih =>
    intro s s'
    rw [unblacklistMany]
    cases hb : s.blacklist a
    · simp [hb]
    · simp only [↓reduceIte, ih, List.nodup_cons, List.mem_cons, forall_eq_or_imp, hb, true_and]
      have key : a ∉ rest → unblState { s with blacklist := upd s.blacklist a false } rest
          = unblState s (a :: rest) := by
        intro ha
        unfold unblState
        simp only [List.mem_cons]
        congr 1
        funext x
        by_cases hx : x = a
        · subst hx; simp [ha]
        · simp [hx, upd]
      constructor
      · rintro ⟨hnd, hall, rfl⟩
        have ha : a ∉ rest := by
          intro ha
          have := hall a ha
          simp at this
        refine ⟨⟨ha, hnd⟩, ?_, key ha⟩
        intro u hu
        have hne : u ≠ a := fun h => ha (h ▸ hu)
        simpa [upd, hne] using hall u hu
      · rintro ⟨⟨ha, hnd⟩, hall, rfl⟩
        refine ⟨hnd, ?_, (key ha).symm⟩
        intro u hu
        have hne : u ≠ a := fun h => ha (h ▸ hu)
        simpa [upd, hne] using hall u hu

theorem removeUsersFromBlacklist_ok_iff (s s' : State) (e : Env) (l : List Nat) :
    removeUsersFromBlacklist s e l = .ok s' ↔
      (e.caller = s.owner ∨ e.caller = s.support) ∧
      (s.stage e = .addTickets ∨ s.stage e = .confirm) ∧
      l.Nodup ∧ (∀ u ∈ l, s.blacklist u = true) ∧ s' = unblState s l := by
  unfold removeUsersFromBlacklist extendedPermissions
  simp only [bind_ok_iff, req_ok_iff, exists_const, unblacklistMany_ok_iff, stageLt_winnerSelection,
    Bool.or_eq_true, beq_iff_eq]

theorem exec_unblacklist_out {hash : List Nat → List Nat} {t t' : Tx} {e : Env} {l : List Nat}
    (h : exec hash t e (.unblacklist l) = .ok t') :
    removeUsersFromBlacklist t.s e l = .ok (unblState t.s l) ∧
    GHook l (unblState t.s l) t'.s ∧ t'.c = t.c ∧
    t'.o = { t.o with events := t.o.events ++ (if t.s.variant.isV2 then [unblacklistEv e l] else []) } ∧
    (if t.s.variant.isV2 then restoreGuaranteedV2 (unblState t.s l) l = .ok t'.s
     else restoreGuaranteedV1 (unblState t.s l) l = .ok t'.s) := by
  simp only [exec, bind_ok_iff] at h
  obtain ⟨s1, h1, h2⟩ := h
  have h1' := h1
  obtain ⟨_, _, _, _, rfl⟩ := (removeUsersFromBlacklist_ok_iff _ _ _ _).mp h1
  refine ⟨h1', ?_⟩
  have hv : (unblState t.s l).variant = t.s.variant := rfl
  rw [hv] at h2
  split at h2
  · rename_i hv2
    simp only [bind_ok_iff, pure_ok_iff] at h2
    obtain ⟨s2, hr, rfl⟩ := h2
    refine ⟨restoreGuaranteedV2_frame hr, rfl, ?_, ?_⟩
    · simp [Tx.emit, Tx.setS, unblacklistEv, topics, hv2]
    · simpa [hv2, Tx.emit, Tx.setS] using hr
  · rename_i hv2
    simp only [bind_ok_iff, pure_ok_iff] at h2
    obtain ⟨s2, hr, rfl⟩ := h2
    refine ⟨restoreGuaranteedV1_frame hr, rfl, ?_, ?_⟩
    · simp [Tx.setS, hv2]
    · simpa [hv2, Tx.setS] using hr

/-- `blUts` is where blacklisting parks a user's guaranteed-ticket record -/
theorem restoreV2Many_moves (l : List Nat) : ∀ (s : State) (nw tg : Nat) (s' : State) (nw' tg' : Nat),
    restoreV2Many l (s, nw, tg) = .ok (s', nw', tg') → l.Nodup →
    ∀ u ∈ l, (s.range u).isSome = true →
      s'.uts u = some ((s.blUts u).getD {}) ∧ s'.blUts u = none := by
  induction l with
  | nil => intro s nw tg s' nw' tg' _ _ u hu; cases hu
  | cons a rest ih =>
    intro s nw tg s' nw' tg' h hnd u hu hr
    obtain ⟨ha, hnd'⟩ := List.nodup_cons.mp hnd
    rw [restoreV2Many] at h
    simp only at h
    rcases List.mem_cons.mp hu with rfl | hu'
    · have hrn : (s.range u).isNone = false := by
        cases hx : s.range u <;> simp [hx] at hr ⊢
      simp only [hrn, Bool.false_eq_true, ↓reduceIte] at h
      split at h
      · split at h; · cases h
        obtain ⟨_, hf⟩ := restoreV2Many_frame rest _ _ _ _ _ _ h
        have := hf u ha
        simpa [upd] using this
      · obtain ⟨_, hf⟩ := restoreV2Many_frame rest _ _ _ _ _ _ h
        have := hf u ha
        simpa [upd] using this
    · have hne : u ≠ a := fun h => ha (h ▸ hu')
      split at h
      · exact ih _ _ _ _ _ _ h hnd' u hu' hr
      · split at h
        · split at h; · cases h
          have := ih _ _ _ _ _ _ h hnd' u hu' hr
          simpa [upd, hne] using this
        · have := ih _ _ _ _ _ _ h hnd' u hu' hr
          simpa [upd, hne] using this

theorem restoreGuaranteedV2_moves {s s' : State} {l : List Nat}
    (h : restoreGuaranteedV2 s l = .ok s') (hnd : l.Nodup) (u : Nat) (hu : u ∈ l)
    (hr : (s.range u).isSome = true) :
    s'.uts u = some ((s.blUts u).getD {}) ∧ s'.blUts u = none := by
  unfold restoreGuaranteedV2 at h
  simp only [bind_ok_iff, pure_ok_iff, Prod.exists] at h
  obtain ⟨s1, r, tg, hm, rfl⟩ := h
  exact restoreV2Many_moves l _ _ _ _ _ _ hm hnd u hu hr

/-! ### settlement and the vesting claim -/

/-- `s.lpTok + 1` is `Token.code (.esdt s.lpTok)` -/
def claimEv (s : State) (e : Env) (c : Nat) : Ev :=
  ⟨"claimLaunchpadTokens", [e.caller, e.round, e.epoch], [e.caller, e.round, e.epoch, s.lpTok + 1, 0, c]⟩

theorem refund_out {t t' : Tx} {e : Env} {addr n : Nat} (h : t.refund e addr n = .ok t') :
    t'.o.events = t.o.events ++ (if n > 0 then [refundEv t.s e n] else []) ∧
    t'.o.xfers = t.o.xfers ++ (if n > 0 then [(addr, refundPay t.s n)] else []) ∧
    t'.s = { t.s with bal := t.s.bal.sub t.s.payTok 0 (t.s.price * n) } ∧ t'.c = t.c ∧
    t'.o.ret = t.o.ret ∧ t'.o.locks = t.o.locks ∧ t'.o.sfts = t.o.sfts := by
  obtain ⟨_, rfl⟩ := (refund_ok_iff t e addr n t').mp h
  refine ⟨?_, ?_, refundResult_state t e addr n, ?_⟩ <;> unfold refundResult <;>
    rcases Nat.eq_zero_or_pos n with rfl | hp
  all_goals first
    | (rw [if_neg (Nat.ne_of_gt hp)]
       first | exact ⟨rfl, rfl, rfl, rfl⟩ | (rw [if_pos hp]; rfl))
    | simp

/-! ### the events of a claim in closed form: the refund of the losing tickets at the first claim,
    then (v2) the release; proved for the vesting claim in `ClaimVested.lean`
    (`claimVested_events`), for every variant in `Props/C20.lean` (`exec_claim_events`) -/

/-- the refund event of a first claim: the caller's confirmed tickets that did not win (as
    `C09.refundXfers` has it for the transfer) -/
def refundEvents (s : State) (e : Env) : List Ev :=
  if s.confirmed e.caller - winCount s e.caller > 0
    then [refundEv s e (s.confirmed e.caller - winCount s e.caller)] else []

/-- `claimLaunchpadTokens` (launchpad-guaranteed-tickets-v2/src/events.rs:170, the only crate with
    this event): the amount released is the increase of the caller's `userClaimed` -/
def releaseEvents (s s' : State) (e : Env) : List Ev :=
  if s'.userClaimed e.caller - s.userClaimed e.caller > 0 ∧ s.variant.isV2 = true
    then [claimEv s e (s'.userClaimed e.caller - s.userClaimed e.caller)] else []

/-- the events of an accepted `claim`, first or repeat, of any variant -/
def claimEvents (s s' : State) (e : Env) : List Ev :=
  (if s.claimed e.caller = false then refundEvents s e else []) ++ releaseEvents s s' e

theorem settle_refund {s s1 : State} {e : Env} {rd rf : Nat} (h : settle s e = .ok (s1, rd, rf)) :
    s.claimed e.caller = false ∧ rf = s.confirmed e.caller - winCount s e.caller ∧
    s1.lpTok = s.lpTok ∧ s1.payTok = s.payTok ∧ s1.price = s.price := by
  obtain ⟨_, hcl, r, hr, hrd, _, _, hrf, rfl⟩ := (settle_ok_iff _ _ _ _ _).mp h
  exact ⟨hcl, by rw [hrf, hrd, winCount, hr], rfl, rfl, rfl⟩

theorem claimPay_events {v2 : Bool} {t t' : Tx} {e : Env} {c : Nat} (h : claimPay v2 t e c = .ok t') :
    t'.o.events = t.o.events ++ (if c > 0 ∧ v2 = true then [claimEv t.s e c] else []) := by
  unfold claimPay at h
  by_cases hpos : c > 0
  · simp only [hpos, if_true] at h
    obtain ⟨t1, hs, h⟩ := (bind_ok_iff ..).1 h
    obtain ⟨-, rfl⟩ := (send_ok_iff _ _ _ _).mp hs
    cases h
    cases v2 <;> simp [hpos, Tx.emit, Tx.setS, claimEv, topics, sendResult]
  · simp only [hpos, if_false, pure_ok_iff] at h
    subst h
    simp [hpos]

end LP.Events
