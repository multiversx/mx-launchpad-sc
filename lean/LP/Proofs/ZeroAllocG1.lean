import LP.Proofs.ZeroAllocG1Exec
/-
  `guarV1` with zero-size entries that carry no migration flag (`zg_CallOK`): the reachability relations
  without the allocation-size premise (`g1_ReachZ`, and `g1_ReachFull` without any premise), the relation
  `ZGSim` (= `ESim` + "settling happens only after all selection steps"), the rider `zg_A` that holds until the
  filter starts, one lemma per call (`zg_sim_*`: the `ESim.*` lemma of LP/Proofs/ZeroAllocSim.lean or
  LP/Proofs/ZeroAllocV1Alloc.lean, and the rider kept), and THE SIMULATION THEOREM `zg_sim`: every
  `g1_ReachZA` state is `ZGSim`-related to a `g1_ReachA` state.  The lemmas for the calls after the first `filter` call assume
  `g1_WF` only, not reachability, so that LP/Proofs/ZeroAllocG1Full.lean can use them.
-/
namespace LP
open LP.FY

/-! ### the histories: `g1_ReachZ` (`zg_CallOK`) and `g1_ReachFull` (no premise on the calls) -/

/-- what remains of `v1_CallOK`: entries `(a, 0, 0, false)` are allowed, entries `(a, 0, 0, true)`
    (zero size with the migration flag) are not -/
def zg_CallOK : Call → Prop
  | .addTicketsV1 l => ∀ q ∈ l, q.2.1 + q.2.2.1 = 0 → q.2.2.2 = false
  | _ => True

theorem zg_CallOK_of_v1 {c : Call} (h : v1_CallOK c) : zg_CallOK c := by
  cases c <;> first | trivial | skip
  intro q hq h0
  have := h q hq
  omega

inductive g1_ReachZA (hash : List Nat → List Nat) (a0 : InitArgs) : State → Nat → Prop
  | init (e : Env) (s : State) : init .guarV1 a0 e = .ok s → g1_ReachZA hash a0 s e.round
  | call (s : State) (r : Nat) (e : Env) (c : Call) (s' : State) (o : Out) :
      g1_ReachZA hash a0 s r → r ≤ e.round → EnvOK e → zg_CallOK c →
      step hash s e c = .ok (s', o) → g1_ReachZA hash a0 s' e.round
  | wait (s : State) (r r' : Nat) : g1_ReachZA hash a0 s r → r ≤ r' → g1_ReachZA hash a0 s r'

inductive g1_ReachZ (hash : List Nat → List Nat) : State → Nat → Prop
  | init (a : InitArgs) (e : Env) (s : State) : init .guarV1 a e = .ok s → g1_ReachZ hash s e.round
  | call (s : State) (r : Nat) (e : Env) (c : Call) (s' : State) (o : Out) :
      g1_ReachZ hash s r → r ≤ e.round → EnvOK e → zg_CallOK c →
      step hash s e c = .ok (s', o) → g1_ReachZ hash s' e.round
  | wait (s : State) (r r' : Nat) : g1_ReachZ hash s r → r ≤ r' → g1_ReachZ hash s r'

/-- NO premise on the allocation entries.  The entries `(a, 0, 0, true)` are outside `ZGSim`; they
    are handled by `zh_Inv` (LP/Proofs/ZeroAllocG1Full.lean). -/
inductive g1_ReachFull (hash : List Nat → List Nat) : State → Nat → Prop
  | init (a : InitArgs) (e : Env) (s : State) : init .guarV1 a e = .ok s → g1_ReachFull hash s e.round
  | call (s : State) (r : Nat) (e : Env) (c : Call) (s' : State) (o : Out) :
      g1_ReachFull hash s r → r ≤ e.round → EnvOK e →
      step hash s e c = .ok (s', o) → g1_ReachFull hash s' e.round
  | wait (s : State) (r r' : Nat) : g1_ReachFull hash s r → r ≤ r' → g1_ReachFull hash s r'

theorem g1_reachZA_iff_later {hash : List Nat → List Nat} {a0 : InitArgs} {s : State} {r : Nat} :
    g1_ReachZA hash a0 s r ↔ be_From (be_OK zg_CallOK) hash .guarV1 a0 s r := by
  constructor <;> intro h
  · induction h with
    | init e s h => exact .init h
    | call _ _ _ _ _ _ _ h1 h2 h3 h4 ih => exact ih.call h1 ⟨h2, h3⟩ h4
    | wait _ _ _ _ h1 ih => exact ih.wait h1
  · exact h.induct .init (fun s r e c s' o ih h1 h2 h3 => .call s r e c s' o ih h1 h2.1 h2.2 h3)
      fun s r r' ih h1 => .wait s r r' ih h1

theorem g1_reachZ_iff_later {hash : List Nat → List Nat} {s : State} {r : Nat} :
    g1_ReachZ hash s r ↔ ∃ a0, be_From (be_OK zg_CallOK) hash .guarV1 a0 s r := by
  constructor
  · intro h
    induction h with
    | init a e s h => exact ⟨a, .init h⟩
    | call _ _ _ _ _ _ _ h1 h2 h3 h4 ih => exact ih.imp fun _ ih => ih.call h1 ⟨h2, h3⟩ h4
    | wait _ _ _ _ h1 ih => exact ih.imp fun _ ih => ih.wait h1
  · rintro ⟨a0, h⟩
    exact h.induct (.init a0) (fun s r e c s' o ih h1 h2 h3 => .call s r e c s' o ih h1 h2.1 h2.2 h3)
      fun s r r' ih h1 => .wait s r r' ih h1

theorem g1_reachFull_iff_later {hash : List Nat → List Nat} {s : State} {r : Nat} :
    g1_ReachFull hash s r ↔ ∃ a0, be_From (be_OK (fun _ => True)) hash .guarV1 a0 s r := by
  constructor
  · intro h
    induction h with
    | init a e s h => exact ⟨a, .init h⟩
    | call _ _ _ _ _ _ _ h1 h2 h3 ih => exact ih.imp fun _ ih => ih.call h1 ⟨h2, trivial⟩ h3
    | wait _ _ _ _ h1 ih => exact ih.imp fun _ ih => ih.wait h1
  · rintro ⟨a0, h⟩
    exact h.induct (.init a0) (fun s r e c s' o ih h1 h2 h3 => .call s r e c s' o ih h1 h2.1 h3)
      fun s r r' ih h1 => .wait s r r' ih h1

theorem g1_ReachZ_iff {hash : List Nat → List Nat} {s : State} {r : Nat} :
    g1_ReachZ hash s r ↔ ∃ a0, g1_ReachZA hash a0 s r :=
  g1_reachZ_iff_later.trans (exists_congr fun _ => g1_reachZA_iff_later.symm)
theorem g1_ReachA.toZ {hash : List Nat → List Nat} {a0 : InitArgs} {s : State} {r : Nat}
    (h : g1_ReachA hash a0 s r) : g1_ReachZA hash a0 s r :=
  g1_reachZA_iff_later.mpr ((g1_reachA_iff_later.mp h).mono fun _ => zg_CallOK_of_v1)
theorem g1_Reach.toZ {hash : List Nat → List Nat} {s : State} {r : Nat}
    (h : g1_Reach hash s r) : g1_ReachZ hash s r :=
  g1_reachZ_iff_later.mpr ((g1_reach_iff_later.mp h).imp fun _ h => h.mono fun _ => zg_CallOK_of_v1)
theorem g1_ReachZ.toFull {hash : List Nat → List Nat} {s : State} {r : Nat}
    (h : g1_ReachZ hash s r) : g1_ReachFull hash s r :=
  g1_reachFull_iff_later.mpr ((g1_reachZ_iff_later.mp h).imp fun _ h => h.mono fun _ _ => trivial)

/-! ### the relation `ZGSim` and the rider `zg_A` that holds until the filter starts -/

/-- `z` is the state `s` with the empty ranges, (until the filter has completed) the zero-size
    batches and some guarantee-free records removed (`zg_Uweak`; that they belong to empty-range
    addresses is `zg_A.urel`, until the filter starts); the two address flags of `z` are below those
    of `s`.  Every other field is the same. -/
structure ZGSim (s z : State) : Prop where
  rest : z = zg_w s (zg_of z)
  range : z.range = z_eraseR s.range
  batch : s.flags.filtered = false → z.batch = z_eraseB s.batch
  bl : ∀ a, z.blacklist a = true → s.blacklist a = true
  cl : ∀ a, z.claimed a = true → s.claimed a = true
  uts : zg_Uweak s.uts z.uts
  /-- settling happens only after all selection steps -/
  done : ∀ a, s.claimed a = true → s.flags.selected = true ∧ s.flags.additional = true

theorem ZGSim.esim {s z : State} (h : ZGSim s z) : ESim s z :=
  .of_rest ⟨z.range, z.batch, z.blacklist, z.claimed, z.uts, s.blUts, s.whitelist⟩ h.rest
    rfl rfl h.range h.batch h.bl h.cl h.uts

theorem ESim.zgsim {s z : State} (h : ESim s z)
    (hd : ∀ a, s.claimed a = true → s.flags.selected = true ∧ s.flags.additional = true) :
    ZGSim s z := by
  refine ⟨?_, h.range, h.batch, h.bl, h.cl, h.uts, hd⟩
  have := h.rest
  unfold Ov.of at this
  rw [h.bu, h.wl] at this
  exact this

/-- additional clauses that hold until the filter starts -/
structure zg_A (s z : State) : Prop where
  hd : z_Hd s
  emp : zg_Emp s
  urel : zg_Urel s.range s.uts z.uts
  blr : ∀ a, s.blacklist a = true → (s.range a).isSome = true
  blx : ∀ a, (z.range a).isSome = true → z.blacklist a = s.blacklist a

theorem ZGSim.fields {s z : State} (h : ZGSim s z) :
    z.cfg = s.cfg ∧ z.flags = s.flags ∧ z.variant = s.variant ∧ z.owner = s.owner ∧
    z.confirmed = s.confirmed ∧ z.op = s.op ∧ z.lastTicketId = s.lastTicketId ∧
    z.minConfirmed = s.minConfirmed ∧ z.whitelist = s.whitelist ∧ z.userTotal = s.userTotal := by
  obtain ⟨a, b, c, d, e, f, g⟩ := h.esim.fields
  exact ⟨a, b, c, d, e, f, g, (congrArg State.minConfirmed h.rest :), h.esim.wl,
    (congrArg State.userTotal h.rest :)⟩

theorem ZGSim.shape' {s z : State} (h : ZGSim s z) : ∃ w, z = zg_w s w := ⟨_, h.rest⟩

theorem zg_eraseR_isSome {f : Nat → Option Range} {a : Nat} (h : (z_eraseR f a).isSome = true) :
    (f a).isSome = true := by
  cases hf : f a with
  | none => rw [z_eraseR_of_none hf] at h; cases h
  | some r => rfl

theorem zg_phaseA_facts {T0 : Nat} {z : State} {r : Nat} (hwf : g1_WF T0 z r)
    (hns : z.flags.started = false) :
    (∀ a, (z.uts a).isSome = true → (z.range a).isSome = true) ∧
    (∀ a, z.blacklist a = true → (z.range a).isSome = true) ∧
    (∀ a, a ∈ z.whitelist → (z.range a).isSome = true) ∧
    (∀ a, z.range a = none → z.confirmed a = 0) ∧
    z.flags.filtered = false := by
  obtain ⟨_, _, L0, hp, hA, hgx⟩ := v1_phase_notStarted hwf.phase hns
  refine ⟨hgx.gi.has_range, hgx.bl_range, ?_, ?_, hp.notFiltered⟩
  · intro a ha
    obtain ⟨st, h1, _⟩ := hgx.gi.pos_of_mem a ha
    exact hgx.gi.has_range a (by rw [h1]; rfl)
  · intro a ha
    by_cases hin : a ∈ L0.map Prod.fst
    · obtain ⟨rr, hrr, _⟩ := be_chain_mem hA.chain hin
      have hrr' : z.range a = some rr := hrr
      rw [ha] at hrr'; cases hrr'
    · exact hp.outC a hin

theorem zg_A_keep {hash : List Nat → List Nat} {s s' z z' : State} {e : Env} {c : Call} {o : Out}
    (h : step hash s e c = .ok (s', o)) (htk : s'.tk = s.tk) (hu : s'.uts = s.uts)
    (hb : s'.blacklist = s.blacklist) (hzr : z'.range = z.range) (hzu : z'.uts = z.uts)
    (hzb : z'.blacklist = z.blacklist)
    (hA : s.flags.started = false → zg_A s z) : s'.flags.started = false → zg_A s' z' := by
  intro hs'
  have hA0 := hA (z_started_back h hs')
  refine ⟨?_, ?_, ?_, ?_, ?_⟩
  · intro i b hi hb'
    rw [tk_last htk] at hi
    rw [tk_batch htk] at hb'
    exact hA0.hd i b hi hb'
  · intro a rg hr hlt
    rw [tk_range htk] at hr
    rw [hu]; exact hA0.emp a rg hr hlt
  · rw [tk_range htk, hu, hzu]; exact hA0.urel
  · intro a ha
    rw [hb] at ha
    rw [tk_range htk]; exact hA0.blr a ha
  · intro a ha
    rw [hzr] at ha
    rw [hzb, hb]; exact hA0.blx a ha

theorem zg_done_keep {hash : List Nat → List Nat} {s s' : State} {e : Env} {c : Call} {o : Out}
    (h : step hash s e c = .ok (s', o)) (hc : c ≠ .claim)
    (hd : ∀ a, s.claimed a = true → s.flags.selected = true ∧ s.flags.additional = true) :
    ∀ a, s'.claimed a = true → s'.flags.selected = true ∧ s'.flags.additional = true := by
  intro a ha
  rw [(LP.Props.C09.step_claimed_exact hash s e c s' o h).1 hc] at ha
  obtain ⟨_, _, g3, g4⟩ := step_flags_gain4 h
  exact ⟨g3 (hd a ha).1, g4 (hd a ha).2⟩

/-! ### `guarV1`: simulation of the independent calls, `addTicketsV1`, `confirm`. -/

theorem zg_sim_indep {T0 : Nat} {hash : List Nat → List Nat} {s z : State} {r : Nat}
    {e : Env} {c : Call} {s' : State} {o : Out} (hc : ov_indep c = true)
    (_hwf : g1_WF T0 z r) (hsim : ZGSim s z) (hA : s.flags.started = false → zg_A s z)
    (hs : step hash s e c = .ok (s', o)) :
    ∃ z', ZGSim s' z' ∧ (s'.flags.started = false → zg_A s' z') ∧
      step hash z e c = .ok (z', o) := by
  have hne : c ≠ .claim := by intro h; subst h; simp [ov_indep] at hc
  have htk : s'.tk = s.tk :=
    z_step_tk hs (by cases c <;> first | rfl | (simp [ov_indep] at hc))
  obtain ⟨h1, hf, h3⟩ := hsim.esim.indep hc hs
  exact ⟨_, h1.zgsim (zg_done_keep hs hne hsim.done),
    zg_A_keep (z := z) hs htk (congrArg Ov.U hf) (congrArg Ov.K hf) rfl rfl rfl hA, h3⟩

theorem zg_sim_add {hash : List Nat → List Nat} {a0 : InitArgs} {s z : State} {r : Nat}
    {e : Env} {l : List (Nat × Nat × Nat × Bool)} {s' : State} {o : Out}
    (hz : g1_ReachA hash a0 z r) (hsim : ZGSim s z) (hA : s.flags.started = false → zg_A s z)
    (hr : r ≤ e.round) (hok : EnvOK e) (hcall : zg_CallOK (.addTicketsV1 l))
    (hs : step hash s e (.addTicketsV1 l) = .ok (s', o)) :
    ∃ z', g1_ReachA hash a0 z' e.round ∧ ZGSim s' z' ∧ (s'.flags.started = false → zg_A s' z') ∧
      step hash z e (.addTicketsV1 (l.filter (fun q => decide (1 ≤ q.2.1 + q.2.2.1)))) = .ok (z', o) := by
  have hwf := g1_reach_WF hz
  obtain ⟨hcfg, hfl, _, _, _, _, _, hmc, _, _⟩ := hsim.fields
  have hlt : e.round < s.cfg.conf := rb_stage_addTickets (step_gate hs)
  have hns : z.flags.started = false := notStarted_of_lt hwf.tlStarted hr (Or.inl (by rw [hcfg]; exact hlt))
  have hA0 := hA (by rw [← hfl]; exact hns)
  obtain ⟨q1, _, _, _, q5⟩ := zg_phaseA_facts hwf hns
  have hUn : ∀ a, s.range a = none → z.uts a = none := fun a ha => by
    cases hu : z.uts a with
    | none => rfl
    | some x =>
      have := q1 a (by rw [hu]; rfl)
      rw [hsim.range, z_eraseR_of_none ha] at this
      cases this
  obtain ⟨U', h1, h2, k2, fx, hbl, _⟩ := hsim.esim.addV1 hs (by rw [← hfl]; exact q5) hA0.hd
    (by rw [← hmc]; exact hwf.static) hcall hUn
  obtain ⟨k3, k5, hrange_or⟩ := zg_AddFx fx hA0.urel hUn hA0.emp
  refine ⟨_, .call z r e _ _ _ hz hr hok ?_ h2, h1.zgsim (zg_done_keep hs (by simp) hsim.done),
    fun _ => ⟨k2, k5, k3, ?_, ?_⟩, h2⟩
  · intro p hp
    exact of_decide_eq_true (List.mem_filter.mp hp).2
  · intro a ha
    rw [hbl] at ha
    have := hA0.blr a ha
    rcases hrange_or a with h0 | h0
    · rw [h0]; exact this
    · rw [h0] at this; cases this
  · intro a ha
    show z.blacklist a = s'.blacklist a
    rw [hbl]
    have ha' : (z_eraseR s'.range a).isSome = true := ha
    rcases hrange_or a with h0 | h0
    · rw [z_eraseR_congr h0, ← hsim.range] at ha'
      exact hA0.blx a ha'
    · have h1 : s.blacklist a = false := by
        cases hk : s.blacklist a with
        | false => rfl
        | true => have := hA0.blr a hk; rw [h0] at this; cases this
      have h2 : z.blacklist a = false := by
        cases hk : z.blacklist a with
        | false => rfl
        | true => rw [hsim.bl a hk] at h1; cases h1
      rw [h1, h2]

theorem zg_sim_confirm {hash : List Nat → List Nat} {s z : State}
    {e : Env} {n : Nat} {s' : State} {o : Out}
    (hsim : ZGSim s z) (hA : s.flags.started = false → zg_A s z)
    (hs : step hash s e (.confirm n) = .ok (s', o)) :
    ∃ z', ZGSim s' z' ∧ (s'.flags.started = false → zg_A s' z') ∧
      step hash z e (.confirm n) = .ok (z', o) := by
  have htk := z_step_tk hs rfl
  obtain ⟨h1, hf, h3⟩ := hsim.esim.confirm hs
  exact ⟨_, h1.zgsim (zg_done_keep hs (by simp) hsim.done),
    zg_A_keep (z := z) hs htk (congrArg Ov.U hf) (congrArg Ov.K hf) rfl rfl rfl hA, h3⟩

end LP

/-! ### `guarV1`: simulation of `blacklist`, `unblacklist`, `filter`, `distribute`. -/
namespace LP
open LP.FY

theorem zg_sim_blacklist {hash : List Nat → List Nat} {a0 : InitArgs} {s z : State} {r : Nat}
    {e : Env} {l : List Nat} {s' : State} {o : Out}
    (hz : g1_ReachA hash a0 z r) (hsim : ZGSim s z) (hA : s.flags.started = false → zg_A s z)
    (hr : r ≤ e.round) (hok : EnvOK e) (hs : step hash s e (.blacklist l) = .ok (s', o)) :
    ∃ z', g1_ReachA hash a0 z' e.round ∧ ZGSim s' z' ∧ (s'.flags.started = false → zg_A s' z') ∧
      step hash z e (.blacklist (l.filter (fun a => (z_eraseR s.range a).isSome))) = .ok (z', o) := by
  have hwf := g1_reach_WF hz
  have htk := z_step_tk hs rfl
  obtain ⟨_, _, _, heff1, _, _, heff2, _⟩ := LP.Props.C10.blacklist_effect hash s e l s' o hs
  obtain ⟨hcfg, hfl, hvz, _, hcf, _, _, _, hwl, _⟩ := hsim.fields
  have hns : z.flags.started = false := by
    rcases LP.Props.C06.blacklist_only_before_selection hash s e _ _ (Or.inl ⟨l, rfl⟩) hs with hst | hst
    · exact notStarted_of_lt hwf.tlStarted hr (Or.inl (by rw [hcfg]; exact rb_stage_addTickets hst))
    · exact notStarted_of_lt hwf.tlStarted hr (Or.inr (by rw [hcfg]; exact (rb_stage_confirm hst).2))
  have hA0 := hA (by rw [← hfl]; exact hns)
  obtain ⟨_, _, q3, q4, _⟩ := zg_phaseA_facts hwf hns
  obtain ⟨_, f2, f3, _⟩ := g1_flags (v := s.variant) (by rw [← hvz]; exact hwf.var)
  -- a whitelisted address holds tickets, so its record is the same on both sides
  obtain ⟨K', U', h1, h2, k3, k4, _, hrg, _⟩ := hsim.esim.blacklist f3 hs
    (fun a _ hnone => by rw [← hcf]; exact q4 a hnone)
    (fun _ u _ hm => by
      have hsome := q3 u (by rw [hwl]; exact hm)
      refine ⟨hsome, (hA0.urel u).resolve_right (fun ⟨_, u2, _⟩ => ?_)⟩
      rw [hsim.range, u2] at hsome
      cases hsome)
    (fun hn => absurd (f2.symm.trans hn) nofun)
  rw [hsim.range] at h2
  refine ⟨_, .call z r e (.blacklist _) _ _ hz hr hok trivial h2,
    h1.zgsim (zg_done_keep hs (by simp) hsim.done), fun _ => ⟨?_, ?_, ?_, ?_, ?_⟩, h2⟩
  · intro i b hi hb'
    rw [tk_last htk] at hi
    rw [tk_batch htk] at hb'
    exact hA0.hd i b hi hb'
  · intro a rg hra hlt
    rw [hrg] at hra
    rcases k4 a with ⟨_, p2⟩ | ⟨_, _, p3⟩
    · rw [p2]; exact hA0.emp a rg hra hlt
    · rw [hsim.range, z_eraseR_of_empty hra (by omega)] at p3; cases p3
  · rw [hrg]
    intro a
    show U' a = s'.uts a ∨ (U' a = none ∧ _)
    rcases k4 a with ⟨p1, p2⟩ | ⟨p1, p2, _⟩
    · rw [p1, p2]; exact hA0.urel a
    · exact Or.inl (p1.trans p2.symm)
  · intro a ha
    rw [hrg]
    by_cases hal : a ∈ l
    · exact (heff1 a hal).1
    · rw [(heff2 a hal).2] at ha; exact hA0.blr a ha
  · intro a ha
    exact k3 a ha (hA0.blx a ha)

theorem zg_sim_unblacklist {hash : List Nat → List Nat} {a0 : InitArgs} {s z : State} {r : Nat}
    {e : Env} {l : List Nat} {s' : State} {o : Out}
    (hz : g1_ReachA hash a0 z r) (hsim : ZGSim s z) (hA : s.flags.started = false → zg_A s z)
    (hr : r ≤ e.round) (hok : EnvOK e) (hs : step hash s e (.unblacklist l) = .ok (s', o)) :
    ∃ z', g1_ReachA hash a0 z' e.round ∧ ZGSim s' z' ∧ (s'.flags.started = false → zg_A s' z') ∧
      step hash z e (.unblacklist (l.filter (fun a => (z_eraseR s.range a).isSome))) = .ok (z', o) := by
  have hwf := g1_reach_WF hz
  have htk := z_step_tk hs rfl
  have hblk := LP.Props.C10frame.blacklist_after_unblacklist hash s s' e l o hs
  obtain ⟨hcfg, hfl, hvz, _⟩ := hsim.fields
  have hns : z.flags.started = false := by
    rcases LP.Props.C06.blacklist_only_before_selection hash s e _ _ (Or.inr (Or.inr ⟨l, rfl⟩)) hs with
      hst | hst
    · exact notStarted_of_lt hwf.tlStarted hr (Or.inl (by rw [hcfg]; exact rb_stage_addTickets hst))
    · exact notStarted_of_lt hwf.tlStarted hr (Or.inr (by rw [hcfg]; exact (rb_stage_confirm hst).2))
  have hA0 := hA (by rw [← hfl]; exact hns)
  obtain ⟨_, q2, _⟩ := zg_phaseA_facts hwf hns
  obtain ⟨_, _, f3, _⟩ := g1_flags (v := s.variant) (by rw [← hvz]; exact hwf.var)
  -- the holder of a non-empty range has the same record on both sides; an empty range has a record
  obtain ⟨K', U', h1, h2, k3, k4, hrg, _⟩ := hsim.esim.unblacklist f3 hs hA0.blx q2
    (fun a _ hsome => (hA0.urel a).resolve_right (fun ⟨_, u2, _⟩ => by
      rw [hsim.range, u2] at hsome; cases hsome))
    (fun a _ rg hra hlt => hA0.emp a rg hra hlt)
  rw [hsim.range] at h2
  refine ⟨_, .call z r e (.unblacklist _) _ _ hz hr hok trivial h2,
    h1.zgsim (zg_done_keep hs (by simp) hsim.done), fun _ => ⟨?_, ?_, ?_, ?_, ?_⟩, h2⟩
  · intro i b hi hb'
    rw [tk_last htk] at hi
    rw [tk_batch htk] at hb'
    exact hA0.hd i b hi hb'
  · intro a rg hra hlt
    rw [hrg] at hra
    rcases k4 a with ⟨_, p2⟩ | ⟨_, p2, _⟩
    · rw [p2]; exact hA0.emp a rg hra hlt
    · exact p2
  · rw [hrg]
    intro a
    show U' a = s'.uts a ∨ (U' a = none ∧ _)
    rcases k4 a with ⟨p1, p2⟩ | ⟨p1, _⟩
    · rw [p1, p2]; exact hA0.urel a
    · exact Or.inl p1
  · intro a ha
    rw [hrg]
    rw [hblk] at ha
    by_cases hal : a ∈ l
    · simp [hal] at ha
    · simp only [hal, if_false] at ha; exact hA0.blr a ha
  · intro a ha
    exact k3 a ha

theorem zg_sim_filter {T0 : Nat} {hash : List Nat → List Nat} {s z : State} {r : Nat}
    {e : Env} {s' : State} {o : Out}
    (hwf : g1_WF T0 z r) (hsim : ZGSim s z)
    (hr : r ≤ e.round) (hok : EnvOK e) (hs : step hash s e .filter = .ok (s', o)) :
    ∃ z', ZGSim s' z' ∧ (s'.flags.started = false → zg_A s' z') ∧
      step hash z e .filter = .ok (z', o) := by
  obtain ⟨h1, _, h3⟩ := hsim.esim.filter (fun hnf => by
    obtain ⟨_, _, L0, hp, hab⟩ := v1_phase_notFiltered hwf.phase hnf
    exact ⟨L0, z_filter_facts hp (hab.imp And.left And.left) rfl rfl rfl rfl rfl⟩) hs
  refine ⟨_, h1.zgsim (zg_done_keep hs (by simp) hsim.done), fun hst => ?_, h3⟩
  exfalso
  obtain ⟨_, _, L1, hp1, hA1, _⟩ := v1_phase_notStarted
    (g1_call_WF (c := .filter) hwf hr hok trivial h3).phase hst
  exact filter_started_of hs ⟨hp1.notFiltered, hA1.op⟩

theorem zg_sim_distribute {T0 : Nat} {hash : List Nat → List Nat} {s z : State} {r : Nat}
    {e : Env} {s' : State} {o : Out}
    (hwf : g1_WF T0 z r) (hsim : ZGSim s z)
    (hs : step hash s e .distribute = .ok (s', o)) :
    ∃ z', ZGSim s' z' ∧ (s'.flags.started = false → zg_A s' z') ∧
      step hash z e .distribute = .ok (z', o) := by
  obtain ⟨_, hfl, hvz, _⟩ := hsim.fields
  have hvar : s.variant = .guarV1 := by rw [← hvz]; exact hwf.var
  obtain ⟨h1, _, h3⟩ := hsim.esim.distribute (g1_flags hvar).2.2.1 hs
  refine ⟨_, h1.zgsim (zg_done_keep hs (by simp) hsim.done), fun hst => ?_, h3⟩
  -- the distribution runs after the selection, which runs after the first `filter` call
  exfalso
  have hns : z.flags.started = false := by rw [hfl]; exact z_started_back hs hst
  obtain ⟨_, _, L1, hp1, _, _⟩ := v1_phase_notStarted hwf.phase hns
  have hsel : s.flags.selected = true :=
    (LP.Props.C06.additional_gate hash s e .distribute _ (Or.inl rfl) hs).2.1
  have : z.flags.selected = false := hp1.notSelected
  rw [hfl, hsel] at this; cases this

end LP

/-! ### `guarV1`: the vested `claim`, one step (`zg_sim_step`) and the simulation theorem `zg_sim`.
  The `zh_` lemmas assume `g1_WF` only, not reachability. -/
namespace LP
open LP.FY

theorem zh_var_of_sim {T0 : Nat} {s z : State} {r : Nat} (hz : g1_WF T0 z r) (hsim : ZGSim s z) :
    s.variant = .guarV1 := by
  rw [← hsim.fields.2.2.1]; exact hz.var

theorem zh_norec {T0 : Nat} {z : State} {r : Nat} (hz : g1_WF T0 z r) :
    ∀ a, z.claimed a = false → z.userTotal a = 0 ∧ z.userClaimed a = 0 := by
  have hl := hz.vs.lp
  cases ha : z.flags.additional with
  | false =>
    have hp : ∀ a, z.userTotal a = 0 ∧ z.userClaimed a = 0 ∧ z.claimed a = false := (hl.pre ha).fresh
    exact fun a _ => ⟨(hp a).1, (hp a).2.1⟩
  | true =>
    have hp := hl.post ha
    intro a hc
    have h1 : z.userTotal a = 0 := hp.unclaimed a hc
    have h2 : z.userClaimed a ≤ z.userTotal a := hp.le a
    exact ⟨h1, by omega⟩

/-- Caller settled on both sides, or unsettled with a non-empty range: the same claim.  Caller with
    an EMPTY range (first claim) or "settled" only in `s` (repeat claim of such an address): the
    erased state does not move. -/
theorem zg_sim_claim {T0 : Nat} {hash : List Nat → List Nat} {s z : State} {r : Nat}
    {e : Env} {s' : State} {o : Out}
    (hwf : g1_WF T0 z r) (hsim : ZGSim s z) (hs : step hash s e .claim = .ok (s', o)) :
    ∃ z', ZGSim s' z' ∧ (s'.flags.started = false → zg_A s' z') ∧
      ((step hash z e .claim = .ok (z', o) ∧ z.claimed e.caller = s.claimed e.caller) ∨
        (z' = z ∧ s.userTotal e.caller = 0 ∧
          ((s' = s ∧ s.claimed e.caller = true) ∨
           ∃ rg, s.range e.caller = some rg ∧ rg.last < rg.first ∧ s.claimed e.caller = false ∧
          s' = zg_w s ⟨upd s.range e.caller none, upd s.batch rg.first none, s.blacklist,
                       upd s.claimed e.caller true, s.uts⟩))) := by
  obtain ⟨hcfg, hfl, hvz, hoz, hcf, hop, hlast, _, _, hut⟩ := hsim.fields
  have hvar : s.variant = .guarV1 := by rw [← hvz]; exact hwf.var
  obtain ⟨hvest, _, hv2, _⟩ := g1_flags hvar
  have hdone : s.flags.selected = true ∧ s.flags.additional = true := by
    rcases LP.Props.C06.claim_gate hash s e (s', o) hs with hstg | ⟨_, hc⟩
    · exact (stage_claim_iff.mp hstg).1
    · exact hsim.done _ hc
  obtain ⟨hsel, hadd⟩ := hdone
  have hD := v1_phase_D hwf.phase (by show z.flags.additional = true; rw [hfl]; exact hadd)
  have hfil : s.flags.filtered = true := by rw [← hfl]; exact hD.filtered
  have hsta : s.flags.started = true := by rw [← hfl]; exact hD.started
  have hnorec := zh_norec hwf
  have hs2 := hs
  rw [LP.Props.C09.step_claim_ok_iff] at hs2
  obtain ⟨he1, he2, t, hx, rfl, rfl⟩ := hs2
  have hvt : (LP.Props.C09.txc s e).s.variant = .guarV1 := hvar
  have htx : LP.Props.C09.txc z e = zg_wt (LP.Props.C09.txc s e) (zg_of z) := by
    conv => lhs; rw [hsim.rest]
    rfl
  have hE := hsim.esim
  -- the step of `z`, from the body on the overwrite of `txc s e`
  have hzstep : ∀ w' : zg_O, exec hash (zg_wt (LP.Props.C09.txc s e) (zg_of z)) e .claim = .ok (zg_wt t w') →
      z.blUts = t.s.blUts → z.whitelist = t.s.whitelist →
      step hash z e .claim = .ok (ov t.s ⟨w'.R, w'.B, w'.K, w'.C, w'.U, z.blUts, z.whitelist⟩, t.o) := by
    intro w' hex hbu hwl
    rw [hbu, hwl, LP.Props.C09.step_claim_ok_iff]
    exact ⟨he1, he2, zg_wt t w', by rw [htx]; exact hex, rfl, rfl⟩
  -- the two shapes of the state after the claim
  obtain ⟨t1, c, h1, _, hts, _⟩ := g1_claimVested_state hv2
    (show claimVested (rbTx s e) e = .ok t by
      have hx0 := hx
      simp only [exec] at hx0
      rw [if_pos (by exact hvest)] at hx0
      exact hx0)
  have hflags : t.s.flags = s.flags ∧ (∀ a, t.s.claimed a = true → s.flags.selected = true ∧
      s.flags.additional = true) := by
    refine ⟨?_, fun _ _ => ⟨hsel, hadd⟩⟩
    rcases v2_claimSettle_state h1 with ⟨_, rfl⟩ | ⟨_, _, rg, B, _, _, ht1, _⟩
    · rw [hts]; rfl
    · rw [hts, ht1]; rfl
  have hdone' : ∀ a, t.s.claimed a = true → t.s.flags.selected = true ∧ t.s.flags.additional = true :=
    fun a ha => by rw [hflags.1]; exact hflags.2 a ha
  have hAno : t.s.flags.started = false → zg_A t.s z := fun hf => by
    rw [hflags.1, hsta] at hf; cases hf
  rcases v2_claimSettle_state h1 with ⟨hcl, rfl⟩ | ⟨hcl, _, rg, B, hrg, _, ht1, _⟩
  · -- the caller has settled in `s`: none of the seven fields is written
    have hof : Ov.of t.s = Ov.of s := by rw [hts]; rfl
    rcases Bool.eq_false_or_eq_true (z.claimed e.caller) with hzc | hzc
    · -- and in `z`: a further instalment on both sides
      obtain ⟨w', k1, k2⟩ := zg_exec_claim (zg_of z) hvt hx (Or.inl ⟨hcl, hzc⟩)
      obtain rfl : w' = zg_of z := k2.elim (fun p => p.2)
        (fun p => absurd (show s.claimed e.caller = _ from p.1) (by rw [hcl]; simp))
      have h1' := hE.frame_step hs hof
      refine ⟨ov t.s (.of z), h1'.zgsim hdone', fun hf => ?_, Or.inl ⟨?_, by rw [hcl, hzc]⟩⟩
      · rw [hflags.1, hsta] at hf; cases hf
      · exact hzstep _ k1 (hE.bu.trans (congrArg Ov.BU hof).symm) (hE.wl.trans (congrArg Ov.W hof).symm)
    · -- "settled" only in `s` (an address that had an empty range): nothing happens
      have hut0 : s.userTotal e.caller = 0 := by rw [← hut]; exact (hnorec e.caller hzc).1
      have hs' : t.s = s := zg_claim_noop hvar hs hcl hut0
      exact ⟨z, by rw [hs']; exact hsim, hAno, Or.inr ⟨rfl, hut0, Or.inl ⟨hs', hcl⟩⟩⟩
  · -- a first claim: `ESim.claim`
    have hof : Ov.of t.s = (Ov.of s).settle e.caller rg := by rw [hts, ht1]; rfl
    have hut0 : z.claimed e.caller = false → s.userTotal e.caller = 0 := fun hzc => by
      rw [← hut]; exact (hnorec e.caller hzc).1
    have hzc : z.claimed e.caller = false := by
      cases hk : z.claimed e.caller with
      | false => rfl
      | true => rw [hsim.cl _ hk] at hcl; cases hcl
    have hstut : rg.last < rg.first → t.s = zg_w s ⟨upd s.range e.caller none, upd s.batch rg.first none,
        s.blacklist, upd s.claimed e.caller true, s.uts⟩ := fun hlt =>
      zg_claim_stutter hvar hs hcl hrg hlt
        (by rw [← hcf]; exact hD.rngNone e.caller
              (by show z.range e.caller = none; rw [hsim.range]; exact z_eraseR_of_empty hrg (by omega)))
        (hut0 hzc)
    rcases hE.claim hfil hrg hcl hof hflags.1
      (fun _ hR hC => by
        obtain ⟨w', k1, k2⟩ := zg_exec_claim (zg_of z) hvt hx (Or.inr ⟨hcl, hC, rg, hrg, hR⟩)
        obtain ⟨_, rg1, hrg1, rfl⟩ := k2.resolve_left
          (fun p => absurd (show s.claimed e.caller = _ from p.1) (by rw [hcl]; simp))
        obtain rfl : rg = rg1 := Option.some.inj (hrg.symm.trans hrg1)
        exact hzstep _ k1 (hE.bu.trans (congrArg Ov.BU hof).symm) (hE.wl.trans (congrArg Ov.W hof).symm))
      hstut with ⟨_, h1', h2'⟩ | ⟨hlt, h1', _⟩
    · exact ⟨ov t.s ((Ov.of z).settle e.caller rg), h1'.zgsim hdone',
        (fun hf => by rw [hflags.1, hsta] at hf; cases hf), Or.inl ⟨h2', by rw [hcl, hzc]⟩⟩
    · exact ⟨z, h1'.zgsim hdone', hAno,
        Or.inr ⟨rfl, hut0 hzc, Or.inr ⟨rg, hrg, hlt, hcl, hstut hlt⟩⟩⟩

theorem zg_sim_step {hash : List Nat → List Nat} {a0 : InitArgs} {s z : State} {r : Nat}
    {e : Env} {c : Call} {s' : State} {o : Out}
    (hz : g1_ReachA hash a0 z r) (hsim : ZGSim s z) (hA : s.flags.started = false → zg_A s z)
    (hr : r ≤ e.round) (hok : EnvOK e) (hc : zg_CallOK c) (hs : step hash s e c = .ok (s', o)) :
    ∃ z', g1_ReachA hash a0 z' e.round ∧ ZGSim s' z' ∧ (s'.flags.started = false → zg_A s' z') := by
  have hwf := g1_reach_WF hz
  have hvar : s.variant = .guarV1 := by rw [← hsim.fields.2.2.1]; exact hwf.var
  have hex : c.exposedIn .guarV1 = true := hvar ▸ step_exposed hs
  cases c with
  | addTicketsV1 l =>
    obtain ⟨z', h1, h2, h3, _⟩ := zg_sim_add hz hsim hA hr hok hc hs; exact ⟨z', h1, h2, h3⟩
  | confirm n =>
    obtain ⟨z', h2, h3, h4⟩ := zg_sim_confirm hsim hA hs
    exact ⟨z', .call z r e (.confirm n) _ _ hz hr hok trivial h4, h2, h3⟩
  | filter =>
    obtain ⟨z', h2, h3, h4⟩ := zg_sim_filter hwf hsim hr hok hs
    exact ⟨z', .call z r e .filter _ _ hz hr hok trivial h4, h2, h3⟩
  | distribute =>
    obtain ⟨z', h2, h3, h4⟩ := zg_sim_distribute hwf hsim hs
    exact ⟨z', .call z r e .distribute _ _ hz hr hok trivial h4, h2, h3⟩
  | claim =>
    obtain ⟨z', h2, h3, ⟨h4, _⟩ | ⟨rfl, _⟩⟩ := zg_sim_claim hwf hsim hs
    · exact ⟨z', .call z r e .claim _ _ hz hr hok trivial h4, h2, h3⟩
    · exact ⟨z', .wait z' r e.round hz hr, h2, h3⟩
  | blacklist l =>
    obtain ⟨z', h1, h2, h3, _⟩ := zg_sim_blacklist hz hsim hA hr hok hs; exact ⟨z', h1, h2, h3⟩
  | unblacklist l =>
    obtain ⟨z', h1, h2, h3, _⟩ := zg_sim_unblacklist hz hsim hA hr hok hs; exact ⟨z', h1, h2, h3⟩
  | deposit | setTicketPrice _ _ | setPerTicket _ | setConfStart _ | setSelStart _ | setClaimStart _
  | setSupport _ | pause | unpause | select | claimPayment | setSchedule1 _ _ _ _ _ =>
    obtain ⟨z', h2, h3, h4⟩ := zg_sim_indep rfl hwf hsim hA hs
    exact ⟨z', .call z r e _ _ _ hz hr hok (z_indep_v1_CallOK rfl) h4, h2, h3⟩
  | _ => exact (Bool.false_ne_true hex).elim

/-- **SIMULATION** (same deployment arguments, same round): erase the empty ranges, the zero-size
    batches and the guarantee-free records of the empty-range addresses. -/
theorem zg_sim {hash : List Nat → List Nat} {a0 : InitArgs}
    {s : State} {r : Nat} (h : g1_ReachZA hash a0 s r) :
    ∃ z, g1_ReachA hash a0 z r ∧ ZGSim s z ∧ (s.flags.started = false → zg_A s z) := by
  induction h with
  | init e s h =>
    obtain ⟨_, _, _, _, _, _, _, _, _, _, _, _, _, h14, h15, _, _, _, _, _, _, h22, h23, _, _, _, _, h28, _⟩ := g1_init_inv h
    refine ⟨s, .init e s h, ⟨rfl, ?_, ?_, fun _ h => h, fun _ h => h, fun _ => Or.inl rfl, ?_⟩, ?_⟩
    · rw [h14]; rfl
    · intro _; rw [h15]; rfl
    · intro a ha
      rw [h28] at ha; cases ha
    · intro _
      refine ⟨?_, ?_, fun _ => Or.inl rfl, ?_, fun _ _ => rfl⟩
      · intro i b _ hb
        rw [h15] at hb; cases hb
      · intro a rg hr _
        rw [h14] at hr; cases hr
      · intro a ha
        rw [h23] at ha; cases ha
  | call s r e c s' o _ h1 h2 h3 h4 ih =>
    obtain ⟨z, hz, hsim, hA⟩ := ih
    exact zg_sim_step hz hsim hA h1 h2 h3 h4
  | wait s r r' _ h1 ih =>
    obtain ⟨z, hz, hsim, hA⟩ := ih
    exact ⟨z, .wait z r r' hz h1, hsim, hA⟩

end LP

#print axioms LP.zg_sim
