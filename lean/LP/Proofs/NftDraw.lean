import LP.Proofs.StepLemmas
import LP.Proofs.Loop
import LP.Proofs.Claim
import LP.Proofs.EndpointDef
import LP.Proofs.UnorderedSet
import LP.Proofs.Leftover
/-
  The NFT side of launchpad-nft (`nf_`) and launchpad-nft-and-guaranteed-tickets (`ng_`): the
  draw loop (`nftBody`, `nftSubstep`, `selectNft`), `confirmNft`, `claimNft`, `claimNftPayment`,
  `refundNftMany`, and the non-vested claim with the NFT hook (`claimBase_nft_state`).  The draw
  moves one payer to the winners per iteration; the body is read once, on the core state `NCore`
  (`nftCoreBody_eq`), where its invariant is proved (`NInv.step`); the statements on `NSt` are its
  images under `nftBody_lift`.  `DrawRel` is what every iteration keeps relative to the lists at
  the start.
-/
namespace LP

theorem Tx.g_draw_s (hash : List Nat → List Nat) (t : Tx) (rng : Rng) : (t.draw hash rng).2.2.s = t.s := by
  rw [Tx.draw_eq]; rfl

/-! ### the draw loop on its core state -/

/-- the loop state `NSt` with the draw context (`DCtx`: hook script, draw log) in place of the
    transaction record, which the body touches nowhere else -/
structure NCore where
  payers : List Nat
  winners : List Nat
  usersLeft : Nat
  selected : Nat
  rng : Rng
  d : DCtx

def NCore.lift (t0 : Tx) (y : NCore) : NSt :=
  ⟨y.payers, y.winners, y.usersLeft, y.selected, y.rng, t0.withDctx y.d⟩

def nftCoreBody (hash : List Nat → List Nat) (total : Nat) (y : NCore) : Res (NCore × Bool) :=
  if y.usersLeft = 0 || y.selected = total then .ok (y, false) else
  match y.payers[inRange (y.d.draw hash y.rng).1 1 (y.usersLeft + 1) - 1]? with
  | none => .error (.user "index out of range (confirmedNftUserList)")
  | some w =>
    .ok (⟨(swapRemove y.payers w).1, (setInsert y.winners w).1, y.usersLeft - 1, y.selected + 1,
          (y.d.draw hash y.rng).2.1, (y.d.draw hash y.rng).2.2⟩, true)

theorem nftBody_lift (hash : List Nat → List Nat) (total : Nat) (t0 : Tx) (y : NCore) :
    nftBody hash total (NCore.lift t0 y) =
      (nftCoreBody hash total y).map (fun p => (NCore.lift t0 p.1, p.2)) := by
  unfold nftBody nftCoreBody
  by_cases h0 : (y.usersLeft = 0 || y.selected = total) = true
  · have h0' : ((NCore.lift t0 y).usersLeft = 0 || (NCore.lift t0 y).selected = total) = true := h0
    rw [if_pos h0', if_pos h0]; rfl
  · have h0' : ¬ ((NCore.lift t0 y).usersLeft = 0 || (NCore.lift t0 y).selected = total) = true := h0
    rw [if_neg h0', if_neg h0]
    simp only [NCore.lift, Tx.draw_withDctx]
    cases y.payers[inRange (y.d.draw hash y.rng).1 1 (y.usersLeft + 1) - 1]? <;> rfl

def NSt.core (x : NSt) : NCore := ⟨x.payers, x.winners, x.usersLeft, x.selected, x.rng, x.tx.dctx⟩

theorem NSt.lift_core (x : NSt) : NCore.lift x.tx x.core = x := rfl

/-- what the loop maintains: the work list has no duplicates and is disjoint from the winners,
    and the two counters are the lengths of the two lists -/
structure NInv (y : NCore) : Prop where
  nodup : y.payers.Nodup
  disj : ∀ a ∈ y.payers, a ∉ y.winners
  left : y.usersLeft = y.payers.length
  sel : y.selected = y.winners.length

def nftCoreStep (hash : List Nat → List Nat) (y : NCore) (w : Nat) : NCore :=
  ⟨(swapRemove y.payers w).1, (setInsert y.winners w).1, y.usersLeft - 1, y.selected + 1,
   (y.d.draw hash y.rng).2.1, (y.d.draw hash y.rng).2.2⟩

/-- the payer the iteration draws (0-based index into the work list) -/
def NCore.drawn (hash : List Nat → List Nat) (y : NCore) : Nat :=
  y.payers.getD (inRange (y.d.draw hash y.rng).1 1 (y.usersLeft + 1) - 1) 0

theorem NCore.drawn_get (hash : List Nat → List Nat) (y : NCore) (hl : y.usersLeft = y.payers.length)
    (h0 : y.usersLeft ≠ 0) :
    y.payers[inRange (y.d.draw hash y.rng).1 1 (y.usersLeft + 1) - 1]? = some (y.drawn hash) := by
  have h1 := inRange_ge (y.d.draw hash y.rng).1 1 (y.usersLeft + 1)
  have h2 := inRange_lt (y.d.draw hash y.rng).1 1 (y.usersLeft + 1) (by omega)
  have hlt : inRange (y.d.draw hash y.rng).1 1 (y.usersLeft + 1) - 1 < y.payers.length := by omega
  unfold NCore.drawn
  rw [List.getD_eq_getElem?_getD, List.getElem?_eq_getElem hlt]; rfl

theorem NCore.drawn_mem (hash : List Nat → List Nat) (y : NCore) (hl : y.usersLeft = y.payers.length)
    (h0 : y.usersLeft ≠ 0) : y.drawn hash ∈ y.payers :=
  List.mem_of_getElem? (y.drawn_get hash hl h0)

/-- the one reading of the body when the counter is the length of the work list (so that the index
    drawn is in range): stop, or move the payer drawn to the winners -/
theorem nftCoreBody_eq (hash : List Nat → List Nat) (total : Nat) (y : NCore)
    (hl : y.usersLeft = y.payers.length) :
    nftCoreBody hash total y =
      if y.usersLeft = 0 ∨ y.selected = total then .ok (y, false)
      else .ok (nftCoreStep hash y (y.drawn hash), true) := by
  unfold nftCoreBody
  by_cases hc : y.usersLeft = 0 ∨ y.selected = total
  · have : (y.usersLeft = 0 || y.selected = total) = true := by simpa using hc
    rw [if_pos this, if_pos hc]
  · have hcb : ¬ ((y.usersLeft = 0 || y.selected = total) = true) := by simpa using hc
    rw [if_neg hcb, if_neg hc, y.drawn_get hash hl (fun h => hc (Or.inl h))]
    rfl

/-- moving a payer to the winners keeps the invariant and the two counters in step -/
theorem NInv.step {y : NCore} (hi : NInv y) (hash : List Nat → List Nat) {w : Nat}
    (hw : w ∈ y.payers) :
    NInv (nftCoreStep hash y w) ∧ (nftCoreStep hash y w).usersLeft + 1 = y.usersLeft := by
  have hnw : w ∉ y.winners := hi.disj w hw
  have hpos : 0 < y.payers.length := List.length_pos_of_mem hw
  refine ⟨⟨swapRemove_nodup w hi.nodup, ?_, ?_, ?_⟩, ?_⟩
  · intro a ha
    have ha : a ∈ (swapRemove y.payers w).1 := ha
    rw [mem_swapRemove _ _ hi.nodup] at ha
    show a ∉ (setInsert y.winners w).1
    rw [setInsert_new hnw]
    simp only [List.mem_append, List.mem_singleton, not_or]
    exact ⟨hi.disj a ha.1, ha.2⟩
  · have := swapRemove_length hw
    show y.usersLeft - 1 = (swapRemove y.payers w).1.length
    rw [hi.left]; omega
  · show y.selected + 1 = (setInsert y.winners w).1.length
    rw [setInsert_new hnw, hi.sel]; simp
  · show y.usersLeft - 1 + 1 = y.usersLeft
    rw [hi.left]; omega

/-! ### the draw loop on the endpoint's state -/

/-- `NInv` of the core of `x` (`DrawOk.core`) and no duplicates among the winners -/
structure DrawOk (x : NSt) : Prop where
  nodupP : x.payers.Nodup
  nodupW : x.winners.Nodup
  disj : ∀ a, a ∈ x.payers → a ∉ x.winners
  left : x.usersLeft = x.payers.length
  sel : x.selected = x.winners.length

theorem DrawOk.core {x : NSt} (h : DrawOk x) : NInv x.core := ⟨h.nodupP, h.disj, h.left, h.sel⟩

def drawnRaw (hash : List Nat → List Nat) (x : NSt) : Nat := (x.tx.draw hash x.rng).1

/-- 0-based -/
def drawnIdx (hash : List Nat → List Nat) (x : NSt) : Nat :=
  inRange (drawnRaw hash x) 1 (x.usersLeft + 1) - 1

theorem drawnIdx_lt (hash : List Nat → List Nat) (x : NSt) (h : x.usersLeft = x.payers.length)
    (h0 : x.usersLeft ≠ 0) : drawnIdx hash x < x.payers.length := by
  unfold drawnIdx
  have := inRange_ge (drawnRaw hash x) 1 (x.usersLeft + 1)
  have := inRange_lt (drawnRaw hash x) 1 (x.usersLeft + 1) (by omega)
  omega

/-- the one reading of the body under `DrawOk`, where the index drawn is in range: stop, or move the payer
    at `drawnIdx` to the winners -/
theorem nftBody_eq (hash : List Nat → List Nat) (total : Nat) (x : NSt) (hx : DrawOk x) :
    nftBody hash total x =
      if x.usersLeft = 0 ∨ x.selected = total then .ok (x, false)
      else .ok (⟨(swapRemove x.payers (x.payers.getD (drawnIdx hash x) 0)).1,
                 (setInsert x.winners (x.payers.getD (drawnIdx hash x) 0)).1, x.usersLeft - 1, x.selected + 1,
                 (x.tx.draw hash x.rng).2.1, (x.tx.draw hash x.rng).2.2⟩, true) := by
  have h := nftBody_lift hash total x.tx x.core
  rw [x.lift_core, nftCoreBody_eq hash total x.core hx.left] at h
  rw [h]
  by_cases hc : x.usersLeft = 0 ∨ x.selected = total
  · rw [if_pos hc, if_pos (show x.core.usersLeft = 0 ∨ x.core.selected = total from hc)]; rfl
  · rw [if_neg hc, if_neg (show ¬ (x.core.usersLeft = 0 ∨ x.core.selected = total) from hc)]
    simp only [Except.map, NCore.lift, nftCoreStep, NCore.drawn, NSt.core, drawnIdx, drawnRaw,
      Tx.draw_eq]

theorem nftBody_stop_iff (hash : List Nat → List Nat) (total : Nat) (x x' : NSt) (hx : DrawOk x) :
    nftBody hash total x = .ok (x', false) ↔ (x.usersLeft = 0 ∨ x.selected = total) ∧ x' = x := by
  rw [nftBody_eq hash total x hx]
  by_cases hc : x.usersLeft = 0 ∨ x.selected = total
  · rw [if_pos hc]
    exact ⟨fun h => ⟨hc, by cases h; rfl⟩, fun h => by rw [h.2]⟩
  · rw [if_neg hc]
    exact ⟨fun h => (by cases h), fun h => absurd h.1 hc⟩

theorem nftBody_cont (hash : List Nat → List Nat) (total : Nat) (x x' : NSt) (hx : DrawOk x)
    (h : nftBody hash total x = .ok (x', true)) :
    x.usersLeft ≠ 0 ∧ x.selected ≠ total ∧
    ∃ (hlt : drawnIdx hash x < x.payers.length),
      x'.payers = (swapRemove x.payers (x.payers[drawnIdx hash x])).1 ∧
      x'.winners = x.winners ++ [x.payers[drawnIdx hash x]] ∧
      x'.usersLeft = x.usersLeft - 1 ∧ x'.selected = x.selected + 1 ∧
      x'.tx.s = x.tx.s ∧ x'.rng = (x.tx.draw hash x.rng).2.1 := by
  rw [nftBody_eq hash total x hx] at h
  by_cases hc : x.usersLeft = 0 ∨ x.selected = total
  · rw [if_pos hc] at h; cases h
  · rw [if_neg hc] at h
    have h0 : x.usersLeft ≠ 0 := fun h => hc (Or.inl h)
    have hlt := drawnIdx_lt hash x hx.left h0
    have hw : x.payers[drawnIdx hash x] ∉ x.winners := hx.disj _ (List.getElem_mem hlt)
    rw [FY.getD_lt _ _ hlt] at h
    cases h
    exact ⟨h0, fun h => hc (Or.inr h), hlt, rfl, congrArg Prod.fst (setInsert_new hw), rfl, rfl,
      Tx.g_draw_s hash x.tx x.rng, rfl⟩

theorem nftBody_no_error (hash : List Nat → List Nat) (total : Nat) (x : NSt) (hx : DrawOk x) :
    ∃ r, nftBody hash total x = .ok r := by
  rw [nftBody_eq hash total x hx]
  split <;> exact ⟨_, rfl⟩

/-- exactly one element `w` (the one at the drawn index) moves from `payers` to `winners` -/
theorem nftBody_cont_ok (hash : List Nat → List Nat) (total : Nat) (x x' : NSt) (hx : DrawOk x)
    (h : nftBody hash total x = .ok (x', true)) :
    DrawOk x' ∧
    ∃ w, w ∈ x.payers ∧ x.payers[drawnIdx hash x]? = some w ∧
      x'.payers.Perm (x.payers.erase w) ∧ x'.winners = x.winners ++ [w] ∧
      x'.payers.length + 1 = x.payers.length ∧ x'.winners.length = x.winners.length + 1 ∧
      (∀ a, (a ∈ x'.payers ∨ a ∈ x'.winners) ↔ (a ∈ x.payers ∨ a ∈ x.winners)) ∧
      x'.tx.s = x.tx.s := by
  obtain ⟨h0, h1, hlt, hp, hw, hl, hs, hts, _⟩ := nftBody_cont hash total x x' hx h
  have hmem : x.payers[drawnIdx hash x] ∈ x.payers := List.getElem_mem hlt
  have hget : x.payers[drawnIdx hash x]? = some (x.payers[drawnIdx hash x]) :=
    List.getElem?_eq_getElem hlt
  generalize x.payers[drawnIdx hash x] = w at hp hw hmem hget
  have hlen : x'.payers.length = x.payers.length - 1 := by rw [hp]; exact Nat.eq_sub_of_add_eq (swapRemove_length hmem)
  have hpos : 0 < x.payers.length := List.length_pos_of_mem hmem
  have hnw : w ∉ x.winners := hx.disj w hmem
  -- the invariant of the core state is kept (`NInv.step`); `winners.Nodup` is `DrawOk`'s own
  have hst := (hx.core.step hash hmem).1
  have hwi : (setInsert x.winners w).1 = x'.winners := by rw [setInsert_new hnw, hw]
  refine ⟨⟨?_, ?_, ?_, ?_, ?_⟩, w, hmem, hget, ?_, hw, by omega, by rw [hw]; simp, ?_, hts⟩
  · rw [hp]; exact hst.nodup
  · rw [hw, List.nodup_append]
    refine ⟨hx.nodupW, by simp, ?_⟩
    intro a ha b hb
    simp only [List.mem_singleton] at hb
    subst hb
    intro hab; subst hab; exact hnw ha
  · intro a ha
    rw [hp] at ha
    rw [← hwi]; exact hst.disj a ha
  · rw [hl, hp]; exact hst.left
  · rw [hs, ← hwi]; exact hst.sel
  · rw [hp]; exact swapRemove_perm _ _
  · intro a
    rw [hp, mem_swapRemove w a hx.nodupP, hw]
    simp only [List.mem_append, List.mem_singleton]
    constructor
    · rintro (⟨h, _⟩ | h | h)
      · exact Or.inl h
      · exact Or.inr h
      · subst h; exact Or.inl hmem
    · rintro (h | h)
      · by_cases ha : a = w
        · exact Or.inr (Or.inr ha)
        · exact Or.inl ⟨h, ha⟩
      · exact Or.inr (Or.inl h)

/-- what every iteration of the draw keeps, relative to the lists `P0`, `W0` at its start -/
structure DrawRel (total : Nat) (P0 W0 : List Nat) (s0 : State) (x : NSt) : Prop where
  ok : DrawOk x
  le : x.winners.length ≤ total
  sum : x.payers.length + x.winners.length = P0.length + W0.length
  union : ∀ a, (a ∈ x.payers ∨ a ∈ x.winners) ↔ (a ∈ P0 ∨ a ∈ W0)
  pre : W0 <+: x.winners
  st : x.tx.s = s0

theorem DrawRel.step {hash : List Nat → List Nat} {total : Nat} {P0 W0 : List Nat} {s0 : State}
    {x x' : NSt} (hr : DrawRel total P0 W0 s0 x) (h : nftBody hash total x = .ok (x', true)) :
    DrawRel total P0 W0 s0 x' := by
  obtain ⟨hne0, hne1, _⟩ := nftBody_cont hash total x x' hr.ok h
  obtain ⟨hok, w, hmem, _, _, hw, hl1, hl2, hun, hts⟩ := nftBody_cont_ok hash total x x' hr.ok h
  refine ⟨hok, ?_, ?_, ?_, ?_, ?_⟩
  · have := hr.le
    have := hr.ok.sel
    omega
  · have := hr.sum; omega
  · intro a; rw [hun a, hr.union a]
  · rw [hw]
    exact hr.pre.trans (List.prefix_append _ _)
  · rw [hts, hr.st]

theorem loopIter_DrawRel {hash : List Nat → List Nat} {total : Nat} {P0 W0 : List Nat} {s0 : State} :
    ∀ (n : Nat) (x x' : NSt), loopIter (nftBody hash total) n x = some x' →
      DrawRel total P0 W0 s0 x → DrawRel total P0 W0 s0 x' := by
  intro n
  induction n with
  | zero =>
    intro x x' h hr
    simp only [loopIter, Option.some.injEq] at h
    subst h; exact hr
  | succ n ih =>
    intro x x' h hr
    cases hb : nftBody hash total x with
    | error err => simp [loopIter, hb] at h
    | ok r =>
      obtain ⟨x1, c⟩ := r
      cases c
      · simp [loopIter, hb] at h
      · rw [loopIter_cont hb] at h
        exact ih x1 x' h (hr.step hb)

theorem runWhile_DrawRel {hash : List Nat → List Nat} {total : Nat} {P0 W0 : List Nat} {s0 : State} :
    ∀ (f : Nat) (b : Option Nat) (x x' : NSt) (b' : Option Nat) (st : LoopStatus),
      runWhile (nftBody hash total) f b x = .ok (x', b', st) →
      DrawRel total P0 W0 s0 x → DrawRel total P0 W0 s0 x' :=
  runWhile_preserves (DrawRel total P0 W0 s0) (nftBody hash total) (fun x x' c hb hr => by
    cases c
    · rw [((nftBody_stop_iff hash total x x' hr.ok).mp hb).2]; exact hr
    · exact hr.step hb)

/-- run to completion (any fuel, any budget) the draw leaves
    `min total (payers + winners at the start)` winners -/
theorem draw_completed {hash : List Nat → List Nat} {total : Nat} {P0 W0 : List Nat} {s0 : State}
    (f : Nat) (b : Option Nat) (x x' : NSt) (b' : Option Nat)
    (h : runWhile (nftBody hash total) f b x = .ok (x', b', .completed))
    (hr : DrawRel total P0 W0 s0 x) :
    DrawRel total P0 W0 s0 x' ∧
    x'.winners.length = min total (P0.length + W0.length) ∧
    x'.winners.Nodup ∧ (∀ a ∈ x'.winners, a ∈ P0 ∨ a ∈ W0) := by
  -- the last body call said STOP on `x'` itself
  obtain ⟨y, hr', hy⟩ := (runWhile_inv (DrawRel total P0 W0 s0) (nftBody hash total)
    (fun _ _ hb hr => hr.step hb) f b x x' b' _ h hr).2 rfl
  obtain ⟨hstop, rfl⟩ := (nftBody_stop_iff hash total y x' hr'.ok).mp hy
  refine ⟨hr', ?_, hr'.ok.nodupW, fun a ha => (hr'.union a).mp (Or.inr ha)⟩
  have h1 := hr'.ok.left
  have h2 := hr'.ok.sel
  have h3 := hr'.le
  have h4 := hr'.sum
  rw [Nat.min_def]
  split <;> omega

/-- `DrawOk` for the stored lists, from whose lengths a call reloads the two counters -/
structure NftOk (s : State) : Prop where
  nodupP : s.payers.Nodup
  nodupW : s.nftWinners.Nodup
  disj : ∀ a, a ∈ s.payers → a ∉ s.nftWinners

def drawState (s : State) (P W : List Nat) (st : LoopStatus) : State :=
  match st with
  | .completed => { s with payers := P, nftWinners := W, op := .none,
                           claimableNft := s.nftCost.amount * W.length }
  | _ => { s with payers := P, nftWinners := W }

/-- one draw call, whatever the budget; when it completes, the number of winners is
    `min availNfts (payers + winners before the call)` and `claimableNft = fee * winners` -/
theorem nftSubstep_spec {hash : List Nat → List Nat} {t t' : Tx} {rng rng' : Rng} {st : LoopStatus}
    (h : nftSubstep hash t rng = .ok (t', rng', st))
    (hok : NftOk t.s) (hle : t.s.nftWinners.length ≤ t.s.availNfts) :
    st ≠ .outOfFuel ∧
    t'.s = drawState t.s t'.s.payers t'.s.nftWinners st ∧
    NftOk t'.s ∧ t'.s.nftWinners.length ≤ t.s.availNfts ∧
    t'.s.payers.length + t'.s.nftWinners.length = t.s.payers.length + t.s.nftWinners.length ∧
    (∀ a, (a ∈ t'.s.payers ∨ a ∈ t'.s.nftWinners) ↔ (a ∈ t.s.payers ∨ a ∈ t.s.nftWinners)) ∧
    t.s.nftWinners <+: t'.s.nftWinners ∧
    (st = .completed →
      t'.s.nftWinners.length = min t.s.availNfts (t.s.payers.length + t.s.nftWinners.length)) := by
  unfold nftSubstep at h
  simp only [bind_ok_iff, Prod.exists] at h
  obtain ⟨x, b, st0, hrun, hrest⟩ := h
  have hr0 : DrawRel t.s.availNfts t.s.payers t.s.nftWinners t.s
      ⟨t.s.payers, t.s.nftWinners, t.s.payers.length, t.s.nftWinners.length, rng, t⟩ :=
    ⟨⟨hok.nodupP, hok.nodupW, hok.disj, rfl, rfl⟩, hle, rfl, fun _ => Iff.rfl,
      List.prefix_refl _, rfl⟩
  have hr := runWhile_DrawRel _ _ _ _ _ _ hrun hr0
  have hxs := hr.st
  cases st0 with
  | outOfFuel => cases hrest
  | interrupted =>
    simp only [pure_ok_iff, Prod.mk.injEq] at hrest
    obtain ⟨rfl, rfl, rfl⟩ := hrest
    refine ⟨by decide, ?_, ⟨hr.ok.nodupP, hr.ok.nodupW, hr.ok.disj⟩, hr.le, hr.sum, hr.union,
      hr.pre, fun h => by cases h⟩
    simp only [drawState, hxs]
  | completed =>
    simp only [pure_ok_iff, Prod.mk.injEq] at hrest
    obtain ⟨rfl, rfl, rfl⟩ := hrest
    have hc := draw_completed _ _ _ _ _ hrun hr0
    refine ⟨by decide, ?_, ⟨hr.ok.nodupP, hr.ok.nodupW, hr.ok.disj⟩, hr.le, hr.sum, hr.union,
      hr.pre, fun _ => hc.2.1⟩
    simp only [drawState, Tx.setS, hxs]

theorem g_selectNft_inv {hash : List Nat → List Nat} {t t' : Tx} {e : Env}
    (h : selectNft hash t e = .ok t') :
    t.s.stage e = .winnerSelection ∧ t.s.flags.selected = true ∧ t.s.flags.additional = false ∧
    ∃ (t0 t1 : Tx) (rng rng' : Rng) (st : LoopStatus),
      t0.s = t.s ∧ nftSubstep hash t0 rng = .ok (t1, rng', st) ∧
      ((st = .completed ∧
          t'.s = { t1.s with flags := { t1.s.flags with additional := true } } ∧ t'.o.ret = [0]) ∨
       (st ≠ .completed ∧ t'.s = { t1.s with op := .additional (.nft rng') } ∧ t'.o.ret = [1])) := by
  obtain ⟨hp, rng, _, h⟩ := (selectNft_iff hash t t' e).mp h
  obtain ⟨⟨t1, rng', st⟩, hsub, hfin⟩ := (bind_ok_iff _ _ _).mp h
  refine ⟨hp.stage, hp.selected, hp.notDone, selTxOf t, t1, rng, rng', st, selTxOf_s t, hsub, ?_⟩
  cases st <;> cases hfin
  · exact Or.inl ⟨rfl, rfl, rfl⟩
  · exact Or.inr ⟨by decide, rfl, rfl⟩
  · exact Or.inr ⟨by decide, rfl, rfl⟩

def nf_drawInt (s : State) (P W : List Nat) (rng : Rng) : State :=
  { s with payers := P, nftWinners := W, op := .additional (.nft rng) }

def nf_drawDone (s : State) (P W : List Nat) : State :=
  { s with payers := P, nftWinners := W, op := .none,
           claimableNft := s.nftCost.amount * W.length,
           flags := { s.flags with additional := true } }

/-- the NFT-draw part shared by `selectNft` and `secondary`: one `nftSubstep` call and the
    bookkeeping after it -/
def ng_NftTail (hash : List Nat → List Nat) (t2 : Tx) (rng : Rng) (t' : Tx) : Prop :=
  ∃ t3 rng' st, nftSubstep hash t2 rng = .ok (t3, rng', st) ∧
    ((st = .completed ∧ t'.s = { t3.s with flags := { t3.s.flags with additional := true } } ∧
        t'.o.ret = [0]) ∨
     (st ≠ .completed ∧ t'.s = { t3.s with op := .additional (.nft rng') } ∧ t'.o.ret = [1]))

/-- the draw completed (`nf_drawDone`, `ret = [0]`) or was interrupted (`nf_drawInt`, `ret = [1]`) -/
theorem ng_tail_shape {hash : List Nat → List Nat} {s : State} {t2 t' : Tx} {rng : Rng}
    (hok : NftOk s) (hle : s.nftWinners.length ≤ s.availNfts)
    (ht2 : t2.s = s) (htail : ng_NftTail hash t2 rng t') :
    ∃ P W, NftOk { s with payers := P, nftWinners := W } ∧ W.length ≤ s.availNfts ∧
      P.length + W.length = s.payers.length + s.nftWinners.length ∧
      (∀ a, (a ∈ P ∨ a ∈ W) ↔ (a ∈ s.payers ∨ a ∈ s.nftWinners)) ∧
      s.nftWinners <+: W ∧
      ((t'.s = nf_drawDone s P W ∧ t'.o.ret = [0] ∧
          W.length = min s.availNfts (s.payers.length + s.nftWinners.length)) ∨
       (∃ rng', t'.s = nf_drawInt s P W rng' ∧ t'.o.ret = [1])) := by
  obtain ⟨t3, rng', st, hsub, hfin⟩ := htail
  have hok0 : NftOk t2.s := by rw [ht2]; exact hok
  have hle0 : t2.s.nftWinners.length ≤ t2.s.availNfts := by rw [ht2]; exact hle
  obtain ⟨_, h2, h3, hWle, hlen, hun, hpre, hcomp⟩ := nftSubstep_spec hsub hok0 hle0
  rw [ht2] at h2 hWle hlen hun hpre hcomp
  refine ⟨t3.s.payers, t3.s.nftWinners, ⟨h3.nodupP, h3.nodupW, h3.disj⟩, hWle, hlen, hun, hpre, ?_⟩
  rcases hfin with ⟨hst, hs', hret⟩ | ⟨hst, hs', hret⟩
  · subst hst
    refine Or.inl ⟨?_, hret, hcomp rfl⟩
    rw [hs', h2]; rfl
  · refine Or.inr ⟨rng', ?_, hret⟩
    rw [hs', h2]
    cases st with
    | completed => exact absurd rfl hst
    | interrupted => rfl
    | outOfFuel => rfl

theorem selectNft_tail {hash : List Nat → List Nat} {t t' : Tx} {e : Env}
    (h : selectNft hash t e = .ok t') :
    t.s.stage e = .winnerSelection ∧ t.s.flags.selected = true ∧ t.s.flags.additional = false ∧
    ∃ t0 rng, t0.s = t.s ∧ ng_NftTail hash t0 rng t' := by
  obtain ⟨hst, hsel, hadd, t0, t1, rng, rng', st, h0, hsub, hfin⟩ := g_selectNft_inv h
  exact ⟨hst, hsel, hadd, t0, rng, h0, t1, rng', st, hsub, hfin⟩

theorem Pay.eq_iff (p q : Pay) :
    (p.tok == q.tok && p.nonce == q.nonce && p.amount == q.amount) = true ↔ p = q := by
  cases p; cases q
  simp [Bool.and_eq_true]
  exact and_assoc

theorem confirmNft_ok_iff (s : State) (e : Env) (s' : State) :
    confirmNft s e = .ok s' ↔
      s.stage e = .confirm ∧
      (s.sftIssuedFlag = true ∧ s.sftCreated = true ∧ s.sftRole = true) ∧
      0 < s.confirmed e.caller ∧ e.caller ∉ s.payers ∧
      egldOrSingleEsdt e = .ok s.nftCost ∧
      s' = { s with payers := s.payers ++ [e.caller] } := by
  unfold confirmNft
  by_cases hm : e.caller ∈ s.payers
  · rw [setInsert_old hm]
    simp only [bind_ok_iff, req_ok_iff, requireStage, exists_const, beq_iff_eq, Bool.false_eq_true,
      false_and, and_false, hm, not_true_eq_false]
  · rw [setInsert_new hm]
    simp only [bind_ok_iff, pure_ok_iff, req_ok_iff, requireStage, exists_const, beq_iff_eq,
      Bool.and_eq_true, decide_eq_true_eq, hm, not_false_eq_true, true_and]
    constructor
    · rintro ⟨hst, hsft, hc, p, hp, hpay, rfl⟩
      have : p = s.nftCost := (Pay.eq_iff p s.nftCost).mp (by simp [hpay])
      subst this
      exact ⟨hst, ⟨hsft.1.1, hsft.1.2, hsft.2⟩, hc, hp, rfl⟩
    · rintro ⟨hst, ⟨h1, h2, h3⟩, hc, hp, rfl⟩
      exact ⟨hst, ⟨⟨h1, h2⟩, h3⟩, hc, s.nftCost, hp, ⟨⟨rfl, rfl⟩, rfl⟩, rfl⟩

/-- category of the SFT handed out: 1 = won the draw, 2 = paid the fee and lost, 3 = did not take
    part -/
def nftCategory (s : State) (a : Nat) : Nat :=
  if a ∈ s.nftWinners then 1 else if a ∈ s.payers then 2 else 3

def claimNftResult (t : Tx) (e : Env) : Tx :=
  let k := nftCategory t.s e.caller
  if k = 2 then
    { t with s := { t.s with nftWinners := (swapRemove t.s.nftWinners e.caller).1,
                             payers := (swapRemove t.s.payers e.caller).1,
                             bal := t.s.bal.sub t.s.nftCost.tok t.s.nftCost.nonce t.s.nftCost.amount },
             o := { t.o with sfts := t.o.sfts ++ [(e.caller, 2)],
                             xfers := t.o.xfers ++ [(e.caller, t.s.nftCost)] } }
  else
    { t with s := { t.s with nftWinners := (swapRemove t.s.nftWinners e.caller).1 },
             o := { t.o with sfts := t.o.sfts ++ [(e.caller, k)] } }

theorem claimNft_eq (t : Tx) (e : Env) :
    claimNft t e =
      (let w := swapRemove t.s.nftWinners e.caller
       let t1 := t.setS { t.s with nftWinners := w.1 }
       let kt : Nat × Tx :=
         if w.2 then (1, t1) else
           let p := swapRemove t1.s.payers e.caller
           if p.2 then (2, t1.setS { t1.s with payers := p.1 }) else (3, t1)
       req kt.2.s.sftToken "Token ID not set (mysterySftTokenId)" >>= fun _ =>
       let t2 : Tx := { kt.2 with o := { kt.2.o with sfts := kt.2.o.sfts ++ [(e.caller, kt.1)] } }
       if kt.1 = 2 then t2.send e.caller t2.s.nftCost else pure t2) := by
  unfold claimNft
  rfl

theorem claimNft_ok_iff (t : Tx) (e : Env) (t' : Tx) :
    claimNft t e = .ok t' ↔
      t.s.sftToken = true ∧
      (nftCategory t.s e.caller = 2 →
        t.s.nftCost.amount ≤ t.s.bal t.s.nftCost.tok t.s.nftCost.nonce) ∧
      t' = claimNftResult t e := by
  rw [claimNft_eq]
  unfold claimNftResult nftCategory
  by_cases hw : e.caller ∈ t.s.nftWinners
  · have h1 : (swapRemove t.s.nftWinners e.caller).2 = true := (swapRemove_snd _ _).mpr hw
    simp only [h1, if_true, hw, bind_ok_iff, req_ok_iff, exists_const, Tx.setS,
      show ¬ ((1 : Nat) = 2) by decide, if_false, pure_ok_iff, false_implies, true_and]
    exact ⟨fun ⟨a, b⟩ => ⟨a, b.symm⟩, fun ⟨a, b⟩ => ⟨a, b.symm⟩⟩
  · have h1 : (swapRemove t.s.nftWinners e.caller).2 = false := by
      cases h : (swapRemove t.s.nftWinners e.caller).2
      · rfl
      · exact absurd ((swapRemove_snd _ _).mp h) hw
    by_cases hp : e.caller ∈ t.s.payers
    · have h2 : (swapRemove t.s.payers e.caller).2 = true := (swapRemove_snd _ _).mpr hp
      simp only [h1, Bool.false_eq_true, if_false, hw, hp, Tx.setS, h2, if_true, bind_ok_iff,
        req_ok_iff, exists_const, send_ok_iff, true_implies]
      constructor
      · rintro ⟨a, b, c⟩
        exact ⟨a, b, c⟩
      · rintro ⟨a, b, c⟩
        exact ⟨a, b, c⟩
    · have h2 : (swapRemove t.s.payers e.caller).2 = false := by
        cases h : (swapRemove t.s.payers e.caller).2
        · rfl
        · exact absurd ((swapRemove_snd _ _).mp h) hp
      simp only [h1, Bool.false_eq_true, if_false, hw, hp, Tx.setS, h2, bind_ok_iff,
        req_ok_iff, exists_const, show ¬ ((3 : Nat) = 2) by decide, pure_ok_iff, false_implies,
        true_and]
      exact ⟨fun ⟨a, b⟩ => ⟨a, b.symm⟩, fun ⟨a, b⟩ => ⟨a, b.symm⟩⟩

theorem claimNftResult_effect (t : Tx) (e : Env) :
    (claimNftResult t e).o.sfts = t.o.sfts ++ [(e.caller, nftCategory t.s e.caller)] ∧
    (claimNftResult t e).o.xfers =
      t.o.xfers ++ (if nftCategory t.s e.caller = 2 then [(e.caller, t.s.nftCost)] else []) ∧
    (claimNftResult t e).o.locks = t.o.locks ∧
    (claimNftResult t e).s.nftWinners = (swapRemove t.s.nftWinners e.caller).1 ∧
    (claimNftResult t e).s.payers =
      (if nftCategory t.s e.caller = 2 then (swapRemove t.s.payers e.caller).1 else t.s.payers) ∧
    (claimNftResult t e).s.bal =
      (if nftCategory t.s e.caller = 2
        then t.s.bal.sub t.s.nftCost.tok t.s.nftCost.nonce t.s.nftCost.amount else t.s.bal) ∧
    (claimNftResult t e).s.claimed = t.s.claimed ∧
    (claimNftResult t e).s.claimableNft = t.s.claimableNft ∧
    (claimNftResult t e).s.nftCost = t.s.nftCost := by
  unfold claimNftResult
  by_cases h : nftCategory t.s e.caller = 2
  · simp [h]
  · simp [h]

theorem nftCategory_iff (s : State) (a : Nat) (h : NftOk s) :
    (nftCategory s a = 1 ↔ a ∈ s.nftWinners) ∧
    (nftCategory s a = 2 ↔ a ∈ s.payers) ∧
    (nftCategory s a = 3 ↔ a ∉ s.nftWinners ∧ a ∉ s.payers) := by
  unfold nftCategory
  by_cases hw : a ∈ s.nftWinners
  · have hp : a ∉ s.payers := fun hp => h.disj a hp hw
    simp [hw, hp]
  · by_cases hp : a ∈ s.payers <;> simp [hw, hp]

/-- a further `claimNft` would be category 3 -/
theorem claimNftResult_category (t : Tx) (e : Env) (h : NftOk t.s) :
    nftCategory (claimNftResult t e).s e.caller = 3 ∧ NftOk (claimNftResult t e).s := by
  have heff := claimNftResult_effect t e
  obtain ⟨-, -, -, hW, hP, -⟩ := heff
  have hcat := nftCategory_iff t.s e.caller h
  have hnw : e.caller ∉ (claimNftResult t e).s.nftWinners := by
    rw [hW]; exact not_mem_swapRemove_self _ h.nodupW
  have hnp : e.caller ∉ (claimNftResult t e).s.payers := by
    rw [hP]
    by_cases h2 : nftCategory t.s e.caller = 2
    · simp only [h2, if_true]; exact not_mem_swapRemove_self _ h.nodupP
    · simp only [h2, if_false]
      intro hp; exact h2 (hcat.2.1.mpr hp)
  have hok : NftOk (claimNftResult t e).s := by
    refine ⟨?_, ?_, ?_⟩
    · rw [hP]; split
      · exact swapRemove_nodup _ h.nodupP
      · exact h.nodupP
    · rw [hW]; exact swapRemove_nodup _ h.nodupW
    · intro a ha
      rw [hW, mem_swapRemove _ _ h.nodupW]
      rw [hP] at ha
      have ha' : a ∈ t.s.payers := by
        split at ha
        · exact ((mem_swapRemove _ _ h.nodupP).mp ha).1
        · exact ha
      intro hcon
      exact h.disj a ha' hcon.1
  refine ⟨?_, hok⟩
  unfold nftCategory
  simp [hnw, hnp]

theorem claimNftPayment_ok_iff (t : Tx) (e : Env) (t' : Tx) :
    claimNftPayment t e = .ok t' ↔
      t.s.stage e = .claim ∧
      t.s.claimableNft ≤ t.s.bal t.s.nftCost.tok t.s.nftCost.nonce ∧
      t' = (if t.s.claimableNft > 0 then
              { t with s := { t.s with claimableNft := 0,
                                       bal := t.s.bal.sub t.s.nftCost.tok t.s.nftCost.nonce t.s.claimableNft },
                       o := { t.o with xfers := t.o.xfers ++
                                [(e.caller, { t.s.nftCost with amount := t.s.claimableNft })] } }
            else t) := by
  unfold claimNftPayment
  by_cases hc : t.s.claimableNft > 0
  · simp only [hc, if_true, bind_ok_iff, req_ok_iff, requireStage, exists_const, beq_iff_eq,
      pure_ok_iff, send_ok_iff]
    constructor
    · rintro ⟨hst, t1, ⟨hb, rfl⟩, rfl⟩
      exact ⟨hst, hb, rfl⟩
    · rintro ⟨hst, hb, rfl⟩
      exact ⟨hst, _, ⟨hb, rfl⟩, rfl⟩
  · have h0 : t.s.claimableNft = 0 := by omega
    simp only [hc, if_false, bind_ok_iff, req_ok_iff, requireStage, exists_const, beq_iff_eq,
      pure_ok_iff]
    exact ⟨fun ⟨a, b⟩ => ⟨a, by omega, b.symm⟩, fun ⟨a, _, b⟩ => ⟨a, b.symm⟩⟩

/-- the fee-token balance drops by exactly `fee × (number of users removed from payers)` -/
theorem refundNftMany_recon : ∀ (l : List Nat) {t t' : Tx}, refundNftMany l t = .ok t' →
    t'.s.bal t.s.nftCost.tok t.s.nftCost.nonce + t.s.nftCost.amount * t.s.payers.length
      = t.s.bal t.s.nftCost.tok t.s.nftCost.nonce + t.s.nftCost.amount * t'.s.payers.length ∧
    t'.s.payers.length ≤ t.s.payers.length ∧
    t'.s.nftCost = t.s.nftCost ∧ t'.s.nftWinners = t.s.nftWinners ∧
    t'.s.claimableNft = t.s.claimableNft ∧ t'.s.flags = t.s.flags ∧
    (∀ tok n, ¬ (tok = t.s.nftCost.tok ∧ n = t.s.nftCost.nonce) → t'.s.bal tok n = t.s.bal tok n)
  | [], t, t', h => by
    simp only [refundNftMany, Except.ok.injEq] at h
    subst h
    exact ⟨rfl, Nat.le_refl _, rfl, rfl, rfl, rfl, fun _ _ _ => rfl⟩
  | u :: rest, t, t', h => by
    unfold refundNftMany at h
    simp only at h
    split at h
    · rename_i hdid
      split at h
      · cases h
      · rename_i t1 h1
        rw [send_ok_iff] at h1
        obtain ⟨hb, rfl⟩ := h1
        have hu : u ∈ t.s.payers := (swapRemove_snd _ _).mp hdid
        have hlen := Nat.eq_sub_of_add_eq (swapRemove_length hu)
        have hpos : 0 < t.s.payers.length := List.length_pos_of_mem hu
        obtain ⟨a1, a2, a3, a4, a5, a6, a7⟩ := refundNftMany_recon rest h
        simp only [sendResult, Tx.setS] at a1 a2 a3 a4 a5 a6 a7 hb
        refine ⟨?_, by omega, a3, a4, a5, a6, ?_⟩
        · rw [hlen] at a1
          simp only [Bal.sub, and_self, if_true] at a1
          have hm : t.s.nftCost.amount * t.s.payers.length
              = t.s.nftCost.amount * (t.s.payers.length - 1) + t.s.nftCost.amount := by
            rw [← Nat.mul_succ]; congr 1; omega
          omega
        · intro tok n hne
          rw [a7 tok n hne]
          simp [Bal.sub, hne]
    · exact refundNftMany_recon rest h

/-- `claimNftResult` on the state, as one update: the caller leaves the list of the drawn, and —
    category 2 — the list of payers with the fee handed back -/
theorem claimNftResult_state (t : Tx) (e : Env) :
    (claimNftResult t e).s =
      { t.s with
        nftWinners := (swapRemove t.s.nftWinners e.caller).1,
        payers := if nftCategory t.s e.caller = 2 then (swapRemove t.s.payers e.caller).1
                  else t.s.payers,
        bal := t.s.bal.sub t.s.nftCost.tok t.s.nftCost.nonce
          (if nftCategory t.s e.caller = 2 then t.s.nftCost.amount else 0) } := by
  unfold claimNftResult
  by_cases h : nftCategory t.s e.caller = 2
  · simp only [h, if_true]
  · simp only [h, if_false, Bal.sub_zero]

/-- **the state side of an accepted non-vested claim with the NFT hook** (`Variant.nft`,
    `Variant.nftGuar`): the settled state with the refund and the winners' launchpad tokens
    deducted (`claimBase` up to the hook, direct delivery: no lock), then the caller out of the
    NFT lists and the fee refunded for category 2 -/
theorem claimBase_nft_state {t t' : Tx} {e : Env} (hn : t.s.variant.hasNft = true)
    (h : claimBase t e = .ok t') :
    ∃ r, ClaimPre t e r ∧
      countWinning t.s.status r.first (rangeLen r) * t.s.perTicket ≤
        (t.s.bal.sub t.s.payTok 0 (t.s.price *
          (t.s.confirmed e.caller - countWinning t.s.status r.first (rangeLen r)))) (.esdt t.s.lpTok) 0 ∧
      t.s.sftToken = true ∧
      (nftCategory t.s e.caller = 2 → t.s.nftCost.amount ≤
        ((t.s.bal.sub t.s.payTok 0 (t.s.price *
            (t.s.confirmed e.caller - countWinning t.s.status r.first (rangeLen r)))).sub
          (.esdt t.s.lpTok) 0 (countWinning t.s.status r.first (rangeLen r) * t.s.perTicket))
          t.s.nftCost.tok t.s.nftCost.nonce) ∧
      t'.s = { settledState t.s e.caller r with
        nftWinners := (swapRemove t.s.nftWinners e.caller).1,
        payers := if nftCategory t.s e.caller = 2 then (swapRemove t.s.payers e.caller).1
                  else t.s.payers,
        bal := ((t.s.bal.sub t.s.payTok 0 (t.s.price *
              (t.s.confirmed e.caller - countWinning t.s.status r.first (rangeLen r)))).sub
            (.esdt t.s.lpTok) 0 (countWinning t.s.status r.first (rangeLen r) * t.s.perTicket)).sub
          t.s.nftCost.tok t.s.nftCost.nonce
          (if nftCategory t.s e.caller = 2 then t.s.nftCost.amount else 0) } := by
  obtain ⟨r, hpre, t2, h2, h3⟩ := (claimBase_ok_iff t e t').mp h
  have hm := claimMid_state t e r
  have hl : (claimMid t e r).s.variant.hasLock = false := by rw [hm]; exact (hasNft_flags hn).1
  obtain ⟨hle, rfl⟩ := (sendLaunchpadTokens_nolock_ok_iff _ e _ _ _ hl).mp h2
  have hs2 := sendTokensResult_state (claimMid t e r) e.caller
    (countWinning t.s.status r.first (rangeLen r))
  rw [hm] at hle hs2
  have hv2 : (sendTokensResult (claimMid t e r) e.caller
      (countWinning t.s.status r.first (rangeLen r))).s.variant = t.s.variant := by rw [hs2]; rfl
  rw [hv2, hn, if_pos rfl, claimNft_ok_iff, hs2] at h3
  obtain ⟨hsft, hfee, rfl⟩ := h3
  refine ⟨r, hpre, hle, hsft, hfee, ?_⟩
  rw [claimNftResult_state, hs2]
  rfl

end LP
