import LP.Proofs.Claim
import LP.Proofs.Vesting
import LP.Proofs.Events
/-
  The vested claim (`guarV1`, `guarV2`), read once: `claimVested` is the pause check (v2),
  `claimSettle`, the claimable amount, `claimPay` (`claimVested_ok_iff`, LP/Proofs/Vesting.lean).
  `claimSettle` is the identity for a settled caller and otherwise `claimMid` (settle and refund, as
  in the non-vested claim) with the entitlement booked (`claimSettle_ok_iff`); `claimPay` is one
  transfer and one booking (`claimPay_state`).  What the users read off these: the fields kept
  (`claimSettle_frame`, `claimVested_inv`), the state (`claimVested_state`), the output
  (`claimSettle_out`, `claimVested_events`; the transfers are `claimVested_out` in PayOut.lean).
-/
namespace LP

/-- the first-claim part of a vested claim: settle, refund, `won × perTicket` booked as the
    caller's entitlement (the contract skips the write when nothing was won) -/
def claimSettled (t : Tx) (e : Env) (r : Range) : Tx :=
  if countWinning t.s.status r.first (rangeLen r) > 0 then
    (claimMid t e r).setS { (claimMid t e r).s with
      userTotal := upd (claimMid t e r).s.userTotal e.caller
        (countWinning t.s.status r.first (rangeLen r) * (claimMid t e r).s.perTicket) }
  else claimMid t e r

theorem claimSettle_ok_iff (t : Tx) (e : Env) (t1 : Tx) :
    claimSettle t e = .ok t1 ↔
      (t.s.claimed e.caller = true ∧ t1 = t) ∨ ∃ r, ClaimPre t e r ∧ t1 = claimSettled t e r := by
  unfold claimSettle claimSettled ClaimPre claimMid
  cases hcl : t.s.claimed e.caller with
  | true =>
    simp only [if_true, pure_ok_iff, true_and, Bool.true_eq_false, false_and, and_false,
      exists_false, or_false]
    exact eq_comm
  | false =>
    simp only [Bool.false_eq_true, if_false, bind_ok_iff, Prod.exists, settle_ok_iff, refund_ok_iff,
      pure_ok_iff, false_and, false_or, hcl, true_and]
    constructor
    · rintro ⟨s1, rd, rf, ⟨hst, r, hr, hrd, hnw, hle, hrf, hs1⟩, t0, ⟨hb, ht0⟩, h⟩
      subst hrd hrf hs1 ht0 h
      exact ⟨r, ⟨hst, hr, hnw, hle, hb⟩, rfl⟩
    · rintro ⟨r, ⟨hst, hr, hnw, hle, hb⟩, rfl⟩
      exact ⟨_, _, _, ⟨hst, r, hr, rfl, hnw, hle, rfl, rfl⟩, _, ⟨hb, rfl⟩, rfl⟩

theorem claimSettled_state (t : Tx) (e : Env) (r : Range) :
    (claimSettled t e r).s =
      { settledState t.s e.caller r with
        bal := t.s.bal.sub t.s.payTok 0
          (t.s.price * (t.s.confirmed e.caller - countWinning t.s.status r.first (rangeLen r))),
        userTotal := if countWinning t.s.status r.first (rangeLen r) > 0
          then upd t.s.userTotal e.caller (countWinning t.s.status r.first (rangeLen r) * t.s.perTicket)
          else t.s.userTotal } := by
  unfold claimSettled
  by_cases hk : countWinning t.s.status r.first (rangeLen r) > 0
  · rw [if_pos hk, if_pos hk]
    show ({ (claimMid t e r).s with userTotal := _ } : State) = _
    rw [claimMid_state]
    rfl
  · rw [if_neg hk, if_neg hk, claimMid_state]
    rfl

/-- what the first-claim part keeps; it is the identity once the caller has settled -/
theorem claimSettle_frame {t t1 : Tx} {e : Env} (h : claimSettle t e = .ok t1) :
    t1.s.userClaimed = t.s.userClaimed ∧ t1.s.sched1 = t.s.sched1 ∧ t1.s.sched2 = t.s.sched2 ∧
    (∀ a, a ≠ e.caller → t1.s.userTotal a = t.s.userTotal a) ∧
    (t.s.claimed e.caller = true → t1 = t) ∧
    (t.s.claimed e.caller = false → t.s.stage e = .claim) := by
  rcases (claimSettle_ok_iff t e t1).mp h with ⟨hcl, rfl⟩ | ⟨r, ⟨hst, hcl, _⟩, rfl⟩
  · exact ⟨rfl, rfl, rfl, fun _ _ => rfl, fun _ => rfl, fun h => absurd (hcl.symm.trans h) nofun⟩
  · rw [claimSettled_state]
    refine ⟨rfl, rfl, rfl, fun a ha => ?_, fun h => absurd (h.symm.trans hcl) nofun, fun _ => hst⟩
    show (if _ then upd _ _ _ else _) a = _
    split
    · exact upd_other _ _ _ _ ha
    · rfl

/-- `claimSettle` keeps `userClaimed` and is the identity once the caller has settled -/
theorem claimSettle_carry {t t1 : Tx} {e : Env} (h : claimSettle t e = .ok t1) {P : Tx → Prop}
    (hinv : t.s.userClaimed e.caller = 0 ∨ (t.s.claimed e.caller = true ∧ P t)) :
    t1.s.userClaimed e.caller = 0 ∨ P t1 := by
  obtain ⟨f1, -, -, -, f5, -⟩ := claimSettle_frame h
  rcases hinv with h0 | ⟨hcl, hp⟩
  · exact .inl (by rw [f1, h0])
  · exact .inr (f5 hcl ▸ hp)

/-- what the first-claim part sends and logs: the refund of the losing confirmed tickets, once -/
theorem claimSettle_out {t t1 : Tx} {e : Env} (h : claimSettle t e = .ok t1) :
    t1.s.lpTok = t.s.lpTok ∧
    t1.o = { t.o with
      xfers := t.o.xfers ++
        (if t.s.claimed e.caller = false ∧ t.s.confirmed e.caller - winCount t.s e.caller ≠ 0
         then [(e.caller, (⟨t.s.payTok, 0,
            t.s.price * (t.s.confirmed e.caller - winCount t.s e.caller)⟩ : Pay))] else []),
      events := t.o.events ++
        (if t.s.claimed e.caller = false then Events.refundEvents t.s e else []) } := by
  rcases (claimSettle_ok_iff t e t1).mp h with ⟨hcl, rfl⟩ | ⟨r, ⟨_, hcl, hr, _⟩, rfl⟩
  · simp [hcl]
  · have ho : (claimSettled t e r).o = (claimMid t e r).o := by unfold claimSettled; split <;> rfl
    have hw : winCount t.s e.caller = countWinning t.s.status r.first (rangeLen r) := by
      rw [winCount, hr]
    refine ⟨by rw [claimSettled_state]; rfl, ?_⟩
    rw [ho, claimMid_o, ← hw, Events.refundEvents]
    by_cases hz : t.s.confirmed e.caller - winCount t.s e.caller = 0
    · simp [hcl, hz]
    · simp [hcl, hz, Nat.pos_of_ne_zero hz, refundEvent, Events.refundEv]

theorem claimPay_state {v2 : Bool} {t t' : Tx} {e : Env} {c : Nat} (h : claimPay v2 t e c = .ok t') :
    t'.s = { t.s with bal := t.s.bal.sub (.esdt t.s.lpTok) 0 c,
                      userClaimed := upd t.s.userClaimed e.caller (t.s.userClaimed e.caller + c) } ∧
    c ≤ t.s.bal (.esdt t.s.lpTok) 0 ∧
    t'.o.xfers = t.o.xfers ++ (if c > 0 then [(e.caller, ⟨.esdt t.s.lpTok, 0, c⟩)] else []) := by
  unfold claimPay at h
  by_cases hpos : c > 0
  · simp only [hpos, if_true, bind_ok_iff, pure_ok_iff] at h ⊢
    obtain ⟨t1, hs, rfl⟩ := h
    obtain ⟨hle, rfl⟩ := (send_ok_iff _ _ _ _).mp hs
    cases v2 <;> exact ⟨rfl, hle, rfl⟩
  · simp only [hpos, if_false, pure_ok_iff] at h ⊢
    subst h
    have hc : c = 0 := by omega
    subst hc
    refine ⟨?_, Nat.zero_le _, (List.append_nil _).symm⟩
    rw [Bal.sub_zero, Nat.add_zero, LP.Events.upd_self_val]

/-- a vesting claim (first or repeat): the claimable amount `c` is computed on the state `t1` after
    the settle part -/
theorem claimVested_inv {t t' : Tx} {e : Env} (h : claimVested t e = .ok t') :
    ∃ t1 c, claimSettle t e = .ok t1 ∧
      (if t.s.variant.isV2 then claimable2 t1.s e e.caller else claimable1 t1.s e e.caller) = .ok c ∧
      t'.s.userClaimed e.caller = t.s.userClaimed e.caller + c ∧
      (∀ a, a ≠ e.caller → t'.s.userClaimed a = t.s.userClaimed a) ∧
      t'.s.userTotal = t1.s.userTotal ∧ t'.s.sched1 = t.s.sched1 ∧ t'.s.sched2 = t.s.sched2 ∧
      t'.o.xfers = t1.o.xfers ++ (if c > 0 then [(e.caller, ⟨.esdt t1.s.lpTok, 0, c⟩)] else []) := by
  obtain ⟨-, t1, c, h1, hc, hp⟩ := (claimVested_ok_iff t e t').mp h
  obtain ⟨f1, f2, f3, -⟩ := claimSettle_frame h1
  obtain ⟨hs, -, hx⟩ := claimPay_state hp
  rw [hs, ← f1, ← f2, ← f3]
  exact ⟨t1, c, h1, hc, upd_same .., fun a ha => upd_other _ _ _ _ ha, rfl, rfl, rfl, hx⟩

theorem claimVested_repeat {t t' : Tx} {e : Env} (hcl : t.s.claimed e.caller = true)
    (h : claimVested t e = .ok t') :
    ∃ c, claimableV t.s e e.caller = .ok c ∧
      t'.s.userClaimed e.caller = t.s.userClaimed e.caller + c ∧
      (∀ a, a ≠ e.caller → t'.s.userClaimed a = t.s.userClaimed a) ∧
      t'.s.userTotal = t.s.userTotal ∧ t'.s.sched1 = t.s.sched1 ∧ t'.s.sched2 = t.s.sched2 ∧
      t'.o.xfers = t.o.xfers ++ (if c > 0 then [(e.caller, ⟨.esdt t.s.lpTok, 0, c⟩)] else []) := by
  obtain ⟨t1, c, h1, hc, hrest⟩ := claimVested_inv h
  obtain rfl := (claimSettle_frame h1).2.2.2.2.1 hcl
  exact ⟨c, hc, hrest⟩

theorem claimVested_state {s : State} {e : Env} {t : Tx} (h : claimVested (rbTx s e) e = .ok t) :
    ∃ t1 c, claimSettle (rbTx s e) e = .ok t1 ∧
      (if s.variant.isV2 then claimable2 t1.s e e.caller else claimable1 t1.s e e.caller) = .ok c ∧
      t.s = { t1.s with bal := t1.s.bal.sub (.esdt t1.s.lpTok) 0 c,
                        userClaimed := upd t1.s.userClaimed e.caller (t1.s.userClaimed e.caller + c) } ∧
      c ≤ t1.s.bal (.esdt t1.s.lpTok) 0 := by
  obtain ⟨-, t1, c, h1, hc, hp⟩ := (claimVested_ok_iff _ e t).mp h
  exact ⟨t1, c, h1, hc, (claimPay_state hp).1, (claimPay_state hp).2.1⟩

/-- the events of a vesting claim, first or repeat, guarV1 or guarV2 -/
theorem claimVested_events {t t' : Tx} {e : Env} (h : claimVested t e = .ok t') :
    t'.o.events = t.o.events ++ Events.claimEvents t.s t'.s e := by
  obtain ⟨-, t1, c, h1, -, hb⟩ := (claimVested_ok_iff t e t').mp h
  have hc : t'.s.userClaimed e.caller - t.s.userClaimed e.caller = c := by
    rw [(claimPay_state hb).1, ← (claimSettle_frame h1).1]
    show upd _ _ _ e.caller - _ = c
    rw [upd_same]; omega
  obtain ⟨hlp, ho⟩ := claimSettle_out h1
  have hev1 : t1.o.events = _ := congrArg Out.events ho
  rw [Events.claimPay_events hb, hev1, Events.claimEvents, Events.releaseEvents, hc, List.append_assoc]
  simp only [Events.claimEv, hlp]

end LP
