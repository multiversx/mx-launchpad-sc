import LP.Proofs.ReachPL3
import LP.Proofs.ReachV1Final
import LP.Proofs.ReachBEAll
/-
  What a participant of a launchpad with a lock (`Variant.locked`, `Variant.lockedGuar`; prefix
  `lk_`) receives over any history, for `LP/Props/C16reach.lean`: only his own `claim` reaches
  him, split between the lock contract and a direct transfer, and a second claim is rejected.
  `lk_runLog` (the accepted transactions of a history, with outputs; `lk_log_rec`, `tf_split`),
  `cr_paid` (what a list of transfers sends an address in one token; `directTo` is its instance at
  the launchpad token, `cr_directTo_eq`), `received`, `totalReceived`, `isClaimBy` and
  `lk_init_noConf` do not depend on the lock and serve every variant.
-/
namespace LP
open LP.FY LP.Props.C09

/-! ### the split of a settlement, any variant with a lock -/

/-- the outputs of an accepted `claim` of a variant with a lock.  `pl_lockedAmt s e amount` is
    `lockSplit amount lockPct` before the unlock epoch and `0` from it on. -/
theorem lk_claim_locked_out {hash : List Nat → List Nat} {s s' : State} {e : Env} {o : Out}
    (hl : s.variant.hasLock = true) (hp : s.lockPct ≤ 10000)
    (hs : step hash s e .claim = .ok (s', o)) :
    o.locks = (if pl_lockedAmt s e (winCountOf s e.caller * s.perTicket) > 0
      then [(s.unlockEpoch, e.caller, pl_lockedAmt s e (winCountOf s e.caller * s.perTicket))] else []) ∧
    o.xfers = refundXfers s e.caller
      ++ (if pl_lockedAmt s e (winCountOf s e.caller * s.perTicket) > 0
          then [(s.lockAddr, (⟨.esdt s.lpTok, 0,
            pl_lockedAmt s e (winCountOf s e.caller * s.perTicket)⟩ : Pay))] else [])
      ++ (if winCountOf s e.caller * s.perTicket
            - pl_lockedAmt s e (winCountOf s e.caller * s.perTicket) > 0
          then [(e.caller, (⟨.esdt s.lpTok, 0, winCountOf s e.caller * s.perTicket
            - pl_lockedAmt s e (winCountOf s e.caller * s.perTicket)⟩ : Pay))] else []) ∧
    pl_lockedAmt s e (winCountOf s e.caller * s.perTicket)
      + (winCountOf s e.caller * s.perTicket - pl_lockedAmt s e (winCountOf s e.caller * s.perTicket))
      = winCountOf s e.caller * s.perTicket := by
  obtain ⟨hvest, hnft, _⟩ := lk_hasLock_flags hl
  have hle := pl_lockedAmt_le hp e (winCountOf s e.caller * s.perTicket)
  have hx : o.xfers = claimXfers s e := (step_xfers hs).trans (if_neg (by rw [hvest]; nofun))
  have hk : o.locks = lpLocksN s e e.caller (winCount s e.caller) :=
    (step_locks_sfts hs).1.trans (if_neg (by rw [hvest]; nofun))
  rw [winCountOf_eq] at hle ⊢
  exact ⟨by rw [hk, lpLocksN_lock hl],
    by rw [hx, claimXfers, lpXfersN_lock hl, feeXfers_noNft hnft, List.append_nil, List.append_assoc],
    by omega⟩

theorem lk_claim_state {hash : List Nat → List Nat} {s s' : State} {e : Env} {o : Out}
    (hl : s.variant.hasLock = true) (hp : s.lockPct ≤ 10000) (hne : s.payTok ≠ .esdt s.lpTok)
    (hs : step hash s e .claim = .ok (s', o)) :
    s.stage e = .claim ∧ s.claimed e.caller = false ∧ (∃ rg, s.range e.caller = some rg) ∧
    winCountOf s e.caller ≤ s.nrWinning ∧
    s.perTicket * winCountOf s e.caller ≤ s.bal (.esdt s.lpTok) 0 ∧
    s'.nrWinning = s.nrWinning - winCountOf s e.caller ∧
    s'.bal (.esdt s'.lpTok) 0 = s.bal (.esdt s.lpTok) 0 - s.perTicket * winCountOf s e.caller ∧
    s'.perTicket = s.perTicket ∧ s'.range e.caller = none ∧ s'.claimed e.caller = true := by
  obtain ⟨hvest, _, _⟩ := lk_hasLock_flags hl
  obtain ⟨r, nl, nd, hacc, hs', _⟩ := claim_lock_effect hash s e s' o hvest hl hp hs
  obtain ⟨k1, k2, k3, k4⟩ := pl_claimAccepts_lp hne hacc
  have hw := winCount_of_range k2
  rw [winCountOf_eq, Nat.mul_comm]
  refine ⟨k1, hacc.2.2.2.1, ⟨r, k2⟩, k3, k4, ?_, ?_, ?_, ?_, ?_⟩
  · rw [hs', hw]; rfl
  · rw [hs']
    show balAfterClaim s e.caller (.esdt s.lpTok) 0 = _
    rw [pl_balAfterClaim_lp hne]
  · rw [hs']; rfl
  · rw [hs']; show upd s.range e.caller none e.caller = none; simp
  · rw [hs']; show upd s.claimed e.caller true e.caller = true; simp

theorem lk_run_terms (hash : List Nat → List Nat) (s : State) (h : List (Env × Call)) :
    (run hash s h).lockPct = s.lockPct ∧ (run hash s h).unlockEpoch = s.unlockEpoch ∧
    (run hash s h).lockAddr = s.lockAddr ∧ (run hash s h).variant = s.variant ∧
    (run hash s h).lpTok = s.lpTok ∧ (run hash s h).owner = s.owner :=
  run_induct hash
    (fun x => x.lockPct = s.lockPct ∧ x.unlockEpoch = s.unlockEpoch ∧ x.lockAddr = s.lockAddr ∧
      x.variant = s.variant ∧ x.lpTok = s.lpTok ∧ x.owner = s.owner)
    (fun _ _ _ _ _ ⟨h1, h2, h3, h4, h5, h6⟩ hx =>
      ⟨(step_lockPct hx).trans h1, (step_lockAddr hx).2.trans h2, (step_lockAddr hx).1.trans h3,
        (step_variant hx).trans h4, (step_lpTok hx).trans h5, (step_owner hx).trans h6⟩)
    h s ⟨rfl, rfl, rfl, rfl, rfl, rfl⟩

theorem lk_run_tokNe (hash : List Nat → List Nat) (s : State) (h : List (Env × Call))
    (hne : s.payTok ≠ .esdt s.lpTok) : (run hash s h).payTok ≠ .esdt (run hash s h).lpTok :=
  run_induct hash (fun x => x.payTok ≠ .esdt x.lpTok) (fun _ _ _ _ _ hp hx => step_tokNe hx hp) h s hne

/-! ## lock calls: only the `claim` of a variant with a lock writes `Out.locks` -/

theorem lk_step_locks {hash : List Nat → List Nat} {s s' : State} {e : Env} {c : Call} {o : Out}
    (hc : c = .claim → s.variant.hasLock = false) (h : step hash s e c = .ok (s', o)) :
    o.locks = [] := by
  rw [(step_locks_sfts h).1]
  cases c <;> first | rfl | skip
  show (if s.variant.vested = true then [] else lpLocksN s e e.caller (winCount s e.caller)) = []
  split
  · rfl
  · exact lpLocksN_noLock (hc rfl) ..

/-! ## launchpad-token receipts: the log, the sums, and what one accepted call brings -/

/-- kept by every accepted call (`lk_step_static`) -/
structure LkStatic (s : State) : Prop where
  lock : s.variant.hasLock = true
  pct : s.lockPct ≤ 10000
  tokNe : s.payTok ≠ .esdt s.lpTok

theorem lk_step_static {hash : List Nat → List Nat} {s s' : State} {e : Env} {c : Call} {o : Out}
    (h : LkStatic s) (hs : step hash s e c = .ok (s', o)) : LkStatic s' :=
  ⟨by rw [step_variant hs]; exact h.lock, by rw [step_lockPct hs]; exact h.pct,
    step_tokNe hs h.tokNe⟩

/-- the two senders besides `claim`: blacklist refunds (payment token) and `claimPayment` (to the
    owner) -/
theorem lk_step_xfers_other {hash : List Nat → List Nat} {s s' : State} {e : Env} {c : Call} {o : Out}
    (hS : LkStatic s) (hc : c ≠ .claim) (hs : step hash s e c = .ok (s', o)) :
    ∀ x ∈ o.xfers, x.2.tok = s.payTok ∨ x.1 = s.owner := by
  obtain ⟨_, hnft, _⟩ := lk_hasLock_flags hS.lock
  rw [step_xfers hs]
  intro x hx
  cases c <;> try (cases hx; done)
  case claim => exact absurd rfl hc
  case claimPayment => exact .inr ((paymentXfers_mem hx).trans (step_claimPayment_owner hs))
  case blacklist l =>
    rcases List.mem_append.mp hx with hx | hx
    · exact .inl (blXfer_mem hx).2
    · rw [if_neg (by rw [hnft]; nofun)] at hx; cases hx
  case refundUsers l => exact .inl (blXfer_mem hx).2

/-- the accepted transactions of a history, each with the state it ran in and its outputs -/
def lk_runLog (hash : List Nat → List Nat) : State → List (Env × Call) → List (State × Env × Call × Out)
  | _, [] => []
  | s, (e, c) :: rest =>
    match step hash s e c with
    | .ok (s', o) => (s, e, c, o) :: lk_runLog hash s' rest
    | .error _ => lk_runLog hash s rest

/-- amount locked for destination `a` by a list of lock calls -/
def lockedFor (a : Nat) : List (Nat × Nat × Nat) → Nat
  | [] => 0
  | l :: rest => (if l.2.1 = a then l.2.2 else 0) + lockedFor a rest

/-- amount of the fungible token `lp` sent directly to `a` by a list of transfers -/
def directTo (lp a : Nat) : List (Nat × Pay) → Nat
  | [] => 0
  | x :: rest =>
    (if x.1 = a ∧ x.2.tok = .esdt lp ∧ x.2.nonce = 0 then x.2.amount else 0) + directTo lp a rest

def received (lp a : Nat) (o : Out) : Nat := lockedFor a o.locks + directTo lp a o.xfers

def totalReceived (lp a : Nat) : List (State × Env × Call × Out) → Nat
  | [] => 0
  | x :: rest => received lp a x.2.2.2 + totalReceived lp a rest

def isClaimBy (a : Nat) (x : State × Env × Call × Out) : Bool :=
  match x.2.2.1 with
  | .claim => x.2.1.caller == a
  | _ => false

theorem isClaimBy_iff (a : Nat) (s : State) (e : Env) (c : Call) (o : Out) :
    isClaimBy a (s, e, c, o) = true ↔ c = .claim ∧ e.caller = a := by
  cases c <;> simp [isClaimBy]

/-- amount of the fungible token `tok` (nonce 0) sent to `a` by a list of transfers -/
def cr_paid (tok : Token) (a : Nat) : List (Nat × Pay) → Nat
  | [] => 0
  | x :: rest =>
    (if x.1 = a ∧ x.2.tok = tok ∧ x.2.nonce = 0 then x.2.amount else 0) + cr_paid tok a rest

theorem cr_paid_append (tok : Token) (a : Nat) (l1 l2 : List (Nat × Pay)) :
    cr_paid tok a (l1 ++ l2) = cr_paid tok a l1 + cr_paid tok a l2 := by
  induction l1 with
  | nil => simp [cr_paid]
  | cons x rest ih => simp only [List.cons_append, cr_paid, ih]; omega

theorem cr_paid_zero (tok : Token) (a : Nat) (l : List (Nat × Pay))
    (h : ∀ x ∈ l, ¬ (x.1 = a ∧ x.2.tok = tok ∧ x.2.nonce = 0)) : cr_paid tok a l = 0 := by
  induction l with
  | nil => rfl
  | cons x rest ih =>
    simp only [cr_paid]
    rw [if_neg (h x (List.mem_cons_self ..)), ih (fun y hy => h y (List.mem_cons_of_mem _ hy))]

theorem cr_paid_single (tok : Token) (a b : Nat) (p : Pay) :
    cr_paid tok a [(b, p)] = if b = a ∧ p.tok = tok ∧ p.nonce = 0 then p.amount else 0 := by
  simp [cr_paid]

theorem cr_paid_ite (tok : Token) (a : Nat) (c : Prop) [Decidable c] (l : List (Nat × Pay)) :
    cr_paid tok a (if c then l else []) = if c then cr_paid tok a l else 0 := by
  split <;> rfl

theorem cr_directTo_eq (lp a : Nat) (l : List (Nat × Pay)) :
    directTo lp a l = cr_paid (.esdt lp) a l := by
  induction l with
  | nil => rfl
  | cons x rest ih => simp only [directTo, cr_paid, ih]

/-- what the lock call and the two transfers of a locked delivery to `b` bring `a ≠ lockAddr` -/
theorem received_split (lp a b la ue L D : Nat) (hla : la ≠ a) :
    lockedFor a (if L > 0 then [(ue, b, L)] else []) +
      cr_paid (.esdt lp) a ((if L > 0 then [(la, (⟨.esdt lp, 0, L⟩ : Pay))] else []) ++
        (if D > 0 then [(b, (⟨.esdt lp, 0, D⟩ : Pay))] else [])) = if b = a then L + D else 0 := by
  rw [cr_paid_append]
  by_cases hb : b = a <;> by_cases hL : L > 0 <;> by_cases hD : D > 0 <;>
    simp [lockedFor, cr_paid, hb, hL, hD, hla] <;> omega

/-- `a` must be neither the owner (receives `claimPayment`) nor the lock contract (receives the
    locked parts) -/
theorem lk_step_received {hash : List Nat → List Nat} {s s' : State} {e : Env} {c : Call} {o : Out}
    (hS : LkStatic s) {a : Nat} (ha1 : a ≠ s.owner) (ha2 : a ≠ s.lockAddr)
    (hs : step hash s e c = .ok (s', o)) :
    received s.lpTok a o =
      if isClaimBy a (s, e, c, o) = true then s.perTicket * winCountOf s a else 0 := by
  have hne' : ¬ (s.payTok = Token.esdt s.lpTok) := hS.tokNe
  by_cases hc : c = .claim
  · subst hc
    obtain ⟨k1, k2, k3⟩ := lk_claim_locked_out hS.lock hS.pct hs
    have hrf : cr_paid (.esdt s.lpTok) a (refundXfers s e.caller) = 0 :=
      cr_paid_zero _ _ _ fun x hx hh => hne' ((refundXfers_mem hx).2.1.symm.trans hh.2.1)
    unfold received
    rw [cr_directTo_eq, k1, k2, List.append_assoc, cr_paid_append, hrf, Nat.zero_add,
      received_split _ _ _ _ _ _ _ (Ne.symm ha2), k3]
    by_cases hca : e.caller = a
    · subst hca; simp [isClaimBy, Nat.mul_comm]
    · simp [isClaimBy, hca]
  · have hcl : isClaimBy a (s, e, c, o) = false := by
      cases c <;> first | rfl | exact absurd rfl hc
    rw [hcl]
    have hlk : o.locks = [] := lk_step_locks (fun h => absurd h hc) hs
    have hxf := lk_step_xfers_other hS hc hs
    unfold received
    rw [hlk, cr_directTo_eq, cr_paid_zero _ _ _ (fun x hx hh => by
      rcases hxf x hx with h1 | h1
      · rw [h1] at hh; exact hne' hh.2.1
      · exact ha1 (hh.1.symm.trans h1))]
    simp [lockedFor]

/-! ### the log and the history -/

theorem lk_runLog_cons_ok {hash : List Nat → List Nat} {s s' : State} {e : Env} {c : Call} {o : Out}
    (h : step hash s e c = .ok (s', o)) (l : List (Env × Call)) :
    lk_runLog hash s ((e, c) :: l) = (s, e, c, o) :: lk_runLog hash s' l := by
  conv => lhs; unfold lk_runLog
  rw [h]

theorem lk_runLog_cons_err {hash : List Nat → List Nat} {s : State} {e : Env} {c : Call} {err : Err}
    (h : step hash s e c = .error err) (l : List (Env × Call)) :
    lk_runLog hash s ((e, c) :: l) = lk_runLog hash s l := by
  conv => lhs; unfold lk_runLog
  rw [h]

/-- induction along the log of a history: `I` is an invariant of accepted calls, `M s l` the claim
    about the log `l` of a history run from `s` -/
theorem lk_log_rec (hash : List Nat → List Nat) {I : State → Prop}
    {M : State → List (State × Env × Call × Out) → Prop} (nil : ∀ s, M s [])
    (cons : ∀ s e c s' o, I s → step hash s e c = .ok (s', o) →
      I s' ∧ ∀ l, M s' l → M s ((s, e, c, o) :: l)) :
    ∀ (p : List (Env × Call)) (s : State), I s → M s (lk_runLog hash s p) :=
  run_rec hash (M := fun s p => I s → M s (lk_runLog hash s p))
    (fun s _ => nil s)
    (fun s e c rest er hx ih hI => by rw [lk_runLog_cons_err hx]; exact ih hI)
    (fun s e c rest s' o hx ih hI => by
      rw [lk_runLog_cons_ok hx]
      exact (cons s e c s' o hI hx).2 _ (ih (cons s e c s' o hI hx).1))

theorem lk_runLog_append (hash : List Nat → List Nat) (h1 h2 : List (Env × Call)) (s : State) :
    lk_runLog hash s (h1 ++ h2) = lk_runLog hash s h1 ++ lk_runLog hash (run hash s h1) h2 :=
  run_rec hash
    (M := fun s h1 => lk_runLog hash s (h1 ++ h2) = lk_runLog hash s h1 ++ lk_runLog hash (run hash s h1) h2)
    (fun _ => rfl)
    (fun s e c rest er hx ih => by
      rw [List.cons_append, lk_runLog_cons_err hx, lk_runLog_cons_err hx, run_cons_err hx]
      exact ih)
    (fun s e c rest s' o hx ih => by
      rw [List.cons_append, lk_runLog_cons_ok hx, lk_runLog_cons_ok hx, run_cons_ok hx, List.cons_append, ih])
    h1 s

/-- a cut of the log is a cut of the history -/
theorem tf_split (hash : List Nat → List Nat) (hist : List (Env × Call)) (s : State) :
    ∀ (l1 : List (State × Env × Call × Out)) (x : State × Env × Call × Out)
      (l2 : List (State × Env × Call × Out)),
      lk_runLog hash s hist = l1 ++ x :: l2 →
      ∃ h1 h2 s', hist = h1 ++ (x.2.1, x.2.2.1) :: h2 ∧ lk_runLog hash s h1 = l1 ∧
        run hash s h1 = x.1 ∧ step hash x.1 x.2.1 x.2.2.1 = .ok (s', x.2.2.2) ∧
        lk_runLog hash s' h2 = l2 := by
  refine run_rec hash (M := fun s hist => ∀ l1 x l2, lk_runLog hash s hist = l1 ++ x :: l2 →
    ∃ h1 h2 s', hist = h1 ++ (x.2.1, x.2.2.1) :: h2 ∧ lk_runLog hash s h1 = l1 ∧
      run hash s h1 = x.1 ∧ step hash x.1 x.2.1 x.2.2.1 = .ok (s', x.2.2.2) ∧
      lk_runLog hash s' h2 = l2) ?_ ?_ ?_ hist s
  · intro s l1 x l2 h
    cases l1 <;> cases h
  · intro s e c rest er hs ih l1 x l2 h
    rw [lk_runLog_cons_err hs] at h
    obtain ⟨h1, h2, s', k1, k2, k3, k4, k5⟩ := ih l1 x l2 h
    refine ⟨(e, c) :: h1, h2, s', by rw [k1]; rfl, ?_, ?_, k4, k5⟩
    · rw [lk_runLog_cons_err hs]; exact k2
    · rw [run_cons_err hs]; exact k3
  · intro s e c rest s1 o hs ih l1 x l2 h
    rw [lk_runLog_cons_ok hs] at h
    cases l1 with
    | nil =>
      obtain ⟨rfl, rfl⟩ := List.cons.inj h
      exact ⟨[], rest, s1, rfl, rfl, rfl, hs, rfl⟩
    | cons y l1' =>
      obtain ⟨rfl, htl⟩ := List.cons.inj h
      obtain ⟨h1, h2, s', k1, k2, k3, k4, k5⟩ := ih l1' x l2 htl
      refine ⟨(e, c) :: h1, h2, s', by rw [k1]; rfl, ?_, ?_, k4, k5⟩
      · rw [lk_runLog_cons_ok hs, k2]
      · rw [run_cons_ok hs]; exact k3

theorem lk_runLog_mem (hash : List Nat → List Nat) :
    ∀ (hist : List (Env × Call)) (s : State) (x : State × Env × Call × Out), x ∈ lk_runLog hash s hist →
      ∃ h1 h2 s', hist = h1 ++ (x.2.1, x.2.2.1) :: h2 ∧ x.1 = run hash s h1 ∧
        step hash x.1 x.2.1 x.2.2.1 = .ok (s', x.2.2.2) := by
  intro hist s x hx
  obtain ⟨l1, l2, hl⟩ := List.append_of_mem hx
  obtain ⟨h1, h2, s', k1, _, k3, k4, _⟩ := tf_split hash hist s l1 x l2 hl
  exact ⟨h1, h2, s', k1, k3.symm, k4⟩

theorem totalReceived_append (lp a : Nat) (l1 l2 : List (State × Env × Call × Out)) :
    totalReceived lp a (l1 ++ l2) = totalReceived lp a l1 + totalReceived lp a l2 := by
  induction l1 with
  | nil => simp [totalReceived]
  | cons x rest ih => simp only [List.cons_append, totalReceived, ih]; omega

/-! ### what a participant receives over a history -/

def lk_Party (a : Nat) (s : State) : Prop := LkStatic s ∧ a ≠ s.owner ∧ a ≠ s.lockAddr

theorem lk_Party.step {hash : List Nat → List Nat} {a : Nat} {s s' : State} {e : Env} {c : Call} {o : Out}
    (h : lk_Party a s) (hx : step hash s e c = .ok (s', o)) : lk_Party a s' :=
  ⟨lk_step_static h.1 hx, by rw [step_owner hx]; exact h.2.1, by rw [(step_lockAddr hx).1]; exact h.2.2⟩

theorem lk_total_after_claim (hash : List Nat → List Nat) (a : Nat) (hist : List (Env × Call)) (s : State)
    (hP : lk_Party a s) (hcl : s.claimed a = true) :
    totalReceived s.lpTok a (lk_runLog hash s hist) = 0 ∧
    ∀ x ∈ lk_runLog hash s hist, isClaimBy a x = false :=
  lk_log_rec hash (I := fun s => lk_Party a s ∧ s.claimed a = true)
    (M := fun s l => totalReceived s.lpTok a l = 0 ∧ ∀ x ∈ l, isClaimBy a x = false)
    (fun _ => ⟨rfl, fun _ hx => nomatch hx⟩)
    (fun s e c s' o ⟨hP, hcl⟩ hx => by
      refine ⟨⟨hP.step hx, step_claimed_mono hash s e c s' o hx a hcl⟩, fun l ih => ?_⟩
      have hnot : isClaimBy a (s, e, c, o) = false := by
        cases hb : isClaimBy a (s, e, c, o)
        · rfl
        · obtain ⟨rfl, rfl⟩ := (isClaimBy_iff ..).mp hb
          obtain ⟨err, herr⟩ := (second_claim_rejected hash s e (lk_hasLock_flags hP.1.lock).1 hcl).1
          rw [herr] at hx
          cases hx
      have hrec := lk_step_received hP.1 hP.2.1 hP.2.2 hx
      rw [hnot, if_neg Bool.false_ne_true] at hrec
      rw [step_lpTok hx] at ih
      refine ⟨?_, ?_⟩
      · show received s.lpTok a o + totalReceived s.lpTok a l = 0
        rw [hrec, ih.1]
      · intro x hxm
        rcases List.mem_cons.mp hxm with rfl | hxm
        · exact hnot
        · exact ih.2 x hxm)
    hist s ⟨hP, hcl⟩

/-- over any history `a` receives `perTicket × his winning tickets`, both read in the state of his
    one accepted claim, and nothing if he makes none -/
theorem lk_total_received (hash : List Nat → List Nat) (a : Nat) :
    ∀ (hist : List (Env × Call)) (s : State), lk_Party a s →
      totalReceived s.lpTok a (lk_runLog hash s hist) =
        (match (lk_runLog hash s hist).find? (isClaimBy a) with
         | some x => x.1.perTicket * winCountOf x.1 a
         | none => 0) ∧
      ((lk_runLog hash s hist).filter (isClaimBy a)).length ≤ 1 := by
  refine run_rec hash (fun _ _ => ⟨rfl, Nat.zero_le _⟩) ?_ ?_
  · intro s e c rest er hx ih hP
    rw [lk_runLog_cons_err hx]
    exact ih hP
  · intro s e c rest s' o hx ih hP
    have hlp : s'.lpTok = s.lpTok := step_lpTok hx
    have hrec := lk_step_received hP.1 hP.2.1 hP.2.2 hx
    rw [lk_runLog_cons_ok hx]
    show received s.lpTok a o + totalReceived s.lpTok a (lk_runLog hash s' rest) = _ ∧ _
    cases hb : isClaimBy a (s, e, c, o)
    · obtain ⟨ih1, ih2⟩ := ih (hP.step hx)
      rw [hlp] at ih1
      rw [hb] at hrec
      rw [hrec, ih1, List.find?_cons_of_neg (by simp [hb]), List.filter_cons_of_neg (by simp [hb])]
      exact ⟨by simp, ih2⟩
    · have hcl : s'.claimed a = true := by
        obtain ⟨rfl, rfl⟩ := (isClaimBy_iff ..).mp hb
        exact claim_sets_claimed hash s e s' o hx
      obtain ⟨k1, k2⟩ := lk_total_after_claim hash a rest s' (hP.step hx) hcl
      rw [hlp] at k1
      rw [hb] at hrec
      rw [hrec, k1, List.find?_cons_of_pos (by simp [hb]), List.filter_cons_of_pos (by simp [hb]),
        List.filter_eq_nil_iff.mpr (fun x hxm => by rw [k2 x hxm]; simp)]
      exact ⟨by simp, by simp⟩

theorem lk_total_no_claim (hash : List Nat → List Nat) (a : Nat) (hist : List (Env × Call)) (s : State)
    (hP : lk_Party a s) (hno : ∀ x ∈ lk_runLog hash s hist, isClaimBy a x = false) :
    totalReceived s.lpTok a (lk_runLog hash s hist) = 0 := by
  rw [(lk_total_received hash a hist s hP).1,
    List.find?_eq_none.mpr (fun x hx => by rw [hno x hx]; simp)]

theorem lk_claimed_of_log (hash : List Nat → List Nat) (a : Nat) (hist : List (Env × Call)) (s : State)
    (x : State × Env × Call × Out) (hx : x ∈ lk_runLog hash s hist) (hb : isClaimBy a x = true) :
    (run hash s hist).claimed a = true := by
  obtain ⟨h1, h2, s', k1, k2, k3⟩ := lk_runLog_mem hash hist s x hx
  obtain ⟨xs, xe, xc, xo⟩ := x
  obtain ⟨rfl, rfl⟩ := (isClaimBy_iff ..).mp hb
  dsimp only at k1 k2 k3
  rw [k1, LP.Props.C17.run_append, ← k2, run_cons_ok k3]
  exact run_claimed_mono hash h2 s' _ (claim_sets_claimed hash xs xe s' xo k3)

/-- `lk_total_received` with the claim exhibited in the history -/
theorem lk_total_of_claim (hash : List Nat → List Nat) (a : Nat) (s : State) (hP : lk_Party a s)
    (h1 h2 : List (Env × Call)) (e : Env) (s2 : State)
    (o : Out) (hca : e.caller = a) (hs : step hash (run hash s h1) e .claim = .ok (s2, o)) :
    totalReceived s.lpTok a (lk_runLog hash s (h1 ++ (e, .claim) :: h2))
      = (run hash s h1).perTicket * winCountOf (run hash s h1) a ∧
    (∀ x ∈ lk_runLog hash s h1, isClaimBy a x = false) ∧
    (∀ x ∈ lk_runLog hash s2 h2, isClaimBy a x = false) := by
  have hlp : (run hash s h1).lpTok = s.lpTok := (lk_run_terms hash s h1).2.2.2.2.1
  have hP1 : lk_Party a (run hash s h1) := run_induct hash (lk_Party a) (fun _ _ _ _ _ hp hx => hp.step hx) h1 s hP
  have hno1 : ∀ x ∈ lk_runLog hash s h1, isClaimBy a x = false := by
    intro x hx
    cases hb : isClaimBy a x
    · rfl
    · have hcl := lk_claimed_of_log hash a h1 s x hx hb
      have := (lk_claim_state hP1.1.lock hP1.1.pct hP1.1.tokNe hs).2.1
      rw [hca, hcl] at this
      cases this
  obtain ⟨k1, k2⟩ := lk_total_after_claim hash a h2 s2 (hP1.step hs)
    (by rw [← hca]; exact claim_sets_claimed hash _ e s2 o hs)
  rw [step_lpTok hs, hlp] at k1
  have hrec := lk_step_received hP1.1 hP1.2.1 hP1.2.2 hs
  rw [(isClaimBy_iff a _ e .claim o).mpr ⟨rfl, hca⟩, if_pos rfl, hlp] at hrec
  refine ⟨?_, hno1, k2⟩
  rw [lk_runLog_append, totalReceived_append, lk_total_no_claim hash a h1 s hP hno1, lk_runLog_cons_ok hs]
  show 0 + (received s.lpTok a o + totalReceived s.lpTok a (lk_runLog hash s2 h2)) = _
  rw [hrec, k1]
  omega

/-! ### a deployment has nothing confirmed (`pl_NoConf`, every variant; every accepted call keeps it:
    `pl_step_NoConf`, LP/Proofs/ReachPL.lean) -/

theorem lk_init_noConf {v : Variant} {a : InitArgs} {e : Env} {s : State} (h : init v a e = .ok s) :
    pl_NoConf s := by
  intro _ u
  have : s.confirmed = fun _ => 0 := congrArg State.confirmed (init_ok h).2
  rw [this]

end LP

#print axioms LP.lk_claim_locked_out
#print axioms LP.lk_claim_state
#print axioms LP.lk_run_terms
#print axioms LP.lk_step_locks
#print axioms LP.lk_step_xfers_other
#print axioms LP.lk_step_received
#print axioms LP.lk_total_received
#print axioms LP.lk_total_of_claim
#print axioms LP.lk_runLog_mem
#print axioms LP.lk_total_after_claim
