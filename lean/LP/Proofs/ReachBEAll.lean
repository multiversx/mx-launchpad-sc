import LP.Proofs.ReachBEGen
import LP.Proofs.FieldFrames
import LP.Proofs.ReachV1Final
import LP.Proofs.ReachG1
import LP.Proofs.ReachNGFinal
import LP.Proofs.ReachV2Claim
import LP.Proofs.ReachNft
import LP.Proofs.Once
import LP.Proofs.ReachPlain
/-
  The eight launchpads under one relation.  In order: the ticket-level normal form of a state that
  satisfies one of the six invariants (`be_Shape`, `be_Tix`, `be_Good`); the side conditions of a
  history per variant (`HistOKOf`); the end-to-end blacklist theorems for an abstract family of
  states (`be_Family`); the union `be_Covered` of the reachable-state relations, the facts all its
  states share (`be_Common`, `be_covered_common`) and `be_family_all`.

  The first part is what the blacklist theorems read off the phase invariants.  All six invariants
  are built from the plain phases `Pre`/`PhA`/`PhB`/`PhC`/`PhD` over the projection `State.core`,
  so the ticket side of a reachable state of any of the eight launchpads has one of three forms
  (`be_Shape`): before the filter has completed (`Pre` with `PhA` or `PhB`); filtered, with the
  compacted allocation list still present (`be_Alloc`: `PhC` and the distribution phases of the
  guaranteed-ticket variants); or `PhD`, possibly with the generator of the NFT draw saved.

  * `be_Tix c`   selected ⇒ filtered; after the filter every allocation record belongs to somebody
                 with at least one confirmed ticket; before the filter completes no ticket is flagged;
                 during an interrupted filter a record of somebody with nothing confirmed lies in the
                 part of the ticket space the loop has not reached yet (`be_Shape.tix`);
  * `be_Good s`  `be_Tix` + `BlZero` + valid timeline + (vesting variants) "blacklisted ⇒ never
                 claimed"; consequences `be_Good.no_range`, `.never_wins`, `.claim_rejected`, … .
-/
namespace LP
open LP.Props LP.Events LP.FY

structure be_Tix (c : Core) : Prop where
  selFil : c.flags.selected = true → c.flags.filtered = true
  rngConf : c.flags.filtered = true → ∀ a r, c.range a = some r → 1 ≤ c.confirmed a
  noWin : c.flags.filtered = false → c.status = fun _ => false
  midNF : ∀ f rm, c.op = .filter f rm → c.flags.filtered = false
  mid : ∀ f rm, c.op = .filter f rm → ∀ a r, c.range a = some r → c.confirmed a = 0 → f ≤ r.first

theorem be_Tix.payBal {c : Core} (h : be_Tix c) (x : Nat) : be_Tix { c with payBal := x } :=
  ⟨h.selFil, h.rngConf, h.noWin, h.midNF, h.mid⟩

theorem be_Tix.of_payBal {c : Core} {x : Nat} (h : be_Tix { c with payBal := x }) : be_Tix c :=
  ⟨h.selFil, h.rngConf, h.noWin, h.midNF, h.mid⟩

/-- the compacted allocation list the completed filter leaves behind (the `alloc` field of `PhC` and
    of the distribution phases `PhE`, `v1_PhE`) -/
def be_Alloc (c : Core) : Prop :=
  ∃ Ls : List (Nat × Nat), (Ls.map Prod.fst).Nodup ∧
    (∀ p ∈ Ls, 1 ≤ p.2 ∧ p.2 = c.confirmed p.1) ∧ Chain Ls 1 c.range c.batch ∧
    c.lastTicketId = ticketTotal Ls ∧
    (∀ a, a ∉ Ls.map Prod.fst → c.range a = none ∧ c.confirmed a = 0) ∧
    PayPre c (Ls.map Prod.fst)

inductive be_Shape (c : Core) : Prop
  | pre {T0 : Nat} {L0 : List (Nat × Nat)} : Pre T0 c L0 → PhA c L0 ∨ PhB c L0 → be_Shape c
  | alloc : c.flags.started = true → c.flags.filtered = true → (∀ f rm, c.op ≠ .filter f rm) →
      be_Alloc c → be_Shape c
  | done : PhD { c with op := .none } → (∀ f rm, c.op ≠ .filter f rm) → be_Shape c

theorem be_Shape.of_PhC {T0 : Nat} {c : Core} (h : PhC T0 c) : be_Shape c := by
  refine .alloc h.started h.filtered (fun f rm hop => ?_) h.alloc
  rcases h.sel with ⟨h1, _⟩ | ⟨rng, pos, arr, h1, _⟩ <;> rw [h1] at hop <;> cases hop

theorem be_Shape.of_PhD {c : Core} (h : PhD c) : be_Shape c :=
  .done ⟨h.started, h.filtered, h.selected, rfl, h.rngOk, h.rngNone, h.disj, h.led⟩
    (fun f rm hop => by rw [h.op] at hop; cases hop)

theorem be_Shape.of_Phase {T0 : Nat} {c : Core} (h : Phase T0 c) : be_Shape c := by
  rcases h with ⟨L0, hp, hab⟩ | hc | hd
  · exact .pre hp hab
  · exact .of_PhC hc
  · exact .of_PhD hd

theorem be_Tix_of_PhA {T0 : Nat} {c : Core} {L0 : List (Nat × Nat)} (hp : Pre T0 c L0) (ha : PhA c L0) :
    be_Tix c :=
  ⟨fun h => (by rw [hp.notSelected] at h; cases h), fun h => (by rw [hp.notFiltered] at h; cases h),
    fun _ => hp.status0, fun f rm hop => (by rw [ha.op] at hop; cases hop),
    fun f rm hop => (by rw [ha.op] at hop; cases hop)⟩

theorem be_Tix_of_PhB {T0 : Nat} {c : Core} {L0 : List (Nat × Nat)} (hp : Pre T0 c L0) (hb : PhB c L0) :
    be_Tix c := by
  refine ⟨fun h => (by rw [hp.notSelected] at h; cases h), fun h => (by rw [hp.notFiltered] at h; cases h),
    fun _ => hp.status0, fun _ _ _ => hp.notFiltered, ?_⟩
  intro f rm hop a r hr hc0
  obtain ⟨f', rm', hop', P, S, hL, _, hS, _, _, _, hzero, hout⟩ := hb.mid
  rw [hop] at hop'
  injection hop' with hf _
  subst hf
  by_cases ha : a ∈ L0.map Prod.fst
  · rw [hL, List.map_append, List.mem_append] at ha
    rcases ha with ha | ha
    · obtain ⟨p, hp', rfl⟩ := List.mem_map.mp ha
      have h0 : c.range p.1 = none := hzero p hp' hc0
      rw [h0] at hr; cases hr
    · obtain ⟨r', hr', hle⟩ := be_chain_mem hS ha
      have : c.range a = some r' := hr'
      rw [hr] at this
      injection this with this
      subst this
      exact hle
  · have h0 : c.range a = none := hout a ha
    rw [h0] at hr; cases hr

theorem be_Shape.filStarted {c : Core} (h : be_Shape c) (hf : c.flags.filtered = true) :
    c.flags.started = true := by
  cases h with
  | pre hp _ => rw [hp.notFiltered] at hf; cases hf
  | alloc hs _ _ _ => exact hs
  | done hd _ => exact hd.started

theorem be_Shape.tix {c : Core} (h : be_Shape c) : be_Tix c := by
  cases h with
  | pre hp hab => exact hab.elim (be_Tix_of_PhA hp) (be_Tix_of_PhB hp)
  | alloc _ hf hop alloc =>
    obtain ⟨Ls, _, hpos, _, _, hout, _⟩ := alloc
    refine ⟨fun _ => hf, ?_, fun h => (by rw [hf] at h; cases h), fun f rm h => absurd h (hop f rm),
      fun f rm h => absurd h (hop f rm)⟩
    intro _ a r hr
    by_cases ha : a ∈ Ls.map Prod.fst
    · obtain ⟨p, hp, rfl⟩ := List.mem_map.mp ha
      obtain ⟨h1, h2⟩ := hpos p hp
      omega
    · rw [(hout a ha).1] at hr; cases hr
  | done hd hop =>
    refine ⟨fun _ => hd.filtered, ?_, fun hf => (by rw [hd.filtered] at hf; cases hf),
      fun f rm h => absurd h (hop f rm), fun f rm h => absurd h (hop f rm)⟩
    intro _ a r hr
    have : r.first ≤ r.last ∧ r.last + 1 = r.first + c.confirmed a := hd.rngOk a r hr
    omega

theorem be_stage_early_lt {s : State} {e : Env}
    (h : s.stage e = .addTickets ∨ s.stage e = .confirm) :
    e.round < s.cfg.conf ∨ e.round < s.cfg.sel := by
  rcases h with h | h
  · exact Or.inl (rb_stage_addTickets h)
  · exact Or.inr (rb_stage_confirm h).2

/-- every `claim` of a blacklisted participant is rejected (stated on the three facts it uses, so
    that it can be applied inside the induction that establishes `be_Good.vest`) -/
theorem be_claim_rejected_raw {s : State} (htix : be_Tix s.core) (hz : BlZero s)
    (hvest : s.variant.vested = true → ∀ a, s.blacklist a = true → s.claimed a = false)
    (hash : List Nat → List Nat) (e : Env)
    (hb : s.blacklist e.caller = true) : ∃ err, step hash s e .claim = .error err := by
  refine rejected_of_not_ok fun s' o hst => ?_
  rcases C06.claim_gate hash s e _ hst with h1 | ⟨hv, hc⟩
  · have hf : s.flags.filtered = true := htix.selFil (stage_claim_iff.mp h1).1.1
    have hnr : s.range e.caller = none := by
      cases hr : s.range e.caller with
      | none => rfl
      | some r =>
        have h2 : 1 ≤ s.confirmed e.caller := htix.rngConf hf _ r hr
        have h0 : s.confirmed e.caller = 0 := hz _ hb
        omega
    obtain ⟨hv, hc⟩ := C10.no_range_cannot_claim hash s e _ hnr hst
    rw [hvest hv _ hb] at hc; cases hc
  · rw [hvest hv _ hb] at hc; cases hc

theorem be_NC_step {hash : List Nat → List Nat} {s s' : State} {e : Env} {c : Call} {o : Out}
    (htix : be_Tix s.core) (hz : BlZero s)
    (hnc : ∀ a, s.blacklist a = true → s.claimed a = false)
    (hfresh : ((∃ l, c = .blacklist l) ∨ (∃ l, c = .refundUsers l)) → ∀ a, s.claimed a = false)
    (h : step hash s e c = .ok (s', o)) :
    ∀ a, s'.blacklist a = true → s'.claimed a = false := by
  obtain ⟨m, t, _, _, _, hx, hs', _⟩ := step_ok_inv h
  have hcl : c ≠ .claim → s'.claimed = s.claimed := by
    intro hc; rw [hs', exec_claimed_eq hc hx]; rfl
  intro a hb
  cases c with
  | claim =>
    have hbl : s'.blacklist = s.blacklist :=
      C10frame.blacklist_frame hash s s' e _ o h (fun _ => nofun) (fun _ => nofun) (fun _ => nofun)
    rw [hbl] at hb
    have hc' : s'.claimed = upd s.claimed e.caller true := by rw [hs', exec_claim_claimed hx]; rfl
    rw [hc']
    by_cases hne : a = e.caller
    · exfalso
      subst hne
      obtain ⟨err, herr⟩ := be_claim_rejected_raw htix hz (fun _ => hnc) hash e hb
      rw [herr] at h; cases h
    · rw [upd_other _ _ _ _ hne]; exact hnc a hb
  | blacklist l => rw [hcl nofun]; exact hfresh (Or.inl ⟨l, rfl⟩) a
  | refundUsers l => rw [hcl nofun]; exact hfresh (Or.inr ⟨l, rfl⟩) a
  | unblacklist l =>
    rw [hcl nofun]
    rw [C10frame.blacklist_after_unblacklist hash s s' e l o h] at hb
    apply hnc
    by_cases hm : a ∈ l
    · simp [hm] at hb
    · simpa [hm] using hb
  | _ =>
    rw [hcl nofun]
    rw [C10frame.blacklist_frame hash s s' e _ o h (fun _ => nofun) (fun _ => nofun) (fun _ => nofun)] at hb
    exact hnc a hb

/-- everything the end-to-end blacklist theorems need to know about a reachable state -/
structure be_Good (s : State) : Prop where
  tix : be_Tix s.core
  blz : BlZero s
  valid : validPeriods s.cfg = true
  /-- vesting variants (`claim` is also the endpoint that releases vested tokens):
      a blacklisted participant has never settled -/
  vest : s.variant.vested = true → ∀ a, s.blacklist a = true → s.claimed a = false
  /-- vesting variants: nobody has settled before the filter completes -/
  fresh : s.variant.vested = true → s.flags.filtered = false → ∀ a, s.claimed a = false

namespace be_Good
variable {s : State}

theorem conf_zero (h : be_Good s) {a : Nat} (hb : s.blacklist a = true) : s.confirmed a = 0 :=
  h.blz a hb

theorem no_range (h : be_Good s) (hf : s.flags.filtered = true) {a : Nat} (hb : s.blacklist a = true) :
    s.range a = none := by
  cases hr : s.range a with
  | none => rfl
  | some r =>
    have := h.tix.rngConf hf a r hr
    have h0 : s.confirmed a = 0 := h.blz a hb
    have : 1 ≤ s.confirmed a := this
    omega

theorem never_wins (h : be_Good s) {a : Nat} (hb : s.blacklist a = true) {r : Range}
    (hr : s.range a = some r) (id : Nat) : s.status id = false := by
  cases hf : s.flags.filtered with
  | true => rw [h.no_range hf hb] at hr; cases hr
  | false =>
    have : s.status = fun _ => false := h.tix.noWin hf
    rw [this]

theorem winCount_zero (h : be_Good s) {a : Nat} (hb : s.blacklist a = true) : winCountOf s a = 0 := by
  cases hr : s.range a with
  | none => exact winCountOf_none hr
  | some r =>
    rw [winCountOf_some hr]
    have hst : ∀ id, s.status id = false := h.never_wins hb hr
    generalize rangeLen r = n
    induction n with
    | zero => rfl
    | succ k ih => simp [countWinning, ih, hst]

theorem view_nil (h : be_Good s) {a : Nat} (hb : s.blacklist a = true) : viewWinningIds s a = [] := by
  unfold viewWinningIds
  split
  · rfl
  · rename_i hsel
    have hsel' : s.flags.selected = true := by simpa using hsel
    rw [h.no_range (h.tix.selFil hsel') hb]

/-- interrupted filter: the record of a blacklisted participant, if still present, lies in the part
    of the ticket space the loop has not reached yet, and the filter flag is still unset -/
theorem mid_filter (h : be_Good s) {f rm : Nat} (hop : s.op = .filter f rm) :
    s.flags.filtered = false ∧ s.flags.selected = false ∧
    ∀ a r, s.blacklist a = true → s.range a = some r → f ≤ r.first := by
  have hnf : s.flags.filtered = false := h.tix.midNF f rm hop
  refine ⟨hnf, ?_, fun a r hb hr => h.tix.mid f rm hop a r hr (h.blz a hb)⟩
  cases hs : s.flags.selected with
  | false => rfl
  | true => have : s.flags.filtered = true := h.tix.selFil hs; rw [hnf] at this; cases this

theorem no_claim_before_filter (h : be_Good s) (hash : List Nat → List Nat) (e : Env)
    (hf : s.flags.filtered = false) : ∃ err, step hash s e .claim = .error err := by
  refine rejected_of_not_ok fun s' o hst => ?_
  rcases C06.claim_gate hash s e _ hst with h1 | ⟨hv, hc⟩
  · have : s.flags.filtered = true := h.tix.selFil (stage_claim_iff.mp h1).1.1
    rw [hf] at this; cases this
  · rw [h.fresh hv hf] at hc; cases hc

theorem claim_rejected (h : be_Good s) (hash : List Nat → List Nat) (e : Env)
    (hb : s.blacklist e.caller = true) : ∃ err, step hash s e .claim = .error err :=
  be_claim_rejected_raw h.tix h.blz h.vest hash e hb

end be_Good

end LP

/-
  The four reachable-state relations (`ReachA`, `v1_ReachA`, `g1_ReachA`, `ng_ReachA`) say the same
  thing: a deployment followed by a `be_Later` continuation whose transactions satisfy the side
  conditions of the relation (the bridges `X_reachA_iff_later` stand next to the inductives).
  `HistOKOf v` names those side conditions per variant; the variant, the valid timeline and
  `BlZero` of a reachable state are then read off `be_Later`.
-/
namespace LP.Props.AllVariants
open LP

/-- the restriction on the calls of a history of variant `v` (allocation entries have at least one
    ticket): `CallOK`, on `addTickets`, for base, locked and nft, `v1_CallOK` for the four with the
    v1 allocation endpoint; for guarV2 `CallOK` restricts nothing (its `addTicketsV2` skips
    zero-size entries, v2 guaranteed_tickets_init.rs:59) -/
def CallOKOf (v : Variant) (c : Call) : Prop :=
  match v with
  | .base | .locked | .nft | .guarV2 => CallOK c
  | .migration | .lockedGuar | .guarV1 | .nftGuar => v1_CallOK c

/-- the transactions of an admissible history of variant `v`: EGLD or ESDT, not both; allocation
    entries have at least one ticket -/
def HistOKOf (v : Variant) (e : Env) (c : Call) : Prop := EnvOK e ∧ CallOKOf v c

end LP.Props.AllVariants

namespace LP
open LP.Props LP.Events

variable {hash : List Nat → List Nat}

theorem be_From.variant {P : Env → Call → Prop} {v : Variant} {a0 : InitArgs} {s : State} {r : Nat}
    (h : be_From P hash v a0 s r) : s.variant = v := by
  obtain ⟨e, s0, hi, hl⟩ := h
  obtain ⟨_, rfl⟩ := init_ok hi
  exact hl.variant

theorem g1_ReachA.variant {a0 : InitArgs} {s : State} {r : Nat}
    (h : g1_ReachA hash a0 s r) : s.variant = .guarV1 := (g1_reachA_iff_later.mp h).variant

theorem be_validPeriods_reach {v : Variant} {s : State} {r : Nat}
    (h : Reach hash v s r) : validPeriods s.cfg = true := by
  obtain ⟨a, e, s0, hi, hl⟩ := reach_iff_later.mp h
  exact hl.invariant (fun _ _ _ _ _ hq hst => be_validPeriods_step hst hq) (be_validPeriods_init hi)

theorem be_BlZero_reach {v : Variant} {s : State} {r : Nat}
    (h : Reach hash v s r) : BlZero s := by
  obtain ⟨a, e, s0, hi, hl⟩ := reach_iff_later.mp h
  exact hl.invariant (fun s e c s' o hq hst => C10frame.blacklisted_confirmed_zero_all hash s e c s' o hq hst)
    (C10frame.init_blZero v a e s0 hi)

end LP

namespace LP.Props.C01reachV2
open LP LP.FY

theorem v2_WF_ledger {T0 : Nat} {s : State} {r : Nat} (h : WF2 T0 s r) :
    ∃ L : List Nat, Covers s L ∧ (¬ AllDone s → PayEqPre s L) ∧
      (AllDone s → PayEqPost s L ∧ sumOver (winCountOf s) L = s.nrWinning ∧
        (∀ a, winCountOf s a ≤ s.confirmed a) ∧
        (∀ a rg, s.range a = some rg → a ∈ L ∧ rg.first ≤ rg.last ∧
          rg.last + 1 = rg.first + s.confirmed a)) := by
  refine ledger_of_phases (fun hd => ?_) (fun hd => ?_)
  · rcases h.phase with ⟨_, hns, _, hph⟩ | hE | hF
    · exact hph.payList hns
    · exact (Alloc.exists_iff.mp hE.alloc).elim fun _ hA => hA.payList
    · exact absurd ⟨hF.d.selected, hF.add⟩ hd
  · rcases h.phase with ⟨hna, _⟩ | hE | hF
    · exact Bool.noConfusion (hna.symm.trans hd.2)
    · exact Bool.noConfusion (hE.notAdd.symm.trans hd.2)
    · exact hF.d

end LP.Props.C01reachV2

/-
  The end-to-end blacklist theorems, proved for an abstract family of reachable states
  (`be_Family hash P R`: `R` is closed under accepted calls satisfying `P` and under waiting, and
  implies `be_Good`).  `be_family_all` below instantiates `R` with the union `be_Covered hash` of
  the reachable states of the eight launchpads.
-/
namespace LP
open LP.Props LP.Events LP.FY LP.Props.C17

/-- the two variant-independent facts, packaged for the induction over the covered states -/
def be_BV (s : State) : Prop := BlZero s ∧ validPeriods s.cfg = true

theorem be_BV_init {v : Variant} {a : InitArgs} {e : Env} {s : State} (h : init v a e = .ok s) :
    be_BV s := ⟨C10frame.init_blZero v a e s h, be_validPeriods_init h⟩

theorem be_BV_step {hash : List Nat → List Nat} {s s' : State} {e : Env} {c : Call} {o : Out}
    (hb : be_BV s) (h : step hash s e c = .ok (s', o)) : be_BV s' :=
  ⟨C10frame.blacklisted_confirmed_zero_all hash s e c s' o hb.1 h, be_validPeriods_step h hb.2⟩

structure be_Family (hash : List Nat → List Nat) (P : Env → Call → Prop) (R : State → Nat → Prop) :
    Prop where
  call : ∀ {s : State} {r : Nat} {e : Env} {c : Call} {s' : State} {o : Out},
    R s r → r ≤ e.round → P e c → step hash s e c = .ok (s', o) → R s' e.round
  wait : ∀ {s : State} {r r' : Nat}, R s r → r ≤ r' → R s r'
  good : ∀ {s : State} {r : Nat}, R s r → be_Good s

namespace be_Family
variable {hash : List Nat → List Nat} {P : Env → Call → Prop} {R : State → Nat → Prop}

theorem later (F : be_Family hash P R) {s s' : State} {r r' : Nat} (hs : R s r)
    (h : be_Later P hash s r s' r') : R s' r' := by
  induction h with
  | refl => exact hs
  | call s1 r1 e c s2 o _ h1 h2 h3 ih => exact F.call ih h1 h2 h3
  | wait s1 r1 r2 _ h1 ih => exact F.wait ih h1

/-- a blacklisted participant has nothing confirmed; once the filter has completed they have no
    allocation record (no ticket id is theirs), no winning ticket, and the winner view is empty -/
theorem holds_no_ticket (F : be_Family hash P R) {s : State} {r : Nat} (hs : R s r) {a : Nat}
    (hb : s.blacklist a = true) :
    s.confirmed a = 0 ∧ winCountOf s a = 0 ∧ viewWinningIds s a = [] ∧
    (s.flags.filtered = true → s.range a = none) :=
  ⟨(F.good hs).conf_zero hb, (F.good hs).winCount_zero hb, (F.good hs).view_nil hb,
    fun hf => (F.good hs).no_range hf hb⟩

theorem mid_filter (F : be_Family hash P R) {s : State} {r : Nat} (hs : R s r) {f rm : Nat}
    (hop : s.op = .filter f rm) :
    s.flags.filtered = false ∧ s.flags.selected = false ∧
    (∀ a rg, s.blacklist a = true → s.range a = some rg → f ≤ rg.first) ∧
    (∀ e, ∃ err, step hash s e .claim = .error err) := by
  obtain ⟨h1, h2, h3⟩ := (F.good hs).mid_filter hop
  exact ⟨h1, h2, h3, fun e => (F.good hs).no_claim_before_filter hash e h1⟩

/-- from a state where `a` is blacklisted and selection has started, every `claim` by `a` in every
    later state is rejected -/
theorem claims_nothing (F : be_Family hash P R) {s s' : State} {r r' : Nat} (hs : R s r) {a : Nat}
    (hb : s.blacklist a = true) (hsel : s.cfg.sel ≤ r) (hl : be_Later P hash s r s' r')
    (e : Env) (he : e.caller = a) : ∃ err, step hash s' e .claim = .error err := by
  have hfr := be_frozen_later (F.good hs).valid hsel hl
  have hb' : s'.blacklist e.caller = true := by rw [hfr.bl, he]; exact hb
  exact (F.good (F.later hs hl)).claim_rejected hash e hb'

/-- variants without an un-blacklist endpoint (base, locked, nft, lockedGuar, nftGuar): the flag is
    permanent, so from the moment `a` is blacklisted — whatever the stage — every `claim` by `a`
    in every later state is rejected -/
theorem claims_nothing_ever (F : be_Family hash P R) {s s' : State} {r r' : Nat} (hs : R s r)
    (hv : s.variant.hasUnblacklist = false) {a : Nat} (hb : s.blacklist a = true)
    (hl : be_Later P hash s r s' r') (e : Env) (he : e.caller = a) :
    ∃ err, step hash s' e .claim = .error err := by
  have hb' : s'.blacklist e.caller = true := by rw [he]; exact (be_blacklist_permanent hv hl hb).2
  exact (F.good (F.later hs hl)).claim_rejected hash e hb'

/-- along any history `p` (rounds non-decreasing from `r`, transactions satisfying `P`; rejected
    transactions allowed), a `claim` by `a` after `p` is rejected -/
theorem claims_nothing_run (F : be_Family hash P R) {s : State} {r : Nat} (hs : R s r) {a : Nat}
    (hb : s.blacklist a = true) (hsel : s.cfg.sel ≤ r) (p : Hist) (hr : RoundsFrom r p)
    (hp : ∀ x ∈ p, P x.1 x.2) (e : Env) (he : e.caller = a) :
    ∃ err, step hash (run hash s p) e .claim = .error err := by
  obtain ⟨r', hl, _⟩ := be_later_run (P := P) hash p s r hr hp
  exact F.claims_nothing hs hb hsel hl e he

theorem never_wins (F : be_Family hash P R) {s : State} {r : Nat} (hs : R s r) {a : Nat}
    (hb : s.blacklist a = true) {rg : Range} (hr : s.range a = some rg) (id : Nat) :
    s.status id = false :=
  (F.good hs).never_wins hb hr id

/-- an accepted un-blacklisting in a reachable state: nobody's confirmations, allocation records
    or winning flags change; outside the list the blacklist flag and the guaranteed-ticket records
    are unchanged; the listed participants come back with nothing confirmed (their refund was
    complete) and the resulting state is again a state of the family -/
theorem unblacklist_others (F : be_Family hash P R) {s s' : State} {r : Nat} {e : Env} {l : List Nat}
    {o : Out} (hs : R s r) (hr : r ≤ e.round) (hp : P e (.unblacklist l))
    (h : step hash s e (.unblacklist l) = .ok (s', o)) :
    R s' e.round ∧ o.xfers = [] ∧
    (∀ a, s'.confirmed a = s.confirmed a ∧ s'.range a = s.range a ∧ s'.status a = s.status a) ∧
    (∀ a, a ∉ l → s'.blacklist a = s.blacklist a ∧ s'.uts a = s.uts a ∧ s'.blUts a = s.blUts a) ∧
    (∀ u ∈ l, s.blacklist u = true ∧ s'.blacklist u = false ∧ s'.confirmed u = 0) := by
  obtain ⟨_, _, _, _, hall, hbl, hsame, hout, _, hx⟩ := C10.unblacklist_effect hash s e l s' o h
  refine ⟨F.call hs hr hp h, hx, hsame, ?_, ?_⟩
  · intro a ha
    have := hbl a
    simp only [ha, if_false] at this
    exact ⟨this, hout a ha⟩
  · intro u hu
    have := hbl u
    simp only [hu, if_true] at this
    exact ⟨hall u hu, this, by rw [(hsame u).1]; exact (F.good hs).conf_zero (hall u hu)⟩

end be_Family

end LP

/-
  The union of the reachable-state relations as one `be_Family`: `be_Covered hash s r` holds when
  `s` is a reachable state (latest transaction at round `≤ r`) of one of the eight launchpads —
  base, locked, guarV2, nft (`Reach`), migration, lockedGuar (`v1_Reach`), guarV1 (`g1_Reach`),
  nftGuar (`ng_Reach`).  `be_HistOK` is the conjunction of their side conditions.

  `be_covered_iff` says what a covered state is without naming a relation: a deployment of some
  variant followed by a `be_Later` continuation.  Closure under calls and waiting, induction
  (`be_covered_induct`) and closure under `run` (`be_covered_run`) follow from it.  Of the six
  invariants (`WF`, `WF2`, `nf_WF`, `v1_WF`, `g1_WF`, `ng_WF`) what follows uses only what
  `be_covered_common` extracts (the form of the ticket side, the timeline fact, the ledger) and,
  for the NFT lists, `be_side_not_listed`.
-/
namespace LP
open LP.Props LP.Events LP.FY LP.Props.AllVariants

/-- side conditions on a transaction of a history: EGLD or ESDT but not both; every entry of an
    `addTickets` / `addTicketsV1` call allocates at least one ticket -/
def be_HistOK (e : Env) (c : Call) : Prop := EnvOK e ∧ CallOK c ∧ v1_CallOK c

inductive be_Covered (hash : List Nat → List Nat) : State → Nat → Prop
  | plain {v : Variant} {s : State} {r : Nat} : Plain v → Reach hash v s r → be_Covered hash s r
  | guarV2 {s : State} {r : Nat} : Reach hash .guarV2 s r → be_Covered hash s r
  | nft {s : State} {r : Nat} : Reach hash .nft s r → be_Covered hash s r
  | v1 {v : Variant} {s : State} {r : Nat} : v1_Fam v → v1_Reach hash v s r → be_Covered hash s r
  | guarV1 {s : State} {r : Nat} : g1_Reach hash s r → be_Covered hash s r
  | nftGuar {s : State} {r : Nat} : ng_Reach hash s r → be_Covered hash s r

variable {hash : List Nat → List Nat}

theorem be_HistOK.okOf {e : Env} {c : Call} (h : be_HistOK e c) (v : Variant) :
    HistOKOf v e c := by
  refine ⟨h.1, ?_⟩
  cases v
  case base | locked | nft | guarV2 => exact h.2.1
  case migration | lockedGuar | guarV1 | nftGuar => exact h.2.2

theorem be_covered_iff {s : State} {r : Nat} :
    be_Covered hash s r ↔ ∃ v a e s0, init v a e = .ok s0 ∧
      be_Later (HistOKOf v) hash s0 e.round s r := by
  constructor
  · intro h
    cases h with
    | plain hv h =>
      obtain ⟨a, e, s0, hi, hl⟩ := reach_iff_later.mp h
      rcases hv with rfl | rfl <;> exact ⟨_, a, e, s0, hi, hl⟩
    | guarV2 h =>
      obtain ⟨a, e, s0, hi, hl⟩ := reach_iff_later.mp h
      exact ⟨_, a, e, s0, hi, hl⟩
    | nft h =>
      obtain ⟨a, e, s0, hi, hl⟩ := reach_iff_later.mp h
      exact ⟨_, a, e, s0, hi, hl⟩
    | v1 hv h =>
      obtain ⟨a, ha⟩ := v1_Reach_iff.mp h
      obtain ⟨e, s0, hi, hl⟩ := v1_reachA_iff_later.mp ha
      rcases hv with rfl | rfl <;> exact ⟨_, a, e, s0, hi, hl⟩
    | guarV1 h =>
      obtain ⟨a, ha⟩ := g1_Reach_iff.mp h
      obtain ⟨e, s0, hi, hl⟩ := g1_reachA_iff_later.mp ha
      exact ⟨_, a, e, s0, hi, hl⟩
    | nftGuar h =>
      obtain ⟨a, ha⟩ := ng_Reach_iff.mp h
      obtain ⟨e, s0, hi, hl⟩ := ng_reachA_iff_later.mp ha
      exact ⟨_, a, e, s0, hi, hl⟩
  · rintro ⟨v, a, e, s0, hi, hl⟩
    cases v with
    | base => exact .plain (Or.inl rfl) (reach_iff_later.mpr ⟨a, e, s0, hi, hl⟩)
    | locked => exact .plain (Or.inr rfl) (reach_iff_later.mpr ⟨a, e, s0, hi, hl⟩)
    | nft => exact .nft (reach_iff_later.mpr ⟨a, e, s0, hi, hl⟩)
    | guarV2 => exact .guarV2 (reach_iff_later.mpr ⟨a, e, s0, hi, hl⟩)
    | migration => exact .v1 (Or.inl rfl) (v1_Reach_iff.mpr ⟨a, v1_reachA_iff_later.mpr ⟨e, s0, hi, hl⟩⟩)
    | lockedGuar => exact .v1 (Or.inr rfl) (v1_Reach_iff.mpr ⟨a, v1_reachA_iff_later.mpr ⟨e, s0, hi, hl⟩⟩)
    | guarV1 => exact .guarV1 (g1_Reach_iff.mpr ⟨a, g1_reachA_iff_later.mpr ⟨e, s0, hi, hl⟩⟩)
    | nftGuar => exact .nftGuar (ng_Reach_iff.mpr ⟨a, ng_reachA_iff_later.mpr ⟨e, s0, hi, hl⟩⟩)

theorem be_covered_init {hash : List Nat → List Nat} {v : Variant} {a : InitArgs}
    {e : Env} {s : State} (h : init v a e = .ok s) : be_Covered hash s e.round :=
  be_covered_iff.mpr ⟨v, a, e, s, h, .refl⟩

theorem be_Covered.call {s s' : State} {r : Nat} {e : Env} {c : Call} {o : Out}
    (hs : be_Covered hash s r) (hr : r ≤ e.round) (hp : be_HistOK e c)
    (hst : step hash s e c = .ok (s', o)) : be_Covered hash s' e.round := by
  obtain ⟨v, a, e0, s0, hi, hl⟩ := be_covered_iff.mp hs
  exact be_covered_iff.mpr ⟨v, a, e0, s0, hi, .call s r e c s' o hl hr (hp.okOf v) hst⟩

theorem be_Covered.wait {s : State} {r r' : Nat} (hs : be_Covered hash s r) (hr : r ≤ r') :
    be_Covered hash s r' := by
  obtain ⟨v, a, e0, s0, hi, hl⟩ := be_covered_iff.mp hs
  exact be_covered_iff.mpr ⟨v, a, e0, s0, hi, .wait s r r' hl hr⟩

theorem be_covered_induct {hash : List Nat → List Nat} {Q : State → Prop}
    (hinit : ∀ (v : Variant) (a : InitArgs) (e : Env) (s : State), init v a e = .ok s → Q s)
    (hstep : ∀ (s : State) (r : Nat) (s' : State) (e : Env) (c : Call) (o : Out),
      be_Covered hash s r → be_Covered hash s' e.round → r ≤ e.round →
      step hash s e c = .ok (s', o) → Q s → Q s')
    {s : State} {r : Nat} (h : be_Covered hash s r) : Q s := by
  obtain ⟨v, a, e0, s0, hi, hl⟩ := be_covered_iff.mp h
  induction hl with
  | refl => exact hinit v a e0 s0 hi
  | call s1 r1 e c s2 o hl1 h1 h2 h3 ih =>
    exact hstep s1 r1 s2 e c o (be_covered_iff.mpr ⟨v, a, e0, s0, hi, hl1⟩)
      (be_covered_iff.mpr ⟨v, a, e0, s0, hi, .call s1 r1 e c s2 o hl1 h1 h2 h3⟩) h1 h3
      (ih (be_covered_iff.mpr ⟨v, a, e0, s0, hi, hl1⟩))
  | wait s1 r1 r2 hl1 _ ih => exact ih (be_covered_iff.mpr ⟨v, a, e0, s0, hi, hl1⟩)

theorem be_Shape.of_Phase2 {T0 : Nat} {g : GCore} (h : Phase2 T0 g) : be_Shape g.core := by
  rcases h with ⟨_, _, _, h4⟩ | hE | hF
  · exact .of_Phase h4
  · refine .alloc hE.started hE.filtered (fun f rm hop => ?_) hE.alloc
    obtain ⟨lo, off, add, _, ⟨h1, _⟩ | ⟨rng, h1⟩⟩ := hE.dist <;> rw [h1] at hop <;> cases hop
  · exact .of_PhD hF.d

theorem be_Shape.of_v1_PhaseC {T0 : Nat} {c : Core} {g : v1_G} (h : v1_PhaseC T0 c g) :
    be_Shape c := by
  rcases h with ⟨_, _, ⟨L0, hp, ⟨ha, _⟩ | ⟨hb, _⟩⟩ | ⟨hc, _⟩ | hE⟩ | ⟨_, hd⟩
  · exact .pre hp (Or.inl ha)
  · exact .pre hp (Or.inr hb)
  · exact .of_PhC hc
  · refine .alloc hE.started hE.filtered (fun f rm hop => ?_) hE.alloc
    obtain ⟨lo, off, add, ⟨h1, _⟩ | ⟨rng, h1⟩, _⟩ := hE.dist <;> rw [h1] at hop <;> cases hop
  · exact .of_PhD hd

theorem be_Shape.of_nf_Phase {T0 : Nat} {c : Core} (h : nf_Phase T0 c) : be_Shape c := by
  rcases h with ⟨_, _, h3⟩ | ⟨_, hD, hop, _⟩ | ⟨_, hD⟩
  · exact .of_Phase h3
  · refine .done hD fun f rm h1 => ?_
    rcases hop with h2 | ⟨rg, h2⟩ <;> rw [h2] at h1 <;> cases h1
  · exact .of_PhD hD

theorem be_Shape.of_ng_Phase {T0 : Nat} {c : Core} {g : v1_G} (h : ng_Phase T0 c g) :
    be_Shape c := by
  rcases h with h | ⟨hF, rg, hop⟩
  · exact .of_v1_PhaseC h
  · exact .done hF.post fun f rm h1 => by rw [hop] at h1; cases h1

/-- NFT fees held in the ticket-payment slot; only the two contracts with an NFT draw hold any -/
def be_fee (s : State) : Nat := if s.variant.hasNft = true then (nf_side s).feeIn else 0

theorem be_fee_noNft {s : State} (hn : s.variant.hasNft = false) : be_fee s = 0 :=
  if_neg (by rw [hn]; nofun)

/-- the facts every one of the six invariants provides: the form of the ticket side (for the two
    launchpads with an NFT draw, of the projection whose payment balance is the ticket part of the
    holdings), "the filter starts only once the selection period has begun", and the
    ticket-payment ledger on the ticket part `tix` of the holdings -/
structure be_Common (s : State) (r : Nat) : Prop where
  shape : ∃ x, be_Shape { s.core with payBal := x }
  tlStarted : s.flags.started = true → s.cfg.conf ≤ r ∧ s.cfg.sel ≤ r
  pricePos : 0 < s.price
  ledger : ∃ tix, tix + be_fee s = s.bal s.payTok 0 ∧
    ∃ L : List Nat, Covers s L ∧ (¬ AllDone s → tix = s.price * sumOver s.confirmed L) ∧
      (AllDone s → Settled s tix L)

theorem be_Common.of_noNft {s : State} {r : Nat} (hn : s.variant.hasNft = false)
    (hsh : ∃ x, be_Shape { s.core with payBal := x })
    (htl : s.flags.started = true → s.cfg.conf ≤ r ∧ s.cfg.sel ≤ r) (hp : 0 < s.price)
    (hl : ∃ L : List Nat, Covers s L ∧ (¬ AllDone s → PayEqPre s L) ∧
      (AllDone s → Settled s (s.bal s.payTok 0) L)) : be_Common s r :=
  ⟨hsh, htl, hp, _, by rw [be_fee_noNft hn]; rfl, hl⟩

theorem be_Common.of_nft {s : State} {r : Nat} (hn : s.variant.hasNft = true)
    (hsh : ∃ x, be_Shape { s.core with payBal := x })
    (htl : s.flags.started = true → s.cfg.conf ≤ r ∧ s.cfg.sel ≤ r) (hp : 0 < s.price)
    (hf : NftFacts s) : be_Common s r :=
  ⟨hsh, htl, hp, _, by rw [be_fee, if_pos hn]; exact nf_tix_add hf.side, hf.ledger⟩

/-- the one place where the six invariants are opened for the facts all variants share -/
theorem be_covered_common {s : State} {r : Nat} (h : be_Covered hash s r) : be_Common s r := by
  cases h with
  | plain hv h =>
    obtain ⟨a0, ha⟩ := Reach_iff.mp h
    have wf := reach_WF hv ha
    exact .of_noNft (rb_plain_flags wf.var).2.1 ⟨_, .of_Phase wf.phase⟩ wf.tlStarted wf.pricePos
      (rb_WF_ledger wf)
  | guarV2 h =>
    obtain ⟨a0, ha⟩ := Reach_iff.mp h
    have wf := reach_WF2 ha
    exact .of_noNft (v2_flags wf.var).2.1 ⟨_, .of_Phase2 wf.phase⟩ wf.tlStarted wf.pricePos
      (LP.Props.C01reachV2.v2_WF_ledger wf)
  | nft h =>
    obtain ⟨a0, ha⟩ := Reach_iff.mp h
    have wf := nf_reach_WF ha
    exact .of_nft (nf_flags wf.var).2.1 ⟨_, .of_nf_Phase wf.phase⟩ wf.tlStarted wf.pricePos wf.facts
  | v1 hv h =>
    obtain ⟨a0, ha⟩ := v1_Reach_iff.mp h
    have wf := v1_reach_WF hv ha
    exact .of_noNft (v1_fam_flags wf.var).2.1 ⟨_, .of_v1_PhaseC wf.phase⟩ wf.tlStarted wf.pricePos
      (v1_phase_ledger wf.phase)
  | guarV1 h =>
    obtain ⟨a0, ha⟩ := g1_Reach_iff.mp h
    have wf := g1_reach_WF ha
    exact .of_noNft (g1_flags wf.var).2.1 ⟨_, .of_v1_PhaseC wf.phase⟩ wf.tlStarted wf.pricePos
      (v1_phase_ledger wf.phase)
  | nftGuar h =>
    obtain ⟨a0, ha⟩ := ng_Reach_iff.mp h
    have wf := ng_reach_WF ha
    exact .of_nft (ng_flags wf.var).2.1 ⟨_, .of_ng_Phase wf.phase⟩ wf.tlStarted wf.pricePos wf.facts

theorem be_tix_covered {s : State} {r : Nat} (h : be_Covered hash s r) : be_Tix s.core := by
  obtain ⟨x, hx⟩ := (be_covered_common h).shape
  exact hx.tix.of_payBal

theorem be_BV_covered {s : State} {r : Nat} (h : be_Covered hash s r) : be_BV s :=
  be_covered_induct (Q := be_BV) (fun _ _ _ _ hi => be_BV_init hi)
    (fun _ _ _ _ _ _ _ _ _ hst hq => be_BV_step hq hst) h

theorem be_BV_reach {hash : List Nat → List Nat} {v : Variant} {s : State} {r : Nat}
    (h : Reach hash v s r) : be_BV s := ⟨be_BlZero_reach h, be_validPeriods_reach h⟩

theorem be_phaseOK_covered {s : State} {r : Nat} (h : be_Covered hash s r) : PhaseOK s :=
  be_covered_induct (Q := PhaseOK) (fun _ _ _ _ hi => init_phaseOK hi)
    (fun _ _ _ _ _ _ _ _ _ hst hq => step_phaseOK hq hst) h

theorem be_unclaimed_covered {s : State} {r : Nat} (h : be_Covered hash s r)
    (hna : s.flags.selected = false ∨ s.flags.additional = false) (a : Nat) :
    s.claimed a = false := by
  cases hc : s.claimed a with
  | false => rfl
  | true =>
    obtain ⟨h1, h2⟩ := (be_phaseOK_covered h).claimed a hc
    rcases hna with h3 | h3
    · rw [h1] at h3; cases h3
    · rw [h2] at h3; cases h3

theorem be_filStarted_covered {s : State} {r : Nat} (h : be_Covered hash s r)
    (hf : s.flags.filtered = true) : s.flags.started = true := by
  obtain ⟨x, hx⟩ := (be_covered_common h).shape
  exact hx.filStarted hf

/-- the filter completes only after both start rounds -/
theorem be_filtered_rounds {s : State} {r : Nat} (h : be_Covered hash s r)
    (hf : s.flags.filtered = true) : s.cfg.conf ≤ r ∧ s.cfg.sel ≤ r :=
  (be_covered_common h).tlStarted (be_filStarted_covered h hf)

theorem be_early_unclaimed {s : State} {r n : Nat} (h : be_Covered hash s r) (hr : r ≤ n)
    (hlt : n < s.cfg.conf ∨ n < s.cfg.sel) (a : Nat) : s.claimed a = false := by
  apply be_unclaimed_covered h (Or.inl _)
  cases hs : s.flags.selected with
  | false => rfl
  | true =>
    have := be_filtered_rounds h ((be_phaseOK_covered h).sel_fil hs)
    omega

/-- a blacklisted participant has never settled (`claim` is also the endpoint that releases vested
    tokens to a participant who has already settled, so the vesting variants need this to reject
    every claim of a blacklisted caller) -/
theorem be_nc_covered {s : State} {r : Nat} (h : be_Covered hash s r) :
    ∀ a, s.blacklist a = true → s.claimed a = false := by
  refine be_covered_induct (Q := fun s => ∀ a, s.blacklist a = true → s.claimed a = false)
    ?_ ?_ h
  · intro v a e s hi u hu
    obtain ⟨_, rfl⟩ := init_ok hi
    cases hu
  · intro s r s' e c o hs _ hr hst ih
    refine be_NC_step (be_tix_covered hs) (be_BV_covered hs).1 ih (fun hc => ?_) hst
    have hstage : s.stage e = .addTickets ∨ s.stage e = .confirm :=
      C06.blacklist_only_before_selection hash s e c _
        (hc.elim Or.inl (fun x => Or.inr (Or.inl x))) hst
    exact be_early_unclaimed hs hr (be_stage_early_lt hstage)

theorem be_good_covered {s : State} {r : Nat} (h : be_Covered hash s r) : be_Good s := by
  have htix := be_tix_covered h
  refine ⟨htix, (be_BV_covered h).1, (be_BV_covered h).2, fun _ => be_nc_covered h,
    fun _ hf => be_unclaimed_covered h (Or.inl ?_)⟩
  cases hs : s.flags.selected with
  | false => rfl
  | true => rw [(be_phaseOK_covered h).sel_fil hs] at hf; cases hf

theorem be_family_all (hash : List Nat → List Nat) : be_Family hash be_HistOK (be_Covered hash) :=
  ⟨fun hs hr hp hst => hs.call hr hp hst, fun hs hr => hs.wait hr, be_good_covered⟩

/-- the state after any history (rounds non-decreasing from `r`, transactions satisfying
    `be_HistOK`, rejected transactions allowed) from a covered state is covered -/
theorem be_covered_run {hash : List Nat → List Nat} {s : State} {r : Nat} (hs : be_Covered hash s r)
    (p : LP.Props.C17.Hist) (hr : LP.Props.C17.RoundsFrom r p) (hp : ∀ x ∈ p, be_HistOK x.1 x.2) :
    ∃ r', be_Covered hash (run hash s p) r' ∧
      ∀ q : LP.Props.C17.Hist, LP.Props.C17.RoundsFrom r (p ++ q) → LP.Props.C17.RoundsFrom r' q := by
  obtain ⟨r', hl, hq⟩ := be_later_run (P := be_HistOK) hash p s r hr hp
  exact ⟨r', (be_family_all hash).later hs hl, hq⟩

theorem be_side_not_listed {s : State} (hs : nf_SideInv (nf_side s)) {a : Nat}
    (h0 : s.confirmed a = 0) : a ∉ s.payers ∧ a ∉ s.nftWinners := by
  constructor <;> intro hm
  · have : 0 < s.confirmed a := hs.conf a (Or.inl hm)
    omega
  · have : 0 < s.confirmed a := hs.conf a (Or.inr hm)
    omega

end LP
