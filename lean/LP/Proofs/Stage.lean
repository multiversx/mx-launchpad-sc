import LP.Step
/-
  The lifecycle stage `stageOf` (launch_stage.rs): what each stage says about the round and the
  flags, and that it never goes back: it is monotone in the round and in the flags, and an accepted
  timeline setter leaves the current stage as it is.  `TL` / `TLStep` state this on the triple
  (round, cfg, flags) alone.
-/
namespace LP

/-- flags only gain: `selected` and `additional` may go false→true, never back -/
def Flags.gain (f f' : Flags) : Prop :=
  (f.selected = true → f'.selected = true) ∧ (f.additional = true → f'.additional = true)

theorem Flags.gain_refl (f : Flags) : Flags.gain f f := ⟨id, id⟩

theorem Flags.gain_trans {f g h : Flags} (a : Flags.gain f g) (b : Flags.gain g h) :
    Flags.gain f h := ⟨fun x => b.1 (a.1 x), fun x => b.2 (a.2 x)⟩

/-! `stageOf` decides from top to bottom.  Its four rows as equations, from which `stageOf_spec`,
    `stageOf_claim_iff` and `stageOf_toNat` are read without unfolding it again. -/

theorem stageOf_addTickets {round : Nat} {c : Cfg} (f : Flags) (h : round < c.conf) :
    stageOf round c f = .addTickets := by
  unfold stageOf; rw [if_pos h]

theorem stageOf_confirm {round : Nat} {c : Cfg} (f : Flags) (h1 : c.conf ≤ round) (h2 : round < c.sel) :
    stageOf round c f = .confirm := by
  unfold stageOf; rw [if_neg (Nat.not_lt.mpr h1), if_pos h2]

theorem stageOf_selection {round : Nat} {c : Cfg} {f : Flags} (h1 : c.conf ≤ round) (h2 : c.sel ≤ round)
    (h3 : ¬ (f.selected = true ∧ f.additional = true ∧ c.claim ≤ round)) :
    stageOf round c f = .winnerSelection := by
  unfold stageOf
  rw [if_neg (Nat.not_lt.mpr h1), if_neg (Nat.not_lt.mpr h2)]
  cases hs : f.selected <;> cases ha : f.additional <;> try rfl
  rw [if_neg (by decide), if_pos (Nat.lt_of_not_le fun h => h3 ⟨hs, ha, h⟩)]

theorem stageOf_claim {round : Nat} {c : Cfg} {f : Flags} (h1 : c.conf ≤ round) (h2 : c.sel ≤ round)
    (h3 : c.claim ≤ round) (hs : f.selected = true) (ha : f.additional = true) :
    stageOf round c f = .claim := by
  unfold stageOf
  rw [if_neg (Nat.not_lt.mpr h1), if_neg (Nat.not_lt.mpr h2), hs, ha, if_neg (by decide),
    if_neg (Nat.not_lt.mpr h3)]

/-- what each stage says about the round and the flags (the four rows are exhaustive) -/
theorem stageOf_spec (round : Nat) (c : Cfg) (f : Flags) :
    match stageOf round c f with
    | .addTickets => round < c.conf
    | .confirm => c.conf ≤ round ∧ round < c.sel
    | .winnerSelection => c.conf ≤ round ∧ c.sel ≤ round
    | .claim => c.conf ≤ round ∧ c.sel ≤ round ∧ c.claim ≤ round ∧
        f.selected = true ∧ f.additional = true := by
  by_cases h1 : round < c.conf
  · rw [stageOf_addTickets f h1]; exact h1
  have h1 := Nat.le_of_not_lt h1
  by_cases h2 : round < c.sel
  · rw [stageOf_confirm f h1 h2]; exact ⟨h1, h2⟩
  have h2 := Nat.le_of_not_lt h2
  by_cases h3 : f.selected = true ∧ f.additional = true ∧ c.claim ≤ round
  · rw [stageOf_claim h1 h2 h3.2.2 h3.1 h3.2.1]; exact ⟨h1, h2, h3.2.2, h3.1, h3.2.1⟩
  · rw [stageOf_selection h1 h2 h3]; exact ⟨h1, h2⟩

/-- every selection step (the lottery and, where there is one, the additional step) is complete -/
def AllDone (s : State) : Prop := s.flags.selected = true ∧ s.flags.additional = true

theorem AllDone.of_flags {s s' : State} (hd : AllDone s) (h : s'.flags = s.flags) : AllDone s' := by
  unfold AllDone; rw [h]; exact hd

/-- the claim stage is: every selection step complete and the three start rounds reached -/
theorem stageOf_claim_iff {round : Nat} {c : Cfg} {f : Flags} :
    stageOf round c f = .claim ↔
      (f.selected = true ∧ f.additional = true) ∧ c.conf ≤ round ∧ c.sel ≤ round ∧ c.claim ≤ round := by
  constructor
  · intro h
    have := stageOf_spec round c f
    rw [h] at this
    exact ⟨this.2.2.2, this.1, this.2.1, this.2.2.1⟩
  · rintro ⟨⟨h1, h2⟩, h3, h4, h5⟩
    exact stageOf_claim h3 h4 h5 h1 h2

theorem stage_claim_iff {s : State} {e : Env} :
    s.stage e = .claim ↔
      AllDone s ∧ s.cfg.conf ≤ e.round ∧ s.cfg.sel ≤ e.round ∧ s.cfg.claim ≤ e.round :=
  stageOf_claim_iff

theorem stageOf_toNat (round : Nat) (c : Cfg) (f : Flags) :
    (stageOf round c f).toNat =
      if round < c.conf then 0
      else if round < c.sel then 1
      else if f.selected = true ∧ f.additional = true ∧ c.claim ≤ round then 3 else 2 := by
  by_cases h1 : round < c.conf
  · rw [stageOf_addTickets f h1, if_pos h1]; rfl
  by_cases h2 : round < c.sel
  · rw [stageOf_confirm f (Nat.le_of_not_lt h1) h2, if_neg h1, if_pos h2]; rfl
  by_cases h3 : f.selected = true ∧ f.additional = true ∧ c.claim ≤ round
  · rw [stageOf_claim (Nat.le_of_not_lt h1) (Nat.le_of_not_lt h2) h3.2.2 h3.1 h3.2.1, if_neg h1, if_neg h2,
      if_pos h3]; rfl
  · rw [stageOf_selection (Nat.le_of_not_lt h1) (Nat.le_of_not_lt h2) h3, if_neg h1, if_neg h2, if_neg h3]; rfl

theorem Stage.toNat_inj {a b : Stage} (h : a.toNat = b.toNat) : a = b := by
  cases a <;> cases b <;> simp_all [Stage.toNat]

/-- monotone in time and flags (no assumption on the configuration is needed) -/
theorem stageOf_mono_raw {round round' : Nat} (c : Cfg) {f f' : Flags}
    (hr : round ≤ round') (hf : Flags.gain f f') :
    (stageOf round c f).toNat ≤ (stageOf round' c f').toNat := by
  rw [stageOf_toNat, stageOf_toNat]
  obtain ⟨h1, h2⟩ := hf
  by_cases hA : f.selected = true ∧ f.additional = true ∧ c.claim ≤ round
  · have hB : f'.selected = true ∧ f'.additional = true ∧ c.claim ≤ round' :=
      ⟨h1 hA.1, h2 hA.2.1, by omega⟩
    rw [if_pos hA, if_pos hB]
    repeat' split
    all_goals omega
  · rw [if_neg hA]
    repeat' split
    all_goals omega

theorem validTimelineChange_ok {round old new : Nat} :
    validTimelineChange round old new = .ok () ↔ round < old ∧ round < new := by
  unfold validTimelineChange req
  by_cases h1 : old > round <;> by_cases h2 : new > round <;>
    simp [h1, h2, bind, Except.bind] <;> omega

theorem validTimelineChange_err {round old new : Nat} (h : old ≤ round) :
    validTimelineChange round old new =
      .error (.user "Cannot change start round, it's either in progress or passed already") := by
  unfold validTimelineChange req
  have : ¬ old > round := by omega
  simp [this, bind, Except.bind]

/-- the stage reads the flags only through `selected` and `additional` -/
theorem stageOf_congr_flags {round : Nat} (c : Cfg) {f f' : Flags} (hs : f'.selected = f.selected)
    (ha : f'.additional = f.additional) : stageOf round c f' = stageOf round c f := by
  unfold stageOf
  rw [hs, ha]

/-- the stage sees the configuration only through the three comparisons with the round -/
theorem stageOf_congr_cfg {round : Nat} {c c' : Cfg} (f : Flags) (h1 : round < c.conf ↔ round < c'.conf)
    (h2 : round < c.sel ↔ round < c'.sel) (h3 : round < c.claim ↔ round < c'.claim) :
    stageOf round c f = stageOf round c' f := by
  unfold stageOf
  simp only [h1, h2, h3]

theorem stageOf_setConf {round r : Nat} (c : Cfg) (f : Flags)
    (h : validTimelineChange round c.conf r = .ok ()) :
    stageOf round { c with conf := r } f = stageOf round c f :=
  have ⟨h1, h2⟩ := validTimelineChange_ok.1 h
  stageOf_congr_cfg f ⟨fun _ => h1, fun _ => h2⟩ Iff.rfl Iff.rfl

theorem stageOf_setSel {round r : Nat} (c : Cfg) (f : Flags)
    (h : validTimelineChange round c.sel r = .ok ()) :
    stageOf round { c with sel := r } f = stageOf round c f :=
  have ⟨h1, h2⟩ := validTimelineChange_ok.1 h
  stageOf_congr_cfg f Iff.rfl ⟨fun _ => h1, fun _ => h2⟩ Iff.rfl

theorem stageOf_setClaim {round r : Nat} (c : Cfg) (f : Flags)
    (h : validTimelineChange round c.claim r = .ok ()) :
    stageOf round { c with claim := r } f = stageOf round c f :=
  have ⟨h1, h2⟩ := validTimelineChange_ok.1 h
  stageOf_congr_cfg f Iff.rfl Iff.rfl ⟨fun _ => h1, fun _ => h2⟩

/-- the body shared by the three timeline setters -/
theorem setStart_ok {t t' : Tx} {round old r : Nat} {c' : Cfg}
    (h : (validTimelineChange round old r >>= fun _ =>
          req (validPeriods c') "invalid time periods" >>= fun _ =>
          pure (t.setS { t.s with cfg := c' }) : Res Tx) = .ok t') :
    validTimelineChange round old r = .ok () ∧ validPeriods c' = true ∧
    t' = t.setS { t.s with cfg := c' } := by
  cases hv : validTimelineChange round old r with
  | error err => rw [hv] at h; cases h
  | ok u =>
    rw [hv] at h
    cases hq : validPeriods c' with
    | false => rw [hq] at h; cases h
    | true => rw [hq] at h; cases h; exact ⟨rfl, rfl, rfl⟩

theorem exec_setConfStart_ok {hash : List Nat → List Nat} {t t' : Tx} {e : Env} {r : Nat}
    (h : exec hash t e (.setConfStart r) = .ok t') :
    validTimelineChange e.round t.s.cfg.conf r = .ok () ∧
    validPeriods { t.s.cfg with conf := r } = true ∧
    t' = t.setS { t.s with cfg := { t.s.cfg with conf := r } } := setStart_ok h

theorem exec_setSelStart_ok {hash : List Nat → List Nat} {t t' : Tx} {e : Env} {r : Nat}
    (h : exec hash t e (.setSelStart r) = .ok t') :
    validTimelineChange e.round t.s.cfg.sel r = .ok () ∧
    validPeriods { t.s.cfg with sel := r } = true ∧
    t' = t.setS { t.s with cfg := { t.s.cfg with sel := r } } := setStart_ok h

theorem exec_setClaimStart_ok {hash : List Nat → List Nat} {t t' : Tx} {e : Env} {r : Nat}
    (h : exec hash t e (.setClaimStart r) = .ok t') :
    validTimelineChange e.round t.s.cfg.claim r = .ok () ∧
    validPeriods { t.s.cfg with claim := r } = true ∧
    t' = t.setS { t.s with cfg := { t.s.cfg with claim := r } } := setStart_ok h

theorem validPeriods_iff (c : Cfg) : validPeriods c = true ↔ c.conf < c.sel ∧ c.sel ≤ c.claim := by
  simp [validPeriods]

/-- the part of the world the stage depends on -/
structure TL where
  round : Nat
  cfg : Cfg
  flags : Flags

def TL.stage (x : TL) : Stage := stageOf x.round x.cfg x.flags

/-- one admissible move: time passes, a flag is gained, or a setter call is accepted -/
inductive TLStep : TL → TL → Prop where
  | advance (x : TL) (r' : Nat) (h : x.round ≤ r') : TLStep x { x with round := r' }
  | gain (x : TL) (f' : Flags) (h : Flags.gain x.flags f') : TLStep x { x with flags := f' }
  | setConf (x : TL) (r : Nat) (h : validTimelineChange x.round x.cfg.conf r = .ok ())
      (hv : validPeriods { x.cfg with conf := r } = true) :
      TLStep x { x with cfg := { x.cfg with conf := r } }
  | setSel (x : TL) (r : Nat) (h : validTimelineChange x.round x.cfg.sel r = .ok ())
      (hv : validPeriods { x.cfg with sel := r } = true) :
      TLStep x { x with cfg := { x.cfg with sel := r } }
  | setClaim (x : TL) (r : Nat) (h : validTimelineChange x.round x.cfg.claim r = .ok ())
      (hv : validPeriods { x.cfg with claim := r } = true) :
      TLStep x { x with cfg := { x.cfg with claim := r } }

inductive TLSteps : TL → TL → Prop where
  | refl (x : TL) : TLSteps x x
  | cons {x y z : TL} (h : TLStep x y) (t : TLSteps y z) : TLSteps x z

theorem TLStep.stage_le {x y : TL} (h : TLStep x y) : x.stage.toNat ≤ y.stage.toNat := by
  cases h with
  | advance r' h => exact stageOf_mono_raw x.cfg h (Flags.gain_refl _)
  | gain f' h => exact stageOf_mono_raw x.cfg (Nat.le_refl _) h
  | setConf r h hv => exact Nat.le_of_eq (by simp [TL.stage, stageOf_setConf x.cfg x.flags h])
  | setSel r h hv => exact Nat.le_of_eq (by simp [TL.stage, stageOf_setSel x.cfg x.flags h])
  | setClaim r h hv => exact Nat.le_of_eq (by simp [TL.stage, stageOf_setClaim x.cfg x.flags h])

theorem TLStep.round_le {x y : TL} (h : TLStep x y) : x.round ≤ y.round := by
  cases h <;> simp_all

theorem TLStep.validPeriods {x y : TL} (h : TLStep x y) (hv : validPeriods x.cfg = true) :
    validPeriods y.cfg = true := by
  cases h <;> simp_all

end LP
