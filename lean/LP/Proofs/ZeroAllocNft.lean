import LP.Proofs.ZeroAllocSim
import LP.Proofs.ReachNft
import LP.Proofs.FieldFrames
import LP.Proofs.ReachFL
import LP.Proofs.LockedGuarClaim
/-
  Launchpad with NFT draw (`Variant.nft`, prefix `zn_`) with zero-size entries: every state of
  `ReachZA hash .nft a0` (LP/Proofs/ZeroAllocSim.lean) is `ZnSim`-related to a state of `ReachA hash .nft a0`
  (`zn_sim`).  `ZnSim s z` = `ZSim s z` (every field outside the four of `z_w` equal, in particular the
  two NFT lists, the fee, the balances) plus: an address that has claimed in `s` but not in `z` (an
  empty-range address) has nothing confirmed.  The calls are the `z_core_*` lemmas of
  LP/Proofs/ZeroAllocSim.lean; what is proved here is that the addresses `blacklist` skips are not fee payers
  (nothing confirmed), the rider of the claim, `zn_ledger_Z`, two facts that hold on `ReachZ` by a direct
  induction, and that the NFT participants stay frozen during the selection stage (`zn_later_frozen`).
-/

/-! ### the relation `ZnSim` and the simulation `zn_sim` -/
namespace LP
open LP.FY

structure ZnSim (s z : State) : Prop where
  sim : ZSim s z
  clc : ∀ a, s.claimed a = true → z.claimed a = true ∨ s.confirmed a = 0

/-- nobody has claimed before the NFT draw is complete -/
def zn_Fresh (s : State) : Prop := s.flags.additional = false → ∀ a, s.claimed a = false

theorem zn_fresh_step {hash : List Nat → List Nat} {s s' : State} {e : Env} {c : Call} {o : Out}
    (hv : s.variant.vested = false)
    (hs : step hash s e c = .ok (s', o)) (hf : zn_Fresh s) : zn_Fresh s' := by
  intro hadd a
  have hadd0 : s.flags.additional = false := z_additional_back hs hadd
  by_cases hc : c = .claim
  · subst hc
    exfalso
    obtain ⟨_, _, t, hx, _, _⟩ := (LP.Props.C09.step_claim_ok_iff hash s e s' o).mp hs
    have hst : s.stage e = .claim := by
      rw [exec_claim_nonvested hash _ e (by exact hv)] at hx
      obtain ⟨r, hpre, _⟩ := (claimBase_ok_iff _ e t).mp hx
      exact hpre.1
    have := (stage_claim_iff.mp hst).1.2
    rw [hadd0] at this; cases this
  · rw [(LP.Props.C09.step_claimed_exact hash s e c s' o hs).1 hc]
    exact hf hadd0 a

theorem zn_clc_keep {hash : List Nat → List Nat} {s s' z z' : State} {e : Env} {c : Call} {o : Out}
    (hs : step hash s e c = .ok (s', o)) (hc : c ≠ .claim)
    (hconf : ∀ n, c = .confirm n → s.claimed e.caller = false)
    (hz : z'.claimed = z.claimed)
    (h : ∀ a, s.claimed a = true → z.claimed a = true ∨ s.confirmed a = 0) :
    ∀ a, s'.claimed a = true → z'.claimed a = true ∨ s'.confirmed a = 0 := by
  intro a ha
  rw [(LP.Props.C09.step_claimed_exact hash s e c s' o hs).1 hc] at ha
  rw [hz]
  rcases h a ha with h1 | h1
  · exact Or.inl h1
  · right
    have hcb := step_cb hs
    have hcf : s'.confirmed = (cbAfter s e c).confirmed := congrArg CB.confirmed hcb
    rw [hcf]
    cases c with
    | confirm n =>
      have hne : a ≠ e.caller := by
        intro hh; subst hh
        rw [hconf n rfl] at ha; cases ha
      show upd s.confirmed e.caller _ a = 0
      rw [upd_other _ _ _ _ hne]; exact h1
    | blacklist l =>
      show (if a ∈ l then 0 else s.confirmed a) = 0
      split
      · rfl
      · exact h1
    | refundUsers l =>
      show (if a ∈ l then 0 else s.confirmed a) = 0
      split
      · rfl
      · exact h1
    | claim => exact absurd rfl hc
    | _ => exact h1

theorem zn_phase_notFiltered {T0 : Nat} {c : Core} (h : nf_Phase T0 c) (hf : c.flags.filtered = false) :
    Phase T0 c := by
  rcases h with ⟨_, _, h3⟩ | ⟨_, hD, _⟩ | ⟨_, hD⟩
  · exact h3
  · have : c.flags.filtered = true := hD.filtered
    rw [hf] at this; cases this
  · rw [hD.filtered] at hf; cases hf

theorem zn_sim_indep {hash : List Nat → List Nat} {a0 : InitArgs} {s z : State} {r : Nat}
    {e : Env} {c : Call} {s' : State} {o : Out} (hc : ov_indep c = true)
    (hz : ReachA hash .nft a0 z r) (hsim : ZSim s z) (hd : s.flags.started = false → z_Hd s)
    (hr : r ≤ e.round) (hok : EnvOK e) (hs : step hash s e c = .ok (s', o)) :
    ∃ z', ReachA hash .nft a0 z' e.round ∧ ZSim s' z' ∧ (s'.flags.started = false → z_Hd s') ∧
      z'.claimed = z.claimed ∧ step hash z e c = .ok (z', o) := by
  obtain ⟨z', hsim', hcl, hstep⟩ := z_core_indep hc hsim hs
  exact ⟨z', .call z r e c z' o hz hr hok (z_indep_CallOK hc) hstep, hsim', z_indep_Hd hc hs hd, hcl, hstep⟩

theorem zn_sim_add {hash : List Nat → List Nat} {a0 : InitArgs} {s z : State} {r : Nat}
    {e : Env} {l : List (Nat × Nat)} {s' : State} {o : Out}
    (hz : ReachA hash .nft a0 z r) (hsim : ZSim s z) (hd : s.flags.started = false → z_Hd s)
    (hr : r ≤ e.round) (hok : EnvOK e) (hs : step hash s e (.addTickets l) = .ok (s', o)) :
    ∃ z', ReachA hash .nft a0 z' e.round ∧ ZSim s' z' ∧ (s'.flags.started = false → z_Hd s') ∧
      z'.claimed = z.claimed ∧
      step hash z e (.addTickets (l.filter (fun p => decide (1 ≤ p.2)))) = .ok (z', o) := by
  have hwf := nf_reach_WF hz
  obtain ⟨hcfg, hfl, _⟩ := hsim.fields
  have hst : s.stage e = .addTickets :=
    LP.Props.C06.alloc_only_in_addTickets hash s e _ _ (Or.inl ⟨l, rfl⟩) hs
  have hns : z.flags.started = false :=
    notStarted_of_lt hwf.tlStarted hr (Or.inl (by rw [hcfg]; exact rb_stage_addTickets hst))
  obtain ⟨_, _, L0, hp, _⟩ := nf_phase_notStarted hwf.phase hns
  obtain ⟨z', h1, h2, h3, h4⟩ := z_core_add hsim (by rw [← hfl]; exact hp.notFiltered)
    (hd (by rw [← hfl]; exact hns)) hs
  exact ⟨z', .call z r e (.addTickets _) _ _ hz hr hok
    (fun p hp => of_decide_eq_true (List.mem_filter.mp hp).2) h4, h1, fun _ => h2, h3, h4⟩

theorem zn_sim_confirm {hash : List Nat → List Nat} {a0 : InitArgs} {s z : State} {r : Nat}
    {e : Env} {n : Nat} {s' : State} {o : Out}
    (hz : ReachA hash .nft a0 z r) (hsim : ZSim s z) (hd : s.flags.started = false → z_Hd s)
    (hr : r ≤ e.round) (hok : EnvOK e) (hs : step hash s e (.confirm n) = .ok (s', o)) :
    ∃ z', ReachA hash .nft a0 z' e.round ∧ ZSim s' z' ∧ (s'.flags.started = false → z_Hd s') ∧
      z'.claimed = z.claimed ∧ step hash z e (.confirm n) = .ok (z', o) := by
  obtain ⟨z', hsim', hcl, hstep⟩ := z_core_confirm hsim hs
  exact ⟨z', .call z r e (.confirm n) z' o hz hr hok trivial hstep, hsim', z_confirm_Hd hs hd, hcl, hstep⟩

theorem zn_noRange_noConf {T0 : Nat} {z : State} {r : Nat} (hwf : nf_WF T0 z r)
    (hns : z.flags.started = false) {a : Nat} (ha : z.range a = none) : z.confirmed a = 0 := by
  obtain ⟨_, _, L0, hp, hA⟩ := nf_phase_notStarted hwf.phase hns
  exact z_PhA_noRange_noConf hp hA ha

theorem zn_sim_blacklist {hash : List Nat → List Nat} {a0 : InitArgs} {s z : State} {r : Nat}
    {e : Env} {l : List Nat} {s' : State} {o : Out}
    (hz : ReachA hash .nft a0 z r) (hsim : ZSim s z) (hd : s.flags.started = false → z_Hd s)
    (hr : r ≤ e.round) (hok : EnvOK e) (hs : step hash s e (.blacklist l) = .ok (s', o)) :
    ∃ z', ReachA hash .nft a0 z' e.round ∧ ZSim s' z' ∧ (s'.flags.started = false → z_Hd s') ∧
      z'.claimed = z.claimed ∧
      step hash z e (.blacklist (l.filter (fun a => (z_eraseR s.range a).isSome))) = .ok (z', o) := by
  have hwf := nf_reach_WF hz
  obtain ⟨hcfg, _, hvz, _, hcf, _, _⟩ := hsim.fields
  have hpz : z.payers = s.payers := (congrArg State.payers hsim.rest :)
  have hns : z.flags.started = false := by
    rcases LP.Props.C06.blacklist_only_before_selection hash s e _ _ (Or.inl ⟨l, rfl⟩) hs with hst | hst
    · exact notStarted_of_lt hwf.tlStarted hr (Or.inl (by rw [hcfg]; exact rb_stage_addTickets hst))
    · exact notStarted_of_lt hwf.tlStarted hr (Or.inr (by rw [hcfg]; exact (rb_stage_confirm hst).2))
  have hd' := z_Hd_keep hs (z_step_tk hs rfl) hd
  -- an address without a range in `z` has nothing confirmed, so it has paid no NFT fee
  have hc : ∀ a, z.range a = none → s.confirmed a = 0 := fun a hnone => by
    rw [← hcf]; exact zn_noRange_noConf hwf hns hnone
  obtain ⟨_, _, f2, f3, _⟩ := nf_flags (v := s.variant) (by rw [← hvz]; exact hwf.var)
  obtain ⟨z', h1, h2, h3⟩ := z_core_blacklist hsim f2 f3 hs (fun a _ hnone => hc a hnone)
    (fun _ a _ hnone hin => by
      have h2 : 0 < z.confirmed a := hwf.side.conf a (Or.inl (by show a ∈ z.payers; rw [hpz]; exact hin))
      rw [hcf, hc a hnone] at h2
      cases h2)
  exact ⟨z', .call z r e (.blacklist _) _ _ hz hr hok trivial h3, h1, hd', h2, h3⟩

theorem zn_sim_filter {hash : List Nat → List Nat} {a0 : InitArgs} {s z : State} {r : Nat}
    {e : Env} {s' : State} {o : Out}
    (hz : ReachA hash .nft a0 z r) (hsim : ZSim s z)
    (hr : r ≤ e.round) (hok : EnvOK e) (hs : step hash s e .filter = .ok (s', o)) :
    ∃ z', ReachA hash .nft a0 z' e.round ∧ ZSim s' z' ∧ (s'.flags.started = false → z_Hd s') ∧
      z'.claimed = z.claimed ∧ step hash z e .filter = .ok (z', o) := by
  obtain ⟨z', hsim', hcl', hstep⟩ := z_core_filter hsim (fun hnf => by
    obtain ⟨L0, hp, hab⟩ := rb_phase_notFiltered (zn_phase_notFiltered (nf_reach_WF hz).phase hnf) hnf
    exact ⟨L0, z_filter_facts hp hab rfl rfl rfl rfl rfl⟩) hs
  have hreach : ReachA hash .nft a0 z' e.round := .call z r e .filter _ _ hz hr hok trivial hstep
  refine ⟨z', hreach, hsim', ?_, hcl', hstep⟩
  intro hst
  obtain ⟨_, hfl', _, _, _, hop', _⟩ := hsim'.fields
  obtain ⟨_, _, L1, hp1, hA1⟩ := nf_phase_notStarted (nf_reach_WF hreach).phase
    (by show z'.flags.started = false; rw [hfl']; exact hst)
  exact (filter_started_of hs ⟨by rw [← hfl']; exact hp1.notFiltered, by rw [← hop']; exact hA1.op⟩).elim

/-- a claim by a holder of an empty range is matched by NO step (the real call hands out one SFT of
    category 3 and pays nothing) -/
theorem zn_sim_claim {hash : List Nat → List Nat} {a0 : InitArgs} {s z : State} {r : Nat}
    {e : Env} {s' : State} {o : Out}
    (hz : ReachA hash .nft a0 z r) (hsim : ZnSim s z)
    (hr : r ≤ e.round) (hok : EnvOK e) (hs : step hash s e .claim = .ok (s', o)) :
    ∃ z', ReachA hash .nft a0 z' e.round ∧ ZnSim s' z' ∧ (s'.flags.started = false → z_Hd s') ∧
      (step hash z e .claim = .ok (z', o) ∨
        (z' = z ∧ ∃ rg, s.range e.caller = some rg ∧ rg.last < rg.first ∧
          s' = z_w s (upd s.range e.caller none) (upd s.batch rg.first none) s.blacklist
                (upd s.claimed e.caller true) ∧
          o.sfts = [(e.caller, 3)] ∧ o.xfers = [] ∧ o.locks = [])) := by
  have hclc := hsim.clc
  have hsim := hsim.sim
  have hwf := nf_reach_WF hz
  obtain ⟨_, hfl, hvz, _, hcf, _, _⟩ := hsim.fields
  have hpz : z.payers = s.payers := (congrArg State.payers hsim.rest :)
  have hwz : z.nftWinners = s.nftWinners := (congrArg State.nftWinners hsim.rest :)
  have hvs : s.variant = .nft := by rw [← hvz]; exact hwf.var
  obtain ⟨f1, f2, _⟩ := nf_flags hvs
  obtain ⟨rg, ⟨he1, he2, hst, hncl, hrg, _⟩, _, hs'eq⟩ := nf_claim_shape hash s e s' o f2 hs
  have hadd : z.flags.additional = true := by rw [hfl]; exact (stage_claim_iff.mp hst).1.2
  have hD : PhD (nf_core z) := nf_phase_done hwf.phase hadd
  have hof : Ov.of s' = (Ov.of s).settle e.caller rg := by rw [hs'eq]; rfl
  have hflags : s'.flags = s.flags := by rw [hs'eq]; rfl
  have e2 : s'.claimed = upd s.claimed e.caller true := congrArg Ov.C hof
  have e5 : s'.confirmed = upd s.confirmed e.caller 0 := by rw [hs'eq]; rfl
  have hu : z.uts = s'.uts := (congrArg State.uts hsim.rest :).trans (congrArg Ov.U hof).symm
  have hsta : s'.flags.started = false → z_Hd s' := fun hf => by
    rw [hflags, ← hfl, show z.flags.started = true from hD.started] at hf; cases hf
  have hstut : rg.last < rg.first → s' = z_w s (upd s.range e.caller none) (upd s.batch rg.first none)
      s.blacklist (upd s.claimed e.caller true) ∧ o.sfts = [(e.caller, 3)] ∧ o.xfers = [] ∧
      o.locks = [] := fun hlt => by
    have hc0z : z.confirmed e.caller = 0 := hD.rngNone e.caller
      (by show z.range e.caller = none; rw [hsim.range]; exact z_eraseR_of_empty hrg (by omega))
    refine zn_claim_stutter f2 hs hrg hlt (by rw [← hcf]; exact hc0z) (fun hm => ?_) (fun hm => ?_)
    · have h2 : 0 < z.confirmed e.caller :=
        hwf.side.conf e.caller (Or.inl (by show e.caller ∈ z.payers; rw [hpz]; exact hm))
      omega
    · have h2 : 0 < z.confirmed e.caller :=
        hwf.side.conf e.caller (Or.inr (by show e.caller ∈ z.nftWinners; rw [hwz]; exact hm))
      omega
  -- the rider: who has claimed in `s'` only has nothing confirmed
  have hclc' : ∀ C : Nat → Bool, (∀ a, a ≠ e.caller → C a = z.claimed a) →
      ∀ a, s'.claimed a = true → a ≠ e.caller → C a = true ∨ s'.confirmed a = 0 := by
    intro C hC a ha hx
    rw [e2, upd_other _ _ _ _ hx] at ha
    rw [e5, upd_other _ _ _ _ hx, hC a hx]
    exact hclc a ha
  rcases hsim.esim.claim (by rw [← hfl]; exact hD.filtered) hrg hncl hof hflags
    (fun _ => z_claim_real hsim f1 hs hrg hncl hof)
    (fun hlt => (hstut hlt).1) with ⟨_, h1, h2⟩ | ⟨hlt, h1, _⟩
  · refine ⟨_, .call z r e .claim _ _ hz hr hok trivial h2, ⟨h1.zsim hu, fun a ha => ?_⟩, hsta, Or.inl h2⟩
    by_cases hx : a = e.caller
    · subst hx; left; show upd z.claimed e.caller true e.caller = true; simp
    · exact hclc' (upd z.claimed e.caller true) (fun b hb => upd_other _ _ _ _ hb) a ha hx
  · refine ⟨z, .wait z r e.round hz hr, ⟨h1.zsim hu, fun a ha => ?_⟩, hsta,
      Or.inr ⟨rfl, rg, hrg, hlt, hstut hlt⟩⟩
    by_cases hx : a = e.caller
    · subst hx; right; rw [e5]; simp
    · exact hclc' z.claimed (fun _ _ => rfl) a ha hx

theorem zn_sim_step {hash : List Nat → List Nat} {a0 : InitArgs} {s z : State} {r : Nat}
    {e : Env} {c : Call} {s' : State} {o : Out}
    (hz : ReachA hash .nft a0 z r) (hsim : ZnSim s z) (hd : s.flags.started = false → z_Hd s)
    (hfr : zn_Fresh s)
    (hr : r ≤ e.round) (hok : EnvOK e) (hs : step hash s e c = .ok (s', o)) :
    ∃ z', ReachA hash .nft a0 z' e.round ∧ ZnSim s' z' ∧ (s'.flags.started = false → z_Hd s') ∧
      ((z' = z ∧ c = .claim) ∨ ∃ c', CallOK c' ∧ step hash z e c' = .ok (z', o)) := by
  have hwf := nf_reach_WF hz
  have hfl : z.flags = s.flags := hsim.sim.fields.2.1
  have hcfg : z.cfg = s.cfg := hsim.sim.fields.1
  have hvs : s.variant = .nft := by rw [← hsim.sim.fields.2.2.1]; exact hwf.var
  have hex : c.exposedIn .nft = true := hvs ▸ step_exposed hs
  have hconf : ∀ n, c = .confirm n → s.claimed e.caller = false := by
    intro n hc
    subst hc
    have hst := LP.Props.C06.confirm_only_in_confirm hash s e _ _ (Or.inl ⟨n, rfl⟩) hs
    have hns : z.flags.started = false :=
      notStarted_of_lt hwf.tlStarted hr (Or.inr (by rw [hcfg]; exact (rb_stage_confirm hst).2))
    have hna : s.flags.additional = false := by rw [← hfl]; exact (nf_early_side hwf hns).1
    exact hfr hna e.caller
  have fin : ∀ (hc : c ≠ .claim),
      (∃ z', ReachA hash .nft a0 z' e.round ∧ ZSim s' z' ∧ (s'.flags.started = false → z_Hd s') ∧
        z'.claimed = z.claimed ∧ ∃ c', CallOK c' ∧ step hash z e c' = .ok (z', o)) →
      ∃ z', ReachA hash .nft a0 z' e.round ∧ ZnSim s' z' ∧ (s'.flags.started = false → z_Hd s') ∧
        ((z' = z ∧ c = .claim) ∨ ∃ c', CallOK c' ∧ step hash z e c' = .ok (z', o)) := by
    rintro hc ⟨z', h1, h2, h3, h4, h5⟩
    exact ⟨z', h1, ⟨h2, zn_clc_keep hs hc hconf h4 hsim.clc⟩, h3, Or.inr h5⟩
  cases c with
  | addTickets l =>
    obtain ⟨z', h1, h2, h3, h4, h5⟩ := zn_sim_add hz hsim.sim hd hr hok hs
    refine fin (by simp) ⟨z', h1, h2, h3, h4, _, ?_, h5⟩
    exact fun p hp => of_decide_eq_true (List.mem_filter.mp hp).2
  | confirm n =>
    obtain ⟨z', h1, h2, h3, h4, h5⟩ := zn_sim_confirm hz hsim.sim hd hr hok hs
    refine fin (by simp) ⟨z', h1, h2, h3, h4, _, ?_, h5⟩
    trivial
  | filter =>
    obtain ⟨z', h1, h2, h3, h4, h5⟩ := zn_sim_filter hz hsim.sim hr hok hs
    refine fin (by simp) ⟨z', h1, h2, h3, h4, _, ?_, h5⟩
    trivial
  | claim =>
    obtain ⟨z', h1, h2, h3, h4⟩ := zn_sim_claim hz hsim hr hok hs
    refine ⟨z', h1, h2, h3, ?_⟩
    rcases h4 with h4 | ⟨h4, _⟩
    · exact Or.inr ⟨.claim, trivial, h4⟩
    · exact Or.inl ⟨h4, rfl⟩
  | blacklist l =>
    obtain ⟨z', h1, h2, h3, h4, h5⟩ := zn_sim_blacklist hz hsim.sim hd hr hok hs
    refine fin (by simp) ⟨z', h1, h2, h3, h4, _, ?_, h5⟩
    trivial
  | deposit | setTicketPrice _ _ | setPerTicket _ | setConfStart _ | setSelStart _ | setClaimStart _
  | setSupport _ | pause | unpause | select | claimPayment | confirmNft | selectNft | setNftCost _
  | sftSetup =>
    obtain ⟨z', h1, h2, h3, h4, h5⟩ := zn_sim_indep rfl hz hsim.sim hd hr hok hs
    refine fin (by simp) ⟨z', h1, h2, h3, h4, _, ?_, h5⟩
    trivial
  | issueSft | createSfts | setTransferRole _ => exact (step_sft_rejected hs).elim
  | _ => exact (Bool.false_ne_true hex).elim

/-- every state reachable with zero-size allocation entries allowed is `ZnSim`-related to a state
    reachable under `CallOK` (same deployment arguments, same round) -/
theorem zn_sim {hash : List Nat → List Nat} {a0 : InitArgs}
    {s : State} {r : Nat} (h : ReachZA hash .nft a0 s r) :
    ∃ z, ReachA hash .nft a0 z r ∧ ZnSim s z ∧ (s.flags.started = false → z_Hd s) ∧ zn_Fresh s := by
  induction h with
  | init e s h =>
    obtain ⟨_, _, _, _, hs⟩ := nf_init_inv h
    refine ⟨s, .init e s h, ⟨ZSim.refl_of_clean ?_ ?_, fun a ha => Or.inl ha⟩, ?_, ?_⟩
    · rw [hs]; rfl
    · rw [hs]; rfl
    · intro _ i b _ hb
      rw [hs] at hb; cases hb
    · intro _ a; rw [hs]; rfl
  | call s r e c s' o _ h1 h2 h3 ih =>
    obtain ⟨z, hz, hsim, hd, hfr⟩ := ih
    obtain ⟨z', k1, k2, k3, _⟩ := zn_sim_step hz hsim hd hfr h1 h2 h3
    have hvs : s.variant = .nft := by rw [← hsim.sim.fields.2.2.1]; exact (nf_reach_WF hz).var
    exact ⟨z', k1, k2, k3, zn_fresh_step (nf_flags hvs).1 h3 hfr⟩
  | wait s r r' _ h1 ih =>
    obtain ⟨z, hz, hsim, hd, hfr⟩ := ih
    exact ⟨z, .wait z r r' hz h1, hsim, hd, hfr⟩

theorem zn_sim_reach {hash : List Nat → List Nat} {s : State} {r : Nat} (h : ReachZ hash .nft s r) :
    ∃ z, Reach hash .nft z r ∧ ZnSim s z := by
  obtain ⟨a0, h⟩ := ReachZ_iff.mp h
  obtain ⟨z, hz, hsim, _⟩ := zn_sim h
  exact ⟨z, Reach_iff.mpr ⟨a0, hz⟩, hsim⟩

theorem zn_done_rngNone {hash : List Nat → List Nat} {a0 : InitArgs}
    {z : State} {r : Nat} (hz : ReachA hash .nft a0 z r) (hadd : z.flags.additional = true) :
    ∀ a, z.range a = none → z.confirmed a = 0 :=
  (nf_phase_done (nf_reach_WF hz).phase hadd).rngNone

/-- the payment ledger (with the NFT fees held in the same slot) and the three counts, zero-size
    entries allowed -/
theorem zn_ledger_Z {hash : List Nat → List Nat} {s : State} {r : Nat} (h : ReachZ hash .nft s r) :
    ∃ L : List Nat, Covers s L ∧
      (¬ AllDone s → s.bal s.payTok 0 = s.price * sumOver s.confirmed L + LP.Props.C14reach.feeInPay s) ∧
      (AllDone s → s.bal s.payTok 0
          = s.claimablePayment + sumOver (refundDue s) L + LP.Props.C14reach.feeInPay s ∧
        sumOver (winCountOf s) L = s.nrWinning ∧ (∀ a, winCountOf s a ≤ s.confirmed a) ∧
        (∀ a rg, s.range a = some rg → rangeLen rg = s.confirmed a ∧ (rg.first ≤ rg.last → a ∈ L))) := by
  obtain ⟨a0, h⟩ := ReachZ_iff.mp h
  obtain ⟨z, hz, hsim, _⟩ := zn_sim h
  have hf := (nf_reach_WF hz).facts
  obtain ⟨L, h1, h2, h3⟩ := hf.ledger
  obtain ⟨c, p, q⟩ := hsim.sim.esim.ledger (fun hd => zn_done_rngNone hz hd.2) h1 h2 h3
  have hadd := nf_tix_add hf.side
  obtain ⟨R, B, K, C, rfl⟩ := hsim.sim.shape'
  have hadd' : (nf_side (z_w s R B K C)).tix + LP.Props.C14reach.feeInPay s = s.bal s.payTok 0 := hadd
  refine ⟨L, c, fun hd => ?_, fun hd => ?_⟩
  · rw [← p hd]; exact hadd'.symm
  · obtain ⟨q1, q2⟩ := q hd
    exact ⟨by rw [← q1]; exact hadd'.symm, q2⟩

end LP

#print axioms LP.zn_sim
#print axioms LP.zn_sim_reach

/-! ### Facts that hold on `ReachZ hash .nft` by a direct induction (no simulation needed), and the NFT
  participants are frozen during the selection stage without `CallOK` (`zn_later_frozen`). -/
namespace LP
open LP.Props.C09 LP.Props.C14

theorem zn_reachZ_NftLp {hash : List Nat → List Nat} {s : State} {r : Nat}
    (h : ReachZ hash .nft s r) : fl_NftLp s := by
  induction h with
  | init a e s h => exact fl_init_NftLp h
  | call s r e c s' o _ _ _ h4 ih => exact fl_step_NftLp ih h4
  | wait s r r' _ _ ih => exact ih

theorem zn_reachZ_noConf {hash : List Nat → List Nat} {v : Variant} {s : State} {r : Nat}
    (h : ReachZ hash v s r) : pl_NoConf s := by
  induction h with
  | init a e s hh => exact lk_init_noConf hh
  | call s r e c s' o _ _ _ h4 ih => exact pl_step_NoConf ih h4
  | wait s r r' _ _ ih => exact ih

/-- `nf_Later` of LP/Proofs/ReachNft.lean without the premise `CallOK` -/
inductive zn_Later (hash : List Nat → List Nat) (s : State) (r : Nat) : State → Nat → Prop
  | refl : zn_Later hash s r s r
  | call (s1 : State) (r1 : Nat) (e : Env) (c : Call) (s2 : State) (o : Out) :
      zn_Later hash s r s1 r1 → r1 ≤ e.round → EnvOK e →
      step hash s1 e c = .ok (s2, o) → zn_Later hash s r s2 e.round
  | wait (s1 : State) (r1 r2 : Nat) : zn_Later hash s r s1 r1 → r1 ≤ r2 → zn_Later hash s r s1 r2

theorem zn_Frozen_of_sim {s1 s2 z1 z2 : State} (h1 : ZSim s1 z1) (h2 : ZSim s2 z2)
    (hf : nf_Frozen z1 z2) : nf_Frozen s1 s2 := by
  obtain ⟨R1, B1, K1, C1, rfl⟩ := h1.shape'
  obtain ⟨R2, B2, K2, C2, rfl⟩ := h2.shape'
  exact ⟨hf.mem, hf.len, hf.pre, hf.avail, hf.cost⟩

theorem zn_later_frozen {hash : List Nat → List Nat} {a0 : InitArgs} {s : State} {r : Nat}
    (h : ReachZA hash .nft a0 s r) (hstd : s.flags.started = true) {s2 : State} {r2 : Nat}
    (hl : zn_Later hash s r s2 r2) :
    ReachZA hash .nft a0 s2 r2 ∧
    (s2.flags.additional = false → nf_Frozen s s2 ∧ s2.flags.started = true) := by
  induction hl with
  | refl => exact ⟨h, fun _ => ⟨nf_Frozen.refl s, hstd⟩⟩
  | call s1 r1 e c s2 o _ h1 h2 h4 ih =>
    obtain ⟨i1, i2⟩ := ih
    refine ⟨.call s1 r1 e c s2 o i1 h1 h2 h4, fun hadd2 => ?_⟩
    have hadd1 : s1.flags.additional = false := z_additional_back h4 hadd2
    obtain ⟨j1, j2⟩ := i2 hadd1
    obtain ⟨z1, hz1, hsim1, hd1, hfr1⟩ := zn_sim i1
    obtain ⟨z2, _, hsim2, _, hcase⟩ := zn_sim_step hz1 hsim1 hd1 hfr1 h1 h2 h4
    have hfl1 : z1.flags = s1.flags := hsim1.sim.fields.2.1
    have hfl2 : z2.flags = s2.flags := hsim2.sim.fields.2.1
    rcases hcase with ⟨_, hc⟩ | ⟨c', _, hstep⟩
    · -- a claim needs the draw to be complete
      exfalso
      subst hc
      have hvs : s1.variant = .nft := by
        rw [← hsim1.sim.fields.2.2.1]; exact (nf_reach_WF hz1).var
      obtain ⟨rg, hacc, _⟩ := nf_claim_shape hash s1 e s2 o (nf_flags hvs).2.1 h4
      have := (stage_claim_iff.mp hacc.2.2.1).1.2
      rw [hadd1] at this; cases this
    · obtain ⟨k1, k2⟩ := nf_call_frozen (nf_reach_WF hz1) h1 (by rw [hfl1]; exact j2)
        (by rw [hfl1]; exact hadd1) hstep
      exact ⟨j1.trans (zn_Frozen_of_sim hsim1.sim hsim2.sim k1), by rw [← hfl2]; exact k2⟩
  | wait s1 r1 r2 _ h1 ih =>
    obtain ⟨i1, i2⟩ := ih
    exact ⟨.wait s1 r1 r2 i1 h1, i2⟩

end LP
