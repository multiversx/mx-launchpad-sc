import LP.Proofs.ZeroAllocErase
import LP.Proofs.Once
/-
  Simulation by erasure, the part every variant family shares.  `ESim s z` says that `z` is `s` with the
  allocation bookkeeping overwritten by its erasure; the relations of the families (`ZSim` of
  LP/Proofs/ZeroAllocErase.lean, `ZGSim` of ZeroAllocG1.lean, `ZSimG` of ZeroAllocNGExec.lean) are `ESim` plus
  one fact each: the guarantee records are equal (`ZSim.esim` / `ESim.zsim`), nothing is settled before all
  selection steps are complete, a removed record belongs to an address that is not whitelisted.  A call
  is matched at the level of the endpoint bodies and lifted to `step` by `step_ov_match`.  The calls every family has are matched
  here, each with an explicit erased successor `ov s' w'`: `ov_indep` and `confirm` keep the overwrite,
  `blacklist` and `unblacklist` are taken without the holders of empty ranges (`ESim.blacklist`,
  `ESim.unblacklist`, which say what became of flags and records address by address), `filter` puts the
  erased maps of `s'`, a `claim` by the holder of a non-empty range settles it on both sides and a
  `claim` by the holder of an empty range is answered by no step (`ESim.claim`); `distribute` and
  `secondary` write the whitelist alone (`ESim.wl_step`, `ESim.distribute`, `ESim.secondary`).  The
  allocation calls themselves are `z_core_add` here (`addTickets`) and `ESim.addV1` (`addTicketsV1`,
  LP/Proofs/ZeroAllocV1Alloc.lean).
  `ESim.ledger` carries the payment ledger from `z` to `s`.  Then `ZSim` = `ESim` with the same guarantee
  records, the histories without the restriction on allocation entries (`ReachZ`, `ReachZA`), and the calls read
  for `ZSim` (`z_core_*`), which the plain, nft and v1 families use as they are.
  Where a zero-size entry cannot carry a guarantee (plain, nft; guarV1 and nftGuar restricted to entries
  without migration flag) the erased state is reachable under `CallOK` / `v1_CallOK` (`z_sim`, `zn_sim`,
  `zg_sim`, `zc_sim`).  Without any restriction (the v1 family, guarV1 and nftGuar in ZeroAllocV1.lean,
  ZeroAllocG1Full.lean, ZeroAllocNGFull.lean) a zero-size entry may carry a guarantee, which no erasure
  simulates: there the real state is compared, before the first `filter` call,
  with the shadow of LP/Proofs/ZeroAllocShadow.lean and not with an erasure, and after it with an erased
  state that satisfies the family's inductive invariant but is in general not reachable.
-/
namespace LP
open LP.FY

/-- a call that writes no allocation record or batch leaves the ticket space alone (`ar_step_cases`) -/
theorem z_step_tk {hash : List Nat → List Nat} {s s' : State} {e : Env} {c : Call} {o : Out}
    (h : step hash s e c = .ok (s', o)) (hw : c.writesRB = false) : s'.tk = s.tk := by
  rcases ar_step_cases h with ⟨L, hL⟩ | rfl | rfl | ⟨htk, _⟩
  · cases c <;> first | (cases hw; done) | (cases hL; done)
  · cases hw
  · cases hw
  · exact htk

theorem z_started_back {hash : List Nat → List Nat} {s s' : State} {e : Env} {c : Call} {o : Out}
    (h : step hash s e c = .ok (s', o)) (hs' : s'.flags.started = false) : s.flags.started = false := by
  cases hst : s.flags.started with
  | false => rfl
  | true => have := (step_flags_gain4 h).1 hst; rw [this] at hs'; cases hs'

theorem z_filtered_back {hash : List Nat → List Nat} {s s' : State} {e : Env} {c : Call} {o : Out}
    (h : step hash s e c = .ok (s', o)) (hs' : s'.flags.filtered = false) : s.flags.filtered = false := by
  cases hst : s.flags.filtered with
  | false => rfl
  | true => have := (step_flags_gain4 h).2.1 hst; rw [this] at hs'; cases hs'

theorem z_additional_back {hash : List Nat → List Nat} {s s' : State} {e : Env} {c : Call} {o : Out}
    (h : step hash s e c = .ok (s', o)) (hs' : s'.flags.additional = false) :
    s.flags.additional = false := by
  cases hst : s.flags.additional with
  | false => rfl
  | true => have := (step_flags_gain h).2 hst; rw [this] at hs'; cases hs'

theorem z_Hd_keep {hash : List Nat → List Nat} {s s' : State} {e : Env} {c : Call} {o : Out}
    (h : step hash s e c = .ok (s', o)) (htk : s'.tk = s.tk)
    (hd : s.flags.started = false → z_Hd s) : s'.flags.started = false → z_Hd s' := by
  intro hs'
  have := hd (z_started_back h hs')
  intro i b hi hb
  rw [tk_last htk] at hi
  rw [tk_batch htk] at hb
  exact this i b hi hb

theorem z_filter_left {hash : List Nat → List Nat} {s s' : State} {e : Env} {o : Out}
    (hs : step hash s e .filter = .ok (s', o)) :
    s'.flags.filtered = true ∨ ∃ f r, s'.op = .filter f r := by
  obtain ⟨m, t, _, _, _, hx, rfl, rfl⟩ := step_ok_inv hs
  simp only [exec] at hx
  have hcase := LP.Events.filterTickets_out hx
  rcases hcase with ⟨_, _, hf, _⟩ | ⟨_, _, _, _, hop1⟩
  · exact Or.inl hf
  · exact Or.inr hop1

/-- a `filter` call sets `filtered` or leaves a saved position: what follows it is not a state before
    the first call -/
theorem filter_started_of {hash : List Nat → List Nat} {s s' : State} {e : Env} {o : Out}
    (hs : step hash s e .filter = .ok (s', o))
    (hA : s'.flags.filtered = false ∧ s'.op = .none) : False := by
  rcases z_filter_left hs with hf | ⟨f1, r1, hop1⟩
  · rw [hA.1] at hf; cases hf
  · rw [hA.2] at hop1; cases hop1

/-- a match of the endpoint bodies on `tx0 s e` and on its overwrite is a match of the steps -/
theorem step_ov_match {hash : List Nat → List Nat} {s s' : State} {e : Env} {c c' : Call} {o : Out}
    {w w' : Ov} {t : Tx} (hs : step hash s e c = .ok (s', o))
    (hm : endpointMeta s.variant c' = endpointMeta s.variant c)
    (ht : exec hash (tx0 s e) e c = .ok t)
    (hx : exec hash (ovt (tx0 s e) w) e c' = .ok (ovt t w')) :
    step hash (ov s w) e c' = .ok (ov s' w', o) := by
  obtain ⟨m, t0, hm0, hpay, hown, hx0, rfl, rfl⟩ := step_ok_inv hs
  obtain rfl : t0 = t := Except.ok.inj (hx0.symm.trans ht)
  exact z_step_intro (s := ov s w) (hm.trans hm0) hpay hown hx

/-- records of the erased state: equal, or absent where the original has a record without
    guarantee -/
def zg_Uweak (uts U : Nat → Option UTS) : Prop :=
  ∀ a, U a = uts a ∨ (U a = none ∧ ∃ st, uts a = some st ∧ st.c = 0 ∧ st.d = 0)

/-- a record without guarantee qualifies for nothing -/
theorem calcV1_zero (st : UTS) (conf mc : Nat) (hc : st.c = 0) (hd : st.d = 0) :
    calcV1 st conf mc = (0, 0) := by
  unfold calcV1
  rw [hc, hd]
  by_cases h1 : conf ≥ st.b <;> by_cases h2 : conf ≥ mc <;> simp [h1, h2]

/-- the guarantee loop reads the same on the erased state: the top-up of an empty range is that of no
    range (`z_processGuaranteed`), a record without guarantee that of no record -/
theorem ov_guarBody (s : State) (w : Ov) (hv2 : s.variant.isV2 = false)
    (hR : w.R = z_eraseR s.range) (hU : zg_Uweak s.uts w.U) (x : GSt) :
    guarBody (ov s w) x = guarBody s x := by
  unfold guarBody
  by_cases h0 : x.usersLeft = 0
  · rw [if_pos h0, if_pos h0]
  · rw [if_neg h0, if_neg h0]
    cases hwl : x.whitelist with
    | nil => rfl
    | cons u rest =>
      simp only
      have e1 : (ov s w).uts u = w.U u := rfl
      have e2 : (ov s w).range u = z_eraseR s.range u := by show w.R u = _; rw [hR]
      have e3 : (ov s w).variant.isV2 = false := hv2
      rw [e1, e2]
      rcases hU u with h1 | ⟨h1, st, h2, h3, h4⟩
      · rw [h1]
        cases hs : s.uts u with
        | none => rfl
        | some st =>
          simp only [e3, hv2, Bool.false_eq_true, if_false]
          show (if (calcV1 st (s.confirmed u) s.minConfirmed).1 > 0 then _ else _) = _
          by_cases hg : (calcV1 st (s.confirmed u) s.minConfirmed).1 > 0
          · rw [if_pos hg, if_pos hg, z_processGuaranteed]
            rfl
          · rw [if_neg hg, if_neg hg]
            rfl
      · rw [h1, h2]
        simp only [hv2, Bool.false_eq_true, if_false, calcV1_zero st _ _ h3 h4]
        simp

/-- `z` is `s` with the seven fields of `Ov` overwritten: the ranges are the non-empty ones, the
    batches (until the filter has completed) those of non-zero size, the two address flags are below
    those of `s`, a guarantee record is the same or, if it carries no guarantee, absent; `blUts` and
    `whitelist` are the same.  `ZSim`, `ZGSim`, `ZSimG` are this plus one fact each. -/
structure ESim (s z : State) : Prop where
  rest : z = ov s (.of z)
  range : z.range = z_eraseR s.range
  batch : s.flags.filtered = false → z.batch = z_eraseB s.batch
  bl : ∀ a, z.blacklist a = true → s.blacklist a = true
  cl : ∀ a, z.claimed a = true → s.claimed a = true
  uts : zg_Uweak s.uts z.uts
  bu : z.blUts = s.blUts
  wl : z.whitelist = s.whitelist

/-- the mask that puts the allocation fields of `x`, whitelist aside -/
def Ow.allBut (x : State) : Ow :=
  { R := some x.range, B := some x.batch, K := some x.blacklist, C := some x.claimed,
    U := some x.uts, BU := some x.blUts }

namespace ESim
variable {hash : List Nat → List Nat} {s z s' : State} {e : Env} {o : Out}

theorem fields (h : ESim s z) :
    z.cfg = s.cfg ∧ z.flags = s.flags ∧ z.variant = s.variant ∧ z.owner = s.owner ∧
    z.confirmed = s.confirmed ∧ z.op = s.op ∧ z.lastTicketId = s.lastTicketId :=
  ⟨(congrArg State.cfg h.rest :), (congrArg State.flags h.rest :), (congrArg State.variant h.rest :),
   (congrArg State.owner h.rest :), (congrArg State.confirmed h.rest :), (congrArg State.op h.rest :),
   (congrArg State.lastTicketId h.rest :)⟩

/-- the relation after a step that writes none of the seven fields, on the state with the same overwrite -/
theorem frame_step {c : Call} (h : ESim s z) (hs : step hash s e c = .ok (s', o))
    (hf : Ov.of s' = Ov.of s) : ESim s' (ov s' (.of z)) := by
  have g1 : s'.range = s.range := congrArg Ov.R hf
  have g2 : s'.batch = s.batch := congrArg Ov.B hf
  have g3 : s'.blacklist = s.blacklist := congrArg Ov.K hf
  have g4 : s'.claimed = s.claimed := congrArg Ov.C hf
  have g5 : s'.uts = s.uts := congrArg Ov.U hf
  have g6 : s'.blUts = s.blUts := congrArg Ov.BU hf
  have g7 : s'.whitelist = s.whitelist := congrArg Ov.W hf
  refine ⟨rfl, ?_, ?_, ?_, ?_, ?_, ?_, ?_⟩
  · show z.range = z_eraseR s'.range
    rw [g1]; exact h.range
  · intro hfil
    show z.batch = z_eraseB s'.batch
    rw [g2]; exact h.batch (z_filtered_back hs hfil)
  · intro a ha; rw [g3]; exact h.bl a ha
  · intro a ha; rw [g4]; exact h.cl a ha
  · show zg_Uweak s'.uts z.uts
    rw [g5]; exact h.uts
  · exact h.bu.trans g6.symm
  · exact h.wl.trans g7.symm

/-- the calls that neither read nor write the allocation bookkeeping -/
theorem indep {c : Call} (hc : ov_indep c = true) (h : ESim s z)
    (hs : step hash s e c = .ok (s', o)) :
    ESim s' (ov s' (.of z)) ∧ Ov.of s' = Ov.of s ∧ step hash z e c = .ok (ov s' (.of z), o) := by
  have hf := step_ov_frame hc hs
  refine ⟨h.frame_step hs hf, hf, ?_⟩
  have := step_ov (w := .of z) hc hs
  rw [← h.rest] at this
  exact this

/-- `confirm` reads the caller's range through `ticketsFor`, which does not see an empty one
    (`z_ticketsFor`), and the caller's blacklist flag -/
theorem confirm {n : Nat} (h : ESim s z) (hs : step hash s e (.confirm n) = .ok (s', o)) :
    ESim s' (ov s' (.of z)) ∧ Ov.of s' = Ov.of s ∧
      step hash z e (.confirm n) = .ok (ov s' (.of z), o) := by
  obtain ⟨m, t, _, _, _, hx, hs', _⟩ := step_ok_inv hs
  obtain ⟨k1, k2⟩ := ov_exec_confirm (.of z) hx h.range (h.bl _)
  have hf : Ov.of s' = Ov.of s := by rw [hs']; exact k2
  refine ⟨h.frame_step hs hf, hf, ?_⟩
  have := step_ov_match (w' := .of z) hs rfl hx k1
  rw [← h.rest] at this
  exact this

/-- `blacklist` outside v2 (`ov_exec_blacklist`): the erased state takes the call without the holders of
    empty ranges.  They have nothing confirmed, are not whitelisted and have paid no NFT fee; what the
    guaranteed-ticket hook has done to the records is said address by address, and each relation
    reads its own clause off that. -/
theorem blacklist {l : List Nat} (h : ESim s z) (hv2 : s.variant.isV2 = false)
    (hs : step hash s e (.blacklist l) = .ok (s', o))
    (hc : ∀ a ∈ l, z.range a = none → s.confirmed a = 0)
    (hg : s.variant.v1Alloc = true → ∀ a ∈ l, a ∈ s.whitelist →
      (z.range a).isSome = true ∧ z.uts a = s.uts a)
    (hp : s.variant.hasNft = true → ∀ a ∈ l, z.range a = none → a ∉ s.payers) :
    ∃ K' U', ESim s' (ov s' { Ov.of z with K := K', U := U', BU := s'.blUts, W := s'.whitelist }) ∧
      step hash z e (.blacklist (l.filter (fun a => (z.range a).isSome)))
        = .ok (ov s' { Ov.of z with K := K', U := U', BU := s'.blUts, W := s'.whitelist }, o) ∧
      (∀ a, (z.range a).isSome = true → z.blacklist a = s.blacklist a → K' a = s'.blacklist a) ∧
      (∀ a, (U' a = z.uts a ∧ s'.uts a = s.uts a) ∨
        (U' a = none ∧ s'.uts a = none ∧ (z.range a).isSome = true)) ∧
      (∀ a, a ∈ s'.whitelist → a ∈ s.whitelist) ∧
      s'.range = s.range ∧ s'.batch = s.batch ∧ s'.claimed = s.claimed := by
  have htk := z_step_tk hs rfl
  have hcl := (LP.Props.C09.step_claimed_exact hash s e _ s' o hs).1 (by simp)
  obtain ⟨m, t, _, _, _, hx, rfl, rfl⟩ := step_ok_inv hs
  obtain ⟨K', U', k1, k2, k3, k4, k5⟩ := ov_exec_blacklist (.of z) hx hv2 h.bu h.wl h.bl hc hg hp
  refine ⟨K', U', ⟨rfl, ?_, fun hf => ?_, k2, fun a ha => ?_, fun a => ?_, rfl, rfl⟩, ?_, k3, k4, k5,
    tk_range htk, tk_batch htk, hcl⟩
  · show z.range = z_eraseR t.s.range
    rw [tk_range htk]; exact h.range
  · show z.batch = z_eraseB t.s.batch
    rw [tk_batch htk]; exact h.batch (z_filtered_back hs hf)
  · show t.s.claimed a = true
    rw [hcl]; exact h.cl a ha
  · show U' a = t.s.uts a ∨ (U' a = none ∧ _)
    rcases k4 a with ⟨p1, p2⟩ | ⟨p1, p2, _⟩
    · rw [p1, p2]; exact h.uts a
    · exact Or.inl (p1.trans p2.symm)
  · have := step_ov_match (w := .of z) (c' := .blacklist (l.filter (fun a => (z.range a).isSome))) hs rfl hx k1
    rw [← h.rest] at this
    exact this

/-- `unblacklist` outside v2 (`ov_exec_unblacklist`): the erased state takes the call without the
    holders of empty ranges, which it does not have blacklisted.  The restore hook passes over them
    in `s` when they have a record (`hE`). -/
theorem unblacklist {l : List Nat} (h : ESim s z) (hv2 : s.variant.isV2 = false)
    (hs : step hash s e (.unblacklist l) = .ok (s', o))
    (hX : ∀ a, (z.range a).isSome = true → z.blacklist a = s.blacklist a)
    (hKR : ∀ a, z.blacklist a = true → (z.range a).isSome = true)
    (hg : ∀ a ∈ l, (z.range a).isSome = true → z.uts a = s.uts a)
    (hE : ∀ a ∈ l, ∀ rg, s.range a = some rg → rg.last < rg.first → (s.uts a).isSome = true) :
    ∃ K' U', ESim s' (ov s' { Ov.of z with K := K', U := U', BU := s'.blUts, W := s'.whitelist }) ∧
      step hash z e (.unblacklist (l.filter (fun a => (z.range a).isSome)))
        = .ok (ov s' { Ov.of z with K := K', U := U', BU := s'.blUts, W := s'.whitelist }, o) ∧
      (∀ a, (z.range a).isSome = true → K' a = s'.blacklist a) ∧
      (∀ a, (U' a = z.uts a ∧ s'.uts a = s.uts a) ∨
        (U' a = s'.uts a ∧ (s'.uts a).isSome = true ∧ (z.range a).isSome = true)) ∧
      s'.range = s.range ∧ s'.batch = s.batch ∧ s'.claimed = s.claimed := by
  have htk := z_step_tk hs rfl
  have hcl := (LP.Props.C09.step_claimed_exact hash s e _ s' o hs).1 (by simp)
  obtain ⟨m, t, _, _, _, hx, rfl, rfl⟩ := step_ok_inv hs
  obtain ⟨K', U', k1, k2, k3, k4⟩ := ov_exec_unblacklist (.of z) hx hv2 h.bu h.wl h.bl hX hKR
    (fun a ha hga => ⟨hg a ha hga, by
      have hga : (z.range a).isSome = true := hga
      show (s.range a).isSome = true
      cases hr : z.range a with
      | none => rw [hr] at hga; cases hga
      | some rg =>
        rw [h.range] at hr
        rw [(z_eraseR_some.mp hr).1]; rfl⟩)
    (fun a ha hn => by
      have hn : z.range a = none := hn
      rw [h.range] at hn
      show ((s.uts a).isSome || (s.range a).isNone) = true
      rcases z_eraseR_none hn with h0 | ⟨rg, h0, hlt⟩
      · rw [h0]; simp
      · rw [hE a ha rg h0 hlt]; rfl)
  refine ⟨K', U', ⟨rfl, ?_, fun hf => ?_, k2, fun a ha => ?_, fun a => ?_, rfl, rfl⟩, ?_, k3, k4,
    tk_range htk, tk_batch htk, hcl⟩
  · show z.range = z_eraseR t.s.range
    rw [tk_range htk]; exact h.range
  · show z.batch = z_eraseB t.s.batch
    rw [tk_batch htk]; exact h.batch (z_filtered_back hs hf)
  · show t.s.claimed a = true
    rw [hcl]; exact h.cl a ha
  · show U' a = t.s.uts a ∨ (U' a = none ∧ _)
    rcases k4 a with ⟨p1, p2⟩ | ⟨p1, _⟩
    · rw [p1, p2]; exact h.uts a
    · exact Or.inl p1
  · have := step_ov_match (w := .of z) (c' := .unblacklist (l.filter (fun a => (z.range a).isSome)))
      hs rfl hx k1
    rw [← h.rest] at this
    exact this

/-- the filter on the erased maps, under the loop invariant of the erased state -/
theorem filter (h : ESim s z)
    (hL : z.flags.filtered = false → ∃ L0, AllocOK z.confirmed L0 ∧
      ∀ x, filStOf z = some x → Mid z.confirmed z.lastTicketId L0 x)
    (hs : step hash s e .filter = .ok (s', o)) :
    ESim s' (ov s' (z_we (.of z) s')) ∧
      (s'.blacklist = s.blacklist ∧ s'.claimed = s.claimed ∧ s'.uts = s.uts ∧
        s'.whitelist = s.whitelist) ∧
      step hash z e .filter = .ok (ov s' (z_we (.of z) s'), o) := by
  obtain ⟨_, hfl, _, _, hcf, hop, hlast⟩ := h.fields
  obtain ⟨m, t, _, _, _, hx, hs', _⟩ := step_ok_inv hs
  have hx' := hx
  simp only [exec] at hx'
  have hnf : s.flags.filtered = false := (filterTickets_inv _ _ _ hx').1.notFiltered
  have hzb : z.batch = z_eraseB s.batch := h.batch hnf
  obtain ⟨L0, hokz, hmidz⟩ := hL (by rw [hfl]; exact hnf)
  obtain ⟨hokA, hmid⟩ := z_filter_facts_tx e hokz hmidz h.range hzb hop hcf hlast
  -- the overwrite of `z` already holds the erased maps of `s`
  have hw : z_we (.of z) (tx0 s e).s = .of z := by
    show ({ Ov.of z with R := z_eraseR s.range, B := z_eraseB s.batch } : Ov) = _
    rw [← h.range, ← hzb]
    rfl
  obtain ⟨k1, f1, f2, f3, f4, f5⟩ := ov_filterTickets (.of z) hx' hokA hmid
  rw [hw, ← hs'] at k1
  rw [← hs'] at f1 f2 f3 f4 f5
  refine ⟨⟨rfl, rfl, fun _ => rfl, ?_, ?_, ?_, h.bu.trans f4.symm, h.wl.trans f5.symm⟩,
    ⟨f1, f2, f3, f5⟩, ?_⟩
  · intro a ha; rw [f1]; exact h.bl a ha
  · intro a ha; rw [f2]; exact h.cl a ha
  · show zg_Uweak s'.uts z.uts
    rw [f3]; exact h.uts
  · have := step_ov_match (w := .of z) (w' := z_we (.of z) s') hs rfl hx (by simp only [exec]; exact k1)
    rw [← h.rest] at this
    exact this

/-- A call that writes the whitelist alone among the seven fields, the same on both sides: it
    commutes with every overwrite that leaves the whitelist alone (`hc`; `ow_distribute`,
    `ow_secondary`) once the guarantee loop reads the same, which it does on the erased state.  The
    frame comes from the same commutation, for the overwrite by what is there. -/
theorem wl_step {c : Call} (h : ESim s z) (hv2 : s.variant.isV2 = false)
    (hc : ∀ (t : Tx) (w : Ow), w.P = none → w.W = none → guarBody (ow t.s w) = guarBody t.s →
      exec hash (owt t w) e c = mapR (owt · w) (exec hash t e c))
    (hs : step hash s e c = .ok (s', o)) :
    ESim s' (ov s' { Ov.of z with W := s'.whitelist }) ∧
      Ov.of s' = { Ov.of s with W := s'.whitelist } ∧
      step hash z e c = .ok (ov s' { Ov.of z with W := s'.whitelist }, o) := by
  obtain ⟨m, t, _, _, _, hx, hs', _⟩ := step_ok_inv hs
  have hself' : exec hash (tx0 s e) e c = mapR (owt · (.allBut s)) (exec hash (tx0 s e) e c) :=
    hc (tx0 s e) (.allBut s) rfl rfl rfl
  rw [hx] at hself'
  have hof : Ov.of s' = { Ov.of s with W := s'.whitelist } := by
    rw [hs']; exact congrArg (fun x : Tx => Ov.of x.s) (Except.ok.inj hself')
  have k1 := hc (tx0 s e) (.allBut z) rfl rfl
    (funext (ov_guarBody (tx0 s e).s ⟨z.range, z.batch, z.blacklist, z.claimed, z.uts, z.blUts,
      s.whitelist⟩ hv2 h.range h.uts))
  rw [hx] at k1
  have hw : ({ Ov.of z with W := s.whitelist } : Ov) = .of z := by rw [← h.wl]; rfl
  have k2 : exec hash (ovt (tx0 s e) (.of z)) e c = .ok (ovt t { Ov.of z with W := s'.whitelist }) := by
    rw [← hw, hs']; exact k1
  have g1 : s'.range = s.range := congrArg Ov.R hof
  have g2 : s'.batch = s.batch := congrArg Ov.B hof
  have g3 : s'.blacklist = s.blacklist := congrArg Ov.K hof
  have g4 : s'.claimed = s.claimed := congrArg Ov.C hof
  have g5 : s'.uts = s.uts := congrArg Ov.U hof
  have g6 : s'.blUts = s.blUts := congrArg Ov.BU hof
  refine ⟨⟨rfl, ?_, ?_, ?_, ?_, ?_, h.bu.trans g6.symm, rfl⟩, hof, ?_⟩
  · show z.range = z_eraseR s'.range
    rw [g1]; exact h.range
  · intro hfil
    show z.batch = z_eraseB s'.batch
    rw [g2]; exact h.batch (z_filtered_back hs hfil)
  · intro a ha; rw [g3]; exact h.bl a ha
  · intro a ha; rw [g4]; exact h.cl a ha
  · show zg_Uweak s'.uts z.uts
    rw [g5]; exact h.uts
  · have := step_ov_match (w := .of z) (w' := { Ov.of z with W := s'.whitelist }) hs rfl hx k2
    rw [← h.rest] at this
    exact this

/-- `distribute` with the v1 guarantees -/
theorem distribute (h : ESim s z) (hv2 : s.variant.isV2 = false)
    (hs : step hash s e .distribute = .ok (s', o)) :
    ESim s' (ov s' { Ov.of z with W := s'.whitelist }) ∧
      Ov.of s' = { Ov.of s with W := s'.whitelist } ∧
      step hash z e .distribute = .ok (ov s' { Ov.of z with W := s'.whitelist }, o) :=
  h.wl_step hv2 (fun t w hP hW hg => ow_distribute hash t w e hW hg (fun _ => hP)) hs

/-- `secondary` of nftGuar, interrupted anywhere -/
theorem secondary (h : ESim s z) (hv2 : s.variant.isV2 = false)
    (hs : step hash s e .secondary = .ok (s', o)) :
    ESim s' (ov s' { Ov.of z with W := s'.whitelist }) ∧
      Ov.of s' = { Ov.of s with W := s'.whitelist } ∧
      step hash z e .secondary = .ok (ov s' { Ov.of z with W := s'.whitelist }, o) :=
  h.wl_step hv2 (fun t w _ hW hg => ow_secondary hash t w e hW hg) hs

end ESim

/-- what a settling claim by `a` with range `rg` writes of the seven fields -/
def Ov.settle (w : Ov) (a : Nat) (rg : Range) : Ov :=
  { w with R := upd w.R a none, B := upd w.B rg.first none, C := upd w.C a true }

namespace ESim
variable {hash : List Nat → List Nat} {s z s' : State} {e : Env} {o : Out}

/-- The claim.  A holder of a non-empty range is seen by `z` as by `s` (`hreal`: the family's
    commutation of its claim body with the overwrite) and the same claim is the match.  A holder of an
    empty range is not seen by `z`; its claim moves nothing but the three fields (`hempty`: the
    family's stutter lemma) and `z` stays. -/
theorem claim {rg : Range} (h : ESim s z) (hfil : s.flags.filtered = true)
    (hrg : s.range e.caller = some rg) (hncl : s.claimed e.caller = false)
    (hof : Ov.of s' = (Ov.of s).settle e.caller rg) (hflags : s'.flags = s.flags)
    (hreal : rg.first ≤ rg.last → z.range e.caller = some rg → z.claimed e.caller = false →
      step hash z e .claim = .ok (ov s' ((Ov.of z).settle e.caller rg), o))
    (hempty : rg.last < rg.first → s' = ov s ((Ov.of s).settle e.caller rg)) :
    (rg.first ≤ rg.last ∧ ESim s' (ov s' ((Ov.of z).settle e.caller rg)) ∧
      step hash z e .claim = .ok (ov s' ((Ov.of z).settle e.caller rg), o)) ∨
    (rg.last < rg.first ∧ ESim s' z ∧ z.range e.caller = none) := by
  have e1 : s'.range = upd s.range e.caller none := congrArg Ov.R hof
  have e2 : s'.claimed = upd s.claimed e.caller true := congrArg Ov.C hof
  have e3 : s'.blacklist = s.blacklist := congrArg Ov.K hof
  have e5 : s'.uts = s.uts := congrArg Ov.U hof
  have e6 : s'.blUts = s.blUts := congrArg Ov.BU hof
  have e7 : s'.whitelist = s.whitelist := congrArg Ov.W hof
  have hfil' : s'.flags.filtered = false → False := fun hf => by rw [hflags, hfil] at hf; cases hf
  have hcl : ∀ C : Nat → Bool, (∀ a, C a = true → s.claimed a = true) →
      ∀ a, upd C e.caller true a = true → s'.claimed a = true := by
    intro C hC a ha
    rw [e2]
    by_cases hx : a = e.caller
    · subst hx; simp
    · rw [upd_other _ _ _ _ hx] at ha ⊢; exact hC a ha
  by_cases hne : rg.first ≤ rg.last
  · left
    have hR : z.range e.caller = some rg := by rw [h.range]; exact z_eraseR_of_ne hrg hne
    have hC : z.claimed e.caller = false := by
      cases hk : z.claimed e.caller with
      | false => rfl
      | true => rw [h.cl _ hk] at hncl; cases hncl
    refine ⟨hne, ⟨rfl, ?_, fun hf => (hfil' hf).elim, ?_, hcl _ h.cl, ?_, ?_, ?_⟩, hreal hne hR hC⟩
    · show upd z.range e.caller none = z_eraseR s'.range
      rw [e1, z_eraseR_upd_none, h.range]
    · intro a ha; rw [e3]; exact h.bl a ha
    · show zg_Uweak s'.uts z.uts
      rw [e5]; exact h.uts
    · exact h.bu.trans e6.symm
    · exact h.wl.trans e7.symm
  · right
    have hlt : rg.last < rg.first := by omega
    have hzn : z.range e.caller = none := by rw [h.range]; exact z_eraseR_of_empty hrg hne
    refine ⟨hlt, ⟨?_, ?_, fun hf => (hfil' hf).elim, ?_, ?_, ?_, ?_, ?_⟩, hzn⟩
    · rw [hempty hlt]; exact h.rest
    · rw [e1, z_eraseR_upd_none, ← h.range, z_upd_none_self _ _ hzn]
    · intro a ha; rw [e3]; exact h.bl a ha
    · intro a ha
      exact hcl s.claimed (fun _ h => h) a (by
        by_cases hx : a = e.caller
        · subst hx; simp
        · rw [upd_other _ _ _ _ hx]; exact h.cl a ha)
    · show zg_Uweak s'.uts z.uts
      rw [e5]; exact h.uts
    · exact h.bu.trans e6.symm
    · exact h.wl.trans e7.symm

end ESim

/-- The ledger does not see the erasure (`tix` = what is held for tickets): price, proceeds, statuses
    and confirmed counts are the same, an empty range wins nothing (`z_winCountOf_eq`) and — its
    holder having nothing confirmed once everything is drawn — is owed nothing (`z_refundDue_eq`).
    In `z` every range has `confirmed` tickets; in `s` as well, the empty ones having none. -/
theorem ESim.ledger {s z : State} (h : ESim s z) {L : List Nat} {tix : Nat}
    (hnone : AllDone z → ∀ a, z.range a = none → z.confirmed a = 0) (h1 : Covers z L)
    (h2 : ¬ AllDone z → tix = z.price * sumOver z.confirmed L)
    (h3 : AllDone z → Settled z tix L) :
    Covers s L ∧ (¬ AllDone s → tix = s.price * sumOver s.confirmed L) ∧
      (AllDone s → tix = s.claimablePayment + sumOver (refundDue s) L ∧
        sumOver (winCountOf s) L = s.nrWinning ∧ (∀ a, winCountOf s a ≤ s.confirmed a) ∧
        (∀ a rg, s.range a = some rg → rangeLen rg = s.confirmed a ∧ (rg.first ≤ rg.last → a ∈ L))) := by
  have hrange := h.range
  obtain ⟨w, rfl⟩ : ∃ w, z = ov s w := ⟨_, h.rest⟩
  have hwc : ∀ a, winCountOf s a = winCountOf (ov s w) a := z_winCountOf_eq hrange rfl
  refine ⟨⟨h1.nodup, h1.supp⟩, h2, fun hd => ?_⟩
  obtain ⟨k1, k2, k3, k4⟩ := h3 hd
  have hn := hnone hd
  refine ⟨?_, ?_, ?_, ?_⟩
  · rw [sumOver_congr (fun a _ => z_refundDue_eq hrange rfl rfl rfl hn a)]
    exact k1
  · rw [sumOver_congr (fun a _ => hwc a)]; exact k2
  · intro a; rw [hwc a]; exact k3 a
  · intro a rg hr
    by_cases hne : rg.first ≤ rg.last
    · obtain ⟨j1, _, j3⟩ := k4 a rg (by rw [hrange]; exact z_eraseR_of_ne hr hne)
      have j3' : rg.last + 1 = rg.first + s.confirmed a := j3
      exact ⟨by unfold rangeLen; omega, fun _ => j1⟩
    · have hc : s.confirmed a = 0 := hn a (by rw [hrange]; exact z_eraseR_of_empty hr hne)
      refine ⟨?_, fun hh => absurd hh hne⟩
      rw [hc]; unfold rangeLen; omega

/-- winning tickets and the refund due do not see the erasure: an empty range wins nothing, and its
    holder is owed nothing where addresses without range have nothing confirmed -/
theorem ESim.winCountOf_eq {s z : State} (h : ESim s z) (a : Nat) : winCountOf s a = winCountOf z a :=
  z_winCountOf_eq h.range ((congrArg State.status h.rest).trans rfl) a

theorem ESim.refundDue_eq {s z : State} (h : ESim s z)
    (hnone : ∀ a, z.range a = none → z.confirmed a = 0) (a : Nat) : refundDue s a = refundDue z a :=
  z_refundDue_eq h.range ((congrArg State.status h.rest).trans rfl) ((congrArg State.confirmed h.rest).trans rfl)
    ((congrArg State.price h.rest).trans rfl) hnone a

/-- where every remaining range of `s` is empty, `z` has no range -/
theorem ESim.range_none {s z : State} (h : ESim s z)
    (hall : ∀ a rg, s.range a = some rg → rg.last < rg.first) (a : Nat) : z.range a = none := by
  rw [h.range]
  cases hra : s.range a with
  | none => exact z_eraseR_of_none hra
  | some rg => exact z_eraseR_of_empty hra (Nat.not_le.mpr (hall a rg hra))

/-! ### `ZSim` = `ESim` with the same guarantee records -/

/-- `ESim` from an explicit overwrite `w` -/
theorem ESim.of_rest {s z : State} (w : Ov) (hrest : z = ov s w)
    (hbu : w.BU = s.blUts) (hwl : w.W = s.whitelist)
    (range : z.range = z_eraseR s.range)
    (batch : s.flags.filtered = false → z.batch = z_eraseB s.batch)
    (bl : ∀ a, z.blacklist a = true → s.blacklist a = true)
    (cl : ∀ a, z.claimed a = true → s.claimed a = true)
    (uts : zg_Uweak s.uts z.uts) : ESim s z := by
  have e1 : Ov.of z = w := by rw [hrest]; rfl
  refine ⟨by rw [e1]; exact hrest, range, batch, bl, cl, uts, ?_, ?_⟩
  · exact (congrArg Ov.BU e1).trans hbu
  · exact (congrArg Ov.W e1).trans hwl

theorem ZSim.esim {s z : State} (h : ZSim s z) : ESim s z :=
  .of_rest ⟨z.range, z.batch, z.blacklist, z.claimed, s.uts, s.blUts, s.whitelist⟩ h.rest
    rfl rfl h.range h.batch h.bl h.cl (fun a => Or.inl (congrFun (congrArg State.uts h.rest :) a))

theorem ESim.zsim {s z : State} (h : ESim s z) (hu : z.uts = s.uts) : ZSim s z := by
  refine ⟨?_, h.range, h.batch, h.bl, h.cl⟩
  have := h.rest
  unfold Ov.of at this
  rw [hu, h.bu, h.wl] at this
  exact this

theorem ZSim.shape {s z : State} (h : ZSim s z) :
    ∃ B K C, z = z_w s (z_eraseR s.range) B K C ∧ B = z.batch ∧ K = z.blacklist ∧ C = z.claimed :=
  ⟨_, _, _, h.eq, rfl, rfl, rfl⟩

theorem ZSim.fields {s z : State} (h : ZSim s z) :
    z.cfg = s.cfg ∧ z.flags = s.flags ∧ z.variant = s.variant ∧ z.owner = s.owner ∧
    z.confirmed = s.confirmed ∧ z.op = s.op ∧ z.lastTicketId = s.lastTicketId :=
  h.esim.fields

theorem ZSim.shape' {s z : State} (h : ZSim s z) : ∃ R B K C, z = z_w s R B K C :=
  ⟨_, _, _, _, h.rest⟩

/-! ### histories without the restriction on allocation entries (plain and nft families) -/

/-- `ReachA` without the `CallOK` premise: `addTickets` entries may have zero tickets -/
inductive ReachZA (hash : List Nat → List Nat) (v : Variant) (a0 : InitArgs) : State → Nat → Prop
  | init (e : Env) (s : State) : init v a0 e = .ok s → ReachZA hash v a0 s e.round
  | call (s : State) (r : Nat) (e : Env) (c : Call) (s' : State) (o : Out) :
      ReachZA hash v a0 s r → r ≤ e.round → EnvOK e →
      step hash s e c = .ok (s', o) → ReachZA hash v a0 s' e.round
  | wait (s : State) (r r' : Nat) : ReachZA hash v a0 s r → r ≤ r' → ReachZA hash v a0 s r'

/-- `Reach` without the `CallOK` premise -/
inductive ReachZ (hash : List Nat → List Nat) (v : Variant) : State → Nat → Prop
  | init (a : InitArgs) (e : Env) (s : State) : init v a e = .ok s → ReachZ hash v s e.round
  | call (s : State) (r : Nat) (e : Env) (c : Call) (s' : State) (o : Out) :
      ReachZ hash v s r → r ≤ e.round → EnvOK e →
      step hash s e c = .ok (s', o) → ReachZ hash v s' e.round
  | wait (s : State) (r r' : Nat) : ReachZ hash v s r → r ≤ r' → ReachZ hash v s r'

theorem reachZA_iff_later {hash : List Nat → List Nat} {v : Variant} {a0 : InitArgs} {s : State} {r : Nat} :
    ReachZA hash v a0 s r ↔ be_From (be_OK (fun _ => True)) hash v a0 s r := by
  constructor <;> intro h
  · induction h with
    | init e s h => exact .init h
    | call _ _ _ _ _ _ _ h1 h2 h3 ih => exact ih.call h1 ⟨h2, trivial⟩ h3
    | wait _ _ _ _ h1 ih => exact ih.wait h1
  · exact h.induct .init (fun s r e c s' o ih h1 h2 h3 => .call s r e c s' o ih h1 h2.1 h3)
      fun s r r' ih h1 => .wait s r r' ih h1

theorem reachZ_iff_later {hash : List Nat → List Nat} {v : Variant} {s : State} {r : Nat} :
    ReachZ hash v s r ↔ ∃ a0, be_From (be_OK (fun _ => True)) hash v a0 s r := by
  constructor
  · intro h
    induction h with
    | init a e s h => exact ⟨a, .init h⟩
    | call _ _ _ _ _ _ _ h1 h2 h3 ih => exact ih.imp fun _ ih => ih.call h1 ⟨h2, trivial⟩ h3
    | wait _ _ _ _ h1 ih => exact ih.imp fun _ ih => ih.wait h1
  · rintro ⟨a0, h⟩
    exact h.induct (.init a0) (fun s r e c s' o ih h1 h2 h3 => .call s r e c s' o ih h1 h2.1 h3)
      fun s r r' ih h1 => .wait s r r' ih h1

theorem ReachZ_iff {hash : List Nat → List Nat} {v : Variant} {s : State} {r : Nat} :
    ReachZ hash v s r ↔ ∃ a0, ReachZA hash v a0 s r :=
  reachZ_iff_later.trans (exists_congr fun _ => reachZA_iff_later.symm)

theorem ReachA.toZ {hash : List Nat → List Nat} {v : Variant} {a0 : InitArgs} {s : State} {r : Nat}
    (h : ReachA hash v a0 s r) : ReachZA hash v a0 s r :=
  reachZA_iff_later.mpr ((reachA_iff_later.mp h).mono fun _ _ => trivial)

theorem Reach.toZ {hash : List Nat → List Nat} {v : Variant} {s : State} {r : Nat}
    (h : Reach hash v s r) : ReachZ hash v s r :=
  reachZ_iff_later.mpr ((reach_iff_later.mp h).imp fun _ h => h.mono fun _ _ => trivial)

/-! ### the calls for `ZSim` (plain, nft and v1 families): the lemmas above read for `ZSim`, and
  `addTickets` with zero-size entries (`z_core_add`) -/

theorem z_indep_CallOK {c : Call} (h : ov_indep c = true) : CallOK c := by
  cases c <;> first | trivial | (simp [ov_indep] at h)

theorem z_indep_v1_CallOK {c : Call} (h : ov_indep c = true) : v1_CallOK c := by
  cases c <;> first | trivial | (simp [ov_indep] at h)

/-- `z_claim_stutter` for the NFT variants (the address is in neither NFT list): nothing is paid,
    no balance moves, but ONE SFT of category 3 ("did not take part in the NFT draw") is handed out -/
theorem zn_claim_stutter {hash : List Nat → List Nat} {s s' : State} {e : Env} {o : Out} {r : Range}
    (hn : s.variant.hasNft = true) (hs : step hash s e .claim = .ok (s', o))
    (hr : s.range e.caller = some r) (he : r.last < r.first) (hc : s.confirmed e.caller = 0)
    (hp : e.caller ∉ s.payers) (hw : e.caller ∉ s.nftWinners) :
    s' = z_w s (upd s.range e.caller none) (upd s.batch r.first none) s.blacklist
          (upd s.claimed e.caller true) ∧
    o.sfts = [(e.caller, 3)] ∧ o.xfers = [] ∧ o.locks = [] := by
  obtain ⟨r', hacc, _, hs'⟩ := nf_claim_shape hash s e s' o hn hs
  obtain ⟨_, _, _, hxf, hsf, hlk, _⟩ := LP.Props.C14.claim_nft_effect hash s e s' o hn hs
  have hr' : r' = r := by
    have := hacc.2.2.2.2.1
    rw [hr] at this
    exact (Option.some.inj this).symm
  subst hr'
  have hcat : nftCategory s e.caller = 3 := by
    unfold nftCategory; rw [if_neg hw, if_neg hp]
  have hlen : rangeLen r' = 0 := by unfold rangeLen; omega
  have hwc : LP.winCount s e.caller = 0 := by
    rw [LP.Props.C09.winCount_of_range hr, hlen]; rfl
  have hbal : LP.Props.C09.balAfterClaim s e.caller = s.bal := by
    unfold LP.Props.C09.balAfterClaim
    rw [hwc, hc]
    simp [Bal.sub_zero]
  have hconf : upd s.confirmed e.caller 0 = s.confirmed := by
    funext x
    by_cases hx : x = e.caller
    · subst hx; simp [hc]
    · simp [upd, hx]
  have hdelta : nf_delta s e.caller = 0 := by unfold nf_delta; rw [hcat]; rfl
  refine ⟨?_, by rw [hsf, hcat], ?_, hlk⟩
  · rw [hs', hcat, hdelta, hbal, Bal.sub_zero, LP.swapRemove_not_mem hw]
    simp only [show ¬ ((3 : Nat) = 2) by decide, if_false]
    unfold nf_claimState settledState
    rw [hlen, hconf]
    rfl
  · rw [hxf, hcat]
    unfold LP.Props.C09.refundXfers LP.Props.C09.tokenXfers
    rw [hwc, hc]
    simp

theorem z_core_indep {hash : List Nat → List Nat} {s z : State} {e : Env} {c : Call} {s' : State}
    {o : Out} (hc : ov_indep c = true) (hsim : ZSim s z) (hs : step hash s e c = .ok (s', o)) :
    ∃ z', ZSim s' z' ∧ z'.claimed = z.claimed ∧ step hash z e c = .ok (z', o) := by
  obtain ⟨h1, hf, h3⟩ := hsim.esim.indep hc hs
  exact ⟨_, h1.zsim ((congrArg State.uts hsim.rest :).trans (congrArg Ov.U hf).symm), rfl, h3⟩

theorem z_indep_Hd {hash : List Nat → List Nat} {s s' : State} {e : Env} {c : Call} {o : Out}
    (hc : ov_indep c = true) (hs : step hash s e c = .ok (s', o))
    (hd : s.flags.started = false → z_Hd s) : s'.flags.started = false → z_Hd s' :=
  z_Hd_keep hs (z_step_tk hs (by cases c <;> first | rfl | (simp [ov_indep] at hc))) hd

/-- `addTickets` while allocating: `z` takes the entries with at least one ticket -/
theorem z_core_add {hash : List Nat → List Nat} {s z : State} {e : Env} {l : List (Nat × Nat)}
    {s' : State} {o : Out} (hsim : ZSim s z) (hnf : s.flags.filtered = false) (hd : z_Hd s)
    (hs : step hash s e (.addTickets l) = .ok (s', o)) :
    ∃ z', ZSim s' z' ∧ z_Hd s' ∧ z'.claimed = z.claimed ∧
      step hash z e (.addTickets (l.filter (fun p => decide (1 ≤ p.2)))) = .ok (z', o) := by
  obtain ⟨m, t, _, _, _, hx, rfl, rfl⟩ := step_ok_inv hs
  obtain ⟨k1, k2, k3, k4, _, _⟩ := z_exec_addTickets z.blacklist z.claimed hx hd
  have hzeq : z = z_w s (z_eraseR s.range) (z_eraseB s.batch) z.blacklist z.claimed := by
    have := hsim.eq
    rw [hsim.batch hnf] at this
    exact this
  have hstep : step hash z e (.addTickets (l.filter (fun p => decide (1 ≤ p.2))))
      = .ok (z_w t.s (z_eraseR t.s.range) (z_eraseB t.s.batch) z.blacklist z.claimed, t.o) := by
    conv => lhs; rw [hzeq]
    exact step_ov_match
      (w := ⟨z_eraseR s.range, z_eraseB s.batch, z.blacklist, z.claimed, s.uts, s.blUts, s.whitelist⟩)
      (w' := ⟨z_eraseR t.s.range, z_eraseB t.s.batch, z.blacklist, z.claimed, t.s.uts, t.s.blUts,
        t.s.whitelist⟩) hs rfl hx k1
  refine ⟨z_w t.s (z_eraseR t.s.range) (z_eraseB t.s.batch) z.blacklist z.claimed,
    ⟨rfl, rfl, fun _ => rfl, fun a ha => ?_, fun a ha => ?_⟩, k2, rfl, hstep⟩
  · show t.s.blacklist a = true
    rw [k3]; exact hsim.bl a ha
  · show t.s.claimed a = true
    rw [k4]; exact hsim.cl a ha

/-- `blacklist` in a variant without guarantee records -/
theorem z_core_blacklist {hash : List Nat → List Nat} {s z : State} {e : Env} {l : List Nat}
    {s' : State} {o : Out} (hsim : ZSim s z) (hv2 : s.variant.isV2 = false)
    (hv1 : s.variant.v1Alloc = false) (hs : step hash s e (.blacklist l) = .ok (s', o))
    (hc : ∀ a ∈ l, z.range a = none → s.confirmed a = 0)
    (hp : s.variant.hasNft = true → ∀ a ∈ l, z.range a = none → a ∉ s.payers) :
    ∃ z', ZSim s' z' ∧ z'.claimed = z.claimed ∧
      step hash z e (.blacklist (l.filter (fun a => (z_eraseR s.range a).isSome))) = .ok (z', o) := by
  obtain ⟨K', U', h1, h2, _, h4, _⟩ := hsim.esim.blacklist hv2 hs hc
    (fun hv => absurd (hv1.symm.trans hv) nofun) hp
  rw [hsim.range] at h2
  refine ⟨_, h1.zsim (funext fun a => ?_), rfl, h2⟩
  show U' a = s'.uts a
  have hu : z.uts a = s.uts a := congrFun (congrArg State.uts hsim.rest :) a
  rcases h4 a with ⟨p1, p2⟩ | ⟨p1, p2, _⟩
  · rw [p1, p2]; exact hu
  · rw [p1, p2]

theorem z_core_confirm {hash : List Nat → List Nat} {s z : State} {e : Env} {n : Nat} {s' : State}
    {o : Out} (hsim : ZSim s z) (hs : step hash s e (.confirm n) = .ok (s', o)) :
    ∃ z', ZSim s' z' ∧ z'.claimed = z.claimed ∧ step hash z e (.confirm n) = .ok (z', o) := by
  obtain ⟨h1, hf, h3⟩ := hsim.esim.confirm hs
  exact ⟨_, h1.zsim ((congrArg State.uts hsim.rest :).trans (congrArg Ov.U hf).symm), rfl, h3⟩

theorem z_confirm_Hd {hash : List Nat → List Nat} {s s' : State} {e : Env} {n : Nat} {o : Out}
    (hs : step hash s e (.confirm n) = .ok (s', o))
    (hd : s.flags.started = false → z_Hd s) : s'.flags.started = false → z_Hd s' :=
  z_Hd_keep hs (z_step_tk hs rfl) hd

theorem z_PhA_noRange_noConf {T : Nat} {c : Core} {L0 : List (Nat × Nat)} (hp : Pre T c L0)
    (hA : PhA c L0) {a : Nat} (ha : c.range a = none) : c.confirmed a = 0 := by
  by_cases hin : a ∈ L0.map Prod.fst
  · obtain ⟨rr, hrr, _⟩ := be_chain_mem hA.chain hin
    rw [ha] at hrr; cases hrr
  · exact hp.outC a hin

theorem z_core_filter {hash : List Nat → List Nat} {s z : State} {e : Env} {s' : State} {o : Out}
    (hsim : ZSim s z)
    (hL : z.flags.filtered = false → ∃ L0, AllocOK z.confirmed L0 ∧
      ∀ x, filStOf z = some x → Mid z.confirmed z.lastTicketId L0 x)
    (hs : step hash s e .filter = .ok (s', o)) :
    ∃ z', ZSim s' z' ∧ z'.claimed = z.claimed ∧ step hash z e .filter = .ok (z', o) := by
  obtain ⟨h1, ⟨_, _, f3, _⟩, h3⟩ := hsim.esim.filter hL hs
  exact ⟨_, h1.zsim ((congrArg State.uts hsim.rest :).trans f3.symm), rfl, h3⟩

/-- the settling claim of a variant without vesting taken by `z` as by `s`: the body (with or without
    the NFT hook) commutes with the overwrite, `zn_claimBase` -/
theorem z_claim_real {hash : List Nat → List Nat} {s z s' : State} {e : Env} {o : Out} {rg : Range}
    (hsim : ZSim s z) (hv : s.variant.vested = false) (hs : step hash s e .claim = .ok (s', o))
    (hrg : s.range e.caller = some rg) (hncl : s.claimed e.caller = false)
    (hof : Ov.of s' = (Ov.of s).settle e.caller rg)
    (hR : z.range e.caller = some rg) (hC : z.claimed e.caller = false) :
    step hash z e .claim = .ok (ov s' ((Ov.of z).settle e.caller rg), o) := by
  have hw : ov s' ((Ov.of z).settle e.caller rg)
      = z_w s' (upd z.range e.caller none) (upd z.batch rg.first none) z.blacklist
          (upd z.claimed e.caller true) := by
    show ov s' ⟨_, _, _, _, z.uts, z.blUts, z.whitelist⟩ = _
    rw [(congrArg State.uts hsim.rest :).trans (congrArg Ov.U hof).symm,
      (congrArg State.blUts hsim.rest :).trans (congrArg Ov.BU hof).symm,
      (congrArg State.whitelist hsim.rest :).trans (congrArg Ov.W hof).symm]
    rfl
  rw [hw]
  have hs2 := hs
  rw [LP.Props.C09.step_claim_ok_iff] at hs2 ⊢
  obtain ⟨he1, he2, t, hx, rfl, rfl⟩ := hs2
  rw [exec_claim_nonvested hash _ e (by exact hv)] at hx
  have htx : LP.Props.C09.txc z e
      = z_wt (LP.Props.C09.txc s e) z.range z.batch z.blacklist z.claimed := by
    conv => lhs; rw [hsim.rest]
    rfl
  refine ⟨he1, he2, z_wt t (upd z.range e.caller none) (upd z.batch rg.first none) z.blacklist
    (upd z.claimed e.caller true), ?_, rfl, rfl⟩
  rw [exec_claim_nonvested hash _ e (by show z.variant.vested = false; rw [hsim.fields.2.2.1]; exact hv), htx]
  exact zn_claimBase hx (by exact hrg) hR (hC.trans hncl.symm)

/-- the claim of the variants without NFT draw and vesting, for `ZSim` -/
theorem z_core_claim {hash : List Nat → List Nat} {s z s' : State} {e : Env} {o : Out} {rg : Range}
    (hsim : ZSim s z) (hv : s.variant.vested = false) (hn : s.variant.hasNft = false)
    (hs : step hash s e .claim = .ok (s', o)) (hfil : s.flags.filtered = true)
    (hrg : s.range e.caller = some rg) (hncl : s.claimed e.caller = false)
    (hof : Ov.of s' = (Ov.of s).settle e.caller rg) (hflags : s'.flags = s.flags)
    (hnone : z.range e.caller = none → s.confirmed e.caller = 0) :
    ∃ z', ZSim s' z' ∧
      (step hash z e .claim = .ok (z', o) ∨
        (z' = z ∧ rg.last < rg.first ∧
          s' = z_w s (upd s.range e.caller none) (upd s.batch rg.first none) s.blacklist
                (upd s.claimed e.caller true))) := by
  have hu : z.uts = s'.uts := (congrArg State.uts hsim.rest :).trans (congrArg Ov.U hof).symm
  have hstut : rg.last < rg.first → s' = z_w s (upd s.range e.caller none) (upd s.batch rg.first none)
      s.blacklist (upd s.claimed e.caller true) := fun hlt =>
    z_claim_stutter hv hn hs hrg hlt
      (hnone (by rw [hsim.range]; exact z_eraseR_of_empty hrg (by omega)))
  rcases hsim.esim.claim hfil hrg hncl hof hflags (fun _ => z_claim_real hsim hv hs hrg hncl hof) hstut
    with ⟨_, h1, h2⟩ | ⟨hlt, h1, _⟩
  · exact ⟨_, h1.zsim hu, Or.inl h2⟩
  · exact ⟨z, h1.zsim hu, Or.inr ⟨rfl, hlt, hstut hlt⟩⟩

end LP
