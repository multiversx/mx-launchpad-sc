import LP.Proofs.StepLemmas
import LP.Props.C17
/-
  One notion of "a history": `be_Later P hash s r s' r'` — `s'` is reached from `s` by accepted
  calls satisfying `P`, at non-decreasing rounds, with waiting — and `be_From P hash v a0 s r`, a
  deployment of `v` with arguments `a0` followed by such a history.  The reachability relations
  of the development (`Reach…`, `…Later`, `pl_Since`) are one of the two for some `P`, by a bridge
  that stands next to the inductive (`zn_Later`, `ng_LaterZ` and `C01zeroV1more.LaterZ` have no
  bridge; `vv_ReachW` carries a ghost record and projects to `Reach`).  Closure, monotonicity in
  `P`, step invariants along a history (`be_Later.invariant`; the variant is one) and the passage
  to `run` are proved here once.
-/
namespace LP
open LP.Props.C17

/-! Induction along a history in the order `run` consumes it.  `run`, `runLog` and `lk_runLog` all
    recurse the same way: a rejected transaction is skipped, an accepted one moves to the state it
    produces.  The motive is a predicate of the start state and the remaining history, so
    hypotheses about the start state go into the motive as premises. -/

theorem run_rec (hash : List Nat → List Nat) {M : State → Hist → Prop}
    (nil : ∀ s, M s [])
    (err : ∀ s e c rest er, step hash s e c = .error er → M s rest → M s ((e, c) :: rest))
    (ok : ∀ s e c rest s' o, step hash s e c = .ok (s', o) → M s' rest → M s ((e, c) :: rest)) :
    ∀ (p : Hist) (s : State), M s p
  | [], s => nil s
  | (e, c) :: rest, s => by
    cases hst : step hash s e c with
    | error er => exact err s e c rest er hst (run_rec hash nil err ok rest s)
    | ok x => exact ok s e c rest x.1 x.2 hst (run_rec hash nil err ok rest x.1)

/-- the same for a history whose rounds are non-decreasing from `r`: the motive also carries the
    round of the latest transaction -/
theorem run_rec_rounds (hash : List Nat → List Nat) {M : State → Nat → Hist → Prop}
    (nil : ∀ s r, M s r [])
    (err : ∀ s r e c rest er, r ≤ e.round → RoundsFrom e.round rest → step hash s e c = .error er →
      M s e.round rest → M s r ((e, c) :: rest))
    (ok : ∀ s r e c rest s' o, r ≤ e.round → RoundsFrom e.round rest →
      step hash s e c = .ok (s', o) → M s' e.round rest → M s r ((e, c) :: rest)) :
    ∀ (p : Hist) (s : State) (r : Nat), RoundsFrom r p → M s r p
  | [], s, r, _ => nil s r
  | (e, c) :: rest, s, r, ⟨h1, h2⟩ => by
    cases hst : step hash s e c with
    | error er => exact err s r e c rest er h1 h2 hst (run_rec_rounds hash nil err ok rest s _ h2)
    | ok x => exact ok s r e c rest x.1 x.2 h1 h2 hst (run_rec_rounds hash nil err ok rest x.1 _ h2)

/-- `be_Later P hash s r s' r'`: `s'` (latest transaction at round `≤ r'`) is reached from `s`
    (at round `r`) by accepted calls `(e, c)` satisfying `P e c`, with non-decreasing rounds;
    rounds may pass without a transaction (`wait`) -/
inductive be_Later (P : Env → Call → Prop) (hash : List Nat → List Nat) (s : State) (r : Nat) :
    State → Nat → Prop
  | refl : be_Later P hash s r s r
  | call (s1 : State) (r1 : Nat) (e : Env) (c : Call) (s2 : State) (o : Out) :
      be_Later P hash s r s1 r1 → r1 ≤ e.round → P e c →
      step hash s1 e c = .ok (s2, o) → be_Later P hash s r s2 e.round
  | wait (s1 : State) (r1 r2 : Nat) : be_Later P hash s r s1 r1 → r1 ≤ r2 → be_Later P hash s r s1 r2

theorem be_Later.round_le {P : Env → Call → Prop} {hash : List Nat → List Nat} {s s' : State} {r r' : Nat}
    (h : be_Later P hash s r s' r') : r ≤ r' := by
  induction h with
  | refl => exact Nat.le_refl _
  | call s1 r1 e c s2 o _ h1 _ _ ih => exact Nat.le_trans ih h1
  | wait s1 r1 r2 _ h1 ih => exact Nat.le_trans ih h1

theorem be_Later.weaken {P Q : Env → Call → Prop} (hpq : ∀ e c, P e c → Q e c)
    {hash : List Nat → List Nat} {s s' : State} {r r' : Nat}
    (h : be_Later P hash s r s' r') : be_Later Q hash s r s' r' := by
  induction h with
  | refl => exact .refl
  | call s1 r1 e c s2 o _ h1 h2 h3 ih => exact .call s1 r1 e c s2 o ih h1 (hpq e c h2) h3
  | wait s1 r1 r2 _ h1 ih => exact .wait s1 r1 r2 ih h1

theorem be_Later.trans {P : Env → Call → Prop} {hash : List Nat → List Nat} {s s1 s2 : State}
    {r r1 r2 : Nat} (h1 : be_Later P hash s r s1 r1) (h2 : be_Later P hash s1 r1 s2 r2) :
    be_Later P hash s r s2 r2 := by
  induction h2 with
  | refl => exact h1
  | call sa ra e c sb o _ ha hb hc ih => exact .call sa ra e c sb o ih ha hb hc
  | wait sa ra rb _ ha ih => exact .wait sa ra rb ih ha

theorem be_Later.invariant {P : Env → Call → Prop} {hash : List Nat → List Nat} {Q : State → Prop}
    (hstep : ∀ s e c s' o, Q s → step hash s e c = .ok (s', o) → Q s')
    {s s' : State} {r r' : Nat} (h : be_Later P hash s r s' r') (hq : Q s) : Q s' := by
  induction h with
  | refl => exact hq
  | call s1 r1 e c s2 o _ _ _ h3 ih => exact hstep s1 e c s2 o ih h3
  | wait s1 r1 r2 _ _ ih => exact ih

/-- every history is a `run` -/
theorem be_Later.exists_run {P : Env → Call → Prop} {hash : List Nat → List Nat} {s s' : State}
    {r r' : Nat} (h : be_Later P hash s r s' r') : ∃ p, run hash s p = s' := by
  induction h with
  | refl => exact ⟨[], rfl⟩
  | call s1 r1 e c s2 o _ _ _ h3 ih =>
    obtain ⟨p, hp⟩ := ih
    exact ⟨p ++ [(e, c)], by rw [run_append, hp, run_cons_ok h3]; rfl⟩
  | wait s1 r1 r2 _ _ ih => exact ih

/-- a history with non-decreasing rounds whose transactions satisfy `P` leads to a later state
    (rejected transactions leave the state unchanged) -/
theorem be_later_run {P : Env → Call → Prop} (hash : List Nat → List Nat) (p : Hist) (s : State)
    (r : Nat) (hr : RoundsFrom r p) (hp : ∀ x ∈ p, P x.1 x.2) :
    ∃ r', be_Later P hash s r (run hash s p) r' ∧ ∀ q : Hist, RoundsFrom r (p ++ q) → RoundsFrom r' q := by
  revert hp
  refine run_rec_rounds hash (M := fun s r p => (∀ x ∈ p, P x.1 x.2) →
    ∃ r', be_Later P hash s r (run hash s p) r' ∧ ∀ q : Hist, RoundsFrom r (p ++ q) → RoundsFrom r' q)
    ?_ ?_ ?_ p s r hr
  · exact fun s r _ => ⟨r, .refl, fun _ hq => hq⟩
  · intro s r e c rest er h1 _ hst ih hall
    obtain ⟨r', hl, hq⟩ := ih fun x hx => hall x (List.mem_cons_of_mem _ hx)
    rw [run_cons_err hst]
    exact ⟨r', (be_Later.wait s r e.round .refl h1).trans hl, fun q hr => hq q hr.2⟩
  · intro s r e c rest s' o h1 _ hst ih hall
    obtain ⟨r', hl, hq⟩ := ih fun x hx => hall x (List.mem_cons_of_mem _ hx)
    rw [run_cons_ok hst]
    exact ⟨r', (be_Later.call s r e c s' o .refl h1 (hall _ (List.mem_cons_self ..)) hst).trans hl,
      fun q hr => hq q hr.2⟩

/-- `be_Later` is the least relation from `(s, r)` closed under admissible calls and waiting -/
theorem be_Later.closed {P : Env → Call → Prop} {hash : List Nat → List Nat} {R : State → Nat → Prop}
    (call : ∀ s1 r1 e c s2 o, R s1 r1 → r1 ≤ e.round → P e c → step hash s1 e c = .ok (s2, o) →
      R s2 e.round)
    (wait : ∀ s1 r1 r2, R s1 r1 → r1 ≤ r2 → R s1 r2)
    {s s' : State} {r r' : Nat} (h0 : R s r) (h : be_Later P hash s r s' r') : R s' r' := by
  induction h with
  | refl => exact h0
  | call s1 r1 e c s2 o _ h1 h2 h3 ih => exact call s1 r1 e c s2 o ih h1 h2 h3
  | wait s1 r1 r2 _ h1 ih => exact wait s1 r1 r2 ih h1

/-- a call carries EGLD or ESDT, not both -/
def EnvOK (e : Env) : Prop := e.egld = 0 ∨ e.esdts = []

/-- the side conditions of the reachability relations as a premise of `be_Later` / `be_From`:
    `EnvOK` for the environment, `Q` for the call (the restriction on allocation entries, if any) -/
def be_OK (Q : Call → Prop) (e : Env) (c : Call) : Prop := EnvOK e ∧ Q c

theorem be_OK.mono {Q Q' : Call → Prop} (h : ∀ c, Q c → Q' c) (e : Env) (c : Call)
    (hq : be_OK Q e c) : be_OK Q' e c := ⟨hq.1, h c hq.2⟩

/-- reached from a deployment of `v` with arguments `a0` by a history whose calls satisfy `P` -/
def be_From (P : Env → Call → Prop) (hash : List Nat → List Nat) (v : Variant) (a0 : InitArgs)
    (s : State) (r : Nat) : Prop :=
  ∃ e s0, init v a0 e = .ok s0 ∧ be_Later P hash s0 e.round s r

section
variable {P : Env → Call → Prop} {hash : List Nat → List Nat} {v : Variant} {a0 : InitArgs}

theorem be_From.init {e : Env} {s : State} (h : LP.init v a0 e = .ok s) :
    be_From P hash v a0 s e.round := ⟨e, s, h, .refl⟩

theorem be_From.later {s s' : State} {r r' : Nat} (h : be_From P hash v a0 s r)
    (hl : be_Later P hash s r s' r') : be_From P hash v a0 s' r' :=
  let ⟨e, s0, hi, h0⟩ := h; ⟨e, s0, hi, h0.trans hl⟩

theorem be_From.call {s s' : State} {r : Nat} {e : Env} {c : Call} {o : Out}
    (h : be_From P hash v a0 s r) (hr : r ≤ e.round) (hp : P e c)
    (hs : step hash s e c = .ok (s', o)) : be_From P hash v a0 s' e.round :=
  h.later (.call s r e c s' o .refl hr hp hs)

theorem be_From.wait {s : State} {r r' : Nat} (h : be_From P hash v a0 s r) (hr : r ≤ r') :
    be_From P hash v a0 s r' := h.later (.wait s r r' .refl hr)

theorem be_From.weaken {Q : Env → Call → Prop} (hpq : ∀ e c, P e c → Q e c) {s : State} {r : Nat}
    (h : be_From P hash v a0 s r) : be_From Q hash v a0 s r :=
  let ⟨e, s0, hi, h0⟩ := h; ⟨e, s0, hi, h0.weaken hpq⟩

theorem be_From.mono {Q Q' : Call → Prop} (h : ∀ c, Q c → Q' c) {s : State} {r : Nat}
    (hf : be_From (be_OK Q) hash v a0 s r) : be_From (be_OK Q') hash v a0 s r :=
  hf.weaken (be_OK.mono h)

/-- induction along `be_From`: the three cases of every reachability relation -/
theorem be_From.induct {M : State → Nat → Prop}
    (init : ∀ e s, LP.init v a0 e = .ok s → M s e.round)
    (call : ∀ s r e c s' o, M s r → r ≤ e.round → P e c → step hash s e c = .ok (s', o) →
      M s' e.round)
    (wait : ∀ s r r', M s r → r ≤ r' → M s r')
    {s : State} {r : Nat} (h : be_From P hash v a0 s r) : M s r :=
  let ⟨e, s0, hi, h0⟩ := h; h0.closed call wait (init e s0 hi)

end

end LP
