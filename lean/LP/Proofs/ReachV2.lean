import LP.Proofs.ReachPlain
import LP.Proofs.Frame
import LP.Proofs.CorePhase
import LP.Props.C03final
import LP.Props.C04select
import LP.Props.C12reserve
import LP.Props.C13
import LP.Props.C10
import LP.Proofs.DistLoops
/-
  The inductive invariant `WF2 T0 s r` of `Variant.guarV2` (launchpad-guaranteed-tickets-v2; prefix
  `v2_`) and its preservation by every endpoint up to the end of the distribution step (the claim,
  the owner's withdrawal and the induction over histories are in ReachV2Claim).  It extends the
  plain invariant (ReachWF): before the base lottery completes the phases are the plain ones for
  the base winner count `T0 - totalGuaranteed` (reserve conservation); then a distribution phase
  `PhE` (`selected ∧ ¬ additional`; the ledger equation is still the pre-selection one) and the
  final phase `PhF` (plain `PhD` + facts on the flags and the honoured guarantees).  `lp : LPI …`
  is the launchpad-token ledger (deposit intact until the distribution completes; afterwards cases
  A / B of `LPost`).
-/
namespace LP
open LP.FY

/-- the plain projection plus the guaranteed-ticket fields the later phases read -/
structure GCore where
  core : Core
  whitelist : List Nat
  uts : Nat → Option UTS
  tg : Nat

def State.gcore (s : State) : GCore := ⟨s.core, s.whitelist, s.uts, s.totalGuaranteed⟩

/-- whitelist facts that survive the filter (which removes ranges) -/
structure GI2 (wl : List Nat) (uts : Nat → Option UTS) (tg : Nat) : Prop where
  nodup : wl.Nodup
  total : tg = gSum true uts wl
  mem_of_pos : ∀ u st, uts u = some st → sumG st.infos > 0 → u ∈ wl

theorem GI2.of_GuarInv {s : State} (h : GuarInv true s) : GI2 s.whitelist s.uts s.totalGuaranteed :=
  ⟨h.nodup, h.total, fun u st h1 h2 => h.mem_of_pos u st h1 h2⟩

/-- the distribution step in progress with cursor `(leftover, offset, additional)`:
    both loops share this invariant (the top-up only adds flags inside `1..last`, which the
    position invariant of the leftover loop tolerates) -/
structure DInv (g : GCore) (lo off add : Nat) : Prop where
  nodup : g.whitelist.Nodup
  total : lo + add + gSum true g.uts g.whitelist = g.tg
  pinv : PosInv g.core.lastTicketId g.core.status g.core.posToId (g.core.nrWinning + off)
  count : countTrue g.core.status g.core.lastTicketId = g.core.nrWinning + add
  hon : ∀ u st r, g.uts u = some st → u ∉ g.whitelist → g.core.range u = some r →
    (calcV2 st.infos (g.core.confirmed u)).1 ≤ countWinning g.core.status r.first (rangeLen r)

/-- phase E: base lottery complete, distribution not complete -/
structure PhE (T : Nat) (g : GCore) : Prop where
  started : g.core.flags.started = true
  filtered : g.core.flags.filtered = true
  selected : g.core.flags.selected = true
  notAdd : g.core.flags.additional = false
  nrw : g.core.nrWinning = min T g.core.lastTicketId
  alloc : ∃ Ls : List (Nat × Nat), (Ls.map Prod.fst).Nodup ∧
    (∀ p ∈ Ls, 1 ≤ p.2 ∧ p.2 = g.core.confirmed p.1) ∧ Chain Ls 1 g.core.range g.core.batch ∧
    g.core.lastTicketId = ticketTotal Ls ∧
    (∀ a, a ∉ Ls.map Prod.fst → g.core.range a = none ∧ g.core.confirmed a = 0) ∧
    PayPre g.core (Ls.map Prod.fst)
  claimable : g.core.claimable = g.core.price * g.core.nrWinning
  dist : ∃ lo off add, DInv g lo off add ∧
    ((g.core.op = .none ∧ lo = 0 ∧ off = 1 ∧ add = 0) ∨
     ∃ rng, g.core.op = .additional (.guar ⟨rng, lo, off, add⟩))

/-- phase F: all selection steps complete -/
structure PhF (g : GCore) : Prop where
  d : PhD g.core
  add : g.core.flags.additional = true
  flagsIn : FlagsIn g.core.lastTicketId g.core.status
  hon : ∀ u st r, g.uts u = some st → g.core.range u = some r →
    (calcV2 st.infos (g.core.confirmed u)).1 ≤ countWinning g.core.status r.first (rangeLen r)

def Phase2 (T0 : Nat) (g : GCore) : Prop :=
  (g.core.flags.additional = false ∧ g.core.flags.selected = false ∧
      GI2 g.whitelist g.uts g.tg ∧ Phase (T0 - g.tg) g.core) ∨
  PhE (T0 - g.tg) g ∨ PhF g

/-- the fields the launchpad-token ledger reads (besides the projection `GCore`) -/
structure LProj where
  lpBal : Nat
  deposited : Bool
  totalDeposited : Nat
  perTicket : Nat
  userTotal : Nat → Nat
  userClaimed : Nat → Nat
  claimed : Nat → Bool
  sched : List (Nat × Nat)

def State.lproj (s : State) : LProj :=
  { lpBal := s.bal (.esdt s.lpTok) 0, deposited := s.deposited, totalDeposited := s.totalDeposited,
    perTicket := s.perTicket, userTotal := s.userTotal, userClaimed := s.userClaimed,
    claimed := s.claimed, sched := s.sched2.getD defaultSchedule2 }

/-- before the distribution completes: nobody has claimed; a deposit made so far is intact and
    covers `perTicket × (base winners + reserve)` -/
structure LPre (g : GCore) (p : LProj) : Prop where
  fresh : ∀ a, p.userTotal a = 0 ∧ p.userClaimed a = 0 ∧ p.claimed a = false
  dep : p.deposited = true → p.lpBal = p.totalDeposited ∧
    p.perTicket * (g.core.nrWinning + g.tg) ≤ p.totalDeposited

/-- after the distribution: the launchpad-token ledger.  Case A (owner has not withdrawn):
    `balance + Σ paid out = deposit`, the recorded proceeds are `price × W` with
    `W × perTicket = perTicket × (winners still unsettled) + Σ entitlements of the settled`,
    and the deposit covers `W × perTicket`.  Case B (owner has withdrawn his surplus):
    `balance + Σ paid out = perTicket × unsettled winners + Σ entitlements`. -/
structure LPost (g : GCore) (p : LProj) : Prop where
  led : ∃ L : List Nat, L.Nodup ∧ (∀ a, a ∉ L → p.userTotal a = 0 ∧ p.userClaimed a = 0) ∧
    ((p.lpBal + sumOver p.userClaimed L = p.totalDeposited ∧
      ∃ W, g.core.claimable = g.core.price * W ∧
        W * p.perTicket = p.perTicket * g.core.nrWinning + sumOver p.userTotal L ∧
        W * p.perTicket ≤ p.totalDeposited) ∨
     (p.totalDeposited = 0 ∧ g.core.claimable = 0 ∧
      p.lpBal + sumOver p.userClaimed L = p.perTicket * g.core.nrWinning + sumOver p.userTotal L))
  le : ∀ a, p.userClaimed a ≤ p.userTotal a
  unclaimed : ∀ a, p.claimed a = false → p.userTotal a = 0

structure LPI (g : GCore) (p : LProj) : Prop where
  sched : ∀ now, unlockedPct2 now p.sched ≤ 10000
  nodep : p.deposited = false → (∀ a, g.core.confirmed a = 0) ∧ p.lpBal = 0 ∧ p.totalDeposited = 0 ∧
    (∀ a, p.userTotal a = 0 ∧ p.userClaimed a = 0) ∧
    (g.core.flags.additional = true → g.core.nrWinning = 0)
  pre : g.core.flags.additional = false → LPre g p
  post : g.core.flags.additional = true → LPost g p

theorem LPI.early {g g' : GCore} {p : LProj} (h : LPI g p) (ha : g.core.flags.additional = false)
    (ha' : g'.core.flags.additional = false)
    (hnw : g'.core.nrWinning + g'.tg ≤ g.core.nrWinning + g.tg)
    (hc : p.deposited = false → ∀ a, g'.core.confirmed a = 0) : LPI g' p := by
  have hpre := h.pre ha
  refine ⟨h.sched, ?_, fun _ => ⟨hpre.fresh, fun hd => ?_⟩, fun hq => ?_⟩
  · intro hd
    obtain ⟨_, h2, h3, h4, _⟩ := h.nodep hd
    exact ⟨hc hd, h2, h3, h4, fun hq => by rw [ha'] at hq; cases hq⟩
  · obtain ⟨h1, h2⟩ := hpre.dep hd
    exact ⟨h1, Nat.le_trans (Nat.mul_le_mul_left _ hnw) h2⟩
  · rw [ha'] at hq; cases hq

/-- the inductive invariant of `Variant.guarV2`; `T0` = winners configured at deployment, `r` =
    round of the latest transaction -/
structure WF2 (T0 : Nat) (s : State) (r : Nat) : Prop where
  var : s.variant = .guarV2
  pricePos : 0 < s.price
  tokNe : s.payTok ≠ .esdt s.lpTok
  balOther : ∀ t, t ≠ s.payTok → t ≠ .esdt s.lpTok → s.bal t 0 = 0
  tlConf : r < s.cfg.conf → ∀ a, s.confirmed a = 0
  tlStarted : s.flags.started = true → s.cfg.conf ≤ r ∧ s.cfg.sel ≤ r
  tgLe : s.totalGuaranteed ≤ T0
  gx : s.flags.started = false → GuarInvX s
  phase : Phase2 T0 s.gcore
  lp : LPI s.gcore s.lproj

theorem v2_phase_early {T0 : Nat} {g : GCore} (h : Phase2 T0 g) (hs : g.core.flags.selected = false) :
    g.core.flags.additional = false ∧ GI2 g.whitelist g.uts g.tg ∧ Phase (T0 - g.tg) g.core := by
  rcases h with ⟨h1, _, h3, h4⟩ | hE | hF
  · exact ⟨h1, h3, h4⟩
  · rw [hE.selected] at hs; cases hs
  · rw [hF.d.selected] at hs; cases hs

theorem v2_phase_notFiltered {T0 : Nat} {g : GCore} (h : Phase2 T0 g)
    (hf : g.core.flags.filtered = false) :
    g.core.flags.additional = false ∧ g.core.flags.selected = false ∧
    GI2 g.whitelist g.uts g.tg ∧ Phase (T0 - g.tg) g.core := by
  rcases h with h | hE | hF
  · exact h
  · rw [hE.filtered] at hf; cases hf
  · rw [hF.d.filtered] at hf; cases hf

theorem v2_phase_notStarted {T0 : Nat} {g : GCore} (h : Phase2 T0 g)
    (hs : g.core.flags.started = false) :
    g.core.flags.additional = false ∧ g.core.flags.selected = false ∧
    GI2 g.whitelist g.uts g.tg ∧ ∃ L0, Pre (T0 - g.tg) g.core L0 ∧ PhA g.core L0 := by
  rcases h with ⟨h1, h2, h3, h4⟩ | hE | hF
  · exact ⟨h1, h2, h3, rb_phase_notStarted h4 hs⟩
  · rw [hE.started] at hs; cases hs
  · rw [hF.d.started] at hs; cases hs

theorem v2_phase_E {T0 : Nat} {g : GCore} (h : Phase2 T0 g) (hs : g.core.flags.selected = true)
    (ha : g.core.flags.additional = false) : PhE (T0 - g.tg) g := by
  rcases h with ⟨_, h2, _⟩ | hE | hF
  · rw [h2] at hs; cases hs
  · exact hE
  · rw [hF.add] at ha; cases ha

theorem v2_phase_F {T0 : Nat} {g : GCore} (h : Phase2 T0 g) (ha : g.core.flags.additional = true) :
    PhF g := by
  rcases h with ⟨h1, _⟩ | hE | hF
  · rw [h1] at ha; cases ha
  · rw [hE.notAdd] at ha; cases ha
  · exact hF

theorem v2_flags {v : Variant} (hv : v = .guarV2) :
    v.vested = true ∧ v.hasNft = false ∧ v.isV2 = true ∧ v.v1Alloc = false ∧ v.hasLock = false ∧
    v.hasGuaranteed = true ∧ v.hasUnblacklist = true ∧ v.noAdditionalStep = false := by
  subst hv; exact ⟨rfl, rfl, rfl, rfl, rfl, rfl, rfl, rfl⟩

/-- without a deposit every quantity of the ledger is zero; it stays zero under a step whose
    increase of each quantity is bounded by quantities that are zero -/
theorem LPI.nodep_le {g g' : GCore} {p p' : LProj} (h : LPI g p) (hd : p'.deposited = p.deposited)
    (hc : ∀ a, g'.core.confirmed a ≤ g.core.confirmed a) (hb : p'.lpBal ≤ p.lpBal)
    (ht : p'.totalDeposited ≤ p.totalDeposited)
    (hut : ∀ a, p'.userTotal a ≤ p.userTotal a + g.core.confirmed a * p.perTicket)
    (huc : ∀ a, p'.userClaimed a ≤ p.userClaimed a + p.lpBal)
    (hnw : g'.core.flags.additional = true →
      g.core.flags.additional = true ∧ g'.core.nrWinning ≤ g.core.nrWinning) :
    p'.deposited = false → (∀ a, g'.core.confirmed a = 0) ∧ p'.lpBal = 0 ∧ p'.totalDeposited = 0 ∧
      (∀ a, p'.userTotal a = 0 ∧ p'.userClaimed a = 0) ∧
      (g'.core.flags.additional = true → g'.core.nrWinning = 0) := by
  intro hq
  obtain ⟨q1, q2, q3, q4, q5⟩ := h.nodep (hd ▸ hq)
  refine ⟨fun a => Nat.le_zero.mp (q1 a ▸ hc a), Nat.le_zero.mp (q2 ▸ hb), Nat.le_zero.mp (q3 ▸ ht),
    fun a => ⟨?_, ?_⟩, fun ha => ?_⟩
  · have := hut a; rw [(q4 a).1, q1 a, Nat.zero_mul] at this; exact Nat.le_zero.mp this
  · have := huc a; rw [(q4 a).2, q2] at this; exact Nat.le_zero.mp this
  · have := (hnw ha).2; rw [q5 (hnw ha).1] at this; exact Nat.le_zero.mp this

theorem wait_WF2 {T0 : Nat} {s : State} {r r' : Nat} (h : WF2 T0 s r) (hr : r ≤ r') : WF2 T0 s r' :=
  ⟨h.var, h.pricePos, h.tokNe, h.balOther, fun h1 => h.tlConf (by omega),
    fun h1 => by have := h.tlStarted h1; omega, h.tgLe, h.gx, h.phase, h.lp⟩

/-- `WF2` reads the state only through `gcore`, `lproj`, the reserve's blacklist records, the two
    token identifiers, the balances of other tokens and the timeline.  A step that keeps the
    timeline is covered by passing `h.tlConf` and `h.tlStarted` after `wait_WF2`. -/
theorem WF2.transfer {T0 : Nat} {s s' : State} {r : Nat} (h : WF2 T0 s r)
    (hg : s'.gcore = s.gcore) (hlp : LPI s.gcore s'.lproj) (hv : s'.variant = s.variant)
    (hbu : s'.blUts = s.blUts) (hbl : s'.blacklist = s.blacklist)
    (hp : s'.payTok = s.payTok) (hl : s'.lpTok = s.lpTok)
    (hb : ∀ t, t ≠ s.payTok → t ≠ .esdt s.lpTok → s'.bal t 0 = 0)
    (htl1 : r < s'.cfg.conf → ∀ a, s.confirmed a = 0)
    (htl2 : s.flags.started = true → s'.cfg.conf ≤ r ∧ s'.cfg.sel ≤ r) : WF2 T0 s' r := by
  have hcore : s'.core = s.core := congrArg GCore.core hg
  have hflags : s'.flags = s.flags := congrArg Core.flags hcore
  have hge : GEq s s' := ⟨congrArg GCore.whitelist hg, congrArg GCore.uts hg, hbu,
    congrArg Core.range hcore, congrArg Core.nrWinning hcore, congrArg GCore.tg hg, hv⟩
  refine ⟨by rw [hv]; exact h.var, by rw [show s'.price = s.price from congrArg Core.price hcore]; exact h.pricePos,
    by rw [hp, hl]; exact h.tokNe, ?_, ?_, ?_, by rw [hge.totalGuaranteed]; exact h.tgLe, ?_,
    by rw [hg]; exact h.phase, by rw [hg]; exact hlp⟩
  · intro t h1 h2; rw [hp] at h1; rw [hl] at h2; exact hb t h1 h2
  · intro h1; rw [show s'.confirmed = s.confirmed from congrArg Core.confirmed hcore]; exact htl1 h1
  · intro h1; rw [hflags] at h1; exact htl2 h1
  · intro h1; rw [hflags] at h1; exact GuarInvX_of_GEq hge hbl (h.gx h1)

/-- once the filter has started the clauses about the time before it are void: what remains is
    the frame, the phase and the launchpad-token ledger -/
theorem WF2.of_started {T0 : Nat} {s s' : State} {r r' : Nat} (h : WF2 T0 s r)
    (hv : s'.variant = s.variant) (hprice : s'.price = s.price) (hp : s'.payTok = s.payTok)
    (hl : s'.lpTok = s.lpTok) (hb : ∀ t, t ≠ s.payTok → t ≠ .esdt s.lpTok → s'.bal t 0 = 0)
    (htg : s'.totalGuaranteed = s.totalGuaranteed)
    (hcfg : s'.cfg.conf ≤ r' ∧ s'.cfg.sel ≤ r') (hstd : s'.flags.started = true)
    (hph : Phase2 T0 s'.gcore) (hlp : LPI s'.gcore s'.lproj) : WF2 T0 s' r' :=
  ⟨hv ▸ h.var, hprice ▸ h.pricePos, by rw [hp, hl]; exact h.tokNe,
    fun t h1 h2 => hb t (hp ▸ h1) (hl ▸ h2), fun hlt => absurd hcfg.1 (Nat.not_le.mpr hlt),
    fun _ => hcfg, htg ▸ h.tgLe, fun hq => absurd hstd (by rw [hq]; nofun), hph, hlp⟩

theorem init_WF2 {a : InitArgs} {e : Env} {s : State} (h : init .guarV2 a e = .ok s) :
    WF2 a.nrWinning s e.round := by
  obtain ⟨hok, rfl⟩ := init_ok h
  have hG : GuarInvX (initState .guarV2 a e) := GuarInvX_initial _ rfl rfl rfl rfl rfl
  refine ⟨rfl, hok.price, hok.tokNe, fun _ _ _ => rfl, fun _ _ => rfl, nofun, Nat.zero_le _,
    fun _ => hG, ?_, ?_⟩
  rotate_left
  · refine ⟨fun now => ?_, fun _ => ⟨fun _ => rfl, rfl, rfl, fun _ => ⟨rfl, rfl⟩, nofun⟩,
      fun _ => ⟨fun _ => ⟨rfl, rfl, rfl⟩, nofun⟩, nofun⟩
    show unlockedPct2 now defaultSchedule2 ≤ 10000
    rw [unlockedPct2_default]; exact Nat.le_refl _
  left
  refine ⟨rfl, rfl, GI2.of_GuarInv hG.base, ?_⟩
  left
  refine ⟨[], ⟨rfl, rfl, rfl, rfl, rfl, ⟨List.nodup_nil, nofun, nofun⟩, fun _ _ => rfl,
    fun _ _ => rfl, ?_⟩, Or.inl ⟨rfl, rfl, trivial, rfl⟩⟩
  show (0 : Nat) = a.price * sumOver (fun _ => 0) []
  simp [sumOver]

end LP

/-
  `WF2` is preserved by the endpoints of `Variant.guarV2` that neither loop over tickets nor
  claim: the six administrative calls (`v2_admin`), the two launchpad-token setters, `deposit`,
  `setTicketPrice`, `confirm`.
-/
namespace LP
open LP.FY LP.Events

theorem GEq.rfl' {s s' : State} (h1 : s'.whitelist = s.whitelist) (h2 : s'.uts = s.uts)
    (h3 : s'.blUts = s.blUts) (h4 : s'.range = s.range) (h5 : s'.nrWinning = s.nrWinning)
    (h6 : s'.totalGuaranteed = s.totalGuaranteed) (h7 : s'.variant = s.variant) : GEq s s' :=
  ⟨h1, h2, h3, h4, h5, h6, h7⟩

theorem v2_admin {T0 : Nat} {hash : List Nat → List Nat} {s s' : State} {e : Env} {c : Call}
    {o : Out} {r : Nat} (h : WF2 T0 s r) (hr : r ≤ e.round) (hc : c.isAdmin = true)
    (hs : step hash s e c = .ok (s', o)) : WF2 T0 s' e.round := by
  obtain ⟨cfg, pz, sup, rfl, hm⟩ := step_admin hc hs
  have hw := wait_WF2 h hr
  exact hw.transfer rfl hw.lp rfl rfl rfl rfl rfl hw.balOther (fun hlt => hw.tlConf (hm.confLt hlt))
    (fun hst => ⟨hm.conf (hw.tlStarted hst).1, hm.sel (hw.tlStarted hst).2⟩)

theorem v2_setPerTicket {T0 : Nat} {hash : List Nat → List Nat} {s s' : State} {e : Env} {o : Out}
    {r a : Nat} (h : WF2 T0 s r) (hr : r ≤ e.round)
    (hs : step hash s e (.setPerTicket a) = .ok (s', o)) : WF2 T0 s' e.round := by
  obtain ⟨t, hx, rfl⟩ := step_np rfl hs
  obtain ⟨h1, hst, hnd, _⟩ := exec_setPerTicket_s hx
  simp only [rbTx_s] at hst hnd
  obtain ⟨hna, _⟩ := v2_phase_notStarted h.phase (notStarted_of_stage h.tlStarted hr (Or.inl hst))
  have hw := wait_WF2 h hr
  have hl := h.lp
  rw [h1]
  -- `perTicket` enters the ledger only through a deposit or a settlement; there is neither yet
  exact hw.transfer rfl ⟨hl.sched, fun _ => hl.nodep hnd,
      fun _ => ⟨(hl.pre hna).fresh, fun hq => Bool.noConfusion (hnd.symm.trans hq)⟩,
      fun hq => Bool.noConfusion (hna.symm.trans hq)⟩
    rfl rfl rfl rfl rfl hw.balOther hw.tlConf hw.tlStarted

theorem v2_setSchedule2 {T0 : Nat} {hash : List Nat → List Nat} {s s' : State} {e : Env} {o : Out}
    {r : Nat} {ms : List (Nat × Nat)} (h : WF2 T0 s r) (hr : r ≤ e.round)
    (hs : step hash s e (.setSchedule2 ms) = .ok (s', o)) : WF2 T0 s' e.round := by
  obtain ⟨t, hx, rfl⟩ := step_np rfl hs
  have hv : validSchedule2 e.round ms = true := by
    simp only [exec] at hx
    exact ((setSchedule2_eq_ok _ _ _ _).mp hx).2.2.1
  have hw := wait_WF2 h hr
  have hl := h.lp
  rw [exec_setSchedule2_s hx]
  exact hw.transfer rfl ⟨fun now => (unlockedPct2_accepted hv).1 now, hl.nodep,
      fun ha => ⟨(hl.pre ha).fresh, (hl.pre ha).dep⟩,
      fun ha => ⟨(hl.post ha).led, (hl.post ha).le, (hl.post ha).unclaimed⟩⟩
    rfl rfl rfl rfl rfl hw.balOther hw.tlConf hw.tlStarted

/-- a deposit of `perTicket × (base winners + reserve)` into a launchpad that has none: before the
    distribution it is intact and covers both; after it (nobody confirmed, so there is no winner and
    no entitlement) it is case A of the ledger -/
theorem LPI.deposit {g : GCore} {p : LProj} (h : LPI g p) (hnd : p.deposited = false) {amt : Nat}
    (hamt : amt = p.perTicket * (g.core.nrWinning + g.tg)) :
    LPI g { p with lpBal := amt, deposited := true, totalDeposited := amt } := by
  obtain ⟨_, _, _, hz4, hz5⟩ := h.nodep hnd
  refine ⟨h.sched, nofun, fun ha => ⟨(h.pre ha).fresh, fun _ => ⟨rfl, hamt ▸ Nat.le_refl _⟩⟩,
    fun ha => ?_⟩
  have hnw0 : g.core.nrWinning = 0 := hz5 ha
  obtain ⟨⟨L, hnd2, hout, hAB⟩, hle, hun⟩ := h.post ha
  have hsC : sumOver p.userClaimed L = 0 := sumOver_zero _ _ (fun a _ => (hz4 a).2)
  have hsT : sumOver p.userTotal L = 0 := sumOver_zero _ _ (fun a _ => (hz4 a).1)
  refine ⟨⟨L, hnd2, hout, Or.inl ⟨?_, ?_⟩⟩, hle, hun⟩
  · show amt + sumOver p.userClaimed L = amt
    rw [hsC]; rfl
  · rcases hAB with ⟨_, W, w1, w2, _⟩ | ⟨_, b2, _⟩
    · refine ⟨W, w1, w2, ?_⟩
      show W * p.perTicket ≤ amt
      rw [w2, hsT, hnw0]; exact Nat.zero_le _
    · refine ⟨0, b2, ?_, by simp⟩
      show 0 * p.perTicket = p.perTicket * g.core.nrWinning + sumOver p.userTotal L
      rw [hsT, hnw0]; simp

theorem v2_deposit {T0 : Nat} {hash : List Nat → List Nat} {s s' : State} {e : Env} {o : Out}
    {r : Nat} (h : WF2 T0 s r) (hr : r ≤ e.round) (hok : EnvOK e)
    (hs : step hash s e .deposit = .ok (s', o)) : WF2 T0 s' e.round := by
  obtain ⟨hnd, rfl⟩ := step_deposit hok hs
  rw [show reservedForDeposit s = s.totalGuaranteed from if_pos (v2_flags h.var).2.2.2.2.2.1]
  obtain ⟨amt, hamt⟩ : ∃ amt, amt = s.perTicket * (s.nrWinning + s.totalGuaranteed) := ⟨_, rfl⟩
  rw [← hamt]
  have hw := wait_WF2 h hr
  have hz2 : s.bal (.esdt s.lpTok) 0 = 0 := (h.lp.nodep hnd).2.1
  refine hw.transfer ?_ ?_ rfl rfl rfl rfl rfl
    (fun k h1 h2 => (Bal.add_off s.bal 0 amt 0 h2).trans (h.balOther k h1 h2)) hw.tlConf hw.tlStarted
  · show (⟨{ s.core with payBal := (s.bal.add (.esdt s.lpTok) 0 amt) s.payTok 0 }, s.whitelist,
      s.uts, s.totalGuaranteed⟩ : GCore) = s.gcore
    rw [Bal.add_off _ _ _ _ h.tokNe]; rfl
  · show LPI s.gcore { s.lproj with
      lpBal := (s.bal.add (.esdt s.lpTok) 0 amt) (.esdt s.lpTok) 0, deposited := true,
      totalDeposited := amt }
    rw [Bal.add_at, hz2, Nat.zero_add]
    exact h.lp.deposit hnd hamt

theorem v2_setTicketPrice {T0 : Nat} {hash : List Nat → List Nat} {s s' : State} {e : Env} {o : Out}
    {r a : Nat} {tok : Token} (h : WF2 T0 s r) (hr : r ≤ e.round)
    (hs : step hash s e (.setTicketPrice tok a) = .ok (s', o)) : WF2 T0 s' e.round := by
  obtain ⟨t, hx, rfl⟩ := step_np rfl hs
  obtain ⟨h1, h2, h3, _, h5⟩ := exec_setTicketPrice_s hx
  have hlt : e.round < s.cfg.conf := rb_stage_addTickets h2
  have hz : ∀ a, s.confirmed a = 0 := h.tlConf (by omega)
  obtain ⟨hna, hnsel, hgi, L0, hp, ha⟩ :=
    v2_phase_notStarted h.phase (notStarted_of_stage h.tlStarted hr (Or.inl h2))
  obtain ⟨hb0, hpre⟩ := hp.setTicketPrice hz h.balOther h5 a
  rw [h1]
  refine ⟨h.var, h3, h5, fun t _ h2 => hb0 t h2, fun _ => hz,
    (wait_WF2 h hr).tlStarted, h.tgLe,
    fun hst => GuarInvX_of_GEq (s := s) ⟨rfl, rfl, rfl, rfl, rfl, rfl, rfl⟩ rfl (h.gx hst),
    Or.inl ⟨hna, hnsel, hgi, Or.inl ⟨L0, hpre, Or.inl ha.setLedger⟩⟩,
    LPI.early h.lp hna hna (Nat.le_refl _) (fun _ => hz)⟩

theorem v2_confirm {T0 : Nat} {hash : List Nat → List Nat} {s s' : State} {e : Env} {o : Out}
    {r n : Nat} (h : WF2 T0 s r) (hr : r ≤ e.round) (hok : EnvOK e)
    (hs : step hash s e (.confirm n) = .ok (s', o)) : WF2 T0 s' e.round := by
  obtain ⟨total, ⟨_, _, hst, hdep, _, htix, hle⟩, rfl⟩ := step_confirm hok hs
  obtain ⟨hc1, hc2⟩ := rb_stage_confirm hst
  obtain ⟨hna, hnsel, hgi, L0, hp, ha⟩ :=
    v2_phase_notStarted h.phase (notStarted_of_stage h.tlStarted hr (Or.inr hst))
  obtain ⟨hin, hout⟩ := hp.confirm_bound ha rfl rfl htix hle
  have hne : Token.esdt s.lpTok ≠ s.payTok := fun hh => h.tokNe hh.symm
  refine ⟨h.var, h.pricePos, h.tokNe,
    fun t h1 h2 => (Bal.add_off s.bal 0 _ 0 h1).trans (h.balOther t h1 h2),
    fun hlt => absurd hc1 (Nat.not_le.mpr hlt),
    (wait_WF2 h hr).tlStarted, h.tgLe,
    fun hst2 => GuarInvX_of_GEq (s := s) ⟨rfl, rfl, rfl, rfl, rfl, rfl, rfl⟩ rfl (h.gx hst2),
    Or.inl ⟨hna, hnsel, hgi, Or.inl ⟨L0, ?_, Or.inl ha.setLedger⟩⟩, ?_⟩
  · show Pre _ { s.core with confirmed := upd s.confirmed e.caller (s.confirmed e.caller + n),
                             payBal := (s.bal.add s.payTok 0 (s.price * n)) s.payTok 0 } L0
    rw [Bal.add_at]
    exact hp.confirm hin hout
  · show LPI _ ({ s.lproj with lpBal := (s.bal.add s.payTok 0 (s.price * n)) (.esdt s.lpTok) 0 } : LProj)
    rw [Bal.add_off _ _ _ _ hne]
    exact LPI.early h.lp hna hna (Nat.le_refl _) (fun hq => Bool.noConfusion (hq.symm.trans hdep))

end LP

/-
  `WF2` is preserved by the endpoints that move the guaranteed-ticket reserve before winner
  selection: `addTicketsV2`, `blacklist`, `refundUsers`, `unblacklist`.
-/
namespace LP
open LP.FY LP.Events

/-- the (address, size) pairs a v2 allocation list actually allocates: zero-size entries are
    skipped by the contract -/
def v2Proj (l : List (Nat × Nat × List (Nat × Nat))) : List (Nat × Nat) :=
  (l.filter (fun p => p.2.1 ≠ 0)).map (fun p => (p.1, p.2.1))

theorem v2Proj_pos (l : List (Nat × Nat × List (Nat × Nat))) : ∀ p ∈ v2Proj l, 1 ≤ p.2 := by
  intro p hp
  unfold v2Proj at hp
  obtain ⟨q, hq, rfl⟩ := List.mem_map.mp hp
  have := (List.mem_filter.mp hq).2
  simp only [ne_eq, decide_not, Bool.not_eq_eq_eq_not, Bool.not_true, decide_eq_false_iff_not] at this
  show 1 ≤ q.2.1
  omega

theorem v2Proj_cons_zero (a : Nat) (infos : List (Nat × Nat)) (rest : List (Nat × Nat × List (Nat × Nat))) :
    v2Proj ((a, 0, infos) :: rest) = v2Proj rest := by
  simp [v2Proj]

theorem v2Proj_cons_pos (a n : Nat) (infos : List (Nat × Nat)) (rest : List (Nat × Nat × List (Nat × Nat)))
    (hn : n ≠ 0) : v2Proj ((a, n, infos) :: rest) = (a, n) :: v2Proj rest := by
  simp [v2Proj, hn]

/-- `s'` agrees with `s` except for the ticket space and the guaranteed-ticket records -/
def AllocShape (s s' : State) : Prop :=
  ∃ r b l wl u, s' = { s with range := r, batch := b, lastTicketId := l, whitelist := wl, uts := u }

theorem AllocShape.refl (s : State) : AllocShape s s := ⟨_, _, _, _, _, rfl⟩

theorem AllocShape.trans {a b c : State} (h1 : AllocShape a b) (h2 : AllocShape b c) : AllocShape a c := by
  obtain ⟨r1, b1, l1, w1, u1, rfl⟩ := h1
  obtain ⟨r2, b2, l2, w2, u2, rfl⟩ := h2
  exact ⟨r2, b2, l2, w2, u2, rfl⟩

/-- the allocation loop of v2 allocates exactly like `createMany` on the non-zero entries -/
theorem v2_addV2Many_shadow (e : Env) : ∀ (l : List (Nat × Nat × List (Nat × Nat))) (s z : State)
    (tw tg uc ta ga : Nat) (s' : State) (tw' tg' uc' ta' ga' : Nat),
    addV2Many e l (s, tw, tg, uc, ta, ga) = .ok (s', tw', tg', uc', ta', ga') →
    z.range = s.range → z.batch = s.batch → z.lastTicketId = s.lastTicketId →
    ∃ z', createMany (v2Proj l) z = .ok z' ∧ z'.range = s'.range ∧ z'.batch = s'.batch ∧
      z'.lastTicketId = s'.lastTicketId ∧ AllocShape s s' := by
  intro l
  induction l with
  | nil =>
    intro s z tw tg uc ta ga s' tw' tg' uc' ta' ga' h h1 h2 h3
    simp only [addV2Many, Except.ok.injEq, Prod.mk.injEq] at h
    obtain ⟨rfl, _⟩ := h
    exact ⟨z, rfl, h1, h2, h3, AllocShape.refl _⟩
  | cons p rest ih =>
    obtain ⟨a, n, infos⟩ := p
    intro s z tw tg uc ta ga s' tw' tg' uc' ta' ga' h h1 h2 h3
    rw [addV2Many_cons] at h
    by_cases hn : n = 0
    · rw [if_pos hn] at h
      subst hn
      rw [v2Proj_cons_zero]
      exact ih s z tw tg uc ta ga s' tw' tg' uc' ta' ga' h h1 h2 h3
    · rw [if_neg hn] at h
      obtain ⟨s1, hc, h⟩ := (bind_ok_iff _ _ _).mp (ok_of_ite_error (ok_of_ite_error (ok_of_ite_error h)))
      obtain ⟨hr, hb, rfl⟩ := tryCreateTickets_iff.mp hc
      have h := ok_of_ite_error (ok_of_ite_error h)
      obtain ⟨z', c1, c2, c3, c4, c5⟩ := ih _ (allocState z a n) _ _ _ _ _ _ _ _ _ _ _ h
        (by show upd z.range a _ = upd s.range a _; rw [h1, h3])
        (by show upd z.batch _ _ = upd s.batch _ _; rw [h2, h3])
        (by show z.lastTicketId + n = s.lastTicketId + n; rw [h3])
      refine ⟨z', ?_, c2, c3, c4, AllocShape.trans ⟨_, _, _, _, _, rfl⟩ c5⟩
      rw [v2Proj_cons_pos a n infos rest hn, createMany_cons_ok z a n _ (h1 ▸ hr) (h3 ▸ hb)]
      exact c1

theorem v2_addTicketsV2_inv {t t' : Tx} {e : Env} {l : List (Nat × Nat × List (Nat × Nat))}
    (h : addTicketsV2 t e l = .ok t') :
    t.s.stage e = .addTickets ∧
    ∃ z', createMany (v2Proj l) t.s = .ok z' ∧
      ∃ wl u nw tg, t'.s =
        { t.s with range := z'.range, batch := z'.batch, lastTicketId := z'.lastTicketId,
                   whitelist := wl, uts := u, nrWinning := nw, totalGuaranteed := tg } := by
  unfold addTicketsV2 at h
  simp only [bind_ok_iff, requireStage, req_ok_iff, exists_const, Prod.exists, pure_ok_iff] at h
  obtain ⟨hst, s1, tw, tg, uc, ta, ga, hm, rfl⟩ := h
  refine ⟨by simpa using hst, ?_⟩
  obtain ⟨z', c1, c2, c3, c4, r, b, lt, wl, u, rfl⟩ :=
    v2_addV2Many_shadow e l t.s t.s _ _ _ _ _ _ _ _ _ _ _ hm rfl rfl rfl
  refine ⟨z', c1, wl, u, tw, tg, ?_⟩
  simp only [Tx.emit, Tx.setS]
  rw [c2, c3, c4]

/-- what a step of the reserve calculus (`RStep`) before the filter leaves for the invariant -/
theorem WF2.reserve {T0 : Nat} {s s' : State} {r : Nat} (h : WF2 T0 s r)
    (hns : s.flags.started = false) (hrs : RStep s s') :
    s'.totalGuaranteed ≤ T0 ∧ s'.nrWinning = T0 - s'.totalGuaranteed ∧
    GI2 s'.whitelist s'.uts s'.totalGuaranteed ∧
    s'.nrWinning + s'.totalGuaranteed ≤ s.nrWinning + s.totalGuaranteed := by
  obtain ⟨hres, hX', hvar⟩ := hrs
  obtain ⟨_, _, _, L0, hp, _⟩ := v2_phase_notStarted h.phase hns
  have hnrw : s.nrWinning = T0 - s.totalGuaranteed := hp.nrw
  have htg := h.tgLe
  have hb : GuarInv s'.variant.isV2 s' := hX'.base
  rw [hvar, (v2_flags h.var).2.2.1] at hb
  exact ⟨by omega, by omega, GI2.of_GuarInv hb, by omega⟩

theorem v2_addTickets {T0 : Nat} {hash : List Nat → List Nat} {s s' : State} {e : Env} {o : Out}
    {r : Nat} {l : List (Nat × Nat × List (Nat × Nat))} (h : WF2 T0 s r) (hr : r ≤ e.round)
    (hs : step hash s e (.addTicketsV2 l) = .ok (s', o)) : WF2 T0 s' e.round := by
  have hs0 := hs
  obtain ⟨t, hx, rfl⟩ := step_np rfl hs
  simp only [exec] at hx
  obtain ⟨hst, s1, hcm, wl, u, nw, tg', heq⟩ := v2_addTicketsV2_inv hx
  simp only [rbTx_s] at hst hcm heq
  have hz : ∀ a, s.confirmed a = 0 := h.tlConf (by have := rb_stage_addTickets hst; omega)
  have hns : s.flags.started = false := notStarted_of_stage h.tlStarted hr (Or.inl hst)
  obtain ⟨hna, hnsel, _, L0, hp, ha⟩ := v2_phase_notStarted h.phase hns
  have hrs := step_guar_ok (c := .addTicketsV2 l) rfl (h.gx hns) hs0
  rw [heq] at hrs ⊢
  obtain ⟨htg', hnw', hgi', hle'⟩ := h.reserve hns hrs
  obtain ⟨hp', ha'⟩ := hp.createMany ha rfl rfl rfl hz (v2Proj_pos l) hcm hnw'
  exact ⟨h.var, h.pricePos, h.tokNe, h.balOther, fun _ => hz,
    (wait_WF2 h hr).tlStarted, htg', fun _ => hrs.2.1,
    Or.inl ⟨hna, hnsel, hgi', Or.inl ⟨L0 ++ v2Proj l, hp', Or.inl ha'⟩⟩,
    LPI.early h.lp hna hna hle' (fun _ => hz)⟩

theorem v2_eta_payers_bal (s : State) : { s with payers := s.payers, bal := s.bal } = s := rfl

/-- shared by `blacklist` and `refundUsers` -/
theorem v2_blacklisted {T0 : Nat} {s s' : State} {e : Env} {r : Nat} {l : List Nat}
    (h : WF2 T0 s r) (hr : r ≤ e.round)
    (hadd : addUsersToBlacklist (rbTx s e) e l = .ok (blTx (rbTx s e) e l))
    (hk : GHook l (blState s l) s') (hrs : RStep s s') : WF2 T0 s' e.round := by
  obtain ⟨_, hstage, hnd, hall, _⟩ := (addUsersToBlacklist_ok_iff _ _ _ _).mp hadd
  simp only [rbTx_s] at hstage hall
  have hns : s.flags.started = false := notStarted_of_stage h.tlStarted hr hstage
  obtain ⟨hna, hnsel, _, L0, hp, ha⟩ := v2_phase_notStarted h.phase hns
  have hall' := fun u hu => (hall u hu).2
  obtain ⟨⟨wl, u, b, nw, tg', rfl⟩, _⟩ := hk
  obtain ⟨htg', hnw', hgi', hle'⟩ := h.reserve hns hrs
  have hne : Token.esdt s.lpTok ≠ s.payTok := fun hh => h.tokNe hh.symm
  refine ⟨h.var, h.pricePos, h.tokNe,
    fun t h1 h2 => (Bal.sub_off s.bal 0 _ 0 h1).trans (h.balOther t h1 h2),
    fun hlt => ite_mem_zero (h.tlConf (Nat.lt_of_le_of_lt hr hlt)),
    (wait_WF2 h hr).tlStarted, htg', fun _ => hrs.2.1,
    Or.inl ⟨hna, hnsel, hgi', Or.inl ⟨L0, ?_, Or.inl (ha.setLedger.set_nrw nw)⟩⟩, ?_⟩
  · show Pre _ { s.core with confirmed := (fun a => if a ∈ l then 0 else s.confirmed a),
                             payBal := (s.bal.sub s.payTok 0 (s.price * blConfSum s l)) s.payTok 0,
                             nrWinning := nw } L0
    rw [Bal.sub_at]
    exact (hp.blacklist hnd hall').set_nrw hnw'
  · show LPI _ ({ s.lproj with lpBal := (s.bal.sub s.payTok 0 (s.price * blConfSum s l)) (.esdt s.lpTok) 0 }
      : LProj)
    rw [Bal.sub_off _ _ _ _ hne]
    exact LPI.early h.lp hna hna hle' (fun hq => ite_mem_zero (h.lp.nodep hq).1)

theorem v2_blacklist {T0 : Nat} {hash : List Nat → List Nat} {s s' : State} {e : Env} {o : Out}
    {r : Nat} {l : List Nat} (h : WF2 T0 s r) (hr : r ≤ e.round)
    (hs : step hash s e (.blacklist l) = .ok (s', o)) : WF2 T0 s' e.round := by
  have hs0 := hs
  obtain ⟨t, hx, rfl⟩ := step_np rfl hs
  obtain ⟨hadd, _, _, _, _, _, s1, py, bal, hk, heq, hnft⟩ := exec_blacklist_out hx
  obtain ⟨e1, e2⟩ := hnft (by simp only [rbTx_s]; exact (v2_flags h.var).2.1)
  subst e1 e2
  have heq : t.s = s1 := heq
  have hstage := ((addUsersToBlacklist_ok_iff _ _ _ _).mp hadd).2.1
  have hrs := step_guar_ok (c := .blacklist l) rfl (h.gx (notStarted_of_stage h.tlStarted hr hstage)) hs0
  rw [heq] at hrs ⊢
  exact v2_blacklisted h hr hadd hk hrs

theorem v2_refundUsers {T0 : Nat} {hash : List Nat → List Nat} {s s' : State} {e : Env} {o : Out}
    {r : Nat} {l : List Nat} (h : WF2 T0 s r) (hr : r ≤ e.round)
    (hs : step hash s e (.refundUsers l) = .ok (s', o)) : WF2 T0 s' e.round := by
  have hs0 := hs
  obtain ⟨t, hx, rfl⟩ := step_np rfl hs
  obtain ⟨hadd, _, _, hk⟩ := exec_refundUsers_out hx
  have hstage := ((addUsersToBlacklist_ok_iff _ _ _ _).mp hadd).2.1
  exact v2_blacklisted h hr hadd hk
    (step_guar_ok (c := .refundUsers l) rfl (h.gx (notStarted_of_stage h.tlStarted hr hstage)) hs0)

theorem v2_unblacklist {T0 : Nat} {hash : List Nat → List Nat} {s s' : State} {e : Env} {o : Out}
    {r : Nat} {l : List Nat} (h : WF2 T0 s r) (hr : r ≤ e.round)
    (hs : step hash s e (.unblacklist l) = .ok (s', o)) : WF2 T0 s' e.round := by
  have hs0 := hs
  obtain ⟨t, hx, rfl⟩ := step_np rfl hs
  obtain ⟨hrem, hk, _⟩ := exec_unblacklist_out hx
  obtain ⟨_, hstage, _⟩ := (removeUsersFromBlacklist_ok_iff _ _ _ _).mp hrem
  simp only [rbTx_s] at hk
  have hns : s.flags.started = false := notStarted_of_stage h.tlStarted hr hstage
  have hrs := step_guar_ok (c := .unblacklist l) rfl (h.gx hns) hs0
  obtain ⟨hna, hnsel, _, L0, hp, ha⟩ := v2_phase_notStarted h.phase hns
  obtain ⟨⟨wl, u, b, nw, tg', heq⟩, _⟩ := hk
  rw [heq] at hrs ⊢
  obtain ⟨htg', hnw', hgi', hle'⟩ := h.reserve hns hrs
  exact ⟨h.var, h.pricePos, h.tokNe, h.balOther, (wait_WF2 h hr).tlConf,
    (wait_WF2 h hr).tlStarted, htg', fun _ => hrs.2.1,
    Or.inl ⟨hna, hnsel, hgi', Or.inl ⟨L0, hp.set_nrw hnw', Or.inl (ha.set_nrw nw)⟩⟩,
    LPI.early h.lp hna hna hle' (fun hq => (h.lp.nodep hq).1)⟩

end LP

/-
  `WF2` is preserved by `filterTickets` and by the base lottery `selectWinners` (interrupted or
  completed); at the completion of the lottery the distribution phase `PhE` starts with the
  fresh cursor `(0, 1, 0)`.
-/
namespace LP
open LP.FY

theorem v2_filter {T0 : Nat} {hash : List Nat → List Nat} {s s' : State} {e : Env} {o : Out}
    {r : Nat} (h : WF2 T0 s r)
    (hs : step hash s e .filter = .ok (s', o)) : WF2 T0 s' e.round := by
  obtain ⟨t, hx, rfl⟩ := step_np rfl hs
  have hnf : s.flags.filtered = false := (filterTickets_inv _ _ _ hx).1.notFiltered
  obtain ⟨hna, hnsel, hgi, hph⟩ := v2_phase_notFiltered h.phase hnf
  obtain ⟨L0, hp, hab⟩ := rb_phase_notFiltered hph hnf
  obtain ⟨hpre, x, f, _, hstd, hcase⟩ := phase_filter (rbTx_s s e) hp hab hx
  obtain ⟨_, hfs, hfa⟩ := rb_filterFlags s x.first
  have hc := rb_stage_winnerSelection hpre.stage
  rcases hcase with ⟨hs', hp', hb'⟩ | ⟨hs', hc'⟩ <;> rw [hs']
  · exact h.of_started rfl rfl rfl rfl h.balOther rfl hc hstd
      (Or.inl ⟨hfa.trans hna, hfs.trans hnsel, hgi, Or.inl ⟨L0, hp', Or.inr hb'⟩⟩)
      (LPI.early h.lp hna (hfa.trans hna) (Nat.le_refl _) (fun hq => (h.lp.nodep hq).1))
  · exact h.of_started rfl rfl rfl rfl h.balOther rfl hc hstd
      (Or.inl ⟨hfa.trans hna, hfs.trans hnsel, hgi, Or.inr (Or.inl hc')⟩)
      (LPI.early h.lp hna (hfa.trans hna) (Nat.add_le_add_right (filterDone_nrWinning_le s x f) _)
        (fun hq => (h.lp.nodep hq).1))

theorem v2_DInv_fresh {g : GCore} {arr : List Nat} (hgi : GI2 g.whitelist g.uts g.tg)
    (hle : g.core.nrWinning ≤ g.core.lastTicketId)
    (hR : R g.core.lastTicketId (g.core.nrWinning + 1) g.core.status g.core.posToId arr) :
    DInv g 0 1 0 := by
  have hL := LInv_init (additional := 0) hR (fun _ ht => ht) hR.flagsIn (hR.count hle) default 0 default
  refine ⟨hgi.nodup, ?_, hL.pinv, hL.count, ?_⟩
  · have := hgi.total; omega
  · intro u st r hu hnw _
    have h0 : sumG st.infos = 0 := by
      cases hq : sumG st.infos with
      | zero => rfl
      | succ k => exact absurd (hgi.mem_of_pos u st hu (by omega)) hnw
    have := calcV2_sum st.infos (g.core.confirmed u)
    omega

theorem v2_select {T0 : Nat} {hash : List Nat → List Nat} {s s' : State} {e : Env} {o : Out}
    {r : Nat} (h : WF2 T0 s r)
    (hs : step hash s e .select = .ok (s', o)) : WF2 T0 s' e.round := by
  obtain ⟨t, hx, rfl⟩ := step_np rfl hs
  obtain ⟨hstage, hfil, hnsel, _⟩ := rb_selectWinners_cases hx
  obtain ⟨hna, hgi, hph⟩ := v2_phase_early h.phase hnsel
  have hC : PhC (T0 - s.totalGuaranteed) s.core := rb_phase_C hph hfil hnsel
  obtain ⟨x, hcase⟩ := select_cases (rbTx_s s e) hC.nrw_le hC.sel hx
  have hc := rb_stage_winnerSelection hstage
  rcases hcase with ⟨hs', p1, p2, arr, hR⟩ | ⟨hs', arr, hR⟩
  · rw [hs']
    exact h.of_started rfl rfl rfl rfl h.balOther rfl hc hC.started
      (Or.inl ⟨hna, hC.notSelected, hgi, Or.inr (Or.inl (hC.selInt p1 p2 hR))⟩)
      (LPI.early h.lp hna hna (Nat.le_refl _) (fun hq => (h.lp.nodep hq).1))
  · rw [hs']
    exact h.of_started rfl rfl rfl rfl h.balOther rfl hc hC.started
      (Or.inr (Or.inl ⟨hC.started, hC.filtered, rfl, hna, hC.nrw, hC.alloc, rfl, 0, 1, 0,
        v2_DInv_fresh (g := (selDone s x).gcore) hgi hC.nrw_le hR, Or.inl ⟨rfl, rfl, rfl, rfl⟩⟩))
      (LPI.early h.lp hna hna (Nat.le_refl _) (fun hq => (h.lp.nodep hq).1))

end LP

/-
  Preservation of `WF2` by `distribute` (v2), for every accepted call: a fresh or a resumed
  operation, interrupted in the top-up loop, interrupted in the leftover loop, or completed.  The
  case analysis is `distribute_ok_cases` (Resume), the two loops are read off `dist_runs`
  (DistLoops) through the bridge `DCur.iff_v2` between its cursor invariant and `DInv`.
-/
namespace LP
open LP.FY

theorem guarBody_nodup {s : State} {x x' : GSt} {c : Bool} (hb : guarBody s x = .ok (x', c))
    (h : x.whitelist.Nodup) : x'.whitelist.Nodup := by
  rcases guarBody_ok hb with ⟨_, _, rfl⟩ | ⟨_, _, u, rest, _, st⟩
  · exact h
  · rw [st.whitelist]; exact swapRemove_nodup u h

/-- the projection `DInv` is stated on, with what the two loops write replaced -/
def gcoreW (s : State) (wl : List Nat) (st : Nat → Bool) (pi : Nat → Nat) : GCore :=
  { s.gcore with whitelist := wl, core := { s.core with status := st, posToId := pi } }

theorem DCur.iff_v2 {s : State} (hv : s.variant.isV2 = true) (hRI : DistRanges s) {wl : List Nat}
    {st : Nat → Bool} {pi : Nat → Nat} {lo off add : Nat} :
    DInv (gcoreW s wl st pi) lo off add ↔ wl.Nodup ∧ DCur s wl st pi lo off add := by
  have hq : ∀ u rc, qualOf s u rc = (calcV2 rc.infos (s.confirmed u)).1 := fun u rc => by
    unfold qualOf; rw [hv]; rfl
  constructor
  · rintro ⟨h1, h2, h3, h4, h5⟩
    refine ⟨h1, h3, h4, by rw [hv]; exact h2, fun u rc hu => ?_⟩
    by_cases hm : u ∈ wl
    · exact Or.inl hm
    · right
      unfold Hon winOf
      cases hr : s.range u with
      | none => rw [hRI.none u hr]; simp
      | some r => exact Nat.le_trans (Nat.min_le_left _ _) (by rw [hq]; exact h5 u rc r hu hm hr)
  · rintro ⟨h1, h3, h4, h2, h5⟩
    refine ⟨h1, by rw [hv] at h2; exact h2, h3, h4, fun u rc r hu hm hr => ?_⟩
    have hr' : s.range u = some r := hr
    have := (h5 u rc hu).resolve_left hm
    unfold Hon winOf at this
    rw [hr', hq] at this
    have hle := calcV2_le_conf rc.infos (s.confirmed u)
    rw [Nat.min_eq_left hle] at this
    exact this

/-- an interrupted call: the phase is kept, with the cursor saved in `op`; the loops write only the
    whitelist, the flags and the position map (`DInv` does not read `op`) -/
theorem PhE.with_cursor {T : Nat} {g : GCore} (hE : PhE T g) {wl : List Nat} {st : Nat → Bool}
    {pi : Nat → Nat} {rng : Rng} {lo off add : Nat}
    (hD : DInv { g with whitelist := wl, core := { g.core with status := st, posToId := pi } } lo off add) :
    PhE T { g with whitelist := wl,
                   core := { g.core with status := st, posToId := pi,
                                         op := .additional (.guar ⟨rng, lo, off, add⟩) } } :=
  ⟨hE.started, hE.filtered, hE.selected, hE.notAdd, hE.nrw, hE.alloc, hE.claimable, lo, off, add,
    ⟨hD.nodup, hD.total, hD.pinv, hD.count, hD.hon⟩, Or.inr ⟨rng, rfl⟩⟩

/-- the launchpad-token ledger at the call that completes the distribution: nobody has claimed
    yet (`L = []`, case A of `LPost` with `W` the final winner count), and the deposit, which
    covered the base winners plus the whole reserve, covers the final winners -/
theorem LPI.done {g g' : GCore} {p : LProj} (h : LPI g p) (ha : g.core.flags.additional = false)
    (hD : PhD g'.core) (ha' : g'.core.flags.additional = true)
    (hconf : g'.core.confirmed = g.core.confirmed)
    (hcl : g'.core.claimable = g'.core.price * g'.core.nrWinning)
    (hle : g'.core.nrWinning ≤ g.core.nrWinning + g.tg) : LPI g' p := by
  have hpr := h.pre ha
  have hnz : p.deposited = false → g'.core.nrWinning = 0 := fun hq =>
    hD.nrWinning_zero fun a => Nat.le_zero.mp (by
      have := winOf_le_confirmed hD.rngOk g'.core.status a
      rw [hconf, (h.nodep hq).1 a] at this; exact this)
  refine ⟨h.sched, fun hq => ?_, fun hq => Bool.noConfusion (hq.symm.trans ha'), fun _ =>
    ⟨⟨[], List.nodup_nil, fun a _ => ⟨(hpr.fresh a).1, (hpr.fresh a).2.1⟩,
      Or.inl ⟨?_, g'.core.nrWinning, hcl, ?_, ?_⟩⟩, fun a => ?_, fun a _ => (hpr.fresh a).1⟩⟩
  · obtain ⟨q1, q2, q3, q4, _⟩ := h.nodep hq
    exact ⟨fun a => by rw [hconf]; exact q1 a, q2, q3, q4, fun _ => hnz hq⟩
  · show p.lpBal + 0 = p.totalDeposited
    cases hdp : p.deposited with
    | true => exact (hpr.dep hdp).1
    | false => obtain ⟨_, q2, q3, _⟩ := h.nodep hdp; rw [q2, q3]
  · show g'.core.nrWinning * p.perTicket = p.perTicket * g'.core.nrWinning + 0
    exact Nat.mul_comm _ _
  · show g'.core.nrWinning * p.perTicket ≤ p.totalDeposited
    cases hdp : p.deposited with
    | true =>
      rw [Nat.mul_comm]
      exact Nat.le_trans (Nat.mul_le_mul_left _ hle) (hpr.dep hdp).2
    | false => rw [hnz hdp]; simp
  · rw [(hpr.fresh a).1, (hpr.fresh a).2.1]; exact Nat.le_refl _

/-- every accepted `distribute` call keeps the invariant; the call that completes the step
    hands out exactly `min totalGuaranteed (last - nrWinning)` additional tickets -/
theorem v2_distribute_full {T0 : Nat} {hash : List Nat → List Nat} {s s' : State} {e : Env} {o : Out}
    {r : Nat} (h : WF2 T0 s r) (hs : step hash s e .distribute = .ok (s', o)) :
    WF2 T0 s' e.round ∧ s.flags.additional = false ∧ s.flags.selected = true ∧
    s.nrWinning = min (T0 - s.totalGuaranteed) s.lastTicketId ∧
    s'.lastTicketId = s.lastTicketId ∧ s'.totalGuaranteed = s.totalGuaranteed ∧
    (s'.flags.additional = true →
      s'.nrWinning = s.nrWinning + min s.totalGuaranteed (s.lastTicketId - s.nrWinning) ∧
      countTrue s'.status s'.lastTicketId = s'.nrWinning ∧
      s'.claimablePayment = s'.price * s'.nrWinning) := by
  obtain ⟨t, hx, rfl⟩ := step_np rfl hs
  simp only [exec] at hx
  obtain ⟨hpre, g, x, b1, hg, _, hcase⟩ := distribute_ok_cases hash _ _ _ hx
  simp only [rbTx_s] at hpre hcase
  have hE : PhE (T0 - s.totalGuaranteed) s.gcore := v2_phase_E h.phase hpre.selected hpre.notDone
  have hc := rb_stage_winnerSelection hpre.stage
  have hv2 : s.variant.isV2 = true := (v2_flags h.var).2.2.1
  have hRI : DistRanges s := distRanges_of_alloc hE.alloc
  have hclm : s.claimablePayment = s.price * s.nrWinning := hE.claimable
  obtain ⟨lo, off, add, hD, hop⟩ := hE.dist
  obtain ⟨rfl, rfl, rfl⟩ := v1_guarOpOf hg hop
  obtain ⟨hnd, hcur⟩ := (DCur.iff_v2 (s := s) hv2 hRI).mp hD
  have hndx : x.whitelist.Nodup := by
    have hP := runWhile_preserves (fun y : GSt => y.whitelist.Nodup) (guarBody s)
      (fun y y' c hb hy => guarBody_nodup hb hy)
    rcases hcase with ⟨hrun, _⟩ | ⟨hrun, _⟩ <;> exact hP _ _ _ _ _ _ hrun hnd
  -- an interrupted call keeps phase E with the cursor it saved
  have hint : ∀ (st : Nat → Bool) (pi : Nat → Nat) (rng : Rng) (lo off add : Nat),
      DCur s x.whitelist st pi lo off add →
      ∀ s1, s1 = { s with whitelist := x.whitelist, status := st, posToId := pi,
                          op := .additional (.guar ⟨rng, lo, off, add⟩) } →
      WF2 T0 s1 e.round ∧ s.flags.additional = false ∧ s.flags.selected = true ∧
      s.nrWinning = min (T0 - s.totalGuaranteed) s.lastTicketId ∧
      s1.lastTicketId = s.lastTicketId ∧ s1.totalGuaranteed = s.totalGuaranteed ∧
      (s1.flags.additional = true →
        s1.nrWinning = s.nrWinning + min s.totalGuaranteed (s.lastTicketId - s.nrWinning) ∧
        countTrue s1.status s1.lastTicketId = s1.nrWinning ∧
        s1.claimablePayment = s1.price * s1.nrWinning) := by
    rintro st pi rng lo off add hcur1 s1 rfl
    have hE1 := hE.with_cursor (rng := rng) ((DCur.iff_v2 hv2 hRI).mpr ⟨hndx, hcur1⟩)
    exact ⟨h.of_started rfl rfl rfl rfl h.balOther rfl hc hE.started (Or.inr (Or.inl hE1))
        (LPI.early h.lp hpre.notDone hpre.notDone (Nat.le_refl _) (fun hq => (h.lp.nodep hq).1)),
      hpre.notDone, hpre.selected, hE.nrw, rfl, rfl,
      fun hq => Bool.noConfusion (hpre.notDone.symm.trans hq)⟩
  rcases hcase with ⟨hrun, hs', _⟩ | ⟨hrun, z, b2, hcase2⟩
  · rw [hs']
    exact hint _ _ g.rng _ _ _ (dist_runs hRI hcur hrun).1 _ rfl
  · obtain ⟨hnil, h2⟩ := (dist_runs hRI hcur hrun).2 rfl
    rw [hv2] at hcase2
    rcases hcase2 with ⟨hrun2, hs', _⟩ | ⟨hrun2, hs', _⟩
    · rw [hs']
      exact hint _ _ z.rng _ _ _ ((h2 (by rw [hv2]; exact hrun2)).1 rfl) _ rfl
    · have hEnd := (h2 (by rw [hv2]; exact hrun2)).2 rfl
      have hcnt : countTrue z.status s.lastTicketId = s.nrWinning + z.additional := hEnd.inv.count
      have hcl' : s.claimablePayment + s.price * z.additional
          = s.price * (s.nrWinning + z.additional) := by rw [hclm, Nat.mul_add]
      obtain ⟨Ls, hA⟩ := Alloc.exists_iff.mp hE.alloc
      have hD' := PhD_of_alloc hA (st' := z.status) (pi' := z.posToId)
        (fl := { s.flags with additional := true }) hE.started hE.filtered hE.selected hcnt hcl'
      have hLP : LPI (distDone s x z).gcore (distDone s x z).lproj :=
        LPI.done (g := s.gcore) h.lp hpre.notDone hD' rfl rfl hcl'
          (by show s.nrWinning + z.additional ≤ s.nrWinning + s.totalGuaranteed
              rw [hEnd.add]; omega)
      rw [hs']
      refine ⟨h.of_started rfl rfl rfl rfl h.balOther rfl hc hE.started
          (Or.inr (Or.inr ⟨hD', rfl, hEnd.inv.pinv.inside, ?_⟩)) hLP,
        hpre.notDone, hpre.selected, hE.nrw, rfl, rfl, fun _ => ⟨?_, hcnt, hcl'⟩⟩
      · intro u rc r hu hr
        have hr' : s.range u = some r := hr
        have := hEnd.hon u rc hu
        unfold Hon winOf qualOf at this
        rw [hr', hv2] at this
        have hle := calcV2_le_conf rc.infos (s.confirmed u)
        simp only [if_true] at this
        rw [Nat.min_eq_left hle] at this
        exact this
      · show s.nrWinning + z.additional = _
        rw [hEnd.add]

theorem v2_distribute {T0 : Nat} {hash : List Nat → List Nat} {s s' : State} {e : Env} {o : Out}
    {r : Nat} (h : WF2 T0 s r)
    (hs : step hash s e .distribute = .ok (s', o)) : WF2 T0 s' e.round :=
  (v2_distribute_full h hs).1

end LP
