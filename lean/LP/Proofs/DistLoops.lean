import LP.Proofs.Resume
import LP.Proofs.ReachWF
import LP.Proofs.CorePhase
/-
  The two loops of the distribution step (`guarBody`, then `leftCoreBody`) analysed once for both
  versions and every budget.  `qualOf` is the qualified guarantee the closure computes (`calcV2` or
  `calcV1` by `isV2`), `Hon` "honoured as far as the holder confirmed tickets"; `DG` is the invariant
  of the top-up loop, `DL` that of the leftover loop, `DCur` the cursor invariant between calls (what
  `DInv` for guarV2 and the `dist` clause of `v1_PhE` both spell out) and `dist_runs` the one theorem
  the per-family preservation proofs read; the liveness layer (LP/Proofs/Unstuck2.lean) starts from
  `DCur` and reads `dist_loop1`.
-/
namespace LP
open LP.FY

/-- static facts about the ticket space during the distribution: every range lies in
    `1..last` and has exactly `confirmed` tickets; addresses without range confirmed nothing -/
structure DistRanges (s : State) : Prop where
  some : ∀ u r, s.range u = some r → RangeIn s.lastTicketId r ∧ rangeLen r = s.confirmed u
  none : ∀ u, s.range u = none → s.confirmed u = 0

theorem v1_winOf_mono {range : Nat → Option Range} {st st' : Nat → Bool}
    (hm : ∀ t, st t = true → st' t = true) (a : Nat) : winOf range st a ≤ winOf range st' a := by
  unfold winOf
  cases range a with
  | none => exact Nat.le_refl _
  | some r => exact countWinning_mono _ _ _ _ (fun t _ _ ht => hm t ht)

/-- the qualified guarantee of holder `u` as `guarBody` computes it -/
def qualOf (s : State) (u : Nat) (rc : UTS) : Nat :=
  (if s.variant.isV2 = true then calcV2 rc.infos (s.confirmed u)
   else calcV1 rc (s.confirmed u) s.minConfirmed).1

theorem qualOf_le_gOf (s : State) (u : Nat) (rc : UTS) : qualOf s u rc ≤ gOf s.variant.isV2 rc := by
  have := calc_sum s rc (s.confirmed u)
  unfold qualOf; omega

/-- the guarantee of `u` is honoured by the flags `status` as far as `u` confirmed tickets -/
def Hon (s : State) (status : Nat → Bool) (u : Nat) (rc : UTS) : Prop :=
  min (qualOf s u rc) (s.confirmed u) ≤ winOf s.range status u

theorem Hon.mono {s : State} {st st' : Nat → Bool} (hm : ∀ t, st t = true → st' t = true)
    {u : Nat} {rc : UTS} (h : Hon s st u rc) : Hon s st' u rc :=
  Nat.le_trans h (v1_winOf_mono hm u)

/-- the iteration that serves `u` honours `u`'s guarantee inside `u`'s range -/
theorem guarBody_hon (s : State) (x x' : GSt) (u : Nat) (rest : List Nat) (rc : UTS)
    (hwl : x.whitelist = u :: rest) (hul : x.usersLeft ≠ 0)
    (huts : s.uts u = some rc) (hb : guarBody s x = .ok (x', true)) (r : Range)
    (hr : s.range u = some r) :
    min (qualOf s u rc) (rangeLen r) ≤ countWinning x'.status r.first (rangeLen r) := by
  obtain ⟨wl, ul, status, lo, add⟩ := x
  simp only at hwl hul
  subst hwl
  unfold guarBody at hb
  simp only [hul, if_false, huts] at hb
  unfold qualOf
  generalize (if s.variant.isV2 = true then calcV2 rc.infos (s.confirmed u)
    else calcV1 rc (s.confirmed u) s.minConfirmed) = p at hb ⊢
  obtain ⟨g, l⟩ := p
  simp only at hb ⊢
  split at hb
  · rw [hr] at hb
    have hpg := (processGuaranteed_some_general status r g).2.2.2.1
    generalize processGuaranteed status (some r) g = q at hb hpg
    obtain ⟨st', lo', add'⟩ := q
    simp only [Except.ok.injEq, Prod.mk.injEq, and_true] at hb
    subst hb
    exact hpg
  · have : g = 0 := by omega
    subst this
    simp

/-- invariant of the top-up loop, either version: the flags only grow and stay inside `1..last`,
    they number `nrW + additional`, the reserve is split between the two counters and the work
    list, and every holder is still on the work list or honoured -/
structure DG (s : State) (nrW tg : Nat) (x : GSt) : Prop where
  len : x.usersLeft = x.whitelist.length
  flagsIn : FlagsIn s.lastTicketId x.status
  mono : ∀ t, s.status t = true → x.status t = true
  count : countTrue x.status s.lastTicketId = nrW + x.additional
  split : x.leftover + x.additional + gSum s.variant.isV2 s.uts x.whitelist = tg
  hon : ∀ u rc, s.uts u = some rc → u ∈ x.whitelist ∨ Hon s x.status u rc

theorem guarBody_DG {s : State} {nrW tg : Nat} (hRI : DistRanges s)
    {x x' : GSt} (hb : guarBody s x = .ok (x', true)) (hg : DG s nrW tg x) : DG s nrW tg x' := by
  obtain ⟨hc, _⟩ | ⟨_, h0, u, rest, hwl, e2, _, e4, e5, e6, e7, _, e9⟩ := guarBody_ok hb
  · cases hc
  have hru : ∀ r, s.range u = some r → RangeIn s.lastTicketId r := fun r hr => (hRI.some u r hr).1
  have c1 := e9 s.lastTicketId hru
  have hperm := swapRemove_perm x.whitelist u
  refine ⟨by rw [e4, hg.len]; omega, FlagsIn.frame _ hru e6 hg.flagsIn,
    fun t ht => e7 t (hg.mono t ht), by have := hg.count; omega, ?_, ?_⟩
  · have hs := hg.split
    rw [e2, gSum_perm _ _ hperm, hwl]
    rw [hwl, gSum_cons] at hs
    simp only [List.erase_cons_head]
    omega
  · intro v rc hu
    rcases hg.hon v rc hu with hmem | hh
    · by_cases hvu : v = u
      · subst hvu
        right
        unfold Hon winOf
        cases hr : s.range v with
        | none => rw [hRI.none v hr]; simp
        | some r =>
          have := guarBody_hon s x x' v rest rc hwl h0 hu hb r hr
          rw [(hRI.some v r hr).2] at this
          simp only [(hRI.some v r hr).2]
          exact this
      · left
        rw [e2, hperm.mem_iff]
        exact (List.mem_erase_of_ne hvu).mpr hmem
    · exact Or.inr (hh.mono e7)

theorem dist_loop1 {s : State} {nrW tg : Nat} (hRI : DistRanges s)
    {fuel : Nat} {b b' : Option Nat} {x0 x : GSt} {st : LoopStatus}
    (hrun : runWhile (guarBody s) fuel b x0 = .ok (x, b', st)) (h0 : DG s nrW tg x0) :
    DG s nrW tg x ∧ (st = .completed → x.whitelist = []) := by
  obtain ⟨h1, h2⟩ := runWhile_inv (DG s nrW tg) (guarBody s)
    (fun y y' hb hy => guarBody_DG hRI hb hy) _ _ _ _ _ _ hrun h0
  have hP := runWhile_preserves (DG s nrW tg) (guarBody s) (fun y y' c hb hy => by
    rcases guarBody_ok hb with ⟨_, _, rfl⟩ | ⟨rfl, _⟩
    · exact hy
    · exact guarBody_DG hRI hb hy) _ _ _ _ _ _ hrun h0
  refine ⟨hP, fun hst => ?_⟩
  obtain ⟨y, hy, hby⟩ := h2 hst
  obtain ⟨_, hz, rfl⟩ | ⟨⟨⟩, _⟩ := guarBody_ok hby
  exact List.eq_nil_of_length_eq_zero (by rw [← hy.len]; exact hz)

/-- invariant of the leftover loop, either version -/
structure DL (last nrW tg : Nat) (st0 : Nat → Bool) (z : LCore) : Prop where
  inv : LInv last nrW (z.lift default)
  sum : z.leftover + z.additional = tg
  mono : ∀ t, st0 t = true → z.status t = true

theorem leftCore_step {hash : List Nat → List Nat} {v2 : Bool} {nrW last tg : Nat}
    {st0 : Nat → Bool} {z z' : LCore} {c : Bool}
    (hb : leftCoreBody hash v2 nrW last z = .ok (z', c)) (hz : DL last nrW tg st0 z) :
    (c = true → DL last nrW tg st0 z') ∧
    (c = false → z' = { z with leftover := 0 } ∧ (nrW + z.additional ≥ last ∨ z.leftover = 0)) := by
  have hb' : leftoverBody hash v2 nrW last (z.lift default) = .ok (z'.lift default, c) := by
    rw [leftoverBody_lift, hb]; rfl
  obtain ⟨x', hs, _, _, _, hstop, _⟩ := leftoverBody_spec hash v2 nrW last _ hz.inv
  rw [hb'] at hs
  simp only [Except.ok.injEq, Prod.mk.injEq] at hs
  obtain ⟨hs1, hs2⟩ := hs
  constructor
  · rintro rfl
    have hk : lKind hash nrW last (z.lift default) ≠ .stop := fun hh => by
      rw [hh] at hs2; simp at hs2
    obtain ⟨y, hy, hinv, _, _, _, hsum, hmono, _⟩ := leftoverBody_cont hash v2 nrW last _ hz.inv hk
    rw [hb'] at hy
    simp only [Except.ok.injEq, Prod.mk.injEq, and_true] at hy
    subst hy
    refine ⟨hinv, ?_, fun t ht => hmono t (hz.mono t ht)⟩
    have : z'.leftover + z'.additional = z.leftover + z.additional := hsum
    rw [this]; exact hz.sum
  · rintro rfl
    have hk : lKind hash nrW last (z.lift default) = .stop := by
      cases hkk : lKind hash nrW last (z.lift default) with
      | stop => rfl
      | _ => rw [hkk] at hs2; simp at hs2
    obtain ⟨hor, hx'⟩ := hstop hk
    subst hs1
    refine ⟨?_, hor⟩
    obtain ⟨a, b, c, d, e, f, g⟩ := z'
    obtain ⟨a', b', c', d', e', f', g'⟩ := z
    simp only [LCore.lift, LSt.mk.injEq] at hx'
    obtain ⟨rfl, rfl, rfl, rfl, rfl, rfl, hg⟩ := hx'
    obtain rfl : g = g' := by
      have := congrArg Tx.dctx hg
      rwa [Tx.dctx_withDctx, Tx.dctx_withDctx] at this
    rfl

theorem dist_loop2 {hash : List Nat → List Nat} {v2 : Bool} {nrW last tg : Nat} {st0 : Nat → Bool}
    {fuel : Nat} {b b' : Option Nat} {z0 z : LCore} {st : LoopStatus}
    (hrun : runWhile (leftCoreBody hash v2 nrW last) fuel b z0 = .ok (z, b', st))
    (h0 : DL last nrW tg st0 z0) :
    (st = .interrupted → DL last nrW tg st0 z) ∧
    (st = .completed → LInv last nrW (z.lift default) ∧ z.leftover = 0 ∧
      (∀ t, st0 t = true → z.status t = true) ∧
      z.additional ≤ tg ∧ (nrW + z.additional ≥ last ∨ z.additional = tg)) := by
  obtain ⟨h1, h2⟩ := runWhile_inv (DL last nrW tg st0) (leftCoreBody hash v2 nrW last)
    (fun y y' hb hy => (leftCore_step hb hy).1 rfl) _ _ _ _ _ _ hrun h0
  refine ⟨h1, fun hst => ?_⟩
  obtain ⟨y, hy, hby⟩ := h2 hst
  obtain ⟨rfl, hor⟩ := (leftCore_step hby hy).2 rfl
  have hsum := hy.sum
  refine ⟨⟨hy.inv.pinv, hy.inv.count⟩, rfl, hy.mono, ?_, ?_⟩
  · show y.additional ≤ tg
    omega
  · show nrW + y.additional ≥ last ∨ y.additional = tg
    rcases hor with h | h
    · exact Or.inl h
    · right; omega

/-! ### the two loops from a saved cursor -/

/-- the distribution step in progress on the static storage `s`, with work list `wl`, flags `st`,
    position map `pi` and cursor `(lo, off, add)`: what `DInv` (guarV2) and the `dist` clause of
    `v1_PhE` (v1-like variants) both spell out.  It does not read `op`. -/
structure DCur (s : State) (wl : List Nat) (st : Nat → Bool) (pi : Nat → Nat) (lo off add : Nat) :
    Prop where
  pinv : PosInv s.lastTicketId st pi (s.nrWinning + off)
  count : countTrue st s.lastTicketId = s.nrWinning + add
  split : lo + add + gSum s.variant.isV2 s.uts wl = s.totalGuaranteed
  hon : ∀ u rc, s.uts u = some rc → u ∈ wl ∨ Hon s st u rc

/-- what a completed distribution step leaves -/
structure DEnd (s : State) (z : LCore) : Prop where
  inv : LInv s.lastTicketId s.nrWinning (z.lift default)
  lo : z.leftover = 0
  mono : ∀ t, s.status t = true → z.status t = true
  add : z.additional = min s.totalGuaranteed (s.lastTicketId - s.nrWinning)
  hon : ∀ u rc, s.uts u = some rc → Hon s z.status u rc

/-- the winner count after a completed step, from the count the lottery left -/
theorem DEnd.nrw {s : State} {z : LCore} (h : DEnd s z) {T0 : Nat}
    (hnrw : s.nrWinning = min (T0 - s.totalGuaranteed) s.lastTicketId)
    (htg : s.totalGuaranteed ≤ T0) : s.nrWinning + z.additional = min T0 s.lastTicketId := by
  have := h.add
  omega

theorem DCur.start {s : State} {g : GuarOp} {off : Nat}
    (h : DCur s s.whitelist s.status s.posToId g.leftover off g.additional) :
    DG s s.nrWinning s.totalGuaranteed (guarX s g) :=
  ⟨rfl, h.pinv.inside, fun _ ht => ht, h.count, h.split, h.hon⟩

/-- the cursor invariant wherever loop 1 stops (with the position map untouched) -/
theorem DG.cursor {s : State} {x : GSt} {off : Nat}
    (hp : PosInv s.lastTicketId s.status s.posToId (s.nrWinning + off))
    (h : DG s s.nrWinning s.totalGuaranteed x) :
    DCur s x.whitelist x.status s.posToId x.leftover off x.additional :=
  ⟨hp.mono h.mono h.flagsIn, h.count, h.split, h.hon⟩

/-- Both loops of the distribution step from the cursor `g`, whatever the budgets and the fuel:
    wherever the step stops the cursor invariant holds of what will be saved, and a completed step
    has handed out `min totalGuaranteed (last - nrWinning)` tickets and honours every guarantee. -/
theorem dist_runs {s : State} {g : GuarOp} (hRI : DistRanges s)
    (hc : DCur s s.whitelist s.status s.posToId g.leftover g.offset g.additional)
    {fuel : Nat} {b b1 : Option Nat} {x : GSt} {st : LoopStatus}
    (hrun : runWhile (guarBody s) fuel b (guarX s g) = .ok (x, b1, st)) :
    DCur s x.whitelist x.status s.posToId x.leftover g.offset x.additional ∧
    (st = .completed → x.whitelist = [] ∧
      ∀ {hash : List Nat → List Nat} {fuel2 : Nat} {d : DCtx} {z : LCore} {b2 : Option Nat}
        {st2 : LoopStatus},
        runWhile (leftCoreBody hash s.variant.isV2 s.nrWinning s.lastTicketId) fuel2 b1
          (leftZ (guarS1 s x) (guarG1 g x) d) = .ok (z, b2, st2) →
        (st2 = .interrupted →
          DCur s x.whitelist z.status z.posToId z.leftover z.offset z.additional) ∧
        (st2 = .completed → DEnd s z)) := by
  obtain ⟨hG, hnil⟩ := dist_loop1 hRI hrun hc.start
  have hcur := hG.cursor hc.pinv
  refine ⟨hcur, fun hst => ⟨hnil hst, fun {hash fuel2 d z b2 st2} hrun2 => ?_⟩⟩
  have hnil := hnil hst
  have hsum : x.leftover + x.additional = s.totalGuaranteed := by
    have := hG.split
    rw [hnil] at this
    simpa only [gSum_nil, Nat.add_zero] using this
  have hhon : ∀ st' : Nat → Bool, (∀ t, x.status t = true → st' t = true) →
      ∀ u rc, s.uts u = some rc → Hon s st' u rc := by
    intro st' hm u rc hu
    rcases hG.hon u rc hu with hmem | hh
    · rw [hnil] at hmem; cases hmem
    · exact hh.mono hm
  have hL0 : DL s.lastTicketId s.nrWinning s.totalGuaranteed x.status
      (leftZ (guarS1 s x) (guarG1 g x) d) :=
    ⟨⟨hcur.pinv, hcur.count⟩, hsum, fun _ ht => ht⟩
  obtain ⟨h1, h2⟩ := dist_loop2 hrun2 hL0
  refine ⟨fun hi => ?_, fun hd => ?_⟩
  · have hz := h1 hi
    refine ⟨hz.inv.pinv, hz.inv.count, ?_, fun u rc hu => Or.inr (hhon _ hz.mono u rc hu)⟩
    rw [hnil]; simpa only [gSum_nil, Nat.add_zero] using hz.sum
  · obtain ⟨hinv, hlo, hm, hle, hor⟩ := h2 hd
    have := hinv.le_last
    refine ⟨hinv, hlo, fun t ht => hm t (hG.mono t ht), ?_, hhon _ hm⟩
    show z.additional = _
    have e : (LCore.lift default z).additional = z.additional := rfl
    rw [e] at this
    rcases hor with h | h <;> omega

/-- the ticket space of a filtered allocation, whatever its ledger clause `P` -/
theorem distRanges_of_alloc {s : State} {P : List Nat → Prop}
    (halloc : ∃ Ls : List (Nat × Nat), (Ls.map Prod.fst).Nodup ∧
      (∀ p ∈ Ls, 1 ≤ p.2 ∧ p.2 = s.confirmed p.1) ∧ Chain Ls 1 s.range s.batch ∧
      s.lastTicketId = ticketTotal Ls ∧
      (∀ a, a ∉ Ls.map Prod.fst → s.range a = none ∧ s.confirmed a = 0) ∧
      P (Ls.map Prod.fst)) : DistRanges s := by
  obtain ⟨Ls, _, hLs, hch, hlast, hout, _⟩ := halloc
  have hpos : ∀ p ∈ Ls, 1 ≤ p.2 := fun p hp => (hLs p hp).1
  refine ⟨?_, ?_⟩
  · intro u r hr
    have hin : u ∈ Ls.map Prod.fst := by
      apply Classical.byContradiction
      intro hn
      rw [(hout u hn).1] at hr; cases hr
    obtain ⟨p, hp, rfl⟩ := List.mem_map.mp hin
    obtain ⟨r', hr', h1, h2, h3, h4⟩ := Chain_bounds hch hpos p hp
    rw [hr] at hr'
    injection hr' with hr'
    subst hr'
    have hc := (hLs p hp).2
    unfold RangeIn rangeLen
    rw [hlast]
    exact ⟨⟨h1, by omega⟩, by omega⟩
  · intro u hr
    by_cases hin : u ∈ Ls.map Prod.fst
    · obtain ⟨rr, hrr, _⟩ := be_chain_mem hch hin
      rw [hr] at hrr; cases hrr
    · exact (hout u hin).2

theorem v1_guarOpOf {s : State} {e : Env} {g : GuarOp} {lo off add : Nat}
    (hg : guarOpOf (rbTx s e) = some g)
    (hop : (s.op = .none ∧ lo = 0 ∧ off = 1 ∧ add = 0) ∨
      ∃ rng, s.op = .additional (.guar ⟨rng, lo, off, add⟩)) :
    g.leftover = lo ∧ g.offset = off ∧ g.additional = add := by
  unfold guarOpOf at hg
  simp only [rbTx_s] at hg
  rcases hop with ⟨hop, rfl, rfl, rfl⟩ | ⟨rng, hop⟩
  · rw [hop] at hg
    simp only [Option.some.injEq] at hg
    subst hg
    exact ⟨rfl, rfl, rfl⟩
  · rw [hop] at hg
    simp only [Option.some.injEq] at hg
    subst hg
    exact ⟨rfl, rfl, rfl⟩

end LP
