import LP.Proofs.ZeroAllocNGExec
/-
  Zero-size allocations in `Variant.nftGuar`.  `ng_ReachZA`/`ng_ReachZ` put no premise on the calls
  (their invariant is in LP/Proofs/ZeroAllocNGFull.lean);
  `ng_ReachGA`/`ng_ReachG` allow zero-size entries that carry no migration guarantee (`zc_CallOK`).
  The simulation `zc_sim`: every `ng_ReachGA` state is `ZSimG`-related to an `ng_ReachA` state.
-/
namespace LP
open LP.FY

/-- `ng_ReachA` without the `v1_CallOK` premise -/
inductive ng_ReachZA (hash : List Nat → List Nat) (a0 : InitArgs) : State → Nat → Prop
  | init (e : Env) (s : State) : init .nftGuar a0 e = .ok s → ng_ReachZA hash a0 s e.round
  | call (s : State) (r : Nat) (e : Env) (c : Call) (s' : State) (o : Out) :
      ng_ReachZA hash a0 s r → r ≤ e.round → EnvOK e →
      step hash s e c = .ok (s', o) → ng_ReachZA hash a0 s' e.round
  | wait (s : State) (r r' : Nat) : ng_ReachZA hash a0 s r → r ≤ r' → ng_ReachZA hash a0 s r'

/-- `ng_Reach` without the `v1_CallOK` premise -/
inductive ng_ReachZ (hash : List Nat → List Nat) : State → Nat → Prop
  | init (a : InitArgs) (e : Env) (s : State) : init .nftGuar a e = .ok s → ng_ReachZ hash s e.round
  | call (s : State) (r : Nat) (e : Env) (c : Call) (s' : State) (o : Out) :
      ng_ReachZ hash s r → r ≤ e.round → EnvOK e →
      step hash s e c = .ok (s', o) → ng_ReachZ hash s' e.round
  | wait (s : State) (r r' : Nat) : ng_ReachZ hash s r → r ≤ r' → ng_ReachZ hash s r'

/-- `ng_ReachA` with `zc_CallOK` (an entry has at least one ticket OR `migrated = false`) in place
    of `v1_CallOK` -/
inductive ng_ReachGA (hash : List Nat → List Nat) (a0 : InitArgs) : State → Nat → Prop
  | init (e : Env) (s : State) : init .nftGuar a0 e = .ok s → ng_ReachGA hash a0 s e.round
  | call (s : State) (r : Nat) (e : Env) (c : Call) (s' : State) (o : Out) :
      ng_ReachGA hash a0 s r → r ≤ e.round → EnvOK e → zc_CallOK c →
      step hash s e c = .ok (s', o) → ng_ReachGA hash a0 s' e.round
  | wait (s : State) (r r' : Nat) : ng_ReachGA hash a0 s r → r ≤ r' → ng_ReachGA hash a0 s r'

inductive ng_ReachG (hash : List Nat → List Nat) : State → Nat → Prop
  | init (a : InitArgs) (e : Env) (s : State) : init .nftGuar a e = .ok s → ng_ReachG hash s e.round
  | call (s : State) (r : Nat) (e : Env) (c : Call) (s' : State) (o : Out) :
      ng_ReachG hash s r → r ≤ e.round → EnvOK e → zc_CallOK c →
      step hash s e c = .ok (s', o) → ng_ReachG hash s' e.round
  | wait (s : State) (r r' : Nat) : ng_ReachG hash s r → r ≤ r' → ng_ReachG hash s r'

theorem ng_reachZA_iff_later {hash : List Nat → List Nat} {a0 : InitArgs} {s : State} {r : Nat} :
    ng_ReachZA hash a0 s r ↔ be_From (be_OK (fun _ => True)) hash .nftGuar a0 s r := by
  constructor <;> intro h
  · induction h with
    | init e s h => exact .init h
    | call _ _ _ _ _ _ _ h1 h2 h3 ih => exact ih.call h1 ⟨h2, trivial⟩ h3
    | wait _ _ _ _ h1 ih => exact ih.wait h1
  · exact h.induct .init (fun s r e c s' o ih h1 h2 h3 => .call s r e c s' o ih h1 h2.1 h3)
      fun s r r' ih h1 => .wait s r r' ih h1

theorem ng_reachZ_iff_later {hash : List Nat → List Nat} {s : State} {r : Nat} :
    ng_ReachZ hash s r ↔ ∃ a0, be_From (be_OK (fun _ => True)) hash .nftGuar a0 s r := by
  constructor
  · intro h
    induction h with
    | init a e s h => exact ⟨a, .init h⟩
    | call _ _ _ _ _ _ _ h1 h2 h3 ih => exact ih.imp fun _ ih => ih.call h1 ⟨h2, trivial⟩ h3
    | wait _ _ _ _ h1 ih => exact ih.imp fun _ ih => ih.wait h1
  · rintro ⟨a0, h⟩
    exact h.induct (.init a0) (fun s r e c s' o ih h1 h2 h3 => .call s r e c s' o ih h1 h2.1 h3)
      fun s r r' ih h1 => .wait s r r' ih h1

theorem ng_ReachZ_iff {hash : List Nat → List Nat} {s : State} {r : Nat} :
    ng_ReachZ hash s r ↔ ∃ a0, ng_ReachZA hash a0 s r :=
  ng_reachZ_iff_later.trans (exists_congr fun _ => ng_reachZA_iff_later.symm)
theorem ng_reachGA_iff_later {hash : List Nat → List Nat} {a0 : InitArgs} {s : State} {r : Nat} :
    ng_ReachGA hash a0 s r ↔ be_From (be_OK zc_CallOK) hash .nftGuar a0 s r := by
  constructor <;> intro h
  · induction h with
    | init e s h => exact .init h
    | call _ _ _ _ _ _ _ h1 h2 h3 h4 ih => exact ih.call h1 ⟨h2, h3⟩ h4
    | wait _ _ _ _ h1 ih => exact ih.wait h1
  · exact h.induct .init (fun s r e c s' o ih h1 h2 h3 => .call s r e c s' o ih h1 h2.1 h2.2 h3)
      fun s r r' ih h1 => .wait s r r' ih h1

theorem ng_reachG_iff_later {hash : List Nat → List Nat} {s : State} {r : Nat} :
    ng_ReachG hash s r ↔ ∃ a0, be_From (be_OK zc_CallOK) hash .nftGuar a0 s r := by
  constructor
  · intro h
    induction h with
    | init a e s h => exact ⟨a, .init h⟩
    | call _ _ _ _ _ _ _ h1 h2 h3 h4 ih => exact ih.imp fun _ ih => ih.call h1 ⟨h2, h3⟩ h4
    | wait _ _ _ _ h1 ih => exact ih.imp fun _ ih => ih.wait h1
  · rintro ⟨a0, h⟩
    exact h.induct (.init a0) (fun s r e c s' o ih h1 h2 h3 => .call s r e c s' o ih h1 h2.1 h2.2 h3)
      fun s r r' ih h1 => .wait s r r' ih h1

theorem ng_ReachG_iff {hash : List Nat → List Nat} {s : State} {r : Nat} :
    ng_ReachG hash s r ↔ ∃ a0, ng_ReachGA hash a0 s r :=
  ng_reachG_iff_later.trans (exists_congr fun _ => ng_reachGA_iff_later.symm)
theorem zc_CallOK_of_v1 {c : Call} (h : v1_CallOK c) : zc_CallOK c := by
  cases c <;> first | trivial | exact fun q hq => Or.inl (h q hq)

theorem ng_ReachA.toG {hash : List Nat → List Nat} {a0 : InitArgs} {s : State} {r : Nat}
    (h : ng_ReachA hash a0 s r) : ng_ReachGA hash a0 s r :=
  ng_reachGA_iff_later.mpr ((ng_reachA_iff_later.mp h).mono fun _ => zc_CallOK_of_v1)
theorem ng_ReachGA.toZ {hash : List Nat → List Nat} {a0 : InitArgs} {s : State} {r : Nat}
    (h : ng_ReachGA hash a0 s r) : ng_ReachZA hash a0 s r :=
  ng_reachZA_iff_later.mpr ((ng_reachGA_iff_later.mp h).mono fun _ _ => trivial)
theorem ng_Reach.toG {hash : List Nat → List Nat} {s : State} {r : Nat}
    (h : ng_Reach hash s r) : ng_ReachG hash s r :=
  ng_reachG_iff_later.mpr ((ng_reach_iff_later.mp h).imp fun _ h => h.mono fun _ => zc_CallOK_of_v1)
theorem ng_ReachG.toZ {hash : List Nat → List Nat} {s : State} {r : Nat}
    (h : ng_ReachG hash s r) : ng_ReachZ hash s r :=
  ng_reachZ_iff_later.mpr ((ng_reachG_iff_later.mp h).imp fun _ h => h.mono fun _ _ => trivial)

/-! ### one lemma per call (`zc_sim_*`), and the simulation `zc_sim`.  A call is matched by the `ESim`
  lemma for it (LP/Proofs/ZeroAllocSim.lean; `ESim.addV1` in ZeroAllocV1Alloc), and `ESim.zsimG` puts back the clause on removed records, `zc_UOK`.  The conjunct
  `z.uts = s.uts → z'.uts = s'.uts` is for `zk_PB_match` (LP/Proofs/ZeroAllocNGFull.lean), which reads
  the same lemmas with no record removed; `zc_sim_step` drops it. -/

theorem zc_phaseA_facts {T0 : Nat} {z : State} {r : Nat} (hwf : ng_WF T0 z r)
    (hns : z.flags.started = false) :
    z.flags.filtered = false ∧
    ∀ a, z.range a = none → z.confirmed a = 0 ∧ z.uts a = none ∧ a ∉ z.whitelist ∧ a ∉ z.payers := by
  obtain ⟨_, _, L0, hp, hA, hg⟩ := ng_phase_notStarted hwf.phase hns
  refine ⟨hp.notFiltered, fun a ha => ?_⟩
  have hc : z.confirmed a = 0 := by
    by_cases hin : a ∈ L0.map Prod.fst
    · obtain ⟨rr, hrr, _⟩ := be_chain_mem hA.chain hin
      have hrr' : z.range a = some rr := hrr
      rw [ha] at hrr'; cases hrr'
    · exact hp.outC a hin
  have hu : z.uts a = none := by
    cases hq : z.uts a with
    | none => rfl
    | some st =>
      have := hg.gi.has_range a (by show (z.uts a).isSome = true; rw [hq]; rfl)
      have h2 : (z.range a).isSome = true := this
      rw [ha] at h2; cases h2
  refine ⟨hc, hu, ?_, ?_⟩
  · intro hm
    obtain ⟨st, h1, _⟩ := hg.gi.pos_of_mem a hm
    have h1' : z.uts a = some st := h1
    rw [hu] at h1'; cases h1'
  · intro hm
    have := hwf.side.conf a (Or.inl hm)
    have h2 : 0 < z.confirmed a := this
    omega

theorem zc_UOK_congr {U : Nat → Option UTS} {s s' : State} (h : zc_UOK U s) (h1 : s'.uts = s.uts)
    (h2 : ∀ a, a ∈ s'.whitelist → a ∈ s.whitelist) : zc_UOK U s' := by
  intro a
  rw [h1]
  rcases h a with hl | ⟨u1, u2, u3⟩
  · exact Or.inl hl
  · exact Or.inr ⟨u1, fun hm => u2 (h2 a hm), u3⟩


theorem zc_sim_indep {hash : List Nat → List Nat} {s z : State}
    {e : Env} {c : Call} {s' : State} {o : Out} (hc : ov_indep c = true)
    (hsim : ZSimG s z) (hd : s.flags.started = false → z_Hd s)
    (hs : step hash s e c = .ok (s', o)) :
    ∃ z', ZSimG s' z' ∧ (s'.flags.started = false → z_Hd s') ∧ (z.uts = s.uts → z'.uts = s'.uts) ∧
      step hash z e c = .ok (z', o) := by
  obtain ⟨h1, hf, h3⟩ := hsim.esim.indep hc hs
  have g5 : s'.uts = s.uts := congrArg Ov.U hf
  have g7 : s'.whitelist = s.whitelist := congrArg Ov.W hf
  exact ⟨_, h1.zsimG (zc_UOK_congr hsim.uts g5 (fun a ha => by rw [← g7]; exact ha)),
    z_indep_Hd hc hs hd, fun hu => hu.trans g5.symm, h3⟩

theorem zc_sim_add {hash : List Nat → List Nat} {a0 : InitArgs} {s z : State} {r : Nat}
    {e : Env} {l : List (Nat × Nat × Nat × Bool)} {s' : State} {o : Out}
    (hz : ng_ReachA hash a0 z r) (hsim : ZSimG s z) (hd : s.flags.started = false → z_Hd s)
    (hr : r ≤ e.round) (hok : EnvOK e) (hq : ∀ q ∈ l, 1 ≤ q.2.1 + q.2.2.1 ∨ q.2.2.2 = false)
    (hs : step hash s e (.addTicketsV1 l) = .ok (s', o)) :
    ∃ z', ng_ReachA hash a0 z' e.round ∧ ZSimG s' z' ∧ (s'.flags.started = false → z_Hd s') ∧
      step hash z e (.addTicketsV1 (l.filter (fun q => decide (1 ≤ q.2.1 + q.2.2.1)))) = .ok (z', o) := by
  have hwf := ng_reach_WF hz
  obtain ⟨hcfg, hfl, _, _, _, _, _, hwl, _, _, hmc⟩ := hsim.fields
  have hlt : e.round < s.cfg.conf := rb_stage_addTickets (step_gate hs)
  have hns : z.flags.started = false := notStarted_of_lt hwf.tlStarted hr (Or.inl (by rw [hcfg]; exact hlt))
  obtain ⟨hnfz, hfacts⟩ := zc_phaseA_facts hwf hns
  have hI : ∀ a, z_eraseR s.range a = none → z.uts a = none ∧ a ∉ s.whitelist := fun a ha => by
    obtain ⟨_, k2, k3, _⟩ := hfacts a (by rw [hsim.range]; exact ha)
    exact ⟨k2, by rw [← hwl]; exact k3⟩
  obtain ⟨U', h1, h2, k2, fx, _⟩ := hsim.esim.addV1 hs (by rw [← hfl]; exact hnfz)
    (hd (by rw [← hfl]; exact hns)) (by rw [← hmc]; exact hwf.static)
    (fun q hq' h0 => (hq q hq').resolve_left (by omega)) (fun a ha => (hI a (z_eraseR_of_none ha)).1)
  refine ⟨_, .call z r e _ _ _ hz hr hok ?_ h2, h1.zsimG (zc_AddFx fx hI hsim.uts), fun _ => k2, h2⟩
  intro q hq'
  exact of_decide_eq_true (List.mem_filter.mp hq').2

theorem zc_sim_confirm {hash : List Nat → List Nat} {s z : State}
    {e : Env} {n : Nat} {s' : State} {o : Out}
    (hsim : ZSimG s z) (hd : s.flags.started = false → z_Hd s)
    (hs : step hash s e (.confirm n) = .ok (s', o)) :
    ∃ z', ZSimG s' z' ∧ (s'.flags.started = false → z_Hd s') ∧ (z.uts = s.uts → z'.uts = s'.uts) ∧
      step hash z e (.confirm n) = .ok (z', o) := by
  obtain ⟨h1, hf, h3⟩ := hsim.esim.confirm hs
  have g5 : s'.uts = s.uts := congrArg Ov.U hf
  have g7 : s'.whitelist = s.whitelist := congrArg Ov.W hf
  exact ⟨_, h1.zsimG (zc_UOK_congr hsim.uts g5 (fun a ha => by rw [← g7]; exact ha)),
    z_confirm_Hd hs hd, fun hu => hu.trans g5.symm, h3⟩

theorem zc_sim_blacklist {hash : List Nat → List Nat} {a0 : InitArgs} {s z : State} {r : Nat}
    {e : Env} {l : List Nat} {s' : State} {o : Out}
    (hz : ng_ReachA hash a0 z r) (hsim : ZSimG s z) (hd : s.flags.started = false → z_Hd s)
    (hr : r ≤ e.round) (hok : EnvOK e) (hs : step hash s e (.blacklist l) = .ok (s', o)) :
    ∃ z', ng_ReachA hash a0 z' e.round ∧ ZSimG s' z' ∧ (s'.flags.started = false → z_Hd s') ∧
      step hash z e (.blacklist (l.filter (fun a => (z_eraseR s.range a).isSome))) = .ok (z', o) := by
  have hwf := ng_reach_WF hz
  have hd' := z_Hd_keep hs (z_step_tk hs rfl) hd
  obtain ⟨hcfg, _, hvz, _, hcf, _, _, hwl, hpy, _, _⟩ := hsim.fields
  have hns : z.flags.started = false := by
    rcases LP.Props.C06.blacklist_only_before_selection hash s e _ _ (Or.inl ⟨l, rfl⟩) hs with hst | hst
    · exact notStarted_of_lt hwf.tlStarted hr (Or.inl (by rw [hcfg]; exact rb_stage_addTickets hst))
    · exact notStarted_of_lt hwf.tlStarted hr (Or.inr (by rw [hcfg]; exact (rb_stage_confirm hst).2))
  obtain ⟨_, hfacts⟩ := zc_phaseA_facts hwf hns
  obtain ⟨_, _, f3, _⟩ := ng_flags (v := s.variant) (by rw [← hvz]; exact hwf.var)
  -- a whitelisted address is not among the removed records
  obtain ⟨K', U', h1, h2, _, k4, k5, _⟩ := hsim.esim.blacklist f3 hs
    (fun a _ hnone => by rw [← hcf]; exact (hfacts a hnone).1)
    (fun _ u _ hm => by
      refine ⟨?_, (hsim.uts u).resolve_right (fun ⟨_, u2, _⟩ => u2 hm)⟩
      cases hq : z.range u with
      | some _ => rfl
      | none => exact absurd (by rw [hwl]; exact hm) (hfacts u hq).2.2.1)
    (fun _ a _ hnone => by rw [← hpy]; exact (hfacts a hnone).2.2.2)
  rw [hsim.range] at h2
  refine ⟨_, .call z r e (.blacklist _) _ _ hz hr hok trivial h2, h1.zsimG (fun a => ?_), hd', h2⟩
  show U' a = s'.uts a ∨ (U' a = none ∧ _)
  rcases k4 a with ⟨p1, p2⟩ | ⟨p1, p2, _⟩
  · rw [p1, p2]
    exact (hsim.uts a).imp id (fun ⟨u1, u2, u3⟩ => ⟨u1, fun hm => u2 (k5 a hm), u3⟩)
  · exact Or.inl (p1.trans p2.symm)

theorem zc_sim_filter {T0 : Nat} {hash : List Nat → List Nat} {s z : State} {r : Nat}
    {e : Env} {s' : State} {o : Out}
    (hwf : ng_WF T0 z r) (hsim : ZSimG s z)
    (hr : r ≤ e.round) (hok : EnvOK e) (hs : step hash s e .filter = .ok (s', o)) :
    ∃ z', ZSimG s' z' ∧ (s'.flags.started = false → z_Hd s') ∧ (z.uts = s.uts → z'.uts = s'.uts) ∧
      step hash z e .filter = .ok (z', o) := by
  obtain ⟨h1, ⟨_, _, g5, g7⟩, h3⟩ := hsim.esim.filter (fun hnf => by
    obtain ⟨_, _, L0, hp, hab⟩ := ng_phase_notFiltered hwf.phase hnf
    exact ⟨L0, z_filter_facts hp (hab.imp And.left And.left) rfl rfl rfl rfl rfl⟩) hs
  refine ⟨_, h1.zsimG (zc_UOK_congr hsim.uts g5 (fun a ha => by rw [← g7]; exact ha)),
    fun hst => ?_, fun hu => hu.trans g5.symm, h3⟩
  exfalso
  obtain ⟨_, _, L1, hp1, hA1, _⟩ := ng_phase_notStarted
    (ng_call_WF (c := .filter) hwf hr hok trivial h3).phase hst
  exact filter_started_of hs ⟨hp1.notFiltered, hA1.op⟩

open LP.Props.C09 in
/-- a claim by an address with an empty range is matched by NO step: nothing is paid, the "not
    confirmed" SFT is handed out -/
theorem zc_sim_claim {T0 : Nat} {hash : List Nat → List Nat} {s z : State} {r : Nat}
    {e : Env} {s' : State} {o : Out}
    (hwf : ng_WF T0 z r) (hsim : ZSimG s z)
    (hs : step hash s e .claim = .ok (s', o)) :
    ∃ z', ZSimG s' z' ∧ (s'.flags.started = false → z_Hd s') ∧ (z.uts = s.uts → z'.uts = s'.uts) ∧
      (step hash z e .claim = .ok (z', o) ∨
        (z' = z ∧ ∃ rg, s.range e.caller = some rg ∧ rg.last < rg.first ∧
          s' = zc_w s (upd s.range e.caller none) (upd s.batch rg.first none) s.blacklist
                (upd s.claimed e.caller true) s.uts ∧
          o.xfers = [] ∧ o.sfts = [(e.caller, 3)] ∧ o.locks = [])) := by
  obtain ⟨_, hfl, hvz, _, hcf, _, _, _, hpy, hnw, _⟩ := hsim.fields
  have hE := hsim.esim
  have hvs : s.variant = .nftGuar := by rw [← hvz]; exact hwf.var
  obtain ⟨f1, f2, _, _, f5, _⟩ := ng_flags hvs
  obtain ⟨rg, ⟨he1, he2, hst, hncl, hrg, _⟩, _, hs'eq⟩ := nf_claim_shape hash s e s' o f2 hs
  obtain ⟨⟨_, hadd⟩, _⟩ := stage_claim_iff.mp hst
  have hD : PhD (nf_core z) := ng_phase_D hwf.phase (by show z.flags.additional = true; rw [hfl]; exact hadd)
  have hof : Ov.of s' = (Ov.of s).settle e.caller rg := by rw [hs'eq]; rfl
  have hflags : s'.flags = s.flags := by rw [hs'eq]; rfl
  have g5 : s'.uts = s.uts := congrArg Ov.U hof
  have g7 : s'.whitelist = s.whitelist := congrArg Ov.W hof
  have hsta : s'.flags.started = false → z_Hd s' := fun hf => by
    rw [hflags, ← hfl, show z.flags.started = true from hD.started] at hf; cases hf
  have hreal : rg.first ≤ rg.last → z.range e.caller = some rg → z.claimed e.caller = false →
      step hash z e .claim = .ok (ov s' ((Ov.of z).settle e.caller rg), o) := by
    intro _ hR hC
    have hw : ov s' ((Ov.of z).settle e.caller rg)
        = zc_w s' (upd z.range e.caller none) (upd z.batch rg.first none) z.blacklist
            (upd z.claimed e.caller true) z.uts := by
      show ov s' ⟨_, _, _, _, _, z.blUts, z.whitelist⟩ = _
      rw [hE.bu.trans (congrArg Ov.BU hof).symm, hE.wl.trans g7.symm]; rfl
    rw [hw]
    have hs2 := hs
    rw [step_claim_ok_iff] at hs2 ⊢
    obtain ⟨_, _, t, hx, rfl, rfl⟩ := hs2
    rw [exec_claim_nonvested hash _ e (by exact f1)] at hx
    have htx : txc z e = zc_wt (txc s e) z.range z.batch z.blacklist z.claimed z.uts := by
      conv => lhs; rw [hsim.rest]
      rfl
    refine ⟨he1, he2, zc_wt t (upd z.range e.caller none) (upd z.batch rg.first none) z.blacklist
      (upd z.claimed e.caller true) z.uts, ?_, rfl, rfl⟩
    rw [exec_claim_nonvested hash _ e (by show z.variant.vested = false; rw [hvz]; exact f1), htx]
    exact zc_claimBase (by exact f5) hx (by exact hrg) hR (hC.trans hncl.symm)
  have hstut : rg.last < rg.first → s' = zc_w s (upd s.range e.caller none) (upd s.batch rg.first none)
      s.blacklist (upd s.claimed e.caller true) s.uts ∧ o.xfers = [] ∧ o.sfts = [(e.caller, 3)] ∧
      o.locks = [] := fun hlt => by
    have hc0z : z.confirmed e.caller = 0 :=
      hD.rngNone e.caller (by show z.range e.caller = none; rw [hsim.range]; exact z_eraseR_of_empty hrg (by omega))
    refine zc_claim_stutter hvs hs hrg hlt (by rw [← hcf]; exact hc0z) (fun hm => ?_) (fun hm => ?_)
    · have h2 : 0 < z.confirmed e.caller :=
        hwf.side.conf e.caller (Or.inr (by show e.caller ∈ z.nftWinners; rw [hnw]; exact hm))
      omega
    · have h2 : 0 < z.confirmed e.caller :=
        hwf.side.conf e.caller (Or.inl (by show e.caller ∈ z.payers; rw [hpy]; exact hm))
      omega
  have huok : ∀ z' : State, z'.uts = z.uts → zc_UOK z'.uts s' := fun z' hz' => by
    rw [hz']; exact zc_UOK_congr hsim.uts g5 (fun a ha => by rw [← g7]; exact ha)
  rcases hE.claim (by rw [← hfl]; exact hD.filtered) hrg hncl hof hflags hreal (fun hlt => (hstut hlt).1)
    with ⟨_, h1, h2⟩ | ⟨hlt, h1, _⟩
  · exact ⟨_, h1.zsimG (huok _ rfl), hsta, fun hu => hu.trans g5.symm, Or.inl h2⟩
  · exact ⟨z, h1.zsimG (huok _ rfl), hsta, fun hu => hu.trans g5.symm, Or.inr ⟨rfl, rg, hrg, hlt, hstut hlt⟩⟩

theorem zc_sim_secondary {hash : List Nat → List Nat} {s z : State}
    {e : Env} {s' : State} {o : Out}
    (hsim : ZSimG s z) (hd : s.flags.started = false → z_Hd s)
    (hs : step hash s e .secondary = .ok (s', o)) :
    ∃ z', ZSimG s' z' ∧ (s'.flags.started = false → z_Hd s') ∧ (z.uts = s.uts → z'.uts = s'.uts) ∧
      step hash z e .secondary = .ok (z', o) := by
  have hd' := z_Hd_keep hs (z_step_tk hs rfl) hd
  have hv2 : s.variant.isV2 = false := by
    obtain ⟨m, _, hm, _⟩ := step_ok_inv hs
    cases hv : s.variant <;> rw [hv] at hm <;> first | rfl | cases hm
  obtain ⟨h1, hof, h3⟩ := hsim.esim.secondary hv2 hs
  have g5 : s'.uts = s.uts := congrArg Ov.U hof
  have hwl : ∀ u, u ∈ s'.whitelist → u ∈ s.whitelist := by
    obtain ⟨m, t, _, _, _, hx, rfl, _⟩ := step_ok_inv hs
    simp only [exec] at hx
    exact (zc_secondary_fr hx).2
  exact ⟨_, h1.zsimG (zc_UOK_congr hsim.uts g5 hwl), hd', fun hu => hu.trans g5.symm, h3⟩

theorem zc_sim_step {hash : List Nat → List Nat} {a0 : InitArgs} {s z : State} {r : Nat}
    {e : Env} {c : Call} {s' : State} {o : Out}
    (hz : ng_ReachA hash a0 z r) (hsim : ZSimG s z) (hd : s.flags.started = false → z_Hd s)
    (hr : r ≤ e.round) (hok : EnvOK e) (hc : zc_CallOK c) (hs : step hash s e c = .ok (s', o)) :
    ∃ z', ng_ReachA hash a0 z' e.round ∧ ZSimG s' z' ∧ (s'.flags.started = false → z_Hd s') := by
  have hwf := ng_reach_WF hz
  have hvs : s.variant = .nftGuar := by rw [← hsim.fields.2.2.1]; exact hwf.var
  have hex : c.exposedIn .nftGuar = true := hvs ▸ step_exposed hs
  cases c with
  | addTicketsV1 l =>
    obtain ⟨z', h1, h2, h3, _⟩ := zc_sim_add hz hsim hd hr hok hc hs; exact ⟨z', h1, h2, h3⟩
  | confirm n =>
    obtain ⟨z', h2, h3, _, h4⟩ := zc_sim_confirm hsim hd hs
    exact ⟨z', .call z r e (.confirm n) _ _ hz hr hok trivial h4, h2, h3⟩
  | filter =>
    obtain ⟨z', h2, h3, _, h4⟩ := zc_sim_filter hwf hsim hr hok hs
    exact ⟨z', .call z r e .filter _ _ hz hr hok trivial h4, h2, h3⟩
  | claim =>
    obtain ⟨z', h2, h3, _, h4 | ⟨rfl, _⟩⟩ := zc_sim_claim hwf hsim hs
    · exact ⟨z', .call z r e .claim _ _ hz hr hok trivial h4, h2, h3⟩
    · exact ⟨z', .wait z' r e.round hz hr, h2, h3⟩
  | blacklist l =>
    obtain ⟨z', h1, h2, h3, _⟩ := zc_sim_blacklist hz hsim hd hr hok hs; exact ⟨z', h1, h2, h3⟩
  | secondary =>
    obtain ⟨z', h2, h3, _, h4⟩ := zc_sim_secondary hsim hd hs
    exact ⟨z', .call z r e .secondary _ _ hz hr hok trivial h4, h2, h3⟩
  | deposit | setTicketPrice _ _ | setPerTicket _ | setConfStart _ | setSelStart _ | setClaimStart _
  | setSupport _ | pause | unpause | select | claimPayment | confirmNft | setNftCost _ | sftSetup =>
    obtain ⟨z', h2, h3, _, h4⟩ := zc_sim_indep rfl hsim hd hs
    exact ⟨z', .call z r e _ _ _ hz hr hok (z_indep_v1_CallOK rfl) h4, h2, h3⟩
  | issueSft | createSfts | setTransferRole _ => exact (step_sft_rejected hs).elim
  | _ => exact (Bool.false_ne_true hex).elim

/-- **SIMULATION** (same deployment arguments, same round): erase the empty ranges, the zero-size
    batches and the empty guarantee records. -/
theorem zc_sim {hash : List Nat → List Nat} {a0 : InitArgs} {s : State} {r : Nat}
    (h : ng_ReachGA hash a0 s r) :
    ∃ z, ng_ReachA hash a0 z r ∧ ZSimG s z ∧ (s.flags.started = false → z_Hd s) := by
  induction h with
  | init e s h =>
    obtain ⟨_, _, _, _, _, rfl⟩ := ng_init_inv h
    refine ⟨_, .init e _ h, ⟨rfl, rfl, fun _ => rfl, fun _ h => h, fun _ h => h, fun _ => Or.inl rfl⟩, ?_⟩
    intro _ i b _ hb
    cases hb
  | call s r e c s' o _ h1 h2 h3 h4 ih =>
    obtain ⟨z, hz, hsim, hd⟩ := ih
    exact zc_sim_step hz hsim hd h1 h2 h3 h4
  | wait s r r' _ h1 ih =>
    obtain ⟨z, hz, hsim, hd⟩ := ih
    exact ⟨z, .wait z r r' hz h1, hsim, hd⟩

end LP

#print axioms LP.zc_sim
