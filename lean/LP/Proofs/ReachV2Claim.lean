import LP.Proofs.ReachV2
import LP.Proofs.ClaimVested
import LP.Proofs.PayOut
/-
  Preservation of `WF2` by the vested claim (`claimVested`: first claim = settlement + refund +
  first instalment, repeat claim = further instalment) and by the owner's own withdrawal
  (`claimPaymentOwn`); the launchpad-token ledger in closed form (`LPost.exact_with`; the `vv_lp_`
  lemmas state it on a state, for the exact vesting ledger of ReachVV).  Then the induction:
  every accepted call keeps `WF2` (`call_WF2`), so it holds along every history (`reach_WF2`).
-/
namespace LP
open LP.FY LP.Events

/-- redeemable (winning) tickets in the range `r`, as the settlement's `clearRange` counts them -/
def redeemOf (s : State) (r : Range) : Nat :=
  (clearRange s.status s.posToId r.first (rangeLen r)).2.2

theorem v2_winCountOf_redeem {s : State} {a : Nat} {rg : Range} (h : s.range a = some rg) :
    winCountOf s a = redeemOf s rg := by
  rw [winCountOf_some h, redeemOf, (rb_clearRange_spec s.status s.posToId rg.first (rangeLen rg)).2.2]

/-- the entitlement a settlement writes, as an update: the contract skips the write for `k = 0`,
    and with nothing recorded for `a` that is the same as writing `0` -/
theorem v2_settle_userTotal {f : Nat → Nat} {a : Nat} (h0 : f a = 0) (k pt : Nat) :
    (if k > 0 then upd f a (k * pt) else f) = upd f a (k * pt) := by
  by_cases hk : k > 0
  · rw [if_pos hk]
  · rw [if_neg hk, show k = 0 by omega, Nat.zero_mul, ← h0, upd_self_val]

theorem v2_upd_le {f g : Nat → Nat} {a v : Nat} (h : ∀ x, f x ≤ g x) (hv : v ≤ g a) (x : Nat) :
    upd f a v x ≤ g x := by
  by_cases hx : x = a
  · rw [hx, upd_same]; exact hv
  · rw [upd_other _ _ _ _ hx]; exact h x

theorem v2_claimSettle_state {s : State} {e : Env} {t1 : Tx}
    (h : claimSettle (rbTx s e) e = .ok t1) :
    (s.claimed e.caller = true ∧ t1 = rbTx s e) ∨
    (s.claimed e.caller = false ∧ s.stage e = .claim ∧ ∃ r B, s.range e.caller = some r ∧
      redeemOf s r ≤ s.confirmed e.caller ∧
      t1.s = { settled s e.caller r with
                 bal := B,
                 userTotal := if redeemOf s r > 0
                   then upd s.userTotal e.caller (redeemOf s r * s.perTicket) else s.userTotal } ∧
      (∀ k n, B k n ≤ s.bal k n) ∧ (∀ k n, k ≠ s.payTok → B k n = s.bal k n) ∧
      B s.payTok 0 = s.bal s.payTok 0 - s.price * (s.confirmed e.caller - redeemOf s r)) := by
  rcases (claimSettle_ok_iff _ e t1).mp h with ⟨hcl, rfl⟩ | ⟨r, ⟨hst, hcl, hr, _, hle, _⟩, rfl⟩
  · exact Or.inl ⟨hcl, rfl⟩
  · have hred : redeemOf s r = countWinning s.status r.first (rangeLen r) := clearRange_count ..
    refine Or.inr ⟨hcl, hst, r, _, hr, hred ▸ hle, ?_, fun k n => rb_sub_le _ _ _ _ _ _,
      fun k n hk => Bal.sub_off _ _ _ _ hk, by rw [hred]; exact Bal.sub_at ..⟩
    rw [claimSettled_state, hred, settled_eq]
    rfl

/-- an accepted vested claim in update form.  Repeat claim: one instalment `c`.  First claim
    (nothing recorded for the caller yet): settlement of his range `rg`, refund of the losing
    tickets (balances `B`), entitlement `redeemOf s rg × perTicket`, first instalment `c`. -/
theorem v2_claimVested_cases {s : State} {e : Env} {t : Tx} (hv : s.variant.isV2 = true)
    (hut0 : s.claimed e.caller = false → s.userTotal e.caller = 0)
    (h : claimVested (rbTx s e) e = .ok t) :
    (s.claimed e.caller = true ∧ ∃ c, claimable2 s e e.caller = .ok c ∧ c ≤ s.bal (.esdt s.lpTok) 0 ∧
      t.s = { s with bal := s.bal.sub (.esdt s.lpTok) 0 c,
                     userClaimed := upd s.userClaimed e.caller (s.userClaimed e.caller + c) }) ∨
    (s.claimed e.caller = false ∧ s.stage e = .claim ∧ ∃ rg B c, s.range e.caller = some rg ∧
      redeemOf s rg ≤ s.confirmed e.caller ∧
      (∀ k n, B k n ≤ s.bal k n) ∧ (∀ k n, k ≠ s.payTok → B k n = s.bal k n) ∧
      B s.payTok 0 = s.bal s.payTok 0 - s.price * (s.confirmed e.caller - redeemOf s rg) ∧
      claimable2 { settled s e.caller rg with
          bal := B, userTotal := upd s.userTotal e.caller (redeemOf s rg * s.perTicket) } e e.caller
        = .ok c ∧
      c ≤ B (.esdt s.lpTok) 0 ∧
      t.s = { settled s e.caller rg with
                bal := B.sub (.esdt s.lpTok) 0 c,
                userTotal := upd s.userTotal e.caller (redeemOf s rg * s.perTicket),
                userClaimed := upd s.userClaimed e.caller (s.userClaimed e.caller + c) }) := by
  obtain ⟨t1, c, h1, hc, hts, hcle⟩ := claimVested_state h
  rw [hv, if_pos rfl] at hc
  rcases v2_claimSettle_state h1 with ⟨hcl, rfl⟩ | ⟨hcl, hst, rg, B, hrg, hle, ht1, hBle, hBo, hBpay⟩
  · exact Or.inl ⟨hcl, c, hc, hcle, hts⟩
  · rw [ht1, v2_settle_userTotal (hut0 hcl)] at hc hcle hts
    exact Or.inr ⟨hcl, hst, rg, B, c, hrg, hle, hBle, hBo, hBpay, hc, hcle, hts⟩

theorem v2_claimable2_le {s : State} {e : Env} {a c : Nat} (h : claimable2 s e a = .ok c)
    (hs : ∀ now, unlockedPct2 now (s.sched2.getD defaultSchedule2) ≤ 10000)
    (hle : s.userClaimed a ≤ s.userTotal a) : s.userClaimed a + c ≤ s.userTotal a := by
  rw [claimable2_eq] at h
  split at h
  · injection h with h; omega
  · split at h
    · obtain ⟨h1, h2⟩ := bsub_eq_ok.mp h
      have : entitled2 s a e.round ≤ s.userTotal a := entitled_le _ (hs e.round)
      omega
    · cases h

/-- the ledger list may be assumed to contain a given address -/
theorem v2_LPost_with {g : GCore} {p : LProj} (hp : LPost g p) (a : Nat) :
    ∃ L : List Nat, a ∈ L ∧ L.Nodup ∧ (∀ x, x ∉ L → p.userTotal x = 0 ∧ p.userClaimed x = 0) ∧
    ((p.lpBal + sumOver p.userClaimed L = p.totalDeposited ∧
      ∃ W, g.core.claimable = g.core.price * W ∧
        W * p.perTicket = p.perTicket * g.core.nrWinning + sumOver p.userTotal L ∧
        W * p.perTicket ≤ p.totalDeposited) ∨
     (p.totalDeposited = 0 ∧ g.core.claimable = 0 ∧
      p.lpBal + sumOver p.userClaimed L = p.perTicket * g.core.nrWinning + sumOver p.userTotal L)) := by
  obtain ⟨L, hnd, hout, hAB⟩ := hp.led
  by_cases ha : a ∈ L
  · exact ⟨L, ha, hnd, hout, hAB⟩
  · obtain ⟨h1, h2⟩ := hout a ha
    refine ⟨a :: L, List.mem_cons_self .., List.nodup_cons.mpr ⟨ha, hnd⟩, ?_, ?_⟩
    · intro x hx
      exact hout x (fun hh => hx (List.mem_cons_of_mem _ hh))
    · simp only [sumOver, h1, h2, Nat.zero_add]
      exact hAB

theorem v2_LPost_pay {g : GCore} {p : LProj} (hp : LPost g p) {a c : Nat} (hc : c ≤ p.lpBal)
    (hle : p.userClaimed a + c ≤ p.userTotal a) :
    LPost g { p with lpBal := p.lpBal - c,
                     userClaimed := upd p.userClaimed a (p.userClaimed a + c) } := by
  obtain ⟨L, haL, hnd, hout, hAB⟩ := v2_LPost_with hp a
  have hsum := sumOver_upd_mem p.userClaimed L a (p.userClaimed a + c) hnd haL
  have hbal : p.lpBal - c + sumOver (upd p.userClaimed a (p.userClaimed a + c)) L
      = p.lpBal + sumOver p.userClaimed L := by omega
  refine ⟨⟨L, hnd, ?_, ?_⟩, ?_, hp.unclaimed⟩
  · intro x hx
    have hxa : x ≠ a := fun hh => hx (hh ▸ haL)
    obtain ⟨h1, h2⟩ := hout x hx
    exact ⟨h1, by show upd p.userClaimed a _ x = 0; rw [upd_other _ _ _ _ hxa]; exact h2⟩
  · rcases hAB with ⟨a1, a2⟩ | ⟨b1, b2, b3⟩
    · exact Or.inl ⟨by show p.lpBal - c + sumOver (upd p.userClaimed a _) L = _; rw [hbal]; exact a1, a2⟩
    · exact Or.inr ⟨b1, b2, by
        show p.lpBal - c + sumOver (upd p.userClaimed a _) L = _; rw [hbal]; exact b3⟩
  · intro x
    show upd p.userClaimed a (p.userClaimed a + c) x ≤ p.userTotal x
    by_cases hxa : x = a
    · subst hxa; rw [upd_same]; exact hle
    · rw [upd_other _ _ _ _ hxa]; exact hp.le x

theorem v2_LPost_settle {g g' : GCore} {p : LProj} (hp : LPost g p) {a k : Nat}
    (hcl : p.claimed a = false) (hk : k ≤ g.core.nrWinning)
    (h1 : g'.core.nrWinning = g.core.nrWinning - k) (h2 : g'.core.claimable = g.core.claimable)
    (h3 : g'.core.price = g.core.price) :
    LPost g' { p with userTotal := upd p.userTotal a (k * p.perTicket),
                      claimed := upd p.claimed a true } := by
  obtain ⟨L, haL, hnd, hout, hAB⟩ := v2_LPost_with hp a
  have hut : p.userTotal a = 0 := hp.unclaimed a hcl
  have huc : p.userClaimed a = 0 := Nat.le_zero.mp (hut ▸ hp.le a)
  have hsum := sumOver_upd_mem p.userTotal L a (k * p.perTicket) hnd haL
  have hmul : p.perTicket * g.core.nrWinning = p.perTicket * (g.core.nrWinning - k) + k * p.perTicket := by
    rw [Nat.mul_comm k, ← Nat.mul_add, Nat.sub_add_cancel hk]
  have hnew : p.perTicket * g'.core.nrWinning + sumOver (upd p.userTotal a (k * p.perTicket)) L
      = p.perTicket * g.core.nrWinning + sumOver p.userTotal L := by
    rw [h1]
    have key : ∀ A B C S S' u : Nat, S' + u = S + C → u = 0 → B = A + C → A + S' = B + S := by
      intros; omega
    exact key _ _ _ _ _ _ hsum hut hmul
  refine ⟨⟨L, hnd, ?_, ?_⟩, ?_, ?_⟩
  · intro x hx
    have hxa : x ≠ a := fun hh => hx (hh ▸ haL)
    obtain ⟨q1, q2⟩ := hout x hx
    exact ⟨by show upd p.userTotal a _ x = 0; rw [upd_other _ _ _ _ hxa]; exact q1, q2⟩
  · rcases hAB with ⟨a1, W, w1, w2, w3⟩ | ⟨b1, b2, b3⟩
    · refine Or.inl ⟨a1, W, by rw [h2, h3]; exact w1, ?_, w3⟩
      show W * p.perTicket = p.perTicket * g'.core.nrWinning + sumOver (upd p.userTotal a _) L
      rw [hnew]; exact w2
    · refine Or.inr ⟨b1, by rw [h2]; exact b2, ?_⟩
      show p.lpBal + sumOver p.userClaimed L
        = p.perTicket * g'.core.nrWinning + sumOver (upd p.userTotal a _) L
      rw [hnew]; exact b3
  · intro x
    show p.userClaimed x ≤ upd p.userTotal a (k * p.perTicket) x
    by_cases hxa : x = a
    · subst hxa; rw [upd_same, huc]; exact Nat.zero_le _
    · rw [upd_other _ _ _ _ hxa]; exact hp.le x
  · intro x hx
    have hx' : upd p.claimed a true x = false := hx
    have hxa : x ≠ a := by
      intro hh; subst hh; rw [upd_same] at hx'; cases hx'
    rw [upd_other _ _ _ _ hxa] at hx'
    show upd p.userTotal a _ x = 0
    rw [upd_other _ _ _ _ hxa]; exact hp.unclaimed x hx'

theorem v2_LPost_withdraw {g g' : GCore} {p : LProj} (hp : LPost g p) (hprice : 0 < g.core.price)
    (h1 : g'.core.nrWinning = g.core.nrWinning) (h2 : g'.core.claimable = 0)
    {sur : Nat}
    (hsur : sur = if p.totalDeposited = 0 then 0
      else p.totalDeposited - g.core.claimable / g.core.price * p.perTicket)
    (hle : sur ≤ p.lpBal) :
    LPost g' { p with lpBal := p.lpBal - sur, totalDeposited := 0 } := by
  obtain ⟨L, hnd, hout, hAB⟩ := hp.led
  refine ⟨⟨L, hnd, hout, Or.inr ⟨rfl, h2, ?_⟩⟩, hp.le, hp.unclaimed⟩
  show p.lpBal - sur + sumOver p.userClaimed L = p.perTicket * g'.core.nrWinning + sumOver p.userTotal L
  rw [h1]
  rcases hAB with ⟨a1, W, w1, w2, w3⟩ | ⟨b1, b2, b3⟩
  · have hdiv : g.core.claimable / g.core.price = W := by
      rw [w1]; exact Nat.mul_div_cancel_left W hprice
    rw [hdiv] at hsur
    by_cases hd : p.totalDeposited = 0
    · rw [if_pos hd] at hsur
      omega
    · rw [if_neg hd] at hsur
      omega
  · rw [b1] at hsur
    simp only [if_true] at hsur
    omega

theorem LPI.pay {g : GCore} {p : LProj} (h : LPI g p) (hadd : g.core.flags.additional = true)
    {a c : Nat} (hc : c ≤ p.lpBal) (hle : p.userClaimed a + c ≤ p.userTotal a) :
    LPI g { p with lpBal := p.lpBal - c,
                   userClaimed := upd p.userClaimed a (p.userClaimed a + c) } :=
  ⟨h.sched,
    h.nodep_le rfl (fun _ => Nat.le_refl _) (Nat.sub_le _ _) (Nat.le_refl _)
      (fun _ => Nat.le_add_right _ _)
      (v2_upd_le (fun _ => Nat.le_add_right _ _) (Nat.add_le_add_left hc _))
      (fun hq => ⟨hq, Nat.le_refl _⟩),
    fun hq => Bool.noConfusion (hq.symm.trans hadd), fun _ => v2_LPost_pay (h.post hadd) hc hle⟩

/-- the invariant under the first claim of `a`: settlement with `k` winning tickets (the projection
    moves from `g` to `g'`), then the first instalment `c` -/
theorem LPI.settle_pay {g g' : GCore} {p : LProj} (h : LPI g p)
    (hadd : g.core.flags.additional = true) (hadd' : g'.core.flags.additional = true) {a k c : Nat}
    (hcl : p.claimed a = false) (hk : k ≤ g.core.nrWinning) (hkc : k ≤ g.core.confirmed a)
    (h1 : g'.core.nrWinning = g.core.nrWinning - k) (h2 : g'.core.claimable = g.core.claimable)
    (h3 : g'.core.price = g.core.price) (hconf : ∀ x, g'.core.confirmed x ≤ g.core.confirmed x)
    (hc : c ≤ p.lpBal) (hle : p.userClaimed a + c ≤ k * p.perTicket) :
    LPI g' { p with lpBal := p.lpBal - c,
                    userTotal := upd p.userTotal a (k * p.perTicket),
                    userClaimed := upd p.userClaimed a (p.userClaimed a + c),
                    claimed := upd p.claimed a true } := by
  refine ⟨h.sched, h.nodep_le rfl hconf (Nat.sub_le _ _) (Nat.le_refl _) ?_ ?_ ?_,
    fun hq => Bool.noConfusion (hq.symm.trans hadd'),
    fun _ => v2_LPost_pay (v2_LPost_settle (h.post hadd) hcl hk h1 h2 h3) hc ?_⟩
  · exact v2_upd_le (fun _ => Nat.le_add_right _ _)
      (Nat.le_trans (Nat.mul_le_mul_right _ hkc) (Nat.le_add_left _ _))
  · exact v2_upd_le (fun _ => Nat.le_add_right _ _) (Nat.add_le_add_left hc _)
  · exact fun _ => ⟨hadd, h1 ▸ Nat.sub_le _ _⟩
  · show p.userClaimed a + c ≤ upd p.userTotal a (k * p.perTicket) a
    rw [upd_same]; exact hle

theorem LPI.withdraw {g g' : GCore} {p : LProj} (h : LPI g p)
    (hadd : g.core.flags.additional = true) (hadd' : g'.core.flags.additional = true)
    (hprice : 0 < g.core.price) (hconf : ∀ x, g'.core.confirmed x ≤ g.core.confirmed x)
    (h1 : g'.core.nrWinning = g.core.nrWinning) (h2 : g'.core.claimable = 0) {sur : Nat}
    (hsur : sur = if p.totalDeposited = 0 then 0
      else p.totalDeposited - g.core.claimable / g.core.price * p.perTicket)
    (hle : sur ≤ p.lpBal) : LPI g' { p with lpBal := p.lpBal - sur, totalDeposited := 0 } :=
  ⟨h.sched,
    h.nodep_le rfl hconf (Nat.sub_le _ _) (Nat.zero_le _) (fun _ => Nat.le_add_right _ _)
      (fun _ => Nat.le_add_right _ _) (fun _ => ⟨hadd, Nat.le_of_eq h1⟩),
    fun hq => Bool.noConfusion (hq.symm.trans hadd'),
    fun _ => v2_LPost_withdraw (h.post hadd) hprice h1 h2 hsur hle⟩

/-- launchpad tokens the owner takes back: the deposit minus the winners' share -/
def ownSurplus (s : State) : Nat :=
  if s.totalDeposited = 0 then 0
  else s.totalDeposited - s.claimablePayment / s.price * s.perTicket

/-- `ownSurplus` is the truncated difference `claimPaymentOwn` sends back -/
theorem ownSurplus_eq (s : State) :
    ownSurplus s = s.totalDeposited - s.claimablePayment / s.price * s.perTicket := by
  unfold ownSurplus
  split
  · rename_i h0; rw [h0, Nat.zero_sub]
  · rfl

theorem ownSurplus_zero {s : State} (h : s.totalDeposited = 0) : ownSurplus s = 0 := by
  unfold ownSurplus; rw [if_pos h]

theorem v2_sumOver_sub {f g : Nat → Nat} (hle : ∀ a, g a ≤ f a) (L : List Nat) :
    sumOver (fun a => f a - g a) L + sumOver g L = sumOver f L := by
  induction L with
  | nil => rfl
  | cons a rest ih =>
    simp only [sumOver]
    have := hle a
    omega

/-- cases A and B of `LPost` as one equation: the balance is the owner's surplus, plus the
    launchpad tokens of the unsettled winners, plus what the settled are still owed.  In case A
    the recorded proceeds `price × W` give back `W` by division (`price > 0`). -/
theorem LPost.exact_with {g : GCore} {p : LProj} (hp : LPost g p) (hprice : 0 < g.core.price) (a : Nat) :
    ∃ L : List Nat, a ∈ L ∧ L.Nodup ∧ (∀ x, x ∉ L → p.userTotal x = 0 ∧ p.userClaimed x = 0) ∧
      p.lpBal = (if p.totalDeposited = 0 then 0
          else p.totalDeposited - g.core.claimable / g.core.price * p.perTicket)
        + p.perTicket * g.core.nrWinning + sumOver (fun x => p.userTotal x - p.userClaimed x) L := by
  obtain ⟨L, haL, hnd, hout, hAB⟩ := v2_LPost_with hp a
  have hgap := v2_sumOver_sub hp.le L
  refine ⟨L, haL, hnd, hout, ?_⟩
  rcases hAB with ⟨a1, W, w1, w2, w3⟩ | ⟨b1, _, b3⟩
  · rw [w1, Nat.mul_div_cancel_left W hprice]
    split <;> omega
  · rw [if_pos b1]
    omega

theorem vv_lp_exact_with {T0 : Nat} {s : State} {r : Nat} (h : WF2 T0 s r) (hd : AllDone s)
    (a : Nat) :
    ∃ L : List Nat, a ∈ L ∧ L.Nodup ∧ (∀ x, x ∉ L → s.userTotal x = 0 ∧ s.userClaimed x = 0) ∧
      s.bal (.esdt s.lpTok) 0 = ownSurplus s + s.perTicket * s.nrWinning
        + sumOver (fun x => s.userTotal x - s.userClaimed x) L :=
  (h.lp.post hd.2).exact_with h.pricePos a

/-- coverage read off the closed form: the balance covers the owner's surplus, every unsettled
    winner's tokens and whatever any one participant is still owed -/
theorem vv_lp_covered {T0 : Nat} {s : State} {r : Nat} (h : WF2 T0 s r) (hd : AllDone s) (a : Nat) :
    ownSurplus s + s.perTicket * s.nrWinning + (s.userTotal a - s.userClaimed a)
      ≤ s.bal (.esdt s.lpTok) 0 := by
  obtain ⟨L, haL, _, _, heq⟩ := vv_lp_exact_with h hd a
  have := rb_le_sumOver (fun x => s.userTotal x - s.userClaimed x) L a haL
  rw [heq]
  exact Nat.add_le_add_left this _

theorem v2_claim_phaseF {g : GCore} (hF : PhF g) {a : Nat} {rg : Range} (hrg : g.core.range a = some rg)
    {bt : Nat → Option Batch} {pb : Nat}
    (hpb : pb = g.core.payBal - g.core.price *
      (g.core.confirmed a - (clearRange g.core.status g.core.posToId rg.first (rangeLen rg)).2.2)) :
    PhF { g with core := claimCore g.core a rg bt pb } := by
  have hD' := rb_claim_phase hF.d hrg (bt := bt) (pb := pb) hpb
  obtain ⟨hsp1, _, _⟩ := rb_clearRange_spec g.core.status g.core.posToId rg.first (rangeLen rg)
  refine ⟨hD', hF.add, ?_, ?_⟩
  · intro t ht
    have ht' : (clearRange g.core.status g.core.posToId rg.first (rangeLen rg)).1 t = true := ht
    rw [hsp1] at ht'
    split at ht'
    · cases ht'
    · exact hF.flagsIn t ht'
  · intro u st r hu hr
    have hr' : upd g.core.range a none u = some r := hr
    have hua : u ≠ a := by
      intro hh; subst hh; rw [upd_same] at hr'; cases hr'
    rw [upd_other _ _ _ _ hua] at hr'
    show (calcV2 st.infos (upd g.core.confirmed a 0 u)).1 ≤
      countWinning (clearRange g.core.status g.core.posToId rg.first (rangeLen rg)).1 r.first (rangeLen r)
    rw [upd_other _ _ _ _ hua]
    have hcw : countWinning (clearRange g.core.status g.core.posToId rg.first (rangeLen rg)).1 r.first
        (rangeLen r) = countWinning g.core.status r.first (rangeLen r) := by
      apply countWinning_congr
      intro t h1 h2
      rw [hsp1]
      obtain ⟨hfb, _⟩ := hF.d.rngOk u r hr'
      obtain ⟨hfa, _⟩ := hF.d.rngOk a rg hrg
      have hd := hF.d.disj a u rg r (Ne.symm hua) hrg hr'
      have : rangeLen r = r.last + 1 - r.first := rfl
      have : rangeLen rg = rg.last + 1 - rg.first := rfl
      rw [if_neg (by omega)]
    rw [hcw]
    exact hF.hon u st r hu hr'

theorem v2_claim {T0 : Nat} {hash : List Nat → List Nat} {s s' : State} {e : Env} {o : Out}
    {r : Nat} (h : WF2 T0 s r) (hr : r ≤ e.round)
    (hs : step hash s e .claim = .ok (s', o)) : WF2 T0 s' e.round := by
  obtain ⟨t, hx, rfl⟩ := step_np rfl hs
  obtain ⟨hvest, _, hv2, _⟩ := v2_flags h.var
  simp only [exec, rbTx_s, hvest, if_true] at hx
  have hl := h.lp
  have hne : Token.esdt s.lpTok ≠ s.payTok := fun hh => h.tokNe hh.symm
  -- somebody has settled or is settling: the distribution is complete
  have hadd : s.flags.additional = true := by
    cases hq : s.flags.additional with
    | true => rfl
    | false =>
      have hfr : s.claimed e.caller = false := ((hl.pre hq).fresh e.caller).2.2
      rcases v2_claimVested_cases hv2 (fun _ => ((hl.pre hq).fresh e.caller).1) hx with
        ⟨hcl, _⟩ | ⟨_, hst, _⟩
      · rw [hfr] at hcl; cases hcl
      · exact (stage_claim_iff.mp hst).1.2 ▸ hq.symm ▸ rfl
  have hpost := hl.post hadd
  rcases v2_claimVested_cases hv2 (hpost.unclaimed e.caller) hx with
    ⟨hcl, c, hcl2, hcle, hts⟩ | ⟨hcl, hst, rg, B, c, hrg, hle, hBle, hBo, hBpay, hcl2, hcle, hts⟩
  · -- a further instalment
    have hlec : s.userClaimed e.caller + c ≤ s.userTotal e.caller :=
      v2_claimable2_le hcl2 hl.sched (hpost.le e.caller)
    have hw := wait_WF2 h hr
    rw [hts]
    refine hw.transfer ?_ ?_ rfl rfl rfl rfl rfl
      (fun k h1 h2 => (Bal.sub_off s.bal 0 c 0 h2).trans (h.balOther k h1 h2)) hw.tlConf hw.tlStarted
    · show (⟨{ s.core with payBal := (s.bal.sub (.esdt s.lpTok) 0 c) s.payTok 0 }, s.whitelist, s.uts,
          s.totalGuaranteed⟩ : GCore) = s.gcore
      rw [Bal.sub_off _ _ _ _ h.tokNe]; rfl
    · show LPI s.gcore { s.lproj with
          lpBal := (s.bal.sub (.esdt s.lpTok) 0 c) (.esdt s.lpTok) 0,
          userClaimed := upd s.userClaimed e.caller (s.userClaimed e.caller + c) }
      rw [Bal.sub_at]
      exact hl.pay hadd hcle hlec
  · -- the first claim: settlement, refund, first instalment
    obtain ⟨_, hc1, hc2, _⟩ := stage_claim_iff.mp hst
    have hF : PhF s.gcore := v2_phase_F h.phase hadd
    have huc0 : s.userClaimed e.caller = 0 :=
      Nat.le_zero.mp (hpost.unclaimed e.caller hcl ▸ hpost.le e.caller)
    have hBlp : B (.esdt s.lpTok) 0 = s.bal (.esdt s.lpTok) 0 := hBo _ _ hne
    have hpb : (B.sub (.esdt s.lpTok) 0 c) s.payTok 0
        = s.bal s.payTok 0 - s.price * (s.confirmed e.caller - redeemOf s rg) := by
      rw [Bal.sub_off _ _ _ _ h.tokNe]; exact hBpay
    have hk : redeemOf s rg ≤ s.nrWinning := hF.d.redeem_le hrg
    have hlec : s.userClaimed e.caller + c
        ≤ upd s.userTotal e.caller (redeemOf s rg * s.perTicket) e.caller :=
      v2_claimable2_le hcl2 hl.sched (by
        show s.userClaimed e.caller ≤ _
        rw [huc0]; exact Nat.zero_le _)
    rw [upd_same] at hlec
    rw [hBlp] at hcle
    rw [hts]
    refine h.of_started rfl rfl rfl rfl ?_ rfl ⟨hc1, hc2⟩ hF.d.started
      (Or.inr (Or.inr (v2_claim_phaseF (g := s.gcore) hF hrg hpb))) ?_
    · intro k h1 h2
      show (B.sub (.esdt s.lpTok) 0 c) k 0 = 0
      have := hBle k 0
      rw [Bal.sub_off _ _ _ _ h2]
      rw [h.balOther k h1 h2] at this
      exact Nat.le_zero.mp this
    · show LPI _ { s.lproj with
          lpBal := (B.sub (.esdt s.lpTok) 0 c) (.esdt s.lpTok) 0,
          userTotal := upd s.userTotal e.caller (redeemOf s rg * s.perTicket),
          userClaimed := upd s.userClaimed e.caller (s.userClaimed e.caller + c),
          claimed := upd s.claimed e.caller true }
      rw [Bal.sub_at, hBlp]
      exact hl.settle_pay hadd hadd hcl hk hle rfl rfl rfl
        (v2_upd_le (fun _ => Nat.le_refl _) (Nat.zero_le _)) hcle hlec

/-- `claimPaymentOwn_out` with `ownSurplus`, the launchpad-token guard read on the balance the call
    started with (`payTok ≠ lpTok`) -/
theorem v2_claimPaymentOwn_state {hash : List Nat → List Nat} {s : State} {e : Env} {t : Tx}
    (hv : s.variant.vested = true) (hne : s.payTok ≠ .esdt s.lpTok)
    (h : exec hash (rbTx s e) e .claimPayment = .ok t) :
    s.stage e = .claim ∧ s.claimablePayment ≤ s.bal s.payTok 0 ∧
    ownSurplus s ≤ s.bal (.esdt s.lpTok) 0 ∧
    t.s = { s with bal := (s.bal.sub s.payTok 0 s.claimablePayment).sub (.esdt s.lpTok) 0 (ownSurplus s),
                   claimablePayment := 0, totalDeposited := 0 } := by
  simp only [exec, rbTx_s, hv, if_true] at h
  obtain ⟨hst, hle, hsur, hts, _⟩ := claimPaymentOwn_out h
  rw [rbTx_s] at hst hle hsur hts
  rw [Bal.sub_off _ _ _ _ (fun hh => hne hh.symm), ← ownSurplus_eq] at hsur
  rw [← ownSurplus_eq] at hts
  exact ⟨hst, hle, hsur, hts⟩

theorem v2_claimPayment {T0 : Nat} {hash : List Nat → List Nat} {s s' : State} {e : Env} {o : Out}
    {r : Nat} (h : WF2 T0 s r)
    (hs : step hash s e .claimPayment = .ok (s', o)) : WF2 T0 s' e.round := by
  obtain ⟨t, hx, rfl⟩ := step_np rfl hs
  obtain ⟨hvest, _, hv2, _⟩ := v2_flags h.var
  obtain ⟨hst, hle1, hle2, hts⟩ := v2_claimPaymentOwn_state hvest h.tokNe hx
  obtain ⟨⟨_, hadd⟩, hc1, hc2, _⟩ := stage_claim_iff.mp hst
  have hF : PhF s.gcore := v2_phase_F h.phase hadd
  have hl := h.lp
  have hne : Token.esdt s.lpTok ≠ s.payTok := fun hh => h.tokNe hh.symm
  have hpb : ((s.bal.sub s.payTok 0 s.claimablePayment).sub (.esdt s.lpTok) 0 (ownSurplus s)) s.payTok 0
      = s.bal s.payTok 0 - s.claimablePayment := by
    rw [Bal.sub_off _ _ _ _ h.tokNe, Bal.sub_at]
  have hbl : ((s.bal.sub s.payTok 0 s.claimablePayment).sub (.esdt s.lpTok) 0 (ownSurplus s))
      (.esdt s.lpTok) 0 = s.bal (.esdt s.lpTok) 0 - ownSurplus s := by
    rw [Bal.sub_at, Bal.sub_off _ _ _ _ hne]
  rw [hts]
  refine h.of_started rfl rfl rfl rfl ?_ rfl ⟨hc1, hc2⟩ hF.d.started
    (Or.inr (Or.inr ⟨hF.d.withdraw hpb, hF.add, hF.flagsIn, hF.hon⟩)) ?_
  · intro k h1 h2
    show ((s.bal.sub s.payTok 0 s.claimablePayment).sub (.esdt s.lpTok) 0 (ownSurplus s)) k 0 = 0
    rw [Bal.sub_off _ _ _ _ h2, Bal.sub_off _ _ _ _ h1]; exact h.balOther k h1 h2
  · show LPI _ { s.lproj with
        lpBal := ((s.bal.sub s.payTok 0 s.claimablePayment).sub (.esdt s.lpTok) 0 (ownSurplus s))
          (.esdt s.lpTok) 0,
        totalDeposited := 0 }
    rw [hbl]
    refine hl.withdraw hadd ?_ h.pricePos ?_ ?_ ?_ (sur := ownSurplus s) rfl hle2
    · exact hadd
    · exact fun _ => Nat.le_refl _
    · rfl
    · rfl

end LP

/-
  The histories are `Reach`/`ReachA` of LP/Proofs/ReachPlain.lean, instantiated at `.guarV2`;
  `CallOK` puts no condition on `addTicketsV2`: v2 skips zero-size entries itself.
-/
namespace LP
open LP.FY

/-- once every selection step is complete (and, as then always, the filter is done and both start
    rounds are reached), the dispatcher and the acceptance table (`late_calls`) leave only the administrative
    calls, `deposit`, `claim` and `claimPayment` -/
theorem v2_done_calls {hash : List Nat → List Nat} {s s' : State} {e : Env} {c : Call} {o : Out}
    (hv : s.variant = .guarV2) (hd : AllDone s) (hfil : s.flags.filtered = true)
    (hc1 : s.cfg.conf ≤ e.round) (hc2 : s.cfg.sel ≤ e.round)
    (hs : step hash s e c = .ok (s', o)) :
    c.isAdmin = true ∨ c = .deposit ∨ c = .claim ∨ c = .claimPayment := by
  have hex : c.exposedIn .guarV2 = true := hv ▸ step_exposed hs
  have hst : s.stage e ≠ .addTickets ∧ s.stage e ≠ .confirm :=
    ⟨fun hh => by have := rb_stage_addTickets hh; omega,
      fun hh => by have := (rb_stage_confirm hh).2; omega⟩
  rcases late_calls hfil hst hs with hl | ⟨_, hq⟩ | ⟨_, hq⟩
  · cases c with
    | setSupport _ | pause | unpause | setConfStart _ | setSelStart _ | setClaimStart _ =>
      exact Or.inl rfl
    | deposit => exact Or.inr (Or.inl rfl)
    | claim => exact Or.inr (Or.inr (Or.inl rfl))
    | claimPayment => exact Or.inr (Or.inr (Or.inr rfl))
    | setSchedule1 _ _ _ _ _ | sftSetup => exact (Bool.false_ne_true hex).elim
    | _ => cases hl
  · exact absurd (hd.1.symm.trans hq) nofun
  · exact absurd (hd.2.symm.trans hq) nofun

theorem call_WF2 {T0 : Nat} {hash : List Nat → List Nat} {s s' : State} {e : Env} {c : Call} {o : Out}
    {r : Nat} (h : WF2 T0 s r) (hr : r ≤ e.round) (hok : EnvOK e)
    (hs : step hash s e c = .ok (s', o)) : WF2 T0 s' e.round := by
  have hex : c.exposedIn .guarV2 = true := h.var ▸ step_exposed hs
  cases c with
  | addTicketsV2 l => exact v2_addTickets h hr hs
  | deposit => exact v2_deposit h hr hok hs
  | setTicketPrice tok a => exact v2_setTicketPrice h hr hs
  | setPerTicket a => exact v2_setPerTicket h hr hs
  | setConfStart _ | setSelStart _ | setClaimStart _ | setSupport _ | pause | unpause =>
    exact v2_admin h hr rfl hs
  | confirm n => exact v2_confirm h hr hok hs
  | filter => exact v2_filter h hs
  | select => exact v2_select h hs
  | claim => exact v2_claim h hr hs
  | claimPayment => exact v2_claimPayment h hs
  | blacklist l => exact v2_blacklist h hr hs
  | refundUsers l => exact v2_refundUsers h hr hs
  | unblacklist l => exact v2_unblacklist h hr hs
  | distribute => exact v2_distribute h hs
  | setSchedule2 l => exact v2_setSchedule2 h hr hs
  | _ => exact (Bool.false_ne_true hex).elim

theorem reach_WF2 {hash : List Nat → List Nat} {a0 : InitArgs} {s : State} {r : Nat}
    (h : ReachA hash .guarV2 a0 s r) : WF2 a0.nrWinning s r := by
  induction h with
  | init e s h => exact init_WF2 h
  | call s r e c s' o _ h1 h2 _ h4 ih => exact call_WF2 ih h1 h2 h4
  | wait s r r' _ h1 ih => exact wait_WF2 ih h1

end LP

#print axioms LP.init_WF2
#print axioms LP.call_WF2
#print axioms LP.reach_WF2
