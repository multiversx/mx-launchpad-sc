import LP.Proofs.ReachPlain
import LP.Proofs.NftDraw
import LP.Props.C02
import LP.Props.C07
import LP.Props.C09
import LP.Props.C16
import LP.Proofs.FieldFrames
/-
  The launchpad-token side of the two plain launchpads (`Variant.base`, `Variant.locked`; prefix
  `pl_`): what one accepted call does to the view `pl_view s` = (perTicket, deposited, filtered,
  selected, nrWinning, bal lpTok).  `pl_Tr K v v'` lists the seven ways the view can move, tagged
  with the kind `K` of endpoint; `pl_step_Tr`: every accepted call makes one of them, whatever its
  arguments, call value or round.  `pl_Base`: the static facts every accepted call keeps.
  On the moves, in the second half: the launchpad-token invariant `pl_Lp`, kept by every accepted call.
-/
namespace LP
open LP.FY LP.Events LP.Props.C09

structure pl_Base (s : State) : Prop where
  var : Plain s.variant
  tokNe : s.payTok ≠ .esdt s.lpTok
  perPos : 0 < s.perTicket
  pct : s.lockPct ≤ 10000

/-- every accepted call keeps `0 < perTicket` (`setPerTicket` checks it) -/
theorem pl_step_perPos {hash : List Nat → List Nat} {s s' : State} {e : Env} {c : Call} {o : Out}
    (h : step hash s e c = .ok (s', o)) (hp : 0 < s.perTicket) : 0 < s'.perTicket := by
  by_cases hc : ∃ a, c = .setPerTicket a
  · obtain ⟨a, rfl⟩ := hc
    obtain ⟨_, h2, _, _, h5⟩ := setPerTicket_terms h
    rw [h2]; exact h5
  · rw [perTicket_frame h (fun a hp => hc ⟨a, hp⟩)]
    exact hp

theorem pl_step_Base {hash : List Nat → List Nat} {s s' : State} {e : Env} {c : Call} {o : Out}
    (hB : pl_Base s) (h : step hash s e c = .ok (s', o)) : pl_Base s' :=
  ⟨by rw [step_variant h]; exact hB.var, step_tokNe h hB.tokNe, pl_step_perPos h hB.perPos,
    by rw [step_lockPct h]; exact hB.pct⟩

theorem pl_init_Base {v : Variant} (hv : Plain v) {a : InitArgs} {e : Env} {s : State}
    (h : init v a e = .ok s) : pl_Base s := by
  obtain ⟨hok, rfl⟩ := init_ok h
  refine ⟨hv, hok.tokNe, hok.perTicket, ?_⟩
  rcases hv with rfl | rfl
  · exact Nat.zero_le _
  · exact (hok.lock rfl).2.1

/-- the fields the launchpad-token ledger reads -/
structure pl_V where
  per : Nat
  dep : Bool
  fil : Bool
  sel : Bool
  nrw : Nat
  bal : Nat

def pl_view (s : State) : pl_V :=
  ⟨s.perTicket, s.deposited, s.flags.filtered, s.flags.selected, s.nrWinning, s.bal (.esdt s.lpTok) 0⟩

theorem pl_view_eq {s s' : State} (h1 : s'.perTicket = s.perTicket) (h2 : s'.deposited = s.deposited)
    (h3 : s'.flags.filtered = s.flags.filtered) (h4 : s'.flags.selected = s.flags.selected)
    (h5 : s'.nrWinning = s.nrWinning) (h6 : s'.bal (.esdt s'.lpTok) 0 = s.bal (.esdt s.lpTok) 0) :
    pl_view s' = pl_view s := by
  unfold pl_view
  rw [h1, h2, h3, h4, h5, h6]

/-- which endpoint made the move: the filter, the owner's withdrawal, or any other -/
inductive pl_K where
  | other | filt | cp
  deriving DecidableEq

def pl_kind : Call → pl_K
  | .filter => .filt
  | .claimPayment => .cp
  | _ => .other

/-- the moves of the view (tagged with the kind of endpoint that can make them):
    `same` nothing moves; `select` the selection completes (only after the filter);
    `setPer` the owner changes the tokens per ticket (only before the deposit);
    `deposit` THE deposit: exactly `perTicket × nrWinning` launchpad tokens come in;
    `filter` the filter completes: `nrWinning` may only drop;
    `claim` a participant with `w` winning tickets settles: `w × perTicket` launchpad tokens leave
            and `nrWinning` drops by `w`;
    `withdraw` the owner withdraws: exactly `perTicket × nrWinning` stay -/
inductive pl_Tr : pl_K → pl_V → pl_V → Prop
  | same (k : pl_K) (v : pl_V) : pl_Tr k v v
  | select (v : pl_V) : v.fil = true → pl_Tr .other v { v with sel := true }
  | setPer (v : pl_V) (a : Nat) : v.dep = false → 0 < a → pl_Tr .other v { v with per := a }
  | deposit (v : pl_V) : v.dep = false →
      pl_Tr .other v { v with dep := true, bal := v.bal + v.per * v.nrw }
  | filter (v : pl_V) (n : Nat) : v.fil = false → n ≤ v.nrw →
      pl_Tr .filt v { v with fil := true, nrw := n }
  | claim (v : pl_V) (w : Nat) : v.sel = true → w ≤ v.nrw → w * v.per ≤ v.bal →
      pl_Tr .other v { v with nrw := v.nrw - w, bal := v.bal - w * v.per }
  | withdraw (v : pl_V) : v.sel = true → v.per * v.nrw ≤ v.bal →
      pl_Tr .cp v { v with bal := v.per * v.nrw }

theorem pl_credit_single {s : State} {e : Env} {id amt : Nat}
    (h : singleFungible e = .ok (.esdt id, amt)) :
    (creditPayments s e).bal (.esdt id) 0 = s.bal (.esdt id) 0 + amt := by
  rw [creditPayments_single s (singleFungible_ok h)]
  show ((s.bal.add .egld 0 e.egld).add (.esdt id) 0 amt) (.esdt id) 0 = _
  rw [Bal.add_at, Bal.add_off _ _ _ _ (by nofun)]

/-- the call value of an accepted confirmation never touches the launchpad-token slot (whatever
    else the caller attached) -/
theorem pl_credit_confirm {s : State} {e : Env} {amt : Nat} (hne : s.payTok ≠ .esdt s.lpTok)
    (h : egldOrSingleFungible e = .ok (s.payTok, amt)) :
    (creditPayments s e).bal (.esdt s.lpTok) 0 = s.bal (.esdt s.lpTok) 0 := by
  unfold egldOrSingleFungible at h
  split at h
  · rename_i hp
    unfold creditPayments
    simp only [hp, List.foldl_nil]
    simp [Bal.add]
  · rename_i p hp
    split at h
    · rename_i hn
      simp only [Except.ok.injEq, Prod.mk.injEq] at h
      obtain ⟨h1, _⟩ := h
      unfold creditPayments
      simp only [hp, List.foldl_cons, List.foldl_nil, hn, h1]
      have : ¬ (Token.esdt s.lpTok = s.payTok) := fun hh => hne hh.symm
      simp [Bal.add, this]
    · cases h
  · cases h

section exact
variable {hash : List Nat → List Nat} {s s' : State} {e : Env} {o : Out}

theorem pl_maxWinners (hv : Plain s.variant) : LP.Props.C02.maxWinners s = s.nrWinning := by
  unfold LP.Props.C02.maxWinners reservedForDeposit
  rw [(rb_plain_flags hv).2.2.2.2]
  simp

/-- **the deposit, exactly**: the owner, no earlier deposit, one fungible transfer of exactly
    `perTicket × nrWinning` launchpad tokens; the launchpad-token balance grows by exactly that;
    nothing is sent out -/
theorem pl_deposit_exact (hv : Plain s.variant) (hs : step hash s e .deposit = .ok (s', o)) :
    e.caller = s.owner ∧ s.deposited = false ∧
    singleFungible e = .ok (.esdt s.lpTok, s.perTicket * s.nrWinning) ∧
    s' = { creditPayments s e with deposited := true, totalDeposited := s.perTicket * s.nrWinning } ∧
    s'.bal (.esdt s'.lpTok) 0 = s.bal (.esdt s.lpTok) 0 + s.perTicket * s.nrWinning ∧
    o.xfers = [] := by
  obtain ⟨h1, h2, h3⟩ := (LP.Props.C02.deposit_accepted_iff hash s e).mp ⟨_, hs⟩
  obtain ⟨h4, h5, _⟩ := LP.Props.C02.deposit_effect hash s s' e o hs
  rw [pl_maxWinners hv] at h3 h4
  refine ⟨h1, h2, h3, h4, ?_, h5⟩
  rw [h4]
  exact pl_credit_single h3

theorem pl_balAfterClaim_lp (hne : s.payTok ≠ .esdt s.lpTok) (a : Nat) :
    balAfterClaim s a (.esdt s.lpTok) 0 = s.bal (.esdt s.lpTok) 0 - winCount s a * s.perTicket := by
  have hne' : ¬ (Token.esdt s.lpTok = s.payTok) := fun hh => hne hh.symm
  unfold balAfterClaim
  simp [Bal.sub, hne']

/-- **a settlement, the state**: an accepted `claim` of a plain launchpad (base or locked) is
    accepted under `ClaimAccepts` and leaves the settled state with the refund and the
    `winning × perTicket` launchpad tokens deducted -/
theorem pl_claim_state (hB : pl_Base s) (hs : step hash s e .claim = .ok (s', o)) :
    ∃ r, ClaimAccepts s e r ∧
      s' = { settledState s e.caller r with bal := balAfterClaim s e.caller } := by
  rcases hB.var with hv | hv
  · obtain ⟨r, h1, h2, _⟩ := (claim_base_iff hash s e s' o (by rw [hv]; rfl) (by rw [hv]; rfl)
      (by rw [hv]; rfl)).mp hs
    exact ⟨r, h1, h2⟩
  · obtain ⟨r, _, _, h1, h2, _⟩ := claim_lock_effect hash s e s' o (by rw [hv]; rfl) (by rw [hv]; rfl)
      hB.pct hs
    exact ⟨r, h1, h2⟩

theorem pl_claimAccepts_lp (hne : s.payTok ≠ .esdt s.lpTok) {r : Range} (h : ClaimAccepts s e r) :
    s.stage e = .claim ∧ s.range e.caller = some r ∧ winCount s e.caller ≤ s.nrWinning ∧
    winCount s e.caller * s.perTicket ≤ s.bal (.esdt s.lpTok) 0 := by
  obtain ⟨_, _, h3, _, h5, h6, _, _, h9⟩ := h
  have hne' : ¬ (Token.esdt s.lpTok = s.payTok) := fun hh => hne hh.symm
  refine ⟨h3, h5, h6, ?_⟩
  simpa [Bal.sub, hne'] using h9

theorem pl_claimPayment_exact (hB : pl_Base s) (hs : step hash s e .claimPayment = .ok (s', o)) :
    e.caller = s.owner ∧ s.stage e = .claim ∧ s.claimablePayment ≤ s.bal s.payTok 0 ∧
    s.perTicket * s.nrWinning ≤ s.bal (.esdt s.lpTok) 0 ∧
    s' = { s with claimablePayment := 0,
                  bal := ((s.bal.sub s.payTok 0 s.claimablePayment).sub (.esdt s.lpTok) 0
                    (s.bal (.esdt s.lpTok) 0 - s.perTicket * s.nrWinning)) } ∧
    o.xfers = (if s.claimablePayment > 0 then [(e.caller, (⟨s.payTok, 0, s.claimablePayment⟩ : Pay))] else [])
      ++ (if s.bal (.esdt s.lpTok) 0 - s.perTicket * s.nrWinning > 0
          then [(e.caller, (⟨.esdt s.lpTok, 0, s.bal (.esdt s.lpTok) 0 - s.perTicket * s.nrWinning⟩ : Pay))]
          else []) ∧
    o.locks = [] := by
  have how := step_claimPayment_owner hs
  obtain ⟨t, hx, rfl, rfl⟩ := step_np_out rfl hs
  obtain ⟨hv1, hv2, _⟩ := rb_plain_flags hB.var
  obtain ⟨hok, hts, hxf⟩ := exec_claimPayment_out hx
  rw [rbTx_s] at hok hts hxf
  have hlp : (s.bal.sub s.payTok 0 s.claimablePayment) (.esdt s.lpTok) 0 = s.bal (.esdt s.lpTok) 0 :=
    Bal.sub_off _ _ _ _ (fun hh => hB.tokNe hh.symm)
  have hsur : surplusOut s = s.bal (.esdt s.lpTok) 0 - s.perTicket * s.nrWinning := by
    unfold surplusOut
    rw [if_neg (by rw [hv1]; nofun), hlp]
  have hcov := hok.cover hv1
  rw [hlp] at hcov
  refine ⟨how, hok.stage, hok.proceeds, hcov, ?_, ?_, ?_⟩
  · rw [hts, paymentState, if_neg (by rw [hv2]; nofun), fungibleState, hsur]
    simp only [hv1, Bool.false_eq_true, if_false]
  · rw [hxf, paymentXfers_noNft hv2, hsur]
    exact List.nil_append _
  · exact ((exec_locks_sfts hx).1.trans (List.append_nil _))

end exact

section calls
variable {hash : List Nat → List Nat} {s s' : State} {e : Env} {o : Out}

theorem pl_tr_admin {c : Call} (hc : c.isAdmin = true) (hs : step hash s e c = .ok (s', o)) :
    pl_Tr .other (pl_view s) (pl_view s') := by
  obtain ⟨_, _, _, rfl, _⟩ := step_admin hc hs
  exact .same _ _

theorem pl_tr_setTicketPrice {tok : Token} {a : Nat}
    (hs : step hash s e (.setTicketPrice tok a) = .ok (s', o)) : pl_Tr .other (pl_view s) (pl_view s') := by
  obtain ⟨t, hx, rfl⟩ := step_np rfl hs
  rw [(exec_setTicketPrice_s hx).1]
  exact .same _ _

theorem pl_tr_setPerTicket {a : Nat} (hs : step hash s e (.setPerTicket a) = .ok (s', o)) :
    pl_Tr .other (pl_view s) (pl_view s') := by
  obtain ⟨t, hx, rfl⟩ := step_np rfl hs
  obtain ⟨h1, _, h3, h4⟩ := exec_setPerTicket_s hx
  rw [h1]
  exact .setPer (pl_view s) a h3 h4

theorem pl_tr_addTickets {l : List (Nat × Nat)}
    (hs : step hash s e (.addTickets l) = .ok (s', o)) : pl_Tr .other (pl_view s) (pl_view s') := by
  obtain ⟨_, _, _, _, _, _, _, rg, bt, lt, rfl⟩ := createMany_ok l s s' (step_addTickets hs).2
  exact .same _ _

theorem pl_tr_deposit (hv : Plain s.variant) (hs : step hash s e .deposit = .ok (s', o)) :
    pl_Tr .other (pl_view s) (pl_view s') := by
  obtain ⟨_, h2, _, h4, h5, _⟩ := pl_deposit_exact hv hs
  have : pl_view s' = { pl_view s with dep := true, bal := (pl_view s).bal + (pl_view s).per * (pl_view s).nrw } := by
    unfold pl_view
    rw [h5, h4]
    rfl
  rw [this]
  exact .deposit _ h2

theorem pl_tr_confirm {n : Nat} (hne : s.payTok ≠ .esdt s.lpTok)
    (hs : step hash s e (.confirm n) = .ok (s', o)) : pl_Tr .other (pl_view s) (pl_view s') := by
  obtain ⟨total, hacc, rfl, _⟩ := LP.Props.C07.confirm_effect hash s e n s' o hs
  have hb := pl_credit_confirm hne hacc.2.1
  rw [pl_view_eq (s' := { creditPayments s e with
    confirmed := upd s.confirmed e.caller (s.confirmed e.caller + n) }) (s := s) rfl rfl rfl rfl rfl hb]
  exact .same _ _

theorem pl_tr_blacklist {l : List Nat} (hB : pl_Base s)
    (hs : step hash s e (.blacklist l) = .ok (s', o)) : pl_Tr .other (pl_view s) (pl_view s') := by
  obtain ⟨t, hx, rfl⟩ := step_np rfl hs
  obtain ⟨hv1, hv2, hv3, hv4, _⟩ := rb_plain_flags hB.var
  simp only [exec, bind_ok_iff] at hx
  obtain ⟨t1, h1, hx⟩ := hx
  obtain ⟨_, _, _, _, _, rfl⟩ := (addUsersToBlacklist_ok_iff _ _ _ _).mp h1
  have hvar : (blTx (rbTx s e) e l).s.variant = s.variant := rfl
  simp only [hvar, hv2, hv3, hv4, Bool.false_eq_true, if_false, pure_bind, pure_ok_iff] at hx
  subst hx
  have hne' : ¬ (Token.esdt s.lpTok = s.payTok) := fun hh => hB.tokNe hh.symm
  have hb : (blState s l).bal (.esdt (blState s l).lpTok) 0 = s.bal (.esdt s.lpTok) 0 := by
    show (s.bal.sub s.payTok 0 _) (.esdt s.lpTok) 0 = _
    simp [Bal.sub, hne']
  show pl_Tr .other (pl_view s) (pl_view (blState s l))
  rw [pl_view_eq (s' := blState s l) (s := s) rfl rfl rfl rfl rfl hb]
  exact .same _ _

theorem pl_tr_filter (hs : step hash s e .filter = .ok (s', o)) : pl_Tr .filt (pl_view s) (pl_view s') := by
  obtain ⟨t, hx, rfl⟩ := step_np rfl hs
  simp only [exec] at hx
  obtain ⟨hpre, x, f, b, _, hcase⟩ := filterTickets_ok_cases _ _ _ hx
  simp only [rbTx_s] at hcase hpre
  rcases hcase with ⟨_, h1⟩ | ⟨_, _, h1⟩
  · rw [h1]
    rw [pl_view_eq (s' := filterSaved s x f) (s := s) rfl rfl (rb_filterFlags s x.first).1
      (rb_filterFlags s x.first).2.1 rfl rfl]
    exact .same _ _
  · rw [h1]
    have : pl_view (filterDone s x f)
        = { pl_view s with fil := true, nrw := (filterDone s x f).nrWinning } := by
      unfold pl_view filterDone
      simp only [(rb_filterFlags s x.first).2.1]
    rw [this]
    exact .filter _ _ hpre.notFiltered (filterDone_nrWinning_le s x f)

theorem pl_tr_select (hs : step hash s e .select = .ok (s', o)) : pl_Tr .other (pl_view s) (pl_view s') := by
  obtain ⟨t, hx, rfl⟩ := step_np rfl hs
  simp only [exec] at hx
  obtain ⟨_, hfil, _, rng, pos, t0, _, x, b, st, _, hcase⟩ := rb_selectWinners_cases hx
  simp only [rbTx_s] at hcase hfil
  rcases hcase with ⟨_, h1⟩ | ⟨_, h1⟩
  · rw [h1]
    exact .same _ _
  · rw [h1]
    exact .select (pl_view s) hfil

theorem pl_tr_claim (hB : pl_Base s) (hs : step hash s e .claim = .ok (s', o)) :
    pl_Tr .other (pl_view s) (pl_view s') := by
  obtain ⟨r, hacc, hs'⟩ := pl_claim_state hB hs
  obtain ⟨hst, hr, hnw, hle⟩ := pl_claimAccepts_lp hB.tokNe hacc
  have hsel : s.flags.selected = true := (stage_claim_iff.mp hst).1.1
  have hw := winCount_of_range hr
  have : pl_view s' = { pl_view s with
      nrw := (pl_view s).nrw - winCount s e.caller, bal := (pl_view s).bal - winCount s e.caller * (pl_view s).per } := by
    rw [hs']
    unfold pl_view
    show pl_V.mk s.perTicket s.deposited s.flags.filtered s.flags.selected
      (s.nrWinning - countWinning s.status r.first (rangeLen r))
      (balAfterClaim s e.caller (.esdt s.lpTok) 0) = _
    rw [pl_balAfterClaim_lp hB.tokNe, ← hw]
  rw [this]
  exact .claim _ _ hsel hnw hle

theorem pl_tr_claimPayment (hB : pl_Base s) (hs : step hash s e .claimPayment = .ok (s', o)) :
    pl_Tr .cp (pl_view s) (pl_view s') := by
  obtain ⟨_, hst, _, hle, hs', _⟩ := pl_claimPayment_exact hB hs
  have hsel : s.flags.selected = true := (stage_claim_iff.mp hst).1.1
  have hne' : ¬ (Token.esdt s.lpTok = s.payTok) := fun hh => hB.tokNe hh.symm
  have : pl_view s' = { pl_view s with bal := (pl_view s).per * (pl_view s).nrw } := by
    rw [hs']
    unfold pl_view
    simp only [Bal.sub, and_self, if_true, hne', false_and, if_false]
    congr 1
    omega
  rw [this]
  exact .withdraw _ hsel hle

end calls

/-- **every accepted call of a plain launchpad moves the launchpad-token view by one of the seven
    moves** — no restriction on the call, its arguments, its call value or its round -/
theorem pl_step_Tr {hash : List Nat → List Nat} {s s' : State} {e : Env} {c : Call} {o : Out}
    (hB : pl_Base s) (hs : step hash s e c = .ok (s', o)) :
    pl_Tr (pl_kind c) (pl_view s) (pl_view s') := by
  have hex := rb_exposed hB.var hs
  cases c with
  | addTickets l => exact pl_tr_addTickets hs
  | deposit => exact pl_tr_deposit hB.var hs
  | setTicketPrice tok a => exact pl_tr_setTicketPrice hs
  | setPerTicket a => exact pl_tr_setPerTicket hs
  | setConfStart _ | setSelStart _ | setClaimStart _ | setSupport _ | pause | unpause =>
    exact pl_tr_admin rfl hs
  | confirm n => exact pl_tr_confirm hB.tokNe hs
  | filter => exact pl_tr_filter hs
  | select => exact pl_tr_select hs
  | claim => exact pl_tr_claim hB hs
  | claimPayment => exact pl_tr_claimPayment hB hs
  | blacklist l => exact pl_tr_blacklist hB hs
  | _ => exact (Bool.false_ne_true hex).elim

end LP

#print axioms LP.pl_step_Base
#print axioms LP.pl_init_Base
#print axioms LP.pl_deposit_exact
#print axioms LP.pl_claim_state
#print axioms LP.pl_claimPayment_exact
#print axioms LP.pl_step_Tr

/-
  The launchpad-token invariant `pl_Lp T0 s` of the two plain launchpads (`T0` = winning tickets
  given at deployment): `pl_Base`, the numeric part `pl_Num T0 (pl_view s)` and "nobody has a
  confirmed ticket before the deposit".  In `pl_Num.dep`, `bal lpTok = perTicket × (nrWinning + k)`,
  `k` counts the tickets whose tokens are the owner's not-yet-withdrawn surplus: `0` until the
  filter completes (the balance is exactly `perTicket × T0`), then `T0 − nrWinning` (at filter
  completion) until the owner withdraws, then `0` for ever (`pl_Exact`).  Every accepted call keeps
  `pl_Lp` (`pl_step`: no `EnvOK`, no `CallOK`, no round monotonicity), so it holds after any
  history (`pl_run`) and in every state of `Reach hash v s r`, `Plain v` (`pl_reach`).
-/
namespace LP
open LP.FY

structure pl_Num (T0 : Nat) (v : pl_V) : Prop where
  nrwLe : v.nrw ≤ T0
  notFil : v.fil = false → v.nrw = T0 ∧ v.sel = false
  notDep : v.dep = false → v.bal = 0
  dep : v.dep = true → ∃ k, v.bal = v.per * (v.nrw + k) ∧ v.nrw + k ≤ T0 ∧ (v.fil = false → k = 0)

theorem pl_mul_split (per n k w : Nat) (hw : w ≤ n) :
    per * (n + k) = per * (n - w + k) + w * per := by
  rw [Nat.mul_comm w per, ← Nat.mul_add]
  congr 1
  omega

theorem pl_fil_of_sel {T0 : Nat} {v : pl_V} (h : pl_Num T0 v) (hs : v.sel = true) : v.fil = true := by
  cases hf : v.fil with
  | true => rfl
  | false =>
    have := (h.notFil hf).2
    rw [hs] at this; cases this

theorem pl_Tr_Num {T0 : Nat} {K : pl_K} {v v' : pl_V} (h : pl_Num T0 v) (ht : pl_Tr K v v') :
    pl_Num T0 v' := by
  cases ht with
  | same => exact h
  | select _ hf =>
    refine ⟨h.nrwLe, ?_, h.notDep, h.dep⟩
    intro hf'
    have hf'' : v.fil = false := hf'
    rw [hf] at hf''; cases hf''
  | setPer _ a hd ha =>
    refine ⟨h.nrwLe, h.notFil, h.notDep, ?_⟩
    intro hd'
    have hd'' : v.dep = true := hd'
    rw [hd] at hd''; cases hd''
  | deposit _ hd =>
    refine ⟨h.nrwLe, h.notFil, ?_, ?_⟩
    · intro hd'; cases hd'
    · intro _
      refine ⟨0, ?_, h.nrwLe, fun _ => rfl⟩
      show v.bal + v.per * v.nrw = v.per * (v.nrw + 0)
      rw [h.notDep hd]; simp
  | filter _ n hf hn =>
    obtain ⟨hT, _⟩ := h.notFil hf
    refine ⟨by show n ≤ T0; omega, ?_, h.notDep, ?_⟩
    · intro hf'; cases hf'
    · intro hd
      obtain ⟨k, hk, _, hk0⟩ := h.dep hd
      have hk0' := hk0 hf
      subst hk0'
      refine ⟨v.nrw - n, ?_, ?_, ?_⟩
      · show v.bal = v.per * (n + (v.nrw - n))
        rw [hk]; congr 1; omega
      · show n + (v.nrw - n) ≤ T0; omega
      · intro hf'; cases hf'
  | claim _ w hs hw hb =>
    have hfil := pl_fil_of_sel h hs
    refine ⟨by show v.nrw - w ≤ T0; have := h.nrwLe; omega, ?_, ?_, ?_⟩
    · intro hf'
      have hf'' : v.fil = false := hf'
      rw [hfil] at hf''; cases hf''
    · intro hd
      show v.bal - w * v.per = 0
      rw [h.notDep hd]; omega
    · intro hd
      obtain ⟨k, hk, hkT, hk0⟩ := h.dep hd
      refine ⟨k, ?_, ?_, ?_⟩
      · show v.bal - w * v.per = v.per * (v.nrw - w + k)
        have := pl_mul_split v.per v.nrw k w hw
        omega
      · show v.nrw - w + k ≤ T0; omega
      · exact hk0
  | withdraw _ hs hb =>
    refine ⟨h.nrwLe, h.notFil, ?_, ?_⟩
    · intro hd
      show v.per * v.nrw = 0
      have := h.notDep hd
      omega
    · intro _
      exact ⟨0, rfl, h.nrwLe, fun _ => rfl⟩

/-- "the owner's surplus is gone": the filter is complete and, from the deposit on, the contract
    holds EXACTLY the outstanding winners' launchpad tokens -/
def pl_Exact (v : pl_V) : Prop := v.fil = true ∧ (v.dep = true → v.bal = v.per * v.nrw)

theorem pl_Tr_Exact {T0 : Nat} {K : pl_K} {v v' : pl_V} (hN : pl_Num T0 v) (hE : pl_Exact v)
    (ht : pl_Tr K v v') :
    pl_Exact v' := by
  obtain ⟨hf0, hb0⟩ := hE
  cases ht with
  | same => exact ⟨hf0, hb0⟩
  | select _ hf => exact ⟨hf0, hb0⟩
  | setPer _ a hd ha =>
    refine ⟨hf0, ?_⟩
    intro hd'
    have hd'' : v.dep = true := hd'
    rw [hd] at hd''; cases hd''
  | deposit _ hd =>
    refine ⟨hf0, fun _ => ?_⟩
    show v.bal + v.per * v.nrw = v.per * v.nrw
    rw [hN.notDep hd]; simp
  | filter _ n hf hn => rw [hf0] at hf; cases hf
  | claim _ w hs hw hb =>
    refine ⟨hf0, fun hd => ?_⟩
    show v.bal - w * v.per = v.per * (v.nrw - w)
    have h1 := hb0 hd
    have := pl_mul_split v.per v.nrw 0 w hw
    simp only [Nat.add_zero] at this
    omega
  | withdraw _ hs hb => exact ⟨hf0, fun _ => rfl⟩

/-- **the surplus is frozen**: from the deposit and the completion of the filter on, a move that is
    not the owner's withdrawal leaves `bal − perTicket × nrWinning` (the owner's not-yet-withdrawn
    surplus) and `perTicket` unchanged -/
theorem pl_Tr_surplus {T0 : Nat} {K : pl_K} {v v' : pl_V} (hN : pl_Num T0 v) (ht : pl_Tr K v v')
    (hK : K ≠ .cp) (hd : v.dep = true) (hf : v.fil = true) :
    v'.bal - v'.per * v'.nrw = v.bal - v.per * v.nrw ∧ v'.per = v.per ∧ v'.dep = true ∧
    v'.fil = true := by
  cases ht with
  | same => exact ⟨rfl, rfl, hd, hf⟩
  | select _ => exact ⟨rfl, rfl, hd, hf⟩
  | setPer _ a hd' ha => rw [hd] at hd'; cases hd'
  | deposit _ hd' => rw [hd] at hd'; cases hd'
  | filter _ n hf' hn => rw [hf] at hf'; cases hf'
  | claim _ w hs hw hb =>
    refine ⟨?_, rfl, hd, hf⟩
    show v.bal - w * v.per - v.per * (v.nrw - w) = v.bal - v.per * v.nrw
    obtain ⟨k, hk, _, _⟩ := hN.dep hd
    have h1 := pl_mul_split v.per v.nrw 0 w hw
    have h2 : v.per * v.nrw ≤ v.per * (v.nrw + k) := Nat.mul_le_mul_left _ (Nat.le_add_right _ _)
    simp only [Nat.add_zero] at h1
    omega
  | withdraw _ _ => exact absurd rfl hK

/-- **the filter fixes the surplus**: a filter call on a deposited, not yet filtered state either
    leaves the view alone (interrupted) or completes: then `nrWinning` drops from `T0` to `n` and the
    balance `perTicket × T0` is `perTicket × n` plus the surplus `perTicket × (T0 − n)` -/
theorem pl_Tr_filter_surplus {T0 : Nat} {v v' : pl_V} (hN : pl_Num T0 v) (ht : pl_Tr .filt v v')
    (hd : v.dep = true) :
    v' = v ∨ (v.fil = false ∧ v.nrw = T0 ∧ v'.fil = true ∧ v'.sel = false ∧ v'.nrw ≤ T0 ∧
      v'.per = v.per ∧ v'.bal = v.per * T0 ∧ v'.bal = v'.per * v'.nrw + v'.per * (T0 - v'.nrw)) := by
  generalize hK : pl_K.filt = K at ht
  cases ht with
  | same => exact Or.inl rfl
  | select _ => cases hK
  | setPer _ a hd' ha => cases hK
  | deposit _ hd' => cases hK
  | claim _ w hs hw hb => cases hK
  | withdraw _ _ => cases hK
  | filter _ n hf hn =>
    right
    obtain ⟨hT, hsel⟩ := hN.notFil hf
    obtain ⟨k, hk, _, hk0⟩ := hN.dep hd
    have := hk0 hf
    subst this
    refine ⟨hf, hT, rfl, hsel, by show n ≤ T0; omega, rfl, ?_, ?_⟩
    · show v.bal = v.per * T0
      rw [hk, hT]; rfl
    · show v.bal = v.per * n + v.per * (T0 - n)
      rw [hk, ← Nat.mul_add]; congr 1; omega

theorem pl_withdraw_Exact {T0 : Nat} {v : pl_V} (hN : pl_Num T0 v) (hs : v.sel = true) :
    pl_Exact { v with bal := v.per * v.nrw } :=
  ⟨(pl_fil_of_sel hN hs : v.fil = true), fun _ => rfl⟩

def pl_NoConf (s : State) : Prop := s.deposited = false → ∀ a, s.confirmed a = 0

theorem pl_step_NoConf {hash : List Nat → List Nat} {s s' : State} {e : Env} {c : Call} {o : Out}
    (h : pl_NoConf s) (hs : step hash s e c = .ok (s', o)) : pl_NoConf s' := by
  intro hd' a
  have hd : s.deposited = false := by
    cases hdd : s.deposited with
    | false => rfl
    | true => have := deposited_mono hs hdd; rw [hd'] at this; cases this
  have h0 := h hd
  have hcb := step_cb hs
  have hc : s'.confirmed = (cbAfter s e c).confirmed := congrArg CB.confirmed hcb
  rw [hc]
  cases c with
  | confirm n =>
    obtain ⟨total, hacc, _⟩ := LP.Props.C07.confirm_effect hash s e n s' o hs
    have := hacc.2.2.2.1
    rw [hd] at this; cases this
  | blacklist l | refundUsers l => exact ite_mem_zero h0 a
  | claim =>
    show (if (s.variant.vested && s.claimed e.caller) = true then s.confirmed
      else upd s.confirmed e.caller 0) a = 0
    split
    · exact h0 a
    · rw [upd_apply]; split
      · rfl
      · exact h0 a
  | _ => exact h0 a

/-- launchpad-token invariant of the plain launchpads; `T0` = winning tickets given at deployment -/
structure pl_Lp (T0 : Nat) (s : State) : Prop where
  base : pl_Base s
  num : pl_Num T0 (pl_view s)
  noConf : pl_NoConf s

/-- **preservation**: every accepted call of a plain launchpad keeps `pl_Lp` — no restriction on the
    call, its arguments, its call value or its round -/
theorem pl_step {T0 : Nat} {hash : List Nat → List Nat} {s s' : State} {e : Env} {c : Call} {o : Out}
    (hI : pl_Lp T0 s) (hs : step hash s e c = .ok (s', o)) : pl_Lp T0 s' :=
  ⟨pl_step_Base hI.base hs, pl_Tr_Num hI.num (pl_step_Tr hI.base hs), pl_step_NoConf hI.noConf hs⟩

/-- **the surplus is frozen**: from a deposited state whose filter is complete, every accepted
    call other than the owner's `claimPayment` leaves the owner's not-yet-withdrawn surplus
    `bal lpTok − perTicket × nrWinning` unchanged -/
theorem pl_step_surplus {T0 : Nat} {hash : List Nat → List Nat} {s s' : State} {e : Env} {c : Call}
    {o : Out} (hI : pl_Lp T0 s) (hs : step hash s e c = .ok (s', o)) (hc : c ≠ .claimPayment)
    (hd : s.deposited = true) (hf : s.flags.filtered = true) :
    s'.bal (.esdt s'.lpTok) 0 - s'.perTicket * s'.nrWinning
      = s.bal (.esdt s.lpTok) 0 - s.perTicket * s.nrWinning ∧
    s'.perTicket = s.perTicket ∧ s'.deposited = true ∧ s'.flags.filtered = true := by
  have hK : pl_kind c ≠ .cp := by
    cases c <;> first | (intro h; cases h; done) | exact absurd rfl hc
  exact pl_Tr_surplus hI.num (pl_step_Tr hI.base hs) hK hd hf

theorem pl_step_Exact {T0 : Nat} {hash : List Nat → List Nat} {s s' : State} {e : Env} {c : Call}
    {o : Out} (hI : pl_Lp T0 s) (hE : pl_Exact (pl_view s)) (hs : step hash s e c = .ok (s', o)) :
    pl_Exact (pl_view s') :=
  pl_Tr_Exact hI.num hE (pl_step_Tr hI.base hs)

theorem pl_init {v : Variant} (hv : Plain v) {a : InitArgs} {e : Env} {s : State}
    (h : init v a e = .ok s) : pl_Lp a.nrWinning s := by
  have hB := pl_init_Base hv h
  obtain ⟨_, rfl⟩ := init_ok h
  have hfl : (initState v a e).flags = { additional := true } := by rcases hv with rfl | rfl <;> rfl
  refine ⟨hB, ⟨Nat.le_refl _, fun _ => ⟨rfl, ?_⟩, fun _ => rfl, nofun⟩, fun _ _ => rfl⟩
  show (initState v a e).flags.selected = false
  rw [hfl]

theorem pl_run_preserves {T0 : Nat} (hash : List Nat → List Nat) :
    ∀ (h : List (Env × Call)) (s : State), pl_Lp T0 s → pl_Lp T0 (run hash s h) :=
  run_induct hash (pl_Lp T0) (fun _ _ _ _ _ hp hx => pl_step hp hx)

theorem pl_run_Exact {T0 : Nat} (hash : List Nat → List Nat) :
    ∀ (h : List (Env × Call)) (s : State), pl_Lp T0 s → pl_Exact (pl_view s) →
      pl_Exact (pl_view (run hash s h)) := fun h s hs hE =>
  (run_induct hash (fun s => pl_Lp T0 s ∧ pl_Exact (pl_view s))
    (fun _ _ _ _ _ hp hx => ⟨pl_step hp.1 hx, pl_step_Exact hp.1 hp.2 hx⟩) h s ⟨hs, hE⟩).2

theorem pl_run (hash : List Nat → List Nat) {v : Variant} (hv : Plain v) {a : InitArgs} {e : Env}
    {s0 : State} (hi : init v a e = .ok s0) (h : List (Env × Call)) :
    pl_Lp a.nrWinning (run hash s0 h) :=
  pl_run_preserves hash h s0 (pl_init hv hi)

theorem pl_reachA {hash : List Nat → List Nat} {v : Variant} (hv : Plain v) {a0 : InitArgs}
    {s : State} {r : Nat} (h : ReachA hash v a0 s r) : pl_Lp a0.nrWinning s := by
  induction h with
  | init e s h => exact pl_init hv h
  | call s r e c s' o _ _ _ _ h4 ih => exact pl_step ih h4
  | wait s r r' _ _ ih => exact ih

theorem pl_reach {hash : List Nat → List Nat} {v : Variant} (hv : Plain v) {s : State} {r : Nat}
    (h : Reach hash v s r) : ∃ T0, pl_Lp T0 s := by
  obtain ⟨a0, h0⟩ := Reach_iff.mp h
  exact ⟨a0.nrWinning, pl_reachA hv h0⟩

end LP

#print axioms LP.pl_Tr_Num
#print axioms LP.pl_Tr_Exact
#print axioms LP.pl_step
#print axioms LP.pl_step_surplus
#print axioms LP.pl_Tr_filter_surplus
#print axioms LP.pl_step_Exact
#print axioms LP.pl_init
#print axioms LP.pl_run
#print axioms LP.pl_run_Exact
#print axioms LP.pl_reachA
#print axioms LP.pl_reach
