import LP.Proofs.ReachV1
import LP.Proofs.CorePhase
import LP.Proofs.Later
/-
  `v1_WF` (ReachV1) along histories of `Variant.migration` and `Variant.lockedGuar`, in three
  parts: the two calls after the selection, `claim` and `claimPayment`; the reachability relations
  `v1_ReachA` / `v1_Reach` with the induction `v1_reach_WF` and the payment-token ledger
  `v1_phase_ledger`; what the invariant says in the terms of the contracts (completion of the
  distribution, reserve and winner bounds, the exact deposit), read off the phase `v1_PhaseC` so
  that `guarV1` and `nftGuar` share it.

  First part: `v1_WF` is preserved by a participant's settlement (`claim`) and by the owner's
  withdrawal (`claimPayment`) on the common claim path (both variants of the family; `lockedGuar`
  sends through `sendLocked`).  The effect on the post-selection phase is `rb_claim_phase`; the
  exact launchpad-token bookkeeping is what the coverage `lp` needs on top of it.
-/
namespace LP
open LP.FY

theorem v1_claim_state {hash : List Nat → List Nat} {s : State} {e : Env} {t : Tx}
    (hv : v1_Fam s.variant) (hne : s.payTok ≠ .esdt s.lpTok) (hlk : s.lockPct ≤ 10000)
    (hx : exec hash (rbTx s e) e .claim = .ok t) :
    s.stage e = .claim ∧ ∃ r B, s.range e.caller = some r ∧
      (clearRange s.status s.posToId r.first (rangeLen r)).2.2 ≤ s.confirmed e.caller ∧
      t.s = { settled s e.caller r with bal := B } ∧ (∀ k n, B k n ≤ s.bal k n) ∧
      B s.payTok 0 = s.bal s.payTok 0 -
        s.price * (s.confirmed e.caller - (clearRange s.status s.posToId r.first (rangeLen r)).2.2) ∧
      (clearRange s.status s.posToId r.first (rangeLen r)).2.2 * s.perTicket
        ≤ s.bal (.esdt s.lpTok) 0 ∧
      B (.esdt s.lpTok) 0 = s.bal (.esdt s.lpTok) 0 -
        (clearRange s.status s.posToId r.first (rangeLen r)).2.2 * s.perTicket := by
  obtain ⟨hv1, hv2, _⟩ := v1_fam_flags hv
  rw [exec_claim_nonvested hash _ e hv1] at hx
  obtain ⟨r, ⟨hst, _, hr, _, hle, _⟩, hlp, hs'⟩ :=
    claimBase_state (t := rbTx s e) hv2 (fun _ => hlk) hx
  simp only [rbTx_s] at hst hr hle hlp hs'
  have hne' : Token.esdt s.lpTok ≠ s.payTok := fun hh => hne hh.symm
  rw [Bal.sub_off _ _ _ _ hne'] at hlp
  simp only [clearRange_count]
  refine ⟨hst, r, _, hr, hle, by rw [hs', settled_eq],
    fun k n => Nat.le_trans (rb_sub_le _ _ _ _ _ _) (rb_sub_le _ _ _ _ _ _), ?_, hlp, ?_⟩
  · rw [Bal.sub_off _ _ _ _ hne, Bal.sub_at]
  · rw [Bal.sub_at, Bal.sub_off _ _ _ _ hne']

theorem v1_claim {T0 : Nat} {hash : List Nat → List Nat} {s s' : State} {e : Env} {o : Out}
    {r : Nat} (h : v1_WF T0 s r)
    (hs : step hash s e .claim = .ok (s', o)) : v1_WF T0 s' e.round := by
  obtain ⟨t, hx, rfl⟩ := step_np rfl hs
  obtain ⟨hst, rg, B, hrg, _, hs', hBle, hBpay, hlple, hBlp⟩ :=
    v1_claim_state h.var h.tokNe h.static.2 hx
  obtain ⟨⟨hsel, hadd⟩, hc1, hc2, _⟩ := stage_claim_iff.mp hst
  have hD : PhD s.core := v1_phase_D h.phase hadd
  have hD' := rb_claim_phase (c := s.core) hD (a := e.caller) (r := rg) hrg
    (bt := upd s.batch rg.first none) (pb := B s.payTok 0) hBpay
  have hred : (clearRange s.status s.posToId rg.first (rangeLen rg)).2.2 ≤ s.nrWinning :=
    hD.redeem_le hrg
  rw [hs']
  refine ⟨h.var, h.pricePos, h.tokNe, h.static, ?_, ?_, ?_, ?_, Or.inr ⟨hadd, hD'⟩⟩
  · intro k h1 h2
    have := hBle k 0
    have h0 := h.balOther k h1 h2
    show B k 0 = 0
    omega
  · intro hlt; exfalso; have : e.round < s.cfg.conf := hlt; omega
  · intro _; exact ⟨hc1, hc2⟩
  · intro hd
    have h0 := h.lp hd
    rw [v1_owed_done hadd] at h0
    show s.perTicket * ((s.nrWinning - (clearRange s.status s.posToId rg.first (rangeLen rg)).2.2) +
        if s.flags.additional = true then 0 else s.totalGuaranteed) ≤ B (.esdt s.lpTok) 0
    rw [hadd, hBlp]
    simp only [if_true, Nat.add_zero]
    exact (LP.Props.C02.cover_after_payout s.perTicket s.nrWinning _ _ hred h0).2

theorem v1_claimPayment {T0 : Nat} {hash : List Nat → List Nat} {s s' : State} {e : Env} {o : Out}
    {r : Nat} (h : v1_WF T0 s r)
    (hs : step hash s e .claimPayment = .ok (s', o)) : v1_WF T0 s' e.round := by
  obtain ⟨t, hx, rfl⟩ := step_np rfl hs
  obtain ⟨hv1, hv2, _⟩ := v1_fam_flags h.var
  obtain ⟨hst, hcov, hts⟩ := rb_claimPayment_state hv1 hv2 h.tokNe hx
  obtain ⟨⟨_, hadd⟩, hc1, hc2, _⟩ := stage_claim_iff.mp hst
  have hD : PhD s.core := v1_phase_D h.phase hadd
  have hne : Token.esdt s.lpTok ≠ s.payTok := fun hh => h.tokNe hh.symm
  rw [hts]
  refine ⟨h.var, h.pricePos, h.tokNe, h.static, ?_, fun hlt => absurd hc1 (Nat.not_le.mpr hlt),
    fun _ => ⟨hc1, hc2⟩, ?_, Or.inr ⟨hadd, hD.withdraw ?_⟩⟩
  · intro k h1 h2
    show ((s.bal.sub s.payTok 0 s.claimablePayment).sub (.esdt s.lpTok) 0 _) k 0 = 0
    rw [Bal.sub_off _ _ _ _ h2, Bal.sub_off _ _ _ _ h1]; exact h.balOther k h1 h2
  · intro _
    show s.perTicket * (s.nrWinning + if s.flags.additional = true then 0 else s.totalGuaranteed)
      ≤ ((s.bal.sub s.payTok 0 s.claimablePayment).sub (.esdt s.lpTok) 0 _) (.esdt s.lpTok) 0
    rw [hadd, Bal.sub_at, Bal.sub_off _ _ _ _ hne]
    simp only [if_true, Nat.add_zero]
    omega
  · show ((s.bal.sub s.payTok 0 s.claimablePayment).sub (.esdt s.lpTok) 0 _) s.payTok 0 = _
    rw [Bal.sub_off _ _ _ _ h.tokNe, Bal.sub_at]
    rfl

end LP

/-
  Reachable states (`v1_Reach`) of the v1 guaranteed-ticket launchpads on the common claim path
  (`Variant.migration`, `Variant.lockedGuar`); `v1_WF` holds in all of them (`v1_reach_WF`), since
  every accepted call keeps it (`v1_call_WF`: `v1_call_Inv`, shared with `guarV1`, and the
  launchpad-token clause along its frame).  The restrictions on histories are `EnvOK` and `v1_CallOK`
  (ReachV1), explicit in the `call` constructor; in particular `distribute`, `filter` and
  `select` may be interrupted by any budget.  At the end the payment-token ledger, read off the
  phase by `ledger_of_phases`.
-/
namespace LP
open LP.FY

/-- the endpoints of the three v1 guaranteed-ticket launchpads are endpoints of `guarV1` (which has
    `setSchedule1` besides) -/
theorem v1_exposed_like {hash : List Nat → List Nat} {s s' : State} {e : Env} {c : Call} {o : Out}
    (hv : V1Like s.variant) (hs : step hash s e c = .ok (s', o)) : c.exposedIn .guarV1 = true := by
  have h := step_exposed hs
  rcases hv with (hv | hv) | hv <;> rw [hv] at h
  · cases c <;> first | exact h | rfl
  · cases c <;> first | exact h | rfl
  · exact h

/-- `lockedGuar` has the endpoints of `migration` but `unblacklist` -/
theorem v1_exposed {hash : List Nat → List Nat} {s s' : State} {e : Env} {c : Call} {o : Out}
    (hv : v1_Fam s.variant) (hs : step hash s e c = .ok (s', o)) : c.exposedIn .migration = true := by
  have h := step_exposed hs
  rcases hv with hv | hv <;> rw [hv] at h
  · exact h
  · cases c <;> first | exact h | rfl

/-- the calls that write the launchpad-token fields; their effect on the launchpad-token clause is
    shown for each family separately -/
def v1_ledgerCall : Call → Prop
  | .deposit | .setPerTicket _ | .setSchedule1 .. | .claim | .claimPayment => True
  | _ => False

theorem v1_call_Inv {T0 : Nat} {hash : List Nat → List Nat} {s s' : State} {e : Env} {c : Call}
    {o : Out} {r : Nat} (h : v1_Inv T0 s r) (hr : r ≤ e.round) (hok : EnvOK e) (hc : v1_CallOK c)
    (hl : ¬ v1_ledgerCall c) (hs : step hash s e c = .ok (s', o)) :
    v1_Inv T0 s' e.round ∧ v1_Frame s s' := by
  have hex := v1_exposed_like h.var hs
  cases c with
  | addTicketsV1 l => exact v1_addTicketsV1 h hr hc hs
  | setTicketPrice tok a => exact v1_setTicketPrice h hr hs
  | setConfStart _ | setSelStart _ | setClaimStart _ | setSupport _ | pause | unpause =>
    exact v1_admin h hr rfl hs
  | confirm n => exact v1_confirm h hr hok hs
  | filter => exact v1_filter h hs
  | select => exact v1_select h hs
  | distribute => exact v1_distribute h hs
  | blacklist l => exact v1_blacklist h hr hs
  | unblacklist l => exact v1_unblacklist h hr hs
  | deposit | setPerTicket _ | setSchedule1 _ _ _ _ _ | claim | claimPayment => exact absurd trivial hl
  | _ => exact (Bool.false_ne_true hex).elim

theorem v1_call_WF {T0 : Nat} {hash : List Nat → List Nat} {s s' : State} {e : Env} {c : Call}
    {o : Out} {r : Nat} (h : v1_WF T0 s r) (hr : r ≤ e.round) (hok : EnvOK e) (hc : v1_CallOK c)
    (hs : step hash s e c = .ok (s', o)) : v1_WF T0 s' e.round := by
  have hex := v1_exposed h.var hs
  cases c with
  | deposit => exact v1_deposit_WF h hr hok hs
  | setPerTicket a => exact v1_setPerTicket_WF h hr hs
  | claim => exact v1_claim h hs
  | claimPayment => exact v1_claimPayment h hs
  | setSchedule1 _ _ _ _ _ => exact (Bool.false_ne_true hex).elim
  | _ =>
    obtain ⟨hi, hf⟩ := v1_call_Inv h.toInv hr hok hc id hs
    exact h.frame hi hf

/-- states reachable from a deployment with arguments `a0`, paired with the round of the latest
    transaction (`wait` lets rounds pass without a transaction) -/
inductive v1_ReachA (hash : List Nat → List Nat) (v : Variant) (a0 : InitArgs) : State → Nat → Prop
  | init (e : Env) (s : State) : init v a0 e = .ok s → v1_ReachA hash v a0 s e.round
  | call (s : State) (r : Nat) (e : Env) (c : Call) (s' : State) (o : Out) :
      v1_ReachA hash v a0 s r → r ≤ e.round → EnvOK e → v1_CallOK c →
      step hash s e c = .ok (s', o) → v1_ReachA hash v a0 s' e.round
  | wait (s : State) (r r' : Nat) : v1_ReachA hash v a0 s r → r ≤ r' → v1_ReachA hash v a0 s r'

/-- states reachable by the launchpad `v` from any deployment -/
inductive v1_Reach (hash : List Nat → List Nat) (v : Variant) : State → Nat → Prop
  | init (a : InitArgs) (e : Env) (s : State) : init v a e = .ok s → v1_Reach hash v s e.round
  | call (s : State) (r : Nat) (e : Env) (c : Call) (s' : State) (o : Out) :
      v1_Reach hash v s r → r ≤ e.round → EnvOK e → v1_CallOK c →
      step hash s e c = .ok (s', o) → v1_Reach hash v s' e.round
  | wait (s : State) (r r' : Nat) : v1_Reach hash v s r → r ≤ r' → v1_Reach hash v s r'

theorem v1_reachA_iff_later {hash : List Nat → List Nat} {v : Variant} {a0 : InitArgs} {s : State} {r : Nat} :
    v1_ReachA hash v a0 s r ↔ be_From (be_OK v1_CallOK) hash v a0 s r := by
  constructor <;> intro h
  · induction h with
    | init e s h => exact .init h
    | call _ _ _ _ _ _ _ h1 h2 h3 h4 ih => exact ih.call h1 ⟨h2, h3⟩ h4
    | wait _ _ _ _ h1 ih => exact ih.wait h1
  · exact h.induct .init (fun s r e c s' o ih h1 h2 h3 => .call s r e c s' o ih h1 h2.1 h2.2 h3)
      fun s r r' ih h1 => .wait s r r' ih h1

theorem v1_reach_iff_later {hash : List Nat → List Nat} {v : Variant} {s : State} {r : Nat} :
    v1_Reach hash v s r ↔ ∃ a0, be_From (be_OK v1_CallOK) hash v a0 s r := by
  constructor
  · intro h
    induction h with
    | init a e s h => exact ⟨a, .init h⟩
    | call _ _ _ _ _ _ _ h1 h2 h3 h4 ih => exact ih.imp fun _ ih => ih.call h1 ⟨h2, h3⟩ h4
    | wait _ _ _ _ h1 ih => exact ih.imp fun _ ih => ih.wait h1
  · rintro ⟨a0, h⟩
    exact h.induct (.init a0) (fun s r e c s' o ih h1 h2 h3 => .call s r e c s' o ih h1 h2.1 h2.2 h3)
      fun s r r' ih h1 => .wait s r r' ih h1

theorem v1_Reach_iff {hash : List Nat → List Nat} {v : Variant} {s : State} {r : Nat} :
    v1_Reach hash v s r ↔ ∃ a0, v1_ReachA hash v a0 s r :=
  v1_reach_iff_later.trans (exists_congr fun _ => v1_reachA_iff_later.symm)

theorem v1_reach_WF {hash : List Nat → List Nat} {v : Variant} (hv : v1_Fam v) {a0 : InitArgs}
    {s : State} {r : Nat} (h : v1_ReachA hash v a0 s r) : v1_WF a0.nrWinning s r :=
  (v1_reachA_iff_later.mp h).induct (fun _ _ => v1_init_WF hv)
    (fun _ _ _ _ _ _ ih h1 h2 => v1_call_WF ih h1 h2.1 h2.2) fun _ _ _ => v1_wait_WF

theorem v1_phase_ledger {T0 : Nat} {s : State} (h : v1_PhaseC T0 s.core (v1_gv s)) :
    ∃ L : List Nat, Covers s L ∧ (¬ AllDone s → PayEqPre s L) ∧
      (AllDone s → PayEqPost s L ∧ sumOver (winCountOf s) L = s.nrWinning ∧
        (∀ a, winCountOf s a ≤ s.confirmed a) ∧
        (∀ a rg, s.range a = some rg → a ∈ L ∧ rg.first ≤ rg.last ∧
          rg.last + 1 = rg.first + s.confirmed a)) := by
  refine ledger_of_phases (fun hd => ?_) (fun hd => v1_phase_D h hd.2)
  rcases h with ⟨_, _, ⟨L0, hp, _⟩ | ⟨hC, _⟩ | hE⟩ | ⟨ha, hD⟩
  · exact payList_of_out hp.ok.nodup hp.outC hp.pay
  · exact hC.Alloc.elim fun _ hA => hA.payList
  · exact (Alloc.exists_iff.mp hE.alloc).elim fun _ hA => hA.payList
  · exact absurd ⟨hD.selected, ha⟩ hd

end LP

#print axioms LP.v1_init_WF
#print axioms LP.v1_call_WF
#print axioms LP.v1_wait_WF
#print axioms LP.v1_reach_WF

/-
  What the completing `distribute` call establishes (final winner count, honoured guarantees), the
  reserve and winner bounds, and the exact deposit.  All of it is read off the phase `v1_PhaseC`
  (lemmas `v1_phase_*`, applied to `h.phase` of `v1_WF` and of `g1_WF`); the completion of the
  distribution reads the variant as well and is stated on `v1_Inv`.
-/
namespace LP
open LP.FY

theorem v1_distribute_completion {T0 : Nat} {hash : List Nat → List Nat} {s s' : State}
    {e : Env} {o : Out} {r : Nat} (h : v1_Inv T0 s r)
    (hs : step hash s e .distribute = .ok (s', o)) (hret : o.ret = [0]) :
    s'.flags.selected = true ∧ s'.flags.additional = true ∧
    s'.lastTicketId = s.lastTicketId ∧ s'.price = s.price ∧
    countTrue s'.status s'.lastTicketId = s'.nrWinning ∧
    s'.nrWinning = min T0 s'.lastTicketId ∧
    s'.claimablePayment = s'.price * s'.nrWinning ∧
    (∀ t, s'.status t = true → 1 ≤ t ∧ t ≤ s'.lastTicketId) ∧
    (∀ t, s.status t = true → s'.status t = true) ∧
    (∀ u st, s'.uts u = some st →
      min (calcV1 st (s'.confirmed u) s'.minConfirmed).1 (s'.confirmed u) ≤ winCountOf s' u) := by
  have hiv2 := h.var.flags.2.1
  obtain ⟨_, _, htg, hE, g, x, hcase⟩ := v1_distribute_cases hiv2 h.phase hs
  rcases hcase with ⟨_, h1, _⟩ | ⟨hnil, z, ⟨_, h1, _⟩ | ⟨rfl, _, hEnd⟩⟩
  · rw [hret] at h1; cases h1
  · rw [hret] at h1; cases h1
  · have hnrw : s.nrWinning = min (T0 - s.totalGuaranteed) s.lastTicketId := hE.nrw
    have hcl : s.claimablePayment = s.price * s.nrWinning := hE.claimable
    refine ⟨hE.selected, rfl, rfl, rfl, hEnd.inv.count, ?_, ?_, hEnd.inv.pinv.inside, hEnd.mono,
      fun u st hu => (Hon_v1 hiv2 _ u st).mp (hEnd.hon u st hu)⟩
    · exact hEnd.nrw hnrw htg
    · show s.claimablePayment + s.price * z.additional = s.price * (s.nrWinning + z.additional)
      rw [hcl, Nat.mul_add]

/-! The consequences of the phase, for any core `c` and guarantee view `g`: `ng_WF` has its phase
    over `nf_core s`, which differs from `s.core` in `payBal` only. -/

theorem v1_reserve_of_pre {T0 : Nat} {c : Core} {g : v1_G} {L0 : List (Nat × Nat)} (htg : g.tg ≤ T0)
    (hp : Pre (T0 - g.tg) c L0) : c.nrWinning + g.tg = T0 := by
  have := hp.nrw
  omega

theorem v1_PhaseC.owed_le {T0 : Nat} {c : Core} {g : v1_G} (h : v1_PhaseC T0 c g)
    (hna : c.flags.additional = false) : c.nrWinning + g.tg ≤ T0 := by
  rcases h with ⟨_, htg, ⟨L0, hp, _⟩ | ⟨hC, _⟩ | hE⟩ | ⟨ha, _⟩
  · exact Nat.le_of_eq (v1_reserve_of_pre htg hp)
  · have := hC.nrw
    omega
  · have := hE.nrw
    omega
  · rw [hna] at ha; cases ha

theorem v1_PhaseC.gw {T0 : Nat} {c : Core} {g : v1_G} (h : v1_PhaseC T0 c g)
    (hna : c.flags.additional = false) (hop : c.flags.selected = true → c.op = .none) : v1_GW g := by
  rcases h with ⟨_, _, ⟨L0, _, ⟨_, hg⟩ | ⟨_, hg⟩⟩ | ⟨_, hg⟩ | hE⟩ | ⟨ha, _⟩
  · exact hg.toGW
  · exact hg
  · exact hg
  · exact hE.wl0 (hop hE.selected)
  · rw [hna] at ha; cases ha

theorem v1_GW.mem_iff {g : v1_G} (h : v1_GW g) (u : Nat) :
    u ∈ g.whitelist ↔ ∃ st, g.uts u = some st ∧ st.c + st.d > 0 := by
  constructor
  · intro hm
    obtain ⟨st, h1, h2⟩ := h.pos_of_mem u hm
    exact ⟨st, h1, by simpa using h2⟩
  · rintro ⟨st, h1, h2⟩
    exact h.mem_of_pos u st h1 (by simpa using h2)

theorem v1_PhE.winners_bound {T0 : Nat} {c : Core} {g : v1_G} (hE : v1_PhE T0 c g) (htg : g.tg ≤ T0) :
    c.nrWinning ≤ countTrue c.status c.lastTicketId ∧
    countTrue c.status c.lastTicketId ≤ min T0 c.lastTicketId ∧
    (∀ t, c.status t = true → 1 ≤ t ∧ t ≤ c.lastTicketId) := by
  obtain ⟨lo, off, add, _, hpos, hcount, hsplit, _⟩ := hE.dist
  have hnrw := hE.nrw
  have hle := countTrue_le c.status c.lastTicketId
  exact ⟨by omega, by omega, hpos.inside⟩

theorem v1_phase_reserve_before_filter {T0 : Nat} {s : State} (h : v1_PhaseC T0 s.core (v1_gv s))
    (hf : s.flags.filtered = false) : s.nrWinning + s.totalGuaranteed = T0 := by
  obtain ⟨_, htg, L0, hp, _⟩ := v1_phase_notFiltered h hf
  exact v1_reserve_of_pre htg hp

theorem v1_phase_owed_le {T0 : Nat} {s : State} (h : v1_PhaseC T0 s.core (v1_gv s))
    (hna : s.flags.additional = false) : s.nrWinning + s.totalGuaranteed ≤ T0 :=
  h.owed_le hna

/-- until the first `distribute` call is accepted, the whitelist is exactly the set of holders of
    a positive guarantee (reserve invariant of C12, carried through filter and lottery) -/
theorem v1_phase_whitelist_intact {T0 : Nat} {s : State} (h : v1_PhaseC T0 s.core (v1_gv s))
    (hna : s.flags.additional = false) (hop : s.flags.selected = true → s.op = .none) (u : Nat) :
    u ∈ s.whitelist ↔ ∃ st, s.uts u = some st ∧ st.c + st.d > 0 :=
  (h.gw hna hop).mem_iff u

/-- during the distribution (lottery complete, distribution not) the winning flags number
    `nrWinning` plus the additional winners so far: at least `nrWinning`, never more than
    `min T0 lastTicketId`, all inside `1..lastTicketId` -/
theorem v1_phase_winners_bound {T0 : Nat} {s : State} (h : v1_PhaseC T0 s.core (v1_gv s))
    (hsel : s.flags.selected = true) (hna : s.flags.additional = false) :
    s.nrWinning ≤ countTrue s.status s.lastTicketId ∧
    countTrue s.status s.lastTicketId ≤ min T0 s.lastTicketId ∧
    (∀ t, s.status t = true → 1 ≤ t ∧ t ≤ s.lastTicketId) := by
  obtain ⟨htg, hE⟩ := v1_phase_E h hsel hna
  exact hE.winners_bound htg

theorem v1_phase_all_settled_nrWinning {T0 : Nat} {s : State} (h : v1_PhaseC T0 s.core (v1_gv s))
    (hd : AllDone s) (hall : ∀ a, s.range a = none) : s.nrWinning = 0 :=
  (v1_phase_D h hd.2).nrWinning_zero fun a => by
    unfold winOf; rw [show s.core.range a = none from hall a]

/-- an accepted deposit made before the filter has completed is exactly
    `perTicket × (nrWinning + totalGuaranteed) = perTicket × T0` launchpad tokens -/
theorem v1_phase_deposit_exact {T0 : Nat} {hash : List Nat → List Nat} {s s' : State} {e : Env}
    {o : Out} (hv : V1Like s.variant) (h : v1_PhaseC T0 s.core (v1_gv s))
    (hf : s.flags.filtered = false) (hs : step hash s e .deposit = .ok (s', o)) :
    s'.totalDeposited = s.perTicket * T0 ∧ s'.deposited = true ∧
    singleFungible e = .ok (.esdt s.lpTok, s.perTicket * T0) := by
  have hmax : LP.Props.C02.maxWinners s = T0 := by
    unfold LP.Props.C02.maxWinners reservedForDeposit
    rw [hv.flags.2.2.1]
    exact v1_phase_reserve_before_filter h hf
  obtain ⟨hs', _, _⟩ := LP.Props.C02.deposit_effect hash s s' e o hs
  have hacc := ((LP.Props.C02.deposit_accepted_iff hash s e).mp ⟨_, hs⟩).2.2
  rw [hmax] at hacc
  exact ⟨by rw [hs', hmax], by rw [hs'], hacc⟩

end LP
