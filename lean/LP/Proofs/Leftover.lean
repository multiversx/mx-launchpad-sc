import LP.Guaranteed
import LP.Proofs.TopUp
import LP.Proofs.Loop
/-
  The two ingredients of the leftover re-draw that do not depend on the loop: `inRange` stays in
  its interval, and writing the id of the current position to a later position keeps the ids stored
  at the later positions pairwise distinct (`PosDistinct.write`).  The loop follows.
-/
namespace LP

theorem inRange_ge (raw mn mx : Nat) : mn ≤ inRange raw mn mx := by
  unfold inRange; split <;> omega

theorem inRange_lt (raw mn mx : Nat) (h : mn < mx) : inRange raw mn mx < mx := by
  unfold inRange
  rw [if_neg (by omega)]
  have := Nat.mod_lt raw (show mx - mn > 0 by omega)
  omega

/-- positions `k..last` hold pairwise distinct ticket ids -/
def PosDistinct (last : Nat) (posToId : Nat → Nat) (k : Nat) : Prop :=
  ∀ p q, k ≤ p → p < q → q ≤ last → idFromPos posToId p ≠ idFromPos posToId q

theorem idFromPos_ne_zero (f : Nat → Nat) (p : Nat) (hp : p ≠ 0) : idFromPos f p ≠ 0 := by
  unfold idFromPos; split <;> assumption

theorem PosDistinct.write {last cur rp : Nat} {f f' : Nat → Nat}
    (h : PosDistinct last f cur)
    (hf : ∀ p, cur < p → idFromPos f' p = if p = rp then idFromPos f cur else idFromPos f p) :
    PosDistinct last f' (cur + 1) := by
  intro p q hp hpq hq
  rw [hf p (by omega), hf q (by omega)]
  by_cases h1 : p = rp <;> by_cases h2 : q = rp
  · omega
  · simp only [h1, h2, if_true, if_false]
    subst h1; exact h cur q (Nat.le_refl _) (by omega) hq
  · simp only [h1, h2, if_true, if_false]
    subst h2; exact fun e => h cur p (Nat.le_refl _) (by omega) (by omega) e.symm
  · simp only [h1, h2, if_false]
    exact h p q (by omega) hpq hq

/-- the v2 swap (the id of `cur` goes to `rp`, something else is stored at `cur`) seen from the
    positions after `cur` -/
theorem idFromPos_swap (f : Nat → Nat) (v : Nat) {cur rp p : Nat} (hcur : cur ≠ 0) (hp : cur < p) :
    idFromPos (upd (upd f cur v) rp (idFromPos f cur)) p =
      if p = rp then idFromPos f cur else idFromPos f p := by
  rw [FY.idFromPos_upd _ _ _ _ (idFromPos_ne_zero f cur hcur)]
  split
  · rfl
  · unfold idFromPos
    rw [upd_other _ _ _ _ (by omega)]

/-- non-vacuity: a fresh `posToId` (identity placement) -/
example : PosDistinct 10 (fun _ => 0) 3 := by
  intro p q _ hpq _
  simp only [idFromPos, if_true]; omega
end LP

/-
  The leftover re-draw loop (`leftoverBody`), both versions.  An iteration has four outcomes (stop,
  skip, redraw, ok; `lKind`).  The invariant `LInv` says that the positions from the current one
  on hold distinct ids of `1..last`, that every id not stored there wins, and that the winners
  number `nrOrig + additional`; while a ticket is still losing an unconsumed position is left, so a
  continuing iteration stays inside `1..last`.  Every continuing iteration consumes a position
  except the v1 `redraw`; hence `leftover_run`: v2 completes within `last + 2` iterations whatever
  the draws, v1 only relative to the number of redraws (unbounded: `spinState`).
-/
namespace LP
open LP.FY

/-- the "all tickets already win" test at the head of the closure -/
def lFull (nrOrig last : Nat) (x : LSt) : Prop := nrOrig + x.additional ≥ last

instance (nrOrig last : Nat) (x : LSt) : Decidable (lFull nrOrig last x) := by
  unfold lFull; exact inferInstance

def lCurId (nrOrig : Nat) (x : LSt) : Nat := idFromPos x.posToId (nrOrig + x.offset)

theorem leftoverBody_cases (hash : List Nat → List Nat) (v2 : Bool) (nrOrig last : Nat) (x : LSt) :
    -- STOP
    ((lFull nrOrig last x ∨ x.leftover = 0) ∧
      leftoverBody hash v2 nrOrig last x =
        .ok ({ x with leftover := if lFull nrOrig last x then 0 else x.leftover }, false)) ∨
    -- SKIP (current ticket already wins)
    (¬ lFull nrOrig last x ∧ x.leftover ≠ 0 ∧ x.status (lCurId nrOrig x) = true ∧
      leftoverBody hash v2 nrOrig last x = .ok ({ x with offset := x.offset + 1 }, true)) ∨
    (∃ raw rng' tx', x.tx.draw hash x.rng = (raw, rng', tx') ∧
      ¬ lFull nrOrig last x ∧ x.leftover ≠ 0 ∧ x.status (lCurId nrOrig x) = false ∧
      -- REDRAW (v2 swaps the two positions and moves on, v1 tries again): drawn ticket already wins
      ((x.status (idFromPos x.posToId (inRange raw (nrOrig + x.offset) (last + 1))) = true ∧
        leftoverBody hash v2 nrOrig last x =
          .ok (if v2 then
                { x with rng := rng', tx := tx',
                         posToId := upd (upd x.posToId (nrOrig + x.offset)
                            (idFromPos x.posToId (inRange raw (nrOrig + x.offset) (last + 1))))
                            (inRange raw (nrOrig + x.offset) (last + 1)) (lCurId nrOrig x),
                         offset := x.offset + 1 }
               else { x with rng := rng', tx := tx' }, true)) ∨
      -- OK: drawn ticket newly wins
       (x.status (idFromPos x.posToId (inRange raw (nrOrig + x.offset) (last + 1))) = false ∧
        leftoverBody hash v2 nrOrig last x =
          .ok ({ x with rng := rng', tx := tx',
                        posToId := upd x.posToId (inRange raw (nrOrig + x.offset) (last + 1))
                            (lCurId nrOrig x),
                        status := upd x.status
                            (idFromPos x.posToId (inRange raw (nrOrig + x.offset) (last + 1))) true,
                        leftover := x.leftover - 1, additional := x.additional + 1,
                        offset := x.offset + 1 }, true)))) := by
  unfold leftoverBody lFull lCurId
  by_cases hfull : nrOrig + x.additional ≥ last
  · left
    exact ⟨Or.inl hfull, by simp [hfull]⟩
  · simp only [hfull, if_false]
    by_cases hlo : x.leftover = 0
    · left
      refine ⟨Or.inr hlo, ?_⟩
      obtain ⟨a, b, c, d, e, f, g⟩ := x
      simp only at hlo
      subst hlo
      simp
    · simp only [hlo, if_false]
      right
      by_cases hcur : x.status (idFromPos x.posToId (nrOrig + x.offset)) = true
      · left
        exact ⟨not_false, hlo, hcur, by simp [hcur]⟩
      · right
        simp only [hcur, Bool.false_eq_true, if_false]
        rcases hd : x.tx.draw hash x.rng with ⟨raw, rng', tx'⟩
        refine ⟨raw, rng', tx', rfl, not_false, hlo, by simp, ?_⟩
        simp only []
        by_cases hsel : x.status (idFromPos x.posToId
            (inRange raw (nrOrig + x.offset) (last + 1))) = true
        · left
          refine ⟨hsel, ?_⟩
          simp only [hsel, if_true]
          cases v2 <;> simp
        · right
          refine ⟨by simpa using hsel, ?_⟩
          simp only [hsel, Bool.false_eq_true, if_false]

theorem upd_true_iff (st : Nat → Bool) (u t : Nat) :
    upd st u true t = true ↔ st t = true ∨ t = u := by
  rw [upd_apply]
  by_cases e : t = u <;> simp [e]

theorem leftoverBody_v2_mono (hash : List Nat → List Nat) (nrOrig last : Nat) (x x' : LSt)
    (b : Bool) (h : leftoverBody hash true nrOrig last x = .ok (x', b)) :
    (∀ t, x.status t = true → x'.status t = true) ∧
    (b = true → x'.offset = x.offset + 1 ∧
      x'.leftover + x'.additional = x.leftover + x.additional) := by
  rcases leftoverBody_cases hash true nrOrig last x with
    ⟨_, hb⟩ | ⟨_, _, _, hb⟩ | ⟨raw, rng', tx', _, _, hl, _, ⟨_, hb⟩ | ⟨_, hb⟩⟩ <;>
    rw [hb] at h <;> cases h
  · exact ⟨fun _ ht => ht, nofun⟩
  · exact ⟨fun _ ht => ht, fun _ => ⟨rfl, rfl⟩⟩
  · exact ⟨fun _ ht => ht, fun _ => ⟨rfl, rfl⟩⟩
  · refine ⟨fun _ ht => (upd_true_iff _ _ _).mpr (Or.inl ht), fun _ => ⟨rfl, ?_⟩⟩
    show x.leftover - 1 + (x.additional + 1) = x.leftover + x.additional
    omega

theorem leftoverBody_v2_posDistinct (hash : List Nat → List Nat) (nrOrig last : Nat)
    (x x' : LSt) (hcur : nrOrig + x.offset ≠ 0)
    (hinv : PosDistinct last x.posToId (nrOrig + x.offset))
    (h : leftoverBody hash true nrOrig last x = .ok (x', true)) :
    PosDistinct last x'.posToId (nrOrig + x'.offset) := by
  rcases leftoverBody_cases hash true nrOrig last x with
    ⟨_, hb⟩ | ⟨_, _, _, hb⟩ | ⟨raw, rng', tx', _, _, _, _, ⟨_, hb⟩ | ⟨_, hb⟩⟩ <;>
    rw [hb] at h <;> cases h
  · exact fun p q hp => hinv p q (Nat.le_of_succ_le hp)
  · exact hinv.write fun p hp => idFromPos_swap _ _ hcur hp
  · exact hinv.write fun p hp => idFromPos_upd _ _ _ _ (idFromPos_ne_zero _ _ hcur)

theorem exists_false_of_countTrue_lt (st : Nat → Bool) (m : Nat) (h : countTrue st m < m) :
    ∃ t, 1 ≤ t ∧ t ≤ m ∧ st t = false := by
  induction m with
  | zero => omega
  | succ m ih =>
    rw [countTrue] at h
    by_cases e : st (m + 1) = true
    · rw [e] at h
      obtain ⟨t, a, b, c⟩ := ih (by simpa using h)
      exact ⟨t, a, by omega, c⟩
    · exact ⟨m + 1, by omega, by omega, by simpa using e⟩

/-- marking a missing id would give `m + 1` winners among `1..m` -/
theorem all_true_of_countTrue_eq (st : Nat → Bool) (m : Nat) (h : countTrue st m = m) :
    ∀ t, 1 ≤ t → t ≤ m → st t = true := by
  intro t h1 h2
  cases hf : st t with
  | true => rfl
  | false =>
    have := countTrue_upd st m t h1 h2 hf
    have := countTrue_le (upd st t true) m
    omega

/-- `k = nrOrig + offset` is the current position.  Positions `k..last` hold pairwise distinct
    ids of `1..last`; every id of `1..last` that is not at one of these positions wins
    ("consumed positions hold winners"); all winning flags are inside `1..last`. -/
structure PosInv (last : Nat) (status : Nat → Bool) (f : Nat → Nat) (k : Nat) : Prop where
  pos : 1 ≤ k
  bound : k ≤ last + 1
  range : ∀ p, k ≤ p → p ≤ last → 1 ≤ idFromPos f p ∧ idFromPos f p ≤ last
  distinct : PosDistinct last f k
  cover : ∀ t, 1 ≤ t → t ≤ last → status t = false → ∃ p, k ≤ p ∧ p ≤ last ∧ idFromPos f p = t
  inside : ∀ t, status t = true → 1 ≤ t ∧ t ≤ last

theorem PosInv.lt_of_count {last k : Nat} {st : Nat → Bool} {f : Nat → Nat}
    (h : PosInv last st f k) (hc : countTrue st last < last) : k ≤ last := by
  obtain ⟨t, h1, h2, h3⟩ := exists_false_of_countTrue_lt st last hc
  obtain ⟨p, a, b, _⟩ := h.cover t h1 h2 h3
  omega

theorem PosInv.all_win {last k : Nat} {st : Nat → Bool} {f : Nat → Nat}
    (h : PosInv last st f k) (hk : k = last + 1) : countTrue st last = last :=
  Nat.le_antisymm (countTrue_le st last)
    (Nat.le_of_not_lt fun hc => by have := h.lt_of_count hc; omega)

theorem PosInv.skip {last k : Nat} {st : Nat → Bool} {f : Nat → Nat}
    (h : PosInv last st f k) (hk : k ≤ last) (hw : st (idFromPos f k) = true) :
    PosInv last st f (k + 1) where
  pos := by omega
  bound := by omega
  range := fun p h1 h2 => h.range p (by omega) h2
  distinct := fun p q h1 h2 h3 => h.distinct p q (by omega) h2 h3
  cover := by
    intro t h1 h2 h3
    obtain ⟨p, a, b, c⟩ := h.cover t h1 h2 h3
    refine ⟨p, ?_, b, c⟩
    by_cases e : p = k
    · subst e; rw [c, h3] at hw; cases hw
    · omega
  inside := h.inside

/-- REDRAW and OK: the id of the current position moves to `rp ∈ [k, last]`, the id found there
    becomes (or already is) winning -/
theorem PosInv.move {last k rp : Nat} {st st' : Nat → Bool} {f f' : Nat → Nat}
    (h : PosInv last st f k) (hk : k ≤ last) (hcur : st (idFromPos f k) = false)
    (h1 : k ≤ rp) (h2 : rp ≤ last)
    (hf : ∀ p, k < p → idFromPos f' p = if p = rp then idFromPos f k else idFromPos f p)
    (hst : ∀ t, st' t = true ↔ (st t = true ∨ t = idFromPos f rp)) :
    PosInv last st' f' (k + 1) where
  pos := by omega
  bound := by omega
  range := by
    intro p a b
    rw [hf p (by omega)]
    split
    · exact h.range k (Nat.le_refl _) hk
    · exact h.range p (by omega) b
  distinct := h.distinct.write hf
  cover := by
    intro t a b c
    have hn : ¬ (st t = true ∨ t = idFromPos f rp) := fun hh => by
      rw [(hst t).mpr hh] at c; cases c
    obtain ⟨p, pa, pb, pc⟩ := h.cover t a b (Bool.eq_false_iff.mpr fun e => hn (Or.inl e))
    have hp : p ≠ rp := fun e => hn (Or.inr (e ▸ pc.symm))
    by_cases e : p = k
    · subst e
      exact ⟨rp, by omega, h2, by rw [hf rp (by omega), if_pos rfl]; exact pc⟩
    · exact ⟨p, by omega, pb, by rw [hf p (by omega), if_neg hp]; exact pc⟩
  inside := by
    intro t ht
    rcases (hst t).mp ht with e | e
    · exact h.inside t e
    · rw [e]; exact h.range rp h1 h2

structure LInv (last nrOrig : Nat) (x : LSt) : Prop where
  pinv : PosInv last x.status x.posToId (nrOrig + x.offset)
  count : countTrue x.status last = nrOrig + x.additional

theorem LInv.le_last {last nrOrig : Nat} {x : LSt} (h : LInv last nrOrig x) :
    nrOrig + x.additional ≤ last := by
  rw [← h.count]; exact countTrue_le _ _

/-- the arithmetic of the final count: handing out `min (additional + leftover) (last - nrOrig)`
    tickets on top of the `nrOrig` lottery winners gives `min (nrOrig + reserve) last` winners -/
theorem LInv.final_count {last nrOrig : Nat} {x : LSt} (h : LInv last nrOrig x) {a' tot : Nat}
    (ha : a' = min (x.additional + x.leftover) (last - nrOrig))
    (ht : x.leftover + x.additional = tot) :
    nrOrig + a' = min (nrOrig + tot) last ∧ a' = min tot (last - nrOrig) := by
  have := h.le_last
  omega

theorem LInv.cur_le {last nrOrig : Nat} {x : LSt} (h : LInv last nrOrig x)
    (hf : ¬ lFull nrOrig last x) : nrOrig + x.offset ≤ last := by
  apply h.pinv.lt_of_count
  rw [h.count]; unfold lFull at hf; omega

theorem draw_log (hash : List Nat → List Nat) (t : Tx) (r : Rng) :
    (t.draw hash r).2.2.o.draws = t.o.draws ++ [(t.draw hash r).1] := by
  rw [Tx.draw_eq]
  show (t.dctx.draw hash r).2.2.log = t.dctx.log ++ [(t.dctx.draw hash r).1]
  unfold DCtx.draw
  split <;> rfl

inductive LKind where
  | stop | skip | redraw | ok
  deriving DecidableEq, Repr

/-- `redraw` is the contract's "NewlySelectedAlreadyWinning" -/
def lKind (hash : List Nat → List Nat) (nrOrig last : Nat) (x : LSt) : LKind :=
  if lFull nrOrig last x ∨ x.leftover = 0 then .stop
  else if x.status (lCurId nrOrig x) then .skip
  else if x.status (idFromPos x.posToId
      (inRange (x.tx.draw hash x.rng).1 (nrOrig + x.offset) (last + 1))) then .redraw
  else .ok

def LKind.draws : LKind → Nat
  | .redraw => 1
  | .ok => 1
  | _ => 0

def LKind.hands : LKind → Nat
  | .ok => 1
  | _ => 0

theorem leftoverBody_spec (hash : List Nat → List Nat) (v2 : Bool) (nrOrig last : Nat) (x : LSt)
    (h : LInv last nrOrig x) :
    ∃ x', leftoverBody hash v2 nrOrig last x =
        .ok (x', decide (lKind hash nrOrig last x ≠ .stop)) ∧
      LInv last nrOrig x' ∧
      x'.tx.o.draws.length = x.tx.o.draws.length + (lKind hash nrOrig last x).draws ∧
      x'.additional = x.additional + (lKind hash nrOrig last x).hands ∧
      (lKind hash nrOrig last x = .stop →
        (lFull nrOrig last x ∨ x.leftover = 0) ∧ x' = { x with leftover := 0 }) ∧
      (lKind hash nrOrig last x = .skip →
        ¬ lFull nrOrig last x ∧ x.leftover ≠ 0 ∧ nrOrig + x.offset ≤ last ∧
        x' = { x with offset := x.offset + 1 }) ∧
      (lKind hash nrOrig last x = .redraw →
        ¬ lFull nrOrig last x ∧ x.leftover ≠ 0 ∧ nrOrig + x.offset ≤ last ∧
        x'.status = x.status ∧ x'.leftover = x.leftover ∧
        x'.offset = (if v2 then x.offset + 1 else x.offset) ∧
        (v2 = false → x'.posToId = x.posToId)) ∧
      (lKind hash nrOrig last x = .ok →
        ¬ lFull nrOrig last x ∧ nrOrig + x.offset ≤ last ∧
        x'.leftover + 1 = x.leftover ∧ x'.offset = x.offset + 1 ∧
        x'.tx.o.draws = x.tx.o.draws ++ [(x.tx.draw hash x.rng).1] ∧
        ∃ t, 1 ≤ t ∧ t ≤ last ∧ x.status t = false ∧ x'.status = upd x.status t true) := by
  rcases leftoverBody_cases hash v2 nrOrig last x with
    ⟨hs, hb⟩ | ⟨hf, hl, hw, hb⟩ | ⟨raw, rng', tx', hd, hf, hl, hw, hsel⟩
  · have hk : lKind hash nrOrig last x = .stop := by unfold lKind; rw [if_pos hs]
    have hx : ({ x with leftover := if lFull nrOrig last x then 0 else x.leftover } : LSt)
        = { x with leftover := 0 } := by
      rcases hs with hs | hs
      · rw [if_pos hs]
      · rw [hs]; simp
    rw [hx] at hb
    rw [hk]
    exact ⟨_, hb, ⟨h.pinv, h.count⟩, rfl, rfl, fun _ => ⟨hs, rfl⟩, nofun, nofun, nofun⟩
  · have hk : lKind hash nrOrig last x = .skip := by
      unfold lKind; rw [if_neg (not_or.mpr ⟨hf, hl⟩), if_pos hw]
    rw [hk]
    exact ⟨_, hb, ⟨h.pinv.skip (h.cur_le hf) hw, h.count⟩, rfl, rfl, nofun,
      fun _ => ⟨hf, hl, h.cur_le hf, rfl⟩, nofun, nofun⟩
  · have hraw : (x.tx.draw hash x.rng).1 = raw := by rw [hd]
    have hlog : tx'.o.draws = x.tx.o.draws ++ [raw] := by
      have := draw_log hash x.tx x.rng
      rwa [hd] at this
    have hk : lKind hash nrOrig last x = if x.status (idFromPos x.posToId
        (inRange raw (nrOrig + x.offset) (last + 1))) then .redraw else .ok := by
      unfold lKind; rw [if_neg (not_or.mpr ⟨hf, hl⟩), hw, hraw]; rfl
    have hcur := h.cur_le hf
    have hpos : nrOrig + x.offset ≠ 0 := Nat.ne_of_gt h.pinv.pos
    have hge := inRange_ge raw (nrOrig + x.offset) (last + 1)
    have hle : inRange raw (nrOrig + x.offset) (last + 1) ≤ last :=
      Nat.le_of_lt_succ (inRange_lt _ _ _ (Nat.lt_succ_of_le hcur))
    rcases hsel with ⟨hsel, hb⟩ | ⟨hsel, hb⟩ <;> rw [hsel] at hk <;> rw [hk]
    · refine ⟨_, hb, ?_, ?_, ?_, nofun, nofun, fun _ => ⟨hf, hl, hcur, ?_⟩, nofun⟩
      · cases v2
        · exact ⟨h.pinv, h.count⟩
        -- v2 swaps the two positions; the id now at the drawn position is the current one
        · exact ⟨h.pinv.move hcur hw hge hle (fun _ hp => idFromPos_swap _ _ hpos hp)
            (fun _ => ⟨Or.inl, fun e => e.elim id (fun e => e ▸ hsel)⟩), h.count⟩
      · cases v2 <;> simp [hlog, LKind.draws]
      · cases v2 <;> rfl
      · cases v2 <;> simp
    -- the id of the current position is written to the drawn position, whose id starts to win
    · have hr := h.pinv.range _ hge hle
      refine ⟨_, hb, ⟨h.pinv.move hcur hw hge hle
          (fun _ _ => idFromPos_upd _ _ _ _ (idFromPos_ne_zero _ _ hpos)) (upd_true_iff _ _), ?_⟩,
        by simp [hlog, LKind.draws], rfl, nofun, nofun, nofun,
        fun _ => ⟨hf, hcur, ?_, rfl, by rw [hraw]; exact hlog, _, hr.1, hr.2, hsel, rfl⟩⟩
      · show countTrue (upd x.status _ true) last = nrOrig + (x.additional + 1)
        rw [countTrue_upd _ _ _ hr.1 hr.2 hsel, h.count, Nat.add_assoc]
      · show x.leftover - 1 + 1 = x.leftover
        omega

/-- `offset` advances in v2 always, in v1 unless the outcome is `redraw` -/
theorem leftoverBody_cont (hash : List Nat → List Nat) (v2 : Bool) (nrOrig last : Nat) (x : LSt)
    (h : LInv last nrOrig x) (hk : lKind hash nrOrig last x ≠ .stop) :
    ∃ x', leftoverBody hash v2 nrOrig last x = .ok (x', true) ∧ LInv last nrOrig x' ∧
      ¬ lFull nrOrig last x ∧ x.leftover ≠ 0 ∧ nrOrig + x.offset ≤ last ∧
      x'.leftover + x'.additional = x.leftover + x.additional ∧
      (∀ t, x.status t = true → x'.status t = true) ∧
      x'.tx.o.draws.length = x.tx.o.draws.length + (lKind hash nrOrig last x).draws ∧
      x'.additional = x.additional + (lKind hash nrOrig last x).hands ∧
      ((v2 = true ∨ lKind hash nrOrig last x ≠ .redraw) → x'.offset = x.offset + 1) ∧
      x.offset ≤ x'.offset := by
  obtain ⟨x', hb, hinv, hd, ha, _, h2, h3, h4⟩ := leftoverBody_spec hash v2 nrOrig last x h
  rw [decide_eq_true hk] at hb
  refine ⟨x', hb, hinv, ?_⟩
  cases hkind : lKind hash nrOrig last x with
  | stop => exact absurd hkind hk
  | skip =>
    obtain ⟨a, b, c, e⟩ := h2 hkind
    rw [hkind] at ha hd
    subst e
    exact ⟨a, b, c, rfl, fun t ht => ht, hd, ha, fun _ => rfl, Nat.le_succ _⟩
  | redraw =>
    obtain ⟨a, b, c, e1, e2, e3, _⟩ := h3 hkind
    rw [hkind] at ha hd
    refine ⟨a, b, c, by rw [e2, ha]; rfl, fun t ht => by rw [e1]; exact ht, hd, ha, ?_,
      by rw [e3]; split <;> omega⟩
    rintro (e | e)
    · rw [e3, e]; rfl
    · exact absurd rfl e
  | ok =>
    obtain ⟨a, c, e1, e2, _, t, _, _, _, e3⟩ := h4 hkind
    rw [hkind] at ha hd
    have hl : x.leftover ≠ 0 := by omega
    refine ⟨a, hl, c, ?_, fun u hu => by rw [e3]; exact (upd_true_iff _ _ _).mpr (Or.inl hu),
      hd, ha, fun _ => e2, by omega⟩
    rw [ha]; simp only [LKind.hands]; omega

/-- sum of `w` over the kinds of the iterations performed (at most `n`) -/
def lCount (hash : List Nat → List Nat) (v2 : Bool) (nrOrig last : Nat) (w : LKind → Nat) :
    Nat → LSt → Nat
  | 0, _ => 0
  | n + 1, x =>
    w (lKind hash nrOrig last x) +
      match leftoverBody hash v2 nrOrig last x with
      | .ok (x', true) => lCount hash v2 nrOrig last w n x'
      | _ => 0

def LKind.skips : LKind → Nat
  | .skip => 1
  | _ => 0

def LKind.redraws : LKind → Nat
  | .redraw => 1
  | _ => 0

theorem LKind.draws_eq (k : LKind) : k.draws = k.hands + k.redraws := by cases k <;> rfl

theorem lCount_add (hash : List Nat → List Nat) (v2 : Bool) (nrOrig last : Nat)
    (w w' : LKind → Nat) :
    ∀ (n : Nat) (x : LSt), lCount hash v2 nrOrig last (fun k => w k + w' k) n x =
      lCount hash v2 nrOrig last w n x + lCount hash v2 nrOrig last w' n x := by
  intro n
  induction n with
  | zero => intro x; simp [lCount]
  | succ n ih =>
    intro x
    simp only [lCount]
    split
    · rw [ih]; omega
    · omega

theorem lCount_draws (hash : List Nat → List Nat) (v2 : Bool) (nrOrig last n : Nat) (x : LSt) :
    lCount hash v2 nrOrig last LKind.draws n x =
      lCount hash v2 nrOrig last LKind.hands n x + lCount hash v2 nrOrig last LKind.redraws n x := by
  rw [← lCount_add, funext LKind.draws_eq]

theorem lCount_hands_le_draws (hash : List Nat → List Nat) (v2 : Bool) (nrOrig last n : Nat)
    (x : LSt) :
    lCount hash v2 nrOrig last LKind.hands n x ≤ lCount hash v2 nrOrig last LKind.draws n x := by
  rw [lCount_draws]; exact Nat.le_add_right _ _

/-- A continuing iteration consumes a position, except a v1 `redraw`, which repeats the draw at the
    same position.  So the loop completes as soon as the fuel exceeds the number of unconsumed
    positions plus, in v1, the number of `redraw` outcomes met on the way, which is not bounded
    (`C03_leftover_v1_may_spin`); for v2 the hypothesis speaks of `offset` alone. -/
theorem leftover_run (hash : List Nat → List Nat) (v2 : Bool) (nrOrig last : Nat) :
    ∀ (n : Nat) (x : LSt), LInv last nrOrig x →
      last + 1 - (nrOrig + x.offset)
        + (if v2 then 0 else lCount hash v2 nrOrig last LKind.redraws n x) < n →
      ∃ x', runWhile (leftoverBody hash v2 nrOrig last) n none x = .ok (x', none, .completed) ∧
        LInv last nrOrig x' ∧ x'.leftover = 0 ∧
        x'.additional = min (x.additional + x.leftover) (last - nrOrig) ∧
        (∀ t, x.status t = true → x'.status t = true) ∧
        x'.tx.o.draws.length = x.tx.o.draws.length + lCount hash v2 nrOrig last LKind.draws n x ∧
        x'.additional = x.additional + lCount hash v2 nrOrig last LKind.hands n x ∧
        (v2 = true → x'.offset = x.offset + lCount hash v2 nrOrig last LKind.skips n x
          + lCount hash v2 nrOrig last LKind.draws n x) := by
  intro n
  induction n with
  | zero => intro x _ hn; omega
  | succ n ih =>
    intro x h hn
    by_cases hk : lKind hash nrOrig last x = .stop
    · obtain ⟨x', hb, hinv, _, _, h1, _⟩ := leftoverBody_spec hash v2 nrOrig last x h
      rw [hk] at hb
      obtain ⟨hs, e⟩ := h1 hk
      subst e
      have hle := h.le_last
      refine ⟨_, runWhile_stop hb n none, hinv, rfl, ?_, fun t ht => ht, ?_, ?_, fun _ => ?_⟩
      · show x.additional = _
        rcases hs with hs | hs
        · unfold lFull at hs; omega
        · omega
      all_goals simp only [lCount, hk, hb]; rfl
    · obtain ⟨x1, hb, hinv, _, _, _, _, hmono, hd, ha, ho, hoff⟩ :=
        leftoverBody_cont hash v2 nrOrig last x h hk
      simp only [lCount, hb] at hn ⊢
      have hfuel : last + 1 - (nrOrig + x1.offset)
          + (if v2 then 0 else lCount hash v2 nrOrig last LKind.redraws n x1) < n := by
        cases v2 with
        | true => have := ho (Or.inl rfl); simp only [if_true] at hn ⊢; omega
        | false =>
          simp only [Bool.false_eq_true, if_false] at hn ⊢
          by_cases hr : lKind hash nrOrig last x = .redraw
          · rw [hr] at hn; simp only [LKind.redraws] at hn; omega
          · have := ho (Or.inr hr); omega
      obtain ⟨x', hr, hinv', hl', ha', hmono', hd', hh', ho'⟩ := ih x1 hinv hfuel
      refine ⟨x', by rw [runWhile_cont_none hb]; exact hr, hinv', hl', by rw [ha']; omega,
        fun t ht => hmono' t (hmono t ht), by omega, by omega, fun hv => ?_⟩
      rw [ho' hv, ho (Or.inl hv)]
      cases hkind : lKind hash nrOrig last x with
      | stop => exact absurd hkind hk
      | _ => simp only [LKind.skips, LKind.draws]; omega

theorem leftover_v2_run (hash : List Nat → List Nat) (nrOrig last : Nat) :
    ∀ (n : Nat) (x : LSt), LInv last nrOrig x → last + 1 - (nrOrig + x.offset) < n →
      ∃ x', runWhile (leftoverBody hash true nrOrig last) n none x = .ok (x', none, .completed) ∧
        LInv last nrOrig x' ∧ x'.leftover = 0 ∧
        x'.additional = min (x.additional + x.leftover) (last - nrOrig) ∧
        (∀ t, x.status t = true → x'.status t = true) ∧
        x'.tx.o.draws.length = x.tx.o.draws.length + lCount hash true nrOrig last LKind.draws n x ∧
        x'.additional = x.additional + lCount hash true nrOrig last LKind.hands n x ∧
        x'.offset = x.offset + lCount hash true nrOrig last LKind.skips n x
          + lCount hash true nrOrig last LKind.draws n x := by
  intro n x h hn
  obtain ⟨x', hr, hinv, hl, ha, hm, hd, hh, ho⟩ := leftover_run hash true nrOrig last n x h hn
  exact ⟨x', hr, hinv, hl, ha, hm, hd, hh, ho rfl⟩

/-- the fuel `last + 2` that `guaranteedSubstep` passes for v2 always suffices -/
theorem leftover_v2_terminates (hash : List Nat → List Nat) (nrOrig last : Nat) (x : LSt)
    (h : LInv last nrOrig x) :
    ∃ x', runWhile (leftoverBody hash true nrOrig last) (last + 2) none x
        = .ok (x', none, .completed) ∧
      LInv last nrOrig x' ∧ x'.leftover = 0 ∧
      x'.additional = min (x.additional + x.leftover) (last - nrOrig) ∧
      countTrue x'.status last = nrOrig + x'.additional ∧
      (∀ t, x.status t = true → x'.status t = true) ∧
      (∀ t, x'.status t = true → 1 ≤ t ∧ t ≤ last) := by
  obtain ⟨x', hr, hinv, hl, ha, hm, _⟩ := leftover_v2_run hash nrOrig last (last + 2) x h (by omega)
  exact ⟨x', hr, hinv, hl, ha, hinv.count, hm, hinv.pinv.inside⟩

/-- State left by the base lottery (`R last (nrOrig+1) st0 posToId arr`: `posToId` represents
    the Fisher–Yates array `arr`, `st0` flags `arr.take nrOrig`) with extra winning flags set by
    the top-up inside `1..last`, the counter `additional` counting them. -/
theorem LInv_init {last nrOrig additional : Nat} {st0 status : Nat → Bool} {posToId : Nat → Nat}
    {arr : List Nat} (hR : R last (nrOrig + 1) st0 posToId arr)
    (hsup : ∀ t, st0 t = true → status t = true)
    (hin : ∀ t, status t = true → 1 ≤ t ∧ t ≤ last)
    (hc : countTrue status last = nrOrig + additional) (rng : Rng) (leftover : Nat) (tx : Tx) :
    LInv last nrOrig ⟨status, posToId, rng, leftover, 1, additional, tx⟩ := by
  have hle := countTrue_le status last
  have hlen := hR.len
  have hp : PosInv last status posToId (nrOrig + 1) := by
    refine ⟨by omega, by omega, ?_, ?_, ?_, hin⟩
    · intro p h1 h2
      rw [hR.pos p h1 h2]
      exact hR.getD_range (p - 1) (by omega)
    · intro p q h1 h2 h3 e
      rw [hR.pos p h1 (by omega), hR.pos q (by omega) h3] at e
      have := getD_inj arr hR.nodup (p - 1) (q - 1) (by omega) (by omega) e
      omega
    · intro t h1 h2 h3
      obtain ⟨j, hj, ej⟩ := (mem_iff_getD arr t).mp ((hR.mem t).mpr ⟨h1, h2⟩)
      have hnot : ¬ t ∈ arr.take (nrOrig + 1 - 1) := fun hh => by
        rw [hsup t ((hR.stat t).mpr hh)] at h3; cases h3
      have hjge : nrOrig ≤ j := by
        by_cases hlt : j < nrOrig
        · exact absurd ((mem_take_iff_getD arr _ t).mpr ⟨j, by omega, hj, ej⟩) hnot
        · omega
      refine ⟨j + 1, by omega, by omega, ?_⟩
      rw [hR.pos (j + 1) (by omega) (by omega)]
      exact ej
  exact ⟨hp, hc⟩

theorem loopIter_LInv (hash : List Nat → List Nat) (v2 : Bool) (nrOrig last : Nat) :
    ∀ (n : Nat) (x x' : LSt), LInv last nrOrig x →
      loopIter (leftoverBody hash v2 nrOrig last) n x = some x' → LInv last nrOrig x' := by
  intro n
  induction n with
  | zero => intro x x' h e; simp only [loopIter, Option.some.injEq] at e; subst e; exact h
  | succ n ih =>
    intro x x' h e
    obtain ⟨x1, hb, hinv, _⟩ := leftoverBody_spec hash v2 nrOrig last x h
    by_cases hk : lKind hash nrOrig last x = .stop
    · rw [hk] at hb
      simp only [loopIter, hb] at e
      cases e
    · rw [decide_eq_true hk] at hb
      rw [loopIter_cont hb] at e
      exact ih x1 x' hinv e

/-- one call with an arbitrary budget completes with THE final state of the unbudgeted run, or is
    interrupted in a state that again satisfies the invariant -/
theorem leftover_v2_call (hash : List Nat → List Nat) (nrOrig last : Nat) (x : LSt)
    (h : LInv last nrOrig x) (b : Option Nat) :
    ∃ xf, runWhile (leftoverBody hash true nrOrig last) (last + 2) none x
        = .ok (xf, none, .completed) ∧
      ((∃ b', runWhile (leftoverBody hash true nrOrig last) (last + 2) b x
          = .ok (xf, b', .completed)) ∨
       (∃ x1 b', runWhile (leftoverBody hash true nrOrig last) (last + 2) b x
          = .ok (x1, b', .interrupted) ∧ LInv last nrOrig x1 ∧
          runWhile (leftoverBody hash true nrOrig last) (last + 2) none x1
            = .ok (xf, none, .completed))) := by
  obtain ⟨xf, hr, _⟩ := leftover_v2_terminates hash nrOrig last x h
  refine ⟨xf, hr, ?_⟩
  cases b with
  | none => exact Or.inl ⟨none, hr⟩
  | some k =>
    rcases runWhile_call_progress _ (last + 2) x xf hr k (last + 2) (Nat.le_refl _) with
      ⟨b', hc⟩ | ⟨x1, h1, h2, _, h4⟩
    · exact Or.inl ⟨b', hc⟩
    · have hinv1 := loopIter_LInv hash true nrOrig last _ x x1 h h2
      refine Or.inr ⟨x1, some 0, h1, hinv1, ?_⟩
      exact runWhile_fuel_mono _ _ none x1 xf none .completed h4 (by decide) (last + 2) (by omega)

theorem leftover_run_partial (hash : List Nat → List Nat) (v2 : Bool) (nrOrig last : Nat) :
    ∀ (n : Nat) (x : LSt), LInv last nrOrig x →
      last + 1 - (nrOrig + x.offset) + lCount hash v2 nrOrig last LKind.redraws n x < n →
      ∃ x', runWhile (leftoverBody hash v2 nrOrig last) n none x = .ok (x', none, .completed) ∧
        LInv last nrOrig x' ∧ x'.leftover = 0 ∧
        x'.additional = min (x.additional + x.leftover) (last - nrOrig) ∧
        (∀ t, x.status t = true → x'.status t = true) ∧
        x'.tx.o.draws.length = x.tx.o.draws.length + lCount hash v2 nrOrig last LKind.draws n x ∧
        x'.additional = x.additional + lCount hash v2 nrOrig last LKind.hands n x := by
  intro n x h hn
  obtain ⟨x', hr, hinv, hl, ha, hm, hd, hh, _⟩ :=
    leftover_run hash v2 nrOrig last n x h (by split <;> omega)
  exact ⟨x', hr, hinv, hl, ha, hm, hd, hh⟩

def LSt.withScript (x : LSt) (sc : List Nat) : LSt :=
  { x with tx := { x.tx with c := { x.tx.c with script := sc } } }

theorem LInv.withScript {last nrOrig : Nat} {x : LSt} (h : LInv last nrOrig x) (sc : List Nat) :
    LInv last nrOrig (x.withScript sc) := ⟨h.pinv, h.count⟩

theorem inRange_zero (mn mx : Nat) : inRange 0 mn mx = mn := by
  unfold inRange; split <;> simp

/-- the raw value `0` re-selects the current ticket, which is not winning when a draw is made -/
theorem lKind_script_zero (hash : List Nat → List Nat) (nrOrig last : Nat) (x : LSt)
    (rest : List Nat) : lKind hash nrOrig last (x.withScript (0 :: rest)) ≠ .redraw := by
  have hraw : ((x.withScript (0 :: rest)).tx.draw hash (x.withScript (0 :: rest)).rng).1 = 0 := by
    rw [Tx.draw_eq]; rfl
  unfold lKind lCurId
  rw [hraw, inRange_zero]
  -- the `skip` test and the `redraw` test look at the same ticket
  split
  · nofun
  · split <;> nofun

/-! ### v1: a state on which the loop spins (used by `C03_leftover_v1_may_spin`) -/
/-- a state of the v1 loop (3 tickets, ticket 1 won the lottery, ticket 3 was topped up, one
    reserved ticket left) whose scripted draws always hit ticket 3 -/
def spinState (n : Nat) : LSt :=
  { status := fun t => t == 1 || t == 3, posToId := fun _ => 0, rng := default, leftover := 1,
    offset := 1, additional := 1,
    tx := { (default : Tx) with c := { (default : Ctx) with script := List.replicate n 1 } } }

theorem spin_PosInv : PosInv 3 (fun t => t == 1 || t == 3) (fun _ => 0) 2 := by
  refine ⟨by decide, by decide, ?_, ?_, ?_, ?_⟩
  · intro p h1 h2
    have : p = 2 ∨ p = 3 := by omega
    rcases this with rfl | rfl <;> decide
  · intro p q h1 h2 h3
    have : p = 2 ∧ q = 3 := by omega
    obtain ⟨rfl, rfl⟩ := this
    decide
  · intro t h1 h2 h3
    have : t = 1 ∨ t = 2 ∨ t = 3 := by omega
    rcases this with rfl | rfl | rfl
    · simp at h3
    · exact ⟨2, by decide, by decide, by decide⟩
    · simp at h3
  · intro t ht
    simp only [Bool.or_eq_true, beq_iff_eq] at ht
    omega

theorem spinState_LInv (n : Nat) : LInv 3 1 (spinState n) :=
  ⟨spin_PosInv, (by decide : countTrue (fun t => t == 1 || t == 3) 3 = 1 + 1)⟩

theorem spin_step (hash : List Nat → List Nat) (x : LSt) (n : Nat)
    (h1 : x.status = fun t => t == 1 || t == 3) (h2 : x.posToId = fun _ => 0)
    (h3 : x.leftover = 1) (h4 : x.offset = 1) (h5 : x.additional = 1)
    (h6 : x.tx.c.script = List.replicate (n + 1) 1) :
    ∃ x', leftoverBody hash false 1 3 x = .ok (x', true) ∧
      x'.status = x.status ∧ x'.posToId = x.posToId ∧ x'.leftover = 1 ∧ x'.offset = 1 ∧
      x'.additional = 1 ∧ x'.tx.c.script = List.replicate n 1 := by
  obtain ⟨st, p, rng, lo, off, add, tx⟩ := x
  simp only at h1 h2 h3 h4 h5 h6
  subst h1 h2 h3 h4 h5
  rw [List.replicate_succ] at h6
  simp [leftoverBody, Tx.draw_eq, DCtx.draw, Tx.dctx, Tx.withDctx, h6, idFromPos, inRange]

end LP
