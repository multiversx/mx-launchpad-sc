import LP.Proofs.StepLemmas
import LP.Proofs.Stage
import LP.Proofs.Loop
import LP.Proofs.Footprint
import LP.Proofs.Gate
/-
  The `static` part of the storage and who can change it.  `State.terms` are the sale terms;
  `State.static` adds the two unlock schedules, the `deposited` flag and the timeline `cfg`.  Only
  the nine dedicated owner endpoints (`Call.setsStatic`) write a field of `static`, and their
  effect on the whole state is `ownerEdit`; every other call leaves it alone, which is read off the
  table of fields written (`exec_written`).  Two further sections: the administrative calls and the
  timeline (`step_admin`), and the `flags` field (`step_flags_gain`, `step_stage_mono`).
-/
namespace LP

structure Terms where
  variant : Variant
  owner : Nat
  lpTok : Nat
  perTicket : Nat
  payTok : Token
  price : Nat
  minConfirmed : Nat
  lockPct : Nat
  unlockEpoch : Nat
  lockAddr : Nat
  nftCost : Pay
  availNfts : Nat
  deriving DecidableEq

def State.terms (s : State) : Terms :=
  { variant := s.variant, owner := s.owner, lpTok := s.lpTok, perTicket := s.perTicket,
    payTok := s.payTok, price := s.price, minConfirmed := s.minConfirmed, lockPct := s.lockPct,
    unlockEpoch := s.unlockEpoch, lockAddr := s.lockAddr, nftCost := s.nftCost,
    availNfts := s.availNfts }

/-- everything that only dedicated owner endpoints (`setTicketPrice`, `setPerTicket`, `setNftCost`,
    `setSchedule1`, `setSchedule2`, `deposit`, `setConfStart`, `setSelStart`, `setClaimStart`) can
    change -/
structure Static where
  terms : Terms
  sched1 : Option Sched1
  sched2 : Option (List (Nat × Nat))
  deposited : Bool
  cfg : Cfg
  deriving DecidableEq

def State.static (s : State) : Static :=
  { terms := s.terms, sched1 := s.sched1, sched2 := s.sched2, deposited := s.deposited, cfg := s.cfg }

theorem static_terms {s s' : State} (h : s'.static = s.static) : s'.terms = s.terms :=
  congrArg Static.terms h
theorem static_sched1 {s s' : State} (h : s'.static = s.static) : s'.sched1 = s.sched1 :=
  congrArg Static.sched1 h
theorem static_sched2 {s s' : State} (h : s'.static = s.static) : s'.sched2 = s.sched2 :=
  congrArg Static.sched2 h
theorem static_deposited {s s' : State} (h : s'.static = s.static) : s'.deposited = s.deposited :=
  congrArg Static.deposited h
theorem static_cfg {s s' : State} (h : s'.static = s.static) : s'.cfg = s.cfg :=
  congrArg Static.cfg h

theorem terms_price {s s' : State} (h : s'.terms = s.terms) : s'.price = s.price :=
  congrArg Terms.price h
theorem terms_payTok {s s' : State} (h : s'.terms = s.terms) : s'.payTok = s.payTok :=
  congrArg Terms.payTok h
theorem terms_perTicket {s s' : State} (h : s'.terms = s.terms) : s'.perTicket = s.perTicket :=
  congrArg Terms.perTicket h
theorem terms_nftCost {s s' : State} (h : s'.terms = s.terms) : s'.nftCost = s.nftCost :=
  congrArg Terms.nftCost h
theorem terms_variant {s s' : State} (h : s'.terms = s.terms) : s'.variant = s.variant :=
  congrArg Terms.variant h
theorem terms_owner {s s' : State} (h : s'.terms = s.terms) : s'.owner = s.owner :=
  congrArg Terms.owner h
theorem terms_lpTok {s s' : State} (h : s'.terms = s.terms) : s'.lpTok = s.lpTok :=
  congrArg Terms.lpTok h

@[simp] theorem creditPayments_static (s : State) (e : Env) : (creditPayments s e).static = s.static := rfl
@[simp] theorem creditPayments_terms (s : State) (e : Env) : (creditPayments s e).terms = s.terms := rfl

theorem Tx.setS_static {t : Tx} {s : State} (h : s.static = t.s.static) : (t.setS s).s.static = t.s.static := h
theorem Tx.setS_terms {t : Tx} {s : State} (h : s.terms = t.s.terms) : (t.setS s).s.terms = t.s.terms := h

theorem Tx.emit_static (t : Tx) (ev : Ev) : (t.emit ev).s.static = t.s.static := rfl
theorem Tx.emit_terms (t : Tx) (ev : Ev) : (t.emit ev).s.terms = t.s.terms := rfl

theorem Tx.send_terms {t t' : Tx} {a : Nat} {p : Pay} (h : t.send a p = .ok t') :
    t'.s.terms = t.s.terms := by
  obtain ⟨_, _, rfl⟩ := Tx.send_fp h; rfl

theorem Tx.refund_zero {t t' : Tx} {e : Env} {a : Nat} (h : t.refund e a 0 = .ok t') : t' = t :=
  ((refund_ok_iff t e a 0 t').mp h).2

theorem Tx.refund_pos {t t' : Tx} {e : Env} {a n : Nat} (h : t.refund e a n = .ok t') (hn : n > 0) :
    t'.s = { t.s with bal := t.s.bal.sub t.s.payTok 0 (t.s.price * n) } ∧
    t'.o.xfers = t.o.xfers ++ [(a, ⟨t.s.payTok, 0, t.s.price * n⟩)] ∧
    t'.o.events = t.o.events ++ [⟨"refundTicketPayment", topics e,
      [e.caller, e.round, e.epoch, n, t.s.payTok.code, 0, t.s.price * n]⟩] ∧
    t'.c = t.c := by
  obtain ⟨_, rfl⟩ := (refund_ok_iff t e a n t').mp h
  unfold refundResult
  rw [if_neg (Nat.ne_of_gt hn)]
  exact ⟨rfl, rfl, rfl, rfl⟩

theorem tryCreateTickets_terms {s s' : State} {a n : Nat} (h : tryCreateTickets s a n = .ok s') :
    s'.terms = s.terms := by
  obtain ⟨_, _, _, rfl⟩ := tryCreateTickets_fp h; rfl

theorem createMany_terms {l : List (Nat × Nat)} {s s' : State} (h : createMany l s = .ok s') :
    s'.terms = s.terms := by
  obtain ⟨_, _, _, rfl⟩ := createMany_fp l h; rfl

theorem depositLaunchpadTokens_terms {s s' : State} {e : Env} {tw : Nat}
    (h : depositLaunchpadTokens s e tw = .ok s') : s'.terms = s.terms := by
  rw [(depositLaunchpadTokens_eq h).2]; rfl

theorem depositLaunchpadTokens_sched {s s' : State} {e : Env} {tw : Nat}
    (h : depositLaunchpadTokens s e tw = .ok s') :
    s'.sched1 = s.sched1 ∧ s'.sched2 = s.sched2 ∧ s'.deposited = true := by
  rw [(depositLaunchpadTokens_eq h).2]; exact ⟨rfl, rfl, rfl⟩

theorem confirmTickets_terms {t t' : Tx} {e : Env} {n : Nat} (h : confirmTickets t e n = .ok t') :
    t'.s.terms = t.s.terms := by
  obtain ⟨_, rfl⟩ := confirmTickets_fp h; rfl

theorem blacklistMany_terms {e : Env} {l : List Nat} {t t' : Tx} (h : blacklistMany e l t = .ok t') :
    t'.s.terms = t.s.terms := by
  obtain ⟨_, _, _, rfl⟩ := (Events.blacklistMany_ok_iff e l t t').mp h; rfl

theorem unblacklistMany_terms {l : List Nat} {s s' : State} (h : unblacklistMany l s = .ok s') :
    s'.terms = s.terms := by
  obtain ⟨_, _, rfl⟩ := (Events.unblacklistMany_ok_iff l s s').mp h; rfl

theorem filterTickets_terms {t t' : Tx} {e : Env} (h : filterTickets t e = .ok t') :
    t'.s.terms = t.s.terms := by
  obtain ⟨_, _, _, _, _, _, _, _, _, rfl, _⟩ := filterTickets_fp h; rfl

theorem selectWinners_terms {hash : List Nat → List Nat} {t t' : Tx} {e : Env}
    (h : selectWinners hash t e = .ok t') : t'.s.terms = t.s.terms := by
  obtain ⟨_, _, _, _, _, _, _, _, _, rfl, _⟩ := selectWinners_fp h; rfl

theorem Tx.sendLocked_terms {t t' : Tx} {e : Env} {d a : Nat} (h : t.sendLocked e d a = .ok t') :
    t'.s.terms = t.s.terms := by
  obtain ⟨_, _, _, rfl⟩ := Tx.sendLocked_fp h; rfl

theorem addV1Many_terms {l : List (Nat × Nat × Nat × Bool)} {acc acc' : State × Nat × Nat}
    (h : addV1Many l acc = .ok acc') : acc'.1.terms = acc.1.terms := by
  obtain ⟨_, _, _, _, _, h1⟩ := addV1Many_fp l h; rw [h1]; rfl

theorem addTicketsV1_terms {s s' : State} {e : Env} {l : List (Nat × Nat × Nat × Bool)}
    (h : addTicketsV1 s e l = .ok s') : s'.terms = s.terms := by
  obtain ⟨_, _, _, _, _, _, _, rfl⟩ := addTicketsV1_fp h; rfl

theorem addV2Many_terms {e : Env} {l : List (Nat × Nat × List (Nat × Nat))}
    {acc acc' : State × Nat × Nat × Nat × Nat × Nat}
    (h : addV2Many e l acc = .ok acc') : acc'.1.terms = acc.1.terms := by
  obtain ⟨_, _, _, _, _, h1⟩ := addV2Many_fp e l h; rw [h1]; rfl

theorem addTicketsV2_terms {t t' : Tx} {e : Env} {l : List (Nat × Nat × List (Nat × Nat))}
    (h : addTicketsV2 t e l = .ok t') : t'.s.terms = t.s.terms := by
  obtain ⟨_, _, _, _, _, _, _, _, rfl⟩ := addTicketsV2_fp h; rfl

theorem WUB.terms {l : List Nat} {s s' : State} (h : Events.WUB l s s') : s'.terms = s.terms := by
  obtain ⟨⟨_, _, _, rfl⟩, _⟩ := h; rfl

theorem GHook.terms {l : List Nat} {s s' : State} (h : Events.GHook l s s') : s'.terms = s.terms := by
  obtain ⟨⟨_, _, _, _, _, rfl⟩, _⟩ := h; rfl

theorem clearV1Many_terms {l : List Nat} {acc acc' : State × Nat × Nat}
    (h : clearV1Many l acc = .ok acc') : acc'.1.terms = acc.1.terms :=
  WUB.terms (Events.clearV1Many_frame l _ _ _ _ _ _ h)
theorem clearV2Many_terms {l : List Nat} {acc acc' : State × Nat × Nat}
    (h : clearV2Many l acc = .ok acc') : acc'.1.terms = acc.1.terms :=
  WUB.terms (Events.clearV2Many_frame l _ _ _ _ _ _ h)
theorem clearGuaranteedV2_terms {s s' : State} {l : List Nat} (h : clearGuaranteedV2 s l = .ok s') :
    s'.terms = s.terms := GHook.terms (Events.clearGuaranteedV2_frame h)
theorem restoreV1Many_terms {l : List Nat} {acc acc' : State × Nat × Nat}
    (h : restoreV1Many l acc = .ok acc') : acc'.1.terms = acc.1.terms :=
  WUB.terms (Events.restoreV1Many_frame l _ _ _ _ _ _ h)
theorem restoreGuaranteedV1_terms {s s' : State} {l : List Nat} (h : restoreGuaranteedV1 s l = .ok s') :
    s'.terms = s.terms := GHook.terms (Events.restoreGuaranteedV1_frame h)
theorem restoreV2Many_terms {l : List Nat} {acc acc' : State × Nat × Nat}
    (h : restoreV2Many l acc = .ok acc') : acc'.1.terms = acc.1.terms :=
  WUB.terms (Events.restoreV2Many_frame l _ _ _ _ _ _ h)
theorem restoreGuaranteedV2_terms {s s' : State} {l : List Nat} (h : restoreGuaranteedV2 s l = .ok s') :
    s'.terms = s.terms := GHook.terms (Events.restoreGuaranteedV2_frame h)

theorem runWhile_selectBody_tx_s {hash : List Nat → List Nat} {nr last fuel : Nat} {b b' : Option Nat}
    {x x' : SelSt} {st : LoopStatus}
    (h : runWhile (selectBody hash nr last) fuel b x = .ok (x', b', st)) : x'.tx.s = x.tx.s :=
  (runWhile_preserves (fun y : SelSt => Events.DrawFrame x.tx y.tx) _
    (fun y y' c hb hp => Events.selectBody_frame hash _ _ _ y y' c hp hb) _ _ _ _ _ _ h (.refl _)).1

theorem runWhile_leftoverBody_tx_s {hash : List Nat → List Nat} {v2 : Bool} {nrOrig last fuel : Nat}
    {b b' : Option Nat} {x x' : LSt} {st : LoopStatus}
    (h : runWhile (leftoverBody hash v2 nrOrig last) fuel b x = .ok (x', b', st)) : x'.tx.s = x.tx.s :=
  (runWhile_preserves (fun y : LSt => Events.DrawFrame x.tx y.tx) _
    (fun y y' c hb hp => Events.leftoverBody_frame hash _ _ _ _ y y' c hp hb) _ _ _ _ _ _ h (.refl _)).1

theorem runWhile_nftBody_tx_s {hash : List Nat → List Nat} {total fuel : Nat}
    {b b' : Option Nat} {x x' : NSt} {st : LoopStatus}
    (h : runWhile (nftBody hash total) fuel b x = .ok (x', b', st)) : x'.tx.s = x.tx.s :=
  (runWhile_preserves (fun y : NSt => Events.DrawFrame x.tx y.tx) _
    (fun _ _ _ hb hp => nftBody_frame hb hp) _ _ _ _ _ _ h (.refl _)).1

theorem guaranteedSubstep_terms {hash : List Nat → List Nat} {t t' : Tx} {g g' : GuarOp} {st : LoopStatus}
    (h : guaranteedSubstep hash t g = .ok (t', g', st)) : t'.s.terms = t.s.terms := by
  obtain ⟨_, _, _, _, _, _, rfl⟩ := guaranteedSubstep_fp h; rfl

theorem creditAdditional_static (s : State) (add : Nat) : (creditAdditional s add).static = s.static := rfl
theorem creditAdditional_terms (s : State) (add : Nat) : (creditAdditional s add).terms = s.terms := rfl

theorem distribute_terms {hash : List Nat → List Nat} {t t' : Tx} {e : Env}
    (h : distribute hash t e = .ok t') : t'.s.terms = t.s.terms := by
  obtain ⟨_, _, _, _, _, _, _, _, _, _, _, rfl, _⟩ := distribute_fp h; rfl

theorem nftSubstep_terms {hash : List Nat → List Nat} {t t' : Tx} {r r' : Rng} {st : LoopStatus}
    (h : nftSubstep hash t r = .ok (t', r', st)) : t'.s.terms = t.s.terms := by
  obtain ⟨_, _, _, _, _, _, rfl⟩ := nftSubstep_fp h; rfl

theorem selectNft_static {hash : List Nat → List Nat} {t t' : Tx} {e : Env}
    (h : selectNft hash t e = .ok t') : t'.s.static = t.s.static := by
  obtain ⟨_, _, _, _, _, _, _, _, rfl, _⟩ := selectNft_fp h; rfl

theorem selectNft_terms {hash : List Nat → List Nat} {t t' : Tx} {e : Env}
    (h : selectNft hash t e = .ok t') : t'.s.terms = t.s.terms := static_terms (selectNft_static h)

theorem secondary_terms {hash : List Nat → List Nat} {t t' : Tx} {e : Env}
    (h : secondary hash t e = .ok t') : t'.s.terms = t.s.terms := by
  obtain ⟨_, _, _, _, _, _, _, _, _, _, _, _, _, rfl, _⟩ := secondary_fp h; rfl

theorem confirmNft_terms {s s' : State} {e : Env} (h : confirmNft s e = .ok s') :
    s'.terms = s.terms := by
  obtain ⟨_, rfl⟩ := confirmNft_fp h; rfl

theorem claimNft_terms {t t' : Tx} {e : Env} (h : claimNft t e = .ok t') :
    t'.s.terms = t.s.terms := by
  obtain ⟨_, _, _, _, _, rfl⟩ := claimNft_fp h; rfl

theorem claimNftPayment_terms {t t' : Tx} {e : Env} (h : claimNftPayment t e = .ok t') :
    t'.s.terms = t.s.terms := by
  obtain ⟨_, _, _, rfl⟩ := claimNftPayment_fp h; rfl

theorem setSchedule1_terms {s s' : State} {e : Env} {a b c d f : Nat}
    (h : setSchedule1 s e a b c d f = .ok s') : s'.terms = s.terms := by
  rw [setSchedule1_eq h]; rfl

theorem setSchedule2_terms {t t' : Tx} {e : Env} {ms : List (Nat × Nat)}
    (h : setSchedule2 t e ms = .ok t') : t'.s.terms = t.s.terms := by
  obtain ⟨_, rfl⟩ := setSchedule2_fp h; rfl

theorem claimVested_terms {t t' : Tx} {e : Env} (h : claimVested t e = .ok t') :
    t'.s.terms = t.s.terms := by
  rcases (claimVested_fp h).2 with ⟨_, _, _, hs⟩ | ⟨_, _, _, _, _, _, _, hs⟩ <;> rw [hs] <;> rfl

theorem claimPaymentOwn_terms {t t' : Tx} {e : Env} (h : claimPaymentOwn t e = .ok t') :
    t'.s.terms = t.s.terms := by
  obtain ⟨_, _, _, _, rfl⟩ := claimPaymentOwn_fp h; rfl

def Call.setsTerms : Call → Bool
  | .setTicketPrice .. | .setPerTicket _ | .setNftCost _ => true
  | _ => false

def Call.setsStatic : Call → Bool
  | .setTicketPrice .. | .setPerTicket _ | .setNftCost _ | .deposit | .setSchedule1 .. | .setSchedule2 _
  | .setConfStart _ | .setSelStart _ | .setClaimStart _ => true
  | _ => false

theorem exec_setTicketPrice_s {hash : List Nat → List Nat} {t t' : Tx} {e : Env} {tok : Token} {a : Nat}
    (h : exec hash t e (.setTicketPrice tok a) = .ok t') :
    t'.s = { t.s with payTok := tok, price := a } ∧ t.s.stage e = .addTickets ∧ 0 < a ∧
      tok.valid = true ∧ tok ≠ .esdt t.s.lpTok :=
  ⟨(exec_fp h).1, exec_gate h⟩

theorem exec_setPerTicket_s {hash : List Nat → List Nat} {t t' : Tx} {e : Env} {a : Nat}
    (h : exec hash t e (.setPerTicket a) = .ok t') :
    t'.s = { t.s with perTicket := a } ∧ t.s.stage e = .addTickets ∧ t.s.deposited = false ∧ 0 < a :=
  ⟨(exec_fp h).1, exec_gate h⟩

theorem exec_setNftCost_s {hash : List Nat → List Nat} {t t' : Tx} {e : Env} {c : Pay}
    (h : exec hash t e (.setNftCost c) = .ok t') :
    t'.s = { t.s with nftCost := c } ∧ t.s.stage e = .addTickets ∧ 0 < c.amount :=
  ⟨(exec_fp h).1, (exec_gate h).1, (exec_gate h).2.1⟩

theorem exec_deposit_s {hash : List Nat → List Nat} {t t' : Tx} {e : Env}
    (h : exec hash t e .deposit = .ok t') :
    t.s.deposited = false ∧
    t'.s = { t.s with deposited := true,
                      totalDeposited := t.s.perTicket * (t.s.nrWinning + reservedForDeposit t.s) } :=
  ⟨exec_gate h, (exec_fp h).1⟩

theorem exec_setSchedule2_s {hash : List Nat → List Nat} {t t' : Tx} {e : Env} {ms : List (Nat × Nat)}
    (h : exec hash t e (.setSchedule2 ms) = .ok t') :
    t'.s = { t.s with sched2 := some ms } :=
  (exec_fp h).1

theorem exec_static_cases {hash : List Nat → List Nat} {t t' : Tx} {e : Env} {c : Call}
    (h : exec hash t e c = .ok t') :
    (c.setsStatic = false ∧ t'.s.static = t.s.static) ∨
    (c.setsStatic = true ∧ t'.s = ownerEdit t.s c) := by
  have hw := exec_written h
  cases c
  all_goals first
    | exact Or.inr ⟨rfl, hw⟩
    | exact Or.inl ⟨rfl, (congrArg State.static hw :)⟩

theorem exec_static {hash : List Nat → List Nat} {t t' : Tx} {e : Env} {c : Call}
    (h : exec hash t e c = .ok t') (hc : c.setsStatic = false) : t'.s.static = t.s.static :=
  (exec_static_cases h).elim (·.2) (fun h1 => absurd (hc.symm.trans h1.1) nofun)

theorem exec_setConfStart_s {hash : List Nat → List Nat} {t t' : Tx} {e : Env} {r : Nat}
    (h : exec hash t e (.setConfStart r) = .ok t') :
    t'.s = { t.s with cfg := { t.s.cfg with conf := r } } ∧ e.round < t.s.cfg.conf ∧ e.round < r :=
  ⟨(exec_fp h).1, exec_gate h⟩

theorem exec_setSelStart_s {hash : List Nat → List Nat} {t t' : Tx} {e : Env} {r : Nat}
    (h : exec hash t e (.setSelStart r) = .ok t') :
    t'.s = { t.s with cfg := { t.s.cfg with sel := r } } ∧ e.round < t.s.cfg.sel ∧ e.round < r :=
  ⟨(exec_fp h).1, exec_gate h⟩

theorem exec_setClaimStart_s {hash : List Nat → List Nat} {t t' : Tx} {e : Env} {r : Nat}
    (h : exec hash t e (.setClaimStart r) = .ok t') :
    t'.s = { t.s with cfg := { t.s.cfg with claim := r } } ∧ e.round < t.s.cfg.claim ∧ e.round < r :=
  ⟨(exec_fp h).1, exec_gate h⟩

/-- `creditPayments` only touches `bal` -/
theorem step_static_cases {hash : List Nat → List Nat} {s s' : State} {e : Env} {c : Call} {o : Out}
    (h : step hash s e c = .ok (s', o)) :
    (c.setsStatic = false ∧ s'.static = s.static) ∨
    (c.setsStatic = true ∧ s' = ownerEdit (creditPayments s e) c) := by
  obtain ⟨m, t, _, _, _, hx, rfl, _⟩ := step_ok_inv h
  exact exec_static_cases hx

theorem exec_terms {hash : List Nat → List Nat} {t t' : Tx} {e : Env} {c : Call}
    (h : exec hash t e c = .ok t') (hc : c.setsTerms = false) : t'.s.terms = t.s.terms := by
  rcases exec_static_cases h with ⟨_, h1⟩ | ⟨hs, h1⟩
  · exact static_terms h1
  · rw [h1]
    cases c <;> first | rfl | simp [Call.setsTerms] at hc

theorem Call.setsTerms_eq_false {c : Call} (h1 : ∀ tok a, c ≠ .setTicketPrice tok a)
    (h2 : ∀ a, c ≠ .setPerTicket a) (h3 : ∀ p, c ≠ .setNftCost p) : c.setsTerms = false := by
  cases c <;> simp_all [Call.setsTerms]

theorem static_frame {hash : List Nat → List Nat} {s s' : State} {e : Env} {c : Call} {o : Out}
    (h : step hash s e c = .ok (s', o)) (hc : c.setsStatic = false) : s'.static = s.static := by
  obtain ⟨m, t, _, _, _, hx, rfl, _⟩ := step_ok_inv h
  exact exec_static hx hc

theorem terms_frame_b {hash : List Nat → List Nat} {s s' : State} {e : Env} {c : Call} {o : Out}
    (h : step hash s e c = .ok (s', o)) (hc : c.setsTerms = false) : s'.terms = s.terms := by
  obtain ⟨m, t, _, _, _, hx, rfl, _⟩ := step_ok_inv h
  exact exec_terms hx hc

theorem terms_frame {hash : List Nat → List Nat} {s s' : State} {e : Env} {c : Call} {o : Out}
    (h : step hash s e c = .ok (s', o))
    (h1 : ∀ tok a, c ≠ .setTicketPrice tok a) (h2 : ∀ a, c ≠ .setPerTicket a)
    (h3 : ∀ p, c ≠ .setNftCost p) : s'.terms = s.terms :=
  terms_frame_b h (Call.setsTerms_eq_false h1 h2 h3)

/-- the second conjunct is the whole state: besides the edit only the call value is credited
    (none: the endpoint is not payable) -/
theorem setTicketPrice_terms {hash : List Nat → List Nat} {s s' : State} {e : Env} {tok : Token} {a : Nat}
    {o : Out} (h : step hash s e (.setTicketPrice tok a) = .ok (s', o)) :
    s'.terms = { s.terms with payTok := tok, price := a } ∧
    s' = { creditPayments s e with payTok := tok, price := a } ∧
    s.stage e = .addTickets ∧ 0 < a ∧ tok.valid = true ∧ tok ≠ .esdt s.lpTok :=
  have h1 := (step_spec h).state
  ⟨by rw [h1]; rfl, h1, (step_spec h).gate⟩

theorem setPerTicket_terms {hash : List Nat → List Nat} {s s' : State} {e : Env} {a : Nat}
    {o : Out} (h : step hash s e (.setPerTicket a) = .ok (s', o)) :
    s'.terms = { s.terms with perTicket := a } ∧
    s' = { creditPayments s e with perTicket := a } ∧
    s.stage e = .addTickets ∧ s.deposited = false ∧ 0 < a :=
  have h1 := (step_spec h).state
  ⟨by rw [h1]; rfl, h1, (step_spec h).gate⟩

theorem setNftCost_terms {hash : List Nat → List Nat} {s s' : State} {e : Env} {p : Pay}
    {o : Out} (h : step hash s e (.setNftCost p) = .ok (s', o)) :
    s'.terms = { s.terms with nftCost := p } ∧
    s' = { creditPayments s e with nftCost := p } ∧
    s.stage e = .addTickets ∧ 0 < p.amount :=
  have h1 := (step_spec h).state
  ⟨by rw [h1]; rfl, h1, (step_spec h).gate.1, (step_spec h).gate.2.1⟩

theorem price_frame {hash : List Nat → List Nat} {s s' : State} {e : Env} {c : Call} {o : Out}
    (h : step hash s e c = .ok (s', o)) (hc : ∀ tok a, c ≠ .setTicketPrice tok a) :
    s'.price = s.price ∧ s'.payTok = s.payTok := by
  have hw := step_written h
  show s'.price = (creditPayments s e).price ∧ s'.payTok = (creditPayments s e).payTok
  generalize creditPayments s e = s0 at hw ⊢
  cases c <;> first
    | exact ⟨(congrArg State.price hw :), (congrArg State.payTok hw :)⟩
    | exact absurd rfl (hc _ _)

theorem perTicket_frame {hash : List Nat → List Nat} {s s' : State} {e : Env} {c : Call} {o : Out}
    (h : step hash s e c = .ok (s', o)) (hc : ∀ a, c ≠ .setPerTicket a) :
    s'.perTicket = s.perTicket := by
  have hw := step_written h
  show s'.perTicket = (creditPayments s e).perTicket
  generalize creditPayments s e = s0 at hw ⊢
  cases c <;> first | exact (congrArg State.perTicket hw :) | exact absurd rfl (hc _)

theorem nftCost_frame {hash : List Nat → List Nat} {s s' : State} {e : Env} {c : Call} {o : Out}
    (h : step hash s e c = .ok (s', o)) (hc : ∀ p, c ≠ .setNftCost p) :
    s'.nftCost = s.nftCost := by
  have hw := step_written h
  show s'.nftCost = (creditPayments s e).nftCost
  generalize creditPayments s e = s0 at hw ⊢
  cases c <;> first | exact (congrArg State.nftCost hw :) | exact absurd rfl (hc _)

theorem sched1_frame {hash : List Nat → List Nat} {s s' : State} {e : Env} {c : Call} {o : Out}
    (h : step hash s e c = .ok (s', o)) (hc : ∀ a b c' d f, c ≠ .setSchedule1 a b c' d f) :
    s'.sched1 = s.sched1 := by
  have hw := step_written h
  show s'.sched1 = (creditPayments s e).sched1
  generalize creditPayments s e = s0 at hw ⊢
  cases c <;> first | exact (congrArg State.sched1 hw :) | exact absurd rfl (hc _ _ _ _ _)

theorem setSchedule1_sched1 {hash : List Nat → List Nat} {s s' : State} {e : Env} {a b c d f : Nat} {o : Out}
    (h : step hash s e (.setSchedule1 a b c d f) = .ok (s', o)) :
    s' = { creditPayments s e with sched1 := some ⟨a, b, c, d, f⟩ } :=
  (step_spec h).state

theorem sched2_frame {hash : List Nat → List Nat} {s s' : State} {e : Env} {c : Call} {o : Out}
    (h : step hash s e c = .ok (s', o)) (hc : ∀ ms, c ≠ .setSchedule2 ms) :
    s'.sched2 = s.sched2 := by
  have hw := step_written h
  show s'.sched2 = (creditPayments s e).sched2
  generalize creditPayments s e = s0 at hw ⊢
  cases c <;> first | exact (congrArg State.sched2 hw :) | exact absurd rfl (hc _)

theorem setSchedule2_sched2 {hash : List Nat → List Nat} {s s' : State} {e : Env} {ms : List (Nat × Nat)} {o : Out}
    (h : step hash s e (.setSchedule2 ms) = .ok (s', o)) :
    s' = { creditPayments s e with sched2 := some ms } :=
  (step_spec h).state

/-- only from `false` to `true` -/
theorem deposited_frame {hash : List Nat → List Nat} {s s' : State} {e : Env} {c : Call} {o : Out}
    (h : step hash s e c = .ok (s', o)) :
    (c ≠ .deposit → s'.deposited = s.deposited) ∧
    (c = .deposit → s.deposited = false ∧ s'.deposited = true) := by
  constructor
  · intro hc
    have hw := step_written h
    show s'.deposited = (creditPayments s e).deposited
    generalize creditPayments s e = s0 at hw ⊢
    cases c <;> first | exact (congrArg State.deposited hw :) | exact absurd rfl hc
  · rintro rfl
    exact ⟨step_gate h, by rw [(step_spec h).state]; rfl⟩

theorem deposited_mono {hash : List Nat → List Nat} {s s' : State} {e : Env} {c : Call} {o : Out}
    (h : step hash s e c = .ok (s', o)) (hd : s.deposited = true) : s'.deposited = true := by
  by_cases hc : c = .deposit
  · exact ((deposited_frame h).2 hc).2
  · rw [(deposited_frame h).1 hc]; exact hd

theorem cfg_frame {hash : List Nat → List Nat} {s s' : State} {e : Env} {c : Call} {o : Out}
    (h : step hash s e c = .ok (s', o))
    (hc : (∀ r, c ≠ .setConfStart r) ∧ (∀ r, c ≠ .setSelStart r) ∧ (∀ r, c ≠ .setClaimStart r)) :
    s'.cfg = s.cfg := by
  have hw := step_written h
  show s'.cfg = (creditPayments s e).cfg
  generalize creditPayments s e = s0 at hw ⊢
  cases c <;> first | exact (congrArg State.cfg hw :) | exact absurd rfl (hc.1 _) | exact absurd rfl (hc.2.1 _) | exact absurd rfl (hc.2.2 _)

/-- `conf` changes only by `setConfStart`, which is accepted only while `round < conf` -/
theorem conf_frozen_once_reached {hash : List Nat → List Nat} {s s' : State} {e : Env} {c : Call} {o : Out}
    (h : step hash s e c = .ok (s', o)) (hr : s.cfg.conf ≤ e.round) : s'.cfg.conf = s.cfg.conf := by
  have hw := step_written h
  show s'.cfg.conf = (creditPayments s e).cfg.conf
  generalize creditPayments s e = s0 at hw ⊢
  cases c with
  | setConfStart r => exact absurd (step_gate h).1 (Nat.not_lt.mpr hr)
  | _ => exact (congrArg (·.cfg.conf) hw :)

/-- once the selection round is reached no call moves it (`setSelStart` is accepted only while `round < sel`) -/
theorem sel_frozen_once_reached {hash : List Nat → List Nat} {s s' : State} {e : Env} {c : Call}
    {o : Out} (h : step hash s e c = .ok (s', o)) (hr : s.cfg.sel ≤ e.round) :
    s'.cfg.sel = s.cfg.sel := by
  have hw := step_written h
  show s'.cfg.sel = (creditPayments s e).cfg.sel
  generalize creditPayments s e = s0 at hw ⊢
  cases c with
  | setSelStart r => exact absurd (step_gate h).1 (Nat.not_lt.mpr hr)
  | _ => exact (congrArg (·.cfg.sel) hw :)

/-! ### non-vacuity: an accepted non-setter call, a price change, a deposit -/

def frameDemoState : State :=
  { variant := .base, owner := 1, lpTok := 1, perTicket := 3, payTok := .egld, price := 10,
    nrWinning := 1, cfg := ⟨5, 10, 15⟩, flags := {}, support := 1 }

example : ∃ s' o, step (fun x => x) frameDemoState { caller := 1, round := 2 } (.setSupport 7) = .ok (s', o) ∧
    (Call.setSupport 7).setsStatic = false ∧ s'.support = 7 := ⟨_, _, rfl, rfl, rfl⟩

example : ∃ s' o, step (fun x => x) frameDemoState { caller := 1, round := 2 } (.setTicketPrice (.esdt 5) 11) = .ok (s', o) ∧
    s'.price = 11 ∧ s'.payTok = .esdt 5 := ⟨_, _, rfl, rfl, rfl⟩

example : ∃ s' o, step (fun x => x) frameDemoState { caller := 1, round := 2, esdts := [⟨.esdt 1, 0, 3⟩] } .deposit = .ok (s', o) ∧
    s'.deposited = true := ⟨_, _, rfl, rfl⟩

end LP

#print axioms LP.runWhile_preserves
#print axioms LP.exec_static
#print axioms LP.exec_static_cases
#print axioms LP.static_frame
#print axioms LP.terms_frame
#print axioms LP.setTicketPrice_terms
#print axioms LP.setPerTicket_terms
#print axioms LP.setNftCost_terms
#print axioms LP.sched1_frame
#print axioms LP.sched2_frame
#print axioms LP.deposited_frame
#print axioms LP.deposited_mono
#print axioms LP.cfg_frame
#print axioms LP.conf_frozen_once_reached

/-
  What the stage says about the round, and the six calls that only edit the timeline, the pause
  switch or the support address (`Call.isAdmin`): they write `cfg`, `paused`, `support` and nothing
  else, and the new timeline does not move the confirmation or the selection start across the
  call's round (`step_admin`, `CfgMono`).
-/
namespace LP

theorem stage_spec (s : State) (e : Env) :
    match s.stage e with
    | .addTickets => e.round < s.cfg.conf
    | .confirm => s.cfg.conf ≤ e.round ∧ e.round < s.cfg.sel
    | .winnerSelection => s.cfg.conf ≤ e.round ∧ s.cfg.sel ≤ e.round
    | .claim => s.cfg.conf ≤ e.round ∧ s.cfg.sel ≤ e.round ∧ s.cfg.claim ≤ e.round ∧
        s.flags.selected = true ∧ s.flags.additional = true :=
  stageOf_spec e.round s.cfg s.flags

/-- `c'` does not reopen a period of `c` at round `r`: a confirmation or selection start that `r`
    has reached stays reached, and a confirmation start still ahead was ahead before (nothing is
    said of the claim start) -/
structure CfgMono (c c' : Cfg) (r : Nat) : Prop where
  conf : c.conf ≤ r → c'.conf ≤ r
  sel : c.sel ≤ r → c'.sel ≤ r
  confLt : r < c'.conf → r < c.conf

theorem CfgMono.refl (c : Cfg) (r : Nat) : CfgMono c c r := ⟨id, id, id⟩

def Call.isAdmin : Call → Bool
  | .setSupport _ | .pause | .unpause | .setConfStart _ | .setSelStart _ | .setClaimStart _ => true
  | _ => false

section
variable {hash : List Nat → List Nat} {s s' : State} {e : Env} {c : Call} {o : Out}

theorem step_admin (hc : c.isAdmin = true) (hs : step hash s e c = .ok (s', o)) :
    ∃ cfg' p su, s' = { s with cfg := cfg', paused := p, support := su } ∧
      CfgMono s.cfg cfg' e.round := by
  cases c <;> try (cases hc; done)
  all_goals obtain ⟨t, hx, rfl⟩ := step_np rfl hs
  case setSupport a | pause | unpause =>
    simp only [exec, pure_ok_iff] at hx
    subst hx
    exact ⟨_, _, _, rfl, CfgMono.refl _ _⟩
  case setConfStart x =>
    obtain ⟨h1, h2, _⟩ := exec_setConfStart_s hx
    exact ⟨_, _, _, h1, fun h => absurd h (Nat.not_le.mpr h2), id, fun _ => h2⟩
  case setSelStart x =>
    obtain ⟨h1, h2, _⟩ := exec_setSelStart_s hx
    exact ⟨_, _, _, h1, id, fun h => absurd h (Nat.not_le.mpr h2), id⟩
  case setClaimStart x =>
    obtain ⟨h1, _⟩ := exec_setClaimStart_s hx
    exact ⟨_, _, _, h1, id, id, id⟩

end
end LP

/-
  The `flags` field: only the five selection endpoints write it (`exec_written`), and they only
  gain flags (`Flags.gain`, read off `exec_fp`).  Consequence: seen from a later round, the stage
  number never decreases (`step_stage_mono`).
-/
namespace LP

theorem Flags.gain_of_eq {f f' : Flags} (h : f' = f) : Flags.gain f f' := h ▸ Flags.gain_refl f

theorem Tx.setS_flags {t : Tx} {s : State} (h : s.flags = t.s.flags) : (t.setS s).s.flags = t.s.flags := h
theorem Tx.emit_flags (t : Tx) (ev : Ev) : (t.emit ev).s.flags = t.s.flags := rfl
theorem creditAdditional_flags (s : State) (add : Nat) : (creditAdditional s add).flags = s.flags := rfl

def Call.isSelection : Call → Bool
  | .filter | .select | .distribute | .selectNft | .secondary => true
  | _ => false

theorem exec_flags_cases {hash : List Nat → List Nat} {t t' : Tx} {e : Env} {c : Call}
    (h : exec hash t e c = .ok t') :
    Flags.gain t.s.flags t'.s.flags ∧ (c.isSelection = false → t'.s.flags = t.s.flags) := by
  have hf := (exec_fp h).1
  have hw := exec_written h
  cases c
  case filter =>
    exact ⟨⟨fun h => (congrArg (·.flags.selected) hw :).trans h,
      fun h => (congrArg (·.flags.additional) hw :).trans h⟩, nofun⟩
  case select | distribute | selectNft | secondary =>
    refine ⟨?_, nofun⟩
    rcases hf.1 with hg | hg <;> rw [hg]
    · exact Flags.gain_refl _
    · first | exact ⟨fun _ => rfl, id⟩ | exact ⟨id, fun _ => rfl⟩
  all_goals
    have : t'.s.flags = t.s.flags := (congrArg State.flags hw :)
    exact ⟨Flags.gain_of_eq this, fun _ => this⟩

theorem exec_flags_gain {hash : List Nat → List Nat} {t t' : Tx} {e : Env} {c : Call}
    (h : exec hash t e c = .ok t') : Flags.gain t.s.flags t'.s.flags := (exec_flags_cases h).1

theorem exec_flags_eq {hash : List Nat → List Nat} {t t' : Tx} {e : Env} {c : Call}
    (h : exec hash t e c = .ok t') (h5 : c.isSelection = false) :
    t'.s.flags = t.s.flags := (exec_flags_cases h).2 h5

theorem step_flags_eq {hash : List Nat → List Nat} {s s' : State} {e : Env} {c : Call} {o : Out}
    (h : step hash s e c = .ok (s', o)) (h5 : c.isSelection = false) : s'.flags = s.flags := by
  obtain ⟨m, t, _, _, _, hx, rfl, _⟩ := step_ok_inv h
  exact exec_flags_eq hx h5

theorem step_flags_gain {hash : List Nat → List Nat} {s s' : State} {e : Env} {c : Call} {o : Out}
    (h : step hash s e c = .ok (s', o)) : Flags.gain s.flags s'.flags := by
  obtain ⟨m, t, _, _, _, hx, rfl, _⟩ := step_ok_inv h
  exact exec_flags_gain hx

/-- the timeline cannot change the stage *at the call's own round*: either `cfg` is untouched or an
    accepted timeline setter moved a start round that lies in the future -/
theorem step_cfg_keeps_stage {hash : List Nat → List Nat} {s s' : State} {e : Env} {c : Call} {o : Out}
    (h : step hash s e c = .ok (s', o)) (f : Flags) :
    stageOf e.round s'.cfg f = stageOf e.round s.cfg f := by
  rcases step_static_cases h with ⟨_, h1⟩ | ⟨_, h1⟩
  · rw [static_cfg h1]
  · obtain ⟨m, t, _, _, _, hx, rfl, _⟩ := step_ok_inv h
    have h2 : (tx0 s e).s.cfg = s.cfg := rfl
    cases c with
    | setConfStart r =>
      obtain ⟨hv, _, rfl⟩ := exec_setConfStart_ok hx
      rw [h2] at hv
      exact stageOf_setConf s.cfg f hv
    | setSelStart r =>
      obtain ⟨hv, _, rfl⟩ := exec_setSelStart_ok hx
      rw [h2] at hv
      exact stageOf_setSel s.cfg f hv
    | setClaimStart r =>
      obtain ⟨hv, _, rfl⟩ := exec_setClaimStart_ok hx
      rw [h2] at hv
      exact stageOf_setClaim s.cfg f hv
    | _ => rw [h1]; rfl

theorem step_stage_mono {hash : List Nat → List Nat} {s s' : State} {e : Env} {c : Call} {o : Out}
    (h : step hash s e c = .ok (s', o)) {r' : Nat} (hr : e.round ≤ r') :
    (s.stage e).toNat ≤ (stageOf r' s'.cfg s'.flags).toNat := by
  have h1 : s.stage e = stageOf e.round s'.cfg s.flags := (step_cfg_keeps_stage h s.flags).symm
  rw [h1]
  exact stageOf_mono_raw s'.cfg hr (step_flags_gain h)

end LP

#print axioms LP.exec_flags_gain
#print axioms LP.step_flags_gain
#print axioms LP.step_cfg_keeps_stage
#print axioms LP.step_stage_mono
