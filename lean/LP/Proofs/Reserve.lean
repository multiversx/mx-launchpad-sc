import LP.Proofs.TopUp
import LP.Proofs.UnorderedSet
import LP.Proofs.Filter
/-
  The guaranteed-ticket reserve (C12): `nrWinning + totalGuaranteed` is conserved by the
  allocation / blacklist / un-blacklist hooks, the counters never underflow, and
  `totalGuaranteed` is the sum of the guarantees of the whitelisted users.

  The whitelist is an unordered set kept in a list (`setInsert` / `swapRemove`, UnorderedSet.lean).
  The invariant `GI` is stated on the components the hook loops carry.  Every loop step either
  creates a record for a user without one (`GI.add`) or moves a record to the blacklist store
  (`GI.park`); the `_cons` equations put the loops in that form.
-/
namespace LP

/-- guarantee amount of one record: v2 sums its entries, v1 has the staking and migration flags -/
def gOf (v2 : Bool) (st : UTS) : Nat := if v2 then sumG st.infos else st.c + st.d

@[simp] theorem gOf_default (v2 : Bool) : gOf v2 {} = 0 := by cases v2 <;> rfl

@[simp] theorem gOf_true (st : UTS) : gOf true st = sumG st.infos := rfl
@[simp] theorem gOf_false (st : UTS) : gOf false st = st.c + st.d := rfl

def gSum (v2 : Bool) (uts : Nat → Option UTS) (wl : List Nat) : Nat :=
  (wl.map (fun u => gOf v2 ((uts u).getD {}))).sum

@[simp] theorem gSum_nil (v2 : Bool) (uts : Nat → Option UTS) : gSum v2 uts [] = 0 := rfl

theorem gSum_cons (v2 : Bool) (uts : Nat → Option UTS) (u : Nat) (wl : List Nat) :
    gSum v2 uts (u :: wl) = gOf v2 ((uts u).getD {}) + gSum v2 uts wl := by
  simp [gSum]

theorem gSum_upd_not_mem (v2 : Bool) (uts : Nat → Option UTS) (wl : List Nat) (k : Nat)
    (v : Option UTS) (h : k ∉ wl) : gSum v2 (upd uts k v) wl = gSum v2 uts wl := by
  unfold gSum
  congr 1
  apply List.map_congr_left
  intro a ha
  have : a ≠ k := fun e => h (e ▸ ha)
  simp [this]

theorem gSum_append (v2 : Bool) (uts : Nat → Option UTS) (wl wl' : List Nat) :
    gSum v2 uts (wl ++ wl') = gSum v2 uts wl + gSum v2 uts wl' := by
  simp [gSum, List.sum_append]

theorem gSum_perm (v2 : Bool) (uts : Nat → Option UTS) {wl wl' : List Nat} (h : wl.Perm wl') :
    gSum v2 uts wl = gSum v2 uts wl' :=
  (h.map _).sum_nat

theorem gSum_erase (v2 : Bool) (uts : Nat → Option UTS) {wl : List Nat} {u : Nat} (h : u ∈ wl) :
    gSum v2 uts wl = gOf v2 ((uts u).getD {}) + gSum v2 uts (wl.erase u) := by
  rw [gSum_perm v2 uts (List.perm_cons_erase h), gSum_cons]

/-- The invariant, on (whitelist, live records, blacklisted records, ranges, total guaranteed).
    The last two fields are there for inductiveness only; LP/Proofs/ReserveSeq.lean has a
    counterexample trace for each. -/
structure GI (v2 : Bool) (wl : List Nat) (uts blUts : Nat → Option UTS)
    (range : Nat → Option Range) (tg : Nat) : Prop where
  nodup : wl.Nodup
  total : tg = gSum v2 uts wl
  mem_of_pos : ∀ u st, uts u = some st → gOf v2 st > 0 → u ∈ wl
  pos_of_mem : ∀ u, u ∈ wl → ∃ st, uts u = some st ∧ gOf v2 st > 0
  /-- a live record belongs to a user with a ticket range, so allocation (which requires
      `range u = none`) never overwrites one -/
  has_range : ∀ u, (uts u).isSome → (range u).isSome
  /-- v1 only: a user with tickets but without live record was blacklisted while holding a
      positive guarantee (his record is kept in `blUts`), so un-blacklisting whitelists him
      rightly -/
  bl_pos : v2 = false → ∀ u, (range u).isSome → uts u = none →
    ∃ st, blUts u = some st ∧ gOf false st > 0

def GuarInv (v2 : Bool) (s : State) : Prop :=
  GI v2 s.whitelist s.uts s.blUts s.range s.totalGuaranteed

theorem GI.not_mem_of_none {v2 wl uts bl range tg} (h : GI v2 wl uts bl range tg) {u : Nat}
    (hu : uts u = none) : u ∉ wl := by
  intro hm
  obtain ⟨st, h1, _⟩ := h.pos_of_mem u hm
  rw [hu] at h1; cases h1

theorem GI.gOf_zero_of_not_mem {v2 wl uts bl range tg} (h : GI v2 wl uts bl range tg) {u : Nat}
    (hu : u ∉ wl) : gOf v2 ((uts u).getD {}) = 0 := by
  cases hs : uts u with
  | none => simp
  | some st =>
    simp only [Option.getD_some]
    by_cases hz : gOf v2 st = 0
    · exact hz
    · exact absurd (h.mem_of_pos u st hs (by omega)) hu

theorem GI.total_erase {v2 wl uts bl range tg} (h : GI v2 wl uts bl range tg) (u : Nat) :
    tg = gOf v2 ((uts u).getD {}) + gSum v2 uts (wl.erase u) := by
  by_cases hu : u ∈ wl
  · rw [h.total, gSum_erase v2 uts hu]
  · rw [h.gOf_zero_of_not_mem hu, List.erase_of_not_mem hu, Nat.zero_add, h.total]

theorem GI.le_total {v2 wl uts bl range tg} (h : GI v2 wl uts bl range tg) (u : Nat) :
    gOf v2 ((uts u).getD {}) ≤ tg := by
  rw [h.total_erase u]; omega

theorem GI.none_of_range_none {v2 wl uts bl range tg} (h : GI v2 wl uts bl range tg) {u : Nat}
    (hr : range u = none) : uts u = none := by
  cases hq : uts u with
  | none => rfl
  | some st =>
    have := h.has_range u (by simp [hq])
    simp [hr] at this

/-- a record is created for a user without live record (allocation, un-blacklisting): he joins
    the whitelist iff its guarantee is positive -/
theorem GI.add {v2 wl uts bl range tg} (h : GI v2 wl uts bl range tg) {u : Nat} (st : UTS)
    {bl' : Nat → Option UTS} {range' : Nat → Option Range}
    (hu : uts u = none) (hr : (range' u).isSome)
    (hr' : ∀ x, x ≠ u → range' x = range x) (hb' : ∀ x, x ≠ u → bl' x = bl x) :
    GI v2 (if gOf v2 st > 0 then (setInsert wl u).1 else wl) (upd uts u (some st)) bl' range'
      (tg + gOf v2 st) := by
  have hnm : u ∉ wl := h.not_mem_of_none hu
  have hold : ∀ {x}, x ≠ u → upd uts u (some st) x = uts x := fun hx => upd_other _ _ _ _ hx
  have hrange : ∀ x, (upd uts u (some st) x).isSome → (range' x).isSome := by
    intro x hx
    by_cases hxu : x = u
    · subst hxu; exact hr
    · rw [hr' x hxu]; exact h.has_range x (hold hxu ▸ hx)
  have hbl : v2 = false → ∀ x, (range' x).isSome → upd uts u (some st) x = none →
      ∃ st, bl' x = some st ∧ gOf false st > 0 := by
    intro hv x hx hn
    by_cases hxu : x = u
    · subst hxu; simp at hn
    · rw [hb' x hxu]; exact h.bl_pos hv x (hr' x hxu ▸ hx) (hold hxu ▸ hn)
  by_cases hg : gOf v2 st > 0
  · rw [if_pos hg, setInsert_new hnm]
    refine ⟨?_, ?_, ?_, ?_, hrange, hbl⟩
    · exact List.nodup_append.2 ⟨h.nodup, by simp,
        fun a ha b hb => by rw [List.mem_singleton.1 hb]; exact fun e => hnm (e ▸ ha)⟩
    · rw [gSum_append, gSum_upd_not_mem _ _ _ _ _ hnm, ← h.total]
      simp [gSum]
    · intro x st' hx hpos
      by_cases hxu : x = u
      · simp [hxu]
      · exact List.mem_append_left _ (h.mem_of_pos x st' (hold hxu ▸ hx) hpos)
    · intro x hx
      by_cases hxu : x = u
      · subst hxu; exact ⟨st, by simp, hg⟩
      · rw [hold hxu]
        exact h.pos_of_mem x (by simpa [hxu] using hx)
  · rw [if_neg hg, Nat.eq_zero_of_not_pos hg]
    refine ⟨h.nodup, ?_, ?_, ?_, hrange, hbl⟩
    · rw [gSum_upd_not_mem _ _ _ _ _ hnm]; exact h.total
    · intro x st' hx hpos
      by_cases hxu : x = u
      · subst hxu
        simp at hx; subst hx; exact absurd hpos hg
      · exact h.mem_of_pos x st' (hold hxu ▸ hx) hpos
    · intro x hx
      rw [hold (fun e => hnm (e ▸ hx))]
      exact h.pos_of_mem x hx

/-- the record of `u` is moved to the blacklist store (blacklisting).  In v1 only whitelisted
    users are moved; in v2 every listed user is, whitelisted or not. -/
theorem GI.park {v2 wl uts bl range tg} (h : GI v2 wl uts bl range tg) {u : Nat}
    (hm : u ∈ wl ∨ v2 = true) :
    GI v2 (swapRemove wl u).1 (upd uts u none) (upd bl u (some ((uts u).getD {}))) range
      (tg - gOf v2 ((uts u).getD {})) := by
  have hnm : u ∉ (swapRemove wl u).1 := by
    exact not_mem_swapRemove_self u h.nodup
  refine ⟨swapRemove_nodup u h.nodup, ?_, ?_, ?_, ?_, ?_⟩
  · rw [gSum_upd_not_mem _ _ _ _ _ hnm, gSum_perm v2 uts (swapRemove_perm wl u), h.total_erase u]
    omega
  · intro x st' hx hpos
    by_cases hxu : x = u
    · subst hxu; simp at hx
    · rw [upd_other _ _ _ _ hxu] at hx
      rw [mem_swapRemove _ _ h.nodup]
      exact ⟨h.mem_of_pos x st' hx hpos, hxu⟩
  · intro x hx
    rw [mem_swapRemove _ _ h.nodup] at hx
    rw [upd_other _ _ _ _ hx.2]
    exact h.pos_of_mem x hx.1
  · intro x hx
    by_cases hxu : x = u
    · subst hxu; simp at hx
    · rw [upd_other _ _ _ _ hxu] at hx
      exact h.has_range x hx
  · intro hv x hx hn
    by_cases hxu : x = u
    · subst hxu
      rcases hm with hu | hv'
      · obtain ⟨st, h1, h2⟩ := h.pos_of_mem x hu
        subst hv
        exact ⟨st, by simp [h1], h2⟩
      · rw [hv] at hv'; cases hv'
    · rw [upd_other _ _ _ _ hxu] at hn
      rw [upd_other _ _ _ _ hxu]
      exact h.bl_pos hv x hx hn

theorem GI.remove {v2 wl uts bl range tg} (h : GI v2 wl uts bl range tg) {u : Nat}
    (hu : u ∈ wl) :
    GI v2 (swapRemove wl u).1 (upd uts u none) (upd bl u (some ((uts u).getD {}))) range
      (tg - gOf v2 ((uts u).getD {})) :=
  h.park (Or.inl hu)

/-- success with a result satisfying `P`, or rejection by a `require!` (user error) — never a
    panic, never a VM error -/
def SatU {α : Type} (r : Res α) (P : α → Prop) : Prop :=
  match r with
  | .ok a => P a
  | .error e => ∃ m, e = .user m

@[simp] theorem SatU_ok {α : Type} (a : α) (P : α → Prop) : SatU (.ok a : Res α) P = P a := rfl
@[simp] theorem SatU_user {α : Type} (m : String) (P : α → Prop) :
    SatU (.error (.user m) : Res α) P := ⟨m, rfl⟩

theorem SatU.of_ok {α : Type} {r : Res α} {P : α → Prop} (h : SatU r P) {a : α}
    (hr : r = .ok a) : P a := by subst hr; exact h

theorem SatU.ok_or_user {α : Type} {r : Res α} {P : α → Prop} (h : SatU r P) :
    (∃ a, r = .ok a) ∨ ∃ m, r = .error (.user m) := by
  cases r with
  | ok a => exact Or.inl ⟨a, rfl⟩
  | error e => obtain ⟨m, rfl⟩ := h; exact Or.inr ⟨m, rfl⟩

theorem SatU.no_panic {α : Type} {r : Res α} {P : α → Prop} (h : SatU r P) (site : String) :
    r ≠ .error (.panic site) := by
  intro hr; subst hr
  obtain ⟨m, hm⟩ := h
  cases hm

theorem SatU.mono {α : Type} {r : Res α} {P Q : α → Prop} (h : SatU r P) (hpq : ∀ a, P a → Q a) :
    SatU r Q := by
  cases r with
  | ok a => exact hpq a h
  | error e => exact h

theorem SatU.bind {α β : Type} {r : Res α} {f : α → Res β} {P : α → Prop} {Q : β → Prop}
    (h : SatU r P) (hf : ∀ a, P a → SatU (f a) Q) : SatU (r >>= f) Q := by
  cases r with
  | error e => exact h
  | ok a => exact hf a h

theorem SatU.guard {α : Type} {c : Prop} [Decidable c] {m : String} {r : Res α} {P : α → Prop}
    (h : ¬ c → SatU r P) : SatU (if c then .error (.user m) else r) P := by
  split
  · exact SatU_user _ _
  · exact h ‹_›

theorem requireStage_spec (s : State) (e : Env) (st : Stage) (m : String) :
    SatU (requireStage s e st m) (fun _ => True) := by
  unfold requireStage req
  split
  · trivial
  · exact SatU_user _ _

abbrev GIs (v2 : Bool) (s : State) (tg : Nat) : Prop :=
  GI v2 s.whitelist s.uts s.blUts s.range tg

theorem clearV2Many_spec (l : List Nat) (s : State) (nw tg : Nat) (h : GIs true s tg) :
    ∃ s' nw' tg', clearV2Many l (s, nw, tg) = .ok (s', nw', tg') ∧ nw' + tg' = nw + tg ∧
      GIs true s' tg' := by
  induction l generalizing s nw tg with
  | nil => exact ⟨s, nw, tg, rfl, rfl, h⟩
  | cons u rest ih =>
    have hle : sumG ((s.uts u).getD {}).infos ≤ tg := h.le_total u
    simp only [clearV2Many, csub, hle, if_true]
    have hGI := h.park (u := u) (Or.inr rfl)
    simp only [gOf_true] at hGI
    obtain ⟨s', nw', tg', h1, h2, h3⟩ := ih
      { s with whitelist := (swapRemove s.whitelist u).1, uts := upd s.uts u none,
               blUts := upd s.blUts u (some ((s.uts u).getD {})) }
      (nw + sumG ((s.uts u).getD {}).infos) _ hGI
    exact ⟨s', nw', tg', h1, by omega, h3⟩

theorem clearV1Many_spec (l : List Nat) (s : State) (removed tg : Nat)
    (h : GIs false s tg) :
    ∃ s' removed' tg', clearV1Many l (s, removed, tg) = .ok (s', removed', tg') ∧
      removed' + tg' = removed + tg ∧ GIs false s' tg' ∧ s'.nrWinning = s.nrWinning := by
  induction l generalizing s removed tg with
  | nil => exact ⟨s, removed, tg, rfl, rfl, h, rfl⟩
  | cons u rest ih =>
    simp only [clearV1Many]
    by_cases hu : u ∈ s.whitelist
    · have hsnd : (swapRemove s.whitelist u).2 = true := (swapRemove_snd _ _).mpr hu
      have hle := h.le_total u
      simp only [gOf_false] at hle
      have h1 : ((s.uts u).getD {}).c ≤ tg := by omega
      have h2 : ((s.uts u).getD {}).d ≤ tg - ((s.uts u).getD {}).c := by omega
      simp only [hsnd, csub, h1, h2, if_true, Bool.not_true, Bool.false_eq_true, if_false]
      have hGI := h.remove hu
      simp only [gOf_false] at hGI
      rw [← Nat.sub_sub] at hGI
      obtain ⟨s', r', tg', e1, e2, e3, e4⟩ := ih
        { s with whitelist := (swapRemove s.whitelist u).1, uts := upd s.uts u none,
                 blUts := upd s.blUts u (some ((s.uts u).getD {})) }
        (removed + ((s.uts u).getD {}).c + ((s.uts u).getD {}).d) _ hGI
      exact ⟨s', r', tg', e1, by omega, e3, e4⟩
    · rw [swapRemove_not_mem hu]
      simp only [Bool.not_false, if_true]
      exact ih { s with whitelist := s.whitelist } removed tg h

/-- one step of the v2 un-blacklist loop, the two branches on `added > 0` written as one -/
theorem restoreV2Many_cons (u : Nat) (rest : List Nat) (s : State) (nw tg : Nat) :
    restoreV2Many (u :: rest) (s, nw, tg) =
      if (s.range u).isNone then restoreV2Many rest (s, nw, tg) else
      if sumG ((s.blUts u).getD {}).infos > nw then
        .error (.user "Number of winning tickets exceeded") else
      restoreV2Many rest
        ({ s with
            whitelist := if sumG ((s.blUts u).getD {}).infos > 0
              then (setInsert s.whitelist u).1 else s.whitelist,
            blUts := upd s.blUts u none, uts := upd s.uts u (some ((s.blUts u).getD {})) },
          nw - sumG ((s.blUts u).getD {}).infos, tg + sumG ((s.blUts u).getD {}).infos) := by
  rw [restoreV2Many]
  by_cases hg : sumG ((s.blUts u).getD {}).infos > 0
  · simp only [hg, if_true]
  · simp only [Nat.eq_zero_of_not_pos hg, Nat.lt_irrefl, Nat.not_lt_zero, if_false, Nat.sub_zero,
      Nat.add_zero]

theorem restoreV2Many_spec (l : List Nat) (s : State) (nw tg : Nat)
    (h : GIs true s tg) (hnd : l.Nodup) (hno : ∀ u ∈ l, s.uts u = none) :
    SatU (restoreV2Many l (s, nw, tg))
      (fun r => r.2.1 + r.2.2 = nw + tg ∧ GIs true r.1 r.2.2) := by
  induction l generalizing s nw tg with
  | nil => exact ⟨rfl, h⟩
  | cons u rest ih =>
    have hnd' := List.nodup_cons.1 hnd
    have hno' : ∀ x ∈ rest, s.uts x = none := fun x hx => hno x (List.mem_cons_of_mem _ hx)
    rw [restoreV2Many_cons]
    by_cases hr : (s.range u).isNone
    · rw [if_pos hr]; exact ih s nw tg h hnd'.2 hno'
    rw [if_neg hr]
    refine .guard fun hle => ?_
    have hGI := h.add ((s.blUts u).getD {}) (bl' := upd s.blUts u none) (range' := s.range)
      (hno u (List.mem_cons_self ..)) (by cases hq : s.range u <;> simp [hq] at hr ⊢)
      (fun _ _ => rfl) (fun x hx => upd_other _ _ _ _ hx)
    refine (ih _ _ _ hGI hnd'.2 fun x hx => ?_).mono fun r hr => ⟨?_, hr.2⟩
    · exact (upd_other _ _ _ _ (fun e : x = u => hnd'.1 (e ▸ hx))).trans (hno' x hx)
    · have := hr.1
      omega

theorem restoreV1Many_spec (l : List Nat) (s : State) (nw tg : Nat) (h : GIs false s tg) :
    SatU (restoreV1Many l (s, nw, tg))
      (fun r => r.2.1 + r.2.2 = nw + tg ∧ GIs false r.1 r.2.2) := by
  induction l generalizing s nw tg with
  | nil => exact ⟨rfl, h⟩
  | cons u rest ih =>
    simp only [restoreV1Many]
    split
    · exact ih s nw tg h
    · rename_i hc
      simp only [Bool.or_eq_true, not_or] at hc
      have hu : s.uts u = none := by
        cases hq : s.uts u <;> simp [hq] at hc ⊢
      have hr : (s.range u).isSome = true := by
        cases hq : s.range u <;> simp [hq] at hc ⊢
      have hnm : u ∉ s.whitelist := h.not_mem_of_none hu
      rw [setInsert_new hnm]
      simp only [Bool.not_true, Bool.false_eq_true, if_false]
      obtain ⟨st, hst, hpos⟩ := h.bl_pos rfl u hr hu
      refine .guard fun hle => ?_
      have hGI := h.add ((s.blUts u).getD {}) (bl' := upd s.blUts u none) (range' := s.range)
        hu hr (fun _ _ => rfl) (fun x hx => upd_other _ _ _ _ hx)
      rw [if_pos (by rw [hst]; exact hpos), setInsert_new hnm] at hGI
      simp only [gOf_false] at hGI
      rw [← Nat.add_assoc] at hGI
      refine (ih { s with whitelist := s.whitelist ++ [u], blUts := upd s.blUts u none,
                          uts := upd s.uts u (some ((s.blUts u).getD {})) } _ _ hGI).mono ?_
      intro r hr; refine ⟨?_, hr.2⟩
      have := hr.1
      omega

theorem tryCreateTickets_spec (s : State) (buyer n : Nat) :
    SatU (tryCreateTickets s buyer n) (fun s1 => s.range buyer = none ∧ s1 =
      { s with range := upd s.range buyer (some ⟨s.lastTicketId + 1, s.lastTicketId + 1 + n - 1⟩),
               batch := upd s.batch (s.lastTicketId + 1) (some ⟨buyer, n⟩),
               lastTicketId := s.lastTicketId + 1 + n - 1 }) := by
  rw [tryCreateTickets_eq]
  split
  · split
    · refine ⟨‹_›, ?_⟩
      rw [show s.lastTicketId + 1 + n - 1 = s.lastTicketId + n by omega]
      rfl
    · exact SatU_user _ _
  · exact SatU_user _ _

/-- one step of the v2 allocation loop, the two branches on `sumG infos > 0` written as one -/
theorem addV2Many_cons (e : Env) (buyer n : Nat) (infos : List (Nat × Nat))
    (rest : List (Nat × Nat × List (Nat × Nat))) (s : State) (tw tg uc ta ga : Nat) :
    addV2Many e ((buyer, n, infos) :: rest) (s, tw, tg, uc, ta, ga) =
      if n = 0 then addV2Many e rest (s, tw, tg, uc, ta, ga) else
      if e.isContract buyer then .error (.user "Only user accounts can participate") else
      if n > MAX_TICKETS_ALLOWANCE then
        .error (.user "Total number of tickets exceeds maximum allowed") else
      if infos.length > MAX_GUARANTEED_TICKETS_ENTRIES then
        .error (.user "Number of guaranteed tickets entries exceeds maximum allowed") else
      tryCreateTickets s buyer n >>= fun s1 =>
      if infos.any (fun i => i.1 > i.2) then
        .error (.user "Invalid guaranteed ticket min confirmed tickets") else
      if tw < sumG infos then
        .error (.user "Not enough winning tickets for guaranteed allocation") else
      addV2Many e rest
        ({ s1 with
            whitelist := if sumG infos > 0 then (setInsert s1.whitelist buyer).1 else s1.whitelist,
            uts := upd s1.uts buyer
              (some { a := n, infos := if sumG infos > 0 then infos else [] }) },
          tw - sumG infos, tg + sumG infos, uc + 1, ta + n, ga + sumG infos) := by
  rw [addV2Many]
  cases tryCreateTickets s buyer n with
  | error err => rfl
  | ok s1 =>
    by_cases hg : sumG infos > 0
    · simp only [hg, if_true, bind, Except.bind]
    · simp only [Nat.eq_zero_of_not_pos hg, Nat.lt_irrefl, Nat.not_lt_zero, if_false, bind,
        Except.bind, Nat.sub_zero, Nat.add_zero]

theorem addV2Many_spec (e : Env) (l : List (Nat × Nat × List (Nat × Nat))) (s : State)
    (tw tg uc ta ga : Nat) (h : GIs true s tg) :
    SatU (addV2Many e l (s, tw, tg, uc, ta, ga))
      (fun r => r.2.1 + r.2.2.1 = tw + tg ∧ GIs true r.1 r.2.2.1) := by
  induction l generalizing s tw tg uc ta ga with
  | nil => exact ⟨rfl, h⟩
  | cons x rest ih =>
    obtain ⟨buyer, n, infos⟩ := x
    rw [addV2Many_cons]
    by_cases hn : n = 0
    · rw [if_pos hn]; exact ih s tw tg uc ta ga h
    rw [if_neg hn]
    refine .guard fun _ => .guard fun _ => .guard fun _ => ?_
    refine (tryCreateTickets_spec s buyer n).bind fun s1 ⟨hnone, hs1⟩ => ?_
    subst hs1
    refine .guard fun _ => .guard fun hle => ?_
    have hGI := h.add { a := n, infos := if sumG infos > 0 then infos else [] } (bl' := s.blUts)
      (range' := upd s.range buyer (some ⟨s.lastTicketId + 1, s.lastTicketId + 1 + n - 1⟩))
      (h.none_of_range_none hnone) (by simp) (fun x hx => upd_other _ _ _ _ hx) (fun _ _ => rfl)
    have hg : gOf true { a := n, infos := if sumG infos > 0 then infos else [] } = sumG infos := by
      simp only [gOf_true]
      split
      · rfl
      · rename_i h0; exact (Nat.eq_zero_of_not_pos h0).symm
    rw [hg] at hGI
    exact (ih _ _ _ _ _ _ hGI).mono fun r hr => ⟨by have := hr.1; omega, hr.2⟩

/-- one step of the v1 allocation loop in terms of the two guarantee flags `c` (staking) and
    `d` (migration): both `require!`s together say `c + d ≤ tw`, and inserting twice is
    inserting once -/
theorem addV1Many_cons (buyer staking energy : Nat) (migrated : Bool)
    (rest : List (Nat × Nat × Nat × Bool)) (s : State) (tw tg : Nat) :
    addV1Many ((buyer, staking, energy, migrated) :: rest) (s, tw, tg) =
      tryCreateTickets s buyer (staking + energy) >>= fun s1 =>
      let c := if staking ≥ s1.minConfirmed then 1 else 0
      let d := if migrated then 1 else 0
      if tw < c + d then .error (.user "Too many users with guaranteed ticket") else
      addV1Many rest
        ({ s1 with
            whitelist := if c + d > 0 then (setInsert s1.whitelist buyer).1 else s1.whitelist,
            uts := upd s1.uts buyer (some { a := staking, b := energy, c := c, d := d }) },
          tw - c - d, tg + c + d) := by
  rw [addV1Many]
  cases tryCreateTickets s buyer (staking + energy) with
  | error err => rfl
  | ok s1 =>
    by_cases hs : staking ≥ s1.minConfirmed <;> cases migrated <;> rcases tw with _ | _ | tw <;>
      simp [hs, bind, Except.bind, setInsert_idem]
    omega

theorem addV1Many_spec (l : List (Nat × Nat × Nat × Bool)) (s : State) (tw tg : Nat)
    (h : GIs false s tg) :
    SatU (addV1Many l (s, tw, tg))
      (fun r => r.2.1 + r.2.2 = tw + tg ∧ GIs false r.1 r.2.2) := by
  induction l generalizing s tw tg with
  | nil => exact ⟨rfl, h⟩
  | cons x rest ih =>
    obtain ⟨buyer, staking, energy, migrated⟩ := x
    rw [addV1Many_cons]
    refine (tryCreateTickets_spec s buyer (staking + energy)).bind fun s1 ⟨hnone, hs1⟩ => ?_
    subst hs1
    dsimp only
    generalize (if staking ≥ s.minConfirmed then 1 else 0) = c
    generalize (if migrated = true then 1 else 0) = d
    refine .guard fun hle => ?_
    have hGI := h.add { a := staking, b := energy, c := c, d := d } (bl' := s.blUts)
      (range' := upd s.range buyer
        (some ⟨s.lastTicketId + 1, s.lastTicketId + 1 + (staking + energy) - 1⟩))
      (h.none_of_range_none hnone) (by simp) (fun x hx => upd_other _ _ _ _ hx) (fun _ _ => rfl)
    simp only [gOf_false] at hGI
    rw [← Nat.add_assoc tg] at hGI
    exact (ih _ _ _ hGI).mono fun r hr => ⟨by have := hr.1; omega, hr.2⟩

def ReserveStep (v2 : Bool) (s s' : State) : Prop :=
  s'.nrWinning + s'.totalGuaranteed = s.nrWinning + s.totalGuaranteed ∧ GuarInv v2 s'

theorem addTicketsV2_reserve (t : Tx) (e : Env) (l : List (Nat × Nat × List (Nat × Nat)))
    (h : GuarInv true t.s) :
    SatU (addTicketsV2 t e l) (fun t' => ReserveStep true t.s t'.s) :=
  (requireStage_spec ..).bind fun _ _ =>
    (addV2Many_spec e l t.s t.s.nrWinning t.s.totalGuaranteed 0 0 0 h).bind fun _ hr => hr

theorem addTicketsV1_reserve (s : State) (e : Env) (l : List (Nat × Nat × Nat × Bool))
    (h : GuarInv false s) :
    SatU (addTicketsV1 s e l) (fun s' => ReserveStep false s s') :=
  (requireStage_spec ..).bind fun _ _ =>
    (addV1Many_spec l s s.nrWinning s.totalGuaranteed h).bind fun _ hr => hr

theorem clearGuaranteedV2_reserve (s : State) (l : List Nat) (h : GuarInv true s) :
    ∃ s', clearGuaranteedV2 s l = .ok s' ∧ ReserveStep true s s' := by
  obtain ⟨s', nw', tg', h1, h2, h3⟩ := clearV2Many_spec l s s.nrWinning s.totalGuaranteed h
  refine ⟨{ s' with nrWinning := nw', totalGuaranteed := tg' }, ?_, h2, h3⟩
  simp only [clearGuaranteedV2, h1, bind, Except.bind, pure, Except.pure]

theorem clearGuaranteedV1_reserve (s : State) (l : List Nat) (h : GuarInv false s) :
    ∃ s', clearGuaranteedV1 s l = .ok s' ∧ ReserveStep false s s' := by
  obtain ⟨s', r', tg', h1, h2, h3, h4⟩ := clearV1Many_spec l s 0 s.totalGuaranteed h
  refine ⟨{ s' with nrWinning := s'.nrWinning + r', totalGuaranteed := tg' }, ?_, ?_, h3⟩
  · simp only [clearGuaranteedV1, h1, bind, Except.bind, pure, Except.pure]
  · show s'.nrWinning + r' + tg' = _
    rw [h4]; omega

theorem restoreGuaranteedV2_reserve (s : State) (l : List Nat) (h : GuarInv true s)
    (hnd : l.Nodup) (hno : ∀ u ∈ l, s.uts u = none) :
    SatU (restoreGuaranteedV2 s l) (fun s' => ReserveStep true s s') :=
  (restoreV2Many_spec l s s.nrWinning s.totalGuaranteed h hnd hno).bind fun _ hr => hr

theorem restoreGuaranteedV1_reserve (s : State) (l : List Nat) (h : GuarInv false s) :
    SatU (restoreGuaranteedV1 s l) (fun s' => ReserveStep false s s') :=
  (restoreV1Many_spec l s s.nrWinning s.totalGuaranteed h).bind fun _ hr => hr

end LP
