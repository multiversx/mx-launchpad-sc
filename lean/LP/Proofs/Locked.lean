import LP.Proofs.StepLemmas
/-
  `lockSplit amount pct = amount * pct / 10000` (`pct` basis points of `amount`, rounded down), one
  send (`send_ok_iff`) and `Tx.sendLocked` (locked_launchpad_token_send.rs): what it writes to the
  output for any lock percentage (`sendLocked_o`); with `lockPct ≤ 10000` it succeeds exactly when
  the balance covers `amount`, and then has the effect `sendLockedResult`.  The locked amount is
  `lockedPart` on a transaction record and `pl_lockedAmt` on a state (`lockedPart_eq`).
-/
namespace LP

theorem lockSplit_le {amount pct : Nat} (h : pct ≤ 10000) : lockSplit amount pct ≤ amount :=
  Nat.div_le_of_le_mul (Nat.mul_comm 10000 amount ▸ Nat.mul_le_mul_left amount h)

theorem lockSplit_full (amount : Nat) : lockSplit amount 10000 = amount :=
  Nat.mul_div_cancel amount (by decide)

theorem lockSplit_zero_pct (amount : Nat) : lockSplit amount 0 = 0 := Nat.zero_div 10000

theorem lockSplit_mono_amount {a b : Nat} (pct : Nat) (h : a ≤ b) :
    lockSplit a pct ≤ lockSplit b pct :=
  Nat.div_le_div_right (Nat.mul_le_mul_right pct h)

theorem lockSplit_mono_pct (a : Nat) {p q : Nat} (h : p ≤ q) :
    lockSplit a p ≤ lockSplit a q :=
  Nat.div_le_div_right (Nat.mul_le_mul_left a h)

theorem lockSplit_pos_iff (amount pct : Nat) : 0 < lockSplit amount pct ↔ 10000 ≤ amount * pct := by
  unfold lockSplit
  rw [Nat.div_pos_iff]
  omega

def sendResult (t : Tx) (to : Nat) (p : Pay) : Tx :=
  { t with s := { t.s with bal := t.s.bal.sub p.tok p.nonce p.amount },
           o := { t.o with xfers := t.o.xfers ++ [(to, p)] } }

theorem send_ok_iff (t : Tx) (to : Nat) (p : Pay) (t' : Tx) :
    t.send to p = .ok t' ↔ p.amount ≤ t.s.bal p.tok p.nonce ∧ t' = sendResult t to p := by
  unfold Tx.send sendResult
  by_cases h : t.s.bal p.tok p.nonce < p.amount
  · simp only [h, if_true]
    constructor
    · intro h'; cases h'
    · rintro ⟨h', _⟩; omega
  · simp only [h, if_false, Except.ok.injEq]
    constructor
    · intro h'; exact ⟨by omega, h'.symm⟩
    · rintro ⟨_, h'⟩; exact h'.symm

/-- what goes to the lock contract -/
def lockedPart (t : Tx) (e : Env) (amount : Nat) : Nat :=
  if e.epoch < t.s.unlockEpoch then lockSplit amount t.s.lockPct else 0

/-- the part of an entitlement `amount` that a settlement at epoch `e.epoch` locks -/
def pl_lockedAmt (s : State) (e : Env) (amount : Nat) : Nat :=
  if e.epoch < s.unlockEpoch then lockSplit amount s.lockPct else 0

/-- the same amount, read on the transaction record resp. on the state -/
theorem lockedPart_eq (t : Tx) (e : Env) (amount : Nat) :
    lockedPart t e amount = pl_lockedAmt t.s e amount := rfl

def sendLockedResult (t : Tx) (e : Env) (dest amount : Nat) : Tx :=
  let L := lockedPart t e amount
  { t with
    s := { t.s with bal := t.s.bal.sub (.esdt t.s.lpTok) 0 amount },
    o := { t.o with
      xfers := t.o.xfers
        ++ (if L > 0 then [(t.s.lockAddr, (⟨.esdt t.s.lpTok, 0, L⟩ : Pay))] else [])
        ++ (if amount - L > 0 then [(dest, (⟨.esdt t.s.lpTok, 0, amount - L⟩ : Pay))] else []),
      locks := t.o.locks ++ (if L > 0 then [(t.s.unlockEpoch, dest, L)] else []) } }

/-- `Tx.sendLocked` with the locked amount as a parameter -/
def sendLockedWith (t : Tx) (dest amount L : Nat) : Res Tx := do
  let t ← if L > 0 then do
      let t ← t.send t.s.lockAddr ⟨.esdt t.s.lpTok, 0, L⟩
      pure { t with o := { t.o with locks := t.o.locks ++ [(t.s.unlockEpoch, dest, L)] } }
    else pure t
  let unlocked := amount - L
  if unlocked > 0 then t.send dest ⟨.esdt t.s.lpTok, 0, unlocked⟩ else pure t

theorem sendLocked_eq_with (t : Tx) (e : Env) (dest amount : Nat) :
    t.sendLocked e dest amount = sendLockedWith t dest amount (lockedPart t e amount) := rfl

theorem lockedPart_le {t : Tx} {e : Env} {amount : Nat}
    (hp : e.epoch < t.s.unlockEpoch → t.s.lockPct ≤ 10000) : lockedPart t e amount ≤ amount := by
  unfold lockedPart
  split
  · exact lockSplit_le (hp ‹_›)
  · exact Nat.zero_le _

theorem sendLocked_ok (t : Tx) (e : Env) (dest amount : Nat)
    (hp : e.epoch < t.s.unlockEpoch → t.s.lockPct ≤ 10000)
    (hb : amount ≤ t.s.bal (.esdt t.s.lpTok) 0) :
    t.sendLocked e dest amount = .ok (sendLockedResult t e dest amount) := by
  have hL : lockedPart t e amount ≤ amount := lockedPart_le hp
  rw [sendLocked_eq_with]
  unfold sendLockedResult
  simp only []
  generalize lockedPart t e amount = L at hL ⊢
  unfold sendLockedWith
  simp only [bind, Except.bind, pure, Except.pure]
  by_cases h1 : L > 0
  · have hnot : ¬ t.s.bal (.esdt t.s.lpTok) 0 < L := by omega
    simp only [h1, if_true, Tx.send, hnot, if_false]
    by_cases h2 : amount - L > 0
    · have hnot2 : ¬ (t.s.bal.sub (.esdt t.s.lpTok) 0 L) (.esdt t.s.lpTok) 0 < amount - L := by
        rw [Bal.sub_at]; omega
      simp only [h2, if_true, hnot2, if_false, Bal.sub_sub]
      have : L + (amount - L) = amount := by omega
      simp [this]
    · have : L = amount := by omega
      subst this
      simp
  · have hL0 : L = 0 := by omega
    subst hL0
    simp only [Nat.lt_irrefl, if_false, Nat.sub_zero]
    by_cases h2 : amount > 0
    · have hnot : ¬ t.s.bal (.esdt t.s.lpTok) 0 < amount := by omega
      simp [h2, Tx.send, hnot]
    · have : amount = 0 := by omega
      subst this
      simp [Bal.sub_zero]

theorem sendLocked_err (t : Tx) (e : Env) (dest amount : Nat)
    (hp : e.epoch < t.s.unlockEpoch → t.s.lockPct ≤ 10000)
    (hb : t.s.bal (.esdt t.s.lpTok) 0 < amount) :
    t.sendLocked e dest amount = .error (.vm "insufficient funds") := by
  have hL : lockedPart t e amount ≤ amount := lockedPart_le hp
  rw [sendLocked_eq_with]
  generalize lockedPart t e amount = L at hL ⊢
  unfold sendLockedWith
  simp only [bind, Except.bind, pure, Except.pure]
  by_cases h1 : L > 0
  · by_cases hlt : t.s.bal (.esdt t.s.lpTok) 0 < L
    · simp [h1, Tx.send, hlt]
    · have h2 : amount - L > 0 := by omega
      have hlt2 : (t.s.bal.sub (.esdt t.s.lpTok) 0 L) (.esdt t.s.lpTok) 0 < amount - L := by
        rw [Bal.sub_at]; omega
      simp [h1, Tx.send, hlt, h2, hlt2]
  · have hL0 : L = 0 := by omega
    subst hL0
    have h2 : amount > 0 := by omega
    simp [h2, Tx.send, hb]

/-- the output of `sendLocked` for any lock percentage; the state is that of `sendLockedResult` only
    for `lockPct ≤ 10000` (`sendLocked_ok`) -/
theorem sendLocked_o {t t' : Tx} {e : Env} {dest amount : Nat}
    (h : t.sendLocked e dest amount = .ok t') : t'.o = (sendLockedResult t e dest amount).o := by
  rw [sendLocked_eq_with] at h
  unfold sendLockedResult
  simp only []
  generalize lockedPart t e amount = L at h ⊢
  unfold sendLockedWith at h
  have tail : ∀ t1 : Tx, (if amount - L > 0 then t1.send dest ⟨.esdt t1.s.lpTok, 0, amount - L⟩
        else pure t1) = .ok t' →
      t'.o = { t1.o with xfers := t1.o.xfers ++
        (if amount - L > 0 then [(dest, (⟨.esdt t1.s.lpTok, 0, amount - L⟩ : Pay))] else []) } := by
    intro t1 h2
    by_cases hD : amount - L > 0
    · rw [if_pos hD] at h2
      obtain ⟨_, rfl⟩ := (send_ok_iff ..).mp h2
      rw [if_pos hD]; rfl
    · rw [if_neg hD] at h2
      cases h2
      rw [if_neg hD, List.append_nil]
  by_cases hL : L > 0
  · simp only [hL, if_true, bind_ok_iff, pure_ok_iff] at h ⊢
    obtain ⟨t0, h0, t1, rfl, h2⟩ := h
    obtain ⟨_, rfl⟩ := (send_ok_iff ..).mp h0
    rw [tail _ h2]
    rfl
  · simp only [hL, if_false, bind_ok_iff, pure_ok_iff] at h ⊢
    obtain ⟨t1, rfl, h2⟩ := h
    rw [tail _ h2, List.append_nil, List.append_nil]
end LP
