import LP.Props.C07
/- Sums over participants and the payment-token ledger equations. -/
namespace LP

def sumOver (f : Nat → Nat) : List Nat → Nat
  | [] => 0
  | a :: rest => f a + sumOver f rest

theorem sumOver_congr {f g : Nat → Nat} {L : List Nat} (h : ∀ a ∈ L, f a = g a) :
    sumOver f L = sumOver g L := by
  induction L with
  | nil => rfl
  | cons a rest ih =>
    simp only [sumOver]
    rw [h a (by simp), ih (fun x hx => h x (by simp [hx]))]

theorem sumOver_upd_not_mem (f : Nat → Nat) (L : List Nat) (k v : Nat) (hk : k ∉ L) :
    sumOver (upd f k v) L = sumOver f L := by
  apply sumOver_congr
  intro a ha
  have : a ≠ k := fun h => hk (h ▸ ha)
  simp [upd, this]

theorem sumOver_upd_mem (f : Nat → Nat) (L : List Nat) (k v : Nat) (hn : L.Nodup) (hk : k ∈ L) :
    sumOver (upd f k v) L + f k = sumOver f L + v := by
  induction L with
  | nil => simp at hk
  | cons a rest ih =>
    simp only [sumOver]
    rw [List.nodup_cons] at hn
    by_cases hak : a = k
    · subst hak
      rw [sumOver_upd_not_mem f rest a v hn.1]
      simp [upd]; omega
    · have hk' : k ∈ rest := by
        cases hk with
        | head => exact absurd rfl hak
        | tail _ h => exact h
      have := ih hn.2 hk'
      simp [upd, hak]; omega

theorem sumOver_zero (f : Nat → Nat) (L : List Nat) (h : ∀ a ∈ L, f a = 0) : sumOver f L = 0 := by
  induction L with
  | nil => rfl
  | cons a rest ih => simp [sumOver, h a (by simp), ih (fun x hx => h x (by simp [hx]))]

theorem sumOver_le {f g : Nat → Nat} {L : List Nat} (h : ∀ a ∈ L, f a ≤ g a) : sumOver f L ≤ sumOver g L := by
  induction L with
  | nil => simp [sumOver]
  | cons a rest ih =>
    simp only [sumOver]
    have := h a (by simp)
    have := ih (fun x hx => h x (by simp [hx]))
    omega

theorem sumOver_add (f g : Nat → Nat) (L : List Nat) :
    sumOver (fun a => f a + g a) L = sumOver f L + sumOver g L := by
  induction L with
  | nil => rfl
  | cons a rest ih => simp only [sumOver, ih]; omega

theorem mul_sumOver (c : Nat) (f : Nat → Nat) (L : List Nat) :
    c * sumOver f L = sumOver (fun a => c * f a) L := by
  induction L with
  | nil => simp [sumOver]
  | cons a rest ih => simp only [sumOver, Nat.mul_add, ih]

structure Covers (s : State) (L : List Nat) : Prop where
  nodup : L.Nodup
  supp : ∀ a, s.confirmed a ≠ 0 → a ∈ L

/-- before the selection is complete the contract holds, in the ticket-payment token, exactly the
    full payment of every confirmed ticket -/
def PayEqPre (s : State) (L : List Nat) : Prop :=
  s.bal s.payTok 0 = s.price * sumOver s.confirmed L

/-- winning tickets of an address, as the winner view counts them -/
def winCountOf (s : State) (a : Nat) : Nat :=
  match s.range a with
  | none => 0
  | some r => countWinning s.status r.first (rangeLen r)

theorem winCountOf_none {s : State} {a : Nat} (h : s.range a = none) : winCountOf s a = 0 := by
  rw [winCountOf, h]

theorem winCountOf_some {s : State} {a : Nat} {r : Range} (h : s.range a = some r) :
    winCountOf s a = countWinning s.status r.first (rangeLen r) := by
  rw [winCountOf, h]

/-- what is still owed to `a` in the payment token once all steps are complete; settled = no range -/
def refundDue (s : State) (a : Nat) : Nat :=
  match s.range a with
  | none => 0
  | some _ => s.price * (s.confirmed a - winCountOf s a)

/-- after all selection steps: holdings = the owner's not-yet-withdrawn proceeds + the refund due
    for every losing ticket of participants who have not settled -/
def PayEqPost (s : State) (L : List Nat) : Prop :=
  s.bal s.payTok 0 = s.claimablePayment + sumOver (refundDue s) L

/-- the payments for all confirmed tickets split into the proceeds for the winning ones and,
    participant by participant, the refund for the others -/
theorem ledger_handover {price bal cp : Nat} {conf win due : Nat → Nat} {L : List Nat}
    (hpre : bal = price * sumOver conf L) (hcp : cp = price * sumOver win L)
    (hle : ∀ a ∈ L, win a ≤ conf a) (hdue : ∀ a ∈ L, due a = price * (conf a - win a)) :
    bal = cp + sumOver due L := by
  rw [hpre, hcp, mul_sumOver, mul_sumOver, ← sumOver_add]
  apply sumOver_congr
  intro a ha
  rw [hdue a ha, ← Nat.mul_add]
  congr 1
  have := hle a ha
  omega

/-- once everybody has settled and the owner has withdrawn, nothing is left -/
theorem all_settled_zero (s : State) (L : List Nat) (hpost : PayEqPost s L)
    (hall : ∀ a ∈ L, s.range a = none) (hcp : s.claimablePayment = 0) :
    s.bal s.payTok 0 = 0 := by
  unfold PayEqPost at hpost
  rw [hpost, hcp, sumOver_zero]
  intro a ha
  simp [refundDue, hall a ha]

end LP
