import LP.Proofs.Events
import LP.Proofs.Claim
import LP.Proofs.Loop
import LP.Proofs.Stage
import LP.Proofs.NftDraw
import LP.Proofs.ClaimPayment
import LP.Props.C07
/-
  What each helper and each endpoint body writes.  Per helper `X` one lemma (`X_fp`, or `X_eq`
  where the result is a closed term): an accepted run of `X` yields the old state (and output
  record) with the listed fields replaced, `∃ …, t' = { t with s := { t.s with … }, o := { t.o with … } }`;
  the new values are exact where some projection of the state needs them and existential otherwise.

  Per call there is one table of the fields written, `written s s' c`: the old state with the value of
  the new state in each field the call can write (for an owner setter the closed form `ownerEdit`).
  * `exec_fp : … → ExecFp t.s t'.s e c ∧ OutFp t.o t'.o c` collects the helpers' lemmas.  A row of
    `ExecFp` is the closed form of the new state where the call has one (the owner setters through
    `ownerEdit`, the support address, the pause switch, the SFT set-up, `confirm`); for the blacklist
    calls `blState` / `unblState` (the exact `blacklist` and `confirmed`) with what the hooks write
    (`bal` among it: the NFT fee refund) taken from the new state; for a claim the two cases
    `ClaimFp`, the one row with `∃`: beyond `settledState` its values are not given; and
    `t'.s = written t.s t'.s c` otherwise,
    beside which `select` and the additional steps say which flag they can set.  `OutFp` lists the
    output channels written, their values existential.  It is the one to use when a new value, the
    case of a claim or `t'.o` matters.
  * `exec_written : … → t'.s = written t.s t'.s c` for every call, read off the rows of `ExecFp`.  It is
    the one to use for "no call, a few apart, changes the projection `π`": after `cases c` every call
    that writes no field of `π` is closed by `congrArg π (exec_written h)` (the two sides are equal by
    `rfl`), and only the few are read off `exec_fp`.
-/
namespace LP

/-- strip leading `∃`/`∧` layers of hypothesis `h`, keeping the last component under the name `h` -/
macro "lp_peel " h:ident : tactic => `(tactic| repeat (cases $h:ident with | intro _ $h))

@[simp] theorem Tx.emit_s (t : Tx) (ev : Ev) : (t.emit ev).s = t.s := rfl
@[simp] theorem Tx.setS_s (t : Tx) (s : State) : (t.setS s).s = s := rfl
@[simp] theorem Tx.setS_o (t : Tx) (s : State) : (t.setS s).o = t.o := rfl
@[simp] theorem Tx.setS_c (t : Tx) (s : State) : (t.setS s).c = t.c := rfl

theorem Tx.send_s {t t' : Tx} {a : Nat} {p : Pay} (h : t.send a p = .ok t') :
    t'.s = { t.s with bal := t.s.bal.sub p.tok p.nonce p.amount } ∧
    t'.o = { t.o with xfers := t.o.xfers ++ [(a, p)] } ∧ t'.c = t.c := by
  obtain ⟨_, rfl⟩ := (send_ok_iff t a p t').mp h
  exact ⟨rfl, rfl, rfl⟩

theorem Tx.send_fp {t t' : Tx} {a : Nat} {p : Pay} (h : t.send a p = .ok t') :
    ∃ bal xf, t' = { t with s := { t.s with bal := bal }, o := { t.o with xfers := xf } } := by
  obtain ⟨_, rfl⟩ := (send_ok_iff t a p t').mp h
  exact ⟨_, _, rfl⟩

theorem Tx.refund_fp {t t' : Tx} {e : Env} {a n : Nat} (h : t.refund e a n = .ok t') :
    ∃ xf ev, t' = { t with s := { t.s with bal := t.s.bal.sub t.s.payTok 0 (t.s.price * n) },
                           o := { t.o with xfers := xf, events := ev } } := by
  obtain ⟨_, rfl⟩ := (refund_ok_iff t e a n t').mp h
  unfold refundResult
  split
  · rename_i h0
    subst h0
    exact ⟨_, _, by rw [Nat.mul_zero, Bal.sub_zero]⟩
  · exact ⟨_, _, rfl⟩

theorem Tx.sendLocked_fp {t t' : Tx} {e : Env} {d a : Nat} (h : t.sendLocked e d a = .ok t') :
    ∃ bal xf lk, t' = { t with s := { t.s with bal := bal }, o := { t.o with xfers := xf, locks := lk } } := by
  unfold Tx.sendLocked at h
  dsimp only at h
  generalize (if e.epoch < t.s.unlockEpoch then lockSplit a t.s.lockPct else 0) = la at h
  split at h <;> simp only [bind_ok_iff, pure_ok_iff] at h
  · obtain ⟨t0, h0, t1, rfl, h2⟩ := h
    obtain ⟨_, _, rfl⟩ := Tx.send_fp h0
    split at h2
    · obtain ⟨_, _, rfl⟩ := Tx.send_fp h2
      exact ⟨_, _, _, rfl⟩
    · cases h2
      exact ⟨_, _, _, rfl⟩
  · obtain ⟨t1, rfl, h2⟩ := h
    split at h2
    · obtain ⟨_, _, rfl⟩ := Tx.send_fp h2
      exact ⟨_, _, _, rfl⟩
    · cases h2
      exact ⟨_, _, _, rfl⟩

theorem Tx.sendLaunchpadTokens_fp {t t' : Tx} {e : Env} {a n : Nat}
    (h : t.sendLaunchpadTokens e a n = .ok t') :
    ∃ bal xf lk, t' = { t with s := { t.s with bal := bal }, o := { t.o with xfers := xf, locks := lk } } := by
  unfold Tx.sendLaunchpadTokens at h
  split at h
  · cases h
    exact ⟨_, _, _, rfl⟩
  · dsimp only at h
    split at h
    · exact Tx.sendLocked_fp h
    · obtain ⟨_, _, rfl⟩ := Tx.send_fp h
      exact ⟨_, _, _, rfl⟩

theorem Tx.eq_of_drawFrame {t t' : Tx} (h : Events.DrawFrame t t') :
    ∃ c d, t' = { t with c := c, o := { t.o with draws := d } } := by
  obtain ⟨s', c', ⟨r, ev, xf, lk, sf, d⟩⟩ := t'
  obtain ⟨hs, _, hr, hev, hxf, hlk, hsf⟩ := h
  dsimp only at hs hr hev hxf hlk hsf
  subst hs hr hev hxf hlk hsf
  exact ⟨_, _, rfl⟩

theorem tryCreateTickets_fp {s s' : State} {a n : Nat} (h : tryCreateTickets s a n = .ok s') :
    ∃ r b l, s' = { s with range := r, batch := b, lastTicketId := l } := by
  obtain ⟨_, _, rfl⟩ := tryCreateTickets_iff.mp h
  exact ⟨_, _, _, rfl⟩

theorem createMany_fp : ∀ (l : List (Nat × Nat)) {s s' : State}, createMany l s = .ok s' →
    ∃ r b l, s' = { s with range := r, batch := b, lastTicketId := l }
  | [], s, s', h => by cases h; exact ⟨_, _, _, rfl⟩
  | (a, n) :: rest, s, s', h => by
    unfold createMany at h
    split at h
    · cases h
    · rename_i s1 h1
      obtain ⟨_, _, _, rfl⟩ := tryCreateTickets_fp h1
      obtain ⟨_, _, _, rfl⟩ := createMany_fp rest h
      exact ⟨_, _, _, rfl⟩

theorem depositLaunchpadTokens_eq {s s' : State} {e : Env} {tw : Nat}
    (h : depositLaunchpadTokens s e tw = .ok s') :
    s.deposited = false ∧ s' = { s with deposited := true, totalDeposited := s.perTicket * tw } := by
  unfold depositLaunchpadTokens at h
  simp only [bind_ok_iff, pure_ok_iff, req_ok_iff, exists_const, Prod.exists] at h
  obtain ⟨hd, tok, amt, _, _, hamt, rfl⟩ := h
  have : amt = s.perTicket * tw := by simpa using hamt
  subst this
  exact ⟨by simpa using hd, rfl⟩

theorem trySetTicketPrice_eq {s s' : State} {tok : Token} {a : Nat}
    (h : trySetTicketPrice s tok a = .ok s') : s' = { s with payTok := tok, price := a } := by
  unfold trySetTicketPrice at h
  simp only [bind_ok_iff, pure_ok_iff, req_ok_iff, exists_const] at h
  exact h.2.2.2.symm

theorem confirmTickets_fp {t t' : Tx} {e : Env} {n : Nat} (h : confirmTickets t e n = .ok t') :
    ∃ ev, t' = { t with s := { t.s with confirmed := upd t.s.confirmed e.caller (t.s.confirmed e.caller + n) },
                        o := { t.o with events := ev } } := by
  obtain ⟨_, _, rfl⟩ := (Props.C07.confirmTickets_ok_iff t e n t').mp h
  exact ⟨_, rfl⟩

theorem filterTickets_fp {t t' : Tx} {e : Env} (h : filterTickets t e = .ok t') :
    ∃ r b f op nw l c rt ev,
      t' = { s := { t.s with range := r, batch := b, flags := f, op := op, nrWinning := nw, lastTicketId := l },
             c := c, o := { t.o with ret := rt, events := ev } } ∧
      f.selected = t.s.flags.selected ∧ f.additional = t.s.flags.additional := by
  obtain ⟨hp, x, hx⟩ := filterTickets_inv t t' e h
  rw [filterTickets_eq t e x hp hx] at h
  generalize runWhile (filterBody t.s.confirmed t.s.lastTicketId) _ _ x = R at h
  obtain err | ⟨f, b, st⟩ := R
  · cases h
  have hfl : (filterFlags t.s x.first).selected = t.s.flags.selected ∧
      (filterFlags t.s x.first).additional = t.s.flags.additional := by
    unfold filterFlags; split <;> exact ⟨rfl, rfl⟩
  cases st with
  | outOfFuel => cases h
  | interrupted =>
    cases h
    exact ⟨_, _, _, _, _, _, _, _, _, rfl, hfl⟩
  | completed =>
    simp only [filterOutcome] at h
    split at h
    · cases h
      exact ⟨_, _, _, _, _, _, _, _, _, rfl, hfl⟩
    · cases h

theorem selectWinners_fp {hash : List Nat → List Nat} {t t' : Tx} {e : Env}
    (h : selectWinners hash t e = .ok t') :
    ∃ st p op f cp c rt ev d,
      t' = { s := { t.s with status := st, posToId := p, op := op, flags := f, claimablePayment := cp },
             c := c, o := { t.o with ret := rt, events := ev, draws := d } } ∧
      (f = t.s.flags ∨ f = { t.s.flags with selected := true }) := by
  obtain ⟨_, rng, pos, t0, x, b, st, _, _, hx, h⟩ := Events.selectWinners_ok h
  obtain ⟨_, _, hx⟩ := Tx.eq_of_drawFrame hx
  cases st with
  | outOfFuel => cases h
  | interrupted =>
    cases h
    exact ⟨_, _, _, _, _, _, _, _, _, by rw [hx], Or.inl rfl⟩
  | completed =>
    cases h
    exact ⟨_, _, _, _, _, _, _, _, _, by rw [hx]; rfl, by exact Or.inr rfl⟩

theorem addV1Many_fp : ∀ (l : List (Nat × Nat × Nat × Bool)) {acc acc' : State × Nat × Nat},
    addV1Many l acc = .ok acc' →
    ∃ r b l wl u, acc'.1 = { acc.1 with range := r, batch := b, lastTicketId := l, whitelist := wl, uts := u }
  | [], acc, acc', h => by cases h; exact ⟨_, _, _, _, _, rfl⟩
  | (buyer, staking, energy, migrated) :: rest, (s, tw, tg), acc', h => by
    rw [addV1Many_cons] at h
    obtain ⟨s1, h1, h⟩ := (bind_ok_iff _ _ _).mp h
    obtain ⟨_, _, _, rfl⟩ := tryCreateTickets_fp h1
    obtain ⟨_, _, _, _, _, h2⟩ := addV1Many_fp rest (ok_of_guard h).2
    exact ⟨_, _, _, _, _, h2.trans rfl⟩

theorem addTicketsV1_fp {s s' : State} {e : Env} {l : List (Nat × Nat × Nat × Bool)}
    (h : addTicketsV1 s e l = .ok s') :
    ∃ r b l wl u tg nw, s' = { s with range := r, batch := b, lastTicketId := l, whitelist := wl, uts := u,
                                      totalGuaranteed := tg, nrWinning := nw } := by
  unfold addTicketsV1 at h
  simp only [bind_ok_iff, pure_ok_iff, Prod.exists] at h
  obtain ⟨_, _, s1, tw, tg, h1, rfl⟩ := h
  obtain ⟨_, _, _, _, _, h2⟩ := addV1Many_fp l h1
  dsimp only at h2
  subst h2
  exact ⟨_, _, _, _, _, _, _, rfl⟩

theorem addV2Many_fp (e : Env) : ∀ (l : List (Nat × Nat × List (Nat × Nat)))
    {acc acc' : State × Nat × Nat × Nat × Nat × Nat}, addV2Many e l acc = .ok acc' →
    ∃ r b l wl u, acc'.1 = { acc.1 with range := r, batch := b, lastTicketId := l, whitelist := wl, uts := u }
  | [], acc, acc', h => by cases h; exact ⟨_, _, _, _, _, rfl⟩
  | (buyer, n, infos) :: rest, (s, tw, tg, uc, ta, ga), acc', h => by
    rcases Events.addV2Many_cons_ok h with ⟨_, h⟩ | ⟨_, s1, _, _, h1, _, h⟩
    · exact addV2Many_fp e rest h
    · obtain ⟨_, _, _, rfl⟩ := tryCreateTickets_fp h1
      obtain ⟨_, _, _, _, _, h2⟩ := addV2Many_fp e rest h
      exact ⟨_, _, _, _, _, h2.trans rfl⟩

theorem addTicketsV2_fp {t t' : Tx} {e : Env} {l : List (Nat × Nat × List (Nat × Nat))}
    (h : addTicketsV2 t e l = .ok t') :
    ∃ r b l wl u tg nw ev,
      t' = { t with s := { t.s with range := r, batch := b, lastTicketId := l, whitelist := wl, uts := u,
                                    totalGuaranteed := tg, nrWinning := nw },
                    o := { t.o with events := ev } } := by
  unfold addTicketsV2 at h
  simp only [bind_ok_iff, pure_ok_iff, Prod.exists] at h
  obtain ⟨_, _, s1, tw, tg, uc, ta, ga, h1, rfl⟩ := h
  obtain ⟨_, _, _, _, _, h2⟩ := addV2Many_fp e l h1
  dsimp only at h2
  subst h2
  exact ⟨_, _, _, _, _, _, _, _, rfl⟩

theorem guaranteedSubstep_fp {hash : List Nat → List Nat} {t t' : Tx} {g g' : GuarOp} {st : LoopStatus}
    (h : guaranteedSubstep hash t g = .ok (t', g', st)) :
    ∃ wl st p op c d, t' = { s := { t.s with whitelist := wl, status := st, posToId := p, op := op },
                             c := c, o := { t.o with draws := d } } := by
  obtain ⟨⟨⟨wl, st', p, op, hs⟩, hr, hev, hxf, hlk, hsf⟩, _⟩ := Events.guaranteedSubstep_frame h
  obtain ⟨s', c', ⟨r, ev, xf, lk, sf, d⟩⟩ := t'
  dsimp only at hs hr hev hxf hlk hsf
  subst hs hr hev hxf hlk hsf
  exact ⟨_, _, _, _, _, _, rfl⟩

theorem distribute_fp {hash : List Nat → List Nat} {t t' : Tx} {e : Env}
    (h : distribute hash t e = .ok t') :
    ∃ wl st p op cp nw f c rt ev d,
      t' = { s := { t.s with whitelist := wl, status := st, posToId := p, op := op, claimablePayment := cp,
                             nrWinning := nw, flags := f },
             c := c, o := { t.o with ret := rt, events := ev, draws := d } } ∧
      (f = t.s.flags ∨ f = { t.s.flags with additional := true }) := by
  obtain ⟨_, g, _, h⟩ := (distribute_iff hash t t' e).mp h
  obtain ⟨⟨t1, g1, st⟩, hsub, hfin⟩ := (bind_ok_iff _ _ _).mp h
  obtain ⟨_, _, _, _, _, _, rfl⟩ := guaranteedSubstep_fp hsub
  rw [selTxOf_s, selTxOf_o] at hfin
  cases st
  case completed =>
    simp only [distFinish] at hfin
    split at hfin <;> cases hfin <;> exact ⟨_, _, _, _, _, _, _, _, _, _, _, rfl, Or.inr rfl⟩
  all_goals
    cases hfin
    exact ⟨_, _, _, _, _, _, _, _, _, _, _, rfl, Or.inl rfl⟩

theorem nftBody_frame {hash : List Nat → List Nat} {total : Nat} {t0 : Tx} {x x' : NSt} {c : Bool}
    (h : nftBody hash total x = .ok (x', c)) (hp : Events.DrawFrame t0 x.tx) : Events.DrawFrame t0 x'.tx := by
  unfold nftBody at h
  split at h
  · cases h; exact hp
  · dsimp only at h
    split at h
    · cases h
    · cases h
      exact hp.trans (Events.DrawFrame.draw hash x.tx x.rng)

theorem nftSubstep_fp {hash : List Nat → List Nat} {t t' : Tx} {r r' : Rng} {st : LoopStatus}
    (h : nftSubstep hash t r = .ok (t', r', st)) :
    ∃ py w op cn c d, t' = { s := { t.s with payers := py, nftWinners := w, op := op, claimableNft := cn },
                             c := c, o := { t.o with draws := d } } := by
  unfold nftSubstep at h
  simp only [bind_ok_iff, Prod.exists] at h
  obtain ⟨x, b, st1, h1, h⟩ := h
  obtain ⟨_, _, hx⟩ := Tx.eq_of_drawFrame
    (runWhile_preserves (fun y : NSt => Events.DrawFrame t y.tx) _ (fun _ _ _ hb hp => nftBody_frame hb hp)
      _ _ _ _ _ _ h1 (.refl t))
  cases st1 with
  | outOfFuel => cases h
  | interrupted => cases h; exact ⟨_, _, _, _, _, _, by rw [hx]⟩
  | completed => cases h; exact ⟨_, _, _, _, _, _, by rw [hx]; rfl⟩

theorem selectNft_fp {hash : List Nat → List Nat} {t t' : Tx} {e : Env}
    (h : selectNft hash t e = .ok t') :
    ∃ py w op cn f c rt d,
      t' = { s := { t.s with payers := py, nftWinners := w, op := op, claimableNft := cn, flags := f },
             c := c, o := { t.o with ret := rt, draws := d } } ∧
      (f = t.s.flags ∨ f = { t.s.flags with additional := true }) := by
  obtain ⟨_, r, _, h⟩ := (selectNft_iff hash t t' e).mp h
  obtain ⟨⟨t1, r1, st⟩, hsub, hfin⟩ := (bind_ok_iff _ _ _).mp h
  obtain ⟨_, _, _, _, _, _, rfl⟩ := nftSubstep_fp hsub
  rw [selTxOf_s, selTxOf_o] at hfin
  cases st
  case completed => cases hfin; exact ⟨_, _, _, _, _, _, _, _, rfl, Or.inr rfl⟩
  all_goals cases hfin; exact ⟨_, _, _, _, _, _, _, _, rfl, Or.inl rfl⟩

theorem secondary_fp {hash : List Nat → List Nat} {t t' : Tx} {e : Env}
    (h : secondary hash t e = .ok t') :
    ∃ wl st p op cp nw py w cn f c rt d,
      t' = { s := { t.s with whitelist := wl, status := st, posToId := p, op := op, claimablePayment := cp,
                             nrWinning := nw, payers := py, nftWinners := w, claimableNft := cn, flags := f },
             c := c, o := { t.o with ret := rt, draws := d } } ∧
      (f = t.s.flags ∨ f = { t.s.flags with additional := true }) := by
  obtain ⟨_, cur, _, h⟩ := (secondary_iff hash t t' e).mp h
  obtain ⟨r1, h1, h2⟩ := (bind_ok_iff _ _ _).mp h
  have hs0 := selTxOf_s t
  have ho0 := selTxOf_o t
  generalize selTxOf t = t0 at h1 hs0 ho0
  obtain ⟨s0, c0, o0⟩ := t0
  dsimp only at hs0 ho0
  subst hs0 ho0
  cases cur with
  | nft r =>
    cases h1
    obtain ⟨⟨t2, r2, st2⟩, hsub, hfin⟩ := (bind_ok_iff _ _ _).mp h2
    obtain ⟨_, _, _, _, _, _, rfl⟩ := nftSubstep_fp hsub
    cases st2 <;> cases hfin <;>
      exact ⟨_, _, _, _, _, _, _, _, _, _, _, _, _, rfl, by first | exact Or.inl rfl | exact Or.inr rfl⟩
  | guar g =>
    cases hg : guaranteedSubstep hash ⟨t.s, c0, t.o⟩ g with
    | error err => rw [secStage1, hg] at h1; cases h1
    | ok q =>
      obtain ⟨t1, g1, st⟩ := q
      rw [secStage1, hg] at h1
      cases h1
      obtain ⟨_, _, _, _, _, _, rfl⟩ := guaranteedSubstep_fp hg
      cases st
      case completed =>
        obtain ⟨⟨t2, r2, st2⟩, hsub, hfin⟩ := (bind_ok_iff _ _ _).mp h2
        obtain ⟨_, _, _, _, _, _, rfl⟩ := nftSubstep_fp hsub
        cases st2 <;> cases hfin <;>
          exact ⟨_, _, _, _, _, _, _, _, _, _, _, _, _,
            by simp only [Tx.setS, creditAdditional, Tx.freshRng_s, Tx.g_freshRng_o] <;> rfl,
            by first | exact Or.inl rfl | exact Or.inr rfl⟩
      all_goals
        cases h2
        exact ⟨_, _, _, _, _, _, _, _, _, _, _, _, _, rfl, Or.inl rfl⟩

theorem confirmNft_fp {s s' : State} {e : Env} (h : confirmNft s e = .ok s') :
    ∃ py, s' = { s with payers := py } :=
  ⟨_, ((confirmNft_ok_iff s e s').mp h).2.2.2.2.2⟩

theorem refundNftMany_fp {l : List Nat} {t t' : Tx} (h : refundNftMany l t = .ok t') :
    ∃ py bal xf, t' = { t with s := { t.s with payers := py, bal := bal }, o := { t.o with xfers := xf } } := by
  obtain ⟨⟨py, bal, hs⟩, hc, xf, ho⟩ := Events.refundNftMany_frame l t t' h
  obtain ⟨s', c', o'⟩ := t'
  dsimp only at hs hc ho
  subst hs hc ho
  exact ⟨_, _, _, rfl⟩

theorem claimNft_fp {t t' : Tx} {e : Env} (h : claimNft t e = .ok t') :
    ∃ w py bal sf xf, t' = { t with s := { t.s with nftWinners := w, payers := py, bal := bal },
                                    o := { t.o with sfts := sf, xfers := xf } } := by
  obtain ⟨_, _, rfl⟩ := (claimNft_ok_iff t e t').mp h
  unfold claimNftResult
  dsimp only
  split <;> exact ⟨_, _, _, _, _, rfl⟩

/-- the events of a settling claim outside the vesting variants: the refund event alone (the sends and the
    NFT hand-out log nothing: `Tx.sendLaunchpadTokens_fp`, `claimNft_fp`) -/
theorem Events.exec_claim_plain_events {hash : List Nat → List Nat} {t t' : Tx} {e : Env}
    (hv : t.s.variant.vested = false) (h : exec hash t e .claim = .ok t') :
    ∃ s1 redeem rf, settle t.s e = .ok (s1, redeem, rf) ∧
      t'.o.events = t.o.events ++ (if rf > 0 then [Events.refundEv t.s e rf] else []) := by
  simp only [exec, hv, Bool.false_eq_true, ↓reduceIte, bind_ok_iff, Prod.exists] at h
  obtain ⟨s1, redeem, rf, hset, t1, href, t2, hsend, hrest⟩ := h
  refine ⟨s1, redeem, rf, hset, ?_⟩
  obtain ⟨_, _, r, _, _, _, _, _, hs1⟩ := (settle_ok_iff _ _ _ _ _).mp hset
  obtain ⟨hev, _⟩ := Events.refund_out href
  have hre : Events.refundEv (t.setS s1).s e rf = Events.refundEv t.s e rf := by rw [Tx.setS, hs1]; rfl
  rw [hre] at hev
  obtain ⟨_, _, _, rfl⟩ := Tx.sendLaunchpadTokens_fp hsend
  split at hrest
  · obtain ⟨_, _, _, _, _, rfl⟩ := claimNft_fp hrest
    exact hev
  · cases hrest
    exact hev

theorem claimNftPayment_fp {t t' : Tx} {e : Env} (h : claimNftPayment t e = .ok t') :
    ∃ bal cn xf, t' = { t with s := { t.s with bal := bal, claimableNft := cn }, o := { t.o with xfers := xf } } := by
  obtain ⟨_, _, rfl⟩ := (claimNftPayment_ok_iff t e t').mp h
  split <;> exact ⟨_, _, _, rfl⟩

theorem setSchedule1_eq {s s' : State} {e : Env} {a b c d f : Nat}
    (h : setSchedule1 s e a b c d f = .ok s') : s' = { s with sched1 := some ⟨a, b, c, d, f⟩ } :=
  ((setSchedule1_eq_ok ..).mp h).2.2.2.2

theorem setSchedule2_fp {t t' : Tx} {e : Env} {ms : List (Nat × Nat)} (h : setSchedule2 t e ms = .ok t') :
    ∃ ev, t' = { t with s := { t.s with sched2 := some ms }, o := { t.o with events := ev } } :=
  ⟨_, ((setSchedule2_eq_ok ..).mp h).2.2.2⟩

/-- A repeated claim of a vesting variant pays out of the balances and books the amount; any other
    claim settles the caller's record `r` (`settledState`), pays the refund and the tokens, and may
    touch `userTotal` (at the caller only), `userClaimed` and the NFT lists. -/
def ClaimFp (s s' : State) (a : Nat) : Prop :=
  (s.variant.vested = true ∧ s.claimed a = true ∧ ∃ bal uc, s' = { s with bal := bal, userClaimed := uc }) ∨
  (s.claimed a = false ∧ ∃ r bal ut uc w py, s.range a = some r ∧ (∀ x, x ≠ a → ut x = s.userTotal x) ∧
    s' = { settledState s a r with bal := bal, userTotal := ut, userClaimed := uc, nftWinners := w,
                                   payers := py })

theorem claimSettle_fp {t t1 : Tx} {e : Env} (h : claimSettle t e = .ok t1) :
    (t.s.claimed e.caller = true ∧ t1 = t) ∨
    (t.s.claimed e.caller = false ∧ ∃ r bal ut xf ev, t.s.range e.caller = some r ∧
      (∀ x, x ≠ e.caller → ut x = t.s.userTotal x) ∧
      t1 = { t with s := { settledState t.s e.caller r with bal := bal, userTotal := ut },
                    o := { t.o with xfers := xf, events := ev } }) := by
  unfold claimSettle at h
  cases hcl : t.s.claimed e.caller
  · simp only [hcl, Bool.false_eq_true, if_false, bind_ok_iff, Prod.exists, settle_ok_iff, pure_ok_iff] at h
    obtain ⟨s1, rd, rf, ⟨_, _, r, hr, _, _, _, _, rfl⟩, t0, h0, h⟩ := h
    obtain ⟨_, _, rfl⟩ := Tx.refund_fp h0
    split at h <;> subst h
    · refine Or.inr ⟨rfl, r, ?_, ?_, ?_, ?_, hr, ?hut, ?heq⟩
      case heq => dsimp only [Tx.setS] <;> rfl
      exact fun x hx => upd_other _ _ _ _ hx
    · exact Or.inr ⟨rfl, r, _, _, _, _, hr, fun _ _ => rfl, rfl⟩
  · simp only [hcl, if_true, pure_ok_iff] at h
    exact Or.inl ⟨rfl, h.symm⟩

theorem claimPay_fp {v2 : Bool} {t t' : Tx} {e : Env} {c : Nat} (h : claimPay v2 t e c = .ok t') :
    ∃ bal uc xf ev, t' = { t with s := { t.s with bal := bal, userClaimed := uc },
                                  o := { t.o with xfers := xf, events := ev } } := by
  unfold claimPay at h
  split at h
  · simp only [bind_ok_iff, pure_ok_iff] at h
    obtain ⟨t1, h1, rfl⟩ := h
    obtain ⟨_, _, rfl⟩ := Tx.send_fp h1
    cases v2 <;> exact ⟨_, _, _, _, rfl⟩
  · cases h
    exact ⟨_, _, _, _, rfl⟩

theorem claimVested_fp {t t' : Tx} {e : Env} (h : claimVested t e = .ok t') :
    (∃ xf ev, t'.o = { t.o with xfers := xf, events := ev }) ∧
    ((t.s.claimed e.caller = true ∧ ∃ bal uc, t'.s = { t.s with bal := bal, userClaimed := uc }) ∨
     (t.s.claimed e.caller = false ∧ ∃ r bal ut uc, t.s.range e.caller = some r ∧
        (∀ x, x ≠ e.caller → ut x = t.s.userTotal x) ∧
        t'.s = { settledState t.s e.caller r with bal := bal, userTotal := ut, userClaimed := uc })) := by
  have hb : ∃ v2, claimBody v2 t e = .ok t' := by
    rw [claimVested_eq] at h
    split at h
    · simp only [bind_ok_iff, req_ok_iff, exists_const] at h
      exact ⟨_, h.2⟩
    · exact ⟨_, h⟩
  obtain ⟨v2, h⟩ := hb
  unfold claimBody at h
  simp only [bind_ok_iff] at h
  obtain ⟨t1, h1, c, _, h2⟩ := h
  obtain ⟨_, _, _, _, rfl⟩ := claimPay_fp h2
  rcases claimSettle_fp h1 with ⟨hcl, rfl⟩ | ⟨hcl, r, _, _, _, _, hr, hut, rfl⟩
  · exact ⟨⟨_, _, rfl⟩, Or.inl ⟨hcl, _, _, rfl⟩⟩
  · exact ⟨⟨_, _, rfl⟩, Or.inr ⟨hcl, r, _, _, _, hr, hut, rfl⟩⟩

theorem claimPaymentOwn_fp {t t' : Tx} {e : Env} (h : claimPaymentOwn t e = .ok t') :
    ∃ cp td bal xf, t' = { t with s := { t.s with claimablePayment := cp, totalDeposited := td, bal := bal },
                                  o := { t.o with xfers := xf } } := by
  unfold claimPaymentOwn at h
  simp only [bind_ok_iff] at h
  obtain ⟨_, _, h⟩ := h
  split at h
  · simp only [bind_ok_iff] at h
    obtain ⟨t1, h1, h⟩ := h
    obtain ⟨_, _, rfl⟩ := Tx.send_fp h1
    repeat' split at h
    · cases h; exact ⟨_, _, _, _, rfl⟩
    · cases h; exact ⟨_, _, _, _, rfl⟩
    · obtain ⟨_, _, rfl⟩ := Tx.send_fp h
      exact ⟨_, _, _, _, by dsimp only [Tx.setS]⟩
  · simp only [pure_bind] at h
    repeat' split at h
    · cases h; exact ⟨_, _, _, _, rfl⟩
    · cases h; exact ⟨_, _, _, _, rfl⟩
    · obtain ⟨_, _, rfl⟩ := Tx.send_fp h
      exact ⟨_, _, _, _, rfl⟩

theorem claimPaymentCommon_fp {t t' : Tx} {e : Env} (h : claimPaymentCommon t e = .ok t') :
    ∃ cp bal xf, t' = { t with s := { t.s with claimablePayment := cp, bal := bal },
                               o := { t.o with xfers := xf } } := by
  obtain ⟨_, _, _, rfl⟩ := (claimPaymentCommon_ok_iff t e t').mp h
  exact ⟨_, _, _, rfl⟩

/-- the state written by each of the nine dedicated owner endpoints -/
def ownerEdit (s : State) : Call → State
  | .setTicketPrice tok a => { s with payTok := tok, price := a }
  | .setPerTicket a => { s with perTicket := a }
  | .setNftCost p => { s with nftCost := p }
  | .deposit => { s with deposited := true,
                         totalDeposited := s.perTicket * (s.nrWinning + reservedForDeposit s) }
  | .setSchedule1 a b c d f => { s with sched1 := some ⟨a, b, c, d, f⟩ }
  | .setSchedule2 ms => { s with sched2 := some ms }
  | .setConfStart r => { s with cfg := { s.cfg with conf := r } }
  | .setSelStart r => { s with cfg := { s.cfg with sel := r } }
  | .setClaimStart r => { s with cfg := { s.cfg with claim := r } }
  | _ => s

/-- the state after an accepted call as the old state overwritten: the fields the call can write get the
    value the new state has for them; the nine owner setters give `ownerEdit` (last row) -/
def written (s s' : State) : Call → State
  | .addTickets _ => { s with range := s'.range, batch := s'.batch, lastTicketId := s'.lastTicketId }
  | .addTicketsV1 _ | .addTicketsV2 _ =>
    { s with range := s'.range, batch := s'.batch, lastTicketId := s'.lastTicketId, whitelist := s'.whitelist,
             uts := s'.uts, totalGuaranteed := s'.totalGuaranteed, nrWinning := s'.nrWinning }
  | .confirm _ => { s with confirmed := s'.confirmed }
  | .filter =>
    { s with range := s'.range, batch := s'.batch, op := s'.op, nrWinning := s'.nrWinning,
             lastTicketId := s'.lastTicketId,
             flags := { s'.flags with selected := s.flags.selected, additional := s.flags.additional } }
  | .select =>
    { s with status := s'.status, posToId := s'.posToId, op := s'.op, claimablePayment := s'.claimablePayment,
             flags := { s.flags with selected := s'.flags.selected } }
  | .distribute | .selectNft | .secondary =>
    { s with whitelist := s'.whitelist, status := s'.status, posToId := s'.posToId, op := s'.op,
             claimablePayment := s'.claimablePayment, nrWinning := s'.nrWinning, payers := s'.payers,
             nftWinners := s'.nftWinners, claimableNft := s'.claimableNft,
             flags := { s.flags with additional := s'.flags.additional } }
  | .claim =>
    { s with status := s'.status, posToId := s'.posToId, confirmed := s'.confirmed, range := s'.range,
             batch := s'.batch, nrWinning := s'.nrWinning, claimed := s'.claimed, bal := s'.bal,
             userTotal := s'.userTotal, userClaimed := s'.userClaimed, nftWinners := s'.nftWinners,
             payers := s'.payers }
  | .claimPayment =>
    { s with claimablePayment := s'.claimablePayment, totalDeposited := s'.totalDeposited, bal := s'.bal,
             claimableNft := s'.claimableNft }
  | .blacklist _ | .refundUsers _ =>
    { s with blacklist := s'.blacklist, confirmed := s'.confirmed, bal := s'.bal, whitelist := s'.whitelist,
             uts := s'.uts, blUts := s'.blUts, nrWinning := s'.nrWinning,
             totalGuaranteed := s'.totalGuaranteed, payers := s'.payers }
  | .unblacklist _ =>
    { s with blacklist := s'.blacklist, whitelist := s'.whitelist, uts := s'.uts, blUts := s'.blUts,
             nrWinning := s'.nrWinning, totalGuaranteed := s'.totalGuaranteed }
  | .confirmNft => { s with payers := s'.payers }
  | .setSupport _ => { s with support := s'.support }
  | .pause | .unpause => { s with paused := s'.paused }
  | .sftSetup =>
    { s with sftToken := s'.sftToken, sftCreated := s'.sftCreated, sftIssuedFlag := s'.sftIssuedFlag,
             sftRole := s'.sftRole }
  | c => ownerEdit s c

/-- the state after an accepted endpoint body: the closed form where there is one (the owner setters, the
    support address, the pause switch, the SFT set-up, `confirm`); `blState` / `unblState` with what the
    hooks write taken from `s'` for the blacklist calls; `ClaimFp`, whose values are existential, for a
    claim; otherwise `written`, the fields the call can write; `select` can only set `selected`, the
    additional step only `additional` -/
def ExecFp (s s' : State) (e : Env) : Call → Prop
  | .setSupport a => s' = { s with support := a }
  | .pause => s' = { s with paused := true }
  | .unpause => s' = { s with paused := false }
  | .sftSetup => s' = { s with sftToken := true, sftCreated := true, sftIssuedFlag := true, sftRole := true }
  | .confirm n => s' = { s with confirmed := upd s.confirmed e.caller (s.confirmed e.caller + n) }
  | .select =>
    (s'.flags = s.flags ∨ s'.flags = { s.flags with selected := true }) ∧ s' = written s s' .select
  | c@.distribute | c@.selectNft | c@.secondary =>
    (s'.flags = s.flags ∨ s'.flags = { s.flags with additional := true }) ∧ s' = written s s' c
  | .claim => ClaimFp s s' e.caller
  | .blacklist l | .refundUsers l =>
    s' = { Events.blState s l with whitelist := s'.whitelist, uts := s'.uts, blUts := s'.blUts,
                                   nrWinning := s'.nrWinning, totalGuaranteed := s'.totalGuaranteed,
                                   payers := s'.payers, bal := s'.bal }
  | .unblacklist l =>
    s' = { Events.unblState s l with whitelist := s'.whitelist, uts := s'.uts, blUts := s'.blUts,
                                     nrWinning := s'.nrWinning, totalGuaranteed := s'.totalGuaranteed }
  | .issueSft | .createSfts | .setTransferRole _ => False
  | c@(.addTickets _) | c@(.addTicketsV1 _) | c@(.addTicketsV2 _) | c@.filter | c@.claimPayment | c@.confirmNft =>
    s' = written s s' c
  | c => s' = ownerEdit s c

def OutFp (o o' : Out) : Call → Prop
  | .addTickets _ | .addTicketsV1 _ | .deposit | .setPerTicket _ | .setConfStart _ | .setSelStart _
  | .setClaimStart _ | .setSupport _ | .setSchedule1 .. | .confirmNft | .setNftCost _ | .sftSetup => o' = o
  | .addTicketsV2 _ | .setTicketPrice .. | .pause | .unpause | .confirm _ | .setSchedule2 _ | .unblacklist _ =>
    ∃ ev, o' = { o with events := ev }
  | .filter => ∃ rt ev, o' = { o with ret := rt, events := ev }
  | .select | .distribute => ∃ rt ev d, o' = { o with ret := rt, events := ev, draws := d }
  | .selectNft | .secondary => ∃ rt d, o' = { o with ret := rt, draws := d }
  | .claim => ∃ xf ev lk sf, o' = { o with xfers := xf, events := ev, locks := lk, sfts := sf }
  | .claimPayment => ∃ xf, o' = { o with xfers := xf }
  | .blacklist _ | .refundUsers _ => ∃ xf ev, o' = { o with xfers := xf, events := ev }
  | .issueSft | .createSfts | .setTransferRole _ => False

theorem exec_fp {hash : List Nat → List Nat} {t t' : Tx} {e : Env} {c : Call}
    (h : exec hash t e c = .ok t') : ExecFp t.s t'.s e c ∧ OutFp t.o t'.o c := by
  cases c with
  | addTickets l =>
    simp only [exec, bind_ok_iff, pure_ok_iff] at h
    obtain ⟨_, _, s1, h1, rfl⟩ := h
    obtain ⟨_, _, _, rfl⟩ := createMany_fp l h1
    exact ⟨rfl, rfl⟩
  | addTicketsV1 l =>
    simp only [exec, bind_ok_iff, pure_ok_iff] at h
    obtain ⟨s1, h1, rfl⟩ := h
    obtain ⟨_, _, _, _, _, _, _, rfl⟩ := addTicketsV1_fp h1
    exact ⟨rfl, rfl⟩
  | addTicketsV2 l =>
    obtain ⟨_, _, _, _, _, _, _, _, rfl⟩ := addTicketsV2_fp h
    exact ⟨rfl, _, rfl⟩
  | deposit =>
    simp only [exec, bind_ok_iff, pure_ok_iff] at h
    obtain ⟨s1, h1, rfl⟩ := h
    exact ⟨(depositLaunchpadTokens_eq h1).2, rfl⟩
  | setTicketPrice tok a =>
    simp only [exec, bind_ok_iff, pure_ok_iff] at h
    obtain ⟨_, _, s1, h1, rfl⟩ := h
    exact ⟨trySetTicketPrice_eq h1, _, rfl⟩
  | setPerTicket a =>
    simp only [exec, bind_ok_iff, pure_ok_iff] at h
    lp_peel h
    subst h
    exact ⟨rfl, rfl⟩
  | setConfStart r =>
    obtain ⟨_, _, rfl⟩ := exec_setConfStart_ok h
    exact ⟨rfl, rfl⟩
  | setSelStart r =>
    obtain ⟨_, _, rfl⟩ := exec_setSelStart_ok h
    exact ⟨rfl, rfl⟩
  | setClaimStart r =>
    obtain ⟨_, _, rfl⟩ := exec_setClaimStart_ok h
    exact ⟨rfl, rfl⟩
  | setSupport a => cases h; exact ⟨rfl, rfl⟩
  | pause => cases h; exact ⟨rfl, _, rfl⟩
  | unpause => cases h; exact ⟨rfl, _, rfl⟩
  | sftSetup => cases h; exact ⟨rfl, rfl⟩
  | confirm n =>
    obtain ⟨_, rfl⟩ := confirmTickets_fp h
    exact ⟨rfl, _, rfl⟩
  | filter =>
    obtain ⟨_, _, ⟨_, _, _, _⟩, _, _, _, _, _, _, rfl, h1, h2⟩ := filterTickets_fp h
    cases h1
    cases h2
    exact ⟨rfl, _, _, rfl⟩
  | select =>
    obtain ⟨_, _, _, _, _, _, _, _, _, rfl, hg⟩ := selectWinners_fp h
    refine ⟨⟨hg, ?_⟩, _, _, _, rfl⟩
    rcases hg with rfl | rfl <;> rfl
  | distribute =>
    obtain ⟨_, _, _, _, _, _, _, _, _, _, _, rfl, hg⟩ := distribute_fp h
    refine ⟨⟨hg, ?_⟩, _, _, _, rfl⟩
    rcases hg with rfl | rfl <;> rfl
  | selectNft =>
    obtain ⟨_, _, _, _, _, _, _, _, rfl, hg⟩ := selectNft_fp h
    refine ⟨⟨hg, ?_⟩, _, _, rfl⟩
    rcases hg with rfl | rfl <;> rfl
  | secondary =>
    obtain ⟨_, _, _, _, _, _, _, _, _, _, _, _, _, rfl, hg⟩ := secondary_fp h
    refine ⟨⟨hg, ?_⟩, _, _, rfl⟩
    rcases hg with rfl | rfl <;> rfl
  | confirmNft =>
    simp only [exec, bind_ok_iff, pure_ok_iff] at h
    obtain ⟨s1, h1, rfl⟩ := h
    obtain ⟨_, rfl⟩ := confirmNft_fp h1
    exact ⟨rfl, rfl⟩
  | setSchedule1 a b c d f =>
    simp only [exec, bind_ok_iff, pure_ok_iff] at h
    obtain ⟨s1, h1, rfl⟩ := h
    exact ⟨setSchedule1_eq h1, rfl⟩
  | setSchedule2 ms =>
    obtain ⟨_, rfl⟩ := setSchedule2_fp h
    exact ⟨rfl, _, rfl⟩
  | setNftCost p =>
    simp only [exec, bind_ok_iff, pure_ok_iff] at h
    lp_peel h
    subst h
    exact ⟨rfl, rfl⟩
  | issueSft | createSfts | setTransferRole _ =>
    simp only [exec, bind_ok_iff, reduceCtorEq, and_false, exists_false] at h
  | claimPayment =>
    simp only [exec] at h
    split at h
    · obtain ⟨_, _, _, _, rfl⟩ := claimPaymentOwn_fp h
      exact ⟨rfl, _, rfl⟩
    · simp only [bind_ok_iff] at h
      obtain ⟨t1, h1, h⟩ := h
      obtain ⟨_, _, _, rfl⟩ := claimPaymentCommon_fp h1
      split at h
      · obtain ⟨_, _, _, rfl⟩ := claimNftPayment_fp h
        exact ⟨rfl, _, rfl⟩
      · cases h
        exact ⟨rfl, _, rfl⟩
  | claim =>
    simp only [exec] at h
    split at h
    · rename_i hv
      obtain ⟨⟨_, _, ho⟩, hs⟩ := claimVested_fp h
      refine ⟨?_, _, _, _, _, ho⟩
      rcases hs with ⟨hcl, _, _, hs⟩ | ⟨hcl, r, _, _, _, hr, hut, hs⟩
      · exact Or.inl ⟨hv, hcl, _, _, hs⟩
      · exact Or.inr ⟨hcl, r, _, _, _, _, _, hr, hut, hs⟩
    · simp only [bind_ok_iff, Prod.exists, settle_ok_iff] at h
      obtain ⟨s1, rd, rf, ⟨_, hcl, r, hr, _, _, _, _, rfl⟩, t1, h1, t2, h2, h⟩ := h
      obtain ⟨_, _, rfl⟩ := Tx.refund_fp h1
      obtain ⟨_, _, _, rfl⟩ := Tx.sendLaunchpadTokens_fp h2
      split at h
      · obtain ⟨_, _, _, _, _, rfl⟩ := claimNft_fp h
        exact ⟨Or.inr ⟨hcl, r, _, _, _, _, _, hr, fun _ _ => rfl, by dsimp only [Tx.setS] <;> rfl⟩,
          _, _, _, _, by dsimp only [Tx.setS] <;> rfl⟩
      · cases h
        exact ⟨Or.inr ⟨hcl, r, _, _, _, _, _, hr, fun _ _ => rfl, by dsimp only [Tx.setS] <;> rfl⟩,
          _, _, _, _, by dsimp only [Tx.setS] <;> rfl⟩
  | blacklist l =>
    rw [Events.exec_blacklist_eq] at h
    simp only [bind_ok_iff, pure_ok_iff, Events.addUsersToBlacklist_ok_iff] at h
    obtain ⟨t1, ⟨_, _, _, _, _, rfl⟩, t2, h2, t3, h3, rfl⟩ := h
    have e2 : ∃ wl u b nw tg, t2 = (Events.blTx t e l).setS
        { (Events.blTx t e l).s with whitelist := wl, uts := u, blUts := b, nrWinning := nw,
                                      totalGuaranteed := tg } := by
      unfold Events.blHookG at h2
      split at h2
      · simp only [bind_ok_iff, pure_ok_iff] at h2
        obtain ⟨s1, hs1, rfl⟩ := h2
        obtain ⟨⟨_, _, _, _, _, rfl⟩, _⟩ := Events.clearGuaranteedV2_frame hs1
        exact ⟨_, _, _, _, _, rfl⟩
      · split at h2
        · simp only [bind_ok_iff, pure_ok_iff] at h2
          obtain ⟨s1, hs1, rfl⟩ := h2
          obtain ⟨⟨_, _, _, _, _, rfl⟩, _⟩ := Events.clearGuaranteedV1_frame hs1
          exact ⟨_, _, _, _, _, rfl⟩
        · cases h2
          exact ⟨_, _, _, _, _, rfl⟩
    obtain ⟨_, _, _, _, _, rfl⟩ := e2
    unfold Events.blHookN at h3
    unfold Events.blHookE
    split at h3
    · obtain ⟨_, _, _, rfl⟩ := refundNftMany_fp h3
      split <;> exact ⟨rfl, _, _, rfl⟩
    · cases h3
      split <;> exact ⟨rfl, _, _, rfl⟩
  | refundUsers l =>
    simp only [exec, bind_ok_iff, pure_ok_iff, Events.addUsersToBlacklist_ok_iff] at h
    obtain ⟨t1, ⟨_, _, _, _, _, rfl⟩, s2, h2, rfl⟩ := h
    obtain ⟨⟨_, _, _, _, _, rfl⟩, _⟩ := Events.clearGuaranteedV2_frame h2
    exact ⟨rfl, _, _, rfl⟩
  | unblacklist l =>
    obtain ⟨_, ⟨⟨_, _, _, _, _, hs⟩, _⟩, _, ho, _⟩ := Events.exec_unblacklist_out h
    exact ⟨by rw [hs]; rfl, _, ho⟩

theorem exec_written {hash : List Nat → List Nat} {t t' : Tx} {e : Env} {c : Call}
    (h : exec hash t e c = .ok t') : t'.s = written t.s t'.s c := by
  have hf := (exec_fp h).1
  cases c
  case claim => rcases hf with ⟨_, _, _, _, hs⟩ | ⟨_, _, _, _, _, _, _, _, _, hs⟩ <;> rw [hs] <;> rfl
  case issueSft | createSfts | setTransferRole => exact hf.elim
  case select | distribute | selectNft | secondary => exact hf.2
  case setSupport | pause | unpause | sftSetup | confirm | blacklist | refundUsers | unblacklist =>
    rw [hf]
    rfl
  all_goals exact hf

/-- the same for `step`; to compare a projection with the start state, `show` it of `creditPayments s e`
    and `generalize` that state first -/
theorem step_written {hash : List Nat → List Nat} {s s' : State} {e : Env} {c : Call} {o : Out}
    (h : step hash s e c = .ok (s', o)) : s' = written (creditPayments s e) s' c := by
  obtain ⟨m, t, _, _, _, hx, rfl, _⟩ := step_ok_inv h
  exact exec_written hx

/-- who can have claimed: a settled participant of a vesting variant, or one who holds a range and has
    not settled (the two rows of `ClaimFp`) -/
theorem step_claim_who {hash : List Nat → List Nat} {s s' : State} {e : Env} {o : Out}
    (h : step hash s e .claim = .ok (s', o)) :
    (s.variant.vested = true ∧ s.claimed e.caller = true) ∨
    (s.claimed e.caller = false ∧ ∃ r, s.range e.caller = some r) := by
  obtain ⟨m, t, _, _, _, hx, _, _⟩ := step_ok_inv h
  rcases (exec_fp hx).1 with ⟨hv, hcl, _⟩ | ⟨hcl, r, _, _, _, _, _, hr, _⟩
  · exact .inl ⟨hv, hcl⟩
  · exact .inr ⟨hcl, r, hr⟩

end LP

#print axioms LP.exec_fp
