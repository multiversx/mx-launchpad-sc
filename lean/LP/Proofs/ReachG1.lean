import LP.Proofs.ReachV1Final
import LP.Proofs.ReachV2Claim
import LP.Proofs.Later
import LP.Proofs.ReachBEGen
import LP.Props.C17
import LP.Proofs.VestFam
/-
  The inductive invariant `g1_WF T0 s r` of `Variant.guarV1` (launchpad-guaranteed-tickets; prefix
  `g1_`): the v1 guaranteed-ticket allocation / blacklist / distribution logic exactly as
  `Variant.migration`, but the claim path is the vested one (`claimVested` with the v1 unlock
  schedule `Sched1` stored by `setSchedule1`; repeated claims release further parts) and the owner's
  withdrawal is `claimPaymentOwn`.

  Everything but the launchpad-token clause is shared with the `v1_` family (ReachV1,
  ReachV1Final): the
  projections `v1_gv` and `v1_lv`, the phases `v1_PhaseC` / `v1_PhE`, `v1_CallOK`, the invariant
  `v1_Inv` and its preservation `v1_call_Inv`, which also says how each call moves the
  launchpad-token fields (`v1_Frame`); `g1_WF.frame` carries the ledger along such a frame.  The
  launchpad-token ledger is that of guarV2 (`LPI`, `LPre`, `LPost` of ReachV2, which read only
  the projection `GCore` and the record `LProj`).  Added here, the vesting part `g1_Vest`:
    * `lp`    : the launchpad-token ledger `LPI`,
    * `sch`   : a stored schedule satisfies `validSched1`,
    * `exact` : every participant's `userClaimed` is `0` or exactly the schedule's released amount
                `userTotal × pct1 r' sched1 / 10000` at some round `r' ≤ r`
                (= `claimedExactly1` of C13, the invariant the v1 claimable computation needs).
-/
namespace LP
open LP.FY

theorem g1_flags {v : Variant} (hv : v = .guarV1) :
    v.vested = true ∧ v.hasNft = false ∧ v.isV2 = false ∧ v.v1Alloc = true ∧
    v.hasGuaranteed = true ∧ v.noAdditionalStep = false ∧ (v != .nftGuar) = true ∧
    v.hasLock = false ∧ v.hasUnblacklist = true := by
  subst hv; exact ⟨rfl, rfl, rfl, rfl, rfl, rfl, rfl, rfl, rfl⟩

/-- the fields the launchpad-token ledger reads (the `sched` slot of `LProj` is the v2 milestone
    list, which `guarV1` never uses: filled with the default) -/
def g1_lproj (s : State) : LProj :=
  { lpBal := s.bal (.esdt s.lpTok) 0, deposited := s.deposited, totalDeposited := s.totalDeposited,
    perTicket := s.perTicket, userTotal := s.userTotal, userClaimed := s.userClaimed,
    claimed := s.claimed, sched := defaultSchedule2 }

/-- the vesting part of the invariant; `sc` = the stored v1 schedule, `r` = current round -/
structure g1_Vest (g : GCore) (p : LProj) (sc : Option Sched1) (r : Nat) : Prop where
  lp : LPI g p
  sch : ∀ x, sc = some x → validSched1 x
  exact : ∀ a, p.userClaimed a = 0 ∨
    ∃ r', r' ≤ r ∧ p.userClaimed a = entitled (p.userTotal a) (pct1 r' sc)

theorem g1_Vest.mono {g : GCore} {p : LProj} {sc : Option Sched1} {r r' : Nat}
    (h : g1_Vest g p sc r) (hr : r ≤ r') : g1_Vest g p sc r' :=
  ⟨h.lp, h.sch, fun a => (h.exact a).imp id (fun ⟨x, hx, e⟩ => ⟨x, by omega, e⟩)⟩

theorem g1_Vest.early {g g' : GCore} {p : LProj} {sc : Option Sched1} {r r' : Nat}
    (h : g1_Vest g p sc r) (hr : r ≤ r')
    (ha : g.core.flags.additional = false) (ha' : g'.core.flags.additional = false)
    (hnw : g'.core.nrWinning + g'.tg ≤ g.core.nrWinning + g.tg)
    (hc : p.deposited = false → ∀ a, g'.core.confirmed a = 0) : g1_Vest g' p sc r' :=
  ⟨LPI.early h.lp ha ha' hnw hc, h.sch,
    fun a => (h.exact a).imp id (fun ⟨x, hx, e⟩ => ⟨x, by omega, e⟩)⟩

theorem g1_Vest.fresh {g : GCore} {p : LProj} {sc : Option Sched1} {r : Nat}
    (h : g1_Vest g p sc r) (ha : g.core.flags.additional = false) (a : Nat) :
    p.userTotal a = 0 ∧ p.userClaimed a = 0 ∧ p.claimed a = false :=
  (h.lp.pre ha).fresh a

/-- the inductive invariant; `r` is the round of the latest transaction, `T0` the number of
    winning tickets configured at deployment -/
structure g1_WF (T0 : Nat) (s : State) (r : Nat) : Prop where
  var : s.variant = .guarV1
  pricePos : 0 < s.price
  tokNe : s.payTok ≠ .esdt s.lpTok
  static : 0 < s.minConfirmed
  balOther : ∀ t, t ≠ s.payTok → t ≠ .esdt s.lpTok → s.bal t 0 = 0
  tlConf : r < s.cfg.conf → ∀ a, s.confirmed a = 0
  tlStarted : s.flags.started = true → s.cfg.conf ≤ r ∧ s.cfg.sel ≤ r
  vs : g1_Vest s.gcore (g1_lproj s) s.sched1 r
  phase : v1_PhaseC T0 s.core (v1_gv s)

theorem g1_WF.toInv {T0 : Nat} {s : State} {r : Nat} (h : g1_WF T0 s r) : v1_Inv T0 s r :=
  ⟨Or.inr h.var, h.pricePos, h.tokNe, h.static, h.balOther, h.tlConf, h.tlStarted, h.phase⟩

theorem g1_WF.of_inv {T0 : Nat} {s : State} {r : Nat} (h : v1_Inv T0 s r) (hv : s.variant = .guarV1)
    (hvs : g1_Vest s.gcore (g1_lproj s) s.sched1 r) : g1_WF T0 s r :=
  ⟨hv, h.pricePos, h.tokNe, h.minPos, h.balOther, h.tlConf, h.tlStarted, hvs, h.phase⟩

theorem g1_gcore_eq {s s' : State} (hcore : s'.core = s.core) (hgv : v1_gv s' = v1_gv s) :
    s'.gcore = s.gcore := by
  have h1 : s'.whitelist = s.whitelist := congrArg v1_G.whitelist hgv
  have h2 : s'.uts = s.uts := congrArg v1_G.uts hgv
  have h3 : s'.totalGuaranteed = s.totalGuaranteed := congrArg v1_G.tg hgv
  unfold State.gcore
  rw [hcore, h1, h2, h3]

theorem g1_WF.of_core {T0 : Nat} {s s' : State} {r' : Nat} (h' : v1_Inv T0 s' r')
    (hcore : s'.core = s.core) (hgv : v1_gv s' = v1_gv s) (hv : s'.variant = .guarV1)
    (hvs : g1_Vest s.gcore (g1_lproj s') s'.sched1 r') : g1_WF T0 s' r' :=
  .of_inv h' hv (by rw [g1_gcore_eq hcore hgv]; exact hvs)

theorem g1_lproj_of_lv {s s' : State} (h : v1_lv s' = v1_lv s) : g1_lproj s' = g1_lproj s :=
  congrArg (fun l : v1_L => (⟨l.lpBal, l.deposited, l.totalDeposited, l.perTicket, l.userTotal,
    l.userClaimed, l.claimed, defaultSchedule2⟩ : LProj)) h

theorem g1_WF.frame {T0 : Nat} {s s' : State} {r r' : Nat} (h : g1_WF T0 s r) (hr : r ≤ r')
    (h' : v1_Inv T0 s' r') (hf : v1_Frame s s') : g1_WF T0 s' r' := by
  have key : v1_lv s' = v1_lv s → LPI s'.gcore (g1_lproj s) → g1_WF T0 s' r' := by
    intro hl hlp
    refine .of_inv h' ((congrArg v1_L.variant hl).trans h.var) ?_
    rw [g1_lproj_of_lv hl, show s'.sched1 = s.sched1 from congrArg v1_L.sched1 hl]
    exact ⟨hlp, h.vs.sch, (h.vs.mono hr).exact⟩
  rcases hf with ⟨hc, hg, hl⟩ | ⟨ha, ha', hl, hle, hcf⟩ | ⟨ha, ha', hl, hcf, hle, hcl⟩
  · exact key hl (by rw [g1_gcore_eq hc hg]; exact h.vs.lp)
  · exact key hl (h.vs.lp.early ha ha' hle (fun hq => hcf hq (h.vs.lp.nodep hq).1))
  · exact key hl (h.vs.lp.done (g' := s'.gcore) ha (v1_phase_D h'.phase ha') ha' hcf hcl hle)

theorem g1_init_inv {a : InitArgs} {e : Env} {s : State} (h : init .guarV1 a e = .ok s) :
    s.variant = .guarV1 ∧ 0 < a.price ∧ 0 < a.nrWinning ∧ a.payTok ≠ .esdt a.lpTok ∧
    s.price = a.price ∧ s.payTok = a.payTok ∧ s.lpTok = a.lpTok ∧ s.nrWinning = a.nrWinning ∧
    s.flags = {} ∧ s.bal = (fun _ _ => 0) ∧ s.confirmed = (fun _ => 0) ∧
    s.status = (fun _ => false) ∧ s.posToId = (fun _ => 0) ∧ s.range = (fun _ => none) ∧
    s.batch = (fun _ => none) ∧ s.lastTicketId = 0 ∧ s.op = .none ∧ s.claimablePayment = 0 ∧
    0 < s.minConfirmed ∧ s.whitelist = [] ∧ s.totalGuaranteed = 0 ∧ s.uts = (fun _ => none) ∧
    s.blacklist = (fun _ => false) ∧ s.deposited = false ∧
    s.totalDeposited = 0 ∧ s.userTotal = (fun _ => 0) ∧ s.userClaimed = (fun _ => 0) ∧
    s.claimed = (fun _ => false) ∧ s.sched1 = none := by
  obtain ⟨hok, rfl⟩ := init_ok h
  exact ⟨rfl, hok.price, hok.nrWinning, hok.tokNe, rfl, rfl, rfl, rfl, rfl, rfl, rfl, rfl, rfl, rfl, rfl,
    rfl, rfl, rfl, hok.minConfirmed rfl, rfl, rfl, rfl, rfl, rfl, rfl, rfl, rfl, rfl, rfl⟩

theorem g1_init_WF {a : InitArgs} {e : Env} {s : State}
    (h : init .guarV1 a e = .ok s) : g1_WF a.nrWinning s e.round := by
  refine .of_inv (v1_init_Inv (Or.inr rfl) h) ?_ ?_ <;> obtain ⟨hok, rfl⟩ := init_ok h
  · rfl
  · refine ⟨⟨fun now => ?_, fun _ => ⟨fun _ => rfl, rfl, rfl, fun _ => ⟨rfl, rfl⟩, nofun⟩,
      fun _ => ⟨fun _ => ⟨rfl, rfl, rfl⟩, nofun⟩, nofun⟩, nofun, fun _ => Or.inl rfl⟩
    show unlockedPct2 now defaultSchedule2 ≤ 10000
    rw [unlockedPct2_default]; exact Nat.le_refl _

theorem g1_wait_WF {T0 : Nat} {s : State} {r r' : Nat} (h : g1_WF T0 s r) (hr : r ≤ r') :
    g1_WF T0 s r' :=
  .of_inv (h.toInv.wait hr) h.var (h.vs.mono hr)

end LP

/-
  `g1_WF` (`Variant.guarV1`) is preserved by the three owner endpoints that write the
  launchpad-token fields: `setPerTicket`, `setSchedule1`, `deposit` (the shared part
  of the invariant is `v1_setPerTicket` / `v1_deposit` of `LP/Proofs/ReachV1.lean`).
-/
namespace LP
open LP.FY LP.Events

theorem g1_setPerTicket {T0 : Nat} {hash : List Nat → List Nat} {s s' : State} {e : Env} {o : Out}
    {r a : Nat} (h : g1_WF T0 s r) (hr : r ≤ e.round)
    (hs : step hash s e (.setPerTicket a) = .ok (s', o)) : g1_WF T0 s' e.round := by
  obtain ⟨hi, rfl, hd, hna⟩ := v1_setPerTicket h.toInv hr hs
  have hl := h.vs.lp
  refine .of_inv hi h.var ⟨⟨hl.sched, fun _ => hl.nodep hd, fun _ => ⟨(hl.pre hna).fresh, fun hq => ?_⟩,
    fun hq => ?_⟩, h.vs.sch, (h.vs.mono hr).exact⟩
  · have : s.deposited = true := hq
    rw [hd] at this; cases this
  · have : s.flags.additional = true := hq
    rw [hna] at this; cases this

/-- `setSchedule1` is accepted only before the confirmation period or while no schedule is
    stored; in both cases nothing has been released so far, so the exactness clause is trivially
    re-established for the schedule just stored -/
theorem g1_setSchedule1 {T0 : Nat} {hash : List Nat → List Nat} {s s' : State} {e : Env} {o : Out}
    {r a b c d f : Nat} (h : g1_WF T0 s r) (hr : r ≤ e.round)
    (hs : step hash s e (.setSchedule1 a b c d f) = .ok (s', o)) : g1_WF T0 s' e.round := by
  obtain ⟨t, hx, rfl⟩ := step_np rfl hs
  simp only [exec, bind_ok_iff, pure_ok_iff] at hx
  obtain ⟨s1, h1, rfl⟩ := hx
  obtain ⟨hwin, _, hv1, hv2, rfl⟩ := (setSchedule1_eq_ok ..).1 h1
  simp only [rbTx_s] at hwin
  have hw := h.toInv.wait hr
  refine .of_inv ⟨hw.var, hw.pricePos, hw.tokNe, hw.minPos, hw.balOther, hw.tlConf, hw.tlStarted, hw.phase⟩
    h.var ⟨h.vs.lp, ?_, fun u => Or.inl ?_⟩
  · intro x hx
    have hx' : some (⟨a, b, c, d, f⟩ : Sched1) = some x := hx
    injection hx' with hx'
    subst hx'
    exact ⟨hv1, hv2⟩
  · show s.userClaimed u = 0
    rcases hwin with hlt | hnone
    · have hns : s.flags.started = false := notStarted_of_lt h.tlStarted hr (Or.inl hlt)
      obtain ⟨hna, _⟩ := v1_phase_notStarted h.phase hns
      exact (h.vs.fresh hna u).2.1
    · rcases h.vs.exact u with h0 | ⟨r', _, h0⟩
      · exact h0
      · have h0' : s.userClaimed u = entitled (s.userTotal u) (pct1 r' s.sched1) := h0
        rw [h0', hnone]
        simp [pct1, entitled]

theorem g1_deposit {T0 : Nat} {hash : List Nat → List Nat} {s s' : State} {e : Env} {o : Out}
    {r : Nat} (h : g1_WF T0 s r) (hr : r ≤ e.round) (hok : EnvOK e)
    (hs : step hash s e .deposit = .ok (s', o)) : g1_WF T0 s' e.round := by
  obtain ⟨hnd, hi, hcore, rfl⟩ := v1_deposit h.toInv hr hok hs
  obtain ⟨amt, hamt⟩ : ∃ amt, amt = s.perTicket * (s.nrWinning + s.totalGuaranteed) := ⟨_, rfl⟩
  have hz2 : s.bal (.esdt s.lpTok) 0 = 0 := (h.vs.lp.nodep hnd).2.1
  refine g1_WF.of_core (s := s) hi hcore rfl h.var ⟨?_, h.vs.sch, (h.vs.mono hr).exact⟩
  rw [← hamt]
  show LPI s.gcore { g1_lproj s with lpBal := (s.bal.add (.esdt s.lpTok) 0 amt) (.esdt s.lpTok) 0,
                                     deposited := true, totalDeposited := amt }
  rw [Bal.add_at, hz2, Nat.zero_add]
  exact h.vs.lp.deposit hnd hamt

end LP

/-
  Preservation of `g1_WF` (`Variant.guarV1`) by the vested claim (`claimVested` with the v1
  claimable computation `claimable1`: first claim = settlement + refund + first instalment, repeat
  claim = further instalment) and by the owner's own withdrawal (`claimPaymentOwn`).

  The shapes of the settle part and of the owner's withdrawal do not depend on the variant and
  come from ReachV2Claim (`v2_claimSettle_state`, `v2_claimPaymentOwn_state`), as do the ledger
  moves `LPI.pay`, `LPI.settle_pay`, `LPI.withdraw`.  Specific to guarV1: the instalment
  is computed by `claimable1`; the exactness clause of `g1_Vest` (C13, `claimedExactly1`) makes
  `userClaimed + c` exactly the released amount at the current round (`claimable1_step`), which is
  at most `userTotal` because a stored schedule is valid.
-/
namespace LP
open LP.FY LP.Events

theorem g1_claimVested_state {s : State} {e : Env} {t : Tx} (hv : s.variant.isV2 = false)
    (h : claimVested (rbTx s e) e = .ok t) :
    ∃ t1 c, claimSettle (rbTx s e) e = .ok t1 ∧ claimable1 t1.s e e.caller = .ok c ∧
      t.s = { t1.s with bal := t1.s.bal.sub (.esdt t1.s.lpTok) 0 c,
                        userClaimed := upd t1.s.userClaimed e.caller (t1.s.userClaimed e.caller + c) } ∧
      c ≤ t1.s.bal (.esdt t1.s.lpTok) 0 := by
  obtain ⟨t1, c, h1, hc, hts, hcle⟩ := claimVested_state h
  rw [hv, if_neg Bool.false_ne_true] at hc
  exact ⟨t1, c, h1, hc, hts, hcle⟩

theorem g1_pct1_le {sc : Option Sched1} (h : ∀ x, sc = some x → validSched1 x) (now : Nat) :
    pct1 now sc ≤ 10000 := by
  cases sc with
  | none => simp [pct1]
  | some x => exact unlockedPct1_le x (h x rfl) now

/-- the two shapes of an accepted vested claim from a well-formed state: a further instalment (the
    caller has settled before), or the settlement followed by the first instalment.  In both, the
    amount `c` paid out makes the booked amount exactly the released part of the entitlement at
    the round of the call (`claimable1_step`, C13). -/
theorem g1_claim_shape {T0 : Nat} {hash : List Nat → List Nat} {s s' : State} {e : Env} {o : Out}
    {r : Nat} (h : g1_WF T0 s r) (hr : r ≤ e.round)
    (hs : step hash s e .claim = .ok (s', o)) :
    ∃ c, c ≤ s.bal (.esdt s.lpTok) 0 ∧
    ((s.claimed e.caller = true ∧ s.flags.additional = true ∧
      s.userClaimed e.caller + c = entitled (s.userTotal e.caller) (pct1 e.round s.sched1) ∧
      s' = { s with bal := s.bal.sub (.esdt s.lpTok) 0 c,
                    userClaimed := upd s.userClaimed e.caller (s.userClaimed e.caller + c) }) ∨
     (s.claimed e.caller = false ∧ s.stage e = .claim ∧ s.userTotal e.caller = 0 ∧
      s.userClaimed e.caller = 0 ∧
      ∃ (rg : Range) (B : Bal), s.range e.caller = some rg ∧ redeemOf s rg ≤ s.confirmed e.caller ∧
        (∀ k n, B k n ≤ s.bal k n) ∧ B (.esdt s.lpTok) 0 = s.bal (.esdt s.lpTok) 0 ∧
        B s.payTok 0 = s.bal s.payTok 0 - s.price * (s.confirmed e.caller - redeemOf s rg) ∧
        s.userClaimed e.caller + c = entitled (redeemOf s rg * s.perTicket) (pct1 e.round s.sched1) ∧
        s' = { settled s e.caller rg with
                 bal := B.sub (.esdt s.lpTok) 0 c,
                 userTotal := upd s.userTotal e.caller (redeemOf s rg * s.perTicket),
                 userClaimed := upd s.userClaimed e.caller (s.userClaimed e.caller + c) })) := by
  obtain ⟨t, hx, rfl⟩ := step_np rfl hs
  obtain ⟨hvest, _, hv2, _⟩ := g1_flags h.var
  simp only [exec, rbTx_s, hvest, if_true] at hx
  obtain ⟨t1, c, h1, hcl1, hts, hcle⟩ := g1_claimVested_state hv2 hx
  have hl := h.vs.lp
  have hne : Token.esdt s.lpTok ≠ s.payTok := fun hh => h.tokNe hh.symm
  refine ⟨c, ?_⟩
  rcases v2_claimSettle_state h1 with ⟨hcl, rfl⟩ | ⟨hcl, hst, rg, B, hrg, hle, ht1, hBle, hBo, hBpay⟩
  · simp only [rbTx_s] at hcl1 hcle
    have hadd : s.flags.additional = true := by
      cases hq : s.flags.additional with
      | true => rfl
      | false =>
        have : s.claimed e.caller = false := ((hl.pre hq).fresh e.caller).2.2
        rw [hcl] at this; cases this
    exact ⟨hcle, Or.inl ⟨hcl, hadd, claimable1_step hcl1 ((h.vs.mono hr).exact e.caller), hts⟩⟩
  · obtain ⟨⟨_, hadd⟩, _⟩ := stage_claim_iff.mp hst
    have hlp1 : t1.s.lpTok = s.lpTok := by rw [ht1]; rfl
    have hbal1 : t1.s.bal = B := by rw [ht1]
    have hBlp : B (.esdt s.lpTok) 0 = s.bal (.esdt s.lpTok) 0 := hBo _ _ hne
    have hpost := hl.post hadd
    have hut0 : s.userTotal e.caller = 0 := hpost.unclaimed e.caller hcl
    have huc0 : s.userClaimed e.caller = 0 := Nat.le_zero.mp (hut0 ▸ hpost.le e.caller)
    have hut := v2_settle_userTotal hut0 (redeemOf s rg) s.perTicket
    have hex : s.userClaimed e.caller + c
        = entitled (redeemOf s rg * s.perTicket) (pct1 e.round s.sched1) := by
      have h0 : t1.s.userClaimed e.caller = 0 ∨ ∃ r', r' ≤ e.round ∧ t1.s.userClaimed e.caller
          = entitled (t1.s.userTotal e.caller) (pct1 r' t1.s.sched1) := by
        left; rw [ht1]; exact huc0
      have := claimable1_step hcl1 h0
      rw [ht1] at this
      have this' : s.userClaimed e.caller + c = entitled ((if redeemOf s rg > 0
        then upd s.userTotal e.caller (redeemOf s rg * s.perTicket) else s.userTotal) e.caller)
          (pct1 e.round s.sched1) := this
      rw [hut, upd_same] at this'
      exact this'
    refine ⟨by rw [hlp1, hbal1, hBlp] at hcle; exact hcle,
      Or.inr ⟨hcl, hst, hut0, huc0, rg, B, hrg, hle, hBle, hBlp, hBpay, hex, ?_⟩⟩
    rw [hts, hlp1, hbal1, ht1, hut]
    rfl

theorem g1_claim {T0 : Nat} {hash : List Nat → List Nat} {s s' : State} {e : Env} {o : Out}
    {r : Nat} (h : g1_WF T0 s r) (hr : r ≤ e.round)
    (hs : step hash s e .claim = .ok (s', o)) : g1_WF T0 s' e.round := by
  have hvs := h.vs
  have hl := hvs.lp
  have hexs : ∀ a, s.userClaimed a = 0 ∨
      ∃ r', r' ≤ e.round ∧ s.userClaimed a = entitled (s.userTotal a) (pct1 r' s.sched1) :=
    (hvs.mono hr).exact
  obtain ⟨c, hcle, ⟨hcl, hadd, hex, rfl⟩ |
    ⟨hcl, hst, hut0, huc0, rg, B, hrg, hle, hBle, hBlp, hBpay, hex, rfl⟩⟩ := g1_claim_shape h hr hs
  · -- a further instalment
    have hlec : s.userClaimed e.caller + c ≤ s.userTotal e.caller := by
      rw [hex]; exact entitled_le _ (g1_pct1_le hvs.sch _)
    have hcore : ({ s.core with payBal := (s.bal.sub (.esdt s.lpTok) 0 c) s.payTok 0 } : Core) = s.core := by
      rw [Bal.sub_off _ _ _ _ h.tokNe]; rfl
    refine g1_WF.of_core (s := s) (h.toInv.same_cfg (s := s) hcore rfl rfl rfl rfl ?_ rfl hr)
      hcore rfl h.var ?_
    · exact fun k h1 h2 => (Bal.sub_off s.bal 0 c 0 h2).trans (h.balOther k h1 h2)
    · show g1_Vest s.gcore
        { g1_lproj s with
          lpBal := (s.bal.sub (.esdt s.lpTok) 0 c) (.esdt s.lpTok) 0,
          userClaimed := upd s.userClaimed e.caller (s.userClaimed e.caller + c) } s.sched1 e.round
      rw [Bal.sub_at]
      refine ⟨hl.pay hadd hcle hlec, hvs.sch, fun x => ?_⟩
      · show upd s.userClaimed e.caller (s.userClaimed e.caller + c) x = 0 ∨
          ∃ r', r' ≤ e.round ∧ upd s.userClaimed e.caller (s.userClaimed e.caller + c) x
            = entitled (s.userTotal x) (pct1 r' s.sched1)
        by_cases hxa : x = e.caller
        · subst hxa
          exact Or.inr ⟨e.round, Nat.le_refl _, by rw [upd_same]; exact hex⟩
        · rw [upd_other _ _ _ _ hxa]; exact hexs x
  · -- the first claim: settlement
    obtain ⟨⟨hsel, hadd⟩, hc1, hc2, _⟩ := stage_claim_iff.mp hst
    have hD : PhD s.core := v1_phase_D h.phase hadd
    have hpb0 : (B.sub (.esdt s.lpTok) 0 c) s.payTok 0 = s.bal s.payTok 0 - s.price *
        (s.confirmed e.caller - (clearRange s.status s.posToId rg.first (rangeLen rg)).2.2) := by
      rw [Bal.sub_off _ _ _ _ h.tokNe]; exact hBpay
    obtain ⟨pb, hpbd⟩ : ∃ pb, pb = (B.sub (.esdt s.lpTok) 0 c) s.payTok 0 := ⟨_, rfl⟩
    have hpb : pb = s.bal s.payTok 0 - s.price *
        (s.confirmed e.caller - (clearRange s.status s.posToId rg.first (rangeLen rg)).2.2) := by
      rw [hpbd]; exact hpb0
    have hD' := rb_claim_phase (c := s.core) hD (a := e.caller) (r := rg) hrg
      (bt := upd s.batch rg.first none) (pb := pb) hpb
    have hk : redeemOf s rg ≤ s.nrWinning := hD.redeem_le hrg
    have hlec : s.userClaimed e.caller + c ≤ redeemOf s rg * s.perTicket := by
      rw [hex]; exact entitled_le _ (g1_pct1_le hvs.sch _)
    refine ⟨h.var, h.pricePos, h.tokNe, h.static, ?_, ?_, ?_, ?_,
      Or.inr ⟨hadd, by rw [hpbd] at hD'; exact hD'⟩⟩
    · intro k h1 h2
      show (B.sub (.esdt s.lpTok) 0 c) k 0 = 0
      have := rb_sub_le B (.esdt s.lpTok) 0 c k 0
      have := hBle k 0
      have h0 := h.balOther k h1 h2
      omega
    · intro hlt; exfalso; have : e.round < s.cfg.conf := hlt; omega
    · intro _; exact ⟨hc1, hc2⟩
    · show g1_Vest { s.gcore with core := claimCore s.core e.caller rg (upd s.batch rg.first none) ((B.sub (.esdt s.lpTok) 0 c) s.payTok 0) }
        { g1_lproj s with
          lpBal := (B.sub (.esdt s.lpTok) 0 c) (.esdt s.lpTok) 0,
          userTotal := upd s.userTotal e.caller (redeemOf s rg * s.perTicket),
          userClaimed := upd s.userClaimed e.caller (s.userClaimed e.caller + c),
          claimed := upd s.claimed e.caller true } s.sched1 e.round
      rw [Bal.sub_at, hBlp]
      refine ⟨hl.settle_pay hadd hadd hcl hk hle rfl rfl rfl
          (v2_upd_le (fun _ => Nat.le_refl _) (Nat.zero_le _)) hcle hlec, hvs.sch, fun x => ?_⟩
      · show upd s.userClaimed e.caller (s.userClaimed e.caller + c) x = 0 ∨
          ∃ r', r' ≤ e.round ∧ upd s.userClaimed e.caller (s.userClaimed e.caller + c) x
            = entitled (upd s.userTotal e.caller (redeemOf s rg * s.perTicket) x) (pct1 r' s.sched1)
        by_cases hxa : x = e.caller
        · subst hxa
          exact Or.inr ⟨e.round, Nat.le_refl _, by rw [upd_same, upd_same]; exact hex⟩
        · rw [upd_other _ _ _ _ hxa, upd_other _ _ _ _ hxa]; exact hexs x

theorem g1_claimPayment {T0 : Nat} {hash : List Nat → List Nat} {s s' : State} {e : Env} {o : Out}
    {r : Nat} (h : g1_WF T0 s r) (hr : r ≤ e.round)
    (hs : step hash s e .claimPayment = .ok (s', o)) : g1_WF T0 s' e.round := by
  obtain ⟨t, hx, rfl⟩ := step_np rfl hs
  obtain ⟨hvest, _, hv2, _⟩ := g1_flags h.var
  obtain ⟨hst, hle1, hle2, hts⟩ := v2_claimPaymentOwn_state hvest h.tokNe hx
  obtain ⟨⟨hsel, hadd⟩, hc1, hc2, _⟩ := stage_claim_iff.mp hst
  have hD : PhD s.core := v1_phase_D h.phase hadd
  have hvs := h.vs
  have hl := hvs.lp
  have hne : Token.esdt s.lpTok ≠ s.payTok := fun hh => h.tokNe hh.symm
  have hpb : ((s.bal.sub s.payTok 0 s.claimablePayment).sub (.esdt s.lpTok) 0 (ownSurplus s)) s.payTok 0
      = s.bal s.payTok 0 - s.claimablePayment := by
    rw [Bal.sub_off _ _ _ _ h.tokNe, Bal.sub_at]
  have hbl : ((s.bal.sub s.payTok 0 s.claimablePayment).sub (.esdt s.lpTok) 0 (ownSurplus s))
      (.esdt s.lpTok) 0 = s.bal (.esdt s.lpTok) 0 - ownSurplus s := by
    rw [Bal.sub_at, Bal.sub_off _ _ _ _ hne]
  rw [hts]
  refine ⟨h.var, h.pricePos, h.tokNe, h.static, ?_, fun hlt => absurd hc1 (Nat.not_le.mpr hlt),
    fun _ => ⟨hc1, hc2⟩, ?_, Or.inr ⟨hadd, hD.withdraw hpb⟩⟩
  · intro k h1 h2
    show ((s.bal.sub s.payTok 0 s.claimablePayment).sub (.esdt s.lpTok) 0 (ownSurplus s)) k 0 = 0
    rw [Bal.sub_off _ _ _ _ h2, Bal.sub_off _ _ _ _ h1]; exact h.balOther k h1 h2
  · show g1_Vest _
      { g1_lproj s with
        lpBal := ((s.bal.sub s.payTok 0 s.claimablePayment).sub (.esdt s.lpTok) 0 (ownSurplus s)) (.esdt s.lpTok) 0,
        totalDeposited := 0 } s.sched1 e.round
    rw [hbl]
    refine ⟨hl.withdraw hadd ?_ h.pricePos ?_ ?_ ?_ (sur := ownSurplus s) rfl hle2, hvs.sch,
      (hvs.mono hr).exact⟩
    · exact hadd
    · exact fun _ => Nat.le_refl _
    · rfl
    · rfl

end LP

/-
  Reachable states (`g1_Reach`) of `Variant.guarV1`; `g1_WF` holds in all of them (`g1_reach_WF`),
  since every accepted call keeps it (`g1_call_WF`: `v1_call_Inv` and the ledger along its frame).
  The restrictions on histories are `EnvOK` and `v1_CallOK`, explicit in the `call` constructor:
  `distribute`, `filter` and `select` may be interrupted by any budget; `setSchedule1` may be called
  at any time (the contract itself rejects it once the confirmation period has started and a
  schedule is stored).
-/
namespace LP
open LP.FY

theorem g1_call_WF {T0 : Nat} {hash : List Nat → List Nat} {s s' : State} {e : Env} {c : Call}
    {o : Out} {r : Nat} (h : g1_WF T0 s r) (hr : r ≤ e.round) (hok : EnvOK e) (hc : v1_CallOK c)
    (hs : step hash s e c = .ok (s', o)) : g1_WF T0 s' e.round := by
  cases c with
  | deposit => exact g1_deposit h hr hok hs
  | setPerTicket a => exact g1_setPerTicket h hr hs
  | setSchedule1 a b c d f => exact g1_setSchedule1 h hr hs
  | claim => exact g1_claim h hr hs
  | claimPayment => exact g1_claimPayment h hr hs
  | _ =>
    obtain ⟨hi, hf⟩ := v1_call_Inv h.toInv hr hok hc id hs
    exact h.frame hr hi hf

/-- states reachable from a deployment with arguments `a0`, paired with the round of the latest
    transaction (`wait` lets rounds pass without a transaction) -/
inductive g1_ReachA (hash : List Nat → List Nat) (a0 : InitArgs) : State → Nat → Prop
  | init (e : Env) (s : State) : init .guarV1 a0 e = .ok s → g1_ReachA hash a0 s e.round
  | call (s : State) (r : Nat) (e : Env) (c : Call) (s' : State) (o : Out) :
      g1_ReachA hash a0 s r → r ≤ e.round → EnvOK e → v1_CallOK c →
      step hash s e c = .ok (s', o) → g1_ReachA hash a0 s' e.round
  | wait (s : State) (r r' : Nat) : g1_ReachA hash a0 s r → r ≤ r' → g1_ReachA hash a0 s r'

/-- states reachable by the launchpad-guaranteed-tickets contract from any deployment -/
inductive g1_Reach (hash : List Nat → List Nat) : State → Nat → Prop
  | init (a : InitArgs) (e : Env) (s : State) : init .guarV1 a e = .ok s → g1_Reach hash s e.round
  | call (s : State) (r : Nat) (e : Env) (c : Call) (s' : State) (o : Out) :
      g1_Reach hash s r → r ≤ e.round → EnvOK e → v1_CallOK c →
      step hash s e c = .ok (s', o) → g1_Reach hash s' e.round
  | wait (s : State) (r r' : Nat) : g1_Reach hash s r → r ≤ r' → g1_Reach hash s r'

theorem g1_reachA_iff_later {hash : List Nat → List Nat} {a0 : InitArgs} {s : State} {r : Nat} :
    g1_ReachA hash a0 s r ↔ be_From (be_OK v1_CallOK) hash .guarV1 a0 s r := by
  constructor <;> intro h
  · induction h with
    | init e s h => exact .init h
    | call _ _ _ _ _ _ _ h1 h2 h3 h4 ih => exact ih.call h1 ⟨h2, h3⟩ h4
    | wait _ _ _ _ h1 ih => exact ih.wait h1
  · exact h.induct .init (fun s r e c s' o ih h1 h2 h3 => .call s r e c s' o ih h1 h2.1 h2.2 h3)
      fun s r r' ih h1 => .wait s r r' ih h1

theorem g1_reach_iff_later {hash : List Nat → List Nat} {s : State} {r : Nat} :
    g1_Reach hash s r ↔ ∃ a0, be_From (be_OK v1_CallOK) hash .guarV1 a0 s r := by
  constructor
  · intro h
    induction h with
    | init a e s h => exact ⟨a, .init h⟩
    | call _ _ _ _ _ _ _ h1 h2 h3 h4 ih => exact ih.imp fun _ ih => ih.call h1 ⟨h2, h3⟩ h4
    | wait _ _ _ _ h1 ih => exact ih.imp fun _ ih => ih.wait h1
  · rintro ⟨a0, h⟩
    exact h.induct (.init a0) (fun s r e c s' o ih h1 h2 h3 => .call s r e c s' o ih h1 h2.1 h2.2 h3)
      fun s r r' ih h1 => .wait s r r' ih h1

theorem g1_Reach_iff {hash : List Nat → List Nat} {s : State} {r : Nat} :
    g1_Reach hash s r ↔ ∃ a0, g1_ReachA hash a0 s r :=
  g1_reach_iff_later.trans (exists_congr fun _ => g1_reachA_iff_later.symm)

theorem g1_reach_WF {hash : List Nat → List Nat} {a0 : InitArgs}
    {s : State} {r : Nat} (h : g1_ReachA hash a0 s r) : g1_WF a0.nrWinning s r :=
  (g1_reachA_iff_later.mp h).induct (fun _ _ => g1_init_WF)
    (fun _ _ _ _ _ _ ih h1 h2 => g1_call_WF ih h1 h2.1 h2.2) fun _ _ _ => g1_wait_WF

end LP

#print axioms LP.g1_init_WF
#print axioms LP.g1_call_WF
#print axioms LP.g1_wait_WF
#print axioms LP.g1_reach_WF

/- The consequences of the phase are the lemmas `v1_phase_*` of LP/Proofs/ReachV1Final.lean, applied
   to `h.phase`. -/
namespace LP
open LP.FY

theorem g1_all_settled_nrWinning {T0 : Nat} {s : State} {r : Nat} (h : g1_WF T0 s r)
    (hd : AllDone s) (hall : ∀ a, s.range a = none) : s.nrWinning = 0 :=
  v1_phase_all_settled_nrWinning h.phase hd hall

end LP

/-
  The exact effect of a vested claim from a state satisfying `g1_WF` on the vesting ledger
  (`g1_WF.claimVested`) and the continuation relation `g1_Later` with its bridge to `be_Later`.
  What holds along histories (schedule frozen, a settled participant's entitlement fixed, path
  independence): `VestFam`.
-/
namespace LP
open LP.FY LP.Events

/-- an accepted claim from a well-formed state: `g1_claim_shape` is the shape of a vesting claim -/
theorem g1_WF.claimVested {T0 : Nat} {hash : List Nat → List Nat} {s s' : State} {e : Env} {o : Out}
    {r : Nat} (h : g1_WF T0 s r) (hr : r ≤ e.round)
    (hs : step hash s e .claim = .ok (s', o)) : ClaimVested s e s' := by
  refine ClaimShape.claimVested ?_
  rw [pctOf_v1 (g1_flags h.var).2.2.1]
  obtain ⟨c, hcle, ⟨hcl, _, hex, hs'⟩ |
    ⟨hcl, _, _, huc0, rg, B, hrg, _, _, hBlp, _, hex, hs'⟩⟩ := g1_claim_shape h hr hs
  · exact ⟨c, hcle, .inl ⟨hcl, hex, hs'⟩⟩
  · exact ⟨c, hcle, .inr ⟨hcl, huc0, rg, B, hrg, hBlp, hex, hs'⟩⟩

/-- `g1_Later hash s r s2 r2`: `s2` (at round `r2`) is reached from `s` (at round `r`) by accepted
    calls with non-decreasing rounds and by the passing of time -/
inductive g1_Later (hash : List Nat → List Nat) (s : State) (r : Nat) : State → Nat → Prop
  | refl : g1_Later hash s r s r
  | call (s1 : State) (r1 : Nat) (e : Env) (c : Call) (s2 : State) (o : Out) :
      g1_Later hash s r s1 r1 → r1 ≤ e.round → EnvOK e → v1_CallOK c →
      step hash s1 e c = .ok (s2, o) → g1_Later hash s r s2 e.round
  | wait (s1 : State) (r1 r2 : Nat) : g1_Later hash s r s1 r1 → r1 ≤ r2 → g1_Later hash s r s1 r2

theorem g1_later_iff {hash : List Nat → List Nat} {s s2 : State} {r r2 : Nat} :
    g1_Later hash s r s2 r2 ↔ be_Later (fun e c => EnvOK e ∧ v1_CallOK c) hash s r s2 r2 := by
  constructor <;> intro h
  · induction h with
    | refl => exact .refl
    | call s1 r1 e c s2 o _ h1 h2 h3 h4 ih => exact .call s1 r1 e c s2 o ih h1 ⟨h2, h3⟩ h4
    | wait s1 r1 r2 _ h1 ih => exact .wait s1 r1 r2 ih h1
  · induction h with
    | refl => exact .refl
    | call s1 r1 e c s2 o _ h1 h2 h3 ih => exact .call s1 r1 e c s2 o ih h1 h2.1 h2.2 h3
    | wait s1 r1 r2 _ h1 ih => exact .wait s1 r1 r2 ih h1

end LP

/-
  The launchpad-token ledger of `Variant.guarV1` in closed form: once every selection step is
  complete the contract's launchpad-token balance is EXACTLY

      (owner's not yet withdrawn surplus) + perTicket × (winning tickets of the unsettled)
        + Σ over the settled (userTotal − userClaimed),

  read off cases A / B of `LPost`.
-/
namespace LP
open LP.FY

/-- the ledger list may be assumed to contain a given address -/
theorem g1_lp_exact_with {T0 : Nat} {s : State} {r : Nat} (h : g1_WF T0 s r) (hd : AllDone s)
    (a : Nat) :
    ∃ L : List Nat, a ∈ L ∧ L.Nodup ∧ (∀ x, x ∉ L → s.userTotal x = 0 ∧ s.userClaimed x = 0) ∧
      s.bal (.esdt s.lpTok) 0 = ownSurplus s + s.perTicket * s.nrWinning
        + sumOver (fun x => s.userTotal x - s.userClaimed x) L :=
  (h.vs.lp.post hd.2).exact_with h.pricePos a

theorem g1_lp_exact {T0 : Nat} {s : State} {r : Nat} (h : g1_WF T0 s r) (hd : AllDone s) :
    ∃ L : List Nat, L.Nodup ∧ (∀ x, x ∉ L → s.userTotal x = 0 ∧ s.userClaimed x = 0) ∧
      s.bal (.esdt s.lpTok) 0 = ownSurplus s + s.perTicket * s.nrWinning
        + sumOver (fun x => s.userTotal x - s.userClaimed x) L := by
  obtain ⟨L, _, h2, h3, h4⟩ := g1_lp_exact_with h hd 0
  exact ⟨L, h2, h3, h4⟩

end LP
