import LP.Proofs.ZeroAllocShadow
import LP.Proofs.ZeroAllocNG
/-
  Zero-size allocations in `Variant.nftGuar` with NO restriction on the allocation entries (`ng_ReachZA`;
  prefix `zk_`).  A zero-size entry `(a, 0, 0, true)` of `addTicketsV1` creates the empty range `[f, f-1]`, a
  zero-size batch, the record `{0,0,0,1}`, a whitelist entry, and moves one ticket of the reserve: a GHOST
  GUARANTEE, which erasure cannot simulate (LP/Props/C14zeroG.lean).  As for the v1 family the real state is
  compared, before the first `filter` call, with the SHADOW `zv_sh s U BU N TG` (LP/Proofs/ZeroAllocShadow.lean),
  which satisfies the inductive invariant `ng_WF` (LP/Proofs/ReachNG.lean) and takes REAL steps; the reserve
  side is `GuarInvX s` (C12) on the REAL state.  That call hands over to the erased state `zv_z s`
  (`zk_PA_filter`); afterwards the calls are those of LP/Proofs/ZeroAllocNG.lean.  `zk_sim`: the invariant
  `zk_Inv` holds along `ng_ReachZA`; the later parts read the properties of LP/Props/C14zeroG.lean and
  C14zeroGfull.lean off it.
-/
namespace LP
open LP.FY LP.Events

/-- invariant before the first `filter` call, `PAof ngPA` written out (`zk_PA_iff`); `hd`: only
    zero-size batches dangle above `lastTicketId` -/
structure zk_PA (T0 : Nat) (s : State) (r : Nat) : Prop where
  sh : ∃ U BU N TG, ng_WF T0 (zv_sh s U BU N TG) r ∧
    (∀ u, (z_eraseR s.range u).isSome = true → (U u).isSome = true)
  gx : GuarInvX s
  sum : s.nrWinning + s.totalGuaranteed = T0
  hd : z_Hd s
  ns : s.flags.started = false

def ngPA : PAFam where
  WF := ng_WF
  call_WF := ng_call_WF
  wait_WF := ng_wait_WF
  flags h := by
    obtain ⟨_, _, f3, f4, _, f6, _⟩ := ng_flags h.var
    exact ⟨f3, f4, f6⟩
  minConf h := h.static
  sum h hns := by
    obtain ⟨_, htg, L0, hp, hA, _⟩ := ng_phase_notStarted h.phase hns
    exact (zv_notStarted_facts htg hp hA).1
  noConf h hns := by
    obtain ⟨_, htg, L0, hp, hA, _⟩ := ng_phase_notStarted h.phase hns
    exact (zv_notStarted_facts htg hp hA).2
  noPay h hns _ a ha := ((zc_phaseA_facts h hns).2 a ha).2.2.2

theorem zk_PA_iff {T0 : Nat} {s : State} {r : Nat} : zk_PA T0 s r ↔ PAof ngPA T0 s r :=
  ⟨fun h => ⟨h.sh, h.gx, h.sum, h.hd, h.ns⟩, fun h => ⟨h.sh, h.gx, h.sum, h.hd, h.ns⟩⟩

theorem zk_sh_sum {T0 : Nat} {s : State} {U BU : Nat → Option UTS} {N TG r : Nat}
    (h : ng_WF T0 (zv_sh s U BU N TG) r) (hns : s.flags.started = false) : N + TG = T0 :=
  ngPA.sum h hns

end LP

/-! ### The first `filter` call: hand-over from the shadow to the erased state `zv_z s`, which keeps the
  REAL guarantee bookkeeping, ghost guarantees included. -/
namespace LP
open LP.FY LP.Events LP.Props.C14

/-- `ng_WF` before the first filter call with the reserve invariant cut down to its range-free
    clauses (`v1_GW`: all `filter` needs) -/
structure zk_WFA (T0 : Nat) (s : State) (r : Nat) : Prop where
  var : s.variant = .nftGuar
  pricePos : 0 < s.price
  tokNe : s.payTok ≠ .esdt s.lpTok
  static : 0 < s.minConfirmed
  lp : ng_LpSep s r → s.deposited = true → s.perTicket * v1_owed s ≤ s.bal (.esdt s.lpTok) 0
  side : nf_SideInv (nf_side s)
  add : s.flags.additional = false
  tg : s.totalGuaranteed ≤ T0
  pre : ∃ L0, Pre (T0 - s.totalGuaranteed) (nf_core s) L0 ∧ PhA (nf_core s) L0
  gw : v1_GW (v1_gv s)

/-- `ng_lp_sel` for `zk_WFA` -/
theorem zk_lp_sel {T0 : Nat} {s s' : State} {r : Nat} {e : Env} (h : zk_WFA T0 s r)
    (_hr : r ≤ e.round) (hc1 : s.cfg.conf ≤ e.round)
    (hcfg : s'.cfg = s.cfg) (hcost : s'.nftCost = s.nftCost) (hl : s'.lpTok = s.lpTok)
    (hbal : s'.bal = s.bal) (hdep : s'.deposited = s.deposited) (hpt : s'.perTicket = s.perTicket)
    (howed : v1_owed s' ≤ v1_owed s) :
    ng_LpSep s' e.round → s'.deposited = true →
      s'.perTicket * v1_owed s' ≤ s'.bal (.esdt s'.lpTok) 0 := by
  intro hq hd
  have hnl : ¬ (nf_side s).isLp := by
    rcases hq with hq | hq
    · intro hh
      apply hq
      have hh' : s.nftCost.tok = .esdt s.lpTok ∧ s.nftCost.nonce = 0 := hh
      show s'.nftCost.tok = .esdt s'.lpTok ∧ s'.nftCost.nonce = 0
      rw [hcost, hl]; exact hh'
    · exfalso; rw [hcfg] at hq; omega
  rw [hdep] at hd
  have h0 := h.lp (Or.inl hnl) hd
  rw [hpt, hbal, hl]
  exact Nat.le_trans (Nat.mul_le_mul_left _ howed) h0

theorem zk_filter_weak {T0 : Nat} {hash : List Nat → List Nat} {s s' : State} {e : Env} {o : Out}
    {r : Nat} (h : zk_WFA T0 s r) (hr : r ≤ e.round)
    (hs : step hash s e .filter = .ok (s', o)) : ng_WF T0 s' e.round ∧ s'.flags.started = true := by
  obtain ⟨t, hx, rfl⟩ := step_np rfl hs
  obtain ⟨L0, hp, ha⟩ := h.pre
  obtain ⟨hpre, R, B, fl, op, nw, last, hs', hst, hfs, hfa, hnw, hph⟩ :=
    v1_filter_first (pb := (nf_side s).tix) (rbTx_s s e) h.add h.tg hp (Or.inl ha) h.gw hx
  have hc := rb_stage_winnerSelection hpre.stage
  rw [hs'] at hph ⊢
  have hside : nf_side { s with range := R, batch := B, flags := fl, op := op, nrWinning := nw,
                                lastTicketId := last } = nf_side s := by
    show ({ nf_side s with additional := fl.additional, selected := fl.selected } : nf_Side) = nf_side s
    rw [hfa, hfs]
    rfl
  refine ⟨ng_WF_build (nf_side s) hside h.side h.var h.pricePos h.tokNe h.static
    (fun hlt => absurd hc.1 (Nat.not_le.mpr hlt)) (fun _ => hc)
    (zk_lp_sel h hr hc.1 rfl rfl rfl rfl rfl rfl ?_)
    (fun _ _ => h.side.noWin hp.notSelected) (Or.inl hph), hst⟩
  show nw + (if fl.additional = true then 0 else s.totalGuaranteed) ≤
    s.nrWinning + (if s.flags.additional = true then 0 else s.totalGuaranteed)
  rw [hfa]
  exact Nat.add_le_add_right hnw _

theorem zk_WFA_of_PA {T0 : Nat} {s : State} {r : Nat} (h : zk_PA T0 s r) : zk_WFA T0 (zv_z s) r := by
  obtain ⟨U, BU, N, TG, hwf, _⟩ := h.sh
  obtain ⟨hadd, htg, L0, hp, ha, _⟩ := ng_phase_notStarted hwf.phase h.ns
  have hsum := zk_sh_sum hwf h.ns
  have hs := h.sum
  have hiv2 : s.variant.isV2 = false := (ng_flags hwf.var).2.2.1
  have hadd' : s.flags.additional = false := hadd
  refine ⟨hwf.var, hwf.pricePos, hwf.tokNe, hwf.static, ?_, hwf.side,
    hadd, by show s.totalGuaranteed ≤ T0; omega, ⟨L0, ?_, ⟨ha.notStarted, ha.op, ha.chain, ha.last⟩⟩, ?_⟩
  · intro hq hd
    have h0 := ng_lp_of_notSel hwf hp.notSelected hq hd
    have e1 : v1_owed (zv_sh s U BU N TG) = T0 := by
      show N + (if s.flags.additional = true then 0 else TG) = T0
      rw [hadd']; simpa using hsum
    have e2 : v1_owed (zv_z s) = T0 := by
      show s.nrWinning + (if s.flags.additional = true then 0 else s.totalGuaranteed) = T0
      rw [hadd']; simpa using hs
    rw [e1] at h0
    rw [e2]
    exact h0
  · exact ⟨hp.notFiltered, hp.notSelected, by show s.nrWinning = T0 - s.totalGuaranteed; omega,
      hp.status0, hp.pos0, hp.ok, hp.outC, hp.outR, hp.pay⟩
  · have hb := h.gx.base
    rw [hiv2] at hb
    exact ⟨hb.total, hb.mem_of_pos, hb.pos_of_mem⟩

/-- the erased state takes the same `filter` step and lands in `ng_WF`; from here on the real
    state is `ZSimG`-related to an `ng_WF` state -/
theorem zk_PA_filter {T0 : Nat} {hash : List Nat → List Nat} {s s' : State} {e : Env}
    {o : Out} {r : Nat} (h : zk_PA T0 s r) (hr : r ≤ e.round)
    (hs : step hash s e .filter = .ok (s', o)) :
    ∃ z', ng_WF T0 z' e.round ∧ ZSimG s' z' ∧ z'.uts = s'.uts ∧ s'.flags.started = true ∧
      step hash (zv_z s) e .filter = .ok (z', o) := by
  have hwfa := zk_WFA_of_PA h
  obtain ⟨L0, hp, ha⟩ := hwfa.pre
  obtain ⟨h1, ⟨_, _, f3, _⟩, h3⟩ := (zv_ZSim_z s).esim.filter
    (fun _ => ⟨L0, z_filter_facts hp (Or.inl ha) rfl rfl rfl rfl rfl⟩) hs
  obtain ⟨hwf', hst'⟩ := zk_filter_weak hwfa hr h3
  have hu : (ov s' (z_we (Ov.of (zv_z s)) s')).uts = s'.uts := f3.symm
  exact ⟨_, hwf', h1.zsimG (fun a => Or.inl (congrFun hu a)), hu, hst', h3⟩

end LP

/-! ### After the first `filter` call the real state `s` is `ZSimG`-related, with EQUAL guarantee records
  (i.e. `ZSim`), to a state `z` satisfying `ng_WF`; `z` takes the same step as `s` (`secondary`
  interrupted anywhere included), except that a claim by an empty-range address is matched by NO
  step.  With ghost guarantees `z` is in general not an `ng_Reach` state, but `ng_WF` is inductive
  (`ng_call_WF`). -/
namespace LP
open LP.FY LP.Events LP.Props.C14

theorem zk_var_of_sim {T0 : Nat} {s z : State} {r : Nat} (hz : ng_WF T0 z r) (hsim : ZSimG s z) :
    s.variant = .nftGuar := by
  rw [← hsim.fields.2.2.1]; exact hz.var

/-- the simulation invariant: the shadow invariant before the first `filter` call, an `ng_WF`
    state with equal guarantee records after it -/
def zk_Inv (T0 : Nat) (s : State) (r : Nat) : Prop :=
  zk_PA T0 s r ∨ (s.flags.started = true ∧ ∃ z, ng_WF T0 z r ∧ ZSimG s z ∧ z.uts = s.uts)

theorem zk_PA_flags {T0 : Nat} {s : State} {r : Nat} (h : zk_PA T0 s r) :
    s.flags.filtered = false ∧ s.flags.selected = false ∧ s.flags.additional = false ∧
    s.variant = .nftGuar := by
  obtain ⟨U, BU, N, TG, hwf, _⟩ := h.sh
  obtain ⟨hadd, _, L0, hp, _, _⟩ := ng_phase_notStarted hwf.phase h.ns
  exact ⟨hp.notFiltered, hp.notSelected, hadd, hwf.var⟩

theorem zk_PA_step {T0 : Nat} {hash : List Nat → List Nat} {s s' : State} {e : Env} {c : Call}
    {o : Out} {r : Nat} (h : zk_PA T0 s r) (hr : r ≤ e.round) (hok : EnvOK e)
    (hs : step hash s e c = .ok (s', o)) : zk_Inv T0 s' e.round := by
  obtain ⟨hnf, hnsel, _, hvar⟩ := zk_PA_flags h
  have hex : c.exposedIn .nftGuar = true := hvar ▸ step_exposed hs
  cases c with
  | filter =>
    obtain ⟨z', h1, h2, h3, h4, _⟩ := zk_PA_filter h hr hs
    exact Or.inr ⟨h4, z', h1, h2, h3⟩
  | claim =>
    rcases LP.Props.C06.claim_gate hash s e _ hs with h1 | ⟨h1, _⟩
    · have := (stage_claim_iff.mp h1).1.1
      rw [hnsel] at this; cases this
    · rw [(ng_flags hvar).1] at h1; cases h1
  | addTicketsV1 _ | confirm _ | blacklist _ | select | secondary | claimPayment
  | deposit | setTicketPrice _ _ | setPerTicket _ | setConfStart _ | setSelStart _ | setClaimStart _
  | setSupport _ | pause | unpause | confirmNft | setNftCost _ | sftSetup =>
    exact Or.inl (zk_PA_iff.2 (PAof_call rfl hnf hnsel (zk_PA_iff.1 h) hr hok hs))
  | issueSft | createSfts | setTransferRole _ => exact (step_sft_rejected hs).elim
  | _ => exact (Bool.false_ne_true hex).elim

/-- after the first `filter` call every accepted call of the real state is matched by the SAME call
    on the erased state, except that a claim by the holder of an empty range is matched by no step -/
theorem zk_PB_match {T0 : Nat} {hash : List Nat → List Nat} {s z s' : State} {e : Env} {c : Call}
    {o : Out} {r : Nat} (hst : s.flags.started = true) (hz : ng_WF T0 z r) (hsim : ZSimG s z)
    (hu : z.uts = s.uts) (hr : r ≤ e.round) (hok : EnvOK e)
    (hs : step hash s e c = .ok (s', o)) :
    ∃ z', ng_WF T0 z' e.round ∧ ZSimG s' z' ∧ z'.uts = s'.uts ∧
      (step hash z e c = .ok (z', o) ∨ (c = .claim ∧ z' = z)) := by
  have hvar := zk_var_of_sim hz hsim
  have hex : c.exposedIn .nftGuar = true := hvar ▸ step_exposed hs
  obtain ⟨hcfg, hfl, _⟩ := hsim.fields
  have htl := hz.tlStarted (by rw [hfl]; exact hst)
  rw [hcfg] at htl
  have hearly : ¬ (s.stage e = .addTickets ∨ s.stage e = .confirm) := by
    rintro (h1 | h1)
    · have := rb_stage_addTickets h1; omega
    · have := (rb_stage_confirm h1).2; omega
  have hd : s.flags.started = false → z_Hd s := fun h => by rw [hst] at h; cases h
  cases c with
  | addTicketsV1 l =>
    exact absurd (Or.inl (LP.Props.C06.alloc_only_in_addTickets hash s e _ _
      (Or.inr (Or.inl ⟨l, rfl⟩)) hs)) hearly
  | blacklist l =>
    exact absurd (LP.Props.C06.blacklist_only_before_selection hash s e _ _ (Or.inl ⟨l, rfl⟩) hs) hearly
  | confirm n =>
    obtain ⟨z', h2, _, h3, h4⟩ := zc_sim_confirm hsim hd hs
    exact ⟨z', ng_call_WF (c := (.confirm n)) hz hr hok trivial h4, h2, h3 hu, Or.inl h4⟩
  | filter =>
    obtain ⟨z', h2, _, h3, h4⟩ := zc_sim_filter hz hsim hr hok hs
    exact ⟨z', ng_call_WF (c := .filter) hz hr hok trivial h4, h2, h3 hu, Or.inl h4⟩
  | secondary =>
    obtain ⟨z', h2, _, h3, h4⟩ := zc_sim_secondary hsim hd hs
    exact ⟨z', ng_call_WF (c := .secondary) hz hr hok trivial h4, h2, h3 hu, Or.inl h4⟩
  | claim =>
    obtain ⟨z', h2, _, h3, h4 | ⟨rfl, _⟩⟩ := zc_sim_claim hz hsim hs
    · exact ⟨z', ng_call_WF (c := .claim) hz hr hok trivial h4, h2, h3 hu, Or.inl h4⟩
    · exact ⟨z', ng_wait_WF hz hr, h2, h3 hu, Or.inr ⟨rfl, rfl⟩⟩
  | deposit | setTicketPrice _ _ | setPerTicket _ | setConfStart _ | setSelStart _ | setClaimStart _
  | setSupport _ | pause | unpause | select | claimPayment | confirmNft | setNftCost _ | sftSetup =>
    obtain ⟨z', h2, _, h3, h4⟩ := zc_sim_indep rfl hsim hd hs
    exact ⟨z', ng_call_WF hz hr hok (z_indep_v1_CallOK rfl) h4, h2, h3 hu, Or.inl h4⟩
  | issueSft | createSfts | setTransferRole _ => exact (step_sft_rejected hs).elim
  | _ => exact (Bool.false_ne_true hex).elim

theorem zk_Inv_step {T0 : Nat} {hash : List Nat → List Nat} {s s' : State} {e : Env} {c : Call}
    {o : Out} {r : Nat} (h : zk_Inv T0 s r) (hr : r ≤ e.round) (hok : EnvOK e)
    (hs : step hash s e c = .ok (s', o)) : zk_Inv T0 s' e.round := by
  rcases h with h | ⟨hst, z, hz, hsim, hu⟩
  · exact zk_PA_step h hr hok hs
  · obtain ⟨z', h1, h2, h3, _⟩ := zk_PB_match hst hz hsim hu hr hok hs
    exact Or.inr ⟨(step_flags_gain4 hs).1 hst, z', h1, h2, h3⟩

theorem zk_Inv_wait {T0 : Nat} {s : State} {r r' : Nat} (h : zk_Inv T0 s r) (hr : r ≤ r') :
    zk_Inv T0 s r' := by
  rcases h with h | ⟨hst, z, hz, hsim, hu⟩
  · exact Or.inl (zk_PA_iff.2 (PAof_wait (zk_PA_iff.1 h) hr))
  · exact Or.inr ⟨hst, z, ng_wait_WF hz hr, hsim, hu⟩

theorem zk_Inv_init {a : InitArgs} {e : Env} {s : State}
    (h : init .nftGuar a e = .ok s) : zk_Inv a.nrWinning s e.round := by
  have hwf := ng_init_WF h
  obtain ⟨_, _, _, _, _, rfl⟩ := ng_init_inv h
  exact Or.inl (zk_PA_iff.2 (PAof_init (W := ngPA) hwf rfl rfl rfl rfl rfl rfl rfl rfl))

theorem zk_sim {hash : List Nat → List Nat} {a0 : InitArgs} {s : State} {r : Nat}
    (h : ng_ReachZA hash a0 s r) : zk_Inv a0.nrWinning s r := by
  induction h with
  | init e s h => exact zk_Inv_init h
  | call s r e c s' o _ h1 h2 h3 ih => exact zk_Inv_step ih h1 h2 h3
  | wait s r r' _ h1 ih => exact zk_Inv_wait ih h1

end LP

#print axioms LP.zk_sim

/-! ### What the simulation invariant `zk_Inv` gives on the REAL state, phase by phase (from the shadow
  before the first `filter` call, through the relation after it): ledger, launchpad-token coverage,
  reserve, whitelist, the matching steps of `secondary` and `claimPayment`, and that a first claim is
  accepted.  The ledger `zk_Inv_ledger` is `ESim.ledger` (LP/Proofs/ZeroAllocSim.lean) read for what is held
  for tickets, with the NFT fee added on both sides (`nf_tix_add`); the last part of this file quotes
  these lemmas. -/
namespace LP
open LP.FY LP.Events LP.Props.C09 LP.Props.C14 LP.Props.C14reach LP.Props.C14reachG

theorem zk_Inv_started {T0 : Nat} {s : State} {r : Nat} (h : zk_Inv T0 s r)
    (hst : s.flags.started = true) : ∃ z, ng_WF T0 z r ∧ ZSimG s z ∧ z.uts = s.uts := by
  rcases h with h | ⟨_, z, hz, hsim, hu⟩
  · rw [h.ns] at hst; cases hst
  · exact ⟨z, hz, hsim, hu⟩

theorem zk_Inv_selected {T0 : Nat} {s : State} {r : Nat} (h : zk_Inv T0 s r)
    (hsel : s.flags.selected = true) : ∃ z, ng_WF T0 z r ∧ ZSimG s z ∧ z.uts = s.uts := by
  rcases h with h | ⟨_, z, hz, hsim, hu⟩
  · have := (zk_PA_flags h).2.1
    rw [hsel] at this; cases this
  · exact ⟨z, hz, hsim, hu⟩

/-- in both phases `s` differs from some `ng_WF` state in nine fields at most -/
theorem zk_Inv_shape {T0 : Nat} {s : State} {r : Nat} (h : zk_Inv T0 s r) :
    ∃ R B K C X W U BU N TG, ng_WF T0 (zv_g (zc_w s R B K C X) W U BU N TG) r := by
  rcases h with h | ⟨_, z, hz, hsim, _⟩
  · obtain ⟨U, BU, N, TG, hwf, _⟩ := h.sh
    exact ⟨_, _, _, _, s.uts, [], U, BU, N, TG, hwf⟩
  · obtain ⟨R, B, K, C, U, rfl⟩ := hsim.shape'
    exact ⟨R, B, K, C, U, s.whitelist, U, s.blUts, s.nrWinning, s.totalGuaranteed, hz⟩

theorem zk_WF_ledger {T0 : Nat} {z : State} {r : Nat} (hwf : ng_WF T0 z r) :
    ∃ L : List Nat, Covers z L ∧
      (¬ AllDone z → z.bal z.payTok 0 = z.price * sumOver z.confirmed L + feeInPay z) ∧
      (AllDone z → z.bal z.payTok 0 = z.claimablePayment + sumOver (refundDue z) L + feeInPay z ∧
        sumOver (winCountOf z) L = z.nrWinning ∧
        (∀ a, winCountOf z a ≤ z.confirmed a) ∧
        (∀ a rg, z.range a = some rg → a ∈ L ∧ rg.first ≤ rg.last ∧
          rg.last + 1 = rg.first + z.confirmed a)) := by
  obtain ⟨L, h1, h2, h3⟩ := hwf.facts.ledger
  have hadd := nf_tix_add hwf.side
  have hadd' : (nf_side z).tix + feeInPay z = z.bal z.payTok 0 := hadd
  refine ⟨L, h1, fun hd => ?_, fun hd => ?_⟩
  · rw [← h2 hd]; omega
  · obtain ⟨k1, k2, k3, k4⟩ := h3 hd
    exact ⟨by rw [← k1]; omega, k2, k3, k4⟩

/-- Empty ranges are erased in `z`, so their holders need not be in `L`; they have confirmed
    nothing. -/
theorem zk_Inv_ledger {T0 : Nat} {s : State} {r : Nat} (h : zk_Inv T0 s r) :
    ∃ L : List Nat, Covers s L ∧
      (¬ AllDone s → s.bal s.payTok 0 = s.price * sumOver s.confirmed L + feeInPay s) ∧
      (AllDone s → s.bal s.payTok 0 = s.claimablePayment + sumOver (refundDue s) L + feeInPay s ∧
        sumOver (winCountOf s) L = s.nrWinning ∧
        (∀ a, winCountOf s a ≤ s.confirmed a) ∧
        (∀ a rg, s.range a = some rg → rangeLen rg = s.confirmed a ∧ (rg.first ≤ rg.last → a ∈ L))) := by
  rcases h with h | ⟨_, z, hz, hsim, _⟩
  · obtain ⟨U, BU, N, TG, hwf, _⟩ := h.sh
    obtain ⟨_, _, hadd, _⟩ := zk_PA_flags h
    obtain ⟨L, h1, h2, _⟩ := zk_WF_ledger hwf
    have hnd : ¬ AllDone s := by intro hd; have := hd.2; rw [hadd] at this; cases this
    exact ⟨L, ⟨h1.nodup, h1.supp⟩, fun _ => h2 hnd, fun hd => absurd hd hnd⟩
  · obtain ⟨L, h1, h2, h3⟩ := hz.facts.ledger
    obtain ⟨c, p, q⟩ := hsim.esim.ledger (fun hd => (ng_phase_D hz.phase hd.2).rngNone) h1 h2 h3
    have hadd := nf_tix_add hz.side
    obtain ⟨R, B, K, C, U, rfl⟩ := hsim.shape'
    have hadd' : (nf_side (zc_w s R B K C U)).tix + feeInPay s = s.bal s.payTok 0 := hadd
    refine ⟨L, c, fun hd => ?_, fun hd => ?_⟩
    · rw [← p hd]; exact hadd'.symm
    · obtain ⟨q1, q2⟩ := q hd
      exact ⟨by rw [← q1]; exact hadd'.symm, q2⟩

theorem zk_Inv_lp {T0 : Nat} {s : State} {r : Nat} (h : zk_Inv T0 s r) (hd : s.deposited = true)
    (hnl : ¬ FeeInLpToken s) : s.perTicket * ng_owed s ≤ s.bal (.esdt s.lpTok) 0 := by
  rcases h with h | ⟨_, z, hz, hsim, _⟩
  · have h0 := (zk_WFA_of_PA h).lp (Or.inl hnl) hd
    have h1 : ng_owed s ≤ v1_owed (zv_z s) := ng_owed_le s
    exact Nat.le_trans (Nat.mul_le_mul_left _ h1) h0
  · obtain ⟨R, B, K, C, U, rfl⟩ := hsim.shape'
    exact hz.lp (Or.inl hnl) hd

theorem zk_Inv_reserve {T0 : Nat} {s : State} {r : Nat} (h : zk_Inv T0 s r) :
    (s.flags.filtered = false → s.nrWinning + s.totalGuaranteed = T0) ∧
    (s.flags.additional = false → ng_owed s ≤ T0) := by
  rcases h with h | ⟨_, z, hz, hsim, _⟩
  · refine ⟨fun _ => h.sum, fun hna => ?_⟩
    have h1 : ng_owed s ≤ v1_owed s := ng_owed_le s
    have h2 : v1_owed s = s.nrWinning + s.totalGuaranteed := by
      unfold v1_owed; rw [hna]; simp
    have := h.sum
    omega
  · have h1 := ng_reserve_before_filter hz
    have h2 := ng_owed_le_T0 hz
    obtain ⟨R, B, K, C, U, rfl⟩ := hsim.shape'
    exact ⟨h1, h2⟩

/-- until the first `secondary` call is accepted the whitelist is exactly the set of holders of a
    positive guarantee (ghosts included) -/
theorem zk_Inv_whitelist {T0 : Nat} {s : State} {r : Nat} (h : zk_Inv T0 s r)
    (hna : s.flags.additional = false) (hop : s.flags.selected = true → s.op = .none) (u : Nat) :
    u ∈ s.whitelist ↔ ∃ st, s.uts u = some st ∧ st.c + st.d > 0 := by
  rcases h with h | ⟨_, z, hz, hsim, hu⟩
  · exact h.gx.whitelist_iff (ng_flags (zk_PA_flags h).2.2.2).2.2.1 u
  · have hfl : z.flags = s.flags := hsim.fields.2.1
    have hopz : z.op = s.op := hsim.fields.2.2.2.2.2.1
    have hwl : z.whitelist = s.whitelist := hsim.fields.2.2.2.2.2.2.2.1
    have := ng_whitelist_intact hz (by rw [hfl]; exact hna) (by rw [hfl, hopz]; exact hop) u
    rw [hwl, hu] at this
    exact this

theorem zk_Inv_secondary {T0 : Nat} {hash : List Nat → List Nat} {s s' : State} {e : Env}
    {o : Out} {r : Nat} (h : zk_Inv T0 s r)
    (hs : step hash s e .secondary = .ok (s', o)) :
    ∃ z z', ng_WF T0 z r ∧ ZSimG s z ∧ z.uts = s.uts ∧ ZSimG s' z' ∧ z'.uts = s'.uts ∧
      step hash z e .secondary = .ok (z', o) := by
  have hsel := (LP.Props.C06.additional_gate hash s e .secondary _ (Or.inr (Or.inr rfl)) hs).2.1
  rcases h with h | ⟨hst, z, hz, hsim, hu⟩
  · rw [(zk_PA_flags h).2.1] at hsel; cases hsel
  obtain ⟨z', h2, _, h3, h4⟩ := zc_sim_secondary hsim (fun hf => by rw [hst] at hf; cases hf) hs
  exact ⟨z, z', hz, hsim, hu, h2, h3 hu, h4⟩

theorem zk_Inv_claimPayment {T0 : Nat} {hash : List Nat → List Nat} {s s' : State} {e : Env}
    {o : Out} {r : Nat} (h : zk_Inv T0 s r)
    (hs : step hash s e .claimPayment = .ok (s', o)) :
    ∃ z z', ng_WF T0 z r ∧ ZSimG s z ∧ z.uts = s.uts ∧ ZSimG s' z' ∧ z'.uts = s'.uts ∧
      step hash z e .claimPayment = .ok (z', o) := by
  have hst := LP.Props.C06.claimPayment_gate hash s e _ hs
  obtain ⟨⟨hsel, _⟩, _⟩ := stage_claim_iff.mp hst
  rcases h with h | ⟨hst', z, hz, hsim, hu⟩
  · rw [(zk_PA_flags h).2.1] at hsel; cases hsel
  obtain ⟨z', h2, _, h3, h4⟩ := zc_sim_indep (c := .claimPayment) rfl hsim
    (fun hf => by rw [hst'] at hf; cases hf) hs
  exact ⟨z, z', hz, hsim, hu, h2, h3 hu, h4⟩

theorem zk_Inv_done_of_add {T0 : Nat} {s : State} {r : Nat} (h : zk_Inv T0 s r)
    (ha : s.flags.additional = true) : AllDone s := by
  obtain ⟨R, B, K, C, X, W, U, BU, N, TG, hwf⟩ := zk_Inv_shape h
  exact ⟨(ng_phase_D hwf.phase ha).selected, ha⟩

theorem zk_Inv_solvent_same {T0 : Nat} {s : State} {r : Nat} (h : zk_Inv T0 s r)
    (hsame : FeeInPayToken s) :
    ∃ L : List Nat, Covers s L ∧ (¬ AllDone s → CombinedPre s L) ∧ (AllDone s → CombinedPost s L) := by
  obtain ⟨L, h1, h2, h3⟩ := zk_Inv_ledger h
  have hz : feeInPay s = feeHeld s := by unfold feeInPay; rw [if_pos hsame]
  rw [hz] at h2 h3
  refine ⟨L, h1, fun hd => ?_, fun hd => ?_⟩
  · have hna : s.flags.additional = false := by
      cases hq : s.flags.additional with
      | false => rfl
      | true => exact absurd (zk_Inv_done_of_add h hq) hd
    have := h2 hd
    unfold feeHeld at this
    rw [hna] at this
    exact this
  · have := (h3 hd).1
    unfold feeHeld at this
    rw [hd.2] at this
    unfold CombinedPost
    simp only [if_true] at this
    omega

/-- after completion the payment-token holdings cover the owner's proceeds, the ticket refund of
    any holder of a range (empty or not), and the NFT fees held in the same slot -/
theorem zk_Inv_refund_covered {T0 : Nat} {s : State} {r : Nat} (h : zk_Inv T0 s r) (hd : AllDone s)
    {a : Nat} {rg : Range} (hr : s.range a = some rg) :
    s.claimablePayment + s.price * (s.confirmed a - winCountOf s a) + feeInPay s
      ≤ s.bal s.payTok 0 := by
  obtain ⟨L, _, _, h3⟩ := zk_Inv_ledger h
  obtain ⟨hpost, _, _, hrg⟩ := h3 hd
  obtain ⟨k1, k2⟩ := hrg a rg hr
  by_cases hne : rg.first ≤ rg.last
  · have hle := rb_le_sumOver (refundDue s) L a (k2 hne)
    have hdue : refundDue s a = s.price * (s.confirmed a - winCountOf s a) := by
      simp only [refundDue, hr]
    omega
  · have hc : s.confirmed a = 0 := by rw [← k1]; unfold rangeLen; omega
    rw [hc]
    simp only [Nat.zero_sub, Nat.mul_zero, Nat.add_zero]
    omega

/-- all steps complete and only empty ranges left: no winning ticket is outstanding, and the
    owner's accepted `claimPayment` leaves no launchpad token -/
theorem zk_Inv_lp_zero_at_end {T0 : Nat} {hash : List Nat → List Nat} {s s' : State} {e : Env}
    {o : Out} {r : Nat} (h : zk_Inv T0 s r) (hnl : ¬ FeeInLpToken s) (hd : AllDone s)
    (hall : ∀ a rg, s.range a = some rg → rg.last < rg.first)
    (hs : step hash s e .claimPayment = .ok (s', o)) :
    s.nrWinning = 0 ∧ s'.bal (.esdt s'.lpTok) 0 = 0 := by
  obtain ⟨z, z', hz, hsim, _, hsim', _, hstep⟩ := zk_Inv_claimPayment h hs
  have hallz : ∀ a, z.range a = none := hsim.esim.range_none hall
  have hz0 := ng_all_settled_nrWinning hz (hd.of_flags hsim.fields.2.1) hallz
  obtain ⟨R, B, K, C, U, rfl⟩ := hsim.shape'
  obtain ⟨R', B', K', C', U', rfl⟩ := hsim'.shape'
  obtain ⟨k1, k2, _⟩ := ng_owner_surplus hz hnl hstep
  have hz0' : s.nrWinning = 0 := hz0
  have k1' : s'.bal (.esdt s'.lpTok) 0 = s'.perTicket * s'.nrWinning := k1
  have k2' : s'.nrWinning = s.nrWinning := k2
  exact ⟨hz0', by rw [k1', k2', hz0']; rfl⟩

/-- in the claim stage the first claim of any holder of a range — empty or not, ghost or not — is
    accepted; a fee payer that was not drawn (category 2) needs his fee still held in the
    fee-token slot after his ticket settlement -/
theorem zk_Inv_claim_accepted {T0 : Nat} {hash : List Nat → List Nat} {s : State} {r : Nat}
    (h : zk_Inv T0 s r) {e : Env} {rg : Range}
    (he1 : e.egld = 0) (he2 : e.esdts = []) (hst : s.stage e = .claim)
    (hcl : s.claimed e.caller = false) (hrg : s.range e.caller = some rg)
    (hsft : s.sftToken = true) (hdep : s.deposited = true) (hnl : ¬ FeeInLpToken s)
    (hfee : nftCategory s e.caller = 2 →
      s.nftCost.amount ≤ (balAfterClaim s e.caller) s.nftCost.tok s.nftCost.nonce) :
    ∃ x, step hash s e .claim = .ok x := by
  obtain ⟨⟨hsel, hadd⟩, _⟩ := stage_claim_iff.mp hst
  have hd : AllDone s := ⟨hsel, hadd⟩
  obtain ⟨L, _, _, h3⟩ := zk_Inv_ledger h
  obtain ⟨_, hsum, hle, hrgL⟩ := h3 hd
  have hcov := zk_Inv_refund_covered h hd hrg
  have hlp : s.perTicket * s.nrWinning ≤ s.bal (.esdt s.lpTok) 0 := by
    refine Nat.le_trans (Nat.mul_le_mul_left _ ?_) (zk_Inv_lp h hdep hnl)
    unfold ng_owed v1_owed
    split <;> omega
  obtain ⟨R, B, K, C, X, W, U, BU, N, TG, hwf⟩ := zk_Inv_shape h
  have hvs : s.variant = .nftGuar := hwf.var
  have htok : s.payTok ≠ .esdt s.lpTok := hwf.tokNe
  obtain ⟨_, f2, _⟩ := ng_flags hvs
  have hwc : winCountOf s e.caller = countWinning s.status rg.first (rangeLen rg) := by
    simp only [winCountOf, hrg]
  -- the refund is covered by `hcov`, the launchpad tokens by `hlp` once `winCountOf ≤ nrWinning`:
  -- a summand of `hsum` for a non-empty range, a count over no ticket for an empty one (whose
  -- holder need not be in `L`)
  have hwn : winCountOf s e.caller ≤ s.nrWinning := by
    by_cases hne : rg.first ≤ rg.last
    · have := rb_le_sumOver (winCountOf s) L e.caller ((hrgL e.caller rg hrg).2 hne)
      omega
    · have hlen : rangeLen rg = 0 := by unfold rangeLen; omega
      rw [hwc, hlen]; exact Nat.zero_le _
  have hpay : s.price * (s.confirmed e.caller - winCountOf s e.caller) ≤ s.bal s.payTok 0 := by omega
  exact zn_claim_accepts hash s e rg f2
    (claimAccepts_of_cover he1 he2 hst hcl hrg htok hwn (hle e.caller) hpay
      (Nat.le_trans (Nat.mul_le_mul_left _ hwn) hlp)) hsft hfee

end LP

/-! ### From the start of the filter until the additional step completes every accepted call of the real
  state is matched by the SAME call on the erased state (`zk_PB_match`; no claim is accepted yet), hence
  the NFT participants are frozen along any accepted calls: `ng_call_frozen` (LP/Proofs/ReachNGFinal.lean)
  without the restriction `v1_CallOK`. -/
namespace LP
open LP.FY LP.Events LP.Props.C14

theorem zk_call_frozen {T0 : Nat} {hash : List Nat → List Nat} {s z s' : State} {e : Env} {c : Call}
    {o : Out} {r : Nat} (hst : s.flags.started = true) (hna : s.flags.additional = false)
    (hz : ng_WF T0 z r) (hsim : ZSimG s z)
    (hu : z.uts = s.uts) (hr : r ≤ e.round) (hok : EnvOK e)
    (hs : step hash s e c = .ok (s', o)) : nf_Frozen s s' ∧ s'.flags.started = true := by
  obtain ⟨z', _, hsim', _, hstep | ⟨rfl, _⟩⟩ := zk_PB_match hst hz hsim hu hr hok hs
  case inr =>
    -- no claim before the additional step completes
    rcases LP.Props.C06.claim_gate hash s e _ hs with h1 | ⟨h1, _⟩
    · have := (stage_claim_iff.mp h1).1.2
      rw [hna] at this; cases this
    · rw [(ng_flags (zk_var_of_sim hz hsim)).1] at h1; cases h1
  have hfl : z.flags = s.flags := hsim.fields.2.1
  obtain ⟨k, k2⟩ := ng_call_frozen hz hr (by rw [hfl]; exact hst) (by rw [hfl]; exact hna) hstep
  obtain ⟨R, B, K, C, U, rfl⟩ := hsim.shape'
  obtain ⟨R', B', K', C', U', rfl⟩ := hsim'.shape'
  exact ⟨⟨k.mem, k.len, k.pre, k.avail, k.cost⟩, k2⟩

/-- `s2` (at round `r2`) is reached from `s` (at round `r`) by ANY accepted calls and by the
    passing of time -/
inductive ng_LaterZ (hash : List Nat → List Nat) (s : State) (r : Nat) : State → Nat → Prop
  | refl : ng_LaterZ hash s r s r
  | call (s1 : State) (r1 : Nat) (e : Env) (c : Call) (s2 : State) (o : Out) :
      ng_LaterZ hash s r s1 r1 → r1 ≤ e.round → EnvOK e →
      step hash s1 e c = .ok (s2, o) → ng_LaterZ hash s r s2 e.round
  | wait (s1 : State) (r1 r2 : Nat) : ng_LaterZ hash s r s1 r1 → r1 ≤ r2 → ng_LaterZ hash s r s1 r2

/-- once the filter has started and until the additional step completes, the NFT participants
    stay the same whatever calls are accepted -/
theorem zk_later_frozen {hash : List Nat → List Nat} {a0 : InitArgs} {s : State} {r : Nat}
    (h : ng_ReachZA hash a0 s r) (hstd : s.flags.started = true) {s2 : State} {r2 : Nat}
    (hl : ng_LaterZ hash s r s2 r2) :
    ng_ReachZA hash a0 s2 r2 ∧
    (s2.flags.additional = false → nf_Frozen s s2 ∧ s2.flags.started = true) := by
  induction hl with
  | refl => exact ⟨h, fun _ => ⟨nf_Frozen.refl s, hstd⟩⟩
  | call s1 r1 e c s2 o _ h1 h2 h4 ih =>
    obtain ⟨i1, i2⟩ := ih
    refine ⟨.call s1 r1 e c s2 o i1 h1 h2 h4, fun hadd2 => ?_⟩
    have hadd1 : s1.flags.additional = false := z_additional_back h4 hadd2
    obtain ⟨j1, j2⟩ := i2 hadd1
    obtain ⟨z, hz, hsim, hu⟩ := zk_Inv_started (zk_sim i1) j2
    obtain ⟨k1, k2⟩ := zk_call_frozen j2 hadd1 hz hsim hu h1 h2 h4
    exact ⟨j1.trans k1, k2⟩
  | wait s1 r1 r2 _ h1 ih =>
    obtain ⟨i1, i2⟩ := ih
    exact ⟨.wait s1 r1 r2 i1 h1, i2⟩

end LP

#print axioms LP.zk_later_frozen

/-! ### The statements of LP/Props/C14zeroG.lean (`ng_ReachG`) and LP/Props/C14zeroGfull.lean
  (`ng_ReachZ`), proved once on the simulation invariant `zk_Inv`.  No case split on the phase here:
  each is read off the lemmas of the part "What the simulation invariant `zk_Inv` gives" above (the
  solvency statements off `zk_Inv_ledger`, the winners and guarantees off `zk_Inv_secondary`, …). -/
namespace LP
open LP.FY LP.Events LP.Props.C09 LP.Props.C14 LP.Props.C14reach LP.Props.C14reachG

theorem ng_ReachZ.inv {hash : List Nat → List Nat} {s : State} {r : Nat} (h : ng_ReachZ hash s r) :
    ∃ T0, zk_Inv T0 s r := by
  obtain ⟨a0, h⟩ := ng_ReachZ_iff.mp h
  exact ⟨_, zk_sim h⟩

theorem ng_ReachG.inv {hash : List Nat → List Nat} {s : State} {r : Nat} (h : ng_ReachG hash s r) :
    ∃ T0, zk_Inv T0 s r :=
  h.toZ.inv

theorem zk_Inv_solvent_general {T0 : Nat} {s : State} {r : Nat} (h : zk_Inv T0 s r) :
    ∃ L : List Nat, Covers s L ∧
      (¬ AllDone s → s.bal s.payTok 0 = s.price * sumOver s.confirmed L + feeInPay s) ∧
      (AllDone s → s.bal s.payTok 0 = s.claimablePayment + sumOver (refundDue s) L + feeInPay s) := by
  obtain ⟨L, h1, h2, h3⟩ := zk_Inv_ledger h
  exact ⟨L, h1, h2, fun hd => (h3 hd).1⟩

theorem zk_Inv_solvent_separate {T0 : Nat} {s : State} {r : Nat} (h : zk_Inv T0 s r)
    (hsep : FeeTokenSeparate s) :
    ∃ L : List Nat, Covers s L ∧ (¬ AllDone s → PayEqPre s L) ∧ (AllDone s → PayEqPost s L) := by
  obtain ⟨L, h1, h2, h3⟩ := zk_Inv_solvent_general h
  have hz : feeInPay s = 0 := by
    have hn : ¬ FeeInPayToken s := hsep.1
    unfold feeInPay; rw [if_neg hn]
  rw [hz] at h2 h3
  exact ⟨L, h1, fun hd => h2 hd, fun hd => h3 hd⟩

theorem zk_Inv_fee_ledger {T0 : Nat} {s : State} {r : Nat} (h : zk_Inv T0 s r)
    (hsep : FeeTokenSeparate s) : feeBal s = feeHeld s := by
  obtain ⟨R, B, K, C, X, W, U, BU, N, TG, hwf⟩ := zk_Inv_shape h
  exact hwf.side.feeEq hsep.1 hsep.2

theorem zk_Inv_three_counts {T0 : Nat} {s : State} {r : Nat} (h : zk_Inv T0 s r) (hd : AllDone s) :
    ∃ L : List Nat, Covers s L ∧
      s.bal s.payTok 0 = s.claimablePayment + sumOver (refundDue s) L + feeInPay s ∧
      sumOver (winCountOf s) L = s.nrWinning ∧
      (∀ a, winCountOf s a ≤ s.confirmed a) ∧
      (∀ a rg, s.range a = some rg → rangeLen rg = s.confirmed a ∧ (rg.first ≤ rg.last → a ∈ L)) := by
  obtain ⟨L, h1, _, h3⟩ := zk_Inv_ledger h
  exact ⟨L, h1, h3 hd⟩

/-- the two clauses of `ng_nft_lists` on the `claimed` flags do not hold here: an empty-range
    address may have "claimed" -/
theorem zk_Inv_nft_lists {T0 : Nat} {s : State} {r : Nat} (h : zk_Inv T0 s r) :
    NftOk s ∧ s.nftWinners.length ≤ s.availNfts ∧
    (∀ a, a ∈ s.payers ∨ a ∈ s.nftWinners → 0 < s.confirmed a) ∧
    (s.flags.selected = false → s.nftWinners = []) ∧
    (s.flags.additional = false → (∀ rg, s.op ≠ .additional (.nft rg)) → s.nftWinners = []) := by
  obtain ⟨R, B, K, C, X, W, U, BU, N, TG, hwf⟩ := zk_Inv_shape h
  have hs := hwf.side
  exact ⟨⟨hs.nodupP, hs.nodupW, hs.disj⟩, hs.winLe, hs.conf, hs.noWin, hwf.noWinE⟩

theorem zk_Inv_final_winners {T0 : Nat} {hash : List Nat → List Nat} {s s' : State} {e : Env}
    {o : Out} {r : Nat} (h : zk_Inv T0 s r) (hr : r ≤ e.round)
    (hs : step hash s e .secondary = .ok (s', o)) (hret : o.ret = [0]) :
    AllDone s' ∧
    countTrue s'.status s'.lastTicketId = s'.nrWinning ∧
    s'.nrWinning = min T0 s'.lastTicketId ∧
    s'.claimablePayment = s'.price * s'.nrWinning ∧
    (∀ t, s'.status t = true → 1 ≤ t ∧ t ≤ s'.lastTicketId) ∧
    (∀ t, s.status t = true → s'.status t = true) := by
  obtain ⟨z, z', hz, hsim, _, hsim', _, hstep⟩ := zk_Inv_secondary h hs
  obtain ⟨h1, h2, _, _, h5, h6, h7, h8, h9, _⟩ := ng_secondary_completion hz hr hstep hret
  obtain ⟨R, B, K, C, U, rfl⟩ := hsim.shape'
  obtain ⟨R', B', K', C', U', rfl⟩ := hsim'.shape'
  exact ⟨⟨h1, h2⟩, h5, h6, h7, h8, h9⟩

/-- the holder of an empty record `{0,0,0,0}` is owed nothing; for a ghost record `{0,0,0,1}` the
    bound is `min 1 0 = 0` -/
theorem zk_Inv_guarantee_honoured {T0 : Nat} {hash : List Nat → List Nat} {s s' : State} {e : Env}
    {o : Out} {r : Nat} (h : zk_Inv T0 s r) (hr : r ≤ e.round)
    (hs : step hash s e .secondary = .ok (s', o)) (hret : o.ret = [0]) :
    (∀ u st, s'.uts u = some st →
      min (calcV1 st (s'.confirmed u) s'.minConfirmed).1 (s'.confirmed u) ≤ winCountOf s' u) ∧
    (∀ t, s'.status t = true → 1 ≤ t ∧ t ≤ s'.lastTicketId) := by
  obtain ⟨z, z', hz, hsim, _, hsim', hu', hstep⟩ := zk_Inv_secondary h hs
  obtain ⟨_, _, _, _, _, _, _, h8, _, h10, _⟩ := ng_secondary_completion hz hr hstep hret
  have hwc : ∀ a, winCountOf s' a = winCountOf z' a := hsim'.esim.winCountOf_eq
  obtain ⟨R', B', K', C', U', rfl⟩ := hsim'.shape'
  refine ⟨fun u st hu => ?_, h8⟩
  rw [hwc u]
  exact h10 u st (by rw [← hu]; exact congrFun hu' u)

theorem zk_Inv_draw_completion {T0 : Nat} {hash : List Nat → List Nat} {s s' : State} {e : Env}
    {o : Out} {r : Nat} (h : zk_Inv T0 s r) (hr : r ≤ e.round)
    (hs : step hash s e .secondary = .ok (s', o)) (hret : o.ret = [0]) :
    s'.nftWinners.length = min s.availNfts (s.payers.length + s.nftWinners.length) ∧
    s'.claimableNft = s.nftCost.amount * s'.nftWinners.length ∧
    NftOk s' ∧ (∀ a, (a ∈ s'.payers ∨ a ∈ s'.nftWinners) ↔ (a ∈ s.payers ∨ a ∈ s.nftWinners)) ∧
    s.nftWinners <+: s'.nftWinners ∧ AllDone s' := by
  obtain ⟨z, z', hz, hsim, _, hsim', _, hstep⟩ := zk_Inv_secondary h hs
  obtain ⟨h1, h2, _, _, _, _, _, _, _, _, h11, h12, h13, h14, h15⟩ :=
    ng_secondary_completion hz hr hstep hret
  obtain ⟨R, B, K, C, U, rfl⟩ := hsim.shape'
  obtain ⟨R', B', K', C', U', rfl⟩ := hsim'.shape'
  exact ⟨h11, h12, ⟨h13.nodupP, h13.nodupW, h13.disj⟩, h14, h15, ⟨h1, h2⟩⟩

/-- `ng_owed` is `nrWinning` plus, until the guaranteed-ticket sub-step is complete, the reserve -/
theorem zk_Inv_lp_cover {T0 : Nat} {s : State} {r : Nat} (h : zk_Inv T0 s r)
    (hd : s.deposited = true) (hnl : ¬ FeeInLpToken s) :
    LP.Props.C02.LpCover s ∧
    (s.flags.additional = false → (∀ rg, s.op ≠ .additional (.nft rg)) →
      s.perTicket * (s.nrWinning + s.totalGuaranteed) ≤ s.bal (.esdt s.lpTok) 0) := by
  have hlp := zk_Inv_lp h hd hnl
  constructor
  · unfold LP.Props.C02.LpCover
    refine Nat.le_trans (Nat.mul_le_mul_left _ ?_) hlp
    unfold ng_owed v1_owed
    split <;> omega
  · intro hna hop
    rw [ng_owed_of_not hop] at hlp
    unfold v1_owed at hlp
    rw [hna] at hlp
    simpa using hlp

theorem zk_Inv_reserve_bounds {T0 : Nat} {s : State} {r : Nat} (h : zk_Inv T0 s r) :
    (s.flags.filtered = false → s.nrWinning + s.totalGuaranteed = T0) ∧
    (s.flags.additional = false → (∀ rg, s.op ≠ .additional (.nft rg)) →
      s.nrWinning + s.totalGuaranteed ≤ T0) ∧
    (s.flags.additional = false → s.nrWinning ≤ T0) := by
  obtain ⟨h1, h2⟩ := zk_Inv_reserve h
  refine ⟨h1, fun hna hop => ?_, fun hna => ?_⟩
  · have := h2 hna
    rw [ng_owed_of_not hop] at this
    unfold v1_owed at this
    rw [hna] at this
    simpa using this
  · have := h2 hna
    refine Nat.le_trans ?_ this
    unfold ng_owed v1_owed
    split <;> omega

theorem zk_Inv_owner_surplus {T0 : Nat} {hash : List Nat → List Nat} {s s' : State} {e : Env}
    {o : Out} {r : Nat} (h : zk_Inv T0 s r) (hnl : ¬ FeeInLpToken s)
    (hs : step hash s e .claimPayment = .ok (s', o)) :
    s'.bal (.esdt s'.lpTok) 0 = s'.perTicket * s'.nrWinning ∧ s'.nrWinning = s.nrWinning ∧
    s'.claimablePayment = 0 ∧ s'.claimableNft = 0 := by
  obtain ⟨z, z', hz, hsim, _, hsim', _, hstep⟩ := zk_Inv_claimPayment h hs
  obtain ⟨R, B, K, C, U, rfl⟩ := hsim.shape'
  obtain ⟨R', B', K', C', U', rfl⟩ := hsim'.shape'
  have := ng_owner_surplus hz hnl hstep
  exact this

/-- An accepted claim is in the claim stage, so all steps are complete and the range has exactly
    `confirmed` tickets: the caller has confirmed nothing, is in neither NFT list, and
    `zc_claim_stutter` applies. -/
theorem zk_Inv_empty_range_claim {T0 : Nat} {hash : List Nat → List Nat} {s s' : State} {e : Env}
    {o : Out} {r : Nat} {rg : Range} (h : zk_Inv T0 s r)
    (hrg : s.range e.caller = some rg) (he : rg.last < rg.first)
    (hs : step hash s e .claim = .ok (s', o)) :
    s' = zc_w s (upd s.range e.caller none) (upd s.batch rg.first none) s.blacklist
          (upd s.claimed e.caller true) s.uts ∧ s'.bal = s.bal ∧ s'.nrWinning = s.nrWinning ∧
    o.xfers = [] ∧ o.sfts = [(e.caller, 3)] ∧ o.locks = [] := by
  obtain ⟨R, B, K, C, X, W, U, BU, N, TG, hwf⟩ := zk_Inv_shape h
  have hvs : s.variant = .nftGuar := hwf.var
  have hd : AllDone s := by
    rcases LP.Props.C06.claim_gate hash s e _ hs with h1 | ⟨h1, _⟩
    · exact (stage_claim_iff.mp h1).1
    · rw [(ng_flags hvs).1] at h1; cases h1
  obtain ⟨_, _, _, _, _, hrgs⟩ := zk_Inv_three_counts h hd
  obtain ⟨_, _, hconf, _⟩ := zk_Inv_nft_lists h
  have hc0 : s.confirmed e.caller = 0 := by
    rw [← (hrgs e.caller rg hrg).1]; unfold rangeLen; omega
  have hnp : e.caller ∉ s.payers := fun hin => by
    have := hconf e.caller (Or.inl hin); omega
  have hnw : e.caller ∉ s.nftWinners := fun hin => by
    have := hconf e.caller (Or.inr hin); omega
  obtain ⟨key, k1, k2, k3⟩ := zc_claim_stutter hvs hs hrg he hc0 hnw hnp
  exact ⟨key, by rw [key]; rfl, by rw [key]; rfl, k1, k2, k3⟩

end LP
