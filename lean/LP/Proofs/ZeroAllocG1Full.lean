import LP.Proofs.ZeroAllocG1
import LP.Proofs.ZeroAllocShadow
/-
  Zero-size allocations for `Variant.guarV1` WITHOUT ANY restriction on the allocation entries: the
  migrated zero-size entries `(a, 0, 0, true)`, the "ghost guarantees", are allowed (prefix `zh_`).
  Before the first `filter` call the real state `s` is paired with the SHADOW `zv_sh s U BU N TG` (empty
  ranges / zero-size batches erased, guarantee bookkeeping replaced by the guarantee-free
  `([], U, BU, N, TG)`), which satisfies `g1_WF` and takes REAL steps: the instance for `g1_WF` of the
  family `PAFam` of LP/Proofs/ZeroAllocShadow.lean.  The first `filter` call hands over to the erased state
  `zv_z s` (`zh_PA_filter`); afterwards the calls are matched by the `zg_sim_*` lemmas of
  LP/Proofs/ZeroAllocG1.lean.  `zh_sim`: the invariant `zh_Inv` holds along `g1_ReachFullA`; the last section
  reads the properties off it (`zh_Inv_*`), and LP/Props/C01zeroG1.lean, LP/Props/C01zeroG1full.lean quote them.
-/
namespace LP
open LP.FY LP.Events

/-- invariant before the first `filter` call -/
structure zh_PA (T0 : Nat) (s : State) (r : Nat) : Prop where
  sh : ∃ U BU N TG, g1_WF T0 (zv_sh s U BU N TG) r ∧
    (∀ u, (z_eraseR s.range u).isSome = true → (U u).isSome = true)
  gx : GuarInvX s
  sum : s.nrWinning + s.totalGuaranteed = T0
  hd : z_Hd s
  ns : s.flags.started = false

def g1PA : PAFam where
  WF := g1_WF
  call_WF := g1_call_WF
  wait_WF := g1_wait_WF
  flags h := by
    obtain ⟨_, _, f3, f4, f5, _⟩ := g1_flags h.var
    exact ⟨f3, f4, f5⟩
  minConf h := h.static
  sum h hns := by
    obtain ⟨_, htg, L0, hp, hA, _⟩ := v1_phase_notStarted h.phase hns
    exact (zv_notStarted_facts htg hp hA).1
  noConf h hns := by
    obtain ⟨_, htg, L0, hp, hA, _⟩ := v1_phase_notStarted h.phase hns
    exact (zv_notStarted_facts htg hp hA).2
  noPay h _ hn := absurd ((g1_flags h.var).2.1.symm.trans hn) nofun

theorem zh_PA_iff {T0 : Nat} {s : State} {r : Nat} : zh_PA T0 s r ↔ PAof g1PA T0 s r :=
  ⟨fun h => ⟨h.sh, h.gx, h.sum, h.hd, h.ns⟩, fun h => ⟨h.sh, h.gx, h.sum, h.hd, h.ns⟩⟩

theorem zh_sh_sum {T0 : Nat} {s : State} {U BU : Nat → Option UTS} {N TG r : Nat}
    (h : g1_WF T0 (zv_sh s U BU N TG) r) (hns : s.flags.started = false) : N + TG = T0 :=
  g1PA.sum h hns

end LP

/-! ### From the first `filter` call on.  It hands over from the shadow to the erased state `zv_z s`, which
  keeps the REAL guarantee bookkeeping; afterwards the erased state is `ZGSim`-related to a state satisfying
  `g1_WF` — in general NOT a reachable one — and takes the same steps (`zh_PB_match`; the `zg_sim_*` lemmas
  assume `g1_WF` only).  Then `g1_ReachFullA` (no premise on the calls; `g1_ReachFull_iff`) and the invariant
  `zh_Inv` (`zh_sim`). -/
namespace LP
open LP.FY LP.Events

/-- `g1_WF` before the first filter call with the reserve invariant cut down to its range-free
    clauses (which is all `filter` needs) -/
structure zh_WFA (T0 : Nat) (s : State) (r : Nat) : Prop where
  var : s.variant = .guarV1
  pricePos : 0 < s.price
  tokNe : s.payTok ≠ .esdt s.lpTok
  static : 0 < s.minConfirmed
  balOther : ∀ t, t ≠ s.payTok → t ≠ .esdt s.lpTok → s.bal t 0 = 0
  tlConf : r < s.cfg.conf → ∀ a, s.confirmed a = 0
  tlStarted : s.flags.started = true → s.cfg.conf ≤ r ∧ s.cfg.sel ≤ r
  vs : g1_Vest s.gcore (g1_lproj s) s.sched1 r
  add : s.flags.additional = false
  tg : s.totalGuaranteed ≤ T0
  pre : ∃ L0, Pre (T0 - s.totalGuaranteed) s.core L0 ∧ PhA s.core L0
  gw : v1_GW (v1_gv s)

theorem zh_vs_early {s s' : State} {r r' : Nat} (hvs : g1_Vest s.gcore (g1_lproj s) s.sched1 r)
    (hr : r ≤ r')
    (ha : s.flags.additional = false) (ha' : s'.flags.additional = false)
    (hlj : g1_lproj s' = g1_lproj s) (hsc : s'.sched1 = s.sched1)
    (hnw : s'.nrWinning + s'.totalGuaranteed ≤ s.nrWinning + s.totalGuaranteed)
    (hc : s.deposited = false → ∀ a, s'.confirmed a = 0) :
    g1_Vest s'.gcore (g1_lproj s') s'.sched1 r' := by
  rw [hlj, hsc]
  exact hvs.early (g' := s'.gcore) hr ha ha' hnw hc

theorem zh_filter_weak {T0 : Nat} {hash : List Nat → List Nat} {s s' : State} {e : Env} {o : Out}
    {r : Nat} (h : zh_WFA T0 s r) (hr : r ≤ e.round)
    (hs : step hash s e .filter = .ok (s', o)) : g1_WF T0 s' e.round ∧ s'.flags.started = true := by
  obtain ⟨t, hx, rfl⟩ := step_np rfl hs
  obtain ⟨L0, hp, ha⟩ := h.pre
  obtain ⟨hpre, R, B, fl, op, nw, last, hs', hst, _, hfa, hnw, hph⟩ :=
    v1_filter_first (pb := s.core.payBal) (rbTx_s s e) h.add h.tg hp (Or.inl ha) h.gw hx
  have hc := rb_stage_winnerSelection hpre.stage
  rw [hs'] at hph ⊢
  exact ⟨⟨h.var, h.pricePos, h.tokNe, h.static, h.balOther, fun hlt => absurd hc.1 (Nat.not_le.mpr hlt),
    fun _ => hc, zh_vs_early h.vs hr h.add (hfa.trans h.add) rfl rfl (Nat.add_le_add_right hnw _)
      (fun hq => (h.vs.lp.nodep hq).1), hph⟩, hst⟩

theorem zh_PA_fresh {T0 : Nat} {s : State} {r : Nat} (h : zh_PA T0 s r) (a : Nat) :
    s.userTotal a = 0 ∧ s.userClaimed a = 0 ∧ s.claimed a = false := by
  obtain ⟨U, BU, N, TG, hwf, _⟩ := h.sh
  obtain ⟨hadd, _⟩ := v1_phase_notStarted hwf.phase h.ns
  exact hwf.vs.fresh hadd a

theorem zh_WFA_of_PA {T0 : Nat} {s : State} {r : Nat} (h : zh_PA T0 s r) : zh_WFA T0 (zv_z s) r := by
  obtain ⟨U, BU, N, TG, hwf, _⟩ := h.sh
  obtain ⟨hadd, htg, L0, hp, ha, _⟩ := v1_phase_notStarted hwf.phase h.ns
  have hsum := zh_sh_sum hwf h.ns
  have hs := h.sum
  have hiv2 : s.variant.isV2 = false := by
    have hv : s.variant = .guarV1 := hwf.var
    rw [hv]; rfl
  have hadd' : s.flags.additional = false := hadd
  refine ⟨hwf.var, hwf.pricePos, hwf.tokNe, hwf.static, hwf.balOther, hwf.tlConf, hwf.tlStarted, ?_,
    hadd, by show s.totalGuaranteed ≤ T0; omega, ⟨L0, ?_, ⟨ha.notStarted, ha.op, ha.chain, ha.last⟩⟩, ?_⟩
  · have hlj : g1_lproj (zv_z s) = g1_lproj (zv_sh s U BU N TG) := rfl
    have hsc : (zv_z s).sched1 = (zv_sh s U BU N TG).sched1 := rfl
    exact zh_vs_early (s := zv_sh s U BU N TG) (s' := zv_z s) hwf.vs (Nat.le_refl r) hadd hadd hlj hsc
      (by show s.nrWinning + s.totalGuaranteed ≤ N + TG; omega)
      (fun hq => (hwf.vs.lp.nodep hq).1)
  · exact ⟨hp.notFiltered, hp.notSelected, by show s.nrWinning = T0 - s.totalGuaranteed; omega,
      hp.status0, hp.pos0, hp.ok, hp.outC, hp.outR, hp.pay⟩
  · have hb := h.gx.base
    rw [hiv2] at hb
    exact ⟨hb.total, hb.mem_of_pos, hb.pos_of_mem⟩

/-- the first `filter` call: the erased state takes the same step and lands in `g1_WF` -/
theorem zh_PA_filter {T0 : Nat} {hash : List Nat → List Nat} {s s' : State} {e : Env}
    {o : Out} {r : Nat} (h : zh_PA T0 s r) (hr : r ≤ e.round)
    (hs : step hash s e .filter = .ok (s', o)) :
    ∃ z', g1_WF T0 z' e.round ∧ ZGSim s' z' ∧ s'.flags.started = true ∧
      step hash (zv_z s) e .filter = .ok (z', o) := by
  have hwfa := zh_WFA_of_PA h
  obtain ⟨L0, hp, ha⟩ := hwfa.pre
  obtain ⟨h1, ⟨_, f2, _⟩, h3⟩ := (zv_ZSim_z s).esim.filter
    (fun _ => ⟨L0, z_filter_facts hp (Or.inl ha) rfl rfl rfl rfl rfl⟩) hs
  obtain ⟨hwf', hst'⟩ := zh_filter_weak hwfa hr h3
  refine ⟨_, hwf', h1.zgsim (fun a ha' => ?_), hst', h3⟩
  rw [f2, (zh_PA_fresh h a).2.2] at ha'; cases ha'

/-- `g1_ReachA` without the premise `v1_CallOK c`: in particular `addTicketsV1` with entries
    `(a, 0, 0, true)` -/
inductive g1_ReachFullA (hash : List Nat → List Nat) (a0 : InitArgs) : State → Nat → Prop
  | init (e : Env) (s : State) : init .guarV1 a0 e = .ok s → g1_ReachFullA hash a0 s e.round
  | call (s : State) (r : Nat) (e : Env) (c : Call) (s' : State) (o : Out) :
      g1_ReachFullA hash a0 s r → r ≤ e.round → EnvOK e →
      step hash s e c = .ok (s', o) → g1_ReachFullA hash a0 s' e.round
  | wait (s : State) (r r' : Nat) : g1_ReachFullA hash a0 s r → r ≤ r' → g1_ReachFullA hash a0 s r'

theorem g1_reachFullA_iff_later {hash : List Nat → List Nat} {a0 : InitArgs} {s : State} {r : Nat} :
    g1_ReachFullA hash a0 s r ↔ be_From (be_OK (fun _ => True)) hash .guarV1 a0 s r := by
  constructor <;> intro h
  · induction h with
    | init e s h => exact .init h
    | call _ _ _ _ _ _ _ h1 h2 h3 ih => exact ih.call h1 ⟨h2, trivial⟩ h3
    | wait _ _ _ _ h1 ih => exact ih.wait h1
  · exact h.induct .init (fun s r e c s' o ih h1 h2 h3 => .call s r e c s' o ih h1 h2.1 h3)
      fun s r r' ih h1 => .wait s r r' ih h1

theorem g1_ReachFull_iff {hash : List Nat → List Nat} {s : State} {r : Nat} :
    g1_ReachFull hash s r ↔ ∃ a0, g1_ReachFullA hash a0 s r :=
  g1_reachFull_iff_later.trans (exists_congr fun _ => g1_reachFullA_iff_later.symm)
theorem g1_ReachZA.toFullA {hash : List Nat → List Nat} {a0 : InitArgs} {s : State} {r : Nat}
    (h : g1_ReachZA hash a0 s r) : g1_ReachFullA hash a0 s r :=
  g1_reachFullA_iff_later.mpr ((g1_reachZA_iff_later.mp h).mono fun _ _ => trivial)
theorem g1_ReachA.toFullA {hash : List Nat → List Nat} {a0 : InitArgs} {s : State} {r : Nat}
    (h : g1_ReachA hash a0 s r) : g1_ReachFullA hash a0 s r := h.toZ.toFullA

/-- before the first `filter` call: the shadow invariant `zh_PA`; afterwards: `ZGSim`-related to a
    state satisfying `g1_WF` -/
def zh_Inv (T0 : Nat) (s : State) (r : Nat) : Prop :=
  zh_PA T0 s r ∨ (s.flags.started = true ∧ ∃ z, g1_WF T0 z r ∧ ZGSim s z)

theorem zh_PA_flags {T0 : Nat} {s : State} {r : Nat} (h : zh_PA T0 s r) :
    s.flags.filtered = false ∧ s.flags.selected = false ∧ s.flags.additional = false ∧
    s.variant = .guarV1 := by
  obtain ⟨U, BU, N, TG, hwf, _⟩ := h.sh
  obtain ⟨hadd, _, L0, hp, _, _⟩ := v1_phase_notStarted hwf.phase h.ns
  exact ⟨hp.notFiltered, hp.notSelected, hadd, hwf.var⟩

theorem zh_PA_step {T0 : Nat} {hash : List Nat → List Nat} {s s' : State} {e : Env} {c : Call}
    {o : Out} {r : Nat} (h : zh_PA T0 s r) (hr : r ≤ e.round) (hok : EnvOK e)
    (hs : step hash s e c = .ok (s', o)) : zh_Inv T0 s' e.round := by
  obtain ⟨hnf, hnsel, _, hvar⟩ := zh_PA_flags h
  have hex : c.exposedIn .guarV1 = true := hvar ▸ step_exposed hs
  cases c with
  | filter =>
    obtain ⟨z', h1, h2, h3, _⟩ := zh_PA_filter h hr hs
    exact Or.inr ⟨h3, z', h1, h2⟩
  | claim =>
    rcases LP.Props.C06.claim_gate hash s e _ hs with h1 | ⟨_, h1⟩
    · have := (stage_claim_iff.mp h1).1.1
      rw [hnsel] at this; cases this
    · rw [(zh_PA_fresh h e.caller).2.2] at h1; cases h1
  | addTicketsV1 _ | confirm _ | blacklist _ | unblacklist _ | select | distribute | claimPayment
  | deposit | setTicketPrice _ _ | setPerTicket _ | setConfStart _ | setSelStart _ | setClaimStart _
  | setSupport _ | pause | unpause | setSchedule1 _ _ _ _ _ =>
    exact Or.inl (zh_PA_iff.2 (PAof_call rfl hnf hnsel (zh_PA_iff.1 h) hr hok hs))
  | _ => exact (Bool.false_ne_true hex).elim

/-- after the first `filter` call every accepted call of the real state is matched by the SAME call on
    the erased state, which stays in `g1_WF`, except that a claim by a caller with an empty range (or
    its repeat) is matched by no step -/
theorem zh_PB_match {T0 : Nat} {hash : List Nat → List Nat} {s z s' : State} {e : Env} {c : Call}
    {o : Out} {r : Nat} (hst : s.flags.started = true) (hz : g1_WF T0 z r) (hsim : ZGSim s z)
    (hr : r ≤ e.round) (hok : EnvOK e)
    (hs : step hash s e c = .ok (s', o)) :
    ∃ z', g1_WF T0 z' e.round ∧ ZGSim s' z' ∧ (step hash z e c = .ok (z', o) ∨ (c = .claim ∧ z' = z)) := by
  have hvar := zh_var_of_sim hz hsim
  have hex : c.exposedIn .guarV1 = true := hvar ▸ step_exposed hs
  obtain ⟨hcfg, hfl, _⟩ := hsim.fields
  have htl := hz.tlStarted (by rw [hfl]; exact hst)
  rw [hcfg] at htl
  have hearly : ¬ (s.stage e = .addTickets ∨ s.stage e = .confirm) := by
    rintro (h1 | h1)
    · have := rb_stage_addTickets h1; omega
    · have := (rb_stage_confirm h1).2; omega
  have hA : s.flags.started = false → zg_A s z := fun h => by rw [hst] at h; cases h
  cases c with
  | addTicketsV1 l =>
    exact absurd (Or.inl (LP.Props.C06.alloc_only_in_addTickets hash s e _ _
      (Or.inr (Or.inl ⟨l, rfl⟩)) hs)) hearly
  | blacklist l =>
    exact absurd (LP.Props.C06.blacklist_only_before_selection hash s e _ _ (Or.inl ⟨l, rfl⟩) hs) hearly
  | unblacklist l =>
    exact absurd (LP.Props.C06.blacklist_only_before_selection hash s e _ _
      (Or.inr (Or.inr ⟨l, rfl⟩)) hs) hearly
  | confirm n =>
    obtain ⟨z', h2, _, h4⟩ := zg_sim_confirm hsim hA hs
    exact ⟨z', g1_call_WF (c := (.confirm n)) hz hr hok trivial h4, h2, Or.inl h4⟩
  | filter =>
    obtain ⟨z', h2, _, h4⟩ := zg_sim_filter hz hsim hr hok hs
    exact ⟨z', g1_call_WF (c := .filter) hz hr hok trivial h4, h2, Or.inl h4⟩
  | distribute =>
    obtain ⟨z', h2, _, h4⟩ := zg_sim_distribute hz hsim hs
    exact ⟨z', g1_call_WF (c := .distribute) hz hr hok trivial h4, h2, Or.inl h4⟩
  | claim =>
    obtain ⟨z', h2, _, ⟨h4, _⟩ | ⟨rfl, _⟩⟩ := zg_sim_claim hz hsim hs
    · exact ⟨z', g1_call_WF (c := .claim) hz hr hok trivial h4, h2, Or.inl h4⟩
    · exact ⟨z', g1_wait_WF hz hr, h2, Or.inr ⟨rfl, rfl⟩⟩
  | deposit | setTicketPrice _ _ | setPerTicket _ | setConfStart _ | setSelStart _ | setClaimStart _
  | setSupport _ | pause | unpause | select | claimPayment | setSchedule1 _ _ _ _ _ =>
    obtain ⟨z', h2, _, h4⟩ := zg_sim_indep rfl hz hsim hA hs
    exact ⟨z', g1_call_WF hz hr hok (z_indep_v1_CallOK rfl) h4, h2, Or.inl h4⟩
  | _ => exact (Bool.false_ne_true hex).elim

theorem zh_Inv_step {T0 : Nat} {hash : List Nat → List Nat} {s s' : State} {e : Env} {c : Call}
    {o : Out} {r : Nat} (h : zh_Inv T0 s r) (hr : r ≤ e.round) (hok : EnvOK e)
    (hs : step hash s e c = .ok (s', o)) : zh_Inv T0 s' e.round := by
  rcases h with h | ⟨hst, z, hz, hsim⟩
  · exact zh_PA_step h hr hok hs
  · obtain ⟨z', h1, h2, _⟩ := zh_PB_match hst hz hsim hr hok hs
    exact Or.inr ⟨(step_flags_gain4 hs).1 hst, z', h1, h2⟩

theorem zh_Inv_wait {T0 : Nat} {s : State} {r r' : Nat} (h : zh_Inv T0 s r) (hr : r ≤ r') :
    zh_Inv T0 s r' := by
  rcases h with h | ⟨hst, z, hz, hsim⟩
  · exact Or.inl (zh_PA_iff.2 (PAof_wait (zh_PA_iff.1 h) hr))
  · exact Or.inr ⟨hst, z, g1_wait_WF hz hr, hsim⟩

theorem zh_Inv_init {a : InitArgs} {e : Env} {s : State}
    (h : init .guarV1 a e = .ok s) : zh_Inv a.nrWinning s e.round := by
  have hwf := g1_init_WF h
  obtain ⟨h1, h2, h3, h4, h5, h6, h7, h8, h9, h10, h11, h12, h13, h14, h15, h16, h17, h18,
    h19, h20, h21, h22, h23, _⟩ := g1_init_inv h
  exact Or.inl (zh_PA_iff.2 (PAof_init (W := g1PA) hwf h20 h21 h22 h14 h15 h23 h8 (by rw [h9])))

theorem zh_sim {hash : List Nat → List Nat} {a0 : InitArgs}
    {s : State} {r : Nat} (h : g1_ReachFullA hash a0 s r) : zh_Inv a0.nrWinning s r := by
  induction h with
  | init e s h => exact zh_Inv_init h
  | call s r e c s' o _ h1 h2 h3 ih => exact zh_Inv_step ih h1 h2 h3
  | wait s r r' _ h1 ih => exact zh_Inv_wait ih h1

end LP

#print axioms LP.zh_sim

/-! ### What the simulation invariant `zh_Inv` gives on the REAL state: ledger, three counts, reserve,
  launchpad-token coverage, vesting ledger, the matched `distribute` / `claim` steps. -/
namespace LP
open LP.FY LP.Events

theorem zh_Inv_selected {T0 : Nat} {s : State} {r : Nat} (h : zh_Inv T0 s r)
    (hsel : s.flags.selected = true) : ∃ z, g1_WF T0 z r ∧ ZGSim s z := by
  rcases h with h | ⟨_, z, hz, hsim⟩
  · have := (zh_PA_flags h).2.1
    rw [hsel] at this; cases this
  · exact ⟨z, hz, hsim⟩

theorem zh_Inv_var {T0 : Nat} {s : State} {r : Nat} (h : zh_Inv T0 s r) : s.variant = .guarV1 := by
  rcases h with h | ⟨_, z, hz, hsim⟩
  · exact (zh_PA_flags h).2.2.2
  · exact zh_var_of_sim hz hsim

/-- the ledger (C01) and the three counts -/
theorem zh_Inv_ledger {T0 : Nat} {s : State} {r : Nat} (h : zh_Inv T0 s r) :
    ∃ L : List Nat, Covers s L ∧ (¬ AllDone s → PayEqPre s L) ∧
      (AllDone s → PayEqPost s L ∧ sumOver (winCountOf s) L = s.nrWinning ∧
        (∀ a, winCountOf s a ≤ s.confirmed a) ∧
        (∀ a rg, s.range a = some rg → rangeLen rg = s.confirmed a ∧ (rg.first ≤ rg.last → a ∈ L))) :=
  zv_phase_ledger (W := g1PA) g1_WF.phase
    (h.imp zh_PA_iff.1 (fun ⟨_, z, hz, hsim⟩ => ⟨z, hz.phase, hsim.esim⟩))

theorem zh_Inv_reserve {T0 : Nat} {s : State} {r : Nat} (h : zh_Inv T0 s r) :
    (s.flags.filtered = false → s.nrWinning + s.totalGuaranteed = T0) ∧
    (s.flags.additional = false → s.nrWinning + s.totalGuaranteed ≤ T0) :=
  zv_phase_reserve (W := g1PA) (h.imp zh_PA_iff.1 (fun ⟨_, z, hz, hsim⟩ => ⟨z, hz.phase, hsim.esim⟩))

theorem zh_Inv_lp_before {T0 : Nat} {s : State} {r : Nat} (h : zh_Inv T0 s r)
    (hd : s.flags.additional = false) :
    (∀ a, s.userTotal a = 0 ∧ s.userClaimed a = 0 ∧ s.claimed a = false) ∧
    (s.deposited = true → s.bal (.esdt s.lpTok) 0 = s.totalDeposited ∧
      s.perTicket * (s.nrWinning + s.totalGuaranteed) ≤ s.totalDeposited) ∧
    (s.deposited = false → s.bal (.esdt s.lpTok) 0 = 0 ∧ ∀ a, s.confirmed a = 0) := by
  rcases h with h | ⟨_, z, hz, hsim⟩
  · have hwfa := zh_WFA_of_PA h
    have hl := hwfa.vs.lp
    have hp := hl.pre hwfa.add
    exact ⟨zh_PA_fresh h, hp.dep, fun hq => ⟨(hl.nodep hq).2.1, (hl.nodep hq).1⟩⟩
  · have hfl : z.flags = s.flags := hsim.fields.2.1
    have hl := hz.vs.lp
    have hp := hl.pre (by show z.flags.additional = false; rw [hfl]; exact hd)
    have hcl : ∀ a, s.claimed a = false := by
      intro a
      cases hc : s.claimed a with
      | false => rfl
      | true => have := (hsim.done a hc).2; rw [hd] at this; cases this
    have hfr := hp.fresh
    have hdep := hp.dep
    have hnd := hl.nodep
    obtain ⟨w, rfl⟩ := hsim.shape'
    exact ⟨fun a => ⟨(hfr a).1, (hfr a).2.1, hcl a⟩, hdep,
      fun hq => ⟨(hnd hq).2.1, (hnd hq).1⟩⟩

theorem zh_Inv_lp_cover {T0 : Nat} {s : State} {r : Nat} (h : zh_Inv T0 s r) :
    (s.flags.additional = true → LP.Props.C02.LpCover s) ∧
    (s.flags.additional = false → s.deposited = true →
      s.perTicket * (s.nrWinning + s.totalGuaranteed) ≤ s.bal (.esdt s.lpTok) 0) := by
  constructor
  · intro ha
    rcases h with h | ⟨_, z, hz, hsim⟩
    · have := (zh_PA_flags h).2.2.1
      rw [ha] at this; cases this
    · have hfl : z.flags = s.flags := hsim.fields.2.1
      have ha' : z.flags.additional = true := by rw [hfl]; exact ha
      have hD := v1_phase_D hz.phase ha'
      obtain ⟨L, _, _, heq⟩ := g1_lp_exact hz ⟨hD.selected, ha'⟩
      obtain ⟨w, rfl⟩ := hsim.shape'
      unfold LP.Props.C02.LpCover
      have heq' : s.bal (.esdt s.lpTok) 0 = ownSurplus (zg_w s w) + s.perTicket * s.nrWinning
          + sumOver (fun a => s.userTotal a - s.userClaimed a) L := heq
      omega
  · intro ha hdp
    obtain ⟨_, h2, _⟩ := zh_Inv_lp_before h ha
    obtain ⟨k1, k2⟩ := h2 hdp
    omega

theorem zh_Inv_done {T0 : Nat} {s : State} {r : Nat} (h : zh_Inv T0 s r) (hd : AllDone s) :
    ∃ z, g1_WF T0 z r ∧ ZGSim s z ∧ AllDone z := by
  obtain ⟨z, hz, hsim⟩ := zh_Inv_selected h hd.1
  have hfl : z.flags = s.flags := hsim.fields.2.1
  exact ⟨z, hz, hsim, hd.of_flags hfl⟩

theorem zh_Inv_norec {T0 : Nat} {s : State} {r : Nat} (h : zh_Inv T0 s r) :
    (∀ a, s.claimed a = false → s.userTotal a = 0 ∧ s.userClaimed a = 0) ∧
    (∀ a, s.userClaimed a ≤ s.userTotal a) := by
  rcases h with h | ⟨_, z, hz, hsim⟩
  · have hf := zh_PA_fresh h
    exact ⟨fun a _ => ⟨(hf a).1, (hf a).2.1⟩, fun a => by rw [(hf a).1, (hf a).2.1]; exact Nat.le_refl _⟩
  · have h1 := zh_norec hz
    have h2 : ∀ a, z.userClaimed a ≤ z.userTotal a := by
      cases ha : z.flags.additional with
      | false =>
        intro a
        have := (hz.vs.lp.pre ha).fresh a
        have e1 : z.userTotal a = 0 := this.1
        have e2 : z.userClaimed a = 0 := this.2.1
        rw [e1, e2]; exact Nat.le_refl _
      | true => exact (hz.vs.lp.post ha).le
    have hcl := hsim.cl
    obtain ⟨w, rfl⟩ := hsim.shape'
    refine ⟨fun a hc => h1 a ?_, h2⟩
    cases hk : (zg_w s w).claimed a with
    | false => rfl
    | true => rw [hcl a hk] at hc; cases hc

theorem zh_Inv_exact {T0 : Nat} {s : State} {r : Nat} (h : zh_Inv T0 s r) :
    (∀ a, claimedExactly1 s a r) ∧ (∀ sc, s.sched1 = some sc → validSched1 sc) ∧
    (∀ now, pct1 now s.sched1 ≤ 10000) := by
  rcases h with h | ⟨_, z, hz, hsim⟩
  · obtain ⟨U, BU, N, TG, hwf, _⟩ := h.sh
    have hvs := hwf.vs
    exact ⟨hvs.exact, hvs.sch, g1_pct1_le hvs.sch⟩
  · have hvs := hz.vs
    have h1 := hvs.exact
    have h2 := hvs.sch
    have h3 := g1_pct1_le hvs.sch
    obtain ⟨w, rfl⟩ := hsim.shape'
    exact ⟨h1, h2, h3⟩

theorem zh_Inv_distribute {T0 : Nat} {hash : List Nat → List Nat} {s s' : State} {e : Env}
    {o : Out} {r : Nat} (h : zh_Inv T0 s r) (hr : r ≤ e.round) (hok : EnvOK e)
    (hs : step hash s e .distribute = .ok (s', o)) :
    ∃ z z', g1_WF T0 z r ∧ ZGSim s z ∧ g1_WF T0 z' e.round ∧ ZGSim s' z' ∧
      step hash z e .distribute = .ok (z', o) := by
  rcases h with h | ⟨hst, z, hz, hsim⟩
  · exfalso
    have := (LP.Props.C06.additional_gate hash s e .distribute _ (Or.inl rfl) hs).2.1
    rw [(zh_PA_flags h).2.1] at this; cases this
  · obtain ⟨z', h1, h2, h3 | ⟨hc, _⟩⟩ := zh_PB_match hst hz hsim hr hok hs
    · exact ⟨z, z', hz, hsim, h1, h2, h3⟩
    · cases hc

/-- a claim by a caller with an empty range, or the repeat claim of such a caller, is matched by no
    step -/
theorem zh_Inv_claim {T0 : Nat} {hash : List Nat → List Nat} {s s' : State} {e : Env}
    {o : Out} {r : Nat} (h : zh_Inv T0 s r) (hr : r ≤ e.round) (hok : EnvOK e)
    (hs : step hash s e .claim = .ok (s', o)) :
    ∃ z z', g1_WF T0 z r ∧ ZGSim s z ∧ g1_WF T0 z' e.round ∧ ZGSim s' z' ∧
      ((step hash z e .claim = .ok (z', o) ∧ z.claimed e.caller = s.claimed e.caller) ∨
        (z' = z ∧ s.userTotal e.caller = 0 ∧
          ((s' = s ∧ s.claimed e.caller = true) ∨
           ∃ rg, s.range e.caller = some rg ∧ rg.last < rg.first ∧ s.claimed e.caller = false ∧
          s' = zg_w s ⟨upd s.range e.caller none, upd s.batch rg.first none, s.blacklist,
                       upd s.claimed e.caller true, s.uts⟩))) := by
  rcases h with h | ⟨_, z, hz, hsim⟩
  · exfalso
    obtain ⟨_, hnsel, _, _⟩ := zh_PA_flags h
    rcases LP.Props.C06.claim_gate hash s e _ hs with h1 | ⟨_, h1⟩
    · have := (stage_claim_iff.mp h1).1.1
      rw [hnsel] at this; cases this
    · rw [(zh_PA_fresh h e.caller).2.2] at h1; cases h1
  · obtain ⟨z', h2, _, h3⟩ := zg_sim_claim hz hsim hs
    refine ⟨z, z', hz, hsim, ?_, h2, h3⟩
    rcases h3 with ⟨h4, _⟩ | ⟨rfl, _⟩
    · exact g1_call_WF (c := .claim) hz hr hok trivial h4
    · exact g1_wait_WF hz hr

/-! The theorems of LP/Props/C01zeroG1.lean and LP/Props/C01zeroG1full.lean are `zh_Inv_*` statements of
  this section, read at `g1_ReachZ` and `g1_ReachFull` through `.inv` (or at `g1_ReachZA` / `g1_ReachFullA`
  through `zh_sim`, where the deployment arguments matter). -/

theorem g1_ReachFull.inv {hash : List Nat → List Nat} {s : State} {r : Nat}
    (h : g1_ReachFull hash s r) : ∃ T0, zh_Inv T0 s r := by
  obtain ⟨a0, h⟩ := g1_ReachFull_iff.mp h
  exact ⟨_, zh_sim h⟩

theorem g1_ReachZ.inv {hash : List Nat → List Nat} {s : State} {r : Nat}
    (h : g1_ReachZ hash s r) : ∃ T0, zh_Inv T0 s r :=
  h.toFull.inv

theorem zh_Inv_solvent {T0 : Nat} {s : State} {r : Nat} (h : zh_Inv T0 s r) :
    ∃ L : List Nat, Covers s L ∧ (¬ AllDone s → PayEqPre s L) ∧ (AllDone s → PayEqPost s L) := by
  obtain ⟨L, h1, h2, h3⟩ := zh_Inv_ledger h
  exact ⟨L, h1, h2, fun hd => (h3 hd).1⟩

theorem zh_Inv_three_counts {T0 : Nat} {s : State} {r : Nat} (h : zh_Inv T0 s r) (hd : AllDone s) :
    ∃ L : List Nat, Covers s L ∧ PayEqPost s L ∧ sumOver (winCountOf s) L = s.nrWinning ∧
      (∀ a, winCountOf s a ≤ s.confirmed a) ∧
      (∀ a rg, s.range a = some rg → rangeLen rg = s.confirmed a ∧ (rg.first ≤ rg.last → a ∈ L)) := by
  obtain ⟨L, h1, _, h3⟩ := zh_Inv_ledger h
  exact ⟨L, h1, h3 hd⟩

theorem zh_Inv_refund_covered {T0 : Nat} {s : State} {r : Nat} (h : zh_Inv T0 s r) (hd : AllDone s)
    {a : Nat} {rg : Range} (hr : s.range a = some rg) :
    s.claimablePayment + s.price * (s.confirmed a - winCountOf s a) ≤ s.bal s.payTok 0 := by
  obtain ⟨L, _, hpost, _, _, hrg⟩ := zh_Inv_three_counts h hd
  unfold PayEqPost at hpost
  by_cases hne : rg.first ≤ rg.last
  · have hle := rb_le_sumOver (refundDue s) L a ((hrg a rg hr).2 hne)
    have hdue : refundDue s a = s.price * (s.confirmed a - winCountOf s a) := by
      simp only [refundDue, hr]
    omega
  · have hc : s.confirmed a = 0 := by
      have := (hrg a rg hr).1
      unfold rangeLen at this; omega
    rw [hc]
    simp only [Nat.zero_sub, Nat.mul_zero, Nat.add_zero]
    omega

theorem zh_Inv_final_winners {T0 : Nat} {hash : List Nat → List Nat} {s s' : State} {e : Env}
    {o : Out} {r : Nat} (h : zh_Inv T0 s r) (hr : r ≤ e.round) (hok : EnvOK e)
    (hs : step hash s e .distribute = .ok (s', o)) (hret : o.ret = [0]) :
    AllDone s' ∧
    countTrue s'.status s'.lastTicketId = s'.nrWinning ∧
    s'.nrWinning = min T0 s'.lastTicketId ∧
    s'.claimablePayment = s'.price * s'.nrWinning ∧
    (∀ t, s'.status t = true → 1 ≤ t ∧ t ≤ s'.lastTicketId) ∧
    (∀ t, s.status t = true → s'.status t = true) := by
  obtain ⟨z, z', hz, hsim, _, hsim', hstep⟩ := zh_Inv_distribute h hr hok hs
  obtain ⟨h1, h2, _, _, h5, h6, h7, h8, h9, _⟩ := v1_distribute_completion hz.toInv hstep hret
  obtain ⟨w, rfl⟩ := hsim.shape'
  obtain ⟨w', rfl⟩ := hsim'.shape'
  exact ⟨⟨h1, h2⟩, h5, h6, h7, h8, h9⟩

/-- A record that the erased state lacks belongs to an empty-range address and carries no
    guarantee: it qualifies for nothing (`calcV1_zero`). -/
theorem zh_Inv_guarantee_honoured {T0 : Nat} {hash : List Nat → List Nat} {s s' : State} {e : Env}
    {o : Out} {r : Nat} (h : zh_Inv T0 s r) (hr : r ≤ e.round) (hok : EnvOK e)
    (hs : step hash s e .distribute = .ok (s', o)) (hret : o.ret = [0]) :
    (∀ u st, s'.uts u = some st →
      min (calcV1 st (s'.confirmed u) s'.minConfirmed).1 (s'.confirmed u) ≤ winCountOf s' u) ∧
    (∀ t, s'.status t = true → 1 ≤ t ∧ t ≤ s'.lastTicketId) := by
  obtain ⟨z, z', hz, hsim, _, hsim', hstep⟩ := zh_Inv_distribute h hr hok hs
  obtain ⟨_, _, _, _, _, _, _, h2, _, h1⟩ := v1_distribute_completion hz.toInv hstep hret
  have hwc : ∀ a, winCountOf s' a = winCountOf z' a := hsim'.esim.winCountOf_eq
  have hu := hsim'.uts
  obtain ⟨w', rfl⟩ := hsim'.shape'
  refine ⟨fun u st hst => ?_, h2⟩
  rcases hu u with h0 | ⟨_, st', h0, hc, hd⟩
  · rw [hwc u]
    exact h1 u st (by rw [← hst]; exact h0)
  · rw [hst] at h0
    injection h0 with h0
    subst h0
    rw [calcV1_zero st _ _ hc hd]
    simp

theorem zh_Inv_lp_exact {T0 : Nat} {s : State} {r : Nat} (h : zh_Inv T0 s r) (hd : AllDone s) :
    ∃ L : List Nat, L.Nodup ∧ (∀ a, a ∉ L → s.userTotal a = 0 ∧ s.userClaimed a = 0) ∧
      s.bal (.esdt s.lpTok) 0 = ownSurplus s + s.perTicket * s.nrWinning
        + sumOver (fun a => s.userTotal a - s.userClaimed a) L := by
  obtain ⟨z, hz, hsim, hdz⟩ := zh_Inv_done h hd
  have := g1_lp_exact hz hdz
  obtain ⟨w, rfl⟩ := hsim.shape'
  exact this

theorem zh_Inv_vested_claim_covered {T0 : Nat} {s : State} {r : Nat} (h : zh_Inv T0 s r)
    (hd : AllDone s) (a : Nat) :
    ownSurplus s + s.perTicket * s.nrWinning + (s.userTotal a - s.userClaimed a)
      ≤ s.bal (.esdt s.lpTok) 0 := by
  obtain ⟨z, hz, hsim, hdz⟩ := zh_Inv_done h hd
  obtain ⟨L, haL, _, _, heq⟩ := g1_lp_exact_with hz hdz a
  have hle : z.userTotal a - z.userClaimed a ≤ sumOver (fun x => z.userTotal x - z.userClaimed x) L :=
    rb_le_sumOver (fun x => z.userTotal x - z.userClaimed x) L a haL
  obtain ⟨w, rfl⟩ := hsim.shape'
  have heq' : s.bal (.esdt s.lpTok) 0 = ownSurplus s + s.perTicket * s.nrWinning
      + sumOver (fun x => s.userTotal x - s.userClaimed x) L := heq
  have hle' : s.userTotal a - s.userClaimed a ≤ sumOver (fun x => s.userTotal x - s.userClaimed x) L := hle
  omega

theorem zh_Inv_unsettled_winner_covered {T0 : Nat} {s : State} {r : Nat} (h : zh_Inv T0 s r)
    (hd : AllDone s) (a : Nat) :
    s.perTicket * winCountOf s a ≤ s.bal (.esdt s.lpTok) 0 ∧ winCountOf s a ≤ s.nrWinning := by
  have h1 := zh_Inv_vested_claim_covered h hd a
  obtain ⟨L, hcov, _, hwin, hle, hrg⟩ := zh_Inv_three_counts h hd
  have hw : winCountOf s a ≤ s.nrWinning := by
    by_cases hz : winCountOf s a = 0
    · omega
    · have hc : s.confirmed a ≠ 0 := by have := hle a; omega
      have := rb_le_sumOver (winCountOf s) L a (hcov.supp a hc)
      omega
  have h2 : s.perTicket * winCountOf s a ≤ s.perTicket * s.nrWinning := Nat.mul_le_mul_left _ hw
  exact ⟨by omega, hw⟩

/-- A first claim is accepted only in the claim stage, so all steps are complete and the range has
    exactly `confirmed` tickets: the caller has confirmed nothing, has no vesting record
    (`zh_Inv_norec`), and `zg_claim_stutter` applies. -/
theorem zh_Inv_empty_range_claim {T0 : Nat} {hash : List Nat → List Nat} {s s' : State} {e : Env}
    {o : Out} {r : Nat} {rg : Range} (h : zh_Inv T0 s r) (hcl : s.claimed e.caller = false)
    (hrg : s.range e.caller = some rg) (he : rg.last < rg.first)
    (hs : step hash s e .claim = .ok (s', o)) :
    s' = zg_w s ⟨upd s.range e.caller none, upd s.batch rg.first none, s.blacklist,
                 upd s.claimed e.caller true, s.uts⟩ ∧
    s'.bal = s.bal ∧ s'.nrWinning = s.nrWinning ∧ s'.userTotal = s.userTotal ∧
    s'.userClaimed = s.userClaimed := by
  have hd : AllDone s := by
    rcases LP.Props.C06.claim_gate hash s e _ hs with h1 | ⟨_, h1⟩
    · exact (stage_claim_iff.mp h1).1
    · rw [hcl] at h1; cases h1
  obtain ⟨_, _, _, _, _, hrgs⟩ := zh_Inv_three_counts h hd
  have hc0 : s.confirmed e.caller = 0 := by
    rw [← (hrgs e.caller rg hrg).1]; unfold rangeLen; omega
  have key := zg_claim_stutter (zh_Inv_var h) hs hcl hrg he hc0 ((zh_Inv_norec h).1 _ hcl).1
  exact ⟨key, by rw [key]; rfl, by rw [key]; rfl, by rw [key]; rfl, by rw [key]; rfl⟩

end LP
