import LP.Proofs.Receipts
/-
  One accepted `claimPayment` (prefix `ow_`, the owner), in any state of any variant: what it pays
  the owner in each fungible token (`ow_due`) and that it leaves nothing to withdraw
  (`ow_claimPayment_exact`).
  Whole histories are in `OwnerReceipts`.
-/
namespace LP
open LP.FY LP.Props.C09 LP.Props.C14

def ow_nftPart (s : State) (tok : Token) : Nat :=
  if s.variant.hasNft = true ∧ s.nftCost.tok = tok ∧ s.nftCost.nonce = 0 then s.claimableNft else 0

/-- the launchpad tokens a withdrawal returns to the owner: the vested variants (guarV1, guarV2)
    compute it from the recorded deposit (`claimPaymentOwn`), the six others from the balance
    (`claimPaymentCommon`, tickets.rs:40-71) -/
def ow_surplus (s : State) : Nat :=
  if s.variant.vested = true then s.totalDeposited - s.claimablePayment / s.price * s.perTicket
  else s.bal (.esdt s.lpTok) 0 - s.perTicket * s.nrWinning

theorem ow_nftPart_noNft {s : State} (hn : s.variant.hasNft = false) (tok : Token) :
    ow_nftPart s tok = 0 :=
  if_neg fun hh => by rw [hn] at hh; exact nomatch hh.1

theorem ow_nftPart_congr {s s' : State} (hv : s'.variant = s.variant) (hc : s'.nftCost = s.nftCost)
    (hn : s'.claimableNft = s.claimableNft) (tok : Token) : ow_nftPart s' tok = ow_nftPart s tok := by
  unfold ow_nftPart
  rw [hv, hc, hn]

theorem ow_surplus_plain {s : State} (hv : s.variant.vested = false) :
    ow_surplus s = s.bal (.esdt s.lpTok) 0 - s.perTicket * s.nrWinning :=
  if_neg (by rw [hv]; nofun)

theorem ow_surplus_vested {s : State} (hv : s.variant.vested = true) :
    ow_surplus s = s.totalDeposited - s.claimablePayment / s.price * s.perTicket :=
  if_pos hv

/-- everything a withdrawal in state `s` pays the owner in the fungible token `tok` -/
def ow_due (s : State) (tok : Token) : Nat :=
  (if tok = s.payTok then s.claimablePayment else 0) +
  (if tok = .esdt s.lpTok then ow_surplus s else 0) + ow_nftPart s tok

theorem ow_due_lp {s : State} (hS : cr_Static s) : ow_due s (.esdt s.lpTok) = ow_surplus s := by
  unfold ow_due ow_nftPart
  have h1 : ¬ (Token.esdt s.lpTok = s.payTok) := fun hh => hS.tokNe hh.symm
  have h2 : ¬ (s.variant.hasNft = true ∧ s.nftCost.tok = Token.esdt s.lpTok ∧ s.nftCost.nonce = 0) :=
    fun hh => hS.feeNe hh.2.1
  simp [h1, h2]

theorem ow_due_other {s : State} {tok : Token} (h : tok ≠ .esdt s.lpTok) :
    ow_due s tok = (if tok = s.payTok then s.claimablePayment else 0) + ow_nftPart s tok := by
  unfold ow_due
  simp [h]

/-- with `payTok ≠ lpTok` the proceeds leave another slot of the balance, so the surplus a
    withdrawal sends (`surplusOut`) is `ow_surplus` -/
theorem surplusOut_eq {s : State} (hne : s.payTok ≠ .esdt s.lpTok) : surplusOut s = ow_surplus s := by
  unfold surplusOut ow_surplus
  split
  · rfl
  · unfold Bal.sub
    rw [if_neg (fun hh => hne hh.1.symm)]

/-- the guard `n > 0` on the transfer does not show in the amount received -/
theorem ow_paid_pos (tok t : Token) (a b n : Nat) :
    cr_paid tok a (if n > 0 then [(b, (⟨t, 0, n⟩ : Pay))] else []) =
      if b = a ∧ tok = t then n else 0 := by
  by_cases hn : n > 0
  · rw [if_pos hn, cr_paid_single]
    by_cases h : b = a ∧ tok = t
    · rw [if_pos h, if_pos ⟨h.1, h.2.symm, rfl⟩]
    · rw [if_neg h, if_neg (fun hh => h ⟨hh.1, hh.2.1.symm⟩)]
  · have h0 : n = 0 := by omega
    subst h0
    rw [if_neg hn]
    split <;> rfl

theorem ow_surplus_zero {s s1 : State} (hv : s1.variant.vested = false) (hlp : s1.lpTok = s.lpTok)
    (hpt : s1.perTicket = s.perTicket) (hnw : s1.nrWinning = s.nrWinning)
    (hb : s1.bal (.esdt s.lpTok) 0 = s.perTicket * s.nrWinning) : ow_surplus s1 = 0 := by
  rw [ow_surplus_plain hv, hlp, hpt, hnw, hb]
  exact Nat.sub_self _

theorem ow_paid_two (tok t1 t2 : Token) (a n m : Nat) :
    cr_paid tok a ((if n > 0 then [(a, (⟨t1, 0, n⟩ : Pay))] else [])
        ++ (if m > 0 then [(a, (⟨t2, 0, m⟩ : Pay))] else [])) =
      (if tok = t1 then n else 0) + (if tok = t2 then m else 0) := by
  rw [cr_paid_append, ow_paid_pos, ow_paid_pos]
  simp only [eq_self, true_and]

/-- one accepted `claimPayment`, any variant, no reachability assumed: only that neither the
    payment token nor the NFT-fee token is the launchpad token -/
theorem ow_claimPayment_exact {hash : List Nat → List Nat} {s s' : State} {e : Env} {o : Out}
    (hne : s.payTok ≠ .esdt s.lpTok) (hfee : s.nftCost.tok ≠ .esdt s.lpTok)
    (hs : step hash s e .claimPayment = .ok (s', o)) :
    e.caller = s.owner ∧ s.stage e = .claim ∧
    (∀ tok, cr_paid tok s.owner o.xfers = ow_due s tok) ∧
    s'.claimablePayment = 0 ∧ (s.variant.hasNft = true → s'.claimableNft = 0) ∧
    (s.variant.hasNft = false → s'.claimableNft = s.claimableNft) ∧
    ow_surplus s' = 0 ∧ s'.nrWinning = s.nrWinning ∧
    (s.variant.vested = true → s'.totalDeposited = 0) ∧
    (s.variant.vested = false → s'.totalDeposited = s.totalDeposited ∧
      s.perTicket * s.nrWinning ≤ s.bal (.esdt s.lpTok) 0 ∧
      s'.bal (.esdt s.lpTok) 0 = s.perTicket * s.nrWinning) := by
  have how := step_claimPayment_owner hs
  -- the transfers: `paymentXfers`, all to the caller, who is the owner
  have hpaid : ∀ tok, cr_paid tok s.owner o.xfers = ow_due s tok := fun tok => by
    rw [step_xfers hs]
    show cr_paid tok s.owner (paymentXfers s e) = _
    rw [ow_due, paymentXfers, surplusOut_eq hne, how, cr_paid_append, ow_paid_two, cr_paid_ite,
      cr_paid_single]
    congr 1
    unfold ow_nftPart
    by_cases hn : s.variant.hasNft = true
    · by_cases hc : s.claimableNft > 0
      · simp [hn, hc]
      · simp [hn, Nat.eq_zero_of_not_pos hc]
    · simp [hn]
  obtain ⟨t, hx, rfl, rfl⟩ := step_np_out rfl hs
  obtain ⟨⟨hst, _, hcov, _, _⟩, hts, _⟩ := exec_claimPayment_out hx
  have hts' : t.s = paymentState s := hts
  have hne' : ¬ (Token.esdt s.lpTok = s.payTok) := fun hh => hne hh.symm
  have hfee' : ¬ (Token.esdt s.lpTok = s.nftCost.tok) := fun hh => hfee hh.symm
  have hcov' : s.variant.vested = false → s.perTicket * s.nrWinning ≤ s.bal (.esdt s.lpTok) 0 :=
    fun hv => by
      have := hcov hv
      rwa [show (rbTx s e).s = s from rfl, Bal.sub_off _ _ _ _ (fun hh => hne hh.symm)] at this
  -- the launchpad-token balance: neither the proceeds nor the NFT proceeds leave that slot
  have hbal : (paymentState s).bal (.esdt s.lpTok) 0 = s.bal (.esdt s.lpTok) 0 - ow_surplus s := by
    unfold paymentState fungibleState
    rw [surplusOut_eq hne]
    split <;> simp only [Bal.sub, and_self, if_true, hne', hfee', false_and, if_false]
  have hfld : (paymentState s).claimablePayment = 0 ∧ (paymentState s).nrWinning = s.nrWinning ∧
      (paymentState s).variant = s.variant ∧ (paymentState s).lpTok = s.lpTok ∧
      (paymentState s).perTicket = s.perTicket ∧
      (paymentState s).totalDeposited = (if s.variant.vested = true then 0 else s.totalDeposited) := by
    unfold paymentState fungibleState
    split <;> exact ⟨rfl, rfl, rfl, rfl, rfl, rfl⟩
  obtain ⟨f1, f2, f3, f4, f5, f6⟩ := hfld
  have hnv : s.variant.vested = false →
      (paymentState s).bal (.esdt s.lpTok) 0 = s.perTicket * s.nrWinning := fun hv => by
    have hc := hcov' hv
    have hsur := ow_surplus_plain hv
    rw [hbal]; omega
  rw [hts']
  refine ⟨how, hst, hpaid, f1, fun hn => ?_, fun hn => ?_, ?_, f2, fun hv => by rw [f6, if_pos hv],
    fun hv => ⟨by rw [f6, if_neg (by rw [hv]; nofun)], hcov' hv, hnv hv⟩⟩
  · unfold paymentState; rw [if_pos hn]
  · unfold paymentState fungibleState; rw [if_neg (by rw [hn]; nofun)]
  · cases hv : s.variant.vested
    · exact ow_surplus_zero (by rw [f3]; exact hv) f4 f5 f2 (hnv hv)
    · rw [ow_surplus_vested (f3 ▸ hv), f6, if_pos hv, Nat.zero_sub]

end LP
