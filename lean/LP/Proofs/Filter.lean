import LP.Step
import LP.Proofs.Loop
import LP.Proofs.StepLemmas
import LP.Proofs.EndpointDef
import LP.Proofs.Stage
/-
  Ticket allocation (`tryCreateTickets` / `createMany`) and ticket filtering (`filterBody` /
  `filterTickets`): the batches form a chain of consecutive ranges (`Chain`), filtering compacts
  the chain to the confirmed tickets (`survivors`).  The loop has one invariant, `Mid` ("prefix
  compacted, suffix untouched"; `MidPS` is `Mid` with its witnesses as parameters): one step lemma
  gives progress and preservation, `MidPS.run` total correctness of the uninterrupted run.  The
  endpoint is gates ; load cursor ; outcome of the loop (`filterTickets_def` / `_iff`).  Chunked
  calls (`filterCalls`) complete whatever their budgets (`filterCalls_completes_gen`); that they
  end in the storage of the uninterrupted run is `filterCalls_spec` in LP/Props/C08.lean.
-/
namespace LP

/-! ### allocation histories -/

/-- Σ nᵢ -/
def ticketTotal : List (Nat × Nat) → Nat
  | [] => 0
  | p :: r => p.2 + ticketTotal r

/-- Σ conf aᵢ -/
def confSum (conf : Nat → Nat) : List (Nat × Nat) → Nat
  | [] => 0
  | p :: r => conf p.1 + confSum conf r

/-- Σ (nᵢ − conf aᵢ) -/
def droppedSum (conf : Nat → Nat) : List (Nat × Nat) → Nat
  | [] => 0
  | p :: r => (p.2 - conf p.1) + droppedSum conf r

/-- the allocation list after filtering -/
def survivors (conf : Nat → Nat) (L : List (Nat × Nat)) : List (Nat × Nat) :=
  L.filterMap (fun (a, _) => if conf a = 0 then none else some (a, conf a))

theorem ticketTotal_eq_sum (L : List (Nat × Nat)) : ticketTotal L = (L.map (·.2)).sum := by
  induction L with
  | nil => rfl
  | cons p r ih => simp only [ticketTotal, List.map_cons, List.sum_cons, ih]

theorem confSum_eq_sum (conf : Nat → Nat) (L : List (Nat × Nat)) :
    confSum conf L = (L.map (fun p => conf p.1)).sum := by
  induction L with
  | nil => rfl
  | cons p r ih => simp only [confSum, List.map_cons, List.sum_cons, ih]

theorem droppedSum_eq_sum (conf : Nat → Nat) (L : List (Nat × Nat)) :
    droppedSum conf L = (L.map (fun p => p.2 - conf p.1)).sum := by
  induction L with
  | nil => rfl
  | cons p r ih => simp only [droppedSum, List.map_cons, List.sum_cons, ih]

theorem survivors_nil (conf : Nat → Nat) : survivors conf [] = [] := rfl

theorem survivors_cons_zero (conf : Nat → Nat) (a n : Nat) (r : List (Nat × Nat))
    (h : conf a = 0) : survivors conf ((a, n) :: r) = survivors conf r := by
  simp [survivors, h]

theorem survivors_cons_pos (conf : Nat → Nat) (a n : Nat) (r : List (Nat × Nat))
    (h : conf a ≠ 0) : survivors conf ((a, n) :: r) = (a, conf a) :: survivors conf r := by
  simp [survivors, h]

theorem ticketTotal_survivors (conf : Nat → Nat) (L : List (Nat × Nat)) :
    ticketTotal (survivors conf L) = confSum conf L := by
  induction L with
  | nil => rfl
  | cons p r ih =>
    obtain ⟨a, n⟩ := p
    by_cases h : conf a = 0
    · rw [survivors_cons_zero conf a n r h, ih]; simp only [confSum, h]; omega
    · rw [survivors_cons_pos conf a n r h]; simp only [ticketTotal, confSum, ih]

theorem confSum_add_droppedSum (conf : Nat → Nat) (L : List (Nat × Nat))
    (h : ∀ p ∈ L, conf p.1 ≤ p.2) : confSum conf L + droppedSum conf L = ticketTotal L := by
  induction L with
  | nil => rfl
  | cons p r ih =>
    have h1 := h p (List.mem_cons_self ..)
    have h2 := ih (fun q hq => h q (List.mem_cons_of_mem _ hq))
    simp only [confSum, droppedSum, ticketTotal]
    omega

theorem length_le_ticketTotal (L : List (Nat × Nat)) (h : ∀ p ∈ L, 1 ≤ p.2) : L.length ≤ ticketTotal L := by
  induction L with
  | nil => simp [ticketTotal]
  | cons p r ih =>
    have h1 := h p (List.mem_cons_self ..)
    have h2 := ih (fun q hq => h q (List.mem_cons_of_mem _ hq))
    simp only [List.length_cons, ticketTotal]
    omega

theorem mem_survivors {conf : Nat → Nat} {L : List (Nat × Nat)} {q : Nat × Nat}
    (h : q ∈ survivors conf L) : q.1 ∈ L.map Prod.fst ∧ q.2 = conf q.1 ∧ conf q.1 ≠ 0 := by
  induction L with
  | nil => simp [survivors] at h
  | cons p r ih =>
    obtain ⟨a, n⟩ := p
    by_cases h0 : conf a = 0
    · rw [survivors_cons_zero conf a n r h0] at h
      obtain ⟨h1, h2⟩ := ih h
      exact ⟨List.mem_cons_of_mem _ h1, h2⟩
    · rw [survivors_cons_pos conf a n r h0] at h
      rcases List.mem_cons.mp h with rfl | h
      · exact ⟨List.mem_cons_self .., rfl, h0⟩
      · obtain ⟨h1, h2⟩ := ih h
        exact ⟨List.mem_cons_of_mem _ h1, h2⟩

theorem survivors_nodup (conf : Nat → Nat) (L : List (Nat × Nat))
    (h : (L.map Prod.fst).Nodup) : ((survivors conf L).map Prod.fst).Nodup := by
  induction L with
  | nil => exact List.nodup_nil
  | cons p r ih =>
    obtain ⟨a, n⟩ := p
    simp only [List.map_cons, List.nodup_cons] at h
    by_cases h0 : conf a = 0
    · rw [survivors_cons_zero conf a n r h0]; exact ih h.2
    · rw [survivors_cons_pos conf a n r h0]
      simp only [List.map_cons, List.nodup_cons]
      refine ⟨?_, ih h.2⟩
      intro hmem
      obtain ⟨q, hq, hqa⟩ := List.mem_map.mp hmem
      have := (mem_survivors hq).1
      rw [hqa] at this
      exact h.1 this

theorem survivors_pos (conf : Nat → Nat) (L : List (Nat × Nat)) :
    ∀ q ∈ survivors conf L, 1 ≤ q.2 := by
  intro q hq
  obtain ⟨_, h2, h3⟩ := mem_survivors hq
  omega

theorem rb_ticketTotal_append (A B : List (Nat × Nat)) :
    ticketTotal (A ++ B) = ticketTotal A + ticketTotal B := by
  simp only [ticketTotal_eq_sum, List.map_append, List.sum_append]

theorem rb_droppedSum_append (conf : Nat → Nat) (A B : List (Nat × Nat)) :
    droppedSum conf (A ++ B) = droppedSum conf A + droppedSum conf B := by
  simp only [droppedSum_eq_sum, List.map_append, List.sum_append]

theorem rb_confSum_append (conf : Nat → Nat) (A B : List (Nat × Nat)) :
    confSum conf (A ++ B) = confSum conf A + confSum conf B := by
  simp only [confSum_eq_sum, List.map_append, List.sum_append]

theorem rb_survivors_append (conf : Nat → Nat) (A B : List (Nat × Nat)) :
    survivors conf (A ++ B) = survivors conf A ++ survivors conf B := by
  simp [survivors, List.filterMap_append]

theorem rb_ticketTotal_zero (L : List (Nat × Nat)) (hpos : ∀ p ∈ L, 1 ≤ p.2)
    (h : ticketTotal L = 0) : L = [] := by
  cases L with
  | nil => rfl
  | cons p r =>
    have := hpos p (List.mem_cons_self ..)
    simp only [ticketTotal] at h
    omega

/-! ### the chain predicate -/

/-- the batches of `L` sit at consecutive firsts starting from `first`, and every address of
    `L` owns exactly the corresponding range -/
def Chain : List (Nat × Nat) → Nat → (Nat → Option Range) → (Nat → Option Batch) → Prop
  | [], _, _, _ => True
  | p :: rest, first, range, batch =>
    batch first = some ⟨p.1, p.2⟩ ∧ range p.1 = some ⟨first, first + p.2 - 1⟩ ∧
    Chain rest (first + p.2) range batch

theorem rb_Chain_append {A B : List (Nat × Nat)} {first : Nat} {range : Nat → Option Range}
    {batch : Nat → Option Batch} :
    Chain (A ++ B) first range batch ↔
      Chain A first range batch ∧ Chain B (first + ticketTotal A) range batch := by
  induction A generalizing first with
  | nil => simp [Chain, ticketTotal]
  | cons p A ih =>
    simp only [List.cons_append, Chain, ticketTotal, ih]
    rw [show first + p.2 + ticketTotal A = first + (p.2 + ticketTotal A) by omega]
    constructor
    · rintro ⟨a, b, c, d⟩; exact ⟨⟨a, b, c⟩, d⟩
    · rintro ⟨⟨a, b, c⟩, d⟩; exact ⟨a, b, c, d⟩

/-- `Chain` only reads the ranges of its addresses and the batch slots inside its span -/
theorem rb_Chain_congr {L : List (Nat × Nat)} {first : Nat} {range range' : Nat → Option Range}
    {batch batch' : Nat → Option Batch} (h : Chain L first range batch)
    (hpos : ∀ p ∈ L, 1 ≤ p.2)
    (hr : ∀ a ∈ L.map Prod.fst, range' a = range a)
    (hb : ∀ x, first ≤ x → x < first + ticketTotal L → batch' x = batch x) :
    Chain L first range' batch' := by
  induction L generalizing first with
  | nil => trivial
  | cons p rest ih =>
    obtain ⟨h1, h2, h3⟩ := h
    have hp := hpos p (List.mem_cons_self ..)
    simp only [ticketTotal] at hb
    refine ⟨?_, ?_, ?_⟩
    · rw [hb _ (Nat.le_refl _) (by omega)]; exact h1
    · rw [hr _ (List.mem_cons_self ..)]; exact h2
    · exact ih h3 (fun q hq => hpos q (List.mem_cons_of_mem _ hq))
        (fun a ha => hr a (List.mem_cons_of_mem _ ha))
        (fun x hx hx2 => hb x (by omega) (by omega))

/-! ### one iteration of the filter -/

theorem filterBody_stop (conf : Nat → Nat) (last : Nat) (f : FilSt) (h : f.first = last + 1) :
    filterBody conf last f = .ok (f, false) := by
  unfold filterBody
  rw [if_pos h]

theorem filterBody_step (conf : Nat → Nat) (last : Nat) (f : FilSt) (a n : Nat)
    (hne : f.first ≠ last + 1) (hb : f.batch f.first = some ⟨a, n⟩)
    (hr : f.range a = some ⟨f.first, f.first + n - 1⟩)
    (hc : conf a ≤ n) (hrem : f.removed ≤ f.first) :
    ∃ f1, filterBody conf last f = .ok (f1, true) ∧
      f1.first = f.first + n ∧ f1.removed = f.removed + (n - conf a) ∧
      (∀ x, x ≠ a → f1.range x = f.range x) ∧
      f1.range a = (if conf a = 0 then none
                    else some ⟨f.first - f.removed, f.first - f.removed + conf a - 1⟩) ∧
      (∀ x, x ≠ f.first → x ≠ f.first - f.removed → f1.batch x = f.batch x) ∧
      (conf a ≠ 0 → f1.batch (f.first - f.removed) = some ⟨a, conf a⟩) := by
  unfold filterBody
  rw [if_neg hne]
  simp only [hb, csub, if_pos hc]
  by_cases h0 : conf a = 0
  · rw [if_pos h0]
    refine ⟨_, rfl, rfl, rfl, ?_, ?_, ?_, ?_⟩
    · intro x hx; exact upd_other _ _ _ _ hx
    · simp [h0]
    · intro x hx _; exact upd_other _ _ _ _ hx
    · intro h; exact absurd h0 h
  · rw [if_neg h0]
    by_cases h1 : f.removed > 0 ∨ conf a < n
    · rw [if_pos h1]
      simp only [if_pos hrem]
      refine ⟨_, rfl, rfl, rfl, ?_, ?_, ?_, ?_⟩
      · intro x hx; exact upd_other _ _ _ _ hx
      · simp [h0]
      · intro x hx hx2
        show upd (upd f.batch f.first none) (f.first - f.removed) _ x = _
        rw [upd_other _ _ _ _ hx2, upd_other _ _ _ _ hx]
      · intro _; exact upd_same _ _ _
    · rw [if_neg h1]
      have hr0 : f.removed = 0 := by omega
      have hcn : conf a = n := by omega
      refine ⟨_, rfl, rfl, rfl, ?_, ?_, ?_, ?_⟩
      · intro x _; rfl
      · show f.range a = _
        rw [hr, if_neg h0, hr0, hcn]; rfl
      · intro x _ _; rfl
      · intro _
        show f.batch (f.first - f.removed) = _
        rw [hr0, hcn]; exact hb

/-! ### the filter loop -/

/-- static facts about an allocation list and the confirmations -/
structure AllocOK (conf : Nat → Nat) (L0 : List (Nat × Nat)) : Prop where
  nodup : (L0.map Prod.fst).Nodup
  pos : ∀ p ∈ L0, 1 ≤ p.2
  le : ∀ p ∈ L0, conf p.1 ≤ p.2

/-- the filter loop state `x` in the middle of compacting the allocation list `L0`: the prefix
    `P` has been processed (its survivors are stored from ticket 1), the suffix `S` is untouched
    and starts at `x.first` -/
def Mid (conf : Nat → Nat) (last : Nat) (L0 : List (Nat × Nat)) (x : FilSt) : Prop :=
  ∃ P S, L0 = P ++ S ∧ Chain (survivors conf P) 1 x.range x.batch ∧
    Chain S x.first x.range x.batch ∧
    x.first = 1 + ticketTotal P ∧ x.removed = droppedSum conf P ∧
    x.first + ticketTotal S = last + 1 ∧
    (∀ p ∈ P, conf p.1 = 0 → x.range p.1 = none) ∧
    (∀ a, a ∉ L0.map Prod.fst → x.range a = none)

theorem rb_Mid_start {conf : Nat → Nat} {L0 : List (Nat × Nat)} {range : Nat → Option Range}
    {batch : Nat → Option Batch} (hch : Chain L0 1 range batch)
    (hout : ∀ a, a ∉ L0.map Prod.fst → range a = none) :
    Mid conf (ticketTotal L0) L0 ⟨range, batch, 1, 0⟩ :=
  ⟨[], L0, rfl, trivial, hch, rfl, rfl, (by simp only []; omega), (fun _ h => by cases h), hout⟩

theorem rb_dropped_le {conf : Nat → Nat} {P : List (Nat × Nat)} (h : ∀ p ∈ P, conf p.1 ≤ p.2) :
    droppedSum conf P ≤ ticketTotal P := by
  have := confSum_add_droppedSum conf P h; omega

theorem rb_filterBody_false {conf : Nat → Nat} {last : Nat} {x x' : FilSt}
    (h : filterBody conf last x = .ok (x', false)) : x.first = last + 1 ∧ x' = x := by
  unfold filterBody at h
  split at h
  · rename_i h1
    simp only [Except.ok.injEq, Prod.mk.injEq, and_true] at h
    exact ⟨h1, h.symm⟩
  · cases hb : x.batch x.first with
    | none => simp [hb] at h
    | some b =>
      simp only [hb, csub] at h
      repeat' (split at h)
      all_goals simp at h

/-- `Mid` with the processed prefix `P`, the untouched suffix `S` and the ranges `range0` the loop
    started from as parameters -/
def MidPS (conf : Nat → Nat) (last : Nat) (L0 : List (Nat × Nat)) (range0 : Nat → Option Range)
    (P S : List (Nat × Nat)) (x : FilSt) : Prop :=
  L0 = P ++ S ∧ Chain (survivors conf P) 1 x.range x.batch ∧
    Chain S x.first x.range x.batch ∧
    x.first = 1 + ticketTotal P ∧ x.removed = droppedSum conf P ∧
    x.first + ticketTotal S = last + 1 ∧
    (∀ p ∈ P, conf p.1 = 0 → x.range p.1 = none) ∧
    (∀ a, a ∉ L0.map Prod.fst → x.range a = range0 a)

theorem Mid_iff {conf : Nat → Nat} {last : Nat} {L0 : List (Nat × Nat)} {x : FilSt} :
    Mid conf last L0 x ↔ ∃ P S, MidPS conf last L0 (fun _ => none) P S x := Iff.rfl

theorem MidPS.stop {conf : Nat → Nat} {last : Nat} {L0 : List (Nat × Nat)}
    {range0 : Nat → Option Range} {P : List (Nat × Nat)} {x : FilSt}
    (hm : MidPS conf last L0 range0 P [] x) : filterBody conf last x = .ok (x, false) := by
  obtain ⟨_, _, _, _, _, hlast, _⟩ := hm
  simp only [ticketTotal, Nat.add_zero] at hlast
  exact filterBody_stop conf last x hlast

theorem MidPS.step {conf : Nat → Nat} {last : Nat} {L0 : List (Nat × Nat)}
    {range0 : Nat → Option Range} (hok : AllocOK conf L0) {P S' : List (Nat × Nat)} {a n : Nat}
    {x : FilSt} (hm : MidPS conf last L0 range0 P ((a, n) :: S') x) :
    ∃ x', filterBody conf last x = .ok (x', true) ∧
      MidPS conf last L0 range0 (P ++ [(a, n)]) S' x' ∧ x'.batch 0 = x.batch 0 := by
  obtain ⟨hL, hcP, hcS, hfirst, hrem, hlast, hzero, hout⟩ := hm
  have hmemP : ∀ q ∈ P, q ∈ L0 := fun q hq => by rw [hL]; exact List.mem_append_left _ hq
  have hmemS : ∀ q ∈ (a, n) :: S', q ∈ L0 := fun q hq => by rw [hL]; exact List.mem_append_right _ hq
  have han : (a, n) ∈ L0 := hmemS _ (List.mem_cons_self ..)
  have hn1 : 1 ≤ n := hok.pos _ han
  have hcn : conf a ≤ n := hok.le _ han
  have hdl : droppedSum conf P ≤ ticketTotal P := rb_dropped_le (fun q hq => hok.le q (hmemP q hq))
  have hcd := confSum_add_droppedSum conf P (fun q hq => hok.le q (hmemP q hq))
  obtain ⟨hb, hr, hcS'⟩ := hcS
  simp only [ticketTotal] at hlast
  have hne : x.first ≠ last + 1 := by omega
  obtain ⟨f1, hbody, hf1, hr1, hrange_o, hrange_a, hbatch_o, hbatch_n⟩ :=
    filterBody_step conf last x a n hne hb hr hcn (by omega)
  have hfr : x.first - x.removed = 1 + confSum conf P := by omega
  refine ⟨f1, hbody, ?_, hbatch_o 0 (by omega) (by omega)⟩
  have hnd := hok.nodup
  rw [hL, List.map_append, List.nodup_append] at hnd
  obtain ⟨hndP, hndS, hdisj⟩ := hnd
  simp only [List.map_cons, List.nodup_cons] at hndS
  have haP : a ∉ P.map Prod.fst := fun hh => hdisj a hh a (by simp) rfl
  have haS' : a ∉ S'.map Prod.fst := hndS.1
  refine ⟨by rw [hL]; simp, ?_, ?_, ?_, ?_, ?_, ?_, ?_⟩
  · -- survivors of the processed prefix
    rw [rb_survivors_append, rb_Chain_append]
    constructor
    · apply rb_Chain_congr hcP (survivors_pos conf P)
      · intro y hy
        apply hrange_o
        intro hya; subst hya
        obtain ⟨q, hq, hqa⟩ := List.mem_map.mp hy
        have := (mem_survivors hq).1
        rw [hqa] at this
        exact haP this
      · intro y hy1 hy2
        rw [ticketTotal_survivors] at hy2
        apply hbatch_o <;> omega
    · rw [ticketTotal_survivors]
      by_cases h0 : conf a = 0
      · rw [survivors_cons_zero conf a n [] h0]; trivial
      · rw [survivors_cons_pos conf a n [] h0]
        refine ⟨?_, ?_, trivial⟩
        · rw [← hfr]; exact hbatch_n h0
        · rw [hrange_a, if_neg h0, hfr]
  · rw [hf1]
    apply rb_Chain_congr hcS' (fun q hq => hok.pos q (hmemS q (List.mem_cons_of_mem _ hq)))
    · intro y hy
      apply hrange_o
      intro hya; subst hya; exact haS' hy
    · intro y hy1 hy2
      apply hbatch_o <;> omega
  · rw [hf1, rb_ticketTotal_append]; simp only [ticketTotal]; omega
  · rw [hr1, rb_droppedSum_append]; simp only [droppedSum]; omega
  · rw [hf1]; omega
  · intro q hq hq0
    rcases List.mem_append.mp hq with hq | hq
    · rw [hrange_o _ (by intro hh; apply haP; rw [← hh]; exact List.mem_map_of_mem hq)]
      exact hzero q hq hq0
    · simp only [List.mem_singleton] at hq
      subst hq
      rw [hrange_a, if_pos hq0]
  · intro y hy
    rw [hrange_o y (by intro hh; subst hh; exact hy (List.mem_map_of_mem han))]
    exact hout y hy

theorem rb_filterBody_Mid {conf : Nat → Nat} {last : Nat} {L0 : List (Nat × Nat)}
    (hok : AllocOK conf L0) {x x' : FilSt}
    (h : filterBody conf last x = .ok (x', true)) (hm : Mid conf last L0 x) :
    Mid conf last L0 x' := by
  obtain ⟨P, S, hm⟩ := hm
  have hm : MidPS conf last L0 (fun _ => none) P S x := hm
  cases S with
  | nil => rw [hm.stop] at h; cases h
  | cons p S' =>
    obtain ⟨x1, hb, hm1, _⟩ := hm.step hok
    rw [hb] at h; cases h
    exact ⟨_, _, hm1⟩

/-- total correctness from any mid-state: the loop completes within `|S| + 1` iterations in a
    state where everything is processed -/
theorem MidPS.run {conf : Nat → Nat} {last : Nat} {L0 : List (Nat × Nat)}
    {range0 : Nat → Option Range} (hok : AllocOK conf L0) {P S : List (Nat × Nat)} {x : FilSt}
    (hm : MidPS conf last L0 range0 P S x) {fuel : Nat} (hf : S.length + 1 ≤ fuel) :
    ∃ x', runWhile (filterBody conf last) fuel none x = .ok (x', none, .completed) ∧
      MidPS conf last L0 range0 L0 [] x' ∧ x'.batch 0 = x.batch 0 := by
  obtain ⟨x', hr, P', S', hl, hm', hb0⟩ := runWhile_countdown
    (fun n y => ∃ P S, S.length = n ∧ MidPS conf last L0 range0 P S y ∧ y.batch 0 = x.batch 0)
    (filterBody conf last)
    (fun y ⟨P, S, hl, hy, h0⟩ => by
      obtain rfl := List.eq_nil_of_length_eq_zero hl
      exact ⟨y, hy.stop, P, [], rfl, hy, h0⟩)
    (fun n y ⟨P, S, hl, hy, h0⟩ => by
      cases S with
      | nil => cases hl
      | cons p S' =>
        obtain ⟨y', hb, hy', h1⟩ := hy.step hok
        exact ⟨y', hb, _, S', by simpa using hl, hy', h1.trans h0⟩)
    S.length x fuel ⟨P, S, rfl, hm, rfl⟩ hf
  obtain rfl := List.eq_nil_of_length_eq_zero hl
  have : P' = L0 := by have := hm'.1; simpa using this.symm
  subst this
  exact ⟨x', hr, hm', hb0⟩

theorem rb_Mid_final {conf : Nat → Nat} {last : Nat} {L0 : List (Nat × Nat)}
    (hok : AllocOK conf L0) {x : FilSt} (hm : Mid conf last L0 x) (hstop : x.first = last + 1) :
    Chain (survivors conf L0) 1 x.range x.batch ∧ x.removed = droppedSum conf L0 ∧
    last = ticketTotal L0 ∧
    (∀ p ∈ L0, conf p.1 = 0 → x.range p.1 = none) ∧
    (∀ a, a ∉ L0.map Prod.fst → x.range a = none) := by
  obtain ⟨P, S, hL, hcP, _, hfirst, hrem, hlast, hzero, hout⟩ := hm
  have hS : S = [] := rb_ticketTotal_zero S
    (fun q hq => hok.pos q (by rw [hL]; exact List.mem_append_right _ hq)) (by omega)
  subst hS
  simp only [List.append_nil] at hL
  subst hL
  exact ⟨hcP, hrem, by omega, hzero, hout⟩

theorem rb_Mid_last {conf : Nat → Nat} {last : Nat} {L0 : List (Nat × Nat)} {x : FilSt}
    (hm : Mid conf last L0 x) : last = ticketTotal L0 := by
  obtain ⟨P, S, hL, _, _, hfirst, _, hlast, _, _⟩ := hm
  rw [hL, rb_ticketTotal_append]; omega

theorem filter_spec (conf : Nat → Nat) (L : List (Nat × Nat)) (range : Nat → Option Range)
    (batch : Nat → Option Batch) (last fuel : Nat)
    (hnd : (L.map Prod.fst).Nodup) (hpos : ∀ p ∈ L, 1 ≤ p.2)
    (hconf : ∀ p ∈ L, conf p.1 ≤ p.2) (hch : Chain L 1 range batch)
    (hlast : last = ticketTotal L) (hfuel : L.length + 1 ≤ fuel) :
    ∃ f, runWhile (filterBody conf last) fuel none ⟨range, batch, 1, 0⟩
          = .ok (f, none, .completed) ∧
      f.first = last + 1 ∧ f.removed = droppedSum conf L ∧
      Chain (survivors conf L) 1 f.range f.batch ∧
      (∀ p ∈ L, conf p.1 = 0 → f.range p.1 = none) ∧
      (∀ a, a ∉ L.map Prod.fst → f.range a = range a) ∧
      (∀ x, x < 1 → f.batch x = batch x) := by
  have h0 : MidPS conf last L range [] L ⟨range, batch, 1, 0⟩ :=
    ⟨rfl, trivial, hch, rfl, rfl, (by simp only [hlast]; omega), (fun _ h => by cases h),
      fun _ _ => rfl⟩
  obtain ⟨f, hr, ⟨_, hc, _, hfirst, hrem, hl, hz, hout⟩, hb0⟩ :=
    MidPS.run ⟨hnd, hpos, hconf⟩ h0 hfuel
  simp only [ticketTotal, Nat.add_zero] at hl
  refine ⟨f, hr, hl, hrem, hc, hz, hout, fun x hx => ?_⟩
  obtain rfl : x = 0 := by omega
  exact hb0

/-- the fuel the endpoint passes (`last + 2`) is sufficient -/
theorem filter_spec_endpoint_fuel (L : List (Nat × Nat)) (hpos : ∀ p ∈ L, 1 ≤ p.2) :
    L.length + 1 ≤ ticketTotal L + 2 := by
  have := length_le_ticketTotal L hpos; omega

/-! ### consequences of `Chain`: prefix sums, bounds, coverage, disjointness -/

theorem Chain_split {P S : List (Nat × Nat)} {a n first : Nat} {range : Nat → Option Range}
    {batch : Nat → Option Batch} (h : Chain (P ++ (a, n) :: S) first range batch) :
    range a = some ⟨first + ticketTotal P, first + ticketTotal P + n - 1⟩ ∧
    batch (first + ticketTotal P) = some ⟨a, n⟩ := by
  induction P generalizing first with
  | nil => exact ⟨h.2.1, h.1⟩
  | cons p P ih =>
    obtain ⟨_, _, h3⟩ := h
    have := ih h3
    simp only [ticketTotal]
    rw [show first + (p.2 + ticketTotal P) = first + p.2 + ticketTotal P by omega]
    exact this

theorem Chain_bounds {L : List (Nat × Nat)} {first : Nat} {range : Nat → Option Range}
    {batch : Nat → Option Batch} (h : Chain L first range batch) (hpos : ∀ p ∈ L, 1 ≤ p.2) :
    ∀ p ∈ L, ∃ r, range p.1 = some r ∧ first ≤ r.first ∧ r.first ≤ r.last ∧
      r.last < first + ticketTotal L ∧ r.last + 1 = r.first + p.2 := by
  induction L generalizing first with
  | nil => intro p hp; cases hp
  | cons q rest ih =>
    intro p hp
    obtain ⟨_, h2, h3⟩ := h
    have hq := hpos q (List.mem_cons_self ..)
    rcases List.mem_cons.mp hp with rfl | hp
    · exact ⟨_, h2, Nat.le_refl _, by simp only []; omega, by simp only [ticketTotal]; omega,
        by simp only []; omega⟩
    · obtain ⟨r, hr, h4, h5, h6, h7⟩ :=
        ih h3 (fun x hx => hpos x (List.mem_cons_of_mem _ hx)) p hp
      exact ⟨r, hr, by omega, h5, by simp only [ticketTotal]; omega, h7⟩

theorem Chain_cover {L : List (Nat × Nat)} {first : Nat} {range : Nat → Option Range}
    {batch : Nat → Option Batch} (h : Chain L first range batch) (t : Nat)
    (h1 : first ≤ t) (h2 : t < first + ticketTotal L) :
    ∃ p ∈ L, ∃ r, range p.1 = some r ∧ r.first ≤ t ∧ t ≤ r.last := by
  induction L generalizing first with
  | nil => simp only [ticketTotal] at h2; omega
  | cons q rest ih =>
    obtain ⟨_, hr, h3⟩ := h
    simp only [ticketTotal] at h2
    by_cases ht : t < first + q.2
    · exact ⟨q, List.mem_cons_self .., _, hr, h1, by simp only []; omega⟩
    · obtain ⟨p, hp, r, hr', h4, h5⟩ := ih h3 (by omega) (by omega)
      exact ⟨p, List.mem_cons_of_mem _ hp, r, hr', h4, h5⟩

theorem Chain_disjoint {L : List (Nat × Nat)} {first : Nat} {range : Nat → Option Range}
    {batch : Nat → Option Batch} (h : Chain L first range batch) (hpos : ∀ p ∈ L, 1 ≤ p.2) :
    ∀ p ∈ L, ∀ q ∈ L, p.1 ≠ q.1 → ∀ rp rq, range p.1 = some rp → range q.1 = some rq →
      rp.last < rq.first ∨ rq.last < rp.first := by
  induction L generalizing first with
  | nil => intro p hp; cases hp
  | cons x rest ih =>
    intro p hp q hq hne rp rq hrp hrq
    have hx := hpos x (List.mem_cons_self ..)
    have hpos' : ∀ y ∈ rest, 1 ≤ y.2 := fun y hy => hpos y (List.mem_cons_of_mem _ hy)
    have hb := Chain_bounds h.2.2 hpos'
    have hxr := h.2.1
    rcases List.mem_cons.mp hp with rfl | hp' <;> rcases List.mem_cons.mp hq with rfl | hq'
    · exact absurd rfl hne
    · obtain ⟨r, hr, h4, _⟩ := hb q hq'
      rw [hrq] at hr; rw [hrp] at hxr
      injection hr with hr; injection hxr with hxr
      subst hr; subst hxr
      left; simp only []; omega
    · obtain ⟨r, hr, h4, _⟩ := hb p hp'
      rw [hrp] at hr; rw [hrq] at hxr
      injection hr with hr; injection hxr with hxr
      subst hr; subst hxr
      right; simp only []; omega
    · exact ih h.2.2 hpos' p hp' q hq' hne rp rq hrp hrq

theorem Chain_owner_unique {L : List (Nat × Nat)} {first : Nat} {range : Nat → Option Range}
    {batch : Nat → Option Batch} (h : Chain L first range batch) (hpos : ∀ p ∈ L, 1 ≤ p.2)
    (t : Nat) (p q : Nat × Nat) (hp : p ∈ L) (hq : q ∈ L) (rp rq : Range)
    (hrp : range p.1 = some rp) (hrq : range q.1 = some rq)
    (h1 : rp.first ≤ t ∧ t ≤ rp.last) (h2 : rq.first ≤ t ∧ t ≤ rq.last) : p.1 = q.1 := by
  apply Classical.byContradiction
  intro hne
  rcases Chain_disjoint h hpos p hp q hq hne rp rq hrp hrq with h3 | h3 <;> omega

theorem Chain_partition {L : List (Nat × Nat)} {first : Nat} {range : Nat → Option Range}
    {batch : Nat → Option Batch} (h : Chain L first range batch) (hpos : ∀ p ∈ L, 1 ≤ p.2) :
    (∀ p ∈ L, ∃ r, range p.1 = some r ∧ first ≤ r.first ∧ r.first ≤ r.last ∧
        r.last < first + ticketTotal L ∧ r.last + 1 = r.first + p.2) ∧
    (∀ t, first ≤ t → t < first + ticketTotal L →
        ∃ p ∈ L, ∃ r, range p.1 = some r ∧ r.first ≤ t ∧ t ≤ r.last) ∧
    (∀ p ∈ L, ∀ q ∈ L, p.1 ≠ q.1 → ∀ rp rq, range p.1 = some rp → range q.1 = some rq →
        rp.last < rq.first ∨ rq.last < rp.first) :=
  ⟨Chain_bounds h hpos, fun t h1 h2 => Chain_cover h t h1 h2, Chain_disjoint h hpos⟩

/-! ### allocation -/

def allocState (s : State) (a n : Nat) : State :=
  { s with range := upd s.range a (some ⟨s.lastTicketId + 1, s.lastTicketId + n⟩),
           batch := upd s.batch (s.lastTicketId + 1) (some ⟨a, n⟩),
           lastTicketId := s.lastTicketId + n }

theorem tryCreateTickets_eq (s : State) (a n : Nat) :
    tryCreateTickets s a n =
      if s.range a = none then
        if s.lastTicketId + 1 + n < usizeMax then .ok (allocState s a n)
        else .error (.user "Maximum number of tickets was reached")
      else .error (.user "Duplicate entry for user") := by
  unfold tryCreateTickets req allocState
  simp only [bind, Except.bind, pure, Except.pure]
  cases hr : s.range a with
  | some r => simp
  | none =>
    by_cases h : s.lastTicketId + 1 < usizeMax - n
    · have h' : s.lastTicketId + 1 + n < usizeMax := by omega
      simp [h, h']
    · have h' : ¬ s.lastTicketId + 1 + n < usizeMax := by omega
      simp [h, h']

theorem tryCreateTickets_iff {s s' : State} {a n : Nat} :
    tryCreateTickets s a n = .ok s' ↔
      s.range a = none ∧ s.lastTicketId + 1 + n < usizeMax ∧ s' = allocState s a n := by
  rw [tryCreateTickets_eq]
  by_cases hr : s.range a = none
  · by_cases hb : s.lastTicketId + 1 + n < usizeMax
    · rw [if_pos hr, if_pos hb]
      exact ⟨fun h => ⟨hr, hb, (Except.ok.inj h).symm⟩, fun h => by rw [h.2.2]⟩
    · rw [if_pos hr, if_neg hb]
      exact ⟨fun h => (by cases h), fun h => absurd h.2.1 hb⟩
  · rw [if_neg hr]
    exact ⟨fun h => (by cases h), fun h => absurd h.1 hr⟩

theorem createMany_cons_ok (s : State) (a n : Nat) (rest : List (Nat × Nat))
    (hr : s.range a = none) (hb : s.lastTicketId + 1 + n < usizeMax) :
    createMany ((a, n) :: rest) s = createMany rest (allocState s a n) := by
  simp only [createMany, tryCreateTickets_eq, if_pos hr, if_pos hb]

theorem createMany_cons_inv (s s' : State) (a n : Nat) (rest : List (Nat × Nat))
    (h : createMany ((a, n) :: rest) s = .ok s') :
    s.range a = none ∧ s.lastTicketId + 1 + n < usizeMax ∧
    createMany rest (allocState s a n) = .ok s' := by
  simp only [createMany, tryCreateTickets_eq] at h
  by_cases hr : s.range a = none
  · by_cases hb : s.lastTicketId + 1 + n < usizeMax
    · simp only [if_pos hr, if_pos hb] at h
      exact ⟨hr, hb, h⟩
    · simp only [if_pos hr, if_neg hb] at h
      cases h
  · simp only [if_neg hr] at h
    cases h

theorem createMany_ok :
    ∀ (L : List (Nat × Nat)) (s s' : State), createMany L s = .ok s' →
      (L.map Prod.fst).Nodup ∧ (∀ a ∈ L.map Prod.fst, s.range a = none) ∧
      (L ≠ [] → s.lastTicketId + ticketTotal L + 1 < usizeMax) ∧
      s'.lastTicketId = s.lastTicketId + ticketTotal L ∧
      ((∀ p ∈ L, 1 ≤ p.2) → Chain L (s.lastTicketId + 1) s'.range s'.batch) ∧
      (∀ a, a ∉ L.map Prod.fst → s'.range a = s.range a) ∧
      (∀ x, x ≤ s.lastTicketId → s'.batch x = s.batch x) ∧
      (∃ r b l, s' = { s with range := r, batch := b, lastTicketId := l }) := by
  intro L
  induction L with
  | nil =>
    intro s s' h
    simp only [createMany] at h
    injection h with h
    subst h
    refine ⟨List.nodup_nil, ?_, fun h => absurd rfl h, rfl, fun _ => trivial, fun _ _ => rfl,
      fun _ _ => rfl, ⟨_, _, _, rfl⟩⟩
    intro a ha; cases ha
  | cons p rest ih =>
    obtain ⟨a, n⟩ := p
    intro s s' h
    obtain ⟨hr, hb, h⟩ := createMany_cons_inv s s' a n rest h
    obtain ⟨hnd, hnone, hbound, hlast, hchain, hfr, hfb, r, b, l, heq⟩ := ih _ _ h
    have hl1 : (allocState s a n).lastTicketId = s.lastTicketId + n := rfl
    have hr1 : ∀ x, (allocState s a n).range x
        = if x = a then some ⟨s.lastTicketId + 1, s.lastTicketId + n⟩ else s.range x :=
      fun x => rfl
    have hb1 : ∀ x, (allocState s a n).batch x
        = if x = s.lastTicketId + 1 then some ⟨a, n⟩ else s.batch x := fun x => rfl
    have hnotin : a ∉ rest.map Prod.fst := by
      intro ha
      have := hnone a ha
      rw [hr1, if_pos rfl] at this
      cases this
    refine ⟨?_, ?_, ?_, ?_, ?_, ?_, ?_, ?_⟩
    · simp only [List.map_cons, List.nodup_cons]; exact ⟨hnotin, hnd⟩
    · intro x hx
      simp only [List.map_cons, List.mem_cons] at hx
      rcases hx with rfl | hx
      · exact hr
      · have := hnone x hx
        rw [hr1] at this
        by_cases hxa : x = a
        · subst hxa; exact hr
        · rw [if_neg hxa] at this; exact this
    · intro _
      simp only [ticketTotal]
      by_cases hrest : rest = []
      · subst hrest; simp only [ticketTotal]; omega
      · have := hbound hrest; rw [hl1] at this; omega
    · rw [hlast, hl1]; simp only [ticketTotal]; omega
    · intro hpos
      have hn : 1 ≤ n := hpos (a, n) (List.mem_cons_self ..)
      refine ⟨?_, ?_, ?_⟩
      · rw [hfb _ (by rw [hl1]; omega), hb1, if_pos rfl]
      · rw [hfr a hnotin, hr1, if_pos rfl]
        show some (Range.mk _ _) = some (Range.mk _ _)
        congr 2; omega
      · have := hchain (fun q hq => hpos q (List.mem_cons_of_mem _ hq))
        rw [hl1] at this
        rw [show s.lastTicketId + 1 + (a, n).2 = s.lastTicketId + n + 1 by simp only []; omega]
        exact this
    · intro x hx
      simp only [List.map_cons, List.mem_cons, not_or] at hx
      rw [hfr x hx.2, hr1, if_neg hx.1]
    · intro x hx
      rw [hfb x (by rw [hl1]; omega), hb1, if_neg (by omega)]
    · exact ⟨r, b, l, by rw [heq]; rfl⟩

theorem createMany_succeeds :
    ∀ (L : List (Nat × Nat)) (s : State), (L.map Prod.fst).Nodup →
      (∀ a ∈ L.map Prod.fst, s.range a = none) →
      (L ≠ [] → s.lastTicketId + ticketTotal L + 1 < usizeMax) →
      ∃ s', createMany L s = .ok s' := by
  intro L
  induction L with
  | nil => intro s _ _ _; exact ⟨s, rfl⟩
  | cons p rest ih =>
    obtain ⟨a, n⟩ := p
    intro s hnd hnone hbound
    simp only [List.map_cons, List.nodup_cons] at hnd
    have hb := hbound (by simp)
    simp only [ticketTotal] at hb
    have hr : s.range a = none := hnone a (by simp)
    rw [createMany_cons_ok s a n rest hr (by omega)]
    apply ih _ hnd.2
    · intro x hx
      show upd s.range a _ x = none
      have hxa : x ≠ a := by intro h; subst h; exact hnd.1 hx
      rw [upd_other _ _ _ _ hxa]
      exact hnone x (by simp only [List.map_cons, List.mem_cons]; exact Or.inr hx)
    · intro _
      show s.lastTicketId + n + ticketTotal rest + 1 < usizeMax
      omega

theorem createMany_ok_iff (L : List (Nat × Nat)) (s : State) :
    (∃ s', createMany L s = .ok s') ↔
      (L.map Prod.fst).Nodup ∧ (∀ a ∈ L.map Prod.fst, s.range a = none) ∧
      (L ≠ [] → s.lastTicketId + ticketTotal L + 1 < usizeMax) := by
  constructor
  · rintro ⟨s', h⟩
    obtain ⟨h1, h2, h3, _⟩ := createMany_ok L s s' h
    exact ⟨h1, h2, h3⟩
  · rintro ⟨h1, h2, h3⟩
    exact createMany_succeeds L s h1 h2 h3

/-! ### the endpoint `filterTickets` -/

/-- the loop state the endpoint starts from: fresh, or reloaded from the saved operation -/
def filStOf (s : State) : Option FilSt :=
  match s.op with
  | .none => some ⟨s.range, s.batch, 1, 0⟩
  | .filter f r => some ⟨s.range, s.batch, f, r⟩
  | _ => none

def filterFlags (s : State) (first : Nat) : Flags :=
  if first = 1 then { s.flags with started := true } else s.flags

/-- storage after an interrupted / a completed call that started from `x` and stopped at `f` -/
def filterSaved (s : State) (x f : FilSt) : State :=
  { s with range := f.range, batch := f.batch, flags := filterFlags s x.first,
           op := .filter f.first f.removed }

def filterDone (s : State) (x f : FilSt) : State :=
  { s with range := f.range, batch := f.batch, op := .none,
           nrWinning := if s.nrWinning > s.lastTicketId - f.removed
                        then s.lastTicketId - f.removed else s.nrWinning,
           lastTicketId := s.lastTicketId - f.removed,
           flags := { filterFlags s x.first with filtered := true } }

structure FilterPre (s : State) (e : Env) : Prop where
  notPaused : s.paused = false
  stage : s.stage e = .winnerSelection
  notFiltered : s.flags.filtered = false

/-- what the endpoint returns, as a function of the result of the loop started from `x` -/
def filterOutcome (t : Tx) (e : Env) (x : FilSt) : Res (FilSt × Option Nat × LoopStatus) → Res Tx
  | .error err => .error err
  | .ok (_, _, .outOfFuel) => .error outOfGas
  | .ok (f, b, .interrupted) =>
    .ok { s := filterSaved t.s x f, c := { t.c with budget := b }, o := { t.o with ret := [1] } }
  | .ok (f, b, .completed) =>
    if f.removed ≤ t.s.lastTicketId then
      .ok (Tx.emit { s := filterDone t.s x f, c := { t.c with budget := b },
                     o := { t.o with ret := [0] } }
        ⟨"filterTicketsCompleted", topics e,
          [e.caller, e.round, e.epoch, t.s.lastTicketId - f.removed]⟩)
    else .error (.panic "winner_selection.rs:84 last - nr_removed")

/-- the three gates of `filterTickets` -/
def filGates (s : State) (e : Env) : Res Unit := do
  req (!s.paused) "Contract is paused"
  requireStage s e .winnerSelection "Not in winner selection period"
  req (!s.flags.filtered) "Tickets already filtered"

theorem filGates_ok_iff (s : State) (e : Env) : filGates s e = .ok () ↔ FilterPre s e := by
  unfold filGates
  simp only [requireStage, bind_ok_iff, req_ok_iff, exists_const, Bool.not_eq_true', beq_iff_eq]
  exact ⟨fun ⟨g1, g2, g3⟩ => ⟨g1, g2, g3⟩, fun h => ⟨h.notPaused, h.stage, h.notFiltered⟩⟩

/-- load the saved cursor (first ticket of the batch under inspection, tickets removed so far) or
    start at ticket 1 -/
def filLoad (s : State) : Res (Nat × Nat) :=
  match s.op with
  | .none => pure (1, 0)
  | .filter f r => pure (f, r)
  | _ => .error (.user "Another ongoing operation is in progress")

theorem filLoad_ok_iff (s : State) (f r : Nat) :
    filLoad s = .ok (f, r) ↔ filStOf s = some ⟨s.range, s.batch, f, r⟩ := by
  unfold filLoad filStOf
  cases hop : s.op <;>
    simp only [pure, Except.pure, Except.ok.injEq, Prod.mk.injEq, Option.some.injEq, reduceCtorEq,
      FilSt.mk.injEq, true_and]

theorem filterTickets_def (t : Tx) (e : Env) :
    filterTickets t e =
      (filGates t.s e >>= fun _ => filLoad t.s >>= fun p =>
        filterOutcome t e ⟨t.s.range, t.s.batch, p.1, p.2⟩
          (runWhile (filterBody t.s.confirmed t.s.lastTicketId) (t.s.lastTicketId + 2) t.c.budget
            ⟨t.s.range, t.s.batch, p.1, p.2⟩)) := by
  unfold filterTickets filGates filLoad
  cases hop : t.s.op <;> simp only [hop, bind_assoc, pure_bind]
  any_goals rfl
  all_goals
    refine bind_congr fun _ => bind_congr fun _ => bind_congr fun _ => ?_
    simp only [bind, Except.bind, pure, Except.pure]
    generalize runWhile (filterBody t.s.confirmed t.s.lastTicketId) _ _ _ = R
    rcases R with err | ⟨f, b, _ | _ | _⟩
    · rfl
    · by_cases hle : f.removed ≤ t.s.lastTicketId <;>
        simp [filterOutcome, csub, hle, filterDone, filterFlags]
    · rfl
    · rfl

theorem filStOf_shape {s : State} {x : FilSt} (h : filStOf s = some x) :
    ∃ f r, x = ⟨s.range, s.batch, f, r⟩ := by
  unfold filStOf at h
  cases hop : s.op <;> rw [hop] at h <;> cases h <;> exact ⟨_, _, rfl⟩

theorem filterTickets_iff (t t' : Tx) (e : Env) :
    filterTickets t e = .ok t' ↔
      FilterPre t.s e ∧ ∃ x, filStOf t.s = some x ∧
        filterOutcome t e x (runWhile (filterBody t.s.confirmed t.s.lastTicketId)
          (t.s.lastTicketId + 2) t.c.budget x) = .ok t' := by
  rw [filterTickets_def, gated_ok_iff, filGates_ok_iff]
  constructor
  · rintro ⟨hp, ⟨f, r⟩, hl, h⟩
    exact ⟨hp, _, (filLoad_ok_iff _ f r).mp hl, h⟩
  · rintro ⟨hp, x, hx, h⟩
    obtain ⟨f, r, rfl⟩ := filStOf_shape hx
    exact ⟨hp, (f, r), (filLoad_ok_iff _ f r).mpr hx, h⟩

theorem filterTickets_eq (t : Tx) (e : Env) (x : FilSt) (hp : FilterPre t.s e)
    (hx : filStOf t.s = some x) :
    filterTickets t e =
      filterOutcome t e x (runWhile (filterBody t.s.confirmed t.s.lastTicketId)
        (t.s.lastTicketId + 2) t.c.budget x) := by
  obtain ⟨f, r, rfl⟩ := filStOf_shape hx
  rw [filterTickets_def, (filGates_ok_iff _ _).mpr hp, (filLoad_ok_iff _ f r).mpr hx]
  rfl

theorem filterTickets_interrupted (t : Tx) (e : Env) (x f : FilSt) (b : Option Nat)
    (hp : FilterPre t.s e) (hx : filStOf t.s = some x)
    (hrun : runWhile (filterBody t.s.confirmed t.s.lastTicketId) (t.s.lastTicketId + 2)
              t.c.budget x = .ok (f, b, .interrupted)) :
    filterTickets t e = .ok { s := filterSaved t.s x f, c := { t.c with budget := b },
                              o := { t.o with ret := [1] } } := by
  rw [filterTickets_eq t e x hp hx, hrun]; rfl

theorem filterTickets_error (t : Tx) (e : Env) (x : FilSt) (err : Err)
    (hp : FilterPre t.s e) (hx : filStOf t.s = some x)
    (hrun : runWhile (filterBody t.s.confirmed t.s.lastTicketId) (t.s.lastTicketId + 2)
              t.c.budget x = .error err) :
    filterTickets t e = .error err := by
  rw [filterTickets_eq t e x hp hx, hrun]; rfl

theorem filterTickets_outOfFuel (t : Tx) (e : Env) (x f : FilSt) (b : Option Nat)
    (hp : FilterPre t.s e) (hx : filStOf t.s = some x)
    (hrun : runWhile (filterBody t.s.confirmed t.s.lastTicketId) (t.s.lastTicketId + 2)
              t.c.budget x = .ok (f, b, .outOfFuel)) :
    filterTickets t e = .error outOfGas := by
  rw [filterTickets_eq t e x hp hx, hrun]; rfl

theorem filterTickets_completed (t : Tx) (e : Env) (x f : FilSt) (b : Option Nat)
    (hp : FilterPre t.s e) (hx : filStOf t.s = some x)
    (hrun : runWhile (filterBody t.s.confirmed t.s.lastTicketId) (t.s.lastTicketId + 2)
              t.c.budget x = .ok (f, b, .completed))
    (hle : f.removed ≤ t.s.lastTicketId) :
    filterTickets t e = .ok
      (Tx.emit { s := filterDone t.s x f, c := { t.c with budget := b },
                 o := { t.o with ret := [0] } }
        ⟨"filterTicketsCompleted", topics e,
          [e.caller, e.round, e.epoch, t.s.lastTicketId - f.removed]⟩) := by
  rw [filterTickets_eq t e x hp hx, hrun]; exact if_pos hle

theorem filterTickets_underflow (t : Tx) (e : Env) (x f : FilSt) (b : Option Nat)
    (hp : FilterPre t.s e) (hx : filStOf t.s = some x)
    (hrun : runWhile (filterBody t.s.confirmed t.s.lastTicketId) (t.s.lastTicketId + 2)
              t.c.budget x = .ok (f, b, .completed))
    (hle : ¬ f.removed ≤ t.s.lastTicketId) :
    ∃ err, filterTickets t e = .error err := by
  rw [filterTickets_eq t e x hp hx, hrun]; exact ⟨_, if_neg hle⟩

theorem filterTickets_inv (t t' : Tx) (e : Env) (h : filterTickets t e = .ok t') :
    FilterPre t.s e ∧ ∃ x, filStOf t.s = some x :=
  let ⟨hp, x, hx, _⟩ := (filterTickets_iff t t' e).mp h
  ⟨hp, x, hx⟩

theorem filterTickets_ok_cases (t t' : Tx) (e : Env) (h : filterTickets t e = .ok t') :
    FilterPre t.s e ∧ ∃ x f b, filStOf t.s = some x ∧
      ((runWhile (filterBody t.s.confirmed t.s.lastTicketId) (t.s.lastTicketId + 2) t.c.budget x
          = .ok (f, b, .interrupted) ∧ t'.s = filterSaved t.s x f) ∨
       (runWhile (filterBody t.s.confirmed t.s.lastTicketId) (t.s.lastTicketId + 2) t.c.budget x
          = .ok (f, b, .completed) ∧ f.removed ≤ t.s.lastTicketId ∧ t'.s = filterDone t.s x f)) := by
  obtain ⟨hp, x, hx⟩ := filterTickets_inv t t' e h
  refine ⟨hp, x, ?_⟩
  rw [filterTickets_eq t e x hp hx] at h
  cases hr : runWhile (filterBody t.s.confirmed t.s.lastTicketId) (t.s.lastTicketId + 2)
      t.c.budget x with
  | error err => rw [hr] at h; cases h
  | ok q =>
    obtain ⟨f, b, st⟩ := q
    rw [hr] at h
    cases st with
    | outOfFuel => cases h
    | interrupted => cases h; exact ⟨f, b, hx, Or.inl ⟨rfl, rfl⟩⟩
    | completed =>
      simp only [filterOutcome] at h
      split at h
      · cases h; exact ⟨f, b, hx, Or.inr ⟨rfl, ‹_›, rfl⟩⟩
      · cases h

/-! ### chunked endpoint calls -/

def Tx.withBudget (t : Tx) (k : Option Nat) : Tx := { t with c := { t.c with budget := k } }

/-- successive `filterTickets` transactions, call `i` in environment `eᵢ` with iteration budget
    `kᵢ`; every call must be accepted -/
def filterCalls : List (Env × Nat) → Tx → Res Tx
  | [], t => .ok t
  | (e, k) :: rest, t =>
    match filterTickets (t.withBudget (some k)) e with
    | .error err => .error err
    | .ok t' => filterCalls rest t'

/-- storage after the filter step completed with loop state `f` (`st` = the `started` flag) -/
def filterFinal (s : State) (f : FilSt) (st : Bool) : State :=
  { s with range := f.range, batch := f.batch, op := .none,
           nrWinning := if s.nrWinning > s.lastTicketId - f.removed
                        then s.lastTicketId - f.removed else s.nrWinning,
           lastTicketId := s.lastTicketId - f.removed,
           flags := { s.flags with started := st, filtered := true } }

theorem filterDone_eq_final (s : State) (x f : FilSt) :
    filterDone s x f = filterFinal s f (filterFlags s x.first).started := by
  by_cases h : x.first = 1 <;> simp [filterDone, filterFinal, filterFlags, h]

theorem filterFinal_saved (s : State) (x f1 f : FilSt) (st : Bool) :
    filterFinal (filterSaved s x f1) f st = filterFinal s f st := by
  by_cases h : x.first = 1 <;> simp [filterFinal, filterSaved, filterFlags, h]

theorem filStOf_saved (s : State) (x f : FilSt) : filStOf (filterSaved s x f) = some f := rfl

theorem filterFlags_filtered (s : State) (n : Nat) :
    (filterFlags s n).filtered = s.flags.filtered := by
  by_cases h : n = 1 <;> simp [filterFlags, h]

theorem filterFlags_started (s : State) (n : Nat) (h : n = 1 ∨ s.flags.started = true) :
    (filterFlags s n).started = true := by
  by_cases h1 : n = 1
  · simp [filterFlags, h1]
  · rcases h with h | h
    · exact absurd h h1
    · simp [filterFlags, h1, h]

/-- the storage the filter step starts from, `L` the allocation list -/
structure FilterReady (L : List (Nat × Nat)) (s : State) : Prop where
  nodup : (L.map Prod.fst).Nodup
  pos : ∀ p ∈ L, 1 ≤ p.2
  conf : ∀ p ∈ L, s.confirmed p.1 ≤ p.2
  chain : Chain L 1 s.range s.batch
  last : s.lastTicketId = ticketTotal L
  op : s.op = .none
  notFiltered : s.flags.filtered = false

theorem filter_ready_run {L : List (Nat × Nat)} {s : State} (h : FilterReady L s) :
    ∃ f, runWhile (filterBody s.confirmed s.lastTicketId) (s.lastTicketId + 2) none
            ⟨s.range, s.batch, 1, 0⟩ = .ok (f, none, .completed) ∧
      f.first = s.lastTicketId + 1 ∧ f.removed = droppedSum s.confirmed L ∧
      f.removed ≤ s.lastTicketId ∧ s.lastTicketId - f.removed = confSum s.confirmed L ∧
      Chain (survivors s.confirmed L) 1 f.range f.batch ∧
      (∀ p ∈ L, s.confirmed p.1 = 0 → f.range p.1 = none) ∧
      (∀ a, a ∉ L.map Prod.fst → f.range a = s.range a) := by
  obtain ⟨f, h1, h2, h3, h4, h5, h6, _⟩ :=
    filter_spec s.confirmed L s.range s.batch s.lastTicketId (s.lastTicketId + 2)
      h.nodup h.pos h.conf h.chain h.last
      (by rw [h.last]; exact filter_spec_endpoint_fuel L h.pos)
  have hsum := confSum_add_droppedSum s.confirmed L h.conf
  have hl := h.last
  exact ⟨f, h1, h2, h3, by omega, by omega, h4, h5, h6⟩

theorem filStOf_ready {L : List (Nat × Nat)} {s : State} (h : FilterReady L s) :
    filStOf s = some ⟨s.range, s.batch, 1, 0⟩ := by
  simp only [filStOf, h.op]

theorem filterFinal_nrWinning (s : State) (f : FilSt) (st : Bool) :
    (filterFinal s f st).nrWinning = min s.nrWinning (s.lastTicketId - f.removed) := by
  show (if s.nrWinning > s.lastTicketId - f.removed then s.lastTicketId - f.removed
        else s.nrWinning) = _
  split <;> omega

/-! ### liveness of the chunked endpoint -/

theorem filterSaved_stage (s : State) (x f : FilSt) (e : Env) :
    (filterSaved s x f).stage e = s.stage e := by
  exact stageOf_congr_flags s.cfg (by unfold filterSaved filterFlags; dsimp only; split <;> rfl)
    (by unfold filterSaved filterFlags; dsimp only; split <;> rfl)

/-- `N` is a fuel on which the unbudgeted run from the current loop state completes; a call with
    budget `k` uses up `k + 1` of it, so `N` calls suffice -/
theorem filterCalls_completes_gen :
    ∀ (cs : List (Env × Nat)) (t : Tx) (x f : FilSt) (N : Nat),
      filStOf t.s = some x → t.s.paused = false → t.s.flags.filtered = false →
      (∀ c ∈ cs, t.s.stage c.1 = .winnerSelection) →
      runWhile (filterBody t.s.confirmed t.s.lastTicketId) N none x
        = .ok (f, none, .completed) →
      N ≤ t.s.lastTicketId + 2 → f.removed ≤ t.s.lastTicketId → N ≤ cs.length →
      ∃ cs1 cs2 t', cs = cs1 ++ cs2 ∧ filterCalls cs1 t = .ok t' ∧
        t'.s.flags.filtered = true := by
  intro cs
  induction cs with
  | nil =>
    intro t x f N _ _ _ _ hrun _ _ hN
    have : N = 0 := by simpa using hN
    subst this
    rw [runWhile_zero] at hrun
    injection hrun with hrun
    simp only [Prod.mk.injEq] at hrun
    exact absurd hrun.2.2 (by decide)
  | cons c rest ih =>
    obtain ⟨e, k⟩ := c
    intro t x f N hx hpa hnf hst hrun hN hle hlen
    have hp : FilterPre (t.withBudget (some k)).s e :=
      ⟨hpa, hst (e, k) (List.mem_cons_self ..), hnf⟩
    rcases runWhile_call_progress _ N x f hrun k (t.s.lastTicketId + 2) hN with
      ⟨b', hc⟩ | ⟨s1, hint, _, hk, hrest⟩
    · have hcall := filterTickets_completed (t.withBudget (some k)) e x f b' hp hx hc hle
      obtain ⟨t1, ht1, hf1⟩ : ∃ t1, filterTickets (t.withBudget (some k)) e = .ok t1 ∧
          t1.s.flags.filtered = true := ⟨_, hcall, rfl⟩
      exact ⟨[(e, k)], rest, t1, rfl, by simp only [filterCalls, ht1], hf1⟩
    · have hcall := filterTickets_interrupted (t.withBudget (some k)) e x s1 (some 0) hp hx hint
      obtain ⟨cs1, cs2, t', hsplit, hcalls, hfil⟩ :=
        ih { s := filterSaved t.s x s1, c := { (t.withBudget (some k)).c with budget := some 0 },
             o := { (t.withBudget (some k)).o with ret := [1] } } s1 f (N - (k + 1))
          rfl hpa (by show (filterFlags t.s x.first).filtered = false
                      rw [filterFlags_filtered]; exact hnf)
          (fun c hc => by
            show (filterSaved t.s x s1).stage c.1 = _
            rw [filterSaved_stage]; exact hst c (List.mem_cons_of_mem _ hc))
          hrest (by show N - (k + 1) ≤ t.s.lastTicketId + 2; omega) hle
          (by simp only [List.length_cons] at hlen; omega)
      refine ⟨(e, k) :: cs1, cs2, t', by rw [hsplit]; rfl, ?_, hfil⟩
      simp only [filterCalls, hcall]
      exact hcalls

theorem step_filter (hash : List Nat → List Nat) (s : State) (e : Env)
    (h1 : e.egld = 0) (h2 : e.esdts = []) :
    step hash s e .filter =
      match filterTickets ⟨s, ⟨e.budget, e.seeds, e.script⟩, {}⟩ e with
      | .error err => .error err
      | .ok t => .ok (t.s, t.o) :=
  step_eq_exec rfl h1 h2

end LP
