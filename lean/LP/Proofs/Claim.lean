import LP.Proofs.StepLemmas
import LP.Proofs.Stage
import LP.Proofs.Vesting
import LP.Proofs.Locked
import LP.Proofs.Solvency
/-
  The settlement part of a claim (`clearRange`, `settle`), the sends (`Tx.refund`,
  `sendLaunchpadTokens`; one `Tx.send` is `send_ok_iff`, LP/Proofs/Locked.lean) and the non-vested
  claim path of `exec … .claim`.
-/
namespace LP

theorem clearRange_zero (status : Nat → Bool) (posToId : Nat → Nat) (first : Nat) :
    clearRange status posToId first 0 = (status, posToId, 0) := rfl

theorem clearRange_succ (status : Nat → Bool) (posToId : Nat → Nat) (first k : Nat) :
    clearRange status posToId first (k+1) =
      (upd (clearRange status posToId first k).1 (first + k) false,
       upd (clearRange status posToId first k).2.1 (first + k) 0,
       if (clearRange status posToId first k).1 (first + k)
         then (clearRange status posToId first k).2.2 + 1
         else (clearRange status posToId first k).2.2) := rfl

theorem clearRange_apply (status : Nat → Bool) (posToId : Nat → Nat) (first len t : Nat) :
    (clearRange status posToId first len).1 t =
      (if first ≤ t ∧ t < first + len then false else status t) ∧
    (clearRange status posToId first len).2.1 t =
      (if first ≤ t ∧ t < first + len then 0 else posToId t) := by
  induction len with
  | zero =>
    have : ¬ (first ≤ t ∧ t < first + 0) := by omega
    rw [clearRange_zero, if_neg this, if_neg this]
    exact ⟨rfl, rfl⟩
  | succ k ih =>
    rw [clearRange_succ]
    simp only [upd_apply, ih.1, ih.2]
    by_cases h1 : t = first + k
    · have : first ≤ t ∧ t < first + (k + 1) := by omega
      simp [h1]
    · by_cases h2 : first ≤ t ∧ t < first + k
      · have : first ≤ t ∧ t < first + (k + 1) := by omega
        simp [h1, h2, this]
      · have : ¬ (first ≤ t ∧ t < first + (k + 1)) := by omega
        simp [h1, h2, this]

theorem clearRange_status (status : Nat → Bool) (posToId : Nat → Nat) (first len t : Nat) :
    (clearRange status posToId first len).1 t =
      if first ≤ t ∧ t < first + len then false else status t :=
  (clearRange_apply status posToId first len t).1

theorem clearRange_pos (status : Nat → Bool) (posToId : Nat → Nat) (first len t : Nat) :
    (clearRange status posToId first len).2.1 t =
      if first ≤ t ∧ t < first + len then 0 else posToId t :=
  (clearRange_apply status posToId first len t).2

theorem clearRange_count (status : Nat → Bool) (posToId : Nat → Nat) (first len : Nat) :
    (clearRange status posToId first len).2.2 = countWinning status first len := by
  induction len with
  | zero => rfl
  | succ k ih =>
    rw [clearRange_succ]
    simp only [countWinning, ih, clearRange_status]
    have : ¬ (first ≤ first + k ∧ first + k < first + k) := by omega
    simp only [this, if_false]
    split <;> rfl

theorem countWinning_eq_length (status : Nat → Bool) (first len : Nat) :
    countWinning status first len = (winningIds status first len).length := by
  induction len with
  | zero => rfl
  | succ k ih =>
    simp only [countWinning, winningIds, List.length_append, ih]
    split <;> rfl

theorem mem_winningIds (status : Nat → Bool) (first len t : Nat) :
    t ∈ winningIds status first len ↔ first ≤ t ∧ t < first + len ∧ status t = true := by
  induction len with
  | zero =>
    simp only [winningIds, List.not_mem_nil, false_iff]
    omega
  | succ k ih =>
    simp only [winningIds, List.mem_append, ih]
    cases hs : status (first + k)
    · simp only [Bool.false_eq_true, if_false, List.not_mem_nil, or_false]
      constructor
      · rintro ⟨a, b, c⟩
        exact ⟨a, by omega, c⟩
      · rintro ⟨a, b, c⟩
        have : t ≠ first + k := by
          intro h; subst h; rw [hs] at c; cases c
        exact ⟨a, by omega, c⟩
    · simp only [if_true, List.mem_singleton]
      constructor
      · rintro (⟨a, b, c⟩ | rfl)
        · exact ⟨a, by omega, c⟩
        · exact ⟨by omega, by omega, hs⟩
      · rintro ⟨a, b, c⟩
        by_cases h : t = first + k
        · exact Or.inr h
        · exact Or.inl ⟨a, by omega, c⟩

def settledState (s : State) (a : Nat) (r : Range) : State :=
  { s with status := (clearRange s.status s.posToId r.first (rangeLen r)).1,
           posToId := (clearRange s.status s.posToId r.first (rangeLen r)).2.1,
           confirmed := upd s.confirmed a 0,
           range := upd s.range a none,
           batch := upd s.batch r.first none,
           nrWinning := s.nrWinning - countWinning s.status r.first (rangeLen r),
           claimed := upd s.claimed a true }

theorem csub_ok_iff (a b : Nat) (site : String) (c : Nat) :
    csub a b site = .ok c ↔ b ≤ a ∧ c = a - b := by
  unfold csub
  by_cases h : b ≤ a
  · simp only [h, if_true, Except.ok.injEq, true_and]
    exact eq_comm
  · simp only [h, if_false, false_and]
    exact ⟨fun h => (by cases h), False.elim⟩

/-- the arithmetic part of `settle`, on projections; `settle_eq` holds by `rfl` because this is the
    `do` block of `settle` as elaborated -/
def settleCore (s : State) (a : Nat) (r : Range) : Res (State × Nat × Nat) :=
  let cr := clearRange s.status s.posToId r.first (rangeLen r)
  let jp : Nat → Res (State × Nat × Nat) := fun nrWinning =>
    csub (s.confirmed a) cr.2.2 "user_interactions.rs:98 confirmed - redeemable" >>= fun refund =>
    pure ({ s with status := cr.1, posToId := cr.2.1,
                   confirmed := upd s.confirmed a 0,
                   range := upd s.range a none,
                   batch := upd s.batch r.first none,
                   nrWinning := nrWinning,
                   claimed := upd s.claimed a true }, cr.2.2, refund)
  if cr.2.2 > 0 then
    csub s.nrWinning cr.2.2 "user_interactions.rs:93 nr_winning -= redeemable" >>= jp
  else jp s.nrWinning

theorem settle_eq (s : State) (e : Env) :
    settle s e =
      (requireStage s e .claim "Not in claim period" >>= fun _ =>
       req (!s.claimed e.caller) "Already claimed" >>= fun _ =>
       match s.range e.caller with
       | none => .error (.user "You have no tickets")
       | some r => settleCore s e.caller r) := by
  unfold settle settleCore
  rfl

theorem settleCore_ok_iff (s : State) (a : Nat) (r : Range) (s' : State) (redeem refund : Nat) :
    settleCore s a r = .ok (s', redeem, refund) ↔
        redeem = countWinning s.status r.first (rangeLen r) ∧
        redeem ≤ s.nrWinning ∧ redeem ≤ s.confirmed a ∧
        refund = s.confirmed a - redeem ∧
        s' = settledState s a r := by
  unfold settleCore settledState
  simp only [clearRange_count]
  generalize countWinning s.status r.first (rangeLen r) = c
  by_cases hc : c > 0
  · simp only [hc, if_true, bind_ok_iff, pure_ok_iff, csub_ok_iff, Prod.mk.injEq]
    constructor
    · rintro ⟨nw, ⟨hnw, hnweq⟩, rf, ⟨hle, hrf⟩, hs', hrd, hrf'⟩
      subst hrd hrf' hnweq
      exact ⟨rfl, hnw, hle, hrf, hs'.symm⟩
    · rintro ⟨hrd, hnw, hle, hrf, hs'⟩
      subst hrd
      exact ⟨_, ⟨hnw, rfl⟩, refund, ⟨hle, hrf⟩, hs'.symm, rfl, rfl⟩
  · have h0 : c = 0 := by omega
    subst h0
    simp only [Nat.lt_irrefl, if_false, bind_ok_iff, pure_ok_iff, csub_ok_iff, Prod.mk.injEq,
      Nat.sub_zero, Nat.zero_le, true_and]
    constructor
    · rintro ⟨rf, hrf, hs', hrd, hrf'⟩
      subst hrd hrf'
      exact ⟨rfl, Nat.zero_le _, Nat.zero_le _, hrf, hs'.symm⟩
    · rintro ⟨hrd, hnw, hle, hrf, hs'⟩
      subst hrd
      exact ⟨refund, hrf, hs'.symm, rfl, rfl⟩

theorem settle_ok_iff (s : State) (e : Env) (s' : State) (redeem refund : Nat) :
    settle s e = .ok (s', redeem, refund) ↔
      s.stage e = .claim ∧ s.claimed e.caller = false ∧
      ∃ r, s.range e.caller = some r ∧
        redeem = countWinning s.status r.first (rangeLen r) ∧
        redeem ≤ s.nrWinning ∧ redeem ≤ s.confirmed e.caller ∧
        refund = s.confirmed e.caller - redeem ∧
        s' = settledState s e.caller r := by
  rw [settle_eq]
  simp only [bind_ok_iff, req_ok_iff, requireStage, exists_const, beq_iff_eq,
    Bool.not_eq_true']
  constructor
  · rintro ⟨hst, hcl, h⟩
    refine ⟨hst, hcl, ?_⟩
    split at h
    · cases h
    · rename_i r hr
      exact ⟨r, hr, (settleCore_ok_iff s e.caller r s' redeem refund).mp h⟩
  · rintro ⟨hst, hcl, r, hr, h⟩
    refine ⟨hst, hcl, ?_⟩
    rw [hr]
    exact (settleCore_ok_iff s e.caller r s' redeem refund).mpr h

theorem send_error (t : Tx) (to : Nat) (p : Pay) (h : t.s.bal p.tok p.nonce < p.amount) :
    t.send to p = .error (.vm "insufficient funds") := by
  unfold Tx.send
  simp [h]

def refundEvent (s : State) (e : Env) (n : Nat) : Ev :=
  ⟨"refundTicketPayment", [e.caller, e.round, e.epoch],
    [e.caller, e.round, e.epoch, n, s.payTok.code, 0, s.price * n]⟩

def refundResult (t : Tx) (e : Env) (addr n : Nat) : Tx :=
  if n = 0 then t else
    { t with s := { t.s with bal := t.s.bal.sub t.s.payTok 0 (t.s.price * n) },
             o := { t.o with xfers := t.o.xfers ++ [(addr, ⟨t.s.payTok, 0, t.s.price * n⟩)],
                             events := t.o.events ++ [refundEvent t.s e n] } }

theorem refund_ok_iff (t : Tx) (e : Env) (addr n : Nat) (t' : Tx) :
    t.refund e addr n = .ok t' ↔
      t.s.price * n ≤ t.s.bal t.s.payTok 0 ∧ t' = refundResult t e addr n := by
  unfold Tx.refund refundResult
  by_cases h : n = 0
  · subst h
    simp only [if_true, Except.ok.injEq, Nat.mul_zero, Nat.zero_le, true_and]
    exact eq_comm
  · simp only [h, if_false, bind_ok_iff, pure_ok_iff, send_ok_iff]
    constructor
    · rintro ⟨t1, ⟨hle, rfl⟩, rfl⟩
      exact ⟨hle, rfl⟩
    · rintro ⟨hle, rfl⟩
      exact ⟨_, ⟨hle, rfl⟩, rfl⟩

theorem refundResult_state (t : Tx) (e : Env) (addr n : Nat) :
    (refundResult t e addr n).s = { t.s with bal := t.s.bal.sub t.s.payTok 0 (t.s.price * n) } := by
  unfold refundResult
  split
  · rename_i h; subst h; simp [Bal.sub_zero]
  · rfl

theorem refundResult_variant (t : Tx) (e : Env) (addr n : Nat) :
    (refundResult t e addr n).s.variant = t.s.variant := by
  rw [refundResult_state]

theorem refundResult_bal (t : Tx) (e : Env) (addr n : Nat) :
    (refundResult t e addr n).s.bal = t.s.bal.sub t.s.payTok 0 (t.s.price * n) := by
  rw [refundResult_state]

/-- without a lock: one direct transfer (none for `n = 0`) -/
def sendTokensResult (t : Tx) (addr n : Nat) : Tx :=
  if n = 0 then t else sendResult t addr ⟨.esdt t.s.lpTok, 0, n * t.s.perTicket⟩

theorem sendLaunchpadTokens_nolock_ok_iff (t : Tx) (e : Env) (addr n : Nat) (t' : Tx)
    (hl : t.s.variant.hasLock = false) :
    t.sendLaunchpadTokens e addr n = .ok t' ↔
      n * t.s.perTicket ≤ t.s.bal (.esdt t.s.lpTok) 0 ∧ t' = sendTokensResult t addr n := by
  unfold Tx.sendLaunchpadTokens sendTokensResult
  by_cases h : n = 0
  · subst h
    simp only [if_true, Except.ok.injEq, Nat.zero_mul, Nat.zero_le, true_and]
    exact eq_comm
  · simp only [h, if_false, hl, Bool.false_eq_true, send_ok_iff]

theorem sendTokensResult_state (t : Tx) (addr n : Nat) :
    (sendTokensResult t addr n).s =
      { t.s with bal := t.s.bal.sub (.esdt t.s.lpTok) 0 (n * t.s.perTicket) } := by
  unfold sendTokensResult sendResult
  split
  · rename_i h; subst h; simp [Bal.sub_zero]
  · rfl

def sendTokensLockedResult (t : Tx) (e : Env) (addr n : Nat) : Tx :=
  if n = 0 then t else sendLockedResult t e addr (n * t.s.perTicket)

theorem sendLaunchpadTokens_lock_ok_iff (t : Tx) (e : Env) (addr n : Nat) (t' : Tx)
    (hl : t.s.variant.hasLock = true) (hp : t.s.lockPct ≤ 10000) :
    t.sendLaunchpadTokens e addr n = .ok t' ↔
      n * t.s.perTicket ≤ t.s.bal (.esdt t.s.lpTok) 0 ∧ t' = sendTokensLockedResult t e addr n := by
  unfold Tx.sendLaunchpadTokens sendTokensLockedResult
  by_cases h : n = 0
  · subst h
    simp only [if_true, Except.ok.injEq, Nat.zero_mul, Nat.zero_le, true_and]
    exact eq_comm
  · simp only [h, if_false, hl, if_true]
    by_cases hb : n * t.s.perTicket ≤ t.s.bal (.esdt t.s.lpTok) 0
    · rw [sendLocked_ok t e addr _ (fun _ => hp) hb]
      simp only [Except.ok.injEq, hb, true_and]
      exact eq_comm
    · rw [sendLocked_err t e addr _ (fun _ => hp) (by omega)]
      simp only [hb, false_and]
      exact ⟨fun h => (by cases h), False.elim⟩

theorem sendTokensLockedResult_state (t : Tx) (e : Env) (addr n : Nat) :
    (sendTokensLockedResult t e addr n).s =
      { t.s with bal := t.s.bal.sub (.esdt t.s.lpTok) 0 (n * t.s.perTicket) } := by
  unfold sendTokensLockedResult sendLockedResult
  split
  · rename_i h; subst h; simp [Bal.sub_zero]
  · rfl

/-- the `claim` endpoint of the variants without vesting -/
def claimBase (t : Tx) (e : Env) : Res Tx :=
  settle t.s e >>= fun x =>
  (t.setS x.1).refund e e.caller x.2.2 >>= fun t1 =>
  t1.sendLaunchpadTokens e e.caller x.2.1 >>= fun t2 =>
  if t2.s.variant.hasNft then claimNft t2 e else pure t2

theorem exec_claim_nonvested (hash : List Nat → List Nat) (t : Tx) (e : Env)
    (hv : t.s.variant.vested = false) : exec hash t e .claim = claimBase t e := by
  unfold exec claimBase
  simp only [hv, Bool.false_eq_true, if_false]

theorem exec_claim_vested (hash : List Nat → List Nat) (t : Tx) (e : Env)
    (hv : t.s.variant.vested = true) : exec hash t e .claim = claimVested t e := by
  unfold exec
  simp only [hv, if_true]

def winCount (s : State) (a : Nat) : Nat :=
  match s.range a with
  | none => 0
  | some r => countWinning s.status r.first (rangeLen r)

/-- the ledger's count (`winCountOf`, LP/Proofs/Solvency.lean) is the claim's count -/
theorem winCountOf_eq (s : State) (a : Nat) : winCountOf s a = winCount s a := rfl

theorem winCount_eq_view (s : State) (a : Nat) (h : s.flags.selected = true) :
    winCount s a = (viewWinningIds s a).length := by
  unfold winCount viewWinningIds
  simp only [h, Bool.not_true, Bool.false_eq_true, if_false]
  cases s.range a with
  | none => rfl
  | some r => exact countWinning_eq_length _ _ _

/-- after the settle and refund parts of a claim -/
def claimMid (t : Tx) (e : Env) (r : Range) : Tx :=
  refundResult (t.setS (settledState t.s e.caller r)) e e.caller
    (t.s.confirmed e.caller - countWinning t.s.status r.first (rangeLen r))

/-- what `settle` and the refund demand of a caller whose ticket range is `r` -/
def ClaimPre (t : Tx) (e : Env) (r : Range) : Prop :=
  t.s.stage e = .claim ∧ t.s.claimed e.caller = false ∧ t.s.range e.caller = some r ∧
  countWinning t.s.status r.first (rangeLen r) ≤ t.s.nrWinning ∧
  countWinning t.s.status r.first (rangeLen r) ≤ t.s.confirmed e.caller ∧
  t.s.price * (t.s.confirmed e.caller - countWinning t.s.status r.first (rangeLen r))
    ≤ t.s.bal t.s.payTok 0

theorem claimBase_ok_iff (t : Tx) (e : Env) (t' : Tx) :
    claimBase t e = .ok t' ↔
      ∃ r, ClaimPre t e r ∧
        ∃ t2, (claimMid t e r).sendLaunchpadTokens e e.caller
                (countWinning t.s.status r.first (rangeLen r)) = .ok t2 ∧
          (if t2.s.variant.hasNft then claimNft t2 e else pure t2) = .ok t' := by
  unfold claimBase ClaimPre claimMid
  simp only [bind_ok_iff, Prod.exists, settle_ok_iff, refund_ok_iff]
  constructor
  · rintro ⟨s1, rd, rf, ⟨hst, hcl, r, hr, hrd, hnw, hle, hrf, hs1⟩, t1, ⟨hb, ht1⟩, t2, h2, h3⟩
    subst hrd hrf hs1 ht1
    exact ⟨r, ⟨hst, hcl, hr, hnw, hle, hb⟩, t2, h2, h3⟩
  · rintro ⟨r, ⟨hst, hcl, hr, hnw, hle, hb⟩, t2, h2, h3⟩
    exact ⟨_, _, _, ⟨hst, hcl, r, hr, rfl, hnw, hle, rfl, rfl⟩, _, ⟨hb, rfl⟩, t2, h2, h3⟩

theorem claimMid_state (t : Tx) (e : Env) (r : Range) :
    (claimMid t e r).s =
      { settledState t.s e.caller r with
        bal := t.s.bal.sub t.s.payTok 0
          (t.s.price * (t.s.confirmed e.caller - countWinning t.s.status r.first (rangeLen r))) } := by
  unfold claimMid
  rw [refundResult_state]
  rfl

/-
  The claim path field by field.  Output: `refundResult`, `claimMid` and `sendTokensResult` only
  append to `xfers` and `events`; each `_o` lemma gives the whole `.o` of one of them, so that the
  other fields of `Out` need no case analysis.  State: the delivery and the whole non-vested claim
  without NFT hook in closed form (`sendLaunchpadTokens_state`, `claimBase_state`); the vested
  claim is in `LP.Proofs.ClaimVested`.
-/

theorem Out.eq_iff (o o' : Out) :
    o = o' ↔ o.xfers = o'.xfers ∧ o.locks = o'.locks ∧ o.sfts = o'.sfts ∧ o.ret = o'.ret ∧
      o.draws = o'.draws ∧ o.events = o'.events := by
  constructor
  · rintro rfl
    exact ⟨rfl, rfl, rfl, rfl, rfl, rfl⟩
  · obtain ⟨_, _, _, _, _, _⟩ := o
    obtain ⟨_, _, _, _, _, _⟩ := o'
    rintro ⟨rfl, rfl, rfl, rfl, rfl, rfl⟩
    rfl

theorem refundResult_o (t : Tx) (e : Env) (addr n : Nat) :
    (refundResult t e addr n).o =
      { t.o with
        xfers := t.o.xfers ++ (if n = 0 then [] else [(addr, ⟨t.s.payTok, 0, t.s.price * n⟩)]),
        events := t.o.events ++ (if n = 0 then [] else [refundEvent t.s e n]) } := by
  unfold refundResult
  split
  · simp only [List.append_nil]
  · rfl

theorem sendTokensResult_o (t : Tx) (addr n : Nat) :
    (sendTokensResult t addr n).o =
      { t.o with xfers := t.o.xfers ++
          (if n = 0 then [] else [(addr, ⟨.esdt t.s.lpTok, 0, n * t.s.perTicket⟩)]) } := by
  unfold sendTokensResult sendResult
  split
  · simp only [List.append_nil]
  · rfl

/-- settling writes no output; the refund adds its transfer and its event -/
theorem claimMid_o (t : Tx) (e : Env) (r : Range) :
    (claimMid t e r).o =
      { t.o with
        xfers := t.o.xfers ++
          (if t.s.confirmed e.caller - countWinning t.s.status r.first (rangeLen r) = 0 then []
           else [(e.caller, ⟨t.s.payTok, 0,
              t.s.price * (t.s.confirmed e.caller - countWinning t.s.status r.first (rangeLen r))⟩)]),
        events := t.o.events ++
          (if t.s.confirmed e.caller - countWinning t.s.status r.first (rangeLen r) = 0 then []
           else [refundEvent t.s e
              (t.s.confirmed e.caller - countWinning t.s.status r.first (rangeLen r))]) } := by
  unfold claimMid
  rw [refundResult_o]
  rfl

/-- without the NFT hook the non-vested claim is settle, refund and the token delivery; `B r` and
    `T r` are the condition and the result of the delivery, which keeps the variant -/
theorem claimBase_noNft_ok_iff {t : Tx} {e : Env} {B : Range → Prop} {T : Range → Tx}
    (hn : t.s.variant.hasNft = false)
    (hsend : ∀ r t2, (claimMid t e r).sendLaunchpadTokens e e.caller
        (countWinning t.s.status r.first (rangeLen r)) = .ok t2 ↔ B r ∧ t2 = T r)
    (hT : ∀ r, (T r).s.variant = t.s.variant) (t' : Tx) :
    claimBase t e = .ok t' ↔ ∃ r, ClaimPre t e r ∧ B r ∧ t' = T r := by
  rw [claimBase_ok_iff]
  refine exists_congr fun r => and_congr_right fun _ => ?_
  simp only [hsend]
  constructor
  · rintro ⟨_, ⟨hb, rfl⟩, h⟩
    rw [hT, hn, if_neg Bool.false_ne_true, pure_ok_iff] at h
    exact ⟨hb, h.symm⟩
  · rintro ⟨hb, rfl⟩
    exact ⟨_, ⟨hb, rfl⟩, by rw [hT, hn, if_neg Bool.false_ne_true]; rfl⟩

/-- … with one direct transfer if the variant has no lock -/
theorem claimBase_plain_ok_iff (t : Tx) (e : Env) (t' : Tx)
    (hl : t.s.variant.hasLock = false) (hn : t.s.variant.hasNft = false) :
    claimBase t e = .ok t' ↔
      ∃ r, ClaimPre t e r ∧
        countWinning t.s.status r.first (rangeLen r) * t.s.perTicket ≤
          (t.s.bal.sub t.s.payTok 0 (t.s.price *
            (t.s.confirmed e.caller - countWinning t.s.status r.first (rangeLen r)))) (.esdt t.s.lpTok) 0 ∧
        t' = sendTokensResult (claimMid t e r) e.caller
              (countWinning t.s.status r.first (rangeLen r)) := by
  refine claimBase_noNft_ok_iff hn (fun r t2 => ?_) (fun r => ?_) t'
  · have hl' : (claimMid t e r).s.variant.hasLock = false := by rw [claimMid_state]; exact hl
    rw [sendLaunchpadTokens_nolock_ok_iff _ e _ _ _ hl', claimMid_state]
    rfl
  · rw [sendTokensResult_state, claimMid_state]
    rfl

/-- … through `sendLocked` if it has one -/
theorem claimBase_lock_ok_iff (t : Tx) (e : Env) (t' : Tx)
    (hl : t.s.variant.hasLock = true) (hn : t.s.variant.hasNft = false)
    (hp : t.s.lockPct ≤ 10000) :
    claimBase t e = .ok t' ↔
      ∃ r, ClaimPre t e r ∧
        countWinning t.s.status r.first (rangeLen r) * t.s.perTicket ≤
          (t.s.bal.sub t.s.payTok 0 (t.s.price *
            (t.s.confirmed e.caller - countWinning t.s.status r.first (rangeLen r)))) (.esdt t.s.lpTok) 0 ∧
        t' = sendTokensLockedResult (claimMid t e r) e e.caller
              (countWinning t.s.status r.first (rangeLen r)) := by
  refine claimBase_noNft_ok_iff hn (fun r t2 => ?_) (fun r => ?_) t'
  · have hl' : (claimMid t e r).s.variant.hasLock = true := by rw [claimMid_state]; exact hl
    have hp' : (claimMid t e r).s.lockPct ≤ 10000 := by rw [claimMid_state]; exact hp
    rw [sendLaunchpadTokens_lock_ok_iff _ e _ _ _ hl' hp', claimMid_state]
    rfl
  · rw [sendTokensLockedResult_state, claimMid_state]
    rfl

/-- the delivery on the state: with the lock percentage in range (or no lock) exactly
    `n × perTicket` launchpad tokens leave, whichever way they are sent -/
theorem sendLaunchpadTokens_state {t t' : Tx} {e : Env} {addr n : Nat}
    (hp : t.s.variant.hasLock = true → t.s.lockPct ≤ 10000)
    (h : t.sendLaunchpadTokens e addr n = .ok t') :
    n * t.s.perTicket ≤ t.s.bal (.esdt t.s.lpTok) 0 ∧
    t'.s = { t.s with bal := t.s.bal.sub (.esdt t.s.lpTok) 0 (n * t.s.perTicket) } := by
  cases hl : t.s.variant.hasLock with
  | false =>
    obtain ⟨hle, rfl⟩ := (sendLaunchpadTokens_nolock_ok_iff t e addr n t' hl).mp h
    exact ⟨hle, sendTokensResult_state t addr n⟩
  | true =>
    obtain ⟨hle, rfl⟩ := (sendLaunchpadTokens_lock_ok_iff t e addr n t' hl (hp hl)).mp h
    exact ⟨hle, sendTokensLockedResult_state t e addr n⟩

/-- **the state side of an accepted non-vested claim without the NFT hook** (base, locked,
    migration, lockedGuar), the lock percentage being at most 10000 where there is a lock: the
    settled state with the refund and the winners' launchpad tokens deducted.  The families read
    their `claim` off this. -/
theorem claimBase_state {t t' : Tx} {e : Env} (hn : t.s.variant.hasNft = false)
    (hp : t.s.variant.hasLock = true → t.s.lockPct ≤ 10000) (h : claimBase t e = .ok t') :
    ∃ r, ClaimPre t e r ∧
      countWinning t.s.status r.first (rangeLen r) * t.s.perTicket ≤
        (t.s.bal.sub t.s.payTok 0 (t.s.price *
          (t.s.confirmed e.caller - countWinning t.s.status r.first (rangeLen r)))) (.esdt t.s.lpTok) 0 ∧
      t'.s = { settledState t.s e.caller r with
        bal := (t.s.bal.sub t.s.payTok 0 (t.s.price *
            (t.s.confirmed e.caller - countWinning t.s.status r.first (rangeLen r)))).sub
          (.esdt t.s.lpTok) 0 (countWinning t.s.status r.first (rangeLen r) * t.s.perTicket) } := by
  obtain ⟨r, hpre, t2, h2, h3⟩ := (claimBase_ok_iff t e t').mp h
  have hm := claimMid_state t e r
  obtain ⟨hle, hs2⟩ := sendLaunchpadTokens_state (by rw [hm]; exact hp) h2
  have hv2 : t2.s.variant = t.s.variant := by rw [hs2, hm]; rfl
  rw [hv2, hn, if_neg Bool.false_ne_true, pure_ok_iff] at h3
  subst h3
  rw [hm] at hle hs2
  exact ⟨r, hpre, hle, hs2⟩

end LP
