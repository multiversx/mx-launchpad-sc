import LP.Proofs.ReachBEGen
import LP.Proofs.PayOut
import LP.Proofs.ReachPL
import LP.Proofs.Frame
/-
  Helpers for LP/Props/C02reach.lean (two of them also serve C16reach and AllVariants2) on the
  launchpad-token side of the two plain launchpads: the deposit flag and the tokens per ticket along
  a history, the launchpad tokens an accepted `claim` sends (base and locked in one statement), and
  `pl_Since` ("later, by accepted calls under `EnvOK` and `CallOK`") with the transfer of `Reach`,
  `pl_Lp` and `pl_Exact` along it.
-/
namespace LP
open LP.FY LP.Props.C09

theorem pl_sumOver_pos (f : Nat → Nat) (L : List Nat) (h : 0 < sumOver f L) : ∃ a ∈ L, 0 < f a := by
  apply Classical.byContradiction
  intro hn
  have : sumOver f L = 0 := sumOver_zero f L (fun a ha => by
    apply Classical.byContradiction
    intro h0
    exact hn ⟨a, ha, by omega⟩)
  omega

theorem pl_run_deposited (hash : List Nat → List Nat) :
    ∀ (h : List (Env × Call)) (s : State), s.deposited = true → (run hash s h).deposited = true :=
  run_induct hash (fun s => s.deposited = true) (fun _ _ _ _ _ hd hx => deposited_mono hx hd)

theorem pl_run_perTicket (hash : List Nat → List Nat) :
    ∀ (h : List (Env × Call)) (s : State), s.deposited = true →
      (run hash s h).perTicket = s.perTicket := fun h s hd =>
  (run_induct hash (fun s' => s'.deposited = true ∧ s'.perTicket = s.perTicket)
    (fun _ _ _ _ _ hp hx => ⟨deposited_mono hx hp.1,
      (LP.Props.C17.perTicket_frozen_after_deposit hx hp.1).trans hp.2⟩) h s ⟨hd, rfl⟩).2

/-- **the launchpad tokens of a settlement** (base and locked in one statement): the refund, then
    at most one lock call — carried by a transfer of the same amount to the lock contract — and at
    most one direct transfer to the caller; the two parts add up to `winning × perTicket`; the base
    launchpad makes no lock call.  The launchpad-token balance and `nrWinning` drop by exactly the
    entitlement resp. the number of winning tickets. -/
theorem pl_claim_out {hash : List Nat → List Nat} {s s' : State} {e : Env} {o : Out}
    (hB : pl_Base s) (hs : step hash s e .claim = .ok (s', o)) :
    ∃ (r : Range) (newLocks : List (Nat × Nat × Nat)) (newDirect : List Nat),
      s.stage e = .claim ∧ s.range e.caller = some r ∧
      o.locks = newLocks ∧
      o.xfers = refundXfers s e.caller
        ++ newLocks.map (fun l => (s.lockAddr, (⟨.esdt s.lpTok, 0, l.2.2⟩ : Pay)))
        ++ newDirect.map (fun d => (e.caller, (⟨.esdt s.lpTok, 0, d⟩ : Pay))) ∧
      (∀ l ∈ newLocks, l.1 = s.unlockEpoch ∧ l.2.1 = e.caller ∧ 0 < l.2.2) ∧
      (∀ d ∈ newDirect, 0 < d) ∧ newLocks.length ≤ 1 ∧ newDirect.length ≤ 1 ∧
      (newLocks.map (·.2.2)).sum + newDirect.sum = s.perTicket * winCountOf s e.caller ∧
      (s.variant = .base → newLocks = []) ∧
      winCountOf s e.caller ≤ s.nrWinning ∧
      s.perTicket * winCountOf s e.caller ≤ s.bal (.esdt s.lpTok) 0 ∧
      s' = { settledState s e.caller r with bal := balAfterClaim s e.caller } ∧
      s'.nrWinning = s.nrWinning - winCountOf s e.caller ∧
      s'.bal (.esdt s'.lpTok) 0 = s.bal (.esdt s.lpTok) 0 - s.perTicket * winCountOf s e.caller := by
  have common : ∀ r, ClaimAccepts s e r →
      s' = { settledState s e.caller r with bal := balAfterClaim s e.caller } →
      s.stage e = .claim ∧ s.range e.caller = some r ∧ winCountOf s e.caller ≤ s.nrWinning ∧
      s.perTicket * winCountOf s e.caller ≤ s.bal (.esdt s.lpTok) 0 ∧
      s'.nrWinning = s.nrWinning - winCountOf s e.caller ∧
      s'.bal (.esdt s'.lpTok) 0 = s.bal (.esdt s.lpTok) 0 - s.perTicket * winCountOf s e.caller := by
    intro r hacc hs'
    obtain ⟨k1, k2, k3, k4⟩ := pl_claimAccepts_lp hB.tokNe hacc
    have hw := winCount_of_range k2
    rw [winCountOf_eq, Nat.mul_comm]
    refine ⟨k1, k2, k3, k4, ?_, ?_⟩
    · rw [hs', hw]; rfl
    · rw [hs']
      show balAfterClaim s e.caller (.esdt s.lpTok) 0 = _
      rw [pl_balAfterClaim_lp hB.tokNe, Nat.mul_comm]
  rcases hB.var with hv | hv
  · obtain ⟨r, h1, h2, h3, h4, _⟩ := (claim_base_iff hash s e s' o (by rw [hv]; rfl) (by rw [hv]; rfl)
      (by rw [hv]; rfl)).mp hs
    obtain ⟨c1, c2, c3, c4, c5, c6⟩ := common r h1 h2
    refine ⟨r, [], (if winCount s e.caller = 0 then [] else [winCount s e.caller * s.perTicket]),
      c1, c2, h4, ?_, ?_, ?_, by simp, ?_, ?_, fun _ => rfl, c3, c4, h2, c5, c6⟩
    · rw [h3]
      unfold tokenXfers
      split <;> simp
    · intro l hl; cases hl
    · intro d hd
      split at hd
      · cases hd
      · rename_i hz
        simp only [List.mem_singleton] at hd
        subst hd
        exact Nat.mul_pos (by omega) hB.perPos
    · split <;> simp
    · rw [winCountOf_eq]
      split
      · rename_i hz; rw [hz]; simp
      · simp [Nat.mul_comm]
  · obtain ⟨r, nl, nd, h1, h2, h3, h4, h5, h6, h7, h8, h9, _⟩ :=
      claim_lock_effect hash s e s' o (by rw [hv]; rfl) (by rw [hv]; rfl) hB.pct hs
    obtain ⟨c1, c2, c3, c4, c5, c6⟩ := common r h1 h2
    refine ⟨r, nl, nd, c1, c2, h3, h4, h5, h6, h7, h8, ?_, ?_, c3, c4, h2, c5, c6⟩
    · rw [h9, winCountOf_eq, Nat.mul_comm]
    · intro hb; rw [hv] at hb; cases hb

/-- `pl_Since hash s r s2 r2`: `s2` (at round `r2`) is reached from `s` (at round `r`) by accepted
    calls under `EnvOK` and `CallOK` (any endpoint, `claimPayment` included) and by the passing of
    time; it is `be_Later` with these side conditions (`pl_since_iff`) -/
inductive pl_Since (hash : List Nat → List Nat) (s : State) (r : Nat) : State → Nat → Prop
  | refl : pl_Since hash s r s r
  | call (s1 : State) (r1 : Nat) (e : Env) (c : Call) (s2 : State) (o : Out) :
      pl_Since hash s r s1 r1 → r1 ≤ e.round → EnvOK e → CallOK c →
      step hash s1 e c = .ok (s2, o) → pl_Since hash s r s2 e.round
  | wait (s1 : State) (r1 r2 : Nat) : pl_Since hash s r s1 r1 → r1 ≤ r2 → pl_Since hash s r s1 r2

theorem pl_since_iff {hash : List Nat → List Nat} {s s2 : State} {r r2 : Nat} :
    pl_Since hash s r s2 r2 ↔ be_Later (fun e c => EnvOK e ∧ CallOK c) hash s r s2 r2 := by
  constructor <;> intro h
  · induction h with
    | refl => exact .refl
    | call s1 r1 e c s2 o _ h1 h2 h3 h4 ih => exact .call s1 r1 e c s2 o ih h1 ⟨h2, h3⟩ h4
    | wait s1 r1 r2 _ h1 ih => exact .wait s1 r1 r2 ih h1
  · induction h with
    | refl => exact .refl
    | call s1 r1 e c s2 o _ h1 h2 h3 ih => exact .call s1 r1 e c s2 o ih h1 h2.1 h2.2 h3
    | wait s1 r1 r2 _ h1 ih => exact .wait s1 r1 r2 ih h1

theorem pl_Since_reach {hash : List Nat → List Nat} {v : Variant} {s : State} {r : Nat}
    (h : Reach hash v s r) {s2 : State} {r2 : Nat} (hl : pl_Since hash s r s2 r2) :
    Reach hash v s2 r2 :=
  be_Reach_later h (pl_since_iff.mp hl)

theorem pl_Since.induct {hash : List Nat → List Nat} {P : State → Prop}
    (hstep : ∀ s1 e c s2 o, P s1 → step hash s1 e c = .ok (s2, o) → P s2) {s : State} {r : Nat}
    (h : P s) {s2 : State} {r2 : Nat} (hl : pl_Since hash s r s2 r2) : P s2 :=
  be_Later.invariant hstep (pl_since_iff.mp hl) h

theorem pl_Since_selected {hash : List Nat → List Nat} {s : State} {r : Nat}
    (h : s.flags.selected = true) {s2 : State} {r2 : Nat} (hl : pl_Since hash s r s2 r2) :
    s2.flags.selected = true :=
  pl_Since.induct (P := fun s => s.flags.selected = true)
    (fun _ _ _ _ _ ih h4 => (step_flags_gain h4).1 ih) h hl

theorem pl_Since_Lp {T0 : Nat} {hash : List Nat → List Nat} {s : State} {r : Nat}
    (h : pl_Lp T0 s) {s2 : State} {r2 : Nat} (hl : pl_Since hash s r s2 r2) : pl_Lp T0 s2 :=
  pl_Since.induct (fun _ _ _ _ _ ih h4 => pl_step ih h4) h hl

theorem pl_Since_Exact {T0 : Nat} {hash : List Nat → List Nat} {s : State} {r : Nat}
    (h : pl_Lp T0 s) (hE : pl_Exact (pl_view s)) {s2 : State} {r2 : Nat}
    (hl : pl_Since hash s r s2 r2) : pl_Lp T0 s2 ∧ pl_Exact (pl_view s2) :=
  pl_Since.induct (P := fun s => pl_Lp T0 s ∧ pl_Exact (pl_view s))
    (fun _ _ _ _ _ ih h4 => ⟨pl_step ih.1 h4, pl_step_Exact ih.1 ih.2 h4⟩) ⟨h, hE⟩ hl

end LP

#print axioms LP.pl_claim_out
#print axioms LP.pl_run_perTicket
#print axioms LP.pl_Since_Exact
