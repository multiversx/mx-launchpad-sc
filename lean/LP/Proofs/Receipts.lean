import LP.Proofs.LockedGuarClaim
import LP.Proofs.Recipients
import LP.Proofs.AllocReach
import LP.Proofs.ResumeFrame
import LP.Props.C14
import LP.Proofs.ReachFL
import LP.Proofs.Once
import LP.Proofs.Later
/-
  Cumulative receipts (prefix `cr_`) for `LP/Props/C01receipts.lean`, all eight contracts: what one
  accepted call pays an address in the payment token (`cr_owedPay`) and in the launchpad token
  (`cr_owedLp`), in any state; the sums over the log `lk_runLog` of a history; and, from a reachable
  state in which all selection steps are done, that a participant receives his due (`cr_due`,
  evaluated in that state) at his claim and nothing before or after (`cr_from_late`).
-/
namespace LP
open LP.FY LP.Props.C09 LP.Props.C14

/-! ## sums of transfers: `cr_paid` (LP/Proofs/LockedGuarClaim.lean) on the lists `xfersOf`
    (LP/Proofs/PayOut.lean) is made of -/

def cr_fee (s : State) (tok : Token) : Nat :=
  if s.nftCost.tok = tok ∧ s.nftCost.nonce = 0 then s.nftCost.amount else 0

theorem cr_paid_fee (s : State) (tok : Token) (a b : Nat) :
    cr_paid tok a [(b, s.nftCost)] = if b = a then cr_fee s tok else 0 := by
  rw [cr_paid_single]
  unfold cr_fee
  by_cases hb : b = a <;> simp [hb]

theorem cr_fee_lp_zero {s : State} (h : s.nftCost.tok ≠ .esdt s.lpTok) : cr_fee s (.esdt s.lpTok) = 0 := by
  unfold cr_fee
  rw [if_neg (fun hh => h hh.1)]

theorem cr_paid_refundXfers (s : State) (tok : Token) (a b : Nat) :
    cr_paid tok a (refundXfers s b) =
      if b = a ∧ s.payTok = tok then s.price * (s.confirmed b - winCount s b) else 0 := by
  unfold refundXfers
  split
  · rename_i hz; rw [hz]; simp [cr_paid]
  · rw [cr_paid_single]; simp

theorem cr_paid_lpXfersN_other (s : State) (e : Env) (tok : Token) (a b n : Nat)
    (h : tok ≠ .esdt s.lpTok) : cr_paid tok a (lpXfersN s e b n) = 0 :=
  cr_paid_zero _ _ _ fun _ hx hh => h (hh.2.1.symm.trans (lpXfersN_mem hx).1)

theorem cr_paid_lpXfersN_noLock (s : State) (e : Env) (a b n : Nat) (hl : s.variant.hasLock = false) :
    cr_paid (.esdt s.lpTok) a (lpXfersN s e b n) = if b = a then n * s.perTicket else 0 := by
  unfold lpXfersN
  by_cases hz : n = 0
  · subst hz; simp [cr_paid]
  · rw [if_neg hz, if_neg (by rw [hl]; nofun), cr_paid_single]; simp

theorem cr_paid_feeXfers (s : State) (tok : Token) (a b : Nat) :
    cr_paid tok a (feeXfers s b) =
      if b = a ∧ s.variant.hasNft = true ∧ nftCategory s b = 2 then cr_fee s tok else 0 := by
  unfold feeXfers
  split
  · rename_i h
    rw [cr_paid_fee]
    by_cases hb : b = a
    · subst hb; simp [h]
    · simp [hb]
  · rename_i h; rw [if_neg (fun hh => h hh.2)]; rfl

theorem cr_paid_claimXfersV (s s' : State) (e : Env) (tok : Token) (a : Nat) :
    cr_paid tok a (claimXfersV s s' e) =
      (if e.caller = a ∧ s.claimed e.caller = false ∧ s.payTok = tok
        then s.price * (s.confirmed e.caller - winCount s e.caller) else 0) +
      (if e.caller = a ∧ Token.esdt s.lpTok = tok
        then s'.userClaimed e.caller - s.userClaimed e.caller else 0) := by
  rw [claimXfersV, cr_paid_append, cr_paid_ite, cr_paid_refundXfers, cr_paid_ite, cr_paid_single]
  congr 1
  · by_cases hcl : s.claimed e.caller = false <;> simp [hcl]
  · by_cases hpos : s'.userClaimed e.caller - s.userClaimed e.caller > 0
    · simp [hpos]
    · have h0 : s'.userClaimed e.caller - s.userClaimed e.caller = 0 := by omega
      simp [h0]

/-! ## blacklisting: a listed user gets `price × confirmed` back (payment token), plus the NFT fee
    (fee token) if he had paid it -/

theorem cr_blXfer_paid (s : State) (tok : Token) (a : Nat) : ∀ l : List Nat, l.Nodup →
    cr_paid tok a (l.filterMap (Events.blXfer s))
      = if a ∈ l ∧ s.payTok = tok then s.price * s.confirmed a else 0
  | [], _ => by simp [cr_paid]
  | u :: rest, hnd => by
    obtain ⟨hu, hnd'⟩ := List.nodup_cons.mp hnd
    have ih := cr_blXfer_paid s tok a rest hnd'
    rw [List.filterMap_cons]
    unfold Events.blXfer
    have ih' : cr_paid tok a (List.filterMap (fun u => if s.confirmed u > 0
        then some (u, Events.refundPay s (s.confirmed u)) else none) rest)
        = if a ∈ rest ∧ s.payTok = tok then s.price * s.confirmed a else 0 := ih
    by_cases hc : s.confirmed u > 0
    · simp only [hc, if_true]
      show cr_paid tok a ((u, Events.refundPay s (s.confirmed u)) :: _) = _
      simp only [cr_paid]
      rw [ih']
      by_cases hau : a = u
      · subst hau
        by_cases htk : s.payTok = tok <;> simp [hu, htk, Events.refundPay]
      · have hua : ¬ (u = a) := fun hh => hau hh.symm
        simp [hau, hua]
    · simp only [hc, if_false]
      rw [ih']
      by_cases hau : a = u
      · subst hau
        have : s.confirmed a = 0 := by omega
        simp [hu, this]
      · simp [hau]

theorem cr_paid_nftRefunds (s : State) (tok : Token) (a : Nat) : ∀ l : List Nat, l.Nodup →
    cr_paid tok a ((l.filter (fun x => decide (x ∈ s.payers))).map (fun u => (u, s.nftCost)))
      = if a ∈ l ∧ a ∈ s.payers then cr_fee s tok else 0
  | [], _ => by simp [cr_paid]
  | u :: rest, hnd => by
    obtain ⟨hu, hnd'⟩ := List.nodup_cons.mp hnd
    have ih := cr_paid_nftRefunds s tok a rest hnd'
    by_cases hup : u ∈ s.payers
    · rw [List.filter_cons_of_pos (by simpa using hup), List.map_cons]
      show cr_paid tok a ([(u, s.nftCost)] ++ _) = _
      rw [cr_paid_append, cr_paid_fee, ih]
      by_cases hau : a = u
      · subst hau; simp [hu, hup]
      · have hua : ¬ u = a := fun hh => hau hh.symm
        simp [hau, hua]
    · rw [List.filter_cons_of_neg (by simpa using hup), ih]
      by_cases hau : a = u
      · subst hau; simp [hu, hup]
      · simp [hau]

/-! ## one accepted transaction -/

theorem cr_step_uc {hash : List Nat → List Nat} {s s' : State} {e : Env} {o : Out}
    (hs : step hash s e .claim = .ok (s', o)) (hv : s.variant.vested = true) :
    s.userClaimed e.caller ≤ s'.userClaimed e.caller ∧
    (∀ b, b ≠ e.caller → s'.userClaimed b = s.userClaimed b) := by
  obtain ⟨t', hx, rfl, _⟩ := step_np_out rfl hs
  rw [exec_claim_vested hash _ e hv] at hx
  obtain ⟨_, c, _, _, huc, hoth, _⟩ := claimVested_inv hx
  exact ⟨Nat.le.intro huc.symm, hoth⟩

/-- what the accepted call `c` by `e.caller` in state `s` owes `a` in the ticket-payment token:
    the refund of his first `claim`, the refund of a `blacklist` / `refundUsers` (guarV2) listing
    him, each with the NFT fee where it is charged in the payment token -/
def cr_owedPay (s : State) (e : Env) (c : Call) (a : Nat) : Nat :=
  match c with
  | .claim =>
    if e.caller = a ∧ s.claimed a = false then
      s.price * (s.confirmed a - winCountOf s a) +
        (if s.variant.hasNft = true ∧ nftCategory s a = 2 then cr_fee s s.payTok else 0)
    else 0
  | .blacklist l =>
    if a ∈ l then s.price * s.confirmed a +
      (if s.variant.hasNft = true ∧ a ∈ s.payers then cr_fee s s.payTok else 0) else 0
  | .refundUsers l => if a ∈ l then s.price * s.confirmed a else 0
  | _ => 0

/-- `claimPayment` pays only its caller, who is the owner -/
theorem cr_xfers_to_caller {hash : List Nat → List Nat} {s s' : State} {e : Env} {o : Out}
    (hs : step hash s e .claimPayment = .ok (s', o)) (tok : Token) {a : Nat} (ha : a ≠ s.owner) :
    cr_paid tok a o.xfers = 0 := by
  have ho := step_claimPayment_owner hs
  apply cr_paid_zero
  intro x hx hh
  have : x.1 = e.caller := (step_recipients hs).1 x hx
  exact ha (hh.1.symm.trans (this.trans ho))

/-- any state of any variant with `payTok ≠ lpTok` (no reachability): an address receives in the
    payment token exactly `cr_owedPay`; excluded is the owner at his own `claimPayment`, which also
    pays him the proceeds -/
theorem cr_step_pay_of {hash : List Nat → List Nat} {s s' : State} {e : Env} {c : Call} {o : Out}
    (hne : s.payTok ≠ .esdt s.lpTok) {a : Nat} (ha : c = .claimPayment → a ≠ s.owner)
    (hs : step hash s e c = .ok (s', o)) :
    cr_paid s.payTok a o.xfers = cr_owedPay s e c a := by
  have hne' : ¬ (Token.esdt s.lpTok = s.payTok) := fun hh => hne hh.symm
  cases c with
  | claim =>
    rw [step_xfers hs]
    show cr_paid s.payTok a (if s.variant.vested = true then claimXfersV s s' e else claimXfers s e) = _
    simp only [cr_owedPay]
    cases hv : s.variant.vested
    · have hcl : s.claimed e.caller = false := by
        cases hc : s.claimed e.caller
        · rfl
        · obtain ⟨err, herr⟩ := (second_claim_rejected hash s e hv hc).1
          rw [herr] at hs; cases hs
      rw [if_neg (by simp), claimXfers, cr_paid_append, cr_paid_append, cr_paid_refundXfers,
        cr_paid_lpXfersN_other _ _ _ _ _ _ hne, cr_paid_feeXfers]
      by_cases hca : e.caller = a
      · subst hca; simp [hcl]; rfl
      · simp [hca]
    · rw [if_pos rfl, cr_paid_claimXfersV, (rc_vested_flags hv).1]
      by_cases hca : e.caller = a
      · subst hca; simp [hne']; rfl
      · simp [hca]
  | claimPayment => exact cr_xfers_to_caller hs _ (ha rfl)
  | blacklist l =>
    have hnd := (step_blacklist_listed (.inl rfl) hs).1
    rw [step_xfers hs]
    show cr_paid s.payTok a (_ ++ _) = _
    rw [cr_paid_append, cr_blXfer_paid s _ a l hnd, cr_paid_ite, cr_paid_nftRefunds s _ a l hnd]
    by_cases hal : a ∈ l <;> by_cases hn : s.variant.hasNft = true <;> simp [cr_owedPay, hal, hn]
  | refundUsers l =>
    rw [step_xfers hs]
    show cr_paid s.payTok a (l.filterMap (Events.blXfer s)) = _
    rw [cr_blXfer_paid s _ a l ((step_blacklist_listed (.inr rfl) hs).1)]
    simp [cr_owedPay]
  | _ => rw [(step_quiet hs rfl).1]; rfl

theorem cr_step_pay {hash : List Nat → List Nat} {s s' : State} {e : Env} {c : Call} {o : Out}
    (hne : s.payTok ≠ .esdt s.lpTok) {a : Nat} (ha : a ≠ s.owner)
    (hs : step hash s e c = .ok (s', o)) :
    cr_paid s.payTok a o.xfers = cr_owedPay s e c a :=
  cr_step_pay_of hne (fun _ => ha) hs

/-- facts every accepted call keeps -/
structure cr_Static (s : State) : Prop where
  tokNe : s.payTok ≠ .esdt s.lpTok
  feeNe : s.nftCost.tok ≠ .esdt s.lpTok
  pct : s.lockPct ≤ 10000

theorem cr_step_static {hash : List Nat → List Nat} {s s' : State} {e : Env} {c : Call} {o : Out}
    (h : cr_Static s) (hs : step hash s e c = .ok (s', o)) : cr_Static s' :=
  ⟨step_tokNe hs h.tokNe, fl_step_fee_ne_lp hs h.feeNe, by rw [step_lockPct hs]; exact h.pct⟩

/-- what the accepted call `c` (from `s` to `s'`) owes `a` in the launchpad token: his `claim` pays
    `winning × perTicket` (non-vested variants; locked variants partly through the lock contract),
    resp. the increment of his `userClaimed` (vested variants) -/
def cr_owedLp (s s' : State) (e : Env) (c : Call) (a : Nat) : Nat :=
  match c with
  | .claim =>
    if e.caller = a then
      (if s.variant.vested = true then s'.userClaimed a - s.userClaimed a
       else s.perTicket * winCountOf s a)
    else 0
  | _ => 0

/-- any state with the static facts: an address that is neither the owner nor (locked variants)
    the lock contract receives in launchpad tokens (lock calls for `a` + direct transfers to `a`)
    exactly `cr_owedLp` -/
theorem cr_step_lp {hash : List Nat → List Nat} {s s' : State} {e : Env} {c : Call} {o : Out}
    (hS : cr_Static s) {a : Nat} (ha : a ≠ s.owner)
    (ha2 : s.variant.hasLock = true → a ≠ s.lockAddr)
    (hs : step hash s e c = .ok (s', o)) :
    received s.lpTok a o = cr_owedLp s s' e c a := by
  by_cases hl : s.variant.hasLock = true
  · have h1 := lk_step_received ⟨hl, hS.pct, hS.tokNe⟩ ha (ha2 hl) hs
    rw [h1]
    have hv : s.variant.vested = false := (lk_hasLock_flags hl).1
    cases c <;> simp [isClaimBy, cr_owedLp, hv]
  · have hl' : s.variant.hasLock = false := by simpa using hl
    have hlk : o.locks = [] := lk_step_locks (fun _ => hl') hs
    unfold received
    rw [hlk, cr_directTo_eq]
    show 0 + _ = _
    rw [Nat.zero_add]
    have hfee0 := cr_fee_lp_zero hS.feeNe
    cases c with
    | claim =>
      rw [step_xfers hs]
      show cr_paid (.esdt s.lpTok) a
        (if s.variant.vested = true then claimXfersV s s' e else claimXfers s e) = _
      cases hv : s.variant.vested
      · rw [if_neg (by simp), claimXfers, cr_paid_append, cr_paid_append, cr_paid_refundXfers,
          cr_paid_lpXfersN_noLock _ _ _ _ _ hl', cr_paid_feeXfers, if_neg (fun hh => hS.tokNe hh.2),
          hfee0, Nat.mul_comm]
        by_cases hca : e.caller = a
        · subst hca; simp [cr_owedLp, hv]; rfl
        · simp [cr_owedLp, hca]
      · rw [if_pos rfl, cr_paid_claimXfersV]
        by_cases hca : e.caller = a
        · subst hca; simp [cr_owedLp, hv, hS.tokNe]
        · simp [cr_owedLp, hca]
    | claimPayment => exact cr_xfers_to_caller hs _ ha
    | blacklist l =>
      have hnd := (step_blacklist_listed (.inl rfl) hs).1
      rw [step_xfers hs]
      show cr_paid (.esdt s.lpTok) a (_ ++ _) = _
      rw [cr_paid_append, cr_blXfer_paid s _ a l hnd, cr_paid_ite, cr_paid_nftRefunds s _ a l hnd,
        hfee0, if_neg (fun hh => hS.tokNe hh.2)]
      simp [cr_owedLp]
    | refundUsers l =>
      rw [step_xfers hs]
      show cr_paid (.esdt s.lpTok) a (l.filterMap (Events.blXfer s)) = _
      rw [cr_blXfer_paid s _ a l ((step_blacklist_listed (.inr rfl) hs).1),
        if_neg (fun hh => hS.tokNe hh.2)]
      rfl
    | _ => rw [(step_quiet hs rfl).1]; rfl

/-! ## sums over the log of accepted transactions -/

/-- payment-token receipts of `a` over a log; the payment token is read in the state each
    transaction ran in (`setTicketPrice` may change it while tickets are being added; it is frozen
    from the confirmation start on) -/
def cr_totalPay (a : Nat) : List (State × Env × Call × Out) → Nat
  | [] => 0
  | x :: rest => cr_paid x.1.payTok a x.2.2.2.xfers + cr_totalPay a rest

def cr_total (tok : Token) (a : Nat) : List (State × Env × Call × Out) → Nat
  | [] => 0
  | x :: rest => cr_paid tok a x.2.2.2.xfers + cr_total tok a rest

def cr_totalOwed (a : Nat) : List (State × Env × Call × Out) → Nat
  | [] => 0
  | x :: rest => cr_owedPay x.1 x.2.1 x.2.2.1 a + cr_totalOwed a rest

/-- the log entry is an accepted `claim` by `a` that performs his settlement (his first claim; in
    the non-vested variants every accepted claim is one) -/
def cr_isSettleBy (a : Nat) (x : State × Env × Call × Out) : Bool :=
  isClaimBy a x && !x.1.claimed a

def cr_isBlacklistOf (a : Nat) (x : State × Env × Call × Out) : Bool :=
  match x.2.2.1 with
  | .blacklist l => decide (a ∈ l)
  | .refundUsers l => decide (a ∈ l)
  | _ => false

def cr_post (hash : List Nat → List Nat) (x : State × Env × Call × Out) : State :=
  match step hash x.1 x.2.1 x.2.2.1 with
  | .ok (s', _) => s'
  | .error _ => x.1

def cr_totalOwedLp (hash : List Nat → List Nat) (a : Nat) : List (State × Env × Call × Out) → Nat
  | [] => 0
  | x :: rest => cr_owedLp x.1 (cr_post hash x) x.2.1 x.2.2.1 a + cr_totalOwedLp hash a rest

theorem cr_owedPay_of_not (s : State) (e : Env) (c : Call) (o : Out) (a : Nat)
    (h1 : cr_isSettleBy a (s, e, c, o) = false) (h2 : cr_isBlacklistOf a (s, e, c, o) = false) :
    cr_owedPay s e c a = 0 := by
  cases c <;> simp_all [cr_owedPay, cr_isSettleBy, cr_isBlacklistOf, isClaimBy]

/-- `lk_log_rec` (LP/Proofs/LockedGuarClaim.lean) for histories with rounds non-decreasing from `r`
    whose transactions satisfy `OK`: the invariant `I s r` may depend on the round, the conclusion
    `M s l f` on the log `l` and the final state `f` -/
theorem lk_log_rec_rounds (hash : List Nat → List Nat) {OK : Env → Call → Prop}
    {I : State → Nat → Prop} {M : State → List (State × Env × Call × Out) → State → Prop}
    (wait : ∀ s r r', I s r → r ≤ r' → I s r') (nil : ∀ s, M s [] s)
    (cons : ∀ s r e c s' o, I s r → r ≤ e.round → OK e c → step hash s e c = .ok (s', o) →
      I s' e.round ∧ ∀ l f, M s' l f → M s ((s, e, c, o) :: l) f) :
    ∀ (p : LP.Props.C17.Hist) (s : State) (r : Nat), LP.Props.C17.RoundsFrom r p → I s r →
      (∀ x ∈ p, OK x.1 x.2) → M s (lk_runLog hash s p) (run hash s p) :=
  run_rec_rounds hash
    (M := fun s r p => I s r → (∀ x ∈ p, OK x.1 x.2) → M s (lk_runLog hash s p) (run hash s p))
    (fun s _ _ _ => nil s)
    (fun s r e c rest er hr _ hx ih hI hok => by
      rw [lk_runLog_cons_err hx, run_cons_err hx]
      exact ih (wait s r _ hI hr) (fun x hm => hok x (List.mem_cons_of_mem _ hm)))
    (fun s r e c rest s' o hr _ hx ih hI hok => by
      rw [lk_runLog_cons_ok hx, run_cons_ok hx]
      obtain ⟨hI', hM⟩ := cons s r e c s' o hI hr (hok _ (List.mem_cons_self ..)) hx
      exact hM _ _ (ih hI' (fun x hm => hok x (List.mem_cons_of_mem _ hm))))

theorem cr_totalPay_eq (hash : List Nat → List Nat) (a : Nat) (hist : List (Env × Call)) (s : State)
    (hne : s.payTok ≠ .esdt s.lpTok) (ha : a ≠ s.owner) :
    cr_totalPay a (lk_runLog hash s hist) = cr_totalOwed a (lk_runLog hash s hist) :=
  lk_log_rec hash (I := fun s => s.payTok ≠ .esdt s.lpTok ∧ a ≠ s.owner)
    (M := fun _ l => cr_totalPay a l = cr_totalOwed a l) (fun _ => rfl)
    (fun s e c s' o hI hx =>
      ⟨⟨step_tokNe hx hI.1, by rw [step_owner hx]; exact hI.2⟩, fun l ih => by
        show cr_paid s.payTok a o.xfers + cr_totalPay a l = cr_owedPay s e c a + cr_totalOwed a l
        rw [cr_step_pay hI.1 hI.2 hx, ih]⟩)
    hist s ⟨hne, ha⟩

theorem cr_settle_count (hash : List Nat → List Nat) (a : Nat) (hist : List (Env × Call)) (s : State) :
    (s.claimed a = true → ∀ x ∈ lk_runLog hash s hist, cr_isSettleBy a x = false) ∧
    ((lk_runLog hash s hist).filter (cr_isSettleBy a)).length ≤ 1 :=
  lk_log_rec hash (I := fun _ => True)
    (M := fun s l => (s.claimed a = true → ∀ x ∈ l, cr_isSettleBy a x = false) ∧
      (l.filter (cr_isSettleBy a)).length ≤ 1)
    (fun _ => ⟨fun _ _ hx => (nomatch hx), Nat.zero_le _⟩)
    (fun s e c s' o _ hs => ⟨trivial, fun l ih => by
      refine ⟨fun hcl x hx => ?_, ?_⟩
      · rcases List.mem_cons.mp hx with rfl | hx
        · simp [cr_isSettleBy, hcl]
        · exact ih.1 (step_claimed_mono hash s e c s' o hs a hcl) x hx
      · cases hb : cr_isSettleBy a (s, e, c, o)
        · rw [List.filter_cons_of_neg (by simp [hb])]
          exact ih.2
        · -- a settlement by `a` marks him as claimed: no further one in `l`
          rw [List.filter_cons_of_pos (by simp [hb])]
          simp only [cr_isSettleBy, Bool.and_eq_true] at hb
          obtain ⟨rfl, hca⟩ := (isClaimBy_iff a s e c o).mp hb.1
          have hcl : s'.claimed a = true := by rw [← hca]; exact claim_sets_claimed hash s e s' o hs
          have : l.filter (cr_isSettleBy a) = [] := by
            rw [List.filter_eq_nil_iff]
            intro x hxm
            rw [ih.1 hcl x hxm]; simp
          rw [this]; simp⟩)
    hist s trivial

theorem cr_settle_once (hash : List Nat → List Nat) (a : Nat) (hist : List (Env × Call)) (s : State) :
    ((lk_runLog hash s hist).filter (cr_isSettleBy a)).length ≤ 1 :=
  (cr_settle_count hash a hist s).2

theorem cr_totalLp_eq (hash : List Nat → List Nat) (a : Nat) (hist : List (Env × Call)) (s : State)
    (hS : cr_Static s) (ha : a ≠ s.owner) (ha2 : s.variant.hasLock = true → a ≠ s.lockAddr) :
    totalReceived s.lpTok a (lk_runLog hash s hist) = cr_totalOwedLp hash a (lk_runLog hash s hist) :=
  lk_log_rec hash
    (I := fun s => cr_Static s ∧ a ≠ s.owner ∧ (s.variant.hasLock = true → a ≠ s.lockAddr))
    (M := fun s l => totalReceived s.lpTok a l = cr_totalOwedLp hash a l) (fun _ => rfl)
    (fun s e c s' o hI hx =>
      ⟨⟨cr_step_static hI.1 hx, by rw [step_owner hx]; exact hI.2.1,
        by rw [step_variant hx, (step_lockAddr hx).1]; exact hI.2.2⟩, fun l ih => by
        have hpost : cr_post hash (s, e, c, o) = s' := by
          unfold cr_post; simp only [hx]
        show received s.lpTok a o + totalReceived s.lpTok a l
          = cr_owedLp s (cr_post hash (s, e, c, o)) e c a + cr_totalOwedLp hash a l
        rw [step_lpTok hx] at ih
        rw [hpost, cr_step_lp hI.1 hI.2.1 hI.2.2 hx, ih]⟩)
    hist s ⟨hS, ha, ha2⟩

/-! ## after all selection steps: what an accepted call can still change -/

/-- what a settlement can do to the winning flags: nothing, or clear the caller's range -/
def cr_StatusEff (s : State) (caller : Nat) (st' : Nat → Bool) : Prop :=
  st' = s.status ∨ ∃ r, s.range caller = some r ∧
    st' = (clearRange s.status s.posToId r.first (rangeLen r)).1

theorem cr_exec_claim_x {hash : List Nat → List Nat} {t t' : Tx} {e : Env}
    (h : exec hash t e .claim = .ok t') :
    cr_StatusEff t.s e.caller t'.s.status ∧
    (∀ b, b ≠ e.caller → (b ∈ t'.s.nftWinners ↔ b ∈ t.s.nftWinners) ∧
      (b ∈ t'.s.payers ↔ b ∈ t.s.payers)) := by
  refine ⟨?_, ?_⟩
  · rcases (exec_fp h).1 with ⟨_, _, _, _, hs⟩ | ⟨_, r, _, _, _, _, _, hr, _, hs⟩ <;> rw [hs]
    · exact Or.inl rfl
    · exact Or.inr ⟨r, hr, rfl⟩
  cases hv : t.s.variant.vested
  · rw [exec_claim_nonvested hash t e hv, claimBase_ok_iff] at h
    obtain ⟨r, _, t2, h2, h3⟩ := h
    obtain ⟨b, hb, _, _⟩ := rb_sendLp h2
    have hw2 : t2.s.nftWinners = t.s.nftWinners := by rw [hb, claimMid_state]; rfl
    have hp2 : t2.s.payers = t.s.payers := by rw [hb, claimMid_state]; rfl
    split at h3
    · rw [claimNft_ok_iff] at h3
      obtain ⟨_, _, rfl⟩ := h3
      obtain ⟨_, _, _, hW, hP, _⟩ := claimNftResult_effect t2 e
      intro x hx
      refine ⟨by rw [hW, cr_mem_swapRemove_ne hx, hw2], ?_⟩
      rw [hP]
      split
      · rw [cr_mem_swapRemove_ne hx, hp2]
      · rw [hp2]
    · cases h3
      exact fun x _ => ⟨by rw [hw2], by rw [hp2]⟩
  · rw [exec_claim_vested hash t e hv] at h
    rcases (claimVested_fp h).2 with ⟨_, _, _, hs⟩ | ⟨_, _, _, _, _, _, _, hs⟩ <;> rw [hs] <;>
      exact fun _ _ => ⟨Iff.rfl, Iff.rfl⟩

theorem cr_countWinning_congr (st st' : Nat → Bool) (first : Nat) :
    ∀ len, (∀ k, k < len → st' (first + k) = st (first + k)) →
      countWinning st' first len = countWinning st first len
  | 0, _ => rfl
  | k + 1, h => by
    simp only [countWinning]
    rw [cr_countWinning_congr st st' first k (fun j hj => h j (by omega)), h k (by omega)]

/-- `s'` agrees with `s` on everything the settlement of `a` reads -/
structure cr_Kept (a : Nat) (s s' : State) : Prop where
  range : s'.range a = s.range a
  status : ∀ r, s.range a = some r → ∀ id, r.first ≤ id → id ≤ r.last → s'.status id = s.status id
  confirmed : s'.confirmed a = s.confirmed a
  claimed : s'.claimed a = s.claimed a
  uc : s.variant.vested = true → s'.userClaimed a = s.userClaimed a
  price : s'.price = s.price
  payTok : s'.payTok = s.payTok
  perTicket : s'.perTicket = s.perTicket
  nftCost : s'.nftCost = s.nftCost
  winners : a ∈ s'.nftWinners ↔ a ∈ s.nftWinners
  payers : a ∈ s'.payers ↔ a ∈ s.payers

/-- after all selection steps an accepted call that is not a `claim` by `a` himself keeps `a`'s
    data; a claim by somebody else clears only that caller's range, hence `hdisj` (records of
    different participants are disjoint: every reachable state after the filter, `cr_covered_done`) -/
theorem cr_post_frame {hash : List Nat → List Nat} {s s' : State} {e : Env} {c : Call} {o : Out}
    {a : Nat} (hd : AllDone s) (hf : s.flags.filtered = true) (hv : validPeriods s.cfg = true)
    (hsel : s.cfg.sel ≤ e.round)
    (hdisj : ∀ b ra rb, a ≠ b → s.range a = some ra → s.range b = some rb →
      ra.last < rb.first ∨ rb.last < ra.first)
    (hs : step hash s e c = .ok (s', o)) (hnot : c = .claim → e.caller ≠ a) : cr_Kept a s s' := by
  by_cases hc : c = .claim
  · subst hc
    have hca : a ≠ e.caller := fun h => hnot rfl h.symm
    have hp := price_frame hs nofun
    obtain ⟨_, _, hrb⟩ := step_claim_rb hs
    have hcb := step_cb hs
    have hcl := (step_claimed_exact hash s e .claim s' o hs).2 rfl
    obtain ⟨m, t, _, _, _, hx, hs', _⟩ := step_ok_inv hs
    obtain ⟨hst, hlists⟩ := cr_exec_claim_x hx
    refine ⟨?_, ?_, ?_, ?_, ?_, hp.1, hp.2, perTicket_frame hs nofun, nftCost_frame hs nofun, ?_, ?_⟩
    · rcases hrb with ⟨h1, _, _⟩ | ⟨r, _, h1, _⟩
      · rw [h1]
      · rw [h1, upd_other _ _ _ _ hca]
    · intro ra hra id h1 h2
      rcases hst with h | ⟨rb, hrb', h⟩
      · rw [hs', h]; rfl
      · rw [hs', h, clearRange_status]
        have hrb'' : s.range e.caller = some rb := hrb'
        have := hdisj e.caller ra rb hca hra hrb''
        have hno : ¬ (rb.first ≤ id ∧ id < rb.first + rangeLen rb) := by
          unfold rangeLen; omega
        rw [if_neg hno]; rfl
    · have : s'.confirmed = (cbAfter s e .claim).confirmed := congrArg CB.confirmed hcb
      rw [this]
      show (if (s.variant.vested && s.claimed e.caller) = true then s.confirmed
        else upd s.confirmed e.caller 0) a = _
      split
      · rfl
      · rw [upd_other _ _ _ _ hca]
    · rw [hcl, upd_other _ _ _ _ hca]
    · exact fun hvs => (cr_step_uc hs hvs).2 a hca
    · rw [hs']; exact (hlists a hca).1
    · rw [hs']; exact (hlists a hca).2
  · rcases late_step hd hf (be_stage_late hv hsel) hs with ⟨rfl, _⟩ | ⟨_, _, _, _, _, rfl⟩ |
      ⟨_, _, _, _, rfl⟩ | ⟨_, _, _, _, _, _, _, _, _, _, _, rfl⟩
    · exact absurd rfl hc
    all_goals exact ⟨rfl, fun _ _ _ _ _ => rfl, rfl, rfl, fun _ => rfl, rfl, rfl, rfl, rfl, .rfl, .rfl⟩

/-! ## the static facts hold in every reachable state -/

theorem cr_init_static {v : Variant} {a : InitArgs} {e : Env} {s : State} (h : init v a e = .ok s) :
    cr_Static s := by
  obtain ⟨hok, rfl⟩ := init_ok h
  refine ⟨hok.tokNe, ?_, ?_⟩
  · show (if v.hasNft then a.nftCost else ⟨.egld, 0, 0⟩ : Pay).tok ≠ .esdt a.lpTok
    split
    · exact validCost_ne_lp (hok.nft ‹_›).2
    · nofun
  · show (if v.hasLock then a.lockPct else 0) ≤ 10000
    split
    · exact (hok.lock ‹_›).2.1
    · exact Nat.zero_le _

theorem cr_static_covered {hash : List Nat → List Nat} {s : State} {r : Nat}
    (h : be_Covered hash s r) : cr_Static s :=
  be_covered_induct (Q := cr_Static) (fun _ _ _ _ hi => cr_init_static hi)
    (fun _ _ _ _ _ _ _ _ _ hst hq => cr_step_static hq hst) h

/-! ## from a state in which all steps are done -/

/-- what `a`'s settlement pays him in the payment token, read in state `s` -/
def cr_due (s : State) (a : Nat) : Nat :=
  s.price * (s.confirmed a - winCountOf s a) +
    (if s.variant.hasNft = true ∧ nftCategory s a = 2 then cr_fee s s.payTok else 0)

theorem cr_owedPay_claim (s : State) (e : Env) (a : Nat) (h1 : e.caller = a)
    (h2 : s.claimed a = false) : cr_owedPay s e .claim a = cr_due s a := by
  simp [cr_owedPay, cr_due, h1, h2]

theorem cr_winCountOf_kept {a : Nat} {s s' : State} (h : cr_Kept a s s') :
    winCountOf s' a = winCountOf s a := by
  cases hr : s.range a with
  | none => rw [winCountOf_none hr, winCountOf_none (h.range.trans hr)]
  | some r =>
    rw [winCountOf_some hr, winCountOf_some (h.range.trans hr)]
    apply cr_countWinning_congr
    intro k hk
    apply h.status r hr
    · omega
    · unfold rangeLen at hk; omega

theorem cr_due_kept {a : Nat} {s s' : State} (h : cr_Kept a s s') (hvar : s'.variant = s.variant) :
    cr_due s' a = cr_due s a := by
  unfold cr_due
  have hcat : nftCategory s' a = nftCategory s a := by
    unfold nftCategory
    simp only [h.winners, h.payers]
  have hfee : cr_fee s' s'.payTok = cr_fee s s.payTok := by
    unfold cr_fee; rw [h.nftCost, h.payTok]
  rw [h.price, h.confirmed, cr_winCountOf_kept h, hvar, hcat, hfee]

theorem ow_covered_sel {hash : List Nat → List Nat} {s : State} {r : Nat}
    (h : be_Covered hash s r) (hsel : s.flags.selected = true) :
    s.flags.filtered = true ∧ validPeriods s.cfg = true ∧ s.cfg.sel ≤ r := by
  have hg := (be_family_all hash).good h
  have hf : s.flags.filtered = true := hg.tix.selFil hsel
  exact ⟨hf, hg.valid, (be_filtered_rounds h hf).2⟩

/-- the hypotheses of `cr_post_frame` hold in a reachable state in which all steps are done -/
theorem cr_covered_done {hash : List Nat → List Nat} {s : State} {r : Nat}
    (h : be_Covered hash s r) (hd : AllDone s) :
    s.flags.filtered = true ∧ validPeriods s.cfg = true ∧ s.cfg.sel ≤ r ∧
    (∀ a b ra rb, a ≠ b → s.range a = some ra → s.range b = some rb →
      ra.last < rb.first ∨ rb.last < ra.first) :=
  let ⟨hf, hv, hsel⟩ := ow_covered_sel h hd.1
  ⟨hf, hv, hsel, (ar_tix_covered h).disjF hf⟩

theorem AllDone.step {hash : List Nat → List Nat} {s s' : State} {e : Env} {c : Call} {o : Out}
    (hd : AllDone s) (hs : step hash s e c = .ok (s', o)) : AllDone s' :=
  ⟨(step_flags_gain4 hs).2.2.1 hd.1, (step_flags_gain4 hs).2.2.2 hd.2⟩

theorem cr_late_payTok {hash : List Nat → List Nat} {s s' : State} {e : Env} {c : Call} {o : Out}
    (hv : validPeriods s.cfg = true) (hsel : s.cfg.sel ≤ e.round)
    (hs : step hash s e c = .ok (s', o)) : s'.payTok = s.payTok :=
  (price_frame hs (fun tok p hc => by
    subst hc
    exact absurd (Props.C06.terms_only_in_addTickets hash s e _ _ (Or.inl ⟨tok, p, rfl⟩) hs)
      (be_stage_late hv hsel).1)).2

/-- the invariant carried along a history for one participant `a` -/
structure cr_Late (hash : List Nat → List Nat) (a : Nat) (s : State) (r : Nat) : Prop where
  cov : be_Covered hash s r
  done : AllDone s
  notOwner : a ≠ s.owner
  notLock : s.variant.hasLock = true → a ≠ s.lockAddr

theorem cr_Late.wait {hash : List Nat → List Nat} {a : Nat} {s : State} {r r' : Nat}
    (h : cr_Late hash a s r) (hr : r ≤ r') : cr_Late hash a s r' :=
  { h with cov := (be_family_all hash).wait h.cov hr }

theorem cr_Late.static {hash : List Nat → List Nat} {a : Nat} {s : State} {r : Nat}
    (h : cr_Late hash a s r) : cr_Static s := cr_static_covered h.cov

theorem cr_Late.step {hash : List Nat → List Nat} {a : Nat} {s s' : State} {r : Nat} {e : Env}
    {c : Call} {o : Out} (h : cr_Late hash a s r) (hr : r ≤ e.round) (hok : be_HistOK e c)
    (hx : step hash s e c = .ok (s', o)) :
    cr_Late hash a s' e.round ∧ s'.payTok = s.payTok ∧
    cr_paid s.payTok a o.xfers = (if cr_isSettleBy a (s, e, c, o) = true then cr_due s a else 0) ∧
    (isClaimBy a (s, e, c, o) = false → cr_Kept a s s' ∧ cr_owedLp s s' e c a = 0) := by
  obtain ⟨hf, hv, hsel, hdisj⟩ := cr_covered_done h.cov h.done
  have hsel' : s.cfg.sel ≤ e.round := Nat.le_trans hsel hr
  have hlate := late_calls_done h.done hf (be_stage_late hv hsel') hx
  refine ⟨⟨(be_family_all hash).call h.cov hr hok hx, h.done.step hx,
    by rw [step_owner hx]; exact h.notOwner,
    by rw [step_variant hx, (step_lockAddr hx).1]; exact h.notLock⟩,
    cr_late_payTok hv hsel' hx, ?_, fun hb => ?_⟩
  · rw [cr_step_pay h.static.tokNe h.notOwner hx]
    cases hset : cr_isSettleBy a (s, e, c, o)
    · have hbl : cr_isBlacklistOf a (s, e, c, o) = false := by
        cases c <;> first | rfl | cases hlate
      exact cr_owedPay_of_not s e c o a hset hbl
    · simp only [cr_isSettleBy, Bool.and_eq_true, Bool.not_eq_true'] at hset
      obtain ⟨rfl, hca⟩ := (isClaimBy_iff a s e c o).mp hset.1
      exact cr_owedPay_claim s e a hca hset.2
  · have hnot : c = .claim → e.caller ≠ a := fun hc hca => by
      rw [(isClaimBy_iff a s e c o).mpr ⟨hc, hca⟩] at hb; cases hb
    refine ⟨cr_post_frame h.done hf hv hsel' (fun b ra rb => hdisj a b ra rb) hx hnot, ?_⟩
    cases c <;> first | rfl | exact if_neg (hnot rfl)

/-- from a reachable state in which all steps are done, along any admissible history: a settled
    participant receives nothing more in the payment token and (non-vested variants) in launchpad
    tokens; an unsettled one receives nothing until his claim and then exactly `cr_due s a`, resp.
    `perTicket × winning`, both AS EVALUATED IN THE STARTING STATE -/
theorem cr_from_late (hash : List Nat → List Nat) (a : Nat) (hist : LP.Props.C17.Hist) (s : State)
    (r : Nat) (h : cr_Late hash a s r) (hr : LP.Props.C17.RoundsFrom r hist)
    (hok : ∀ x ∈ hist, be_HistOK x.1 x.2) :
    (s.claimed a = true → cr_total s.payTok a (lk_runLog hash s hist) = 0 ∧
      (s.variant.vested = false → totalReceived s.lpTok a (lk_runLog hash s hist) = 0)) ∧
    (s.claimed a = false →
      cr_total s.payTok a (lk_runLog hash s hist) =
        (match (lk_runLog hash s hist).find? (isClaimBy a) with
         | some _ => cr_due s a
         | none => 0) ∧
      (s.variant.vested = false → totalReceived s.lpTok a (lk_runLog hash s hist) =
        (match (lk_runLog hash s hist).find? (isClaimBy a) with
         | some _ => s.perTicket * winCountOf s a
         | none => 0))) :=
  lk_log_rec_rounds hash (I := cr_Late hash a)
    (M := fun s l _ =>
      (s.claimed a = true → cr_total s.payTok a l = 0 ∧
        (s.variant.vested = false → totalReceived s.lpTok a l = 0)) ∧
      (s.claimed a = false →
        cr_total s.payTok a l = (match l.find? (isClaimBy a) with
          | some _ => cr_due s a
          | none => 0) ∧
        (s.variant.vested = false → totalReceived s.lpTok a l =
          (match l.find? (isClaimBy a) with
           | some _ => s.perTicket * winCountOf s a
           | none => 0))))
    (fun _ _ _ h hr => h.wait hr)
    (fun _ => ⟨fun _ => ⟨rfl, fun _ => rfl⟩, fun _ => ⟨rfl, fun _ => rfl⟩⟩)
    (fun s r e c s' o hI hr hok hx => by
      obtain ⟨hI', hpay, hpaid, hkept⟩ := hI.step hr hok hx
      refine ⟨hI', fun l _ ih => ?_⟩
      have hvar := step_variant hx
      have hrecv := cr_step_lp hI.static hI.notOwner hI.notLock hx
      rw [hpay, step_lpTok hx, hvar] at ih
      simp only [cr_total, totalReceived]
      rw [hpaid, hrecv]
      cases hb : isClaimBy a (s, e, c, o)
      · -- not a claim by `a`: his data are kept
        obtain ⟨hk, h0⟩ := hkept hb
        rw [hk.claimed, cr_due_kept hk hvar, hk.perTicket, cr_winCountOf_kept hk] at ih
        rw [List.find?_cons_of_neg (by simp [hb]), h0]
        simpa only [cr_isSettleBy, hb, Bool.false_and, Bool.false_eq_true, if_false, Nat.zero_add]
          using ih
      · -- a claim by `a` marks him as claimed: `ih.1` applies to the rest
        obtain ⟨rfl, hca⟩ := (isClaimBy_iff a s e c o).mp hb
        have hcl' : s'.claimed a = true := by rw [← hca]; exact claim_sets_claimed hash s e s' o hx
        obtain ⟨ihp, ihl⟩ := ih.1 hcl'
        rw [List.find?_cons_of_pos (by simp [hb]), ihp]
        refine ⟨fun hcl => ⟨?_, fun hvs => ?_⟩, fun hcl => ⟨?_, fun hvs => ?_⟩⟩
        · simp [cr_isSettleBy, hcl]
        · exfalso
          obtain ⟨err, herr⟩ := (second_claim_rejected hash s e hvs (by rw [hca]; exact hcl)).1
          rw [herr] at hx; cases hx
        · simp [cr_isSettleBy, hb, hcl]
        · rw [ihl hvs]
          simp [cr_owedLp, hca, hvs])
    hist s r hr h hok

/-! ## vested variants: cumulative launchpad tokens = increase of `userClaimed` -/

theorem cr_vested_from_late (hash : List Nat → List Nat) (a : Nat) (hist : LP.Props.C17.Hist)
    (s : State) (r : Nat) (h : cr_Late hash a s r) (hvs : s.variant.vested = true)
    (hr : LP.Props.C17.RoundsFrom r hist) (hok : ∀ x ∈ hist, be_HistOK x.1 x.2) :
    totalReceived s.lpTok a (lk_runLog hash s hist) + s.userClaimed a
      = (run hash s hist).userClaimed a :=
  lk_log_rec_rounds hash (I := fun s r => cr_Late hash a s r ∧ s.variant.vested = true)
    (M := fun s l f => totalReceived s.lpTok a l + s.userClaimed a = f.userClaimed a)
    (fun _ _ _ h hr => ⟨h.1.wait hr, h.2⟩)
    (fun _ => Nat.zero_add _)
    (fun s r e c s' o hI hr hok hx => by
      obtain ⟨hI, hvs⟩ := hI
      obtain ⟨hI', _, _, hkept⟩ := hI.step hr hok hx
      refine ⟨⟨hI', by rw [step_variant hx]; exact hvs⟩, fun l f ih => ?_⟩
      rw [step_lpTok hx] at ih
      show received s.lpTok a o + totalReceived s.lpTok a l + s.userClaimed a = _
      rw [cr_step_lp hI.static hI.notOwner hI.notLock hx, ← ih]
      cases hb : isClaimBy a (s, e, c, o)
      · obtain ⟨hk, h0⟩ := hkept hb
        rw [h0, hk.uc hvs]
        omega
      · obtain ⟨rfl, hca⟩ := (isClaimBy_iff a s e c o).mp hb
        have hmono : s.userClaimed a ≤ s'.userClaimed a := hca ▸ (cr_step_uc hx hvs).1
        simp only [cr_owedLp, hca, hvs, if_true]
        omega)
    hist s r hr ⟨h, hvs⟩ hok

end LP

#print axioms LP.cr_step_pay
#print axioms LP.cr_step_lp
#print axioms LP.cr_totalPay_eq
#print axioms LP.cr_settle_once
#print axioms LP.cr_totalLp_eq
#print axioms LP.cr_post_frame
#print axioms LP.cr_from_late
#print axioms LP.cr_vested_from_late
#print axioms LP.cr_static_covered
