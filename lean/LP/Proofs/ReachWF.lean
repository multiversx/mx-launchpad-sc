import LP.Props.C01
import LP.Props.C10
import LP.Props.C03base
import LP.Props.C17
import LP.Proofs.Claim
import LP.Proofs.Frame
import LP.Proofs.Later
/-
  The projection `State.core` (the fields the payment ledger and the ticket space depend on), the
  phases `Pre`/`PhA`–`PhD` of the ticket ledger on it, and the invariant `WF T0 s r` of the plain
  launchpads (`Variant.base`, `Variant.locked`; prefix `rb_`): established by `init`, preserved by
  the passing of time and by every call that leaves the projection alone (`WF.frame`).  The phases
  are stated on the projection so that such calls are immediate, and so that the invariants of the
  other launchpads carry the same phases (LP/Proofs/CorePhase.lean).
  At the top, for every variant: an accepted call keeps the fields fixed at deployment (`step_fixed`
  and its projections) and "payment token ≠ launchpad token" (`step_tokNe`).  Then the counting the
  phases rest on: winning flags along a chain, sums over survivors (`Chain` under append, `AllocOK`
  and the filter loop's invariant `Mid` are in LP/Proofs/Filter.lean).
-/
namespace LP
open LP.FY

/-- none of the nine owner setters writes a field fixed at deployment -/
theorem ownerEdit_fixed (s : State) (c : Call) :
    (ownerEdit s c).variant = s.variant ∧ (ownerEdit s c).owner = s.owner ∧
    (ownerEdit s c).lpTok = s.lpTok ∧ (ownerEdit s c).lockPct = s.lockPct ∧
    (ownerEdit s c).lockAddr = s.lockAddr ∧ (ownerEdit s c).unlockEpoch = s.unlockEpoch := by
  unfold ownerEdit
  split <;> exact ⟨rfl, rfl, rfl, rfl, rfl, rfl⟩

/-- an accepted call keeps what is fixed at deployment -/
theorem step_fixed {hash : List Nat → List Nat} {s s' : State} {e : Env} {c : Call} {o : Out}
    (h : step hash s e c = .ok (s', o)) :
    s'.variant = s.variant ∧ s'.owner = s.owner ∧ s'.lpTok = s.lpTok ∧ s'.lockPct = s.lockPct ∧
    s'.lockAddr = s.lockAddr ∧ s'.unlockEpoch = s.unlockEpoch := by
  rcases step_static_cases h with ⟨_, h1⟩ | ⟨_, h1⟩
  · have ht := static_terms h1
    exact ⟨congrArg Terms.variant ht, congrArg Terms.owner ht, congrArg Terms.lpTok ht,
      congrArg Terms.lockPct ht, congrArg Terms.lockAddr ht, congrArg Terms.unlockEpoch ht⟩
  · rw [h1]
    exact ownerEdit_fixed (creditPayments s e) c

section
variable {hash : List Nat → List Nat} {s s' : State} {e : Env} {c : Call} {o : Out}
  (h : step hash s e c = .ok (s', o))
include h

theorem step_variant : s'.variant = s.variant := (step_fixed h).1
theorem step_owner : s'.owner = s.owner := (step_fixed h).2.1
theorem step_lpTok : s'.lpTok = s.lpTok := (step_fixed h).2.2.1
theorem step_lockPct : s'.lockPct = s.lockPct := (step_fixed h).2.2.2.1
theorem step_lockAddr : s'.lockAddr = s.lockAddr ∧ s'.unlockEpoch = s.unlockEpoch := (step_fixed h).2.2.2.2

end

/-- an accepted call keeps "payment token ≠ launchpad token" (`setTicketPrice` checks it) -/
theorem step_tokNe {hash : List Nat → List Nat} {s s' : State} {e : Env} {c : Call} {o : Out}
    (h : step hash s e c = .ok (s', o)) (hne : s.payTok ≠ .esdt s.lpTok) :
    s'.payTok ≠ .esdt s'.lpTok := by
  have hl := step_lpTok h
  by_cases hc : ∃ tok a, c = .setTicketPrice tok a
  · obtain ⟨tok, a, rfl⟩ := hc
    obtain ⟨_, h2, _, _, _, h6⟩ := setTicketPrice_terms h
    rw [hl, h2]
    exact h6
  · rw [(price_frame h (fun tok a hp => hc ⟨tok, a, hp⟩)).2, hl]
    exact hne

/-- what the blacklist calls leave of an all-zero map -/
theorem ite_mem_zero {l : List Nat} {f : Nat → Nat} (hz : ∀ a, f a = 0) (a : Nat) :
    (if a ∈ l then 0 else f a) = 0 := by
  split
  · rfl
  · exact hz a

/-- winners of an address as a function of the two maps -/
def winOf (range : Nat → Option Range) (status : Nat → Bool) (a : Nat) : Nat :=
  match range a with
  | none => 0
  | some r => countWinning status r.first (rangeLen r)

theorem rb_chain_count {L : List (Nat × Nat)} {first : Nat} {range : Nat → Option Range}
    {batch : Nat → Option Batch} (status : Nat → Bool) (h : Chain L first range batch)
    (hf : 1 ≤ first) :
    countTrue status (first - 1) + sumOver (winOf range status) (L.map Prod.fst)
      = countTrue status (first - 1 + ticketTotal L) := by
  induction L generalizing first with
  | nil => simp [sumOver, ticketTotal]
  | cons p rest ih =>
    obtain ⟨_, h2, h3⟩ := h
    have := ih h3 (by omega)
    simp only [List.map_cons, sumOver, ticketTotal]
    have hw : winOf range status p.1 = countWinning status first p.2 := by
      simp only [winOf, h2, rangeLen]
      congr 1; omega
    rw [hw]
    have hsplit := countTrue_add status (first - 1) p.2
    rw [show first - 1 + 1 = first by omega] at hsplit
    rw [show first + p.2 - 1 = first - 1 + p.2 by omega] at this
    rw [show first - 1 + (p.2 + ticketTotal rest) = first - 1 + p.2 + ticketTotal rest by omega]
    omega

theorem rb_clearRange_spec (status : Nat → Bool) (posToId : Nat → Nat) (first : Nat) :
    ∀ n, (∀ t, (clearRange status posToId first n).1 t
              = if first ≤ t ∧ t < first + n then false else status t) ∧
         (∀ t, (clearRange status posToId first n).2.1 t
              = if first ≤ t ∧ t < first + n then 0 else posToId t) ∧
         (clearRange status posToId first n).2.2 = countWinning status first n :=
  fun n => ⟨clearRange_status status posToId first n, clearRange_pos status posToId first n,
    clearRange_count status posToId first n⟩

theorem rb_sumOver_survivors (conf : Nat → Nat) (L : List (Nat × Nat)) :
    sumOver conf ((survivors conf L).map Prod.fst) = sumOver conf (L.map Prod.fst) := by
  induction L with
  | nil => rfl
  | cons p r ih =>
    obtain ⟨a, n⟩ := p
    by_cases h : conf a = 0
    · rw [survivors_cons_zero conf a n r h, ih]; simp [sumOver, h]
    · rw [survivors_cons_pos conf a n r h]; simp only [List.map_cons, sumOver, ih]

theorem rb_sumOver_append (f : Nat → Nat) (A B : List Nat) :
    sumOver f (A ++ B) = sumOver f A + sumOver f B := by
  induction A with
  | nil => simp [sumOver]
  | cons a A ih => simp only [List.cons_append, sumOver, ih]; omega

theorem rb_le_sumOver (f : Nat → Nat) (L : List Nat) (a : Nat) (h : a ∈ L) : f a ≤ sumOver f L := by
  induction L with
  | nil => cases h
  | cons b L ih =>
    simp only [sumOver]
    rcases List.mem_cons.mp h with rfl | h
    · omega
    · have := ih h; omega

/-- the two variants without an additional selection step -/
def Plain (v : Variant) : Prop := v = .base ∨ v = .locked

theorem rb_plain_flags {v : Variant} (hv : Plain v) :
    v.vested = false ∧ v.hasNft = false ∧ v.isV2 = false ∧ v.v1Alloc = false ∧
    v.hasGuaranteed = false := by
  rcases hv with rfl | rfl <;> exact ⟨rfl, rfl, rfl, rfl, rfl⟩

/-- restriction on histories: every allocation has at least one ticket (a zero-size allocation
    produces an empty range `[f, f-1]` and a batch slot the next allocation overwrites;
    DESIGN §12.7: `C01zero` removes the restriction by simulation) -/
def CallOK : Call → Prop
  | .addTickets l => ∀ p ∈ l, 1 ≤ p.2
  | _ => True

structure Core where
  price : Nat
  payBal : Nat
  confirmed : Nat → Nat
  nrWinning : Nat
  status : Nat → Bool
  posToId : Nat → Nat
  range : Nat → Option Range
  batch : Nat → Option Batch
  lastTicketId : Nat
  op : Op
  flags : Flags
  claimable : Nat

def State.core (s : State) : Core :=
  { price := s.price, payBal := s.bal s.payTok 0, confirmed := s.confirmed,
    nrWinning := s.nrWinning, status := s.status, posToId := s.posToId, range := s.range,
    batch := s.batch, lastTicketId := s.lastTicketId, op := s.op, flags := s.flags,
    claimable := s.claimablePayment }

/-- `PayPre`, `dueC`, `PayPost`: the ledger equations `PayEqPre`, `refundDue`, `PayEqPost`
    (LP/Proofs/Solvency.lean) on the projection -/
def PayPre (c : Core) (L : List Nat) : Prop := c.payBal = c.price * sumOver c.confirmed L

def dueC (c : Core) (a : Nat) : Nat :=
  match c.range a with
  | none => 0
  | some _ => c.price * (c.confirmed a - winOf c.range c.status a)

def PayPost (c : Core) (L : List Nat) : Prop := c.payBal = c.claimable + sumOver (dueC c) L

theorem rb_PayPre_iff (s : State) (L : List Nat) : PayEqPre s L ↔ PayPre s.core L := Iff.rfl

theorem rb_refundDue_eq (s : State) : refundDue s = dueC s.core := by
  funext a; rfl

/-- common part of the two phases before the filter has completed -/
structure Pre (T0 : Nat) (c : Core) (L0 : List (Nat × Nat)) : Prop where
  notFiltered : c.flags.filtered = false
  notSelected : c.flags.selected = false
  nrw : c.nrWinning = T0
  status0 : c.status = fun _ => false
  pos0 : c.posToId = fun _ => 0
  ok : AllocOK c.confirmed L0
  outC : ∀ a, a ∉ L0.map Prod.fst → c.confirmed a = 0
  outR : ∀ a, a ∉ L0.map Prod.fst → c.range a = none
  pay : PayPre c (L0.map Prod.fst)

/-- phase A: no filter call yet -/
structure PhA (c : Core) (L0 : List (Nat × Nat)) : Prop where
  notStarted : c.flags.started = false
  op : c.op = .none
  chain : Chain L0 1 c.range c.batch
  last : c.lastTicketId = ticketTotal L0

/-- phase B: the filter is interrupted -/
structure PhB (c : Core) (L0 : List (Nat × Nat)) : Prop where
  started : c.flags.started = true
  mid : ∃ f rm, c.op = .filter f rm ∧ Mid c.confirmed c.lastTicketId L0 ⟨c.range, c.batch, f, rm⟩

/-- phase C: filtered, lottery not complete -/
structure PhC (T0 : Nat) (c : Core) : Prop where
  started : c.flags.started = true
  filtered : c.flags.filtered = true
  notSelected : c.flags.selected = false
  nrw : c.nrWinning = min T0 c.lastTicketId
  alloc : ∃ Ls : List (Nat × Nat), (Ls.map Prod.fst).Nodup ∧
    (∀ p ∈ Ls, 1 ≤ p.2 ∧ p.2 = c.confirmed p.1) ∧ Chain Ls 1 c.range c.batch ∧
    c.lastTicketId = ticketTotal Ls ∧
    (∀ a, a ∉ Ls.map Prod.fst → c.range a = none ∧ c.confirmed a = 0) ∧
    PayPre c (Ls.map Prod.fst)
  sel : (c.op = .none ∧ c.status = (fun _ => false) ∧ c.posToId = fun _ => 0) ∨
    (∃ rng pos arr, c.op = .select rng pos ∧ 1 ≤ pos ∧ pos ≤ c.nrWinning ∧
      R c.lastTicketId pos c.status c.posToId arr)

/-- phase D: all selection steps complete -/
structure PhD (c : Core) : Prop where
  started : c.flags.started = true
  filtered : c.flags.filtered = true
  selected : c.flags.selected = true
  op : c.op = .none
  rngOk : ∀ a r, c.range a = some r → r.first ≤ r.last ∧ r.last + 1 = r.first + c.confirmed a
  rngNone : ∀ a, c.range a = none → c.confirmed a = 0
  disj : ∀ a b ra rb, a ≠ b → c.range a = some ra → c.range b = some rb →
    ra.last < rb.first ∨ rb.last < ra.first
  led : ∃ L : List Nat, L.Nodup ∧ (∀ a, c.confirmed a ≠ 0 → a ∈ L) ∧ PayPost c L ∧
    sumOver (winOf c.range c.status) L = c.nrWinning

def Phase (T0 : Nat) (c : Core) : Prop :=
  (∃ L0, Pre T0 c L0 ∧ (PhA c L0 ∨ PhB c L0)) ∨ PhC T0 c ∨ PhD c

/-- the inductive invariant; `r` is the round of the latest transaction, `T0` the number of
    winning tickets configured at deployment -/
structure WF (T0 : Nat) (s : State) (r : Nat) : Prop where
  var : Plain s.variant
  pricePos : 0 < s.price
  tokNe : s.payTok ≠ .esdt s.lpTok
  add : s.flags.additional = true
  balOther : ∀ t, t ≠ s.payTok → t ≠ .esdt s.lpTok → s.bal t 0 = 0
  tlConf : r < s.cfg.conf → ∀ a, s.confirmed a = 0
  tlStarted : s.flags.started = true → s.cfg.conf ≤ r ∧ s.cfg.sel ≤ r
  phase : Phase T0 s.core

theorem rb_phase_notStarted {T0 : Nat} {c : Core} (h : Phase T0 c) (hs : c.flags.started = false) :
    ∃ L0, Pre T0 c L0 ∧ PhA c L0 := by
  rcases h with ⟨L0, hp, ha | hb⟩ | hc | hd
  · exact ⟨L0, hp, ha⟩
  · rw [hb.started] at hs; cases hs
  · rw [hc.started] at hs; cases hs
  · rw [hd.started] at hs; cases hs

theorem rb_phase_notFiltered {T0 : Nat} {c : Core} (h : Phase T0 c) (hs : c.flags.filtered = false) :
    ∃ L0, Pre T0 c L0 ∧ (PhA c L0 ∨ PhB c L0) := by
  rcases h with h | hc | hd
  · exact h
  · rw [hc.filtered] at hs; cases hs
  · rw [hd.filtered] at hs; cases hs

theorem rb_phase_C {T0 : Nat} {c : Core} (h : Phase T0 c) (hf : c.flags.filtered = true)
    (hs : c.flags.selected = false) : PhC T0 c := by
  rcases h with ⟨L0, hp, _⟩ | hc | hd
  · rw [hp.notFiltered] at hf; cases hf
  · exact hc
  · rw [hd.selected] at hs; cases hs

theorem rb_phase_D {T0 : Nat} {c : Core} (h : Phase T0 c) (hs : c.flags.selected = true) : PhD c := by
  rcases h with ⟨L0, hp, _⟩ | hc | hd
  · rw [hp.notSelected] at hs; cases hs
  · rw [hc.notSelected] at hs; cases hs
  · exact hd

theorem rb_stage_addTickets {s : State} {e : Env} (h : s.stage e = .addTickets) :
    e.round < s.cfg.conf := by
  have := stage_spec s e; rw [h] at this; exact this

theorem rb_stage_confirm {s : State} {e : Env} (h : s.stage e = .confirm) :
    s.cfg.conf ≤ e.round ∧ e.round < s.cfg.sel := by
  have := stage_spec s e; rw [h] at this; exact this

theorem rb_stage_winnerSelection {s : State} {e : Env} (h : s.stage e = .winnerSelection) :
    s.cfg.conf ≤ e.round ∧ s.cfg.sel ≤ e.round := by
  have := stage_spec s e; rw [h] at this; exact this

/-- `h` is the clause `tlStarted` of the invariants -/
theorem notStarted_of_lt {s : State} {r n : Nat}
    (h : s.flags.started = true → s.cfg.conf ≤ r ∧ s.cfg.sel ≤ r)
    (hr : r ≤ n) (hlt : n < s.cfg.conf ∨ n < s.cfg.sel) : s.flags.started = false := by
  cases hs : s.flags.started with
  | false => rfl
  | true => have := h hs; omega

theorem WF.ofPhase {T0 : Nat} {s s' : State} {r r' : Nat} (h : WF T0 s r)
    (hv : s'.variant = s.variant) (hp : s'.payTok = s.payTok) (hl : s'.lpTok = s.lpTok)
    (hpr : 0 < s'.price) (hadd : s'.flags.additional = true)
    (hb : ∀ t, t ≠ s.payTok → t ≠ .esdt s.lpTok → s'.bal t 0 = 0)
    (htl1 : r' < s'.cfg.conf → ∀ a, s'.confirmed a = 0)
    (htl2 : s'.flags.started = true → s'.cfg.conf ≤ r' ∧ s'.cfg.sel ≤ r')
    (hph : Phase T0 s'.core) : WF T0 s' r' :=
  ⟨hv ▸ h.var, hpr, by rw [hp, hl]; exact h.tokNe, hadd, by rw [hp, hl]; exact hb, htl1, htl2, hph⟩

/-- a later state with the same projection, in which the timeline has not reopened a period -/
theorem WF.frame {T0 : Nat} {s s' : State} {r r' : Nat} (h : WF T0 s r)
    (hcore : s'.core = s.core) (hv : s'.variant = s.variant) (hp : s'.payTok = s.payTok)
    (hl : s'.lpTok = s.lpTok)
    (hb : ∀ t, t ≠ s.payTok → t ≠ .esdt s.lpTok → s'.bal t 0 = 0)
    (hcfg : CfgMono s.cfg s'.cfg r') (hr : r ≤ r') : WF T0 s' r' := by
  have hprice : s'.price = s.price := congrArg Core.price hcore
  have hflags : s'.flags = s.flags := congrArg Core.flags hcore
  have hconf : s'.confirmed = s.confirmed := congrArg Core.confirmed hcore
  refine h.ofPhase hv hp hl (hprice ▸ h.pricePos) (hflags ▸ h.add) hb ?_ ?_ (hcore ▸ h.phase)
  · intro h1
    rw [hconf]
    exact h.tlConf (Nat.lt_of_le_of_lt hr (hcfg.confLt h1))
  · intro h1
    obtain ⟨h2, h3⟩ := h.tlStarted (hflags ▸ h1)
    exact ⟨hcfg.conf (Nat.le_trans h2 hr), hcfg.sel (Nat.le_trans h3 hr)⟩

theorem wait_WF {T0 : Nat} {s : State} {r r' : Nat} (h : WF T0 s r) (hr : r ≤ r') : WF T0 s r' :=
  h.frame rfl rfl rfl rfl h.balOther (CfgMono.refl _ _) hr

theorem rb_init_inv {v : Variant} (hv : Plain v) {a : InitArgs} {e : Env} {s : State}
    (h : init v a e = .ok s) :
    s.variant = v ∧ 0 < a.price ∧ 0 < a.nrWinning ∧ a.payTok ≠ .esdt a.lpTok ∧
    s.price = a.price ∧ s.payTok = a.payTok ∧ s.lpTok = a.lpTok ∧ s.nrWinning = a.nrWinning ∧
    s.flags = { additional := true } ∧ s.bal = (fun _ _ => 0) ∧ s.confirmed = (fun _ => 0) ∧
    s.status = (fun _ => false) ∧ s.posToId = (fun _ => 0) ∧ s.range = (fun _ => none) ∧
    s.batch = (fun _ => none) ∧ s.lastTicketId = 0 ∧ s.op = .none ∧ s.claimablePayment = 0 := by
  obtain ⟨hok, rfl⟩ := init_ok h
  refine ⟨rfl, hok.price, hok.nrWinning, hok.tokNe, rfl, rfl, rfl, rfl, ?_, rfl, rfl, rfl, rfl, rfl, rfl,
    rfl, rfl, rfl⟩
  rcases hv with rfl | rfl <;> rfl

theorem init_WF {v : Variant} (hv : Plain v) {a : InitArgs} {e : Env} {s : State}
    (h : init v a e = .ok s) : WF a.nrWinning s e.round := by
  obtain ⟨hok, rfl⟩ := init_ok h
  have hfl : (initState v a e).flags = { additional := true } := by rcases hv with rfl | rfl <;> rfl
  refine ⟨hv, hok.price, hok.tokNe, by rw [hfl], fun _ _ _ => rfl, fun _ _ => rfl,
    fun hs => (by rw [hfl] at hs; cases hs), Or.inl ⟨[], ⟨?_, ?_, rfl, rfl, rfl,
      ⟨List.nodup_nil, nofun, nofun⟩, fun _ _ => rfl, fun _ _ => rfl, ?_⟩, Or.inl ⟨?_, rfl, trivial, rfl⟩⟩⟩
  · show (initState v a e).flags.filtered = false; rw [hfl]
  · show (initState v a e).flags.selected = false; rw [hfl]
  · show (0 : Nat) = a.price * 0; rw [Nat.mul_zero]
  · show (initState v a e).flags.started = false; rw [hfl]

end LP
