import LP.Proofs.ReachBEAll
import LP.Proofs.Footprint
import LP.Proofs.PayOut
import LP.Proofs.AllocReach
/-
  Who can receive anything from a transaction (C09 / C10 / C01), in two parts: the recipients
  themselves (prefix `rc_`, second part) and, first, what their permanence argument runs on, the
  projection `State.rb` = (`range`, `batch`, `userTotal`, `flags.filtered`): the allocation
  records, the vesting entitlements and the filter flag.  Only the allocation endpoints, `filter`
  and `claim` write it (`Call.writesRB` of AllocReach; `exec_rb`, read off `exec_written`: `written`
  is the table of the fields each call writes); for the last two the exact effect is given.  The frames
  of single helpers and the combinator `KeepsRB` at the start stand for themselves: `exec_rb` does
  not go through them.
-/
namespace LP

structure RB where
  range : Nat → Option Range
  batch : Nat → Option Batch
  userTotal : Nat → Nat
  filtered : Bool

@[reducible] def State.rb (s : State) : RB := ⟨s.range, s.batch, s.userTotal, s.flags.filtered⟩

theorem rb_range {s s' : State} (h : s'.rb = s.rb) : s'.range = s.range := congrArg RB.range h
theorem rb_batch {s s' : State} (h : s'.rb = s.rb) : s'.batch = s.batch := congrArg RB.batch h
theorem rb_userTotal {s s' : State} (h : s'.rb = s.rb) : s'.userTotal = s.userTotal :=
  congrArg RB.userTotal h
theorem rb_filtered {s s' : State} (h : s'.rb = s.rb) : s'.flags.filtered = s.flags.filtered :=
  congrArg RB.filtered h

theorem GHook_rb {l : List Nat} {s s' : State} (h : Events.GHook l s s') : s'.rb = s.rb := by
  obtain ⟨⟨_, _, _, _, _, rfl⟩, _⟩ := h
  rfl

theorem clearGuaranteedV1_rb {s s' : State} {l : List Nat}
    (h : clearGuaranteedV1 s l = .ok s') : s'.rb = s.rb := GHook_rb (Events.clearGuaranteedV1_frame h)
theorem clearGuaranteedV2_rb {s s' : State} {l : List Nat}
    (h : clearGuaranteedV2 s l = .ok s') : s'.rb = s.rb := GHook_rb (Events.clearGuaranteedV2_frame h)
theorem restoreGuaranteedV1_rb {s s' : State} {l : List Nat}
    (h : restoreGuaranteedV1 s l = .ok s') : s'.rb = s.rb := GHook_rb (Events.restoreGuaranteedV1_frame h)
theorem restoreGuaranteedV2_rb {s s' : State} {l : List Nat}
    (h : restoreGuaranteedV2 s l = .ok s') : s'.rb = s.rb := GHook_rb (Events.restoreGuaranteedV2_frame h)

theorem refundNftMany_rb : ∀ (l : List Nat) {t t' : Tx},
    refundNftMany l t = .ok t' → t'.s.rb = t.s.rb := by
  intro l t t' h
  obtain ⟨_, _, _, rfl⟩ := refundNftMany_fp h; rfl

/-- `r`, if it succeeds, yields a transaction whose projection is `c0` -/
def KeepsRB (c0 : RB) (r : Res Tx) : Prop := ∀ t', r = .ok t' → t'.s.rb = c0

theorem KeepsRB_error (c0 : RB) (err : Err) : KeepsRB c0 (.error err) := by
  intro t' h; cases h

theorem KeepsRB_ok (c0 : RB) (t : Tx) (h : t.s.rb = c0) : KeepsRB c0 (.ok t) := by
  intro t' h'; cases h'; exact h

theorem KeepsRB_bind {α : Type} (c0 : RB) (x : Res α) (f : α → Res Tx)
    (h : ∀ a, x = .ok a → KeepsRB c0 (f a)) : KeepsRB c0 (x >>= f) := by
  intro t' h'
  obtain ⟨a, ha, hf⟩ := (bind_ok_iff _ _ _).mp h'
  exact h a ha t' hf

theorem KeepsRB_bind_nft (c0 : RB) (hash : List Nat → List Nat) (t0 : Tx) (r : Rng)
    (f : Tx × Rng × LoopStatus → Res Tx)
    (h : ∀ a : Tx × Rng × LoopStatus, a.1.s.rb = t0.s.rb → KeepsRB c0 (f a)) :
    KeepsRB c0 (nftSubstep hash t0 r >>= f) := by
  refine KeepsRB_bind _ _ _ fun a ha => h a ?_
  obtain ⟨_, _, _, _, _, _, h1⟩ := nftSubstep_fp (t' := a.1) (r' := a.2.1) (st := a.2.2) ha
  rw [h1]

theorem KeepsRB_bind_tx (c0 c1 : RB) (x : Res Tx) (f : Tx → Res Tx)
    (hx : ∀ a, x = .ok a → a.s.rb = c1)
    (h : ∀ a : Tx, a.s.rb = c1 → KeepsRB c0 (f a)) : KeepsRB c0 (x >>= f) :=
  KeepsRB_bind _ _ _ fun a ha => h a (hx a ha)

theorem KeepsRB_bind_st (c0 c1 : RB) (x : Res State) (f : State → Res Tx)
    (hx : ∀ a, x = .ok a → a.rb = c1)
    (h : ∀ a : State, a.rb = c1 → KeepsRB c0 (f a)) : KeepsRB c0 (x >>= f) :=
  KeepsRB_bind _ _ _ fun a ha => h a (hx a ha)

/-! ### the endpoints that write the projection: exact effect -/

/-- effect of a `claim` on the projection: none (repeat claim of a vesting variant), or the caller's
    record is erased together with its batch and `userTotal` changes at most for him -/
def rbClaim (s s' : State) (caller : Nat) : Prop :=
  s'.flags.filtered = s.flags.filtered ∧ (∀ a, a ≠ caller → s'.userTotal a = s.userTotal a) ∧
  ((s'.range = s.range ∧ s'.batch = s.batch ∧ s'.userTotal = s.userTotal) ∨
   (∃ r, s.range caller = some r ∧ s'.range = upd s.range caller none ∧
      s'.batch = upd s.batch r.first none))

theorem exec_claim_rb {hash : List Nat → List Nat} {t t' : Tx} {e : Env}
    (h : exec hash t e .claim = .ok t') : rbClaim t.s t'.s e.caller := by
  rcases (exec_fp h).1 with ⟨_, _, _, _, hs⟩ | ⟨_, r, _, _, _, _, _, hr, hut, hs⟩ <;> rw [hs]
  · exact ⟨rfl, fun _ _ => rfl, Or.inl ⟨rfl, rfl, rfl⟩⟩
  · exact ⟨rfl, hut, Or.inr ⟨r, hr, rfl, rfl⟩⟩

theorem filterTickets_rb {t t' : Tx} {e : Env} (h : filterTickets t e = .ok t') :
    t'.s.userTotal = t.s.userTotal ∧
    (t.s.flags.filtered = true → t'.s.flags.filtered = true) ∧
    ∃ fuel first removed f b st,
      runWhile (filterBody t.s.confirmed t.s.lastTicketId) fuel t.c.budget
        ⟨t.s.range, t.s.batch, first, removed⟩ = .ok (f, b, st) ∧
      t'.s.range = f.range ∧ t'.s.batch = f.batch := by
  obtain ⟨hp, x, f, b, hx, hc⟩ := filterTickets_ok_cases t t' e h
  obtain ⟨first, removed, rfl⟩ := filStOf_shape hx
  rcases hc with ⟨hrun, hs⟩ | ⟨hrun, _, hs⟩ <;> rw [hs]
  · exact ⟨rfl, fun hf => absurd (hp.notFiltered.symm.trans hf) nofun, _, _, _, _, _, _, hrun, rfl, rfl⟩
  · exact ⟨rfl, fun _ => rfl, _, _, _, _, _, _, hrun, rfl, rfl⟩

theorem exec_rb {hash : List Nat → List Nat} {t t' : Tx} {e : Env} {c : Call}
    (h : exec hash t e c = .ok t') (hc : c.writesRB = false) : t'.s.rb = t.s.rb := by
  have hw := exec_written h
  cases c
  case addTickets | addTicketsV1 | addTicketsV2 | filter | claim => cases hc
  all_goals exact (congrArg State.rb hw :)

/-- `creditPayments` only touches `bal` -/
theorem step_rb {hash : List Nat → List Nat} {s s' : State} {e : Env} {c : Call} {o : Out}
    (h : step hash s e c = .ok (s', o)) (hc : c.writesRB = false) : s'.rb = s.rb := by
  obtain ⟨m, t, _, _, _, hx, rfl, _⟩ := step_ok_inv h
  exact exec_rb hx hc

theorem step_claim_rb {hash : List Nat → List Nat} {s s' : State} {e : Env} {o : Out}
    (h : step hash s e .claim = .ok (s', o)) : rbClaim s s' e.caller := by
  obtain ⟨m, t, _, _, _, hx, rfl, _⟩ := step_ok_inv h
  exact exec_claim_rb hx

theorem step_filter_rb {hash : List Nat → List Nat} {s s' : State} {e : Env} {o : Out}
    (h : step hash s e .filter = .ok (s', o)) :
    s'.userTotal = s.userTotal ∧ (s.flags.filtered = true → s'.flags.filtered = true) ∧
    ∃ fuel first removed f b st,
      runWhile (filterBody s.confirmed s.lastTicketId) fuel e.budget
        ⟨s.range, s.batch, first, removed⟩ = .ok (f, b, st) ∧
      s'.range = f.range ∧ s'.batch = f.batch := by
  obtain ⟨m, t, _, _, _, hx, rfl, _⟩ := step_ok_inv h
  exact filterTickets_rb hx

end LP

/-
  The recipients.  `step_recipients` bounds, in any state of any variant, the addressees of the
  three output channels (transfers, SFT hand-outs, lock calls) of an accepted call by the sets
  `rcX`, `rcS`, `rcL`; only four endpoints move anything.  Hence an account that is out of the sale (`rc_Out`) receives
  nothing, and from the selection start on it stays out (`rc_Gone`): the filter could still give it
  a record, unless no batch names it, which `rc_BatchOwn` gives in reachable states.
-/
namespace LP
open LP.Events LP.Props LP.Props.C17

def rc_To (X S L : Nat → Prop) (o : Out) : Prop :=
  (∀ p ∈ o.xfers, X p.1) ∧ (∀ p ∈ o.sfts, S p.1) ∧ (∀ p ∈ o.locks, L p.2.1)

theorem rc_To.mono {X S L X' S' L' : Nat → Prop} {o : Out} (h : rc_To X S L o)
    (hX : ∀ x, X x → X' x) (hS : ∀ x, S x → S' x) (hL : ∀ x, L x → L' x) : rc_To X' S' L' o :=
  ⟨fun p hp => hX _ (h.1 p hp), fun p hp => hS _ (h.2.1 p hp), fun p hp => hL _ (h.2.2 p hp)⟩

/-- who may receive a direct transfer from an accepted call `c` made by `e.caller` in state `s` -/
def rcX (s : State) (e : Env) : Call → Nat → Prop
  | .claim, x => x = e.caller ∨ (x = s.lockAddr ∧ s.variant.hasLock = true)
  | .claimPayment, x => x = e.caller
  | .blacklist l, x => x ∈ l ∧ (s.range x).isSome = true ∧ s.blacklist x = false
  | .refundUsers l, x => x ∈ l ∧ (s.range x).isSome = true ∧ s.blacklist x = false
  | _, _ => False

def rcS (s : State) (e : Env) : Call → Nat → Prop
  | .claim, x => x = e.caller ∧ s.variant.hasNft = true
  | _, _ => False

def rcL (s : State) (e : Env) : Call → Nat → Prop
  | .claim, x => x = e.caller ∧ s.variant.hasLock = true
  | _, _ => False

theorem step_blacklist_listed {hash : List Nat → List Nat} {s s' : State} {e : Env} {c : Call}
    {o : Out} {l : List Nat} (hc : c = .blacklist l ∨ c = .refundUsers l)
    (hs : step hash s e c = .ok (s', o)) :
    l.Nodup ∧ ∀ u ∈ l, s.blacklist u = false ∧ (s.range u).isSome = true := by
  have hl : ∃ t : Tx, addUsersToBlacklist (rbTx s e) e l = .ok t := by
    rcases hc with rfl | rfl
    · obtain ⟨t, hx, _⟩ := step_np_out rfl hs
      exact ⟨_, (exec_blacklist_out hx).1⟩
    · obtain ⟨t, hx, _⟩ := step_np_out rfl hs
      exact ⟨_, (exec_refundUsers_out hx).1⟩
  obtain ⟨t, ht⟩ := hl
  obtain ⟨_, _, hnd, hall, _⟩ := (addUsersToBlacklist_ok_iff _ _ _ _).mp ht
  exact ⟨hnd, hall⟩

/-- the addressees of an accepted call: members of `xfersOf`, `sftsOf`, `locksOf` -/
theorem step_recipients {hash : List Nat → List Nat} {s s' : State} {e : Env} {c : Call} {o : Out}
    (h : step hash s e c = .ok (s', o)) : rc_To (rcX s e c) (rcS s e c) (rcL s e c) o := by
  unfold rc_To
  cases hpay : c.pays with
  | false =>
    obtain ⟨h1, h2, h3⟩ := step_quiet h hpay
    rw [h1, h2, h3]
    exact ⟨all_nil, all_nil, all_nil⟩
  | true =>
    obtain ⟨hl, hf⟩ := step_locks_sfts h
    rw [step_xfers h, hl, hf]
    cases c <;> first | (cases hpay; done) | skip
    case claim =>
      refine ⟨fun p hp => ?_, fun p hp => ?_, fun p hp => ?_⟩
      · change p ∈ (if s.variant.vested = true then claimXfersV s s' e else claimXfers s e) at hp
        split at hp
        · unfold claimXfersV at hp
          rcases List.mem_append.mp hp with hp | hp <;> split at hp
          · exact .inl (refundXfers_mem hp).1
          · cases hp
          · cases List.mem_singleton.mp hp; exact .inl rfl
          · cases hp
        · rcases List.mem_append.mp hp with hp | hp
          · rcases List.mem_append.mp hp with hp | hp
            · exact .inl (refundXfers_mem hp).1
            · rcases (lpXfersN_mem hp).2.2 with hq | ⟨hk, hq⟩
              · exact .inl hq
              · exact .inr ⟨hq, hk⟩
          · unfold feeXfers at hp
            split at hp
            · cases List.mem_singleton.mp hp; exact .inl rfl
            · cases hp
      · change p ∈ (if s.variant.vested = true then [] else claimSfts s e.caller) at hp
        split at hp
        · cases hp
        · unfold claimSfts at hp
          split at hp
          · rename_i hn; cases List.mem_singleton.mp hp; exact ⟨rfl, hn⟩
          · cases hp
      · change p ∈ (if s.variant.vested = true then []
          else lpLocksN s e e.caller (winCount s e.caller)) at hp
        split at hp
        · cases hp
        · unfold lpLocksN at hp
          split at hp
          · rename_i hk; cases List.mem_singleton.mp hp; exact ⟨rfl, hk.2.1⟩
          · cases hp
    case claimPayment => exact ⟨fun p hp => paymentXfers_mem hp, all_nil, all_nil⟩
    case blacklist l =>
      have hall := (step_blacklist_listed (.inl rfl) h).2
      refine ⟨fun p hp => ?_, all_nil, all_nil⟩
      have hm : p.1 ∈ l := by
        rcases List.mem_append.mp hp with hp | hp
        · exact (blXfer_mem hp).1
        · split at hp
          · obtain ⟨u, hu, rfl⟩ := List.mem_map.mp hp
            exact (List.mem_filter.mp hu).1
          · cases hp
      exact ⟨hm, (hall _ hm).2, (hall _ hm).1⟩
    case refundUsers l =>
      have hall := (step_blacklist_listed (.inr rfl) h).2
      refine ⟨fun p hp => ?_, all_nil, all_nil⟩
      have hm : p.1 ∈ l := (blXfer_mem hp).1
      exact ⟨hm, (hall _ hm).2, (hall _ hm).1⟩

/-! ## an account that is out of the sale receives nothing from an accepted call -/

def rc_NothingTo (a : Nat) (o : Out) : Prop :=
  (∀ p ∈ o.xfers, p.1 ≠ a) ∧ (∀ p ∈ o.sfts, p.1 ≠ a) ∧ (∀ p ∈ o.locks, p.2.1 ≠ a)

/-- `a` is out of the sale in `s`: no allocation record (never allocated, filtered out, blacklisted
    and filtered, or already settled), not the owner, not the lock contract and — in the two vesting
    variants — no vesting record -/
structure rc_Out (s : State) (a : Nat) : Prop where
  range : s.range a = none
  owner : a ≠ s.owner
  lock : s.variant.hasLock = true → a ≠ s.lockAddr
  vest : s.variant.vested = true → s.userTotal a = 0

/-- the part of the argument that does not look at a claim made by `a` itself -/
theorem rc_nothing_of {hash : List Nat → List Nat} {s s' : State} {e : Env} {c : Call} {o : Out} {a : Nat}
    (h : step hash s e c = .ok (s', o)) (ho : a ≠ s.owner)
    (hl : s.variant.hasLock = true → a ≠ s.lockAddr)
    (hb : ∀ l, (c = .blacklist l ∨ c = .refundUsers l) → a ∈ l →
      (s.range a).isSome = true → s.blacklist a = false → False)
    (hc : c = .claim → e.caller ≠ a) : rc_NothingTo a o := by
  have hr := step_recipients h
  show rc_To (fun x => x ≠ a) (fun x => x ≠ a) (fun x => x ≠ a) o
  refine hr.mono ?_ ?_ ?_
  · intro x hx hxa
    subst hxa
    cases c <;> try exact hx
    case claim =>
      rcases hx with hx | ⟨hx, hk⟩
      · exact hc rfl hx.symm
      · exact hl hk hx
    case claimPayment =>
      have hx' : x = e.caller := hx
      exact ho (hx'.trans (step_claimPayment_owner h))
    case blacklist l => exact hb l (Or.inl rfl) hx.1 hx.2.1 hx.2.2
    case refundUsers l => exact hb l (Or.inr rfl) hx.1 hx.2.1 hx.2.2
  · intro x hx hxa
    subst hxa
    cases c <;> try exact hx
    case claim => exact hc rfl hx.1.symm
  · intro x hx hxa
    subst hxa
    cases c <;> try exact hx
    case claim => exact hc rfl hx.1.symm

/-- any state of any variant, any accepted call by anybody.  A claim by `a` himself is accepted
    without a record only as a repeat vesting claim, and that pays `claimable = 0` -/
theorem rc_Out.nothing {hash : List Nat → List Nat} {s s' : State} {e : Env} {c : Call} {o : Out} {a : Nat}
    (ha : rc_Out s a) (h : step hash s e c = .ok (s', o)) : rc_NothingTo a o := by
  by_cases hca : c = .claim ∧ e.caller = a
  · obtain ⟨rfl, rfl⟩ := hca
    obtain ⟨hv, hcl⟩ := C10.no_range_cannot_claim hash s e (s', o) ha.range h
    obtain ⟨c', hc', hxf, _⟩ := C09.vested_repeat_claim hash s e s' o hv hcl h
    have hc0 : c' = 0 := by
      unfold claimableV claimable2 claimable1 at hc'
      simp only [ha.vest hv, if_true] at hc'
      split at hc' <;> (injection hc' with hc'; exact hc'.symm)
    have hr := step_recipients h
    obtain ⟨hn, hk⟩ := rc_vested_flags hv
    refine ⟨?_, ?_, ?_⟩
    · intro p hp; rw [hxf, hc0] at hp; simp at hp
    · intro p hp
      have := (hr.2.1 p hp).2
      rw [hn] at this; cases this
    · intro p hp
      have := (hr.2.2 p hp).2
      rw [hk] at this; cases this
  · refine rc_nothing_of h ha.owner ha.lock ?_ ?_
    · intro l _ _ hs _
      rw [ha.range] at hs; cases hs
    · intro hc he
      exact hca ⟨hc, he⟩

/-! ## being out of the sale is permanent once winner selection has started -/

def rc_NoBatch (s : State) (a : Nat) : Prop := ∀ id b, s.batch id = some b → b.addr ≠ a

/-- `a` is out of the sale for good: out of the sale, and the filter can no longer give `a` a
    record — it has completed, or no batch names `a` -/
structure rc_Gone (s : State) (a : Nat) : Prop where
  out : rc_Out s a
  batch : s.flags.filtered = true ∨ rc_NoBatch s a

/-- what one iteration of the filter loop does to `range` and `batch`: nothing, or with `b0` the
    batch at the cursor it erases the record of `b0.addr` and the batch, or it moves both down to a
    new first ticket -/
theorem rc_filterBody_cases {conf : Nat → Nat} {last : Nat} {f f' : FilSt} {c : Bool}
    (h : filterBody conf last f = .ok (f', c)) :
    (f'.range = f.range ∧ f'.batch = f.batch) ∨
    ∃ b0, f.batch f.first = some b0 ∧
      ((f'.range = upd f.range b0.addr none ∧ f'.batch = upd f.batch f.first none) ∨
       ∃ nf nl n, f'.range = upd f.range b0.addr (some ⟨nf, nl⟩) ∧
         f'.batch = upd (upd f.batch f.first none) nf (some ⟨b0.addr, n⟩)) := by
  unfold filterBody at h
  split at h
  · cases h; exact Or.inl ⟨rfl, rfl⟩
  · cases hb0 : f.batch f.first with
    | none => simp [hb0] at h
    | some b0 =>
      simp only [hb0, csub] at h
      by_cases hle : conf b0.addr ≤ b0.n
      · simp only [if_pos hle] at h
        by_cases h0 : conf b0.addr = 0
        · rw [if_pos h0] at h
          cases h; exact Or.inr ⟨b0, rfl, Or.inl ⟨rfl, rfl⟩⟩
        · rw [if_neg h0] at h
          by_cases h1 : f.removed > 0 ∨ conf b0.addr < b0.n
          · rw [if_pos h1] at h
            by_cases hrem : f.removed ≤ f.first
            · simp only [if_pos hrem] at h
              cases h; exact Or.inr ⟨b0, rfl, Or.inr ⟨_, _, _, rfl, rfl⟩⟩
            · simp only [if_neg hrem] at h
              cases h
          · rw [if_neg h1] at h
            cases h; exact Or.inl ⟨rfl, rfl⟩
      · simp only [if_neg hle] at h
        cases h

theorem rc_filterBody_keeps (conf : Nat → Nat) (last a : Nat) (f f' : FilSt) (c : Bool)
    (hp : f.range a = none ∧ ∀ id b, f.batch id = some b → b.addr ≠ a)
    (h : filterBody conf last f = .ok (f', c)) :
    f'.range a = none ∧ ∀ id b, f'.batch id = some b → b.addr ≠ a := by
  obtain ⟨hr, hb⟩ := hp
  rcases rc_filterBody_cases h with ⟨h1, h2⟩ | ⟨b0, hb0, ⟨h1, h2⟩ | ⟨nf, nl, n, h1, h2⟩⟩
  · rw [h1, h2]; exact ⟨hr, hb⟩
  · have hne : a ≠ b0.addr := fun h' => hb _ _ hb0 h'.symm
    refine ⟨by rw [h1, upd_other _ _ _ _ hne]; exact hr, ?_⟩
    intro id b hid
    rw [h2, upd_apply] at hid
    split at hid
    · cases hid
    · exact hb id b hid
  · have hne : a ≠ b0.addr := fun h' => hb _ _ hb0 h'.symm
    refine ⟨by rw [h1, upd_other _ _ _ _ hne]; exact hr, ?_⟩
    intro id b hid
    rw [h2, upd_apply] at hid
    split at hid
    · cases hid; exact fun h' => hne h'.symm
    · rw [upd_apply] at hid
      split at hid
      · cases hid
      · exact hb id b hid

theorem rc_Gone.step {hash : List Nat → List Nat} {s s' : State} {e : Env} {c : Call} {o : Out} {a : Nat}
    (hg : rc_Gone s a) (hv : validPeriods s.cfg = true) (hr : s.cfg.sel ≤ e.round)
    (h : step hash s e c = .ok (s', o)) : rc_Gone s' a := by
  have ho := step_owner h
  have hla := (step_lockAddr h).1
  have hvar := step_variant h
  have key : s'.range a = none ∧ (s.variant.vested = true → s'.userTotal a = 0) ∧
      (s'.flags.filtered = true ∨ rc_NoBatch s' a) := by
    rcases ar_step_cases h with ⟨L, hL⟩ | rfl | rfl | ⟨_, hw⟩
    · exact absurd (ar_step_alloc hL h).1 (be_stage_late hv hr).1
    · have hnf := (C06.filter_gate hash s e _ h).2
      obtain ⟨hut, _, fuel, first, removed, f, b, st, hrun, hrg, hbt⟩ := step_filter_rb h
      rcases hg.batch with hf | hn
      · rw [hnf] at hf; cases hf
      · have := runWhile_preserves
          (fun y : FilSt => y.range a = none ∧ ∀ id b, y.batch id = some b → b.addr ≠ a) _
          (fun y y' c hb hy => rc_filterBody_keeps _ _ a y y' c hy hb) _ _ _ _ _ _ hrun
          ⟨hg.out.range, (show ∀ id b, s.batch id = some b → b.addr ≠ a from hn)⟩
        refine ⟨by rw [hrg]; exact this.1, fun hvs => by rw [hut]; exact hg.out.vest hvs,
          Or.inr ?_⟩
        unfold rc_NoBatch; rw [hbt]; exact this.2
    · obtain ⟨hfl, hut, hcase⟩ := step_claim_rb h
      rcases hcase with ⟨h1, h2, h3⟩ | ⟨r, hrc, h1, h2⟩
      · refine ⟨by rw [h1]; exact hg.out.range, fun hvs => by rw [h3]; exact hg.out.vest hvs, ?_⟩
        rcases hg.batch with hf | hn
        · exact Or.inl (by rw [hfl]; exact hf)
        · exact Or.inr (by unfold rc_NoBatch; rw [h2]; exact hn)
      · have hne : a ≠ e.caller := by
          intro h'; rw [← h', hg.out.range] at hrc; cases hrc
        refine ⟨by rw [h1, upd_other _ _ _ _ hne]; exact hg.out.range,
          fun hvs => by rw [hut a hne]; exact hg.out.vest hvs, ?_⟩
        rcases hg.batch with hf | hn
        · exact Or.inl (by rw [hfl]; exact hf)
        · refine Or.inr ?_
          intro id b hid
          rw [h2, upd_apply] at hid
          split at hid
          · cases hid
          · exact hn id b hid
    · have hrb := step_rb h hw
      refine ⟨by rw [rb_range hrb]; exact hg.out.range,
        fun hvs => by rw [rb_userTotal hrb]; exact hg.out.vest hvs, ?_⟩
      rcases hg.batch with hf | hn
      · exact Or.inl (by rw [rb_filtered hrb]; exact hf)
      · exact Or.inr (by unfold rc_NoBatch; rw [rb_batch hrb]; exact hn)
  exact ⟨⟨key.1, by rw [ho]; exact hg.out.owner, by rw [hvar, hla]; exact hg.out.lock,
    by rw [hvar]; exact key.2.1⟩, key.2.2⟩

theorem rc_gone_later {P : Env → Call → Prop} {hash : List Nat → List Nat} {s s1 : State} {r r1 : Nat}
    {a : Nat} (hv : validPeriods s.cfg = true) (hsel : s.cfg.sel ≤ r) (hg : rc_Gone s a)
    (hl : be_Later P hash s r s1 r1) : rc_Gone s1 a ∧ be_Frozen s s1 r1 :=
  be_Later.closed (R := fun x rx => rc_Gone x a ∧ be_Frozen s x rx)
    (fun _ _ e _ _ _ ih h1 _ h3 =>
      ⟨ih.1.step ih.2.valid (by rw [ih.2.sel]; exact Nat.le_trans ih.2.reached h1) h3, ih.2.step h1 h3⟩)
    (fun _ _ _ ih h1 => ⟨ih.1, ih.2.wait h1⟩) ⟨hg, hv, rfl, hsel, rfl⟩ hl

theorem rc_nothing_later {P : Env → Call → Prop} {hash : List Nat → List Nat} {s s1 s2 : State}
    {r r1 : Nat} {a : Nat} (hv : validPeriods s.cfg = true) (hsel : s.cfg.sel ≤ r) (hg : rc_Gone s a)
    (hl : be_Later P hash s r s1 r1) {e : Env} {c : Call} {o : Out}
    (h : step hash s1 e c = .ok (s2, o)) : rc_NothingTo a o :=
  (rc_gone_later hv hsel hg hl).1.out.nothing h

theorem rc_roundsFrom_max {r m : Nat} {p : Hist} (hr : RoundsFrom r p)
    (hm : ∀ x ∈ p, m ≤ x.1.round) : RoundsFrom (max r m) p := by
  cases p with
  | nil => trivial
  | cons x rest =>
    obtain ⟨e, c⟩ := x
    exact ⟨Nat.max_le.mpr ⟨hr.1, hm (e, c) (List.mem_cons_self ..)⟩, hr.2⟩

/-- `rc_nothing_later` for `run`; applied to the prefixes of a history it covers every transaction
    of the history itself -/
theorem rc_nothing_run {hash : List Nat → List Nat} {s s2 : State} {r : Nat} {a : Nat}
    (hv : validPeriods s.cfg = true) (hsel : s.cfg.sel ≤ r) (hg : rc_Gone s a)
    (p : Hist) (hr : RoundsFrom r p) {e : Env} {c : Call} {o : Out}
    (h : step hash (run hash s p) e c = .ok (s2, o)) : rc_NothingTo a o := by
  obtain ⟨r', hl, _⟩ := be_later_run (P := fun _ _ => True) hash p s r hr (fun _ _ => trivial)
  exact rc_nothing_later hv hsel hg hl h

/-! ## every batch belongs to the record of its address (all reachable states) -/

def rc_BO (range : Nat → Option Range) (batch : Nat → Option Batch) : Prop :=
  ∀ id b, batch id = some b → ∃ r, range b.addr = some r ∧ r.first = id

def rc_BatchOwn (s : State) : Prop := rc_BO s.range s.batch

/-- a batch stored elsewhere than at the first ticket of `u`'s record belongs to somebody else -/
theorem rc_BO.ne {range : Nat → Option Range} {batch : Nat → Option Batch} (h : rc_BO range batch)
    {u : Nat} {r : Range} (hr : range u = some r) {id : Nat} {b : Batch} (hid : batch id = some b)
    (hne : ¬ id = r.first) : b.addr ≠ u := by
  intro h'
  obtain ⟨r', hr', hf⟩ := h id b hid
  rw [h', hr] at hr'
  injection hr' with hr'
  rw [hr'] at hne
  exact hne hf.symm

theorem rc_BO_erase {range : Nat → Option Range} {batch : Nat → Option Batch} (h : rc_BO range batch)
    {u : Nat} {r : Range} (hr : range u = some r) :
    rc_BO (upd range u none) (upd batch r.first none) := by
  intro id b hid
  rw [upd_apply] at hid
  split at hid
  · cases hid
  · rename_i hne
    obtain ⟨r', hr', hf⟩ := h id b hid
    exact ⟨r', by rw [upd_other _ _ _ _ (h.ne hr hid hne)]; exact hr', hf⟩

theorem rc_BO_move {range : Nat → Option Range} {batch : Nat → Option Batch} (h : rc_BO range batch)
    {u : Nat} {r : Range} (hr : range u = some r) (nf nl n : Nat) :
    rc_BO (upd range u (some ⟨nf, nl⟩)) (upd (upd batch r.first none) nf (some ⟨u, n⟩)) := by
  intro id b hid
  rw [upd_apply] at hid
  split at hid
  · rename_i hid'
    cases hid
    exact ⟨⟨nf, nl⟩, upd_same _ _ _, hid'.symm⟩
  · rw [upd_apply] at hid
    split at hid
    · cases hid
    · rename_i hne
      obtain ⟨r', hr', hf⟩ := h id b hid
      exact ⟨r', by rw [upd_other _ _ _ _ (h.ne hr hid hne)]; exact hr', hf⟩

theorem rc_BO_create {range : Nat → Option Range} {batch : Nat → Option Batch} (h : rc_BO range batch)
    {a : Nat} (hn : range a = none) (f l n : Nat) :
    rc_BO (upd range a (some ⟨f, l⟩)) (upd batch f (some ⟨a, n⟩)) := by
  intro id b hid
  rw [upd_apply] at hid
  split at hid
  · rename_i hid'
    cases hid
    exact ⟨_, upd_same _ _ _, hid'.symm⟩
  · obtain ⟨r', hr', hf⟩ := h id b hid
    have hu : b.addr ≠ a := fun h' => by rw [h', hn] at hr'; cases hr'
    exact ⟨r', by rw [upd_other _ _ _ _ hu]; exact hr', hf⟩

theorem rc_tryCreateTickets_bo {s : State} (hb : rc_BatchOwn s) (a n : Nat) :
    SatU (tryCreateTickets s a n) rc_BatchOwn :=
  (tryCreateTickets_spec s a n).mono fun s1 ⟨hn, hs1⟩ => by
    subst hs1
    exact rc_BO_create hb hn _ _ _

theorem rc_createMany_bo : ∀ (l : List (Nat × Nat)) {s : State}, rc_BatchOwn s →
    SatU (createMany l s) rc_BatchOwn
  | [], _, hb => hb
  | (a, n) :: rest, s, hb => by
    unfold createMany
    have h1 := rc_tryCreateTickets_bo hb a n
    cases hs : tryCreateTickets s a n with
    | error e => rw [hs] at h1; exact h1
    | ok s1 => rw [hs] at h1; exact rc_createMany_bo rest h1

theorem rc_filterBody_bo (conf : Nat → Nat) (last : Nat) (f f' : FilSt) (c : Bool)
    (hp : rc_BO f.range f.batch) (h : filterBody conf last f = .ok (f', c)) :
    rc_BO f'.range f'.batch := by
  rcases rc_filterBody_cases h with ⟨h1, h2⟩ | ⟨b0, hb0, ⟨h1, h2⟩ | ⟨nf, nl, n, h1, h2⟩⟩
  · rw [h1, h2]; exact hp
  · obtain ⟨r0, hr0, hf0⟩ := hp _ _ hb0
    rw [h1, h2, ← hf0]
    exact rc_BO_erase hp hr0
  · obtain ⟨r0, hr0, hf0⟩ := hp _ _ hb0
    rw [h1, h2, ← hf0]
    exact rc_BO_move hp hr0 nf nl n

theorem rc_init_bo {v : Variant} {a : InitArgs} {e : Env} {s : State} (h : init v a e = .ok s) :
    rc_BatchOwn s := by
  obtain ⟨_, rfl⟩ := init_ok h
  intro id b hid
  cases hid

theorem rc_BatchOwn.step {hash : List Nat → List Nat} {s s' : State} {e : Env} {c : Call} {o : Out}
    (hb : rc_BatchOwn s) (h : step hash s e c = .ok (s', o)) : rc_BatchOwn s' := by
  -- as far as records and batches go, the three allocation endpoints are `createMany`
  have alloc : ∀ {L : List (Nat × Nat)}, ar_allocList c = some L → rc_BatchOwn s' := fun hL => by
    obtain ⟨m, t, _, _, _, hx, rfl, _⟩ := step_ok_inv h
    obtain ⟨_, z', hz, hr, hb', _⟩ := ar_exec_alloc hL hx
    unfold rc_BatchOwn
    rw [hr, hb']
    exact (rc_createMany_bo _ (s := (tx0 s e).s) hb).of_ok hz
  rcases ar_step_cases h with ⟨L, hL⟩ | rfl | rfl | ⟨_, hw⟩
  · exact alloc hL
  · obtain ⟨_, _, fuel, first, removed, f, b, st, hrun, hrg, hbt⟩ := step_filter_rb h
    have := runWhile_preserves (fun y : FilSt => rc_BO y.range y.batch) _
      (fun y y' c hb' hy => rc_filterBody_bo _ _ y y' c hy hb') _ _ _ _ _ _ hrun
      (show rc_BO s.range s.batch from hb)
    unfold rc_BatchOwn
    rw [hrg, hbt]; exact this
  · obtain ⟨_, _, hcase⟩ := step_claim_rb h
    unfold rc_BatchOwn
    rcases hcase with ⟨h1, h2, _⟩ | ⟨r, hrc, h1, h2⟩
    · rw [h1, h2]; exact hb
    · rw [h1, h2]; exact rc_BO_erase hb hrc
  · have hrb := step_rb h hw
    unfold rc_BatchOwn
    rw [rb_range hrb, rb_batch hrb]; exact hb

theorem rc_bo_covered {hash : List Nat → List Nat} {s : State} {r : Nat} (h : be_Covered hash s r) :
    rc_BatchOwn s :=
  be_covered_induct (Q := rc_BatchOwn) (fun _ _ _ _ hi => rc_init_bo hi)
    (fun _ _ _ _ _ _ _ _ _ hst hq => hq.step hst) h

theorem rc_BatchOwn.noBatch {s : State} (hb : rc_BatchOwn s) {a : Nat} (hr : s.range a = none) :
    rc_NoBatch s a := by
  intro id b hid hba
  obtain ⟨r, hr', _⟩ := hb id b hid
  rw [hba, hr] at hr'
  cases hr'

theorem rc_Out.gone {hash : List Nat → List Nat} {s : State} {r : Nat} (h : be_Covered hash s r)
    {a : Nat} (ha : rc_Out s a) : rc_Gone s a :=
  ⟨ha, Or.inr ((rc_bo_covered h).noBatch ha.range)⟩

/-! ## a blacklisted participant receives nothing (C10) -/

/-- `be_Good` (the blacklist invariants) holds in every reachable state of the eight launchpads -/
theorem rc_blacklisted_nothing {hash : List Nat → List Nat} {s s' : State} {e : Env} {c : Call}
    {o : Out} {a : Nat} (hg : be_Good s) (hb : s.blacklist a = true) (ho : a ≠ s.owner)
    (hl : s.variant.hasLock = true → a ≠ s.lockAddr)
    (h : step hash s e c = .ok (s', o)) : rc_NothingTo a o := by
  refine rc_nothing_of h ho hl ?_ ?_
  · intro l _ _ _ hnb
    rw [hb] at hnb; cases hnb
  · intro hc he
    subst hc
    obtain ⟨err, herr⟩ := hg.claim_rejected hash e (by rw [he]; exact hb)
    rw [herr] at h; cases h

theorem rc_ids_later {P : Env → Call → Prop} {hash : List Nat → List Nat} {s s1 : State} {r r1 : Nat}
    (hl : be_Later P hash s r s1 r1) :
    s1.owner = s.owner ∧ s1.variant = s.variant ∧ s1.lockAddr = s.lockAddr :=
  hl.invariant (Q := fun x => x.owner = s.owner ∧ x.variant = s.variant ∧ x.lockAddr = s.lockAddr)
    (fun _ _ _ _ _ hq hst => ⟨(step_owner hst).trans hq.1, (step_variant hst).trans hq.2.1,
      (step_lockAddr hst).1.trans hq.2.2⟩)
    ⟨rfl, rfl, rfl⟩

/-- from the selection start on the blacklist is frozen -/
theorem rc_blacklisted_nothing_later {hash : List Nat → List Nat} {s s1 s2 : State} {r r1 : Nat}
    {a : Nat} (hc : be_Covered hash s r) (hb : s.blacklist a = true) (hsel : s.cfg.sel ≤ r)
    (ho : a ≠ s.owner) (hl : s.variant.hasLock = true → a ≠ s.lockAddr)
    (hlat : be_Later be_HistOK hash s r s1 r1) {e : Env} {c : Call} {o : Out}
    (h : step hash s1 e c = .ok (s2, o)) : rc_NothingTo a o := by
  have F := be_family_all hash
  have hfr := be_frozen_later (F.good hc).valid hsel hlat
  obtain ⟨i1, i2, i3⟩ := rc_ids_later hlat
  exact rc_blacklisted_nothing (F.good (F.later hc hlat)) (by rw [hfr.bl]; exact hb)
    (by rw [i1]; exact ho) (by rw [i2, i3]; exact hl) h

end LP
