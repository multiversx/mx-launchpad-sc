import LP.Proofs.ReachOfLp
import LP.Proofs.ReachV2
import LP.Proofs.ReachPlain
import LP.Proofs.ReachNft
import LP.Proofs.Frame
/-
  For `LP/Props/AllVariants2.lean` (C03, C11 stated once for all eight contracts): what the call
  that completes the selection of winning tickets leaves is one record, `Completion`, produced from
  each family's completion lemma in `ReachOfA.completion`; the statements of C03 and C11 are read
  off it.  `maxWinners_eq_reserveOf`: the number of tickets a deposit is computed from is the
  reserve of `ReachOfLp`.
-/
namespace LP.Props.AllVariants
open LP LP.FY
open LP.Props.C02 (LpCover maxWinners)

theorem maxWinners_eq_reserveOf {hash : List Nat → List Nat} {v : Variant} {a0 : InitArgs} {s : State}
    {r : Nat} (h : ReachOfA hash v a0 s r) : maxWinners s = reserveOf v s := by
  unfold maxWinners reservedForDeposit reserveOf
  rw [reachOfA_variant h]
  split <;> rfl

/-- the endpoint whose completion finishes the selection of winning TICKETS (for `nft` the NFT draw
    `selectNft` follows; it does not touch tickets) -/
def completionCall : Variant → Call
  | .base | .locked | .nft => .select
  | .guarV2 | .migration | .lockedGuar | .guarV1 => .distribute
  | .nftGuar => .secondary

/-- "this accepted call completed the step" in the form each family states it: the completion flag
    is set (`select`: `selected`; v2 `distribute`: `additional`), or — the four contracts with the
    v1 distribution loop — the call returns `[0]` (an interrupted call returns `[1]`; a call whose
    leftover loop spins is rejected: `C03_leftover_v1_may_spin`) -/
def Completed (v : Variant) (s' : State) (o : Out) : Prop :=
  match v with
  | .base | .locked | .nft => s'.flags.selected = true
  | .guarV2 => s'.flags.additional = true
  | .migration | .lockedGuar | .guarV1 | .nftGuar => o.ret = [0]

/-- winning tickets guaranteed to the holder `u` of the guarantee record `st`:
    v2 — `(calcV2 …).1 = min confirmed (guarantees whose confirmation threshold is met)`;
    v1 (four contracts) — `min (qualified guarantee (calcV1 …).1) confirmed` -/
def guaranteeOf (v : Variant) (s : State) (u : Nat) (st : UTS) : Nat :=
  match v with
  | .guarV2 => (calcV2 st.infos (s.confirmed u)).1
  | _ => min (calcV1 st (s.confirmed u) s.minConfirmed).1 (s.confirmed u)

/-- the state `s'` left by the completing call, as each family's invariant describes it
    (`T0` = winners configured at deployment) -/
structure Completion (v : Variant) (T0 : Nat) (s s' : State) : Prop where
  count : countTrue s'.status s'.lastTicketId = s'.nrWinning
  nrw : s'.nrWinning = min T0 s'.lastTicketId
  proceeds : s'.claimablePayment = s'.price * s'.nrWinning
  flagsIn : ∀ t, s'.status t = true → 1 ≤ t ∧ t ≤ s'.lastTicketId
  selected : s'.flags.selected = true
  pricePos : 0 < s'.price
  done : v ≠ .nft → AllDone s'
  keeps : v.v1Alloc = true → ∀ t, s.status t = true → s'.status t = true
  hon : v.hasGuaranteed = true → ∀ u st, s'.uts u = some st →
    (v = .guarV2 → ∃ rg, s'.range u = some rg) → guaranteeOf v s' u st ≤ winCountOf s' u

theorem v2_completion {T0 : Nat} {hash : List Nat → List Nat} {s s' : State} {e : Env} {o : Out}
    {r : Nat} (hwf : WF2 T0 s r) (hs : step hash s e .distribute = .ok (s', o))
    (hdone : s'.flags.additional = true) : Completion .guarV2 T0 s s' := by
  obtain ⟨hwf', _, _, hnrw, hl, htg, hfin⟩ := v2_distribute_full hwf hs
  obtain ⟨h1, h2, h3⟩ := hfin hdone
  have hle := hwf.tgLe
  have hF : PhF s'.gcore := v2_phase_F hwf'.phase hdone
  refine ⟨h2, by rw [hl]; omega, h3, hF.flagsIn, hF.d.selected, hwf'.pricePos,
    fun _ => ⟨hF.d.selected, hdone⟩, nofun, fun _ u st hu hrg => ?_⟩
  obtain ⟨rg, hrg⟩ := hrg rfl
  show (calcV2 st.infos (s'.confirmed u)).1 ≤ winCountOf s' u
  rw [winCountOf_some hrg]; exact hF.hon u st rg hu hrg

/-- the one case split: each family's completion lemma, on its invariant -/
theorem ReachOfA.completion {hash : List Nat → List Nat} {v : Variant} {a0 : InitArgs} {s : State}
    {r : Nat} (h : ReachOfA hash v a0 s r) {e : Env} {s' : State} {o : Out} (hr : r ≤ e.round)
    (hs : step hash s e (completionCall v) = .ok (s', o)) (hc : Completed v s' o) :
    Completion v a0.nrWinning s s' := by
  have hpr : ∀ {c : Call}, step hash s e c = .ok (s', o) → (∀ tok a, c ≠ .setTicketPrice tok a) →
      0 < s.price → 0 < s'.price := fun hx hne hp => (price_frame hx hne).1 ▸ hp
  cases v <;> simp only [ReachOfA, completionCall, Completed] at h hs hc
  case base | locked =>
    have hwf := reach_WF (by first | exact .inl rfl | exact .inr rfl) h
    obtain ⟨k1, k2, k3, k4⟩ := rb_select_completion hwf hs hc
    exact ⟨k1, k2, k3, k4, hc, hpr hs (fun _ _ => nofun) hwf.pricePos, fun _ => ⟨hc, (step_flags_gain hs).2 hwf.add⟩,
      nofun, nofun⟩
  case nft =>
    have hwf := nf_reach_WF h
    obtain ⟨k1, k2, k3, k4⟩ := nf_select_completion hwf hs hc
    exact ⟨k1, k2, k3, k4, hc, hpr hs (fun _ _ => nofun) hwf.pricePos, fun hq => absurd rfl hq, nofun, nofun⟩
  case guarV1 =>
    have hwf := g1_reach_WF h
    obtain ⟨k1, k2, _, k4, k5, k6, k7, k8, k9, k10⟩ := v1_distribute_completion hwf.toInv hs hc
    exact ⟨k5, k6, k7, k8, k1, k4 ▸ hwf.pricePos, fun _ => ⟨k1, k2⟩, fun _ => k9,
      fun _ u st hu _ => k10 u st hu⟩
  case guarV2 => exact v2_completion (reach_WF2 h) hs hc
  case migration | lockedGuar =>
    have hwf := v1_reach_WF (by first | exact .inl rfl | exact .inr rfl) h
    obtain ⟨k1, k2, _, k4, k5, k6, k7, k8, k9, k10⟩ := v1_distribute_completion hwf.toInv hs hc
    exact ⟨k5, k6, k7, k8, k1, k4 ▸ hwf.pricePos, fun _ => ⟨k1, k2⟩, fun _ => k9,
      fun _ u st hu _ => k10 u st hu⟩
  case nftGuar =>
    have hwf := ng_reach_WF h
    obtain ⟨k1, k2, _, k4, k5, k6, k7, k8, k9, k10, _⟩ := ng_secondary_completion hwf hr hs hc
    exact ⟨k5, k6, k7, k8, k1, k4 ▸ hwf.pricePos, fun _ => ⟨k1, k2⟩, fun _ => k9,
      fun _ u st hu _ => k10 u st hu⟩

end LP.Props.AllVariants
