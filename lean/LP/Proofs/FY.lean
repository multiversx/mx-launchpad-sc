import LP.Common
import LP.Proofs.EndpointDef
/-
  The base lottery (`shuffleStep`) is a sparse, partial Fisher–Yates shuffle.
  `R n i status posToId arr` relates the two storage maps to the textbook array `arr` before step
  `i`; one `shuffleStep` is one swap (`R_step`), so the marked ids are the first `i-1` entries of a
  permutation of `1..n` (`R.inside`, `R.count_eq`).  On residue vectors the textbook selection
  `tbSel` is a bijection onto the ordered selections of distinct tickets (`tbSel_inj`,
  `tbSel_surj`), which turns the exchange of two tickets into an involution of the residue vectors
  (`resSwap_spec`).  Then the draws of `Rng.next` in closed form (`drawAt_closed`), and the
  endpoint's loop, on its core state, as `fySteps` over the generator's draws (`selCore_run`).  The
  property theorems are in LP/Props/C03base.lean, C05.lean.
-/
namespace LP.FY

/-- `shuffleStep n` at positions `pos, pos+1, …`, one raw draw each -/
def fySteps (n : Nat) : (Nat → Bool) × (Nat → Nat) → Nat → List Nat → (Nat → Bool) × (Nat → Nat)
  | s, _, [] => s
  | s, pos, r :: rs => fySteps n (shuffleStep n s.1 s.2 pos r) (pos + 1) rs

/-- `a`, `b` are 0-based -/
def swapAt (arr : List Nat) (a b : Nat) : List Nat :=
  (arr.set a (arr.getD b 0)).set b (arr.getD a 0)

/-- textbook Fisher–Yates step `i` (1-based) over `n` entries -/
def tbStep (n : Nat) (arr : List Nat) (i raw : Nat) : List Nat :=
  swapAt arr (i - 1) (i + raw % (n - i + 1) - 1)

def tbSteps (n : Nat) : List Nat → Nat → List Nat → List Nat
  | arr, _, [] => arr
  | arr, i, r :: rs => tbSteps n (tbStep n arr i r) (i + 1) rs

/-- the textbook algorithm from the identity -/
def tbRun (n : Nat) (raws : List Nat) : List Nat := tbSteps n (List.range' 1 n) 1 raws

def tbSel (n : Nat) (raws : List Nat) : List Nat := (tbRun n raws).take raws.length

theorem getD_lt (l : List Nat) (p : Nat) (h : p < l.length) : l.getD p 0 = l[p] := by
  rw [List.getD_eq_getElem?_getD, List.getElem?_eq_getElem h, Option.getD_some]

theorem getD_set_ne (l : List Nat) (a v p : Nat) (h : p ≠ a) : (l.set a v).getD p 0 = l.getD p 0 := by
  rw [List.getD_eq_getElem?_getD, List.getElem?_set_ne h.symm, ← List.getD_eq_getElem?_getD]

theorem getD_set_self (l : List Nat) (a v : Nat) (h : a < l.length) : (l.set a v).getD a 0 = v := by
  rw [List.getD_eq_getElem?_getD, List.getElem?_set_self h, Option.getD_some]

theorem getD_take (l : List Nat) (m p : Nat) (h : p < m) : (l.take m).getD p 0 = l.getD p 0 := by
  simp only [List.getD_eq_getElem?_getD, List.getElem?_take, if_pos h]

theorem take_succ_getD (l : List Nat) (m : Nat) (h : m < l.length) :
    l.take (m + 1) = l.take m ++ [l.getD m 0] := by
  rw [List.take_add_one, List.getElem?_eq_getElem h, getD_lt l m h]; rfl

theorem mem_take_iff_getD (l : List Nat) (m t : Nat) :
    t ∈ l.take m ↔ ∃ p, p < m ∧ p < l.length ∧ l.getD p 0 = t := by
  rw [List.mem_take_iff_getElem]
  constructor
  · rintro ⟨p, hp, e⟩
    exact ⟨p, by omega, by omega, (getD_lt l p (by omega)).trans e⟩
  · rintro ⟨p, h1, h2, e⟩
    exact ⟨p, by omega, (getD_lt l p h2).symm.trans e⟩

theorem mem_iff_getD (l : List Nat) (t : Nat) :
    t ∈ l ↔ ∃ p, p < l.length ∧ l.getD p 0 = t := by
  rw [List.mem_iff_getElem]
  constructor
  · rintro ⟨p, h, e⟩; exact ⟨p, h, (getD_lt l p h).trans e⟩
  · rintro ⟨p, h, e⟩; exact ⟨p, h, (getD_lt l p h).symm.trans e⟩

theorem getD_range' (n p : Nat) (h : p < n) : (List.range' 1 n).getD p 0 = p + 1 := by
  rw [getD_lt _ _ (by simpa using h), List.getElem_range']; omega

theorem getD_inj (l : List Nat) (hn : l.Nodup) (p q : Nat) (hp : p < l.length) (hq : q < l.length)
    (e : l.getD p 0 = l.getD q 0) : p = q := (List.getD_inj hp hq hn).mp e

@[simp] theorem length_swapAt (arr : List Nat) (a b : Nat) : (swapAt arr a b).length = arr.length := by
  simp [swapAt]

theorem swapAt_perm (arr : List Nat) (a b : Nat) (ha : a < arr.length) (hb : b < arr.length) :
    (swapAt arr a b).Perm arr := by
  unfold swapAt
  rw [getD_lt arr a ha, getD_lt arr b hb]
  exact List.set_set_perm ha hb

theorem swapAt_oob (arr : List Nat) (a b : Nat) (ha : arr.length ≤ a) (hb : arr.length ≤ b) :
    swapAt arr a b = arr := by
  unfold swapAt
  rw [List.set_eq_of_length_le (by simpa using hb), List.set_eq_of_length_le ha]

theorem getD_swapAt (arr : List Nat) (a b p : Nat) (ha : a < arr.length) (hb : b < arr.length) :
    (swapAt arr a b).getD p 0 =
      if p = b then arr.getD a 0 else if p = a then arr.getD b 0 else arr.getD p 0 := by
  unfold swapAt
  split
  · subst p; exact getD_set_self _ _ _ (by rwa [List.length_set])
  · rw [getD_set_ne _ _ _ _ ‹_›]
    split
    · subst p; exact getD_set_self _ _ _ ha
    · exact getD_set_ne _ _ _ _ ‹_›

theorem getD_swapAt_ne (arr : List Nat) (a b p : Nat) (h1 : p ≠ a) (h2 : p ≠ b) :
    (swapAt arr a b).getD p 0 = arr.getD p 0 := by
  unfold swapAt; rw [getD_set_ne _ _ _ _ h2, getD_set_ne _ _ _ _ h1]

theorem getD_swapAt_left (arr : List Nat) (a b : Nat) (ha : a < arr.length) (hb : b < arr.length) :
    (swapAt arr a b).getD a 0 = arr.getD b 0 := by
  rw [getD_swapAt arr a b a ha hb]
  split
  · subst a; rfl
  · rw [if_pos rfl]

theorem take_swapAt (arr : List Nat) (a b : Nat) (hab : a ≤ b) (hb : b < arr.length) :
    (swapAt arr a b).take (a + 1) = arr.take a ++ [arr.getD b 0] := by
  rw [take_succ_getD _ _ (by rw [length_swapAt]; omega), getD_swapAt_left arr a b (by omega) hb]
  unfold swapAt
  rw [List.take_set_of_le hab, List.take_set_of_le (Nat.le_refl a)]

/-- an ordered selection of `k` distinct tickets out of `1..n` -/
def IsSel (n k : Nat) (sel : List Nat) : Prop :=
  sel.length = k ∧ sel.Nodup ∧ ∀ t ∈ sel, 1 ≤ t ∧ t ≤ n

theorem take_isSel {n k : Nat} {arr : List Nat} (hp : arr.Perm (List.range' 1 n)) (hk : k ≤ n) :
    IsSel n k (arr.take k) := by
  refine ⟨?_, (hp.nodup_iff.mpr (List.nodup_range' 1)).sublist (List.take_sublist _ _), ?_⟩
  · rw [List.length_take, hp.length_eq, List.length_range']; omega
  · intro t ht
    have := hp.mem_iff.mp (List.mem_of_mem_take ht)
    rw [List.mem_range'_1] at this; omega

/-- `arr` is the textbook array before step `i` (1-based); the sparse maps `status`/`posToId`
    represent its not-yet-fixed part (positions `i..n`) and the set of already selected ids. -/
structure R (n i : Nat) (status : Nat → Bool) (posToId : Nat → Nat) (arr : List Nat) : Prop where
  perm : arr.Perm (List.range' 1 n)
  pos : ∀ p, i ≤ p → p ≤ n → idFromPos posToId p = arr.getD (p - 1) 0
  stat : ∀ t, status t = true ↔ t ∈ arr.take (i - 1)

theorem R.len {n i st pi arr} (h : R n i st pi arr) : arr.length = n := by
  have := h.perm.length_eq; simpa using this

theorem R.nodup {n i st pi arr} (h : R n i st pi arr) : arr.Nodup :=
  h.perm.nodup_iff.mpr (List.nodup_range' 1)

theorem R.mem {n i st pi arr} (h : R n i st pi arr) (t : Nat) : t ∈ arr ↔ 1 ≤ t ∧ t ≤ n := by
  rw [h.perm.mem_iff, List.mem_range'_1]; omega

theorem R.getD_range {n i st pi arr} (h : R n i st pi arr) (p : Nat) (hp : p < n) :
    1 ≤ arr.getD p 0 ∧ arr.getD p 0 ≤ n := by
  rw [← h.mem]; rw [mem_iff_getD]; exact ⟨p, by rw [h.len]; exact hp, rfl⟩

theorem R_init (n : Nat) : R n 1 (fun _ => false) (fun _ => 0) (List.range' 1 n) where
  perm := List.Perm.refl _
  pos := by
    intro p h1 h2
    rw [getD_range' n (p - 1) (by omega)]
    simp [idFromPos]; omega
  stat := by intro t; simp

theorem inRange_eq (raw i n : Nat) (h : i ≤ n) : inRange raw i (n + 1) = i + raw % (n - i + 1) := by
  unfold inRange
  rw [if_neg (by omega)]
  congr 2; omega

theorem idFromPos_upd (pi : Nat → Nat) (j v p : Nat) (hv : v ≠ 0) :
    idFromPos (upd pi j v) p = if p = j then v else idFromPos pi p := by
  unfold idFromPos
  by_cases hp : p = j
  · rw [upd_apply, if_pos hp, if_pos hp, if_neg hv]
  · rw [upd_other _ _ _ _ hp, if_neg hp]

/-- One `shuffleStep` at position `i` is the textbook swap of entries `i-1` and `j-1`, `j` the
    drawn position: the winner `arr[j-1]` joins the fixed prefix, and `posToId j` takes over the
    id that stood at position `i`. -/
theorem R_step {n i st pi arr} (raw : Nat) (h1 : 1 ≤ i) (h2 : i ≤ n) (h : R n i st pi arr) :
    R n (i + 1) (shuffleStep n st pi i raw).1 (shuffleStep n st pi i raw).2 (tbStep n arr i raw) := by
  have hlen := h.len
  have hj : raw % (n - i + 1) < n - i + 1 := Nat.mod_lt _ (by omega)
  generalize hjd : i + raw % (n - i + 1) = j at *
  have hsh : shuffleStep n st pi i raw = (upd st (arr.getD (j - 1) 0) true, upd pi j (arr.getD (i - 1) 0)) := by
    unfold shuffleStep
    simp only [inRange_eq raw i n h2, hjd]
    rw [h.pos j (by omega) (by omega), h.pos i (Nat.le_refl _) h2]
  rw [hsh]
  unfold tbStep
  rw [hjd]
  have ha : i - 1 < arr.length := by omega
  have hb : j - 1 < arr.length := by omega
  refine ⟨(swapAt_perm arr _ _ ha hb).trans h.perm, ?_, ?_⟩
  · intro p hp1 hp2
    have hi0 := (h.getD_range (i - 1) (by omega)).1
    rw [idFromPos_upd _ _ _ _ (by omega), getD_swapAt arr _ _ _ ha hb]
    by_cases hpj : p = j
    · rw [if_pos hpj, if_pos (by omega)]
    · rw [if_neg hpj, if_neg (by omega), if_neg (by omega), h.pos p (by omega) hp2]
  · intro t
    show upd st _ true t = true ↔ _
    rw [show i + 1 - 1 = i - 1 + 1 by omega, take_swapAt arr _ _ (by omega) hb, List.mem_append,
      List.mem_singleton, ← h.stat t, upd_apply]
    by_cases ht : t = arr.getD (j - 1) 0
    · rw [if_pos ht]; exact ⟨fun _ => Or.inr ht, fun _ => rfl⟩
    · rw [if_neg ht]; exact ⟨Or.inl, fun o => o.resolve_right ht⟩

theorem R_steps {n : Nat} (raws : List Nat) : ∀ {i : Nat} {s : (Nat → Bool) × (Nat → Nat)} {arr : List Nat},
    1 ≤ i → i - 1 + raws.length ≤ n → R n i s.1 s.2 arr →
    R n (i + raws.length) (fySteps n s i raws).1 (fySteps n s i raws).2 (tbSteps n arr i raws) := by
  induction raws with
  | nil => intro i s arr _ _ h; simpa [fySteps, tbSteps] using h
  | cons r rs ih =>
    intro i s arr h1 h2 h
    simp only [List.length_cons] at h2
    have := ih (i := i + 1) (by omega) (by omega) (R_step r h1 (by omega) h)
    simp only [fySteps, tbSteps, List.length_cons]
    rw [show i + (rs.length + 1) = i + 1 + rs.length by omega]
    exact this

def countTrue (status : Nat → Bool) : Nat → Nat
  | 0 => 0
  | m + 1 => countTrue status m + (if status (m + 1) then 1 else 0)

theorem countTrue_eq_filter (st : Nat → Bool) (m : Nat) :
    countTrue st m = ((List.range' 1 m).filter st).length := by
  induction m with
  | zero => simp [countTrue]
  | succ m ih =>
    rw [countTrue, ih, List.range'_1_concat, List.filter_append, List.length_append]
    congr 1
    rw [Nat.add_comm 1 m]
    by_cases h : st (m + 1) <;> simp [h]

theorem countTrue_eq_length (st : Nat → Bool) (n : Nat) (L : List Nat) (hn : L.Nodup)
    (hr : ∀ t ∈ L, 1 ≤ t ∧ t ≤ n) (hs : ∀ t, 1 ≤ t → t ≤ n → (st t = true ↔ t ∈ L)) :
    countTrue st n = L.length := by
  rw [countTrue_eq_filter]
  apply List.Perm.length_eq
  rw [List.perm_ext_iff_of_nodup ((List.nodup_range' 1).filter _) hn]
  intro t
  rw [List.mem_filter, List.mem_range'_1]
  constructor
  · rintro ⟨⟨a, b⟩, c⟩; exact (hs t a (by omega)).mp c
  · intro h
    have := hr t h
    exact ⟨⟨this.1, by omega⟩, (hs t this.1 this.2).mpr h⟩

/-- the marked ids are among the first `i - 1` entries of `arr`, a permutation of `1..n` -/
theorem R.inside {n i st pi arr} (h : R n i st pi arr) (t : Nat) (ht : st t = true) :
    1 ≤ t ∧ t ≤ n :=
  (h.mem t).mp (List.mem_of_mem_take ((h.stat t).mp ht))

theorem R.count_eq {n i st pi arr} (h : R n i st pi arr) (hi : i ≤ n + 1) :
    countTrue st n = i - 1 := by
  obtain ⟨hl, hnd, hr⟩ := take_isSel h.perm (show i - 1 ≤ n by omega)
  rw [countTrue_eq_length st n (arr.take (i - 1)) hnd hr (fun t _ _ => h.stat t), hl]

theorem R.count {n k st pi arr} (h : R n (k + 1) st pi arr) (hk : k ≤ n) : countTrue st n = k :=
  h.count_eq (by omega)

@[simp] theorem length_tbStep (n : Nat) (arr : List Nat) (i r : Nat) :
    (tbStep n arr i r).length = arr.length := by simp [tbStep]

@[simp] theorem length_tbSteps (n : Nat) (raws : List Nat) : ∀ (arr : List Nat) (i : Nat),
    (tbSteps n arr i raws).length = arr.length := by
  induction raws with
  | nil => intro arr i; rfl
  | cons r rs ih => intro arr i; simp [tbSteps, ih]

theorem tbStep_perm (n : Nat) (arr : List Nat) (i r : Nat) (hl : arr.length = n) (h1 : 1 ≤ i) :
    (tbStep n arr i r).Perm arr := by
  unfold tbStep
  by_cases h : i ≤ n
  · have : r % (n - i + 1) < n - i + 1 := Nat.mod_lt _ (by omega)
    exact swapAt_perm _ _ _ (by omega) (by omega)
  · rw [swapAt_oob _ _ _ (by omega) (by omega)]

theorem tbSteps_perm (n : Nat) (raws : List Nat) : ∀ (arr : List Nat) (i : Nat),
    arr.length = n → 1 ≤ i → (tbSteps n arr i raws).Perm arr := by
  induction raws with
  | nil => intro arr i _ _; exact List.Perm.refl _
  | cons r rs ih =>
    intro arr i hl h1
    exact (ih (tbStep n arr i r) (i + 1) (by simpa using hl) (by omega)).trans
      (tbStep_perm n arr i r hl h1)

theorem tbRun_perm (n : Nat) (raws : List Nat) : (tbRun n raws).Perm (List.range' 1 n) :=
  tbSteps_perm n raws _ 1 (by simp) (Nat.le_refl 1)

/-- steps `i, i+1, …` never touch the entries with index `< i-1` -/
theorem getD_tbSteps_lt (n : Nat) (raws : List Nat) : ∀ (arr : List Nat) (i p : Nat),
    p < i - 1 → (tbSteps n arr i raws).getD p 0 = arr.getD p 0 := by
  induction raws with
  | nil => intro arr i p _; rfl
  | cons r rs ih =>
    intro arr i p hp
    rw [tbSteps, ih _ (i + 1) p (by omega)]
    unfold tbStep
    exact getD_swapAt_ne _ _ _ _ (by omega) (by omega)

theorem tbStep_of_lt (n : Nat) (arr : List Nat) (i c : Nat) (h1 : 1 ≤ i) (hc : c < n - i + 1) :
    tbStep n arr i c = swapAt arr (i - 1) (i - 1 + c) := by
  unfold tbStep; rw [Nat.mod_eq_of_lt hc, show i + c - 1 = i - 1 + c by omega]

/-- step `i` with residue `c` fixes entry `i-1` to what stood `c` places further on -/
theorem getD_tbSteps_first (n : Nat) (arr : List Nat) (i c : Nat) (cs : List Nat) (h1 : 1 ≤ i)
    (hl : arr.length = n) (hc : i - 1 + c < n) :
    (tbSteps n arr i (c :: cs)).getD (i - 1) 0 = arr.getD (i - 1 + c) 0 := by
  rw [tbSteps, getD_tbSteps_lt _ _ _ _ _ (by omega), tbStep_of_lt n arr i c h1 (by omega),
    getD_swapAt_left _ _ _ (by omega) (by omega)]

def resFrom (n : Nat) : Nat → List Nat → List Nat
  | _, [] => []
  | i, r :: rs => r % (n - i + 1) :: resFrom n (i + 1) rs

/-- the entry for step `m` is `< n - m + 1` -/
def validFrom (n : Nat) : Nat → List Nat → Prop
  | _, [] => True
  | i, c :: cs => c < n - i + 1 ∧ validFrom n (i + 1) cs

@[simp] theorem length_resFrom (n : Nat) (raws : List Nat) : ∀ i, (resFrom n i raws).length = raws.length := by
  induction raws with
  | nil => intro i; rfl
  | cons r rs ih => intro i; simp [resFrom, ih]

theorem getD_resFrom (n : Nat) (raws : List Nat) : ∀ (i q : Nat), q < raws.length →
    (resFrom n i raws).getD q 0 = raws.getD q 0 % (n - (i + q) + 1) := by
  induction raws with
  | nil => intro i q hq; simp at hq
  | cons r rs ih =>
    intro i q hq
    cases q with
    | zero => simp [resFrom]
    | succ q =>
      simp only [List.length_cons] at hq
      simp only [resFrom, List.getD_cons_succ]
      rw [ih (i + 1) q (by omega), show i + 1 + q = i + (q + 1) by omega]

theorem tbStep_mod (n : Nat) (arr : List Nat) (i r : Nat) :
    tbStep n arr i (r % (n - i + 1)) = tbStep n arr i r := by
  unfold tbStep; rw [Nat.mod_mod]

theorem tbSteps_resFrom (n : Nat) (raws : List Nat) : ∀ (arr : List Nat) (i : Nat),
    tbSteps n arr i (resFrom n i raws) = tbSteps n arr i raws := by
  induction raws with
  | nil => intro arr i; rfl
  | cons r rs ih => intro arr i; simp only [resFrom, tbSteps, tbStep_mod, ih]

theorem validFrom_resFrom (n : Nat) (raws : List Nat) : ∀ i, validFrom n i (resFrom n i raws) := by
  induction raws with
  | nil => intro i; trivial
  | cons r rs ih => intro i; exact ⟨Nat.mod_lt _ (by omega), ih (i + 1)⟩

theorem validFrom_iff (n : Nat) (cs : List Nat) : ∀ i,
    validFrom n i cs ↔ ∀ q, q < cs.length → cs.getD q 0 < n - (i + q) + 1 := by
  induction cs with
  | nil => intro i; simp [validFrom]
  | cons c cs ih =>
    intro i
    -- `q = 0` is the head; `q + 1` is entry `q` of `cs`, whose steps start at `i + 1`
    simp only [validFrom, ih, List.length_cons, Nat.forall_lt_succ_left, List.getD_cons_zero,
      List.getD_cons_succ, Nat.add_zero, Nat.add_assoc, Nat.add_comm 1]

theorem tbSteps_inj (n : Nat) (cs : List Nat) : ∀ (cs' arr : List Nat) (i : Nat),
    arr.Nodup → arr.length = n → 1 ≤ i → cs.length = cs'.length →
    validFrom n i cs → validFrom n i cs' → i - 1 + cs.length ≤ n →
    (tbSteps n arr i cs).take (i - 1 + cs.length) = (tbSteps n arr i cs').take (i - 1 + cs.length) →
    cs = cs' := by
  induction cs with
  | nil =>
    intro cs' arr i _ _ _ hl _ _ _ _
    cases cs' with
    | nil => rfl
    | cons _ _ => simp at hl
  | cons c cs ih =>
    intro cs' arr i hnd hlen h1 hl hv hv' hb he
    cases cs' with
    | nil => simp at hl
    | cons c' cs' =>
      simp only [List.length_cons] at hl hb he
      obtain ⟨hc, hv⟩ := hv
      obtain ⟨hc', hv'⟩ := hv'
      have e0 := congrArg (fun l => l.getD (i - 1) 0) he
      simp only [getD_take _ _ _ (show i - 1 < i - 1 + (cs.length + 1) by omega)] at e0
      rw [getD_tbSteps_first n arr i c cs h1 hlen (by omega),
        getD_tbSteps_first n arr i c' cs' h1 hlen (by omega)] at e0
      have hcc : c = c' := by
        have := getD_inj arr hnd _ _ (by omega) (by omega) e0
        omega
      subst hcc
      congr 1
      have hA : (tbStep n arr i c).Perm arr := tbStep_perm n arr i c hlen h1
      apply ih cs' (tbStep n arr i c) (i + 1) (hA.nodup_iff.mpr hnd) (by simpa using hlen)
        (by omega) (by omega) hv hv' (by omega)
      simp only [tbSteps] at he
      rw [show i + 1 - 1 + cs.length = i - 1 + (cs.length + 1) by omega]
      exact he

/-- every duplicate-free list over the not-yet-fixed part of the array is reached -/
theorem tbSteps_surj (n : Nat) (sel : List Nat) : ∀ (arr : List Nat) (i : Nat),
    arr.Nodup → arr.length = n → 1 ≤ i → i - 1 ≤ n → sel.Nodup →
    (∀ t ∈ sel, ∃ p, i - 1 ≤ p ∧ p < n ∧ arr.getD p 0 = t) →
    ∃ cs, cs.length = sel.length ∧ validFrom n i cs ∧ i - 1 + sel.length ≤ n ∧
      ∀ q, q < sel.length → (tbSteps n arr i cs).getD (i - 1 + q) 0 = sel.getD q 0 := by
  induction sel with
  | nil => intro arr i _ _ _ hi _ _; exact ⟨[], rfl, trivial, by simpa using hi, by simp⟩
  | cons t sel ih =>
    intro arr i hnd hlen h1 hi hsn hmem
    obtain ⟨p, hp1, hp2, hpt⟩ := hmem t List.mem_cons_self
    -- step `i` draws `p - (i-1)`, i.e. swaps the entries `i-1` and `p`
    have hc : i - 1 + (p - (i - 1)) = p := by omega
    have hAdef : tbStep n arr i (p - (i - 1)) = swapAt arr (i - 1) p := by
      rw [tbStep_of_lt n arr i _ h1 (by omega), hc]
    have hsn' := List.nodup_cons.mp hsn
    obtain ⟨cs, hcl, hcv, hcb, hcq⟩ := ih (tbStep n arr i (p - (i - 1))) (i + 1)
      ((tbStep_perm n arr i _ hlen h1).nodup_iff.mpr hnd) (by simpa using hlen) (by omega)
      (by omega) hsn'.2 (by
        intro t' ht'
        obtain ⟨p', hp1', hp2', hpt'⟩ := hmem t' (List.mem_cons_of_mem _ ht')
        have hne : p' ≠ p := by
          intro e; subst e; rw [hpt] at hpt'; subst hpt'; exact hsn'.1 ht'
        rw [hAdef]
        -- the remaining members stay in place, except the one at `i-1`, which moves to `p`
        by_cases hp' : p' = i - 1
        · refine ⟨p, by omega, hp2, ?_⟩
          rw [getD_swapAt _ _ _ _ (by omega) (by omega), if_pos rfl, ← hp']; exact hpt'
        · refine ⟨p', by omega, hp2', ?_⟩
          rw [getD_swapAt_ne _ _ _ _ hp' hne]; exact hpt')
    refine ⟨(p - (i - 1)) :: cs, by simp [hcl], ⟨by omega, hcv⟩, by simp only [List.length_cons]; omega, ?_⟩
    intro q hq
    cases q with
    | zero => rw [Nat.add_zero, getD_tbSteps_first n arr i _ cs h1 hlen (by omega), hc]; exact hpt
    | succ q =>
      simp only [List.length_cons] at hq
      rw [tbSteps, show i - 1 + (q + 1) = i + 1 - 1 + q by omega, hcq q (by omega)]
      rfl

theorem ext_getD (l l' : List Nat) (hl : l.length = l'.length)
    (h : ∀ q, q < l.length → l.getD q 0 = l'.getD q 0) : l = l' := by
  apply List.ext_getElem hl
  intro q h1 h2
  rw [← getD_lt l q h1, ← getD_lt l' q h2]
  exact h q h1

def residues (n : Nat) (raws : List Nat) : List Nat := resFrom n 1 raws

/-- the entry with 0-based index `q` (step `q+1`) is `< n - q` (`= n - (q+1) + 1` whenever the step
    exists, i.e. `q < n`) -/
def ValidRes (n k : Nat) (cs : List Nat) : Prop :=
  cs.length = k ∧ ∀ q, q < k → cs.getD q 0 < n - q

theorem ValidRes.le {n k cs} (h : ValidRes n k cs) : k ≤ n := by
  apply Nat.le_of_not_lt
  intro hlt
  have := h.2 n hlt
  omega

theorem ValidRes.validFrom {n k cs} (h : ValidRes n k cs) : validFrom n 1 cs := by
  rw [validFrom_iff]
  intro q hq
  have := h.2 q (by rw [← h.1]; exact hq)
  omega

theorem validRes_of_validFrom {n : Nat} {cs : List Nat} (hk : cs.length ≤ n) (h : validFrom n 1 cs) :
    ValidRes n cs.length cs := by
  refine ⟨rfl, ?_⟩
  intro q hq
  have := (validFrom_iff n cs 1).mp h q hq
  omega

theorem tbSel_isSel {n k cs} (h : ValidRes n k cs) : IsSel n k (tbSel n cs) := by
  have hk := h.le
  obtain ⟨rfl, _⟩ := h
  exact take_isSel (tbRun_perm n cs) hk

theorem tbSel_inj {n k cs cs'} (h : ValidRes n k cs) (h' : ValidRes n k cs')
    (e : tbSel n cs = tbSel n cs') : cs = cs' := by
  have hk := h.le
  apply tbSteps_inj n cs cs' (List.range' 1 n) 1 (List.nodup_range' 1) (by simp) (Nat.le_refl 1)
    (by rw [h.1, h'.1]) h.validFrom h'.validFrom (by rw [h.1]; omega)
  simp only [tbSel, tbRun, h.1, h'.1] at e
  simpa [h.1] using e

theorem tbSel_surj {n k sel} (h : IsSel n k sel) : ∃ cs, ValidRes n k cs ∧ tbSel n cs = sel := by
  obtain ⟨hl, hnd, hr⟩ := h
  obtain ⟨cs, hcl, hcv, hcb, hcq⟩ := tbSteps_surj n sel (List.range' 1 n) 1 (List.nodup_range' 1)
    (by simp) (Nat.le_refl 1) (by omega) hnd (by
      intro t ht
      have := hr t ht
      exact ⟨t - 1, by omega, by omega, by rw [getD_range' n (t - 1) (by omega)]; omega⟩)
  have hkn : sel.length ≤ n := by omega
  refine ⟨cs, ?_, ?_⟩
  · have := validRes_of_validFrom (by omega) hcv
    rw [hcl, hl] at this; exact this
  · have hlen : (tbSel n cs).length = sel.length := by
      simp only [tbSel, tbRun, List.length_take, length_tbSteps, List.length_range']; omega
    apply ext_getD _ _ hlen
    intro q hq
    rw [hlen] at hq
    rw [tbSel, getD_take _ _ _ (by omega), ← hcq q hq, tbRun, Nat.sub_self, Nat.zero_add]

theorem tbRun_residues (n : Nat) (raws : List Nat) : tbRun n (residues n raws) = tbRun n raws :=
  tbSteps_resFrom n raws _ 1

theorem tbSel_residues (n : Nat) (raws : List Nat) : tbSel n (residues n raws) = tbSel n raws := by
  unfold tbSel
  rw [tbRun_residues]
  simp only [residues, length_resFrom]

theorem validRes_residues (n : Nat) (raws : List Nat) (hk : raws.length ≤ n) :
    ValidRes n raws.length (residues n raws) := by
  have := validRes_of_validFrom (n := n) (cs := residues n raws)
    (by simpa [residues] using hk) (validFrom_resFrom n raws 1)
  simpa [residues] using this

def swapVal (t t' x : Nat) : Nat := if x = t then t' else if x = t' then t else x

def swapVals (t t' : Nat) (sel : List Nat) : List Nat := sel.map (swapVal t t')

theorem swapVal_invol (t t' x : Nat) : swapVal t t' (swapVal t t' x) = x := by
  unfold swapVal; split <;> split <;> (try split) <;> omega

theorem swapVal_inj (t t' : Nat) {x y : Nat} (h : swapVal t t' x = swapVal t t' y) : x = y := by
  have := congrArg (swapVal t t') h
  rwa [swapVal_invol, swapVal_invol] at this

theorem swapVals_invol (t t' : Nat) (sel : List Nat) : swapVals t t' (swapVals t t' sel) = sel := by
  unfold swapVals
  rw [List.map_map]
  have : swapVal t t' ∘ swapVal t t' = id := by funext x; exact swapVal_invol t t' x
  rw [this, List.map_id]

theorem mem_swapVals (t t' x : Nat) (sel : List Nat) :
    x ∈ swapVals t t' sel ↔ swapVal t t' x ∈ sel := by
  unfold swapVals
  rw [List.mem_map]
  constructor
  · rintro ⟨y, hy, e⟩; rw [← e, swapVal_invol]; exact hy
  · intro h; exact ⟨_, h, swapVal_invol t t' x⟩

theorem swapVals_isSel {n k t t' sel} (ht : 1 ≤ t ∧ t ≤ n) (ht' : 1 ≤ t' ∧ t' ≤ n)
    (h : IsSel n k sel) : IsSel n k (swapVals t t' sel) := by
  obtain ⟨hl, hnd, hr⟩ := h
  refine ⟨by simp [swapVals, hl], ?_, ?_⟩
  · unfold swapVals
    rw [List.nodup_iff_pairwise_ne, List.pairwise_map]
    exact hnd.imp (fun hne e => hne (swapVal_inj t t' e))
  · intro x hx
    rw [mem_swapVals] at hx
    have := hr _ hx
    unfold swapVal at this
    split at this
    · omega
    · split at this <;> omega

/-- the inverse of the bijection of `tbSel_inj/surj` -/
noncomputable def decode (n k : Nat) (sel : List Nat) : List Nat :=
  open Classical in
  if h : ∃ cs, ValidRes n k cs ∧ tbSel n cs = sel then Classical.choose h else []

theorem decode_spec {n k sel} (h : IsSel n k sel) :
    ValidRes n k (decode n k sel) ∧ tbSel n (decode n k sel) = sel := by
  have hex := tbSel_surj h
  unfold decode
  rw [dif_pos hex]
  exact Classical.choose_spec hex

/-- the involution on residue vectors induced by exchanging tickets `t` and `t'` -/
noncomputable def resSwap (n k t t' : Nat) (cs : List Nat) : List Nat :=
  decode n k (swapVals t t' (tbSel n cs))

theorem swapVals_mem_iff (t t' : Nat) (sel : List Nat) :
    (t ∈ sel ↔ t' ∈ swapVals t t' sel) ∧ (t' ∈ sel ↔ t ∈ swapVals t t' sel) := by
  rw [mem_swapVals, mem_swapVals]
  have e1 : swapVal t t' t' = t := by
    unfold swapVal
    split
    · assumption
    · exact if_pos rfl
  have e2 : swapVal t t' t = t' := if_pos rfl
  rw [e1, e2]; exact ⟨Iff.rfl, Iff.rfl⟩

theorem resSwap_spec {n k t t' : Nat} (ht : 1 ≤ t ∧ t ≤ n) (ht' : 1 ≤ t' ∧ t' ≤ n) {cs : List Nat}
    (h : ValidRes n k cs) :
    ValidRes n k (resSwap n k t t' cs) ∧
    tbSel n (resSwap n k t t' cs) = swapVals t t' (tbSel n cs) ∧
    resSwap n k t t' (resSwap n k t t' cs) = cs ∧
    (t ∈ tbSel n cs ↔ t' ∈ tbSel n (resSwap n k t t' cs)) ∧
    (t' ∈ tbSel n cs ↔ t ∈ tbSel n (resSwap n k t t' cs)) := by
  have hs := tbSel_isSel h
  have hd := decode_spec (swapVals_isSel ht ht' hs)
  have hd2 := decode_spec (swapVals_isSel ht ht' (tbSel_isSel hd.1))
  refine ⟨hd.1, hd.2, ?_, ?_, ?_⟩
  · apply tbSel_inj hd2.1 h
    show tbSel n (decode n k (swapVals t t' (tbSel n (decode n k (swapVals t t' (tbSel n cs)))))) = _
    rw [hd2.2, hd.2, swapVals_invol]
  · show _ ↔ t' ∈ tbSel n (decode n k (swapVals t t' (tbSel n cs)))
    rw [hd.2]; exact (swapVals_mem_iff t t' _).1
  · show _ ↔ t ∈ tbSel n (decode n k (swapVals t t' (tbSel n cs)))
    rw [hd.2]; exact (swapVals_mem_iff t t' _).2

def rngAfter (hash : List Nat → List Nat) (r : Rng) : Nat → Rng
  | 0 => r
  | j + 1 => (Rng.next hash (rngAfter hash r j)).2

/-- `j` is 0-based -/
def drawAt (hash : List Nat → List Nat) (r : Rng) (j : Nat) : Nat :=
  (Rng.next hash (rngAfter hash r j)).1

def draws (hash : List Nat → List Nat) (r : Rng) : Nat → List Nat
  | 0 => []
  | k + 1 => (r.next hash).1 :: draws hash (r.next hash).2 k

theorem rngAfter_succ' (hash : List Nat → List Nat) (r : Rng) (j : Nat) :
    rngAfter hash r (j + 1) = rngAfter hash (r.next hash).2 j := by
  induction j with
  | zero => rfl
  | succ j ih => rw [rngAfter, ih]; rfl

theorem drawAt_succ' (hash : List Nat → List Nat) (r : Rng) (j : Nat) :
    drawAt hash r (j + 1) = drawAt hash (r.next hash).2 j := by
  unfold drawAt; rw [rngAfter_succ']

theorem draws_eq_map (hash : List Nat → List Nat) (k : Nat) : ∀ r : Rng,
    draws hash r k = (List.range k).map (drawAt hash r) := by
  induction k with
  | zero => intro r; rfl
  | succ k ih =>
    intro r
    rw [List.range_succ_eq_map, List.map_cons, List.map_map, draws, ih]
    exact congrArg (List.cons _) (List.map_congr_left fun j _ => (drawAt_succ' hash r j).symm)

@[simp] theorem length_draws (hash : List Nat → List Nat) (k : Nat) (r : Rng) :
    (draws hash r k).length = k := by
  rw [draws_eq_map]; simp

/-- `iter f m a = f^[m] a`: `Nat.iterate` is Mathlib's, which this file does not import
    (`draw_words` in Props/C05 restates the closed forms below with `f^[m]`) -/
def iter {α : Type} (f : α → α) : Nat → α → α
  | 0, a => a
  | m + 1, a => iter f m (f a)

theorem iterate_succ_apply' {α : Type} (f : α → α) (m : Nat) : ∀ a : α,
    iter f (m + 1) a = f (iter f m a) := by
  induction m with
  | zero => intro a; rfl
  | succ m ih => intro a; exact ih (f a)

theorem next_eq (hash : List Nat → List Nat) (r : Rng) :
    Rng.next hash r =
      if r.index + 4 > 32 then (beWord (hash r.seed) 0, { seed := hash r.seed, index := 4 })
      else (beWord r.seed r.index, { seed := r.seed, index := r.index + 4 }) := by
  simp only [Rng.next, USIZE_BYTES, HASH_LEN]
  by_cases h : r.index + 4 > 32
  · have h' : 32 < r.index + 4 := h
    simp [h']
  · have h' : ¬ 32 < r.index + 4 := h
    simp [h']

/-- a draw from the state reached after `j + 1` draws is word `(j + 1) % 8` of the seed, which is
    hashed once more when its eight words are used up -/
theorem next_closed (hash : List Nat → List Nat) (seed : List Nat) (j : Nat) :
    Rng.next hash { seed := iter hash (j / 8) seed, index := 4 * (j % 8) + 4 } =
      (beWord (iter hash ((j + 1) / 8) seed) (4 * ((j + 1) % 8)),
       { seed := iter hash ((j + 1) / 8) seed, index := 4 * ((j + 1) % 8) + 4 }) := by
  rw [next_eq]
  dsimp only
  by_cases h : j % 8 = 7
  · have h1 : (j + 1) / 8 = j / 8 + 1 := by omega
    have h2 : (j + 1) % 8 = 0 := by omega
    rw [h1, h2, iterate_succ_apply', if_pos (by omega)]
  · have h1 : (j + 1) / 8 = j / 8 := by omega
    have h2 : (j + 1) % 8 = j % 8 + 1 := by omega
    rw [h1, h2, if_neg (by omega), Nat.mul_add]

theorem rngAfter_closed (hash : List Nat → List Nat) (seed : List Nat) (j : Nat) :
    rngAfter hash { seed := seed, index := 0 } (j + 1) =
      { seed := iter hash (j / 8) seed, index := 4 * (j % 8) + 4 } := by
  induction j with
  | zero => simp [rngAfter, next_eq, iter]
  | succ j ih => rw [rngAfter, ih, next_closed]

theorem drawAt_closed (hash : List Nat → List Nat) (seed : List Nat) (j : Nat) :
    drawAt hash { seed := seed, index := 0 } j =
      beWord (iter hash (j / 8) seed) (4 * (j % 8)) := by
  cases j with
  | zero => simp [drawAt, rngAfter, next_eq, iter]
  | succ j => rw [drawAt, rngAfter_closed, next_closed]

def stepSt (hash : List Nat → List Nat) (last : Nat) (x : SelSt) (pos' : Nat) : SelSt where
  status := (shuffleStep last x.status x.posToId x.pos (x.tx.draw hash x.rng).1).1
  posToId := (shuffleStep last x.status x.posToId x.pos (x.tx.draw hash x.rng).1).2
  rng := (x.tx.draw hash x.rng).2.1
  pos := pos'
  tx := (x.tx.draw hash x.rng).2.2

theorem selectBody_eq (hash : List Nat → List Nat) (nr last : Nat) (x : SelSt) :
    selectBody hash nr last x =
      if nr = 0 then .ok (x, false) else
      if x.pos = nr then .ok (stepSt hash last x x.pos, false)
      else .ok (stepSt hash last x (x.pos + 1), true) := by
  unfold selectBody stepSt
  rfl

end LP.FY

namespace LP
open LP.FY

/-- without scripted draws the draw context hands out the generator's next word -/
theorem DCtx.draw_noscript (hash : List Nat → List Nat) (d : DCtx) (rng : Rng) (h : d.script = []) :
    d.draw hash rng = ((rng.next hash).1, (rng.next hash).2, ⟨[], d.log ++ [(rng.next hash).1]⟩) := by
  obtain ⟨sc, lg⟩ := d
  simp only at h
  subst h
  rfl

def selCoreStep (hash : List Nat → List Nat) (last : Nat) (y : SelCore) (pos' : Nat) : SelCore :=
  ⟨(shuffleStep last y.status y.posToId y.pos (y.d.draw hash y.rng).1).1,
   (shuffleStep last y.status y.posToId y.pos (y.d.draw hash y.rng).1).2,
   (y.d.draw hash y.rng).2.1, pos', (y.d.draw hash y.rng).2.2⟩

theorem selCoreBody_eq (hash : List Nat → List Nat) (nr last : Nat) (y : SelCore) :
    selCoreBody hash nr last y =
      if nr = 0 then .ok (y, false) else
      if y.pos = nr then .ok (selCoreStep hash last y y.pos, false)
      else .ok (selCoreStep hash last y (y.pos + 1), true) := rfl

/-- The lottery loop on its core state, never interrupted, from a position inside `1..nr`: it
    completes within `nr - pos + 1` iterations whatever the draws; without scripted draws it leaves
    `fySteps` over the generator's next `nr - pos + 1` words. -/
theorem selCore_run (hash : List Nat → List Nat) (nr last : Nat) : ∀ (fuel : Nat) (y : SelCore),
    1 ≤ y.pos → y.pos ≤ nr → nr - y.pos + 1 ≤ fuel →
    ∃ y', runWhile (selCoreBody hash nr last) fuel none y = .ok (y', none, .completed) ∧
      y'.pos = nr ∧
      (y.d.script = [] →
        (y'.status, y'.posToId) =
          fySteps last (y.status, y.posToId) y.pos (draws hash y.rng (nr - y.pos + 1)) ∧
        y'.rng = rngAfter hash y.rng (nr - y.pos + 1) ∧ y'.d.script = []) := by
  intro fuel
  induction fuel with
  | zero => intro y _ _ h; omega
  | succ fuel ih =>
    intro y h1 h2 hf
    have hnr : ¬ nr = 0 := by omega
    by_cases hp : y.pos = nr
    · refine ⟨selCoreStep hash last y y.pos, ?_, hp, fun hs => ?_⟩
      · rw [runWhile, selCoreBody_eq, if_neg hnr, if_pos hp]
      · rw [show nr - y.pos + 1 = 0 + 1 by omega]
        simp only [selCoreStep, draws, fySteps, rngAfter, DCtx.draw_noscript hash y.d y.rng hs,
          and_self]
    · obtain ⟨y', e, hpos, hfy⟩ := ih (selCoreStep hash last y (y.pos + 1))
        (by simp [selCoreStep]) (by simp only [selCoreStep]; omega)
        (by simp only [selCoreStep]; omega)
      refine ⟨y', ?_, hpos, fun hs => ?_⟩
      · rw [runWhile, selCoreBody_eq, if_neg hnr, if_neg hp]
        exact e
      · have hd := DCtx.draw_noscript hash y.d y.rng hs
        obtain ⟨k1, k2, k3⟩ := hfy (by simp only [selCoreStep, hd])
        simp only [selCoreStep, hd] at k1 k2
        rw [show nr - y.pos + 1 = (nr - (y.pos + 1) + 1) + 1 by omega]
        exact ⟨by rw [k1]; simp only [draws, fySteps], by rw [k2]; exact (rngAfter_succ' hash y.rng _).symm, k3⟩

end LP

namespace LP.FY

/-- an uninterrupted `selectWinners` call that starts the operation (no scripted draws) leaves the
    result of `fySteps` over the first `nrWinning` draws of the fresh generator -/
theorem selectWinners_fy (hash : List Nat → List Nat) (t : Tx) (e : Env) (t' : Tx)
    (hop : t.s.op = .none) (hb : t.c.budget = none) (hscr : t.c.script = [])
    (hok : selectWinners hash t e = .ok t') :
    (t'.s.status, t'.s.posToId) =
      fySteps t.s.lastTicketId (t.s.status, t.s.posToId) 1 (draws hash t.freshRng.1 t.s.nrWinning) ∧
    t'.s.flags.selected = true ∧ t'.s.nrWinning = t.s.nrWinning ∧
    t'.s.lastTicketId = t.s.lastTicketId := by
  obtain ⟨_, y, hy, hok⟩ := (selectWinners_iff hash t t' e).mp hok
  simp only [selCoreOf, hop, Option.some.injEq] at hy
  subst hy
  rw [hb] at hok
  by_cases h0 : t.s.nrWinning = 0
  · rw [runWhile, selCoreBody_eq, if_pos h0] at hok
    cases hok
    exact ⟨by rw [h0]; rfl, rfl, rfl, rfl⟩
  · obtain ⟨y', hrun, _, hfy⟩ := selCore_run hash t.s.nrWinning t.s.lastTicketId (t.s.nrWinning + 2)
      ⟨t.s.status, t.s.posToId, t.freshRng.1, 1, t.dctx⟩ (Nat.le_refl 1) (by show 1 ≤ _; omega)
      (by show _ - 1 + 1 ≤ _; omega)
    rw [hrun] at hok
    cases hok
    obtain ⟨k1, _, _⟩ := hfy hscr
    rw [show t.s.nrWinning - 1 + 1 = t.s.nrWinning by omega] at k1
    exact ⟨k1, rfl, rfl, rfl⟩

end LP.FY
