import LP.Props.C14reachG
/-
  The two launchpads with an NFT draw, read together.  `nft_reach_inv`: a property that every
  deployment with the NFT hook establishes and every accepted call keeps holds in every reachable
  state of either contract.  `NftFacts.fee_dichotomy`, `fee_reconciles`: once the fee token is
  known not to be the launchpad token, the fee is paid in the ticket-payment slot or in a slot of
  its own, and either way the holdings are accounted for.
-/
namespace LP
open LP.FY LP.Props.C09 LP.Props.C14 LP.Props.C01reach LP.Props.C14reach LP.Props.C14reachG

theorem nft_reach_inv {hash : List Nat → List Nat} {Q : State → Prop}
    (hinit : ∀ v a e s, v.hasNft = true → init v a e = .ok s → Q s)
    (hstep : ∀ s e c s' o, Q s → step hash s e c = .ok (s', o) → Q s') {s : State} {r : Nat} :
    (∀ v, v.hasNft = true → Reach hash v s r → Q s) ∧ (ng_Reach hash s r → Q s) := by
  constructor
  · intro v hv h
    obtain ⟨a, e, s0, hi, hl⟩ := reach_iff_later.mp h
    exact hl.invariant hstep (hinit v a e s0 hv hi)
  · intro h
    obtain ⟨a, h⟩ := ng_Reach_iff.mp h
    obtain ⟨e, s0, hi, hl⟩ := ng_reachA_iff_later.mp h
    exact hl.invariant hstep (hinit .nftGuar a e s0 rfl hi)

namespace NftFacts
variable {s : State}

theorem fee_dichotomy (h : NftFacts s) (hl : ¬ FeeInLpToken s) :
    (FeeInPayToken s ∧ ¬ FeeTokenSeparate s ∧
      ∃ L : List Nat, Covers s L ∧ (¬ AllDone s → CombinedPre s L) ∧ (AllDone s → CombinedPost s L)) ∨
    (FeeTokenSeparate s ∧ ¬ FeeInPayToken s ∧ feeBal s = feeHeld s ∧
      ∃ L : List Nat, Covers s L ∧ (¬ AllDone s → PayEqPre s L) ∧ (AllDone s → PayEqPost s L)) := by
  by_cases hs : FeeInPayToken s
  · exact Or.inl ⟨hs, fun hsep => hsep.1 hs, h.solvent_same hs⟩
  · have hsep : FeeTokenSeparate s := ⟨hs, hl⟩
    exact Or.inr ⟨hsep, hs, h.fee_ledger hsep, h.solvent_separate hsep⟩

theorem fee_reconciles (h : NftFacts s) (hl : ¬ FeeInLpToken s) :
    (∃ L : List Nat, Covers s L ∧
      (¬ AllDone s → s.bal s.payTok 0 = s.price * sumOver s.confirmed L + feeInPay s) ∧
      (AllDone s → s.bal s.payTok 0 = s.claimablePayment + sumOver (refundDue s) L + feeInPay s)) ∧
    (FeeInPayToken s → feeInPay s = feeHeld s ∧ feeBal s = s.bal s.payTok 0) ∧
    (¬ FeeInPayToken s → feeInPay s = 0 ∧ feeBal s = feeHeld s) ∧
    (AllDone s → (∀ a, s.range a = none) → s.claimablePayment = 0 → s.claimableNft = 0 →
      s.bal s.payTok 0 = 0 ∧ feeBal s = 0) := by
  refine ⟨h.solvent_general, fun hsame => ⟨if_pos hsame, feeBal_of_same hsame⟩,
    fun hn => ⟨if_neg hn, h.fee_ledger ⟨hn, hl⟩⟩, fun hd hall hcp hcn => ?_⟩
  obtain ⟨h1, h2⟩ := h.nothing_left hd hall hcp hcn
  exact ⟨h1, h2 hl⟩

end NftFacts
end LP
